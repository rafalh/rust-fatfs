-- Root of the FatVerif library: model, specifications, proofs, property theorems.
import FatVerif.Model.PureMain
import FatVerif.Model.HistMain
import FatVerif.Model.Oracles
import FatVerif.Proofs.Prog
import FatVerif.Spec.SpecTest
import FatVerif.Props.SpecSanity
import FatVerif.Props.SpecChain
import FatVerif.Props.SpecRegions
import FatVerif.Props.SpecFatEntry
import FatVerif.Props.SpecChainEq
import FatVerif.Props.SpecGeom
import FatVerif.Props.SpecDirScan
import FatVerif.Props.C15
import FatVerif.Props.C16
import FatVerif.Props.C18
import FatVerif.Props.C17
import FatVerif.Props.C19
import FatVerif.Props.C15lfn
import FatVerif.Props.C07
import FatVerif.Props.C10
import FatVerif.Props.C05
import FatVerif.Props.C03fat
import FatVerif.Props.C06
import FatVerif.Props.C02
import FatVerif.Props.C09
import FatVerif.Props.C12
import FatVerif.Props.C13
import FatVerif.Props.C14
import FatVerif.Props.C10slice
import FatVerif.Props.C11
import FatVerif.Props.C01dir
import FatVerif.Props.C07run
import FatVerif.Props.C20run
import FatVerif.Props.C05count
import FatVerif.Props.C16dir
import FatVerif.Props.C18stamp
import FatVerif.Props.C06image
import FatVerif.Props.C06mount
import FatVerif.Props.C06fat12
import FatVerif.Props.C06fat
import FatVerif.Props.C06root
import FatVerif.Props.C06stats
import FatVerif.Props.C12run
import FatVerif.Proofs.ImgLemmas
import FatVerif.Proofs.RunFn
import FatVerif.Proofs.ImgReplay
import FatVerif.Proofs.MirrorReplay
import FatVerif.Proofs.WriteClassCluster
import FatVerif.Proofs.GeoModel
import FatVerif.Props.C01tree
import FatVerif.Proofs.DirReadStream
import FatVerif.Proofs.DirReadEntries
import FatVerif.Proofs.DirReadKinds
import FatVerif.Proofs.DirReadPath
import FatVerif.Proofs.DirWriteBytes
import FatVerif.Proofs.DirWriteSlots
import FatVerif.Proofs.DirWriteFamily
import FatVerif.Proofs.DirWriteChain
import FatVerif.Proofs.DirWriteKinds
import FatVerif.Proofs.DirWriteGrow
import FatVerif.Proofs.DirRemove
import FatVerif.Proofs.DirRename
import FatVerif.Proofs.DirCreate
import FatVerif.Proofs.DirWriteFail
import FatVerif.Proofs.FaultRun
import FatVerif.Proofs.WriteEntryGS
import FatVerif.Proofs.FaultWriteEntry
import FatVerif.Proofs.FaultDirKinds
import FatVerif.Proofs.FaultCreateDir
import FatVerif.Props.C01sim
import FatVerif.Props.C02sim
import FatVerif.Proofs.FatImgBytes
import FatVerif.Proofs.FatImgRead
import FatVerif.Proofs.FatImgScan
import FatVerif.Proofs.FatImgWrite
import FatVerif.Proofs.FatImgOps
import FatVerif.Props.C03img
import FatVerif.Props.C01img
import FatVerif.Props.C14sim
import FatVerif.Proofs.FsInfoImg
import FatVerif.Props.C05img
import FatVerif.Props.C05imgEx
import FatVerif.Proofs.FatImgAllocLog
import FatVerif.Proofs.FatImgDisjoint
import FatVerif.Proofs.DecodeRows
import FatVerif.Proofs.DecodeContent
import FatVerif.Proofs.GeoLayout
import FatVerif.Proofs.DecodeVolume
import FatVerif.Props.C04
import FatVerif.Props.C08
import FatVerif.Props.C11img
import FatVerif.Props.C14hist
import FatVerif.Props.C09wview
import FatVerif.Props.C02multi
import FatVerif.Props.C02sess
import FatVerif.Model.AFile
import FatVerif.Model.Api
import FatVerif.Model.ApiGlue
import FatVerif.Model.Basic
import FatVerif.Model.Bpb
import FatVerif.Model.BpbDriver
import FatVerif.Model.CursorDriver
import FatVerif.Model.DirAlias
import FatVerif.Model.DirEntry
import FatVerif.Model.DirOps
import FatVerif.Model.DirSlots
import FatVerif.Model.FatAlgo
import FatVerif.Model.FatCodec
import FatVerif.Model.FatDriver
import FatVerif.Model.FatView
import FatVerif.Model.File
import FatVerif.Model.Format
import FatVerif.Model.FormatDriver
import FatVerif.Model.Fs
import FatVerif.Model.FsCount
import FatVerif.Model.Image
import FatVerif.Model.Io
import FatVerif.Model.IoWrap
import FatVerif.Model.Lfn
import FatVerif.Model.LfnDriver
import FatVerif.Model.Names
import FatVerif.Model.NamesDriver
import FatVerif.Model.Prog
import FatVerif.Model.Slice
import FatVerif.Model.SlotTree
import FatVerif.Model.SlotTreeOracle
import FatVerif.Model.Table
import FatVerif.Model.Time
import FatVerif.Model.TimeDriver
import FatVerif.Model.UInt
import FatVerif.Model.Util
import FatVerif.Proofs.AFileArith
import FatVerif.Proofs.AFileByteFile
import FatVerif.Proofs.AFileChain
import FatVerif.Proofs.AFileExtents
import FatVerif.Proofs.AFileFrame
import FatVerif.Proofs.AFileInv
import FatVerif.Proofs.AFileLoops
import FatVerif.Proofs.AFileRead
import FatVerif.Proofs.AFileSeek
import FatVerif.Proofs.AFileTrunc
import FatVerif.Proofs.AFileWrite
import FatVerif.Proofs.BpbBasic
import FatVerif.Proofs.BpbOffsets
import FatVerif.Proofs.BpbParse
import FatVerif.Proofs.BpbProbe
import FatVerif.Proofs.BpbValidate
import FatVerif.Proofs.DirAlias
import FatVerif.Proofs.DirAliasCount
import FatVerif.Proofs.DirAliasDisplay
import FatVerif.Proofs.DirAliasTerm
import FatVerif.Proofs.DirEntry
import FatVerif.Proofs.DirSlotsFind
import FatVerif.Proofs.DirSlotsFree
import FatVerif.Proofs.DirSlotsItems
import FatVerif.Proofs.DirSlotsMap
import FatVerif.Proofs.DirSlotsOps
import FatVerif.Proofs.FatBytes
import FatVerif.Proofs.FatChains
import FatVerif.Proofs.FatClassify
import FatVerif.Proofs.FatCodecLaws
import FatVerif.Proofs.FatMore
import FatVerif.Proofs.FatSetLaws
import FatVerif.Proofs.FatSim
import FatVerif.Proofs.FatSpecEq
import FatVerif.Proofs.FatTerm
import FatVerif.Proofs.FatViewLemmas
import FatVerif.Proofs.FileSimCut
import FatVerif.Proofs.FileSimDefs
import FatVerif.Proofs.FileSimDirty
import FatVerif.Proofs.FileSimFatAlloc
import FatVerif.Proofs.FileSimFatFree
import FatVerif.Proofs.FileSimFatSet
import FatVerif.Proofs.FileSimFatWrite
import FatVerif.Proofs.FileSimIter
import FatVerif.Proofs.FileSimLoop
import FatVerif.Proofs.FileSimMulti
import FatVerif.Proofs.FileSimRead
import FatVerif.Proofs.FileSimRun
import FatVerif.Proofs.FileSimSeek
import FatVerif.Proofs.FileSimSess
import FatVerif.Proofs.FileSimTrace
import FatVerif.Proofs.FileSimTruncate
import FatVerif.Proofs.FileWriteForm
import FatVerif.Proofs.FileSimWrite
import FatVerif.Proofs.FileSimWriteAlloc
import FatVerif.Proofs.FormatBasic
import FatVerif.Proofs.FormatBytes
import FatVerif.Proofs.FormatCompose
import FatVerif.Proofs.FormatDefault
import FatVerif.Proofs.FormatLayout
import FatVerif.Proofs.FormatNoPanic
import FatVerif.Proofs.FormatOk
import FatVerif.Proofs.FormatPow2
import FatVerif.Proofs.FormatValid
import FatVerif.Proofs.FsCount
import FatVerif.Proofs.FsCountCycle
import FatVerif.Proofs.FsCountOps
import FatVerif.Proofs.FsCountSession
import FatVerif.Proofs.SafeIo
import FatVerif.Proofs.SafeFile
import FatVerif.Proofs.SafeDir
import FatVerif.Proofs.SafeFs
import FatVerif.Proofs.SafeApi
import FatVerif.Proofs.LfnBuilder
import FatVerif.Proofs.LfnFallback
import FatVerif.Proofs.LfnGen
import FatVerif.Proofs.LfnRun
import FatVerif.Proofs.LfnSlot
import FatVerif.Proofs.LfnSpec
import FatVerif.Proofs.LfnUtf16
import FatVerif.Proofs.NamesEq
import FatVerif.Proofs.NamesFresh
import FatVerif.Proofs.NamesGen
import FatVerif.Proofs.NamesLegal
import FatVerif.Proofs.NamesOracle
import FatVerif.Proofs.NamesTerm
import FatVerif.Proofs.NamesValidate
import FatVerif.Proofs.QuietModel
import FatVerif.Proofs.ReadOnlyDir
import FatVerif.Proofs.ReadOnlyFs
import FatVerif.Proofs.FsInfoWrites
import FatVerif.Proofs.ReadOnlySession
import FatVerif.Proofs.SessionStep
import FatVerif.Proofs.WriteClass
import FatVerif.Proofs.WriteClassSlice
import FatVerif.Proofs.WriteClassTable
import FatVerif.Proofs.WriteClassFile
import FatVerif.Proofs.WriteClassDir
import FatVerif.Proofs.SlotTreeBasic
import FatVerif.Proofs.SlotTreeCreate
import FatVerif.Proofs.SlotTreeHang
import FatVerif.Proofs.SlotTreeNames
import FatVerif.Proofs.SlotTreeNav
import FatVerif.Proofs.SlotTreeNode
import FatVerif.Proofs.SlotTreeOps
import FatVerif.Proofs.SlotTreeRename
import FatVerif.Proofs.SlotTreeRename2
import FatVerif.Proofs.SlotTreeRenameAux
import FatVerif.Proofs.SlotTreeWalk
import FatVerif.Proofs.AfterWrite
import FatVerif.Proofs.Stamping
import FatVerif.Proofs.StampingClock
import FatVerif.Proofs.Time
import FatVerif.Spec.ByteFile
import FatVerif.Spec.DirSpec
import FatVerif.Spec.FatSpec
import FatVerif.Spec.FatTable
import FatVerif.Spec.Fsck
import FatVerif.Spec.Geometry
import FatVerif.Spec.ImgLoad
import FatVerif.Spec.OracleGround
import FatVerif.Spec.OracleUtil
import FatVerif.Spec.Regions
import FatVerif.Spec.Tree
import FatVerif.Spec.ValidBpb
import FatVerif.Proofs.SlotTreeDen
import FatVerif.Proofs.SlotTreeDenCall
import FatVerif.Proofs.SlotTreeDenCreate
import FatVerif.Proofs.SlotTreeDenRemove
import FatVerif.Proofs.SlotTreeDenRename
import FatVerif.Proofs.SlotTreeDenSub
import FatVerif.Proofs.SlotTreeDenW
import FatVerif.Proofs.SlotTreeDenWalk
import FatVerif.Proofs.BootDecodeBridge
import FatVerif.Proofs.DevRun
import FatVerif.Proofs.OracleRead
import FatVerif.Proofs.FatImgFormat
import FatVerif.Proofs.FormatLog
import FatVerif.Proofs.FormatSectorBytes
import FatVerif.Proofs.FreshVolume
import FatVerif.Proofs.LogReplay
import FatVerif.Proofs.MountRun
import FatVerif.Proofs.StatsRun
import FatVerif.Proofs.FileSimEntry
import FatVerif.Proofs.FileSimFlush
import FatVerif.Proofs.FileSimFrame
import FatVerif.Proofs.FileSimHistLoops
import FatVerif.Proofs.Geom
import FatVerif.Proofs.RemoveUnfold
import FatVerif.Proofs.FileSimEditor
import FatVerif.Proofs.TriLookup
