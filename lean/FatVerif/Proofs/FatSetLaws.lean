import FatVerif.Proofs.FatCodecLaws
import FatVerif.Model.FatView
/-! `set`-level laws for all three widths and the key law `view (set f c v) = updV (view f) c v`. -/
namespace FatVerif.Fat

theorem representable_fits {ft : FatType} {v : FatValue} (h : Representable ft v) : FitsWidth ft v := by
  cases ft <;> cases v <;> simp [Representable, FitsWidth, rawOfValue, valLimit] at * <;> omega

theorem getRaw32_lt {f : Array Nat} {c old : Nat} (hf : WfBytes f) (h : getRaw32 f c = .ok old) :
    old < 4294967296 := by
  unfold getRaw32 at h
  split at h; · cases h
  split at h; · cases h
  cases h; exact rd32_lt f hf _

theorem getRaw_inRange {ft : FatType} {f : Array Nat} {c r : Nat} (h : getRaw ft f c = .ok r) : InRange ft f c := by
  cases ft <;> simp only [getRaw, getRaw12, getRaw16, getRaw32] at h <;>
    (split at h; · cases h) <;> (split at h; · cases h) <;>
    simp only [InRange, off, width, u32Lim] at * <;> omega

theorem getRaw_ok_of_inRange {ft : FatType} {f : Array Nat} {c : Nat} (h : InRange ft f c) :
    ∃ r, getRaw ft f c = .ok r := by
  cases ft <;> simp only [InRange, off, width] at h <;> simp only [getRaw, getRaw12, getRaw16, getRaw32]
  · rw [if_neg (by omega), if_neg (by omega)]; exact ⟨_, rfl⟩
  · rw [if_neg (by omega), if_neg (by omega)]; exact ⟨_, rfl⟩
  · rw [if_neg (by omega), if_neg (by omega)]; exact ⟨_, rfl⟩

theorem get_ok_of_inRange {ft : FatType} {f : Array Nat} {c : Nat} (h : InRange ft f c) :
    ∃ v, get ft f c = .ok v := by
  obtain ⟨r, hr⟩ := getRaw_ok_of_inRange h
  exact ⟨classify ft c r, by simp [get, hr]⟩

theorem get_inRange {ft : FatType} {f : Array Nat} {c : Nat} {v : FatValue} (h : get ft f c = .ok v) :
    InRange ft f c := by
  unfold get at h
  split at h
  · rename_i r hr; exact getRaw_inRange hr
  · cases h

/-- an entry outside the table reads `bad` -/
theorem view_outside (ft : FatType) (f : Array Nat) (c : Nat) (h : ¬ InRange ft f c) : view ft f c = .bad := by
  unfold view
  cases hg : get ft f c with
  | error e => rfl
  | ok v => exact absurd (get_inRange hg) h

theorem set32_unfold {f f' : Array Nat} {c : Nat} {v : FatValue} (h : set32 f c v = .ok f') :
    ∃ old, getRaw32 f c = .ok old ∧
      setRaw32 f c (rawOfValue .fat32 v ||| (old / 268435456 * 268435456)) = .ok f' := by
  unfold set32 at h
  cases hg : getRaw32 f c with
  | error e => rw [hg] at h; cases h
  | ok old =>
    rw [hg] at h
    simp only at h
    split at h
    · cases h
    · exact ⟨old, rfl, h⟩

theorem set_size {ft : FatType} {f f' : Array Nat} {c : Nat} {v : FatValue} (h : set ft f c v = .ok f') :
    f'.size = f.size := by
  cases ft
  · exact setRaw12_size h
  · exact setRaw16_size h
  · obtain ⟨old, _, h2⟩ := set32_unfold h; exact setRaw32_size h2

theorem set_inRange {ft : FatType} {f f' : Array Nat} {c : Nat} {v : FatValue} (h : set ft f c v = .ok f') :
    InRange ft f c := by
  cases ft
  · simp only [set, setRaw12] at h
    split at h; · cases h
    split at h; · cases h
    simp only [InRange, off, width]; omega
  · simp only [set, setRaw16] at h
    split at h; · cases h
    split at h; · cases h
    simp only [InRange, off, width]; omega
  · obtain ⟨old, h1, _⟩ := set32_unfold h
    exact getRaw_inRange (ft := .fat32) h1

theorem set_ok_of_inRange {ft : FatType} {f : Array Nat} {c : Nat} {v : FatValue} (h : InRange ft f c)
    (hs : ft = .fat32 → v = .free → ¬ special32 c) : ∃ f', set ft f c v = .ok f' := by
  cases ft <;> simp only [InRange, off, width] at h
  · simp only [set, setRaw12]; rw [if_neg (by omega), if_neg (by omega)]; exact ⟨_, rfl⟩
  · simp only [set, setRaw16]; rw [if_neg (by omega), if_neg (by omega)]; exact ⟨_, rfl⟩
  · simp only [set, set32, getRaw32]
    rw [if_neg (by omega), if_neg (by omega)]
    simp only
    rw [if_neg (by intro ⟨a, b⟩; exact hs rfl a b)]
    simp only [setRaw32]
    rw [if_neg (by omega), if_neg (by omega)]; exact ⟨_, rfl⟩

theorem set_wf {ft : FatType} {f f' : Array Nat} {c : Nat} {v : FatValue} (hf : WfBytes f)
    (h : set ft f c v = .ok f') : WfBytes f' := by
  cases ft
  · simp only [set, setRaw12] at h
    split at h; · cases h
    split at h; · cases h
    cases h; exact wfBytes_wr16 _ _ _ hf
  · simp only [set, setRaw16] at h
    split at h; · cases h
    split at h; · cases h
    cases h; exact wfBytes_wr16 _ _ _ hf
  · obtain ⟨old, _, h2⟩ := set32_unfold h
    simp only [setRaw32] at h2
    split at h2; · cases h2
    split at h2; · cases h2
    cases h2; exact wfBytes_wr32 _ _ _ hf

/-- the raw entry after `set`: the value written plus (FAT32) the old reserved bits -/
theorem getRaw_set_same {ft : FatType} {f f' : Array Nat} {c : Nat} {v : FatValue} (hf : WfBytes f)
    (hv : FitsWidth ft v) (h : set ft f c v = .ok f') :
    ∃ old, getRaw ft f c = .ok old ∧ getRaw ft f' c = .ok (topBits ft old + rawOfValue ft v) := by
  obtain ⟨old, hold⟩ := getRaw_ok_of_inRange (set_inRange h)
  refine ⟨old, hold, ?_⟩
  cases ft
  · simp only [FitsWidth, valLimit] at hv
    simp only [getRaw, topBits, Nat.zero_add]
    exact getRaw12_set_same hf hv h
  · simp only [FitsWidth, valLimit] at hv
    simp only [getRaw, topBits, Nat.zero_add]
    have := getRaw16_set_same h
    rwa [Nat.mod_eq_of_lt hv] at this
  · simp only [FitsWidth, valLimit] at hv
    obtain ⟨old', h1, h2⟩ := set32_unfold h
    simp only [getRaw] at hold ⊢
    rw [h1] at hold; cases hold
    have hlt := getRaw32_lt hf h1
    rw [or_top28 _ _ hv] at h2
    have := getRaw32_set_same h2
    rw [Nat.mod_eq_of_lt (by omega)] at this
    simpa [topBits] using this

theorem getRaw_set_other {ft : FatType} {f f' : Array Nat} {c c' : Nat} {v : FatValue} (hf : WfBytes f)
    (hv : FitsWidth ft v) (h : set ft f c v = .ok f') (hne : c' ≠ c) : getRaw ft f' c' = getRaw ft f c' := by
  cases ft
  · simp only [FitsWidth, valLimit] at hv
    exact getRaw12_set_other hf hv h hne
  · exact getRaw16_set_other h hne
  · obtain ⟨old', _, h2⟩ := set32_unfold h
    exact getRaw32_set_other h2 hne

theorem get_set_other {ft : FatType} {f f' : Array Nat} {c c' : Nat} {v : FatValue} (hf : WfBytes f)
    (hv : FitsWidth ft v) (h : set ft f c v = .ok f') (hne : c' ≠ c) : get ft f' c' = get ft f c' := by
  unfold get; rw [getRaw_set_other hf hv h hne]

theorem classify_roundtrip {ft : FatType} {c : Nat} {v : FatValue} (top : Nat) (hv : Representable ft v)
    (hs : ft = .fat32 → ¬ special32 c) :
    classify ft c (topBits ft top + rawOfValue ft v) = v := by
  cases ft <;> cases v <;>
    simp [classify, classify12, classify16, classify32, topBits, rawOfValue, Representable] at *
  all_goals (repeat' split)
  all_goals first | rfl | exact hs | (exfalso; omega) | (congr 1; omega) | (exfalso; exact hs ‹_›)

theorem get_set_same {ft : FatType} {f f' : Array Nat} {c : Nat} {v : FatValue} (hf : WfBytes f)
    (hv : Representable ft v) (hs : ft = .fat32 → ¬ special32 c) (h : set ft f c v = .ok f') :
    get ft f' c = .ok v := by
  obtain ⟨old, _, h2⟩ := getRaw_set_same hf (representable_fits hv) h
  unfold get; rw [h2]; simp only
  rw [classify_roundtrip old hv hs]

/-- **the key law**: on the decoded view, `set` is a point update -/
theorem view_set {ft : FatType} {f f' : Array Nat} {c : Nat} {v : FatValue} (hf : WfBytes f)
    (hv : Representable ft v) (hs : ft = .fat32 → ¬ special32 c) (h : set ft f c v = .ok f') :
    view ft f' = updV (view ft f) c v := by
  funext i
  unfold view updV
  by_cases hi : i = c
  · subst hi; rw [get_set_same hf hv hs h]; simp
  · rw [get_set_other hf (representable_fits hv) h hi]; simp [hi]

end FatVerif.Fat
