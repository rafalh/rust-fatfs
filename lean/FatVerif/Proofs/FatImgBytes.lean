import FatVerif.Proofs.WriteClassCluster
import FatVerif.Proofs.FatSim
/-! The FAT of a device image as a byte array, and `imgFatView` = `Fat.view` on it.

`fatBytes B Z img` are the `Z` bytes of the image from offset `B` on (for a mounted volume: the first / active copy of
the FAT, `B = (fatSliceOf fs).beginOff`, `Z = (fatSliceOf fs).size`). All statements depend on the image only through
`Img.getByte`. -/
namespace FatVerif
open FatVerif.Fat

/-- `Z` bytes of the image starting at `B` -/
def fatBytes (B Z : Nat) (img : Img) : Array Nat := (img.read B Z).toArray

/-- the FAT bytes of a mounted volume: the window of `fatSliceOf` (first copy when mirroring, else the active copy) -/
def imgFatBytes (fs : FsState) (img : Img) : Array Nat :=
  fatBytes (fatSliceOf fs).beginOff (fatSliceOf fs).size img

theorem fatBytes_size (B Z : Nat) (img : Img) : (fatBytes B Z img).size = Z := by
  simp [fatBytes, Img.read]

theorem rd_fatBytes (B Z : Nat) (img : Img) (i : Nat) :
    rd (fatBytes B Z img) i = if i < Z then img.getByte (B + i) else 0 := by
  unfold rd fatBytes
  rw [Array.getD_eq_getD_getElem?]
  simp only [List.getElem?_toArray]
  by_cases h : i < Z
  · rw [if_pos h]
    have := Img.read_getD img B Z i h
    rw [List.getD_eq_getElem?_getD] at this
    exact this
  · rw [if_neg h]
    have : (img.read B Z)[i]? = none := by
      rw [List.getElem?_eq_none_iff, Img.read_length]; omega
    rw [this]; rfl

theorem wf_fatBytes (B Z : Nat) (img : Img) : WfBytes (fatBytes B Z img) := by
  intro i
  rw [rd_fatBytes]
  split
  · exact Img.getByte_lt _ _
  · decide

/-- the byte arrays of two images with the same bytes in the window coincide -/
theorem fatBytes_congr (B Z : Nat) (a b : Img) (h : ∀ i, i < Z → b.getByte (B + i) = a.getByte (B + i)) :
    fatBytes B Z b = fatBytes B Z a := by
  unfold fatBytes Img.read
  congr 1
  apply List.map_congr_left
  intro k hk
  exact h k (List.mem_range.mp hk)

/-- an array is the window of an image as soon as its bytes are -/
theorem fatBytes_eq_of_bytes (B Z : Nat) (img : Img) (arr : Array Nat) (hs : arr.size = Z)
    (hb : ∀ i, i < Z → img.getByte (B + i) = rd arr i) : fatBytes B Z img = arr := by
  apply array_ext_rd _ _ (by rw [fatBytes_size, hs])
  intro i hi
  rw [fatBytes_size] at hi
  rw [rd_fatBytes, if_pos hi, hb i hi]

/-- the window of an image that differs from `a` by the bytes `bs` stored at window offset `o` -/
theorem fatBytes_patch (B Z : Nat) (a b : Img) (o : Nat) (bs : List Nat) (hbs : ∀ k, bs.getD k 0 < 256)
    (ho : o + bs.length ≤ Z)
    (h : ∀ i, i < Z → b.getByte (B + i) =
      if o ≤ i ∧ i < o + bs.length then bs.getD (i - o) 0 % 256 else a.getByte (B + i)) :
    fatBytes B Z b = writeBytes (fatBytes B Z a) o bs := by
  apply eq_writeBytes_of_rd (by rw [fatBytes_size, fatBytes_size]) (by rw [fatBytes_size]; exact ho)
  intro i hi
  rw [fatBytes_size] at hi
  rw [rd_fatBytes, rd_fatBytes, if_pos hi, if_pos hi, h i hi, Nat.mod_eq_of_lt (hbs _)]

theorem rd16_fatBytes (B Z : Nat) (img : Img) (o : Nat) (h : o + 2 ≤ Z) :
    rd16 (fatBytes B Z img) o = img.le16 (B + o) := by
  unfold rd16 Img.le16
  rw [rd_fatBytes, rd_fatBytes, if_pos (by omega), if_pos (by omega)]
  rw [show B + (o + 1) = B + o + 1 by omega]

theorem rd32_fatBytes (B Z : Nat) (img : Img) (o : Nat) (h : o + 4 ≤ Z) :
    rd32 (fatBytes B Z img) o = img.le32 (B + o) := by
  unfold rd32 Img.le32
  rw [rd_fatBytes, rd_fatBytes, rd_fatBytes, rd_fatBytes, if_pos (by omega), if_pos (by omega), if_pos (by omega),
    if_pos (by omega)]
  rw [show B + (o + 1) = B + o + 1 by omega, show B + (o + 2) = B + o + 2 by omega,
    show B + (o + 3) = B + o + 3 by omega]

/-! ### the two transliterations of `get_raw` / `get` agree -/

theorem isSpecial32_iff (c : Nat) : Table.isSpecial32 c = true ↔ special32 c := by
  unfold Table.isSpecial32 special32
  simp

/-- `Model/Table.lean`'s classification = `Model/FatCodec.lean`'s, for every raw value -/
theorem tableClassify_eq (ft : FatType) (c raw : Nat) : Table.classify ft c raw = Fat.classify ft c raw := by
  cases ft
  · rfl
  · rfl
  · simp only [Table.classify, Fat.classify, classify32]
    have hv : raw % 268435456 < 268435456 := Nat.mod_lt _ (by decide)
    by_cases hs : special32 c
    · have hb : Table.isSpecial32 c = true := (isSpecial32_iff c).mpr hs
      simp only [hb, hs, if_true]
      repeat' split
      all_goals first | rfl | (exfalso; omega)
    · have hb : Table.isSpecial32 c = false := by
        cases h : Table.isSpecial32 c with
        | false => rfl
        | true => exact absurd ((isSpecial32_iff c).mp h) hs
      simp only [hb, hs, if_false, Bool.false_eq_true]
      repeat' split
      all_goals first | rfl | (exfalso; omega)

theorem tableRawOfValue_eq (ft : FatType) (v : FatValue) : Table.rawOfValue ft v = Fat.rawOfValue ft v := by
  cases ft <;> cases v <;> rfl

/-- the raw entry read from the image is the raw entry of the byte array, for every entry inside the window -/
theorem imgFatRaw_eq (ft : FatType) (B Z : Nat) (img : Img) (c : Nat) (h : InRange ft (fatBytes B Z img) c) :
    getRaw ft (fatBytes B Z img) c = .ok (imgFatRaw ft B img c) := by
  have hsz := fatBytes_size B Z img
  cases ft <;> simp only [InRange, off, width, hsz] at h
  · simp only [getRaw, getRaw12, hsz]
    rw [if_neg (by omega), if_neg (by omega)]
    simp only [val12, imgFatRaw, rd16_fatBytes B Z img _ h.1]
  · simp only [getRaw, getRaw16, hsz]
    rw [if_neg (by omega), if_neg (by omega)]
    simp only [imgFatRaw, rd16_fatBytes B Z img _ h.1]
  · simp only [getRaw, getRaw32, hsz]
    rw [if_neg (by omega), if_neg (by omega)]
    simp only [imgFatRaw, rd32_fatBytes B Z img _ h.1]

/-- **`imgFatView_eq_view`**: for every image and every entry that lies inside the FAT window, the decoded FAT of the
    image (`imgFatView`, formulas over `Img.le16/le32`) is `Fat.view` of the window's bytes — FAT12, FAT16 and FAT32. -/
theorem imgFatView_eq_view (fs : FsState) (img : Img) (c : Nat)
    (h : InRange fs.fatType (imgFatBytes fs img) c) :
    imgFatView fs img c = view fs.fatType (imgFatBytes fs img) c := by
  unfold imgFatView view Fat.get imgFatBytes at *
  rw [imgFatRaw_eq _ _ _ _ _ h, tableClassify_eq]

/-- entries `[0, n)` lie inside a window of `Z` bytes (`Z < 2^32`) that holds `n` entries -/
theorem inRange_of_fits (ft : FatType) (B Z : Nat) (img : Img) (n c : Nat) (hc : c < n)
    (hfit : off ft (n - 1) + width ft ≤ Z) (hZ : Z < u32Lim) : InRange ft (fatBytes B Z img) c := by
  have hsz := fatBytes_size B Z img
  cases ft <;> simp only [InRange, off, width, hsz] at * <;> omega

end FatVerif
