import FatVerif.Proofs.DevRun
import FatVerif.Model.DirOps
/-! Directory reads, forward (fault-free) evaluation, byte layer.

    `Runs K p d v`: `p` evaluates on `d` to `v`, and the device afterwards is `K`-related to `d`. Two relations occur:
    `SameStore` (Proofs/DevRun; only position and call counters move: the fixed root region of FAT12/16; `Evals`) and
    `SameVol` (the log may also have gained `flush` records, because the destructor of a clone of a cluster-chain
    directory flushes; `Reads`). What the proofs need of `K` is `Keeps K`. `Evals` and `Reads` are `Runs SameStore` and
    `Runs SameVol` written out: one is accepted where the other is expected (`Reads.bind` is `Runs.bind Keeps.vol`).

    A directory stream is described by a family `S o` of stream states (one per byte offset `o ≤ T`, `T` the allocated
    size of the directory in bytes), the device offset
    `src o` of stream byte `o`, and the number `room o` of bytes one `read` call can deliver at `o` (up to the end of
    the root region / of the cluster). Everything up to `DirEntryData::deserialize` (`readSlot`) follows from the
    single-`read` fact, for both kinds of directory. -/
namespace FatVerif.DirSim

/-- `p` evaluates on `d` to `v` without touching image, log, mounted state or fault schedule -/
def Evals {α} (p : Prog α) (d : Dev) (v : α) : Prop := ∃ d', run p d = (.ok v, d') ∧ SameStore d d'

/-- `p` fails on `d` with `e` without touching the store -/
def Fails {α} (p : Prog α) (d : Dev) (e : Err) : Prop := ∃ d', run p d = (.error e, d') ∧ SameStore d d'

/-- image, mounted state, fault schedule and write records coincide (the log may have gained `flush` records) -/
structure SameVol (d d' : Dev) : Prop where
  img : d'.img = d.img
  fs : d'.fs = d.fs
  failAt : d'.failAt = d.failAt
  writesOf : d'.writesOf = d.writesOf

theorem SameVol.refl (d : Dev) : SameVol d d := ⟨rfl, rfl, rfl, rfl⟩

theorem SameVol.trans {a b c : Dev} (h1 : SameVol a b) (h2 : SameVol b c) : SameVol a c :=
  ⟨h2.img.trans h1.img, h2.fs.trans h1.fs, h2.failAt.trans h1.failAt, h2.writesOf.trans h1.writesOf⟩

theorem _root_.FatVerif.SameStore.toVol {d d' : Dev} (h : SameStore d d') : SameVol d d' :=
  ⟨h.img, h.fs, h.failAt, by unfold Dev.writesOf; rw [h.log]⟩

/-- `p` evaluates on `d` to `v`, keeping the volume -/
def Reads {α} (p : Prog α) (d : Dev) (v : α) : Prop := ∃ d', run p d = (.ok v, d') ∧ SameVol d d'

/-- `p` fails on `d` with `e`, keeping the volume -/
def FailsV {α} (p : Prog α) (d : Dev) (e : Err) : Prop := ∃ d', run p d = (.error e, d') ∧ SameVol d d'

/-! ### evaluation up to a relation -/

/-- `p` evaluates on `d` to `v`; `Evals` is `Runs SameStore`, `Reads` is `Runs SameVol` -/
def Runs (K : Dev → Dev → Prop) {α} (p : Prog α) (d : Dev) (v : α) : Prop := ∃ d', run p d = (.ok v, d') ∧ K d d'

/-- `p` fails on `d` with `e`; `Fails` is `Stops SameStore`, `FailsV` is `Stops SameVol` -/
def Stops (K : Dev → Dev → Prop) {α} (p : Prog α) (d : Dev) (e : Err) : Prop :=
  ∃ d', run p d = (.error e, d') ∧ K d d'

/-- what the reader's proofs use of the relation: it holds across reads and seeks, composes, keeps the volume, and
    survives a scope (`finallyDrop` raises the drop depth for the destructor and lowers it again) -/
structure Keeps (K : Dev → Dev → Prop) : Prop where
  ofStore : ∀ {a b : Dev}, SameStore a b → K a b
  trans : ∀ {a b c : Dev}, K a b → K b c → K a c
  toVol : ∀ {a b : Dev}, K a b → SameVol a b
  scope : ∀ {a b c : Dev}, K a b → K { b with dropDepth := b.dropDepth + 1 } c →
    K a { c with dropDepth := c.dropDepth - 1 }

theorem Keeps.store : Keeps SameStore :=
  ⟨id, SameStore.trans, SameStore.toVol, fun h1 h2 =>
    ⟨h2.img.trans h1.img, h2.log.trans h1.log, h2.fs.trans h1.fs, h2.failAt.trans h1.failAt, h2.fault.trans h1.fault,
     by show _ - 1 = _; rw [h2.dropDepth, ← h1.dropDepth]; rfl, h2.clock.trans h1.clock, h2.tick.trans h1.tick,
     h2.writes.trans h1.writes, h2.flushes.trans h1.flushes⟩⟩

theorem Keeps.vol : Keeps SameVol :=
  ⟨SameStore.toVol, SameVol.trans, id, fun h1 h2 =>
    ⟨h2.img.trans h1.img, h2.fs.trans h1.fs, h2.failAt.trans h1.failAt, h2.writesOf.trans h1.writesOf⟩⟩

theorem Stops.bind_left {K : Dev → Dev → Prop} {α β} {p : Prog β} {k : β → Prog α} {d : Dev} {e : Err}
    (h1 : Stops K p d e) : Stops K (Prog.bind p k) d e := by
  obtain ⟨d1, hr1, hs1⟩ := h1
  exact ⟨d1, by simp only [run, hr1], hs1⟩

theorem Runs.tryCatch_ok {K : Dev → Dev → Prop} {α} {p : Prog α} {hd : Err → Prog α} {d : Dev} {v : α}
    (h : Runs K p d v) : Runs K (Prog.tryCatch p hd) d v := by
  obtain ⟨d1, hr, hs⟩ := h
  exact ⟨d1, by simp only [run, hr], hs⟩

section keeps
variable {K : Dev → Dev → Prop} (hK : Keeps K)
include hK

theorem Keeps.refl (d : Dev) : K d d := hK.ofStore (SameStore.refl d)

theorem Runs.ofStore {α} {p : Prog α} {d : Dev} {v : α} (h : Evals p d v) : Runs K p d v := by
  obtain ⟨d', hr, hs⟩ := h; exact ⟨d', hr, hK.ofStore hs⟩

theorem Runs.pure {α} (a : α) (d : Dev) : Runs K (Prog.pure a) d a := ⟨d, rfl, hK.refl d⟩

theorem Runs.getFs (d : Dev) : Runs K Prog.getFs d d.fs := ⟨d, rfl, hK.refl d⟩

theorem Runs.bind {α β} {p : Prog β} {k : β → Prog α} {d : Dev} {b : β} {v : α} (h1 : Runs K p d b)
    (h2 : ∀ d1, K d d1 → Runs K (k b) d1 v) : Runs K (Prog.bind p k) d v := by
  obtain ⟨d1, hr1, hs1⟩ := h1
  obtain ⟨d2, hr2, hs2⟩ := h2 d1 hs1
  exact ⟨d2, by simp only [run, hr1, hr2], hK.trans hs1 hs2⟩

theorem Stops.bind_right {α β} {p : Prog β} {k : β → Prog α} {d : Dev} {b : β} {e : Err} (h1 : Runs K p d b)
    (h2 : ∀ d1, K d d1 → Stops K (k b) d1 e) : Stops K (Prog.bind p k) d e := by
  obtain ⟨d1, hr1, hs1⟩ := h1
  obtain ⟨d2, hr2, hs2⟩ := h2 d1 hs1
  exact ⟨d2, by simp only [run, hr1, hr2], hK.trans hs1 hs2⟩

theorem Runs.tryCatch_caught {α} {p : Prog α} {hd : Err → Prog α} {d : Dev} {e : Err} {v : α} (h : Stops K p d e)
    (hnf : e.isFatal = false) (hh : ∀ d1, K d d1 → Runs K (hd e) d1 v) : Runs K (Prog.tryCatch p hd) d v := by
  obtain ⟨d1, hr, hs⟩ := h
  obtain ⟨d2, hr2, hs2⟩ := hh d1 hs
  exact ⟨d2, by simp only [run, hr, hnf, Bool.false_eq_true, if_false, hr2], hK.trans hs hs2⟩

/-- `finallyDrop` when body and destructor both evaluate (the destructor starts one drop level deeper, so where it
    starts only the volume is known to be kept) -/
theorem Runs.finallyDrop {α} {p : Prog α} {c : Option α → Prog Unit} {d : Dev} {a : α} (h : Runs K p d a)
    (hc : ∀ d1, SameVol d d1 → Runs K (c (some a)) d1 ()) : Runs K (Prog.finallyDrop p c) d a := by
  obtain ⟨d1, hr, hs⟩ := h
  have hv := hK.toVol hs
  obtain ⟨d2, hr2, hs2⟩ := hc { d1 with dropDepth := d1.dropDepth + 1 } ⟨hv.img, hv.fs, hv.failAt, hv.writesOf⟩
  exact ⟨{ d2 with dropDepth := d2.dropDepth - 1 }, by simp only [run, hr, hr2], hK.scope hs hs2⟩

end keeps

/-! ### the same for `Reads` / `FailsV`, as the write simulations use them -/

theorem Reads.pure {α} (a : α) (d : Dev) : Reads (Prog.pure a) d a := Runs.pure Keeps.vol a d

theorem Reads.getFs (d : Dev) : Reads Prog.getFs d d.fs := Runs.getFs Keeps.vol d

theorem Reads.bind {α β} {p : Prog β} {k : β → Prog α} {d : Dev} {b : β} {v : α} (h1 : Reads p d b)
    (h2 : ∀ d1, SameVol d d1 → Reads (k b) d1 v) : Reads (Prog.bind p k) d v := Runs.bind Keeps.vol h1 h2

theorem FailsV.bind_left {α β} {p : Prog β} {k : β → Prog α} {d : Dev} {e : Err} (h1 : FailsV p d e) :
    FailsV (Prog.bind p k) d e := Stops.bind_left h1

theorem FailsV.bind_right {α β} {p : Prog β} {k : β → Prog α} {d : Dev} {b : β} {e : Err} (h1 : Reads p d b)
    (h2 : ∀ d1, SameVol d d1 → FailsV (k b) d1 e) : FailsV (Prog.bind p k) d e := Stops.bind_right Keeps.vol h1 h2

/-- `finallyDrop` when body and destructor both evaluate -/
theorem Reads.finallyDrop {α} {p : Prog α} {c : Option α → Prog Unit} {d : Dev} {a : α} (h : Reads p d a)
    (hc : ∀ d1, SameVol d d1 → Reads (c (some a)) d1 ()) : Reads (Prog.finallyDrop p c) d a :=
  Runs.finallyDrop Keeps.vol h hc

theorem FailsV.finallyDrop {α} {p : Prog α} {c : Option α → Prog Unit} {d : Dev} {e : Err} (h : FailsV p d e)
    (hc : ∀ d1, SameVol d d1 → Reads (c none) d1 ()) : FailsV (Prog.finallyDrop p c) d e := by
  obtain ⟨d1, hr, hs⟩ := h
  by_cases hh : e = .hang
  · exact ⟨d1, by simp only [run, hr, hh, if_true], hs⟩
  · have hs1 : SameVol d { d1 with dropDepth := d1.dropDepth + 1 } := ⟨hs.img, hs.fs, hs.failAt, hs.writesOf⟩
    obtain ⟨d2, hr2, hs2⟩ := hc _ hs1
    exact ⟨{ d2 with dropDepth := d2.dropDepth - 1 }, by simp only [run, hr, hh, if_false, hr2],
      Keeps.vol.scope hs hs2⟩

/-! ### the byte source -/

/-- the description of a directory stream on the device `d` (see the header) -/
structure ByteSrc (d : Dev) (S : Nat → DirStream) (T : Nat) (src room : Nat → Nat) : Prop where
  /-- one `read` call at offset `o` -/
  read : ∀ d1, SameVol d d1 → ∀ o n, o ≤ T →
    Reads (DirStream.read (S o) n) d1 (d.img.read (src o) (min n (room o)), S (o + min n (room o)))
  room_end : room T = 0
  /-- inside the room the stream is contiguous on the device -/
  src_step : ∀ o j, j < room o → src (o + j) = src o + j
  room_step : ∀ o j, j < room o → room (o + j) = room o - j
  room_le : ∀ o, o ≤ T → o + room o ≤ T
  /-- slots do not straddle -/
  room_slot : ∀ o, o % 32 = 0 → o + 32 ≤ T → 32 ≤ room o

/-- `ByteSrc` with the relation its `read` calls keep as a parameter: `ByteSrc` is `ByteSrcK SameVol` (`ByteSrc.toK`,
    `ByteSrcK.toSrc`) and is what the write layer states its families with (`WFam.rd`, Proofs/DirWriteFamily) -/
structure ByteSrcK (K : Dev → Dev → Prop) (d : Dev) (S : Nat → DirStream) (T : Nat) (src room : Nat → Nat) : Prop where
  keeps : Keeps K
  read : ∀ d1, SameVol d d1 → ∀ o n, o ≤ T →
    Runs K (DirStream.read (S o) n) d1 (d.img.read (src o) (min n (room o)), S (o + min n (room o)))
  room_end : room T = 0
  src_step : ∀ o j, j < room o → src (o + j) = src o + j
  room_step : ∀ o j, j < room o → room (o + j) = room o - j
  room_le : ∀ o, o ≤ T → o + room o ≤ T
  room_slot : ∀ o, o % 32 = 0 → o + 32 ≤ T → 32 ≤ room o

theorem _root_.FatVerif.Img.read_one (i : Img) (p : Nat) : i.read p 1 = [i.getByte p] := by
  simp [Img.read]

theorem lfnTail_sum : lfnTailChunks.sum = 20 := by decide
theorem fileTail_sum : fileTailChunks.sum = 20 := by decide

section generic
variable {K : Dev → Dev → Prop} {d : Dev} {S : Nat → DirStream} {T : Nat} {src room : Nat → Nat}

theorem ByteSrc.toK (B : ByteSrc d S T src room) : ByteSrcK SameVol d S T src room :=
  ⟨Keeps.vol, B.read, B.room_end, B.src_step, B.room_step, B.room_le, B.room_slot⟩

theorem ByteSrcK.toSrc (B : ByteSrcK SameVol d S T src room) : ByteSrc d S T src room :=
  ⟨B.read, B.room_end, B.src_step, B.room_step, B.room_le, B.room_slot⟩

theorem ByteSrcK.readExact (B : ByteSrcK K d S T src room) (d1 : Dev) (hv : SameVol d d1) (o n : Nat)
    (hn : n ≤ room o) (ho : o ≤ T) :
    Runs K (FatVerif.readExact DirStream.strm (S o) n) d1 (d.img.read (src o) n, S (o + n)) := by
  cases n with
  | zero => exact ⟨d1, rfl, B.keeps.refl d1⟩
  | succ k =>
    obtain ⟨d2, hr, hk⟩ := B.read d1 hv o (k + 1) ho
    rw [show min (k + 1) (room o) = k + 1 by omega] at hr
    exact ⟨d2, run_readExact_of_read DirStream.strm (Nat.succ_pos k) hr (Img.read_length ..), hk⟩

theorem ByteSrcK.readExact_eof (B : ByteSrcK K d S T src room) (d1 : Dev) (hv : SameVol d d1) (n : Nat) (hn : 0 < n) :
    Stops K (FatVerif.readExact DirStream.strm (S T) n) d1 .eof := by
  obtain ⟨d2, hr, hk⟩ := B.read d1 hv T n (Nat.le_refl _)
  rw [B.room_end, Nat.min_zero] at hr
  exact ⟨d2, run_readExact_eof DirStream.strm hn hr, hk⟩

theorem ByteSrcK.readU8 (B : ByteSrcK K d S T src room) (d1 : Dev) (hv : SameVol d d1) (o : Nat) (hn : 1 ≤ room o)
    (ho : o ≤ T) :
    Runs K (FatVerif.readU8 DirStream.strm (S o)) d1 (d.img.getByte (src o), S (o + 1)) := by
  unfold FatVerif.readU8
  refine Runs.bind B.keeps (B.readExact d1 hv o 1 hn ho) (fun d2 _ => ?_)
  dsimp only
  rw [Img.read_getD _ _ _ _ (by omega), Nat.add_zero]
  exact Runs.pure B.keeps _ d2

theorem ByteSrcK.readChunks (B : ByteSrcK K d S T src room) : ∀ (ns : List Nat) (o : Nat) (acc : List Nat) (d1 : Dev),
    SameVol d d1 → ns.sum ≤ room o → o ≤ T →
    Runs K (FatVerif.readChunks DirStream.strm (S o) ns acc) d1
      (acc ++ d.img.read (src o) ns.sum, S (o + ns.sum)) := by
  intro ns
  induction ns with
  | nil =>
    intro o acc d1 _ _ _
    unfold FatVerif.readChunks
    simp only [List.sum_nil, Img.read_zero, List.append_nil, Nat.add_zero]
    exact Runs.pure B.keeps _ d1
  | cons n rest ih =>
    intro o acc d1 hv hroom ho
    unfold FatVerif.readChunks
    simp only [List.sum_cons] at hroom ⊢
    refine Runs.bind B.keeps (B.readExact d1 hv o n (by omega) ho) (fun d2 hs2 => ?_)
    dsimp only
    have hv2 := hv.trans (B.keeps.toVol hs2)
    have hle := B.room_le o ho
    by_cases hlt : n < room o
    · have := ih (o + n) (acc ++ d.img.read (src o) n) d2 hv2 (by rw [B.room_step o n hlt]; omega) (by omega)
      rw [B.src_step o n hlt, List.append_assoc, ← Img.read_append, Nat.add_assoc] at this
      exact this
    · -- the chunk took the whole room: nothing is left to read
      have h0 : rest.sum = 0 := by omega
      have := ih (o + n) (acc ++ d.img.read (src o) n) d2 hv2 (by omega) (by omega)
      rw [h0, Img.read_zero, List.append_nil, Nat.add_zero] at this
      simp only [h0, Nat.add_zero]
      exact this

/-- **`readSlot`**: at a slot-aligned offset with a whole slot left, `deserialize` reads the 32 bytes of the image at
    `src o` (as 11 + 1 + 20 bytes in 12 resp. 13 `read_exact` calls) and the stream advances by 32 -/
theorem ByteSrcK.readSlot (B : ByteSrcK K d S T src room) (d1 : Dev) (hv : SameVol d d1) (o : Nat) (ho : o % 32 = 0)
    (hroom : o + 32 ≤ T) :
    Runs K (FatVerif.readSlot (S o)) d1 (d.img.read (src o) 32, S (o + 32)) := by
  have hr32 := B.room_slot o ho hroom
  unfold FatVerif.readSlot
  refine Runs.bind B.keeps (b := some (d.img.read (src o) 11, S (o + 11))) ?_ (fun d2 hs2 => ?_)
  · refine Runs.tryCatch_ok ?_
    exact Runs.bind B.keeps (B.readExact d1 hv o 11 (by omega) (by omega)) (fun d2 _ => Runs.pure B.keeps _ d2)
  · dsimp only
    have hv2 := hv.trans (B.keeps.toVol hs2)
    have hroom11 : room (o + 11) = room o - 11 := B.room_step o 11 (by omega)
    have hsrc11 : src (o + 11) = src o + 11 := B.src_step o 11 (by omega)
    refine Runs.bind B.keeps (B.readU8 d2 hv2 (o + 11) (by omega) (by omega)) (fun d3 hs3 => ?_)
    dsimp only
    have hv3 := hv2.trans (B.keeps.toVol hs3)
    have hroom12 : room (o + 11 + 1) = room o - 12 := by
      rw [Nat.add_assoc]; exact B.room_step o 12 (by omega)
    have hsrc12 : src (o + 11 + 1) = src o + 12 := by
      rw [Nat.add_assoc]; exact B.src_step o 12 (by omega)
    have key : ∀ (ns : List Nat), ns.sum = 20 →
        Runs K (Prog.bind (FatVerif.readChunks DirStream.strm (S (o + 11 + 1)) ns [])
          (fun x => Prog.pure (d.img.read (src o) 11 ++ [d.img.getByte (src (o + 11))] ++ x.1, x.2))) d3
          (d.img.read (src o) 32, S (o + 32)) := by
      intro ns hns
      have hc := B.readChunks ns (o + 11 + 1) [] d3 hv3 (by rw [hns, hroom12]; omega) (by omega)
      rw [hns] at hc
      refine Runs.bind B.keeps hc (fun d4 _ => ?_)
      dsimp only
      have e1 : d.img.read (src o) 32 =
          d.img.read (src o) 11 ++ [d.img.getByte (src (o + 11))] ++ ([] ++ d.img.read (src (o + 11 + 1)) 20) := by
        rw [hsrc11, hsrc12, List.nil_append, ← Img.read_one, show (32 : Nat) = 11 + (1 + 20) from rfl, Img.read_append,
          Img.read_append, List.append_assoc]
      have e2 : o + 32 = o + 11 + 1 + 20 := by omega
      rw [e1, e2]
      exact Runs.pure B.keeps _ d4
    split
    · exact key _ lfnTail_sum
    · exact key _ fileTail_sum

/-- **`readSlot` at the end of the directory's allocated space**: the `UnexpectedEof` of the first `read_exact` is
    caught, the all-zero record (an end marker) is returned and the stream is NOT advanced -/
theorem ByteSrcK.readSlot_end (B : ByteSrcK K d S T src room) (d1 : Dev) (hv : SameVol d d1) :
    Runs K (FatVerif.readSlot (S T)) d1 (List.replicate 32 0, S T) := by
  unfold FatVerif.readSlot
  refine Runs.bind B.keeps (b := none) ?_ (fun d2 _ => Runs.pure B.keeps _ d2)
  refine Runs.tryCatch_caught B.keeps (e := .eof) ?_ rfl (fun d2 _ => Runs.pure B.keeps _ d2)
  exact Stops.bind_left (B.readExact_eof d1 hv 11 (by omega))

/-! the same, keeping the volume -/

theorem ByteSrc.readExact (B : ByteSrc d S T src room) (d1 : Dev) (hv : SameVol d d1) (o n : Nat) (hn : n ≤ room o)
    (ho : o ≤ T) :
    Reads (readExact DirStream.strm (S o) n) d1 (d.img.read (src o) n, S (o + n)) :=
  B.toK.readExact d1 hv o n hn ho

theorem ByteSrc.readU8 (B : ByteSrc d S T src room) (d1 : Dev) (hv : SameVol d d1) (o : Nat) (hn : 1 ≤ room o)
    (ho : o ≤ T) :
    Reads (FatVerif.readU8 DirStream.strm (S o)) d1 (d.img.getByte (src o), S (o + 1)) :=
  B.toK.readU8 d1 hv o hn ho

theorem ByteSrc.readSlot (B : ByteSrc d S T src room) (d1 : Dev) (hv : SameVol d d1) (o : Nat) (ho : o % 32 = 0)
    (hroom : o + 32 ≤ T) :
    Reads (FatVerif.readSlot (S o)) d1 (d.img.read (src o) 32, S (o + 32)) :=
  B.toK.readSlot d1 hv o ho hroom

theorem ByteSrc.readSlot_end (B : ByteSrc d S T src room) (d1 : Dev) (hv : SameVol d d1) :
    Reads (FatVerif.readSlot (S T)) d1 (List.replicate 32 0, S T) :=
  B.toK.readSlot_end d1 hv

end generic

end FatVerif.DirSim
