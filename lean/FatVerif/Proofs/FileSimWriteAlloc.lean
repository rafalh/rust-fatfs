import FatVerif.Proofs.FileSimWrite
import FatVerif.Proofs.FileSimFatAlloc
/-!
# FileSim / write with allocation: `File::write` with allocation of a new cluster at the end of the chain

The allocator of the cursor machine is instantiated with the scan of the FAT: `fatAllocator total hint` hands out
`allocFindV g hint total` (the cluster `alloc_cluster` finds on the decoded FAT `g` with FS-info hint `hint`).
`HStep`: what one mutating call establishes, for the machine (`CoreEq`, `FileRep`, `InfoOk`) and for other objects (which
decoded FAT entries are kept, where the new chain comes from, the classified write records, the editor's move).
`HStep.of_sameStore`, `run_setDirtyFlag_sim`, `HStep.trans`: such steps compose; `HStep.of_fatStep`: a step that rewrites
FAT entries of the file's own or of free clusters.
`selCluster_sim`: the cluster selection is the machine's `writeCluster`: the cursor has a cluster, or it sits at the end
of the last cluster (or the file is empty) and either no entry is free — both sides answer `NotEnoughSpace`, nothing
changes — or both allocate the same cluster and link it (FAT: `allocLinkV`, chain: `chain_link`).
`write_sim`: ONE `File::write` call = status byte, `selCluster_sim`, `writeTail_sim`.
-/
namespace FatVerif.FileSim
open FatVerif FatVerif.Fat

/-- the machine's allocator: the FAT scan of `alloc_cluster` -/
def fatAllocator (total : Nat) (hint : Option Nat) : Cursor.Allocator (Nat → FatValue) where
  alloc := fun g => (allocFindV g hint total).map fun c => (c, updV g c .eoc)
  release := fun l g => fun c => if c ∈ l then .free else g c

theorem fatAllocator_laws (total : Nat) (hint : Option Nat) : Cursor.AllocLaws (fatAllocator total hint) viewFree where
  alloc_free := by
    intro g c g' h
    simp only [fatAllocator, Option.map_eq_some_iff] at h
    obtain ⟨c', hc', he⟩ := h
    cases he
    exact (allocFindV_some_lt g hint total c hc').2
  alloc_frame := by
    intro g c g' d h hf
    simp only [fatAllocator, Option.map_eq_some_iff] at h
    obtain ⟨c', hc', he⟩ := h
    cases he
    unfold viewFree at hf ⊢
    by_cases hdc : d = c
    · subst hdc; rw [updV_same] at hf; cases hf
    · rw [updV_ne _ _ _ _ hdc] at hf; exact ⟨hf, hdc⟩
  release_sub := by
    intro l g d h
    unfold viewFree fatAllocator at *
    simp only at h
    by_cases hd : d ∈ l
    · exact Or.inr hd
    · rw [if_neg hd] at h; exact Or.inl h

theorem size?_setFirstCluster (e : DirEntryEditor) (c : Option Nat) (ft : FatType) :
    (e.setFirstCluster c ft).data.size? = e.data.size? := by
  unfold DirEntryEditor.setFirstCluster
  split <;> rfl

/-- The cluster written into the record is a variable `oc` here: with `some c` in its place the kernel, reducing the
    projection `.data` of `e.setFirstCluster (some c) ft`, decides `some c ≠ e.data.firstCluster ft` and unfolds the
    `* 65536` of `firstClusterRaw` step by step (10 M heartbeats). -/
theorem FileH.size?_mapSetFirst (f : FileH) (first oc : Option Nat) (ft : FatType) :
    ({ f with firstCluster := first, entry := f.entry.map fun e => e.setFirstCluster oc ft } : FileH).size? =
      f.size? := by
  obtain ⟨_, _, _, entry⟩ := f
  cases entry with
  | none => rfl
  | some e => exact FileSim.size?_setFirstCluster e oc ft

theorem FileH.size?_setFirstCluster (fs : FsState) (f : FileH) (c : Nat) :
    (FileH.setFirstCluster fs f c).size? = f.size? := FileH.size?_mapSetFirst f (some c) (some c) fs.fatType

theorem isDir_of_size? {f : FileH} {sz : Nat} (h : f.size? = some sz) : f.isDir = false := by
  unfold FileH.size? at h
  unfold FileH.isDir
  cases he : f.entry with
  | none => rw [he] at h; cases h
  | some e =>
    rw [he] at h
    show e.data.isDir = false
    have h' : e.data.size? = some sz := h
    unfold DirFileEntryData.size? DirFileEntryData.isFile at h'
    cases hd : e.data.isDir with
    | false => rfl
    | true => rw [hd] at h'; simp at h'

/-- what ONE mutating call on `f` (`write`, `truncate`) that took `d` to `d'` and the handle to `f'` establishes, `b'`
    being the machine's new state: the device step; the new handle is core-equal to `b'` and represented; the FS-info
    bookkeeping; decoded FAT entries of clusters that are neither `f`'s nor free are unchanged; the new chain consists
    of old clusters of `f` and clusters that were free; the write records are classified (status byte, pieces of such
    clusters, read-modify-write windows of their FAT entries); the editor's move -/
structure HStep (f : FileH) (d : Dev) (f' : FileH) (d' : Dev) (b' : Cursor.AFile) : Prop where
  step : DevStep d d'
  core : CoreEq (absFile d'.fs d'.img f') b'
  rep : FileRep d'.fs d'.img f'
  info : InfoOk d'.fs d'.img
  view : ∀ x, x ∉ fileChain d.fs d.img f → tabView d.fs d.img x ≠ .free →
    tabView d'.fs d'.img x = tabView d.fs d.img x
  chain : ∀ x ∈ fileChain d'.fs d'.img f', x ∈ fileChain d.fs d.img f ∨ tabView d.fs d.img x = .free
  trace : ∀ E D : Nat → Prop, (∀ x ∈ fileChain d.fs d.img f, E x ∧ D x) →
    (∀ x, 2 ≤ x → x < d.fs.totalClusters + 2 → tabView d.fs d.img x = .free → E x ∧ D x) → Trace d.fs E D d d'
  ed : EdStep d.fs.fatType f f'

/-- the standing hypotheses hold again after the call -/
theorem HStep.simInv {f f' : FileH} {d d' : Dev} {b' : Cursor.AFile} (hs : HStep f d f' d' b') (h : SimInv f d) :
    SimInv f' d' := h.step hs.step hs.rep hs.info

/-- a call that leaves image, log and mounted state alone is the identity of the machine -/
theorem HStep.of_sameStore {f : FileH} {d d' : Dev} (h : SimInv f d) (hs : SameStore d d') :
    HStep f d f d' (absFile d.fs d.img f) := by
  refine ⟨DevStep.of_sameStore hs, ?_, ?_, ?_, fun x _ _ => ?_, fun x hx => Or.inl ?_, fun E D _ _ => Trace.of_sameStore hs,
    EdStep.refl _ f⟩ <;> rw [hs.fs, hs.img] at *
  · exact CoreEq.refl _
  · exact h.rep
  · exact h.info
  · exact hx

/-- **`set_dirty_flag(true)` in front of a mutating call**: at most the status byte is written, so the standing
    hypotheses hold again, now on a volume marked dirty, the handle represents the same state of the machine, and a
    step from the new device is a step from the old one -/
theorem run_setDirtyFlag_sim {f : FileH} {d : Dev} (h : SimInv f d) :
    ∃ d1, run (setDirtyFlag true) d = (.ok (), d1) ∧ SimInv f d1 ∧ d1.fs.curDirty = true ∧ FsGeomEq d.fs d1.fs ∧
      d1.fs.fsInfo = d.fs.fsInfo ∧ absFile d1.fs d1.img f = absFile d.fs d.img f ∧
      tabView d1.fs d1.img = tabView d.fs d.img ∧
      ∀ {f' : FileH} {d' : Dev} {b : Cursor.AFile}, HStep f d1 f' d' b → HStep f d f' d' b := by
  have ⟨hfa, hwf, hg, hrep, hinfo⟩ := h
  have hst := hg.status_lt
  have hfd := hg.fat_data
  have hlt := statusOff_lt d.fs
  obtain ⟨d1, hr1, hs1, hcd1, hinfo1, hb, htr1, _⟩ := run_setDirtyFlag d hfa (by have := hg.fat_dev; omega)
  have hfat : FatAgree d.fs d.img d1.img := fun q h1 _ => hb hwf q (by omega)
  have hdata : DataAgree d.fs d.img d1.img := fun q h1 => hb hwf q (by omega)
  have htv : tabView d1.fs d1.img = tabView d.fs d.img := by rw [hs1.geom.tabView, tabView_congr hg hfat]
  have hab := absFile_frame hg f hs1.geom hfat hdata
  have hch : fileChain d1.fs d1.img f = fileChain d.fs d.img f := congrArg Cursor.AFile.chain hab
  refine ⟨d1, hr1, h.step hs1 (hrep.frame hg hs1.geom hfat hdata) ⟨by rw [hinfo1]; exact hinfo.hint,
    by rw [hinfo1, htv, hs1.geom.totalClusters]; exact hinfo.count⟩, hcd1, hs1.geom, hinfo1, hab, htv, fun h1 =>
    ⟨hs1.trans h1.step, h1.core, h1.rep, h1.info, ?_, ?_, fun E D hE hF => (htr1 E D).trans
      ((h1.trace E D (by rw [hch]; exact hE) (by rw [htv, hs1.geom.totalClusters]; exact hF)).frame hs1.geom.symm),
      hs1.geom.fatType ▸ h1.ed⟩⟩
  · rw [← htv, ← hch]; exact h1.view
  · rw [← htv, ← hch]; exact h1.chain

/-- two steps in a row, the second one keeping the first cluster and not moving the cursor back: what the second
    step may touch (its own chain, free clusters) was the first step's to touch -/
theorem HStep.trans {f f1 f2 : FileH} {d d1 d2 : Dev} {b1 b2 : Cursor.AFile} (h1 : HStep f d f1 d1 b1)
    (h2 : HStep f1 d1 f2 d2 b2) (hoff : f1.offset ≤ f2.offset) (hfc : f2.firstCluster = f1.firstCluster) :
    HStep f d f2 d2 b2 := by
  have hkeep : ∀ x, x ∉ fileChain d.fs d.img f → tabView d.fs d.img x ≠ .free →
      x ∉ fileChain d1.fs d1.img f1 ∧ tabView d1.fs d1.img x ≠ .free := fun x hx hf =>
    ⟨fun hm => (h1.chain x hm).elim hx hf, by rw [h1.view x hx hf]; exact hf⟩
  have hown : ∀ x, x ∈ fileChain d1.fs d1.img f1 ∨ tabView d1.fs d1.img x = .free →
      x ∈ fileChain d.fs d.img f ∨ tabView d.fs d.img x = .free := by
    intro x hx
    by_cases hm : x ∈ fileChain d.fs d.img f
    · exact Or.inl hm
    · by_cases hf : tabView d.fs d.img x = .free
      · exact Or.inr hf
      · exact absurd hx (not_or.mpr (hkeep x hm hf))
  refine ⟨h1.step.trans h2.step, h2.core, h2.rep, h2.info, fun x hx hf => ?_, fun x hx => hown x (h2.chain x hx),
    fun E D hE hF => ?_, EdStep.trans h1.ed (h1.step.geom.fatType ▸ h2.ed) hoff hfc⟩
  · rw [h2.view x (hkeep x hx hf).1 (hkeep x hx hf).2, h1.view x hx hf]
  · have hED : ∀ x, 2 ≤ x → x < d1.fs.totalClusters + 2 →
        x ∈ fileChain d1.fs d1.img f1 ∨ tabView d1.fs d1.img x = .free → E x ∧ D x := fun x a b hx =>
      (hown x hx).elim (hE x) (hF x a (h1.step.geom.totalClusters ▸ b))
    exact (h1.trace E D hE hF).trans ((h2.trace E D (fun x hx => hED x (h1.rep.inTab x hx).1 (h1.rep.inTab x hx).2
      (Or.inl hx)) fun x a b hf => hED x a b (Or.inr hf)).frame h1.step.geom.symm)

/-- **a FAT step as a step of the machine.**  On a volume marked dirty the FAT entries of clusters in `C` — clusters of
    the file or free ones — were rewritten (`FatStep`).  `b` satisfies the machine's invariant, keeps the data, and its
    chain is the FAT chain of its first cluster in the new table, made of clusters of the file and free ones; the
    handle `f'` shows `b`'s size, first cluster and cursor. -/
theorem HStep.of_fatStep {σ : Type} {isFree : σ → Nat → Prop} {s : σ} {f f' : FileH} {d d' : Dev} {b : Cursor.AFile}
    {C : Nat → Prop} (h : SimInv f d) (hcd : d.fs.curDirty = true) (hst : FatStep d.fs C d d')
    (hC : ∀ x, C x →
      x < d.fs.totalClusters + 2 ∧ (x ∈ fileChain d.fs d.img f ∨ 2 ≤ x ∧ tabView d.fs d.img x = .free))
    (hview : ∀ x, ¬ C x → tabView d'.fs d'.img x = tabView d.fs d.img x) (hinfo : InfoOk d'.fs d'.img)
    (hi : Cursor.AFileInv isFree b s) (hcs : b.cs = d.fs.clusterSize) (hdata : b.data = (absFile d.fs d.img f).data)
    (hsz : f'.size? = some b.size) (hfirst : f'.firstCluster = b.firstCluster) (hoff : f'.offset = b.offset)
    (hcur : f'.currentCluster = b.current)
    (hch : ∀ c0, b.firstCluster = some c0 → Chain (tabView d'.fs d'.img) c0 b.chain)
    (hown : ∀ x ∈ b.chain, x ∈ fileChain d.fs d.img f ∨ tabView d.fs d.img x = .free)
    (hin : ∀ x ∈ b.chain, 2 ≤ x ∧ x < d.fs.totalClusters + 2 ∧ tabView d'.fs d'.img x ≠ .free)
    (heoc : ∀ c, b.chain.getLast? = some c → tabView d'.fs d'.img c = .eoc) (hed : EdStep d.fs.fatType f f') :
    HStep f d f' d' b := by
  have hgeo := hst.step.geom
  have hchain : fileChain d'.fs d'.img f' = b.chain := by
    unfold fileChain
    rw [hfirst]
    cases hb : b.firstCluster with
    | none =>
      have := hi.first
      rw [hb] at this
      exact (List.head?_eq_none_iff.mp this.symm).symm
    | some c0 =>
      refine chainFrom_of_chain (hch c0 hb) _ ?_
      have := nodup_length_le hi.nodup fun x hx => (hin x hx).2.1
      rw [hgeo.totalClusters]; omega
  have hcore : CoreEq (absFile d'.fs d'.img f') b := by
    refine ⟨?_, hchain, fun x _ j _ => ?_, congrArg (·.getD 0) hsz, hfirst, hoff, hcur⟩
    · show d'.fs.clusterSize = b.cs
      rw [hcs, hgeo.clusterSize]
    · show d'.img.getByte (clusterOff d'.fs x + j) = b.data x j
      rw [hdata, hgeo.clusterOff]
      have hfd := h.geo.fat_data
      have := dataStart_le_clusterOff d.fs x
      exact hst.outside h.geo (fun y hy => (hC y hy).1) _ (Or.inr hcd) (Or.inr (by omega))
  refine ⟨hst.step, hcore, ?_, hinfo, fun x hx hxf => hview x fun hc => (hC x hc).2.elim hx fun a => hxf a.2,
    fun x hx => hown x (hchain ▸ hx), fun E D hE hF => hst.trace hcd E D fun x hx =>
      (hC x hx).2.elim (fun a => (hE x a).1) fun a => (hF x a.1 (hC x hx).1 a.2).1, hed⟩
  refine FileRep.of_core hsz hcore hi ?_ ?_ ?_ <;> rw [hchain]
  · exact fun c0 h0 => hch c0 (hfirst ▸ h0)
  · rw [hgeo.totalClusters]; exact hin
  · exact heoc

/-- the machine's `write` once the length is known to be positive -/
theorem write_of_writeCluster {σ : Type} (A : Cursor.Allocator σ) (a : Cursor.AFile) (s : σ) (buf : List Nat)
    (hw : a.writeLen buf.length ≠ 0) :
    a.write A s buf = match a.writeCluster A s with
      | (.error e, a', s') => (.error e, a', s')
      | (.ok c, a', s') => (.ok (a.writeLen buf.length), a'.put c (buf.take (a.writeLen buf.length)), s') := by
  unfold Cursor.AFile.write
  rw [if_neg hw]
  rfl

/-- a cursor that has a cluster: the machine's `writeCluster` hands it out -/
theorem writeCluster_of_readCluster {σ : Type} (A : Cursor.Allocator σ) (a : Cursor.AFile) (s : σ) {c : Nat}
    (h : a.readCluster = some c) : a.writeCluster A s = (.ok c, a, s) := by
  unfold Cursor.AFile.readCluster at h
  unfold Cursor.AFile.writeCluster
  by_cases hm : a.offset % a.cs = 0
  · rw [if_pos hm] at h ⊢; rw [h]
  · rw [if_neg hm] at h ⊢; rw [h]

/-- a cursor at the end of the last cluster: that cluster is the current one -/
theorem cur_last {σ : Type} {isFree : σ → Nat → Prop} {a : Cursor.AFile} {s : σ} (h : Cursor.AFileInv isFree a s)
    (hend : a.offset = a.chain.length * a.cs) : a.chain.getLast? = a.current := by
  rw [h.cur]
  by_cases hnil : a.chain = []
  · rw [hnil] at hend ⊢; rw [if_pos (by simpa using hend)]; rfl
  · have hL : 0 < a.chain.length := List.length_pos_iff.mpr hnil
    have hpos : 0 < a.offset := by rw [hend]; exact Nat.mul_pos hL h.cs_pos
    have hp := Cursor.pred_div_of_boundary h.cs_pos hpos (by rw [hend]; exact Nat.mul_mod_left _ _)
    have hq : a.offset / a.cs = a.chain.length := Cursor.div_eq_of_decomp h.cs_pos (j := 0) (by omega) h.cs_pos
    rw [if_neg (by omega), List.getLast?_eq_getElem?]
    congr 1; omega

theorem selCluster_geom {a b : FsState} (h : FsGeomEq a b) (f : FileH) : selCluster f a = selCluster f b := by
  rw [h]; rfl

/-- **the cluster selection of `File::write`** on a volume already marked dirty: the machine's `writeCluster` with the
    FAT scan as allocator.  The cursor has a cluster (nothing changes), or it stands at the end of the last cluster
    (of an empty file) and a cluster is needed: none is free — `NotEnoughSpace` on both sides — or both allocate the same
    cluster and link it behind the chain. -/
theorem selCluster_sim (f : FileH) (d : Dev) (h : SimInv f d) (hcd : d.fs.curDirty = true) :
    (∃ d', run (selCluster f d.fs) d = (.error .noSpace, d') ∧ SameStore d d' ∧
      (absFile d.fs d.img f).writeCluster (fatAllocator d.fs.totalClusters d.fs.fsInfo.next) (tabView d.fs d.img) =
        (.error .noSpace, absFile d.fs d.img f, tabView d.fs d.img)) ∨
    (∃ c f2 d' a' g', run (selCluster f d.fs) d = (.ok (c, f2), d') ∧
      (absFile d.fs d.img f).writeCluster (fatAllocator d.fs.totalClusters d.fs.fsInfo.next) (tabView d.fs d.img) =
        (.ok c, a', g') ∧
      HStep f d f2 d' a' ∧ (fileChain d'.fs d'.img f2)[f.offset / d.fs.clusterSize]? = some c ∧
      f2.offset = f.offset) := by
  have ⟨hfa, hwf, hg, hrep, hinfo⟩ := h
  have hinv := hrep.inv
  obtain ⟨sz, hsz, hasz, _, _⟩ := hrep.size_facts
  obtain ⟨d2, h2, hs2⟩ := run_curOpt f d hfa hg hrep
  cases hrc : (absFile d.fs d.img f).readCluster with
  | some cur =>
    rw [hrc] at h2
    refine .inr ⟨cur, f, d2, _, _, run_selCluster_some f d.fs h2, writeCluster_of_readCluster _ _ _ hrc,
      HStep.of_sameStore h hs2, ?_, rfl⟩
    rw [hs2.fs, hs2.img]
    exact hinv.readCluster_eq.symm.trans hrc
  | none =>
    obtain ⟨_, hend⟩ := hinv.readCluster_none hrc
    have hm : f.offset % d.fs.clusterSize = 0 := by
      rw [show f.offset = (fileChain d.fs d.img f).length * d.fs.clusterSize from hend]; exact Nat.mul_mod_left _ _
    have hma : (absFile d.fs d.img f).offset % (absFile d.fs d.img f).cs = 0 := hm
    rw [hrc, if_pos hm] at h2
    have hlast : (fileChain d.fs d.img f).getLast? = f.currentCluster := cur_last hinv hend
    have hawc : (absFile d.fs d.img f).writeCluster (fatAllocator d.fs.totalClusters d.fs.fsInfo.next)
        (tabView d.fs d.img) =
        (match allocFindV (tabView d.fs d.img) d.fs.fsInfo.next d.fs.totalClusters with
          | none => (.error .noSpace, absFile d.fs d.img f, tabView d.fs d.img)
          | some c => (.ok c, (absFile d.fs d.img f).linkNew c, updV (tabView d.fs d.img) c .eoc)) := by
      have hb := hrc
      unfold Cursor.AFile.readCluster at hb
      rw [if_pos hma] at hb
      unfold Cursor.AFile.writeCluster
      rw [if_pos hma, hb]
      simp only [fatAllocator]
      cases allocFindV (tabView d.fs d.img) d.fs.fsInfo.next d.fs.totalClusters <;> rfl
    have hprev : ∀ p, f.currentCluster = some p →
        2 ≤ p ∧ p < d.fs.totalClusters + 2 ∧ tabView d.fs d.img p ≠ .free := fun p hp =>
      have hmem := (hrep.cur_mem hp).2.2
      ⟨(hrep.inTab p hmem).1, (hrep.inTab p hmem).2, hinv.live p hmem⟩
    have e2 : d2.fs = d.fs := hs2.fs
    have i2 : d2.img = d.img := hs2.img
    have hS2 := h.same hs2 hrep
    rcases run_allocClusterFs_fine f.currentCluster false d2 hS2.nofault hS2.wf hS2.geo hS2.info
        (by rw [e2, i2]; exact hprev) with
      ⟨hnone, d3, hr3, hs3⟩ | ⟨c, dm, d3, hsome, hr3, hfst2, hst3', hfs3, htv3, hinfo3, hz3, _⟩
    · -- NotEnoughSpace
      rw [e2, i2] at hnone
      refine .inl ⟨d3, ?_, hs2.trans hs3, by rw [hawc, hnone]⟩
      unfold selCluster
      rw [if_pos hm, run_bind_ok h2]
      simp only
      rw [isDir_of_size? hsz, run_bind_error hr3]
    · -- a cluster was allocated and linked
      rw [e2, i2] at hsome htv3
      rw [e2] at hfst2
      rw [← hlast] at htv3
      have hfst : FatStep d.fs (fun x => x = c ∨ f.currentCluster = some x) d d3 :=
        (hfst2.after hs2).then_same hst3' (hz3 rfl).1 (hz3 rfl).2 (by rw [hfs3]; exact markedFs_curDirty _)
      rw [hsome] at hawc
      obtain ⟨hc2, hct, hcf⟩ := allocFindV_some _ _ _ _ hinfo.hint hsome
      -- the machine's new state and the new chain
      rcases hinv.writeCluster_post (fatAllocator_laws d.fs.totalClusters d.fs.fsInfo.next) with
        ⟨he, _⟩ | ⟨c', a1, s1, he, hi1, hc1, _⟩
      · rw [hawc] at he; cases he
      rw [hawc] at he; cases he
      obtain ⟨l1, l2, l3, l4, l5, l6, l7⟩ := hinv.linkNew_post c hend
      obtain ⟨hlch, hllive, hleoc, hlother⟩ := chain_link hinv.live hcf
        fun c0 h0 => hrep.chain c0 (hinv.first.trans h0)
      -- the handle after `set_first_cluster`
      generalize hf2 : (if f.firstCluster.isNone = true then FileH.setFirstCluster d.fs f c else f) = f2
      have hf2off : f2.offset = f.offset := by rw [← hf2]; split <;> rfl
      have hf2sz : f2.size? = some sz := by
        rw [← hf2]
        split
        · rw [FileH.size?_setFirstCluster]; exact hsz
        · exact hsz
      have hsel : run (selCluster f d.fs) d = (.ok (c, f2), d3) :=
        hf2 ▸ run_selCluster_alloc f d.fs hm h2 (by rw [isDir_of_size? hsz]; exact hr3)
      have hst : HStep f d f2 d3 ((absFile d.fs d.img f).linkNew c) := by
        refine HStep.of_fatStep h hcd hfst (fun x hx => ?_) (fun x hx => ?_) hinfo3 hi1 l3 l4 (by rw [l5, hasz]; exact hf2sz)
          ?_ (by rw [l6]; exact hf2off) (by rw [l7, ← hf2]; split <;> rfl) ?_ ?_ ?_ ?_ ?_
        · exact hx.elim (fun e => e ▸ ⟨hct, Or.inr ⟨hc2, hcf⟩⟩) fun e => ⟨(hprev x e).2.1, Or.inl (hrep.cur_mem e).2.2⟩
        · rw [htv3]
          exact hlother x (fun e => hx (Or.inl e)) fun e => hx (Or.inr (hlast.symm.trans e))
        · rw [← hf2]
          unfold Cursor.AFile.linkNew
          cases hfc : f.firstCluster with
          | none => rw [show (absFile d.fs d.img f).firstCluster = none from hfc]; rfl
          | some c0 => rw [show (absFile d.fs d.img f).firstCluster = some c0 from hfc]; exact hfc
        · rw [l1, l2, htv3]; exact hlch
        · rw [l1]
          intro x hx
          rcases List.mem_append.mp hx with hx | hx
          · exact Or.inl hx
          · obtain rfl : x = c := by simpa using hx
            exact Or.inr hcf
        · rw [l1, htv3]
          intro x hx
          have hxt : 2 ≤ x ∧ x < d.fs.totalClusters + 2 := by
            rcases List.mem_append.mp hx with hx | hx
            · exact hrep.inTab x hx
            · obtain rfl : x = c := by simpa using hx
              exact ⟨hc2, hct⟩
          exact ⟨hxt.1, hxt.2, hllive x hx⟩
        · rw [l1, htv3]
          intro x hx
          obtain rfl : c = x := by simpa using hx
          exact hleoc
        · rw [← hf2]
          split
          · exact EdStep.setFirstCluster d.fs f c
          · exact EdStep.refl _ f
      have hch3 : fileChain d3.fs d3.img f2 = _ := hst.core.chain
      exact .inr ⟨c, f2, d3, _, _, hsel, hawc, hst, hch3 ▸ hc1, hf2off⟩

/-- **`write_sim`.**  ONE `File::write` call of bytes: `NotEnoughSpace` on both sides (a cluster was needed and none is
    free), or the machine's count and an `HStep` to the machine's new state.  The call is the status byte, then the
    cluster selection (`selCluster_sim`), then the data step (`writeTail_sim`), like the machine's `write`. -/
theorem write_sim (f : FileH) (buf : List Nat) (d : Dev) (h : SimInv f d) (hbytes : ∀ b ∈ buf, b < 256) :
    (∃ d', run (f.write buf) d = (.error .noSpace, d') ∧
      (absFile d.fs d.img f).write (fatAllocator d.fs.totalClusters d.fs.fsInfo.next) (tabView d.fs d.img) buf =
        (.error .noSpace, absFile d.fs d.img f, tabView d.fs d.img) ∧
      HStep f d f d' (absFile d.fs d.img f)) ∨
    (∃ k f' d', run (f.write buf) d = (.ok (k, f'), d') ∧
      ((absFile d.fs d.img f).write (fatAllocator d.fs.totalClusters d.fs.fsInfo.next)
        (tabView d.fs d.img) buf).1 = .ok k ∧
      HStep f d f' d' ((absFile d.fs d.img f).write
        (fatAllocator d.fs.totalClusters d.fs.fsInfo.next) (tabView d.fs d.img) buf).2.1) := by
  have hwl : (absFile d.fs d.img f).writeLen buf.length = writeLenH f d.fs buf.length := rfl
  rw [write_eq, run_bind_ok (run_getFs d)]
  by_cases hw0 : writeLenH f d.fs buf.length = 0
  · have hm : (absFile d.fs d.img f).write (fatAllocator d.fs.totalClusters d.fs.fsInfo.next) (tabView d.fs d.img)
        buf = (.ok 0, absFile d.fs d.img f, tabView d.fs d.img) := by
      unfold Cursor.AFile.write; rw [if_pos (hwl.trans hw0)]
    rw [if_pos hw0, hm]
    exact .inr ⟨0, f, d, rfl, rfl, HStep.of_sameStore h (SameStore.refl d)⟩
  rw [if_neg hw0, write_of_writeCluster _ _ _ _ (hwl ▸ hw0), hwl]
  generalize hww : writeLenH f d.fs buf.length = w at hw0 ⊢
  have hwb : w ≤ buf.length ∧ w ≤ d.fs.clusterSize - f.offset % d.fs.clusterSize ∧ w ≤ 4294967295 - f.offset := by
    rw [← hww]; unfold writeLenH; omega
  obtain ⟨d1, hr1, h1, hcd1, hgeo1, hinfo1, hab1, htv1, hback⟩ := run_setDirtyFlag_sim h
  rw [run_bind_ok hr1, selCluster_geom hgeo1]
  rcases selCluster_sim f d1 h1 hcd1 with ⟨d3, hr3, hs3, hwc⟩ | ⟨c, f2, d3, a', g', hr3, hwc, hst, hci, hf2off⟩ <;>
    rw [hab1, htv1, hgeo1.totalClusters, hinfo1] at hwc <;> rw [hwc]
  · refine .inl ⟨d3, by rw [run_bind_error hr3], rfl, hback ?_⟩
    rw [← hab1]; exact HStep.of_sameStore h1 hs3
  · have h3 : SimInv f2 d3 := hst.simInv h1
    have hgeo3 : FsGeomEq d.fs d3.fs := hgeo1.trans hst.step.geom
    rw [hgeo1.clusterSize, ← hf2off, ← hgeo3.clusterSize] at hci
    rw [← hf2off, ← hgeo3.clusterSize] at hwb
    obtain ⟨f', d4, hr4, hst4, hfs4, hcore4, hrep4, htv4, htr4, hed4, hfc4, hoff4⟩ := writeTail_sim f f2 buf w c d3
      h3.nofault h3.geo h3.rep h3.wf hbytes hf2off.symm hci (Nat.pos_of_ne_zero hw0) hwb.1 hwb.2.1 (by omega)
    have hch4 : fileChain d4.fs d4.img f' = fileChain d3.fs d3.img f2 := hcore4.chain
    rw [run_bind_ok hr3, writeTail_geom hgeo3, hr4]
    refine .inr ⟨w, f', d4, rfl, rfl, hback (hst.trans ⟨hst4,
      hcore4.trans (hst.core.put c _), hrep4, ⟨by rw [hfs4]; exact h3.info.hint, by rw [htv4, hfs4]; exact h3.info.count⟩,
      fun x _ _ => by rw [htv4], fun x hx => Or.inl (hch4 ▸ hx),
      fun E D hE _ => htr4 E D (hE c (List.mem_of_getElem? hci)).2, hed4 _⟩ (by omega) hfc4)⟩

end FatVerif.FileSim
