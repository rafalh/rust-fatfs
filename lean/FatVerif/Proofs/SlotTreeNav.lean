import FatVerif.Proofs.SlotTreeBasic
/-!
# Slot trees: navigation (`getAtS`, `updS`) against the specification's `getAt` / `updateAt`
-/
namespace FatVerif
namespace SlotTree
open Lfn DirSlots DirAlias

variable {up : Char → List Char}

/-! ## sub-nodes inherit tree-wide predicates -/

theorem lookupS_mem {slots : List (List Nat)} {ch : List (LfnEntry × Node)} {q : String} {x : LfnEntry × Node}
    (h : lookupS up slots ch q = some x) : x ∈ ch := by
  unfold lookupS at h
  split at h
  · cases h
  · exact List.mem_of_find?_eq_some h

/-- a non-empty path resolves through the child that `lookupS` finds for its first component -/
theorem getAtS_cons_dir {slots : List (List Nat)} {ch : List (LfnEntry × Node)} {q : String} {r : List String}
    {n : Node} (h : getAtS up (.dir slots ch) (q :: r) = some n) :
    ∃ x, lookupS up slots ch q = some x ∧ getAtS up x.2 r = some n := by
  simp only [getAtS] at h
  cases hl : lookupS up slots ch q with
  | none => rw [hl] at h; cases h
  | some x => rw [hl] at h; exact ⟨x, rfl, h⟩

theorem getAtS_cons {t : Node} {q : String} {r : List String} {n : Node} (h : getAtS up t (q :: r) = some n) :
    ∃ slots ch x, t = .dir slots ch ∧ lookupS up slots ch q = some x ∧ getAtS up x.2 r = some n := by
  cases t with
  | file c => simp [getAtS] at h
  | dir slots ch =>
    obtain ⟨x, hl, h⟩ := getAtS_cons_dir h
    exact ⟨slots, ch, x, rfl, hl, h⟩

/-- what passes from a directory to its children holds of every node below -/
theorem getAtS_inherit {P : Node → Prop} (hP : ∀ s ch x, P (.dir s ch) → x ∈ ch → P x.2) :
    ∀ (p : List String) (t n : Node), P t → getAtS up t p = some n → P n
  | [], t, n, h, hg => by simp only [getAtS, Option.some.injEq] at hg; exact hg ▸ h
  | q :: r, t, n, h, hg => by
    obtain ⟨s, ch, x, rfl, hl, hg'⟩ := getAtS_cons hg
    exact getAtS_inherit hP r x.2 n (hP s ch x h (lookupS_mem hl)) hg'

theorem all_getAtS (P : List (List Nat) → List (LfnEntry × Node) → Prop) (p : List String) (t n : Node) :
    t.All P → getAtS up t p = some n → n.All P :=
  getAtS_inherit (fun s ch x h hx => ((all_dir P s ch).1 h).2 x hx) p t n

theorem getAtS_append : ∀ (p r : List String) (t : Node),
    getAtS up t (p ++ r) = (getAtS up t p).bind fun n => getAtS up n r := by
  intro p
  induction p with
  | nil => intro r t; simp [getAtS]
  | cons q p ih =>
    intro r t
    cases t with
    | file c => simp [getAtS]
    | dir slots ch =>
      simp only [List.cons_append, getAtS]
      cases lookupS up slots ch q with
      | none => rfl
      | some x => exact ih r x.2

theorem getAtS_file (c : List Nat) (p : List String) (n : Node) (h : getAtS up (.file c) p = some n) :
    p = [] ∧ n = .file c := by
  cases p with
  | nil => simp [getAtS] at h; exact ⟨rfl, h.symm⟩
  | cons _ _ => simp [getAtS] at h

theorem dropLast_append_getLast (p : List String) (h : p ≠ []) : ∃ l, p = p.dropLast ++ [l] :=
  ⟨p.getLast h, (List.dropLast_concat_getLast h).symm⟩

theorem getAtS_dropLast (t : Node) (p : List String) (n : Node) (h : getAtS up t p = some n) :
    ∃ m, getAtS up t p.dropLast = some m := by
  by_cases hp : p = []
  · subst hp; exact ⟨n, h⟩
  · obtain ⟨l, hl⟩ := dropLast_append_getLast p hp
    rw [hl, getAtS_append] at h
    cases hm : getAtS up t p.dropLast with
    | none => rw [hm] at h; cases h
    | some m => exact ⟨m, rfl⟩

/-- the parent of something is a directory -/
theorem getAtS_dropLast_dir (t : Node) (p : List String) (n : Node) (hp : p ≠ []) (h : getAtS up t p = some n) :
    ∃ s c, getAtS up t p.dropLast = some (.dir s c) := by
  obtain ⟨l, hl⟩ := dropLast_append_getLast p hp
  rw [hl, getAtS_append] at h
  cases hm : getAtS up t p.dropLast with
  | none => rw [hm] at h; cases h
  | some m =>
    rw [hm] at h
    cases m with
    | file c => simp [getAtS] at h
    | dir s c => exact ⟨s, c, rfl⟩

/-! ## `Lock` -/

theorem lock_append : ∀ (p r : List String) (t : Node),
    Lock up t (p ++ r) ↔ Lock up t p ∧ ∀ n, getAtS up t p = some n → Lock up n r := by
  intro p
  induction p with
  | nil => intro r t; simp [Lock, getAtS]
  | cons q p ih =>
    intro r t
    cases t with
    | file c => simp [Lock, getAtS]
    | dir slots ch =>
      simp only [List.cons_append, Lock, getAtS]
      constructor
      · rintro ⟨h1, h2⟩
        refine ⟨⟨h1, fun x hx => ((ih r x.2).1 (h2 x hx)).1⟩, ?_⟩
        intro n hn
        cases hl : lookupS up slots ch q with
        | none => rw [hl] at hn; cases hn
        | some x => rw [hl] at hn; exact ((ih r x.2).1 (h2 x hl)).2 n hn
      · rintro ⟨⟨h1, h2⟩, h3⟩
        refine ⟨h1, fun x hx => (ih r x.2).2 ⟨h2 x hx, fun n hn => h3 n ?_⟩⟩
        rw [hx]; exact hn

theorem lock_dropLast (t : Node) (p : List String) (h : Lock up t p) : Lock up t p.dropLast := by
  by_cases hp : p = []
  · subst hp; exact h
  · obtain ⟨l, hl⟩ := dropLast_append_getLast p hp
    rw [hl] at h
    exact ((lock_append _ _ t).1 h).1

/-- extending a handle by the stored name of a child -/
theorem lock_snoc (t : Node) (hwf : TreeWf up t) (p : List String) (hl : Lock up t p) (s : List (List Nat))
    (ch : List (LfnEntry × Node)) (hg : getAtS up t p = some (.dir s ch)) (x : LfnEntry × Node) (hx : x ∈ ch) :
    Lock up t (p ++ [entryName x.1]) ∧ getAtS up t (p ++ [entryName x.1]) = some x.2 := by
  have hd : DirOk up s ch := ((all_dir _ s ch).1 (all_getAtS _ p t _ hwf hg)).1
  constructor
  · rw [lock_append]
    refine ⟨hl, fun n hn => ?_⟩
    rw [hg] at hn
    cases hn
    refine ⟨?_, fun _ _ => trivial⟩
    intro e he hm
    rw [entryName_toList] at hm ⊢
    rw [hd.name_hits_self (hd.mem_listing hx) he hm]
  · rw [getAtS_append, hg]
    simp only [Option.bind, getAtS]
    rw [lookupS_self hd hx]

/-! ## `getAt` -/

theorem getAt_corr (u : Char → List Char) : ∀ (p : List String) (t : Node), TreeWf (upOf u) t → Lock (upOf u) t p →
    Spec.getAt (cfgOf u) (abs t) p = (getAtS (upOf u) t p).map abs := by
  intro p
  induction p with
  | nil => intro t _ _; simp [Spec.getAt, getAtS]
  | cons q r ih =>
    intro t hwf hl
    cases t with
    | file c =>
      simp [Spec.getAt, getAtS, abs, Spec.findEntry, Spec.TNode.children]
    | dir slots ch =>
      obtain ⟨hd, hch⟩ := (all_dir _ slots ch).1 hwf
      simp only [Lock] at hl
      simp only [Spec.getAt, getAtS]
      rw [find_corr u hd q hl.1]
      cases hx : lookupS (upOf u) slots ch q with
      | none => rfl
      | some x =>
        simp only [Option.map]
        exact ih x.2 (hch x (lookupS_mem hx)) (hl.2 x hx)

/-! ## `updS` -/

theorem updS_isDir (f : Node → Node) (p : List String) (t : Node) (h : p = [] → (f t).isDir = t.isDir) :
    (updS up f p t).isDir = t.isDir := by
  cases p with
  | nil => exact h rfl
  | cons q r =>
    cases t with
    | file c => rfl
    | dir slots ch =>
      simp only [updS]
      split <;> rfl

theorem getAtS_cons_of_mem {slots : List (List Nat)} {ch : List (LfnEntry × Node)} (hd : DirOk up slots ch)
    {q : String} {e : LfnEntry} (hf : findEntry up slots q.toList = some e) {x : LfnEntry × Node} (hx : x ∈ ch)
    (hk : x.1 = e) (r : List String) : getAtS up (.dir slots ch) (q :: r) = getAtS up x.2 r := by
  have : lookupS up slots ch q = some x := by
    unfold lookupS
    rw [hf, ← hk]
    exact hd.find_key hx
  simp only [getAtS, this]

/-- updating the node at a path keeps the tree well-formed if the new node is well-formed and of the same kind -/
theorem wf_updS (f : Node → Node) : ∀ (p : List String) (t : Node), TreeWf up t →
    (∀ n, getAtS up t p = some n → TreeWf up (f n) ∧ (f n).isDir = n.isDir) → TreeWf up (updS up f p t) := by
  intro p
  induction p with
  | nil => intro t _ h; exact (h t rfl).1
  | cons q r ih =>
    intro t hwf h
    cases t with
    | file c => exact hwf
    | dir slots ch =>
      obtain ⟨hd, hch⟩ := (all_dir _ slots ch).1 hwf
      simp only [updS]
      cases hf : findEntry up slots q.toList with
      | none => exact hwf
      | some e =>
        simp only
        have hreach : ∀ x ∈ ch, x.1 = e → ∀ n, getAtS up x.2 r = some n →
            TreeWf up (f n) ∧ (f n).isDir = n.isDir := by
          intro x hx hk n hn
          exact h n (by rw [getAtS_cons_of_mem hd hf hx hk]; exact hn)
        refine (all_dir _ _ _).2 ⟨⟨hd.wf, ?_, ?_⟩, ?_⟩
        · have : (ch.map fun x => if x.1 == e then (x.1, updS up f r x.2) else x).map (·.1) = ch.map (·.1) := by
            rw [List.map_map]
            apply List.map_congr_left
            intro x _
            simp only [Function.comp]
            split <;> rfl
          rw [this]; exact hd.perm
        · intro y hy
          obtain ⟨x, hx, rfl⟩ := List.mem_map.1 hy
          by_cases hk : x.1 = e
          · simp only [hk, beq_self_eq_true, if_true]
            rw [updS_isDir f r x.2 (fun hr => ((hreach x hx hk x.2 (by rw [hr]; rfl)).2))]
            rw [← hk]; exact hd.kind x hx
          · have : (x.1 == e) = false := by simpa using hk
            simp only [this, Bool.false_eq_true, if_false]
            exact hd.kind x hx
        · intro y hy
          obtain ⟨x, hx, rfl⟩ := List.mem_map.1 hy
          by_cases hk : x.1 = e
          · simp only [hk, beq_self_eq_true, if_true]
            exact ih x.2 (hch x hx) (hreach x hx hk)
          · have : (x.1 == e) = false := by simpa using hk
            simp only [this, Bool.false_eq_true, if_false]
            exact hch x hx

/-- an update at a locked path commutes with the abstraction -/
theorem abs_updS (u : Char → List Char) (f : Node → Node) (F : Spec.TNode → Spec.TNode) :
    ∀ (p : List String) (t : Node), TreeWf (upOf u) t → Lock (upOf u) t p →
    (∀ n, getAtS (upOf u) t p = some n → abs (f n) = F (abs n)) →
    abs (updS (upOf u) f p t) = Spec.updateAt (cfgOf u) F p (abs t) := by
  intro p
  induction p with
  | nil => intro t _ _ h; exact h t rfl
  | cons q r ih =>
    intro t hwf hl h
    cases t with
    | file c => simp [updS, abs, Spec.updateAt]
    | dir slots ch =>
      obtain ⟨hd, hch⟩ := (all_dir _ slots ch).1 hwf
      simp only [Lock] at hl
      have hsame : ∀ x ∈ ch, (cfgOf u).same (entryName x.1) q = matchesName (upOf u) x.1 q.toList := by
        intro x hx
        rw [same_eq, Bool.eq_iff_iff, sameName_iff, entryName_toList]
        exact ⟨matches_of_nameHit _ _ _, hl.1 x.1 (hd.mem_listing hx)⟩
      simp only [updS]
      rw [abs_dir, Spec.updateAt]
      cases hf : findEntry (upOf u) slots q.toList with
      | none =>
        simp only
        rw [abs_dir, List.map_map]
        apply congrArg Spec.TNode.dir
        apply List.map_congr_left
        intro x hx
        simp only [Function.comp]
        rw [hsame x hx, (findEntry_none_iff _ slots _).1 hf x.1 (hd.mem_listing hx)]
        simp
      | some e =>
        simp only
        rw [abs_dir, List.map_map, List.map_map]
        apply congrArg Spec.TNode.dir
        apply List.map_congr_left
        intro x hx
        simp only [Function.comp]
        obtain ⟨L1, L2, h1, h2, _⟩ := (findEntry_some_iff _ slots _ e).1 hf
        have he : e ∈ listing slots := by rw [h1]; simp
        by_cases hk : x.1 = e
        · have hm : (cfgOf u).same (entryName x.1) q = true := by rw [hsame x hx, hk]; exact h2
          simp only [hk, beq_self_eq_true, if_true]
          rw [← hk, hm]
          simp only [if_true]
          refine congrArg (Prod.mk _) ?_
          have hlk : lookupS (upOf u) slots ch q = some x := by
            unfold lookupS; rw [hf, ← hk]; exact hd.find_key hx
          exact ih x.2 (hch x hx) (hl.2 x hlk)
            (fun n hn => h n (by rw [getAtS_cons_of_mem hd hf hx hk]; exact hn))
        · have hb : (x.1 == e) = false := by simpa using hk
          have hm : (cfgOf u).same (entryName x.1) q = false := by
            rw [hsame x hx]
            cases hmm : matchesName (upOf u) x.1 q.toList with
            | false => rfl
            | true => exact absurd (match_unique _ _ hd.wf.keys x.1 (hd.mem_listing hx) e he _ hmm h2) hk
          simp only [hb, Bool.false_eq_true, if_false, hm]

end SlotTree
end FatVerif
