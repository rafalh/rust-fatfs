import FatVerif.Proofs.Prog
import FatVerif.Model.File
/-! C18.4 (stamping rules), part 1: the clock of an API operation.

The history clock advances once per API operation — in `Dev.resetOp`, at the start of the operation — and never
inside one: `Op.now` / `Op.today` return `d.clock` and change nothing, and no other primitive step touches the clock.
So every program sees ONE clock value for its whole run (`run_sameClock`), however many `TimeProvider` calls it makes;
the number of clock reads is not observable, which is what makes the correspondence robust against refactorings that
read the clock more or less often. -/
namespace FatVerif

/-- same clock counter, same clock mode -/
def SameClock (d d' : Dev) : Prop := d'.clock = d.clock ∧ d'.tick = d.tick

theorem sameClock_ok : RelOK SameClock :=
  ⟨fun _ => ⟨rfl, rfl⟩, fun _ _ _ h1 h2 => ⟨h2.1.trans h1.1, h2.2.trans h1.2⟩, fun _ _ => ⟨rfl, rfl⟩⟩

/-- a clock read returns the operation's clock value and changes nothing -/
theorem run_now (d : Dev) : run Prog.now d = (.ok d.clock, d) := by
  simp only [Prog.now, run, stepOp]

theorem run_today (d : Dev) : run Prog.today d = (.ok d.clock, d) := by
  simp only [Prog.today, run, stepOp]

/-- no primitive step changes the clock -/
theorem stepOp_sameClock (o : Op) (d : Dev) {r d'} (hr : stepOp o d = (r, d')) : SameClock d d' :=
  ⟨(stepOp_facts o d hr).clock, (stepOp_facts o d hr).tick⟩

/-- **no program changes the clock**: whatever `p` does — device calls, clock reads, error handling, destructors —
    the device afterwards has the clock value and mode it started with (instance of the `Steps` framework) -/
theorem run_sameClock {α} {p : Prog α} {d : Dev} {r : Except Err α} {d' : Dev} (hr : run p d = (r, d')) :
    SameClock d d' :=
  (steps_of_ops sameClock_ok (fun o d _ _ h => stepOp_sameClock o d h) p).out d r d' hr

/-- the clock advances exactly at the start of an API operation, by one step in tick mode, not at all otherwise -/
theorem resetOp_clock (d : Dev) (failAt : Option Nat) :
    (d.resetOp failAt).clock = (if d.tick then d.clock + Dev.clockStep else d.clock) ∧ (d.resetOp failAt).tick = d.tick := by
  unfold Dev.resetOp; exact ⟨rfl, rfl⟩

end FatVerif
