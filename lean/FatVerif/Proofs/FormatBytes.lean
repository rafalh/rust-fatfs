import FatVerif.Proofs.FormatOk
/-! The spec's decoder inverts the model's serialisation on every boot sector whose fields fit their on-disk widths
    (`FBoot.Sized`), in particular on those `format_boot_sector` builds. The serialisation is a concatenation of
    pieces; cutting it by the piece sizes of the layout gives the pieces back (`splitSizes_flatten`), and every reader
    of the decoder is the little-endian value of such a cut (`rd16_eq` …). -/
namespace FatVerif.Format
open FatVerif.FormatSpec

/-- field ranges of the option fields that are copied into the boot sector (their Rust types) -/
structure InRange (o : FormatOpts) : Prop where
  media : o.media < 256
  spt : o.spt < 65536
  heads : o.heads < 65536
  drive : ∀ d, o.driveNum = some d → d < 256
  volumeId : o.volumeId < 4294967296
  label : ∀ l, o.label = some l → l.length = 11

/-- cut a list into pieces of the given sizes -/
def splitSizes : List Nat → List Nat → List (List Nat)
  | [], _ => []
  | n :: ns, bs => bs.take n :: splitSizes ns (bs.drop n)

/-- … which recovers the pieces of a concatenation -/
theorem splitSizes_flatten : ∀ (cs : List (List Nat)) (rest : List Nat),
    splitSizes (cs.map List.length) (cs.flatten ++ rest) = cs
  | [], _ => rfl
  | c :: cs, rest => by
    rw [List.map_cons, splitSizes, List.flatten_cons, List.append_assoc, List.take_left', List.drop_left',
      splitSizes_flatten cs rest] <;> rfl

/-- a concatenation cut by the sizes of its pieces -/
theorem splitSizes_of_flatten {cs : List (List Nat)} {ns S : List Nat} (hS : S = cs.flatten)
    (hmap : cs.map List.length = ns) : splitSizes ns S = cs ∧ S.length = ns.sum := by
  have := splitSizes_flatten cs []
  rw [List.append_nil, hmap, ← hS] at this
  exact ⟨this, by rw [hS, List.length_flatten, hmap]⟩

/-- little-endian value of a byte string -/
def leVal : List Nat → Nat
  | [] => 0
  | b :: bs => b + 256 * leVal bs

theorem getD_drop' (bs : List Nat) (i k : Nat) : (bs.drop i).getD k 0 = rd8 bs (i + k) := by
  simp [rd8, List.getD_eq_getElem?_getD, List.getElem?_drop]

theorem rd8_eq (bs : List Nat) (i : Nat) : rd8 bs i = leVal ((bs.drop i).take 1) := by
  rw [← Nat.add_zero i, ← getD_drop', Nat.add_zero]
  rcases bs.drop i with _ | ⟨a, t⟩ <;> simp [leVal]

theorem rd16_eq (bs : List Nat) (i : Nat) : rd16 bs i = leVal ((bs.drop i).take 2) := by
  unfold rd16
  rw [← getD_drop', ← Nat.add_zero i, ← getD_drop', Nat.add_zero]
  rcases bs.drop i with _ | ⟨a, _ | ⟨b, t⟩⟩ <;> simp [leVal]

theorem rd32_eq (bs : List Nat) (i : Nat) : rd32 bs i = leVal ((bs.drop i).take 4) := by
  unfold rd32
  rw [← getD_drop', ← getD_drop', ← getD_drop', ← Nat.add_zero i, ← getD_drop', Nat.add_zero]
  rcases bs.drop i with _ | ⟨a, _ | ⟨b, _ | ⟨c, _ | ⟨d, t⟩⟩⟩⟩ <;> simp [leVal] <;> omega

theorem rdN_eq (bs : List Nat) (i n : Nat) (h : i + n ≤ bs.length) : rdN bs i n = (bs.drop i).take n := by
  apply List.ext_getElem
  · simp [rdN]; omega
  · intro k h1 h2
    simp [rdN, rd8, List.getD_eq_getElem?_getD, List.getElem?_eq_getElem (show i + k < bs.length by simp [rdN] at h1; omega)]

theorem leVal_bytesLe16 (v : Nat) : leVal (bytesLe16 v) = v % 65536 := by simp [leVal, bytesLe16]; omega
theorem leVal_bytesLe32 (v : Nat) : leVal (bytesLe32 v) = v % 4294967296 := by simp [leVal, bytesLe32]; omega
theorem leVal_byte (v : Nat) : leVal [v] = v := by simp [leVal]

theorem bootCodeFor_length (ft : FatType) : (bootCodeFor ft).length = 448 := by cases ft <;> decide +kernel

/-- the fields of a boot sector fit their on-disk widths, and the FAT32 fields are unused on FAT12/16 -/
structure FBoot.Sized (boot : FBoot) : Prop where
  jmp : boot.bootjmp.length = 3
  oem : boot.oemName.length = 8
  code : 448 ≤ boot.bootCode.length
  sig : boot.bootSig.length = 2
  label : boot.bpb.label.length = 11
  fsType : boot.bpb.fsTypeLabel.length = 8
  reserved0 : boot.bpb.spf16 = 0 → boot.bpb.reserved0.length = 12
  u8 : ∀ v ∈ [boot.bpb.spc, boot.bpb.fats, boot.bpb.media, boot.bpb.driveNum, boot.bpb.reserved1, boot.bpb.extSig],
    v < 256
  u16 : ∀ v ∈ [boot.bpb.bps, boot.bpb.reserved, boot.bpb.rootEntries, boot.bpb.totalSectors16, boot.bpb.spf16,
    boot.bpb.spt, boot.bpb.heads, boot.bpb.extFlags, boot.bpb.fsVersion, boot.bpb.fsInfoSector, boot.bpb.backupBoot],
    v < 65536
  u32 : ∀ v ∈ [boot.bpb.hidden, boot.bpb.totalSectors32, boot.bpb.spf32, boot.bpb.rootCluster, boot.bpb.volumeId],
    v < 4294967296
  ext : boot.bpb.spf16 ≠ 0 → boot.bpb.spf32 = 0 ∧ boot.bpb.extFlags = 0 ∧ boot.bpb.fsVersion = 0 ∧
    boot.bpb.rootCluster = 0 ∧ boot.bpb.fsInfoSector = 0 ∧ boot.bpb.backupBoot = 0

/-- **the decoder inverts the serialisation** of every sized boot sector, which has 512 bytes -/
theorem decodeBoot_serialize (boot : FBoot) (h : boot.Sized) :
    decodeBoot boot.serialize = viewOfBoot boot ∧ boot.serialize.length = 512 := by
  have m8 := fun v hv => Nat.mod_eq_of_lt (h.u8 v hv)
  have m16 := fun v hv => Nat.mod_eq_of_lt (h.u16 v hv)
  have m32 := fun v hv => Nat.mod_eq_of_lt (h.u32 v hv)
  simp only [List.mem_cons, List.mem_nil_iff, or_false, forall_eq_or_imp, forall_eq] at m8 m16 m32
  by_cases h32 : boot.bpb.spf16 = 0
  · -- FAT32 layout: the extension at 36, the extended boot record at 64
    have hcode : (boot.bootCode.take 420).length = 420 := by rw [List.length_take]; have := h.code; omega
    obtain ⟨hsp, hlen⟩ := splitSizes_of_flatten
      (cs := [boot.bootjmp, boot.oemName, bytesLe16 boot.bpb.bps, [boot.bpb.spc % 256],
        bytesLe16 boot.bpb.reserved, [boot.bpb.fats % 256], bytesLe16 boot.bpb.rootEntries,
        bytesLe16 boot.bpb.totalSectors16, [boot.bpb.media % 256], bytesLe16 boot.bpb.spf16, bytesLe16 boot.bpb.spt,
        bytesLe16 boot.bpb.heads, bytesLe32 boot.bpb.hidden, bytesLe32 boot.bpb.totalSectors32,
        bytesLe32 boot.bpb.spf32, bytesLe16 boot.bpb.extFlags, bytesLe16 boot.bpb.fsVersion,
        bytesLe32 boot.bpb.rootCluster, bytesLe16 boot.bpb.fsInfoSector, bytesLe16 boot.bpb.backupBoot,
        boot.bpb.reserved0, [boot.bpb.driveNum % 256], [boot.bpb.reserved1 % 256], [boot.bpb.extSig % 256],
        bytesLe32 boot.bpb.volumeId, boot.bpb.label, boot.bpb.fsTypeLabel, boot.bootCode.take 420, boot.bootSig])
      (ns := [3, 8, 2, 1, 2, 1, 2, 2, 1, 2, 2, 2, 4, 4, 4, 2, 2, 4, 2, 2, 12, 1, 1, 1, 4, 11, 8, 420, 2])
      (S := boot.serialize) (by simp [FBoot.serialize, FBpb.serialize, FBpb.isFat32, h32])
      (by simp [bytesLe16, bytesLe32, h.jmp, h.oem, h.sig, h.label, h.fsType, h.reserved0 h32, hcode])
    have hlen : boot.serialize.length = 512 := hlen
    refine ⟨?_, hlen⟩
    generalize boot.serialize = S at *
    have rN := fun i n (hh : i + n ≤ 512) => rdN_eq S i n (hlen ▸ hh)
    simp only [splitSizes, List.drop_drop, Nat.reduceAdd, List.cons.injEq, and_true] at hsp
    simp only [decodeBoot, rN, rd8_eq, rd16_eq, rd32_eq, List.drop_zero, hsp, leVal_bytesLe16, leVal_bytesLe32,
      leVal_byte, m8, m16, m32, h32, Nat.reduceAdd, Nat.reduceLeDiff, Nat.zero_mod, if_true, viewOfBoot]
  · -- FAT12/16 layout: the extended boot record at 36; the FAT32 fields are 0
    have hcode : (boot.bootCode.take 448).length = 448 := by rw [List.length_take]; have := h.code; omega
    obtain ⟨hsp, hlen⟩ := splitSizes_of_flatten
      (cs := [boot.bootjmp, boot.oemName, bytesLe16 boot.bpb.bps, [boot.bpb.spc % 256],
        bytesLe16 boot.bpb.reserved, [boot.bpb.fats % 256], bytesLe16 boot.bpb.rootEntries,
        bytesLe16 boot.bpb.totalSectors16, [boot.bpb.media % 256], bytesLe16 boot.bpb.spf16, bytesLe16 boot.bpb.spt,
        bytesLe16 boot.bpb.heads, bytesLe32 boot.bpb.hidden, bytesLe32 boot.bpb.totalSectors32,
        [boot.bpb.driveNum % 256], [boot.bpb.reserved1 % 256], [boot.bpb.extSig % 256],
        bytesLe32 boot.bpb.volumeId, boot.bpb.label, boot.bpb.fsTypeLabel, boot.bootCode.take 448, boot.bootSig])
      (ns := [3, 8, 2, 1, 2, 1, 2, 2, 1, 2, 2, 2, 4, 4, 1, 1, 1, 4, 11, 8, 448, 2])
      (S := boot.serialize) (by simp [FBoot.serialize, FBpb.serialize, FBpb.isFat32, h32])
      (by simp [bytesLe16, bytesLe32, h.jmp, h.oem, h.sig, h.label, h.fsType, hcode])
    have hlen : boot.serialize.length = 512 := hlen
    refine ⟨?_, hlen⟩
    obtain ⟨e1, e2, e3, e4, e5, e6⟩ := h.ext h32
    generalize boot.serialize = S at *
    have rN := fun i n (hh : i + n ≤ 512) => rdN_eq S i n (hlen ▸ hh)
    simp only [splitSizes, List.drop_drop, Nat.reduceAdd, List.cons.injEq, and_true] at hsp
    simp only [decodeBoot, rN, rd8_eq, rd16_eq, rd32_eq, List.drop_zero, hsp, leVal_bytesLe16, leVal_bytesLe32,
      leVal_byte, m8, m16, m32, h32, Nat.reduceAdd, Nat.reduceLeDiff, if_false, viewOfBoot, e1, e2, e3, e4, e5, e6]

/-- the boot sectors `format_boot_sector` assembles are sized -/
theorem LayoutOk.sized {o : FormatOpts} {t spf spc : Nat} {ft : FatType} (h : LayoutOk o t ft spf spc)
    (hacc : Accepted o) (hr : InRange o) (ht : t < 4294967296) : (bootOf o t ft spf spc).Sized := by
  have hbps : o.bps < 65536 := by have := bps_bounds hacc.bps; omega
  have hspc : spc < 256 := by have := spc_bounds h.spc_mem; omega
  have hfats : o.fats < 256 := by have := hacc.fats; omega
  have hroot := hacc.root
  have hspf32 := h.spf32
  have hlab : (o.label.getD noNameLabel).length = 11 := by
    cases hl : o.label with
    | none => rfl
    | some l => exact hr.label l hl
  have hdn : ∀ x, x < 256 → o.driveNum.getD x < 256 := by
    intro x hx
    cases hd : o.driveNum with
    | none => exact hx
    | some d => exact hr.drive d hd
  have hd0 := hdn 0 (by omega)
  have hd80 := hdn 0x80 (by omega)
  have h16' : ft ≠ .fat32 → spf < 65536 := fun hne => Nat.lt_succ_of_le (h.spf16 hne)
  obtain ⟨hm, hs, hh, _, hv, _⟩ := hr
  cases ft <;> constructor <;>
    simp [bootOf, mkBpb, bootJmpFor, oemName, reservedFor, fsTypeLabelOf, bootCodeFor_length, *]
  all_goals (split <;> omega)

/-- … so on the boot sector of every accepted request: the decoder recovers the fields, and there are 512 bytes -/
theorem decode_of_ok {o : FormatOpts} {t : Nat} {boot : FBoot} {ft : FatType} (hacc : Accepted o) (hr : InRange o)
    (ht : t < 4294967296) (hc : formatChecked o t = .ok (boot, ft)) :
    decodeBoot boot.serialize = viewOfBoot boot ∧ boot.serialize.length = 512 := by
  obtain ⟨spf, spc, rfl, hl⟩ := formatChecked_sized hacc ht hc
  exact decodeBoot_serialize _ (hl.sized hacc hr ht)

end FatVerif.Format
