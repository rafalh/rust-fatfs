import FatVerif.Model.FatAlgo
/-! Byte-array lemmas for the FAT codec: `rd`/`wr` and the 16/32-bit little-endian accessors. -/
namespace FatVerif.Fat

theorem size_wr (f : Array Nat) (i v : Nat) : (wr f i v).size = f.size := by
  simp [wr]

theorem rd_wr (f : Array Nat) (i v j : Nat) :
    rd (wr f i v) j = if j = i ∧ i < f.size then v else rd f j := by
  unfold rd wr
  simp only [Array.getD_eq_getD_getElem?, Array.getElem?_setIfInBounds]
  by_cases h : i = j
  · subst h
    by_cases h2 : i < f.size
    · simp [h2]
    · simp [h2]
  · have : ¬ (j = i) := fun e => h e.symm
    simp [h, this]

theorem rd_wr_same (f : Array Nat) (i v : Nat) (h : i < f.size) : rd (wr f i v) i = v := by
  simp [rd_wr, h]

theorem rd_wr_ne (f : Array Nat) (i v j : Nat) (h : j ≠ i) : rd (wr f i v) j = rd f j := by
  simp [rd_wr, h]

theorem rd_oob (f : Array Nat) (i : Nat) (h : f.size ≤ i) : rd f i = 0 := by
  unfold rd
  simp [Array.getD_eq_getD_getElem?]
  have : f[i]? = none := by simp; omega
  simp [this]

theorem size_wr16 (f : Array Nat) (o v : Nat) : (wr16 f o v).size = f.size := by
  simp [wr16, size_wr]

theorem size_wr32 (f : Array Nat) (o v : Nat) : (wr32 f o v).size = f.size := by
  simp [wr32, size_wr]

theorem rd_wr16 (f : Array Nat) (o v j : Nat) (h : o + 2 ≤ f.size) :
    rd (wr16 f o v) j = if j = o then v % 256 else if j = o + 1 then v / 256 % 256 else rd f j := by
  unfold wr16
  rw [rd_wr, size_wr, rd_wr]
  by_cases h1 : j = o
  · subst h1; simp <;> omega
  · by_cases h2 : j = o + 1
    · subst h2; simp <;> omega
    · simp [h1, h2]

theorem rd_wr32 (f : Array Nat) (o v j : Nat) (h : o + 4 ≤ f.size) :
    rd (wr32 f o v) j = if j = o then v % 256 else if j = o + 1 then v / 256 % 256
      else if j = o + 2 then v / 65536 % 256 else if j = o + 3 then v / 16777216 % 256 else rd f j := by
  unfold wr32
  rw [rd_wr, size_wr, size_wr, size_wr, rd_wr, size_wr, size_wr, rd_wr, size_wr, rd_wr]
  by_cases h1 : j = o
  · subst h1
    simp <;> omega
  · by_cases h2 : j = o + 1
    · subst h2
      simp <;> omega
    · by_cases h3 : j = o + 2
      · subst h3
        simp <;> omega
      · by_cases h4 : j = o + 3
        · subst h4; simp <;> omega
        · simp [h1, h2, h3, h4]

theorem array_ext_rd (a b : Array Nat) (hs : a.size = b.size) (h : ∀ i, i < a.size → rd a i = rd b i) : a = b := by
  apply Array.ext hs
  intro i h1 h2
  have := h i h1
  unfold rd at this
  rw [Array.getD_eq_getD_getElem?, Array.getD_eq_getD_getElem?, Array.getElem?_eq_getElem h1,
    Array.getElem?_eq_getElem h2] at this
  simpa using this

theorem size_writeBytes : ∀ (bs : List Nat) (f : Array Nat) (o : Nat), (writeBytes f o bs).size = f.size
  | [], _, _ => rfl
  | _ :: bs, f, o => by rw [writeBytes, size_writeBytes bs, size_wr]

theorem rd_writeBytes : ∀ (bs : List Nat) (f : Array Nat) (o j : Nat), o + bs.length ≤ f.size →
    rd (writeBytes f o bs) j = if o ≤ j ∧ j < o + bs.length then bs.getD (j - o) 0 else rd f j
  | [], f, o, j, _ => by rw [writeBytes, if_neg (by simp)]
  | b :: bs, f, o, j, h => by
    rw [List.length_cons] at h
    rw [writeBytes, rd_writeBytes bs _ _ _ (by rw [size_wr]; omega), rd_wr, List.length_cons]
    by_cases h0 : j = o
    · subst h0
      rw [if_neg (by omega), if_pos ⟨rfl, by omega⟩, if_pos (by omega), Nat.sub_self, List.getD_cons_zero]
    · by_cases h1 : o + 1 ≤ j ∧ j < o + 1 + bs.length
      · rw [if_pos h1, if_pos (by omega), show j - o = j - (o + 1) + 1 by omega, List.getD_cons_succ]
      · rw [if_neg h1, if_neg (fun h => h0 h.1), if_neg (by omega)]

theorem wr16_eq_writeBytes (f : Array Nat) (o v : Nat) : wr16 f o v = writeBytes f o (bytesLe16 v) := rfl

theorem wr32_eq_writeBytes (f : Array Nat) (o v : Nat) : wr32 f o v = writeBytes f o (bytesLe32 v) := rfl

theorem bytesLe16_lt (v : Nat) : ∀ k, (bytesLe16 v).getD k 0 < 256
  | 0 | 1 => Nat.mod_lt _ (by decide)
  | _ + 2 => Nat.zero_lt_succ _

theorem bytesLe32_lt (v : Nat) : ∀ k, (bytesLe32 v).getD k 0 < 256
  | 0 | 1 | 2 | 3 => Nat.mod_lt _ (by decide)
  | _ + 4 => Nat.zero_lt_succ _

/-- an array that reads like `a` with `bs` patched in at `o` is `writeBytes a o bs` -/
theorem eq_writeBytes_of_rd {a b : Array Nat} {o : Nat} {bs : List Nat} (hs : b.size = a.size)
    (ho : o + bs.length ≤ a.size)
    (h : ∀ i, i < a.size → rd b i = if o ≤ i ∧ i < o + bs.length then bs.getD (i - o) 0 else rd a i) :
    b = writeBytes a o bs := by
  apply array_ext_rd _ _ (by rw [hs, size_writeBytes])
  intro i hi
  rw [h i (hs ▸ hi), rd_writeBytes _ _ _ _ ho]

theorem wfBytes_wr (f : Array Nat) (i v : Nat) (hf : WfBytes f) (hv : v < 256) : WfBytes (wr f i v) := by
  intro j
  rw [rd_wr]
  split
  · exact hv
  · exact hf j

theorem wfBytes_wr16 (f : Array Nat) (o v : Nat) (hf : WfBytes f) : WfBytes (wr16 f o v) := by
  unfold wr16
  exact wfBytes_wr _ _ _ (wfBytes_wr _ _ _ hf (by omega)) (by omega)

theorem wfBytes_wr32 (f : Array Nat) (o v : Nat) (hf : WfBytes f) : WfBytes (wr32 f o v) := by
  unfold wr32
  exact wfBytes_wr _ _ _ (wfBytes_wr _ _ _ (wfBytes_wr _ _ _ (wfBytes_wr _ _ _ hf (by omega)) (by omega)) (by omega))
    (by omega)

theorem rd16_lt (f : Array Nat) (hf : WfBytes f) (o : Nat) : rd16 f o < 65536 := by
  have := hf o; have := hf (o + 1); unfold rd16; omega

theorem rd32_lt (f : Array Nat) (hf : WfBytes f) (o : Nat) : rd32 f o < 4294967296 := by
  have := hf o; have := hf (o + 1); have := hf (o + 2); have := hf (o + 3); unfold rd32; omega

/-- `WfBytes` of a concrete array, by evaluation -/
theorem wfBytes_of_all (f : Array Nat) (h : f.toList.all (fun x => decide (x < 256)) = true) : WfBytes f := by
  intro i
  unfold rd
  rw [Array.getD_eq_getD_getElem?]
  by_cases hi : i < f.size
  · rw [Array.getElem?_eq_getElem hi]
    simp only [Option.getD_some]
    rw [List.all_eq_true] at h
    have := h f[i] (by simp)
    simpa using this
  · have : f[i]? = none := by simp; omega
    rw [this]; simp

/-- `x &&& 0xF0000000` of a u32, arithmetically -/
theorem and_top_nibble (x : Nat) (hx : x < 4294967296) : x &&& 0xF0000000 = x / 268435456 * 268435456 := by
  apply Nat.eq_of_testBit_eq
  intro i
  rw [Nat.testBit_and]
  have e1 : (0xF0000000 : Nat) = (2 ^ 4 - 1) * 2 ^ 28 := by decide
  have e2 : (268435456 : Nat) = 2 ^ 28 := by decide
  rw [e1, e2, Nat.testBit_mul_two_pow, Nat.testBit_mul_two_pow, Nat.testBit_two_pow_sub_one,
    Nat.testBit_div_two_pow]
  by_cases h : 28 ≤ i
  · simp [h]
    intro hb
    apply Classical.byContradiction
    intro h2
    have : x.testBit i = false := by
      apply Nat.testBit_lt_two_pow
      calc x < 2 ^ 32 := by simpa using hx
        _ ≤ 2 ^ i := Nat.pow_le_pow_right (by decide) (by omega)
    rw [this] at hb; cases hb
  · simp [h]

end FatVerif.Fat

namespace FatVerif

/-- the low 28 bits of a FAT32 entry are its value: a part above them (the reserved top nibble) does not show -/
theorem or_hi_mod (a r : Nat) (ha : a < 268435456) (hr : r % 268435456 = 0) : (a ||| r) % 268435456 = a := by
  have : (268435456 : Nat) = 2 ^ 28 := by decide
  rw [this] at hr ⊢
  rw [Nat.or_mod_two_pow, hr, Nat.or_zero]
  exact Nat.mod_eq_of_lt (by rw [← this]; exact ha)

end FatVerif
