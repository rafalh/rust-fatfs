import FatVerif.Model.Names
/-! Lemmas for C15.4 (case-insensitive lookup) and the checksum specification (C16.4). -/
namespace FatVerif.Names

/-! ## `lfn_checksum` is the specification's rotate-right-and-add -/

theorem chkStep_eq (sum b : Nat) : lfnChecksumStep sum b = specChkStep sum b := by
  unfold lfnChecksumStep specChkStep
  split <;> omega

theorem lfnChecksum_fold (l : List Nat) (acc : Nat) : l.foldl lfnChecksumStep acc = specLfnChecksum l acc := by
  induction l generalizing acc with
  | nil => rfl
  | cons b bs ih => simp only [List.foldl_cons, specLfnChecksum, chkStep_eq]; exact ih _

/-! ## the comparison loop -/

theorem consume_eq_some_iff (xs other rest : List Char) : consume xs other = some rest ↔ other = xs ++ rest := by
  induction xs generalizing other with
  | nil => simp [consume, eq_comm]
  | cons x xs ih =>
    cases other with
    | nil => simp [consume]
    | cons y ys =>
      simp only [consume, List.cons_append, List.cons.injEq]
      by_cases h : x = y
      · subst h; simp [ih]
      · simp [h]; intro h'; exact absurd h'.symm h

theorem lfnLoop_iff (upper : Char → List Char) (ds : List (Option Char)) (other : List Char) :
    lfnLoop upper ds other = true ↔ ∃ cs : List Char, ds = cs.map some ∧ other = fold upper cs := by
  induction ds generalizing other with
  | nil =>
    simp only [lfnLoop, List.isEmpty_iff]
    constructor
    · rintro rfl; exact ⟨[], rfl, rfl⟩
    · rintro ⟨cs, h1, h2⟩
      cases cs with
      | nil => exact h2
      | cons _ _ => simp at h1
  | cons d ds ih =>
    cases d with
    | none =>
      simp only [lfnLoop, Bool.false_eq_true, false_iff]
      rintro ⟨cs, h1, _⟩
      cases cs <;> simp at h1
    | some c =>
      simp only [lfnLoop]
      constructor
      · intro h
        split at h
        · cases h
        · rename_i other' hc
          obtain ⟨cs, h1, h2⟩ := (ih other').1 h
          refine ⟨c :: cs, by simp [h1], ?_⟩
          rw [(consume_eq_some_iff _ _ _).1 hc, h2]; simp [fold]
      · rintro ⟨cs, h1, h2⟩
        cases cs with
        | nil => simp at h1
        | cons c' cs =>
          simp only [List.map_cons, List.cons.injEq, Option.some.injEq] at h1
          obtain ⟨rfl, h1⟩ := h1
          have hc : consume (upper c) other = some (fold upper cs) :=
            (consume_eq_some_iff _ _ _).2 (by rw [h2]; simp [fold])
          rw [hc]
          exact (ih _).2 ⟨cs, h1, rfl⟩

theorem eqNameLfn_iff (upper : Char → List Char) (units : List Nat) (q : List Char) :
    eqNameLfn upper units q = true ↔
      units ≠ [] ∧ ∃ cs : List Char, decodeUtf16 units = cs.map some ∧ fold upper q = fold upper cs := by
  unfold eqNameLfn
  by_cases h : units = []
  · simp [h]
  · simp only [List.isEmpty_iff, h, if_false, ne_eq, not_false_eq_true, true_and]
    exact lfnLoop_iff upper _ _

theorem eqIgnoreCase_iff (upper : Char → List Char) (raw : List Nat) (q : List Char) :
    eqIgnoreCase upper raw q = true ↔ fold upper q = fold upper (aliasDisplay raw) := by
  unfold eqIgnoreCase
  rw [beq_iff_eq]
  exact eq_comm

/-! ## UTF-16 round trip -/

theorem char_range (c : Char) : c.toNat < 0xD800 ∨ (0xDFFF < c.toNat ∧ c.toNat < 0x110000) := c.valid

theorem decode_encode (s : List Char) : decodeUtf16 (encodeUtf16 s) = s.map some := by
  induction s with
  | nil => rfl
  | cons c cs ih =>
    have hr := char_range c
    unfold encodeUtf16
    by_cases h : c.toNat < 0x10000
    · simp only [h, if_true]
      unfold decodeUtf16
      have : c.toNat < 0xD800 ∨ 0xDFFF < c.toNat := by omega
      simp only [this, if_true, ih, Char.ofNat_toNat, List.map_cons]
    · simp only [h, if_false]
      unfold decodeUtf16
      have h1 : ¬ (0xD800 + (c.toNat - 0x10000) / 1024 < 0xD800 ∨ 0xDFFF < 0xD800 + (c.toNat - 0x10000) / 1024) := by
        omega
      have h2 : ¬ (0xDC00 ≤ 0xD800 + (c.toNat - 0x10000) / 1024) := by omega
      have h3 : 0xDC00 ≤ 0xDC00 + (c.toNat - 0x10000) % 1024 ∧ 0xDC00 + (c.toNat - 0x10000) % 1024 ≤ 0xDFFF := by
        omega
      have h4 : 0x10000 + (0xD800 + (c.toNat - 0x10000) / 1024 - 0xD800) * 1024 +
          (0xDC00 + (c.toNat - 0x10000) % 1024 - 0xDC00) = c.toNat := by omega
      simp only [h1, h2, h3, h4, if_false, if_true, and_self, ih, Char.ofNat_toNat, List.map_cons]

theorem encodeUtf16_ne_nil {s : List Char} (h : s ≠ []) : encodeUtf16 s ≠ [] := by
  cases s with
  | nil => exact absurd rfl h
  | cons c cs => unfold encodeUtf16; split <;> simp

theorem map_some_inj {a b : List Char} (h : a.map some = b.map some) : a = b :=
  (List.map_inj_right fun _ _ => Option.some.inj).mp h

/-- against an entry whose long name is the UTF-16 encoding of `s`, the long-name comparison is exactly
    equality of the case-folded strings -/
theorem eqNameLfn_encode (upper : Char → List Char) {s : List Char} (hs : s ≠ []) (q : List Char) :
    eqNameLfn upper (encodeUtf16 s) q = true ↔ fold upper q = fold upper s := by
  rw [eqNameLfn_iff, decode_encode]
  constructor
  · rintro ⟨_, cs, h1, h2⟩; rw [map_some_inj h1]; exact h2
  · intro h; exact ⟨encodeUtf16_ne_nil hs, s, rfl, h⟩

end FatVerif.Names
