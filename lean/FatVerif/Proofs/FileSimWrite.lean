import FatVerif.Proofs.FileSimDirty
import FatVerif.Proofs.FileSimRead
import FatVerif.Proofs.FileSimEditor
import FatVerif.Proofs.AfterWrite
import FatVerif.Proofs.FileWriteForm
/-!
# FileSim / write: `File::write` read through its normal form, and its data step

The normal form `write_eq` (Proofs/FileWriteForm): `File::write` = status byte, cluster selection `selCluster`, data step
`writeTail`, like the machine's `write` = `writeCluster` then `put`.  For any handle: `run_selCluster_some` /
`run_selCluster_alloc` (the selection once its reads are evaluated) and `run_write_of_sel` (the whole call once the
cluster is selected).  `writeTail_sim`: the data step on a represented handle whose cursor has a cluster is the
machine's `put`: the image changes by one piece of that cluster, the FAT is untouched, the handle is represented again
(`FileRep.of_core`: core-equal to a state with the machine's invariant, plus the FAT side).
-/
namespace FatVerif.FileSim
open FatVerif FatVerif.Fat

/-- the invariant of the machine only depends on the core fields -/
theorem AFileInv.of_coreEq {σ : Type} {isFree : σ → Nat → Prop} {a b : Cursor.AFile} {s : σ} (h : CoreEq b a)
    (hi : Cursor.AFileInv isFree a s) : Cursor.AFileInv isFree b s :=
  ⟨by rw [h.cs]; exact hi.cs_pos, by rw [h.chain]; exact hi.nodup, by rw [h.first, h.chain]; exact hi.first,
   by rw [h.size, h.chain, h.cs]; exact hi.cover, by rw [h.offset, h.size]; exact hi.off_le,
   by rw [h.size]; exact hi.size_le, by rw [h.current, h.offset, h.chain, h.cs]; exact hi.cur,
   by rw [h.chain]; exact hi.live⟩

/-- the machine's data step respects core equality -/
theorem CoreEq.put {a b : Cursor.AFile} (h : CoreEq a b) (c : Nat) (bs : List Nat) : CoreEq (a.put c bs) (b.put c bs) := by
  refine ⟨h.cs, h.chain, fun x hx j hj => ?_, ?_, h.first, ?_, rfl⟩
  · show Cursor.AFile.putBytes a.data c (a.offset % a.cs) bs.toArray x j =
      Cursor.AFile.putBytes b.data c (b.offset % b.cs) bs.toArray x j
    unfold Cursor.AFile.putBytes
    rw [h.offset, h.cs]
    split
    · rfl
    · exact h.data x hx j hj
  · show (if a.size < a.offset + bs.length then a.offset + bs.length else a.size) =
      if b.size < b.offset + bs.length then b.offset + bs.length else b.size
    rw [h.size, h.offset]
  · show a.offset + bs.length = b.offset + bs.length
    rw [h.offset]

/-- distinct clusters do not overlap: the byte `j < cs` of cluster `c` lies in `[clusterOff cur + o, … + w)` exactly
    when `c = cur` and `j ∈ [o, o + w)` -/
theorem cluster_range_iff (fs : FsState) {c cur j o w : Nat} (hc : 2 ≤ c) (hcur : 2 ≤ cur)
    (hj : j < fs.clusterSize) (how : o + w ≤ fs.clusterSize) :
    (clusterOff fs cur + o ≤ clusterOff fs c + j ∧ clusterOff fs c + j < clusterOff fs cur + o + w) ↔
    (c = cur ∧ o ≤ j ∧ j < o + w) := by
  constructor
  · rintro ⟨h1, h2⟩
    rcases Nat.lt_trichotomy c cur with hlt | heq | hgt
    · exfalso
      have := clusterOff_mono fs (show c + 1 ≤ cur by omega)
      rw [clusterOff_succ fs c hc] at this
      omega
    · subst heq; exact ⟨rfl, by omega, by omega⟩
    · exfalso
      have := clusterOff_mono fs (show cur + 1 ≤ c by omega)
      rw [clusterOff_succ fs cur hcur] at this
      omega
  · rintro ⟨rfl, h1, h2⟩
    exact ⟨by omega, by omega⟩

theorem size?_setSize (e : DirEntryEditor) (sz n : Nat) (h : e.data.size? = some sz) :
    (e.setSize n).data.size? = some n := by
  unfold DirEntryEditor.setSize
  rw [h]
  simp only
  split
  · unfold DirFileEntryData.size? DirFileEntryData.setSize at *
    split at h
    · rename_i hf
      have : ({ e.data with size := n } : DirFileEntryData).isFile = e.data.isFile := rfl
      simp only [this, hf, if_true]
    · cases h
  · rename_i hne
    have : n = sz := Decidable.of_not_not hne
    rw [h, this]

/-- `update_dir_entry_after_write` (the function `FileH.afterWrite`, Proofs/AfterWrite.lean) for a regular file: the
    recorded size grows to the cursor if it is beyond -/
theorem afterWrite_file (f : FileH) (t sz : Nat) (hsz : f.size? = some sz) :
    (f.afterWrite t).size? = some (if f.offset > sz then f.offset else sz) ∧ ∀ ft, EdStep ft f (f.afterWrite t) := by
  unfold FileH.size? at hsz
  unfold FileH.afterWrite FileH.size?
  cases he : f.entry with
  | none => rw [he] at hsz; cases hsz
  | some e =>
    rw [he] at hsz
    have h1 : (e.setModified (clockDateTime t)).data.size? = some sz := by
      rw [size?_setModified]; exact hsz
    simp only [Option.map, DirEntryEditor.afterWrite, h1]
    refine ⟨?_, fun ft => ⟨fun e0 h0 => ?_⟩⟩
    · split
      · exact size?_setSize _ sz _ h1
      · exact h1
    · rw [he] at h0; cases h0
      refine ⟨_, rfl, ?_, fun hw ho => ?_, fun hf _ => ?_⟩
      · split
        · exact (EdRel.setModified e _).trans (EdRel.setSize _ _)
        · exact EdRel.setModified e _
      · split
        · exact wf_setSize (wf_setModified_clock hw _) _ ho
        · exact wf_setModified_clock hw _
      · split
        · rw [first_setSize, first_setModified]; exact hf
        · rw [first_setModified]; exact hf

theorem writeTail_geom {a b : FsState} (h : FsGeomEq a b) (f0 : FileH) (buf : List Nat) (w : Nat) (x : Nat × FileH) :
    writeTail f0 a buf w x = writeTail f0 b buf w x := by rw [h]; rfl

/-- `selCluster` (the cluster `File::write` goes to) where `File::read`'s selection finds a cluster: that one -/
theorem run_selCluster_some (f : FileH) (fs : FsState) {d d1 : Dev} {cur : Nat}
    (h : run (if f.offset % fs.clusterSize = 0 then f.boundaryCluster else pure f.currentCluster) d = (.ok (some cur), d1)) :
    run (selCluster f fs) d = (.ok (cur, f), d1) := by
  unfold selCluster
  by_cases hm : f.offset % fs.clusterSize = 0
  · rw [if_pos hm] at h ⊢
    rw [run_bind_ok h]; rfl
  · rw [if_neg hm] at h ⊢
    have h' : (Except.ok f.currentCluster, d) = (Except.ok (some cur), d1) := h
    injection h' with ha hb
    injection ha with ha
    rw [ha, ← hb]; rfl

/-- `selCluster` on a cluster boundary behind the last cluster: `alloc_cluster` with the current cluster as predecessor;
    an empty file gets its first cluster -/
theorem run_selCluster_alloc (f : FileH) (fs : FsState) {d d1 d2 : Dev} {c : Nat} (hm : f.offset % fs.clusterSize = 0)
    (h : run f.boundaryCluster d = (.ok none, d1))
    (ha : run (allocClusterFs f.currentCluster f.isDir) d1 = (.ok c, d2)) :
    run (selCluster f fs) d =
      (.ok (c, if f.firstCluster.isNone = true then FileH.setFirstCluster fs f c else f), d2) := by
  unfold selCluster
  rw [if_pos hm, run_bind_ok h]
  simp only
  rw [run_bind_ok ha]
  rfl

/-- the rest of `File::write` once the cluster `cur` is known: `w` bytes go to the device at the cursor's position in
    `cur`, the handle advances and its entry is updated -/
theorem run_writeTail_eq (f0 : FileH) (fs : FsState) (buf : List Nat) (w cur : Nat) (f2 : FileH) (d2 : Dev)
    (hg : Geo fs d2.img.size) (hfa : d2.failAt = none) (hc2 : 2 ≤ cur) (hct : cur < fs.totalClusters + 2)
    (hw : 0 < w) (hwb : w ≤ buf.length) (hfit : f0.offset % fs.clusterSize + w ≤ fs.clusterSize) :
    run (writeTail f0 fs buf w (cur, f2)) d2 =
      (.ok (w, ({ f2 with offset := f2.offset + w, currentCluster := some cur } : FileH).afterWrite d2.clock),
        didWrite (d2.didSeek (clusterOff fs cur + f0.offset % fs.clusterSize)) (buf.take w)) := by
  have hdev := hg.cluster_dev hc2 hct
  have hlen : (buf.take w).length = w := by rw [List.length_take]; omega
  obtain ⟨hmin, _, hs⟩ := devStep_seek_write d2 (clusterOff fs cur + f0.offset % fs.clusterSize) (buf.take w)
    (by rw [hlen]; omega)
  unfold writeTail
  dsimp only
  rw [run_bind_ok (run_offsetFromClusterP hg cur hc2 hct d2), run_bind_ok (run_seekStart _ d2 hfa),
    run_bind_ok (run_write (buf.take w) (d2.didSeek _) hfa), hmin, hlen, if_neg (by omega),
    run_bind_ok (FileH.run_updateAfterWrite _ _), hs.clock]
  rfl

/-- **one `File::write` once its cluster is selected** (any handle): all of `bs`, which fits into the cluster, goes to `cur`
    at the cursor's position in it; the handle advances and its entry is updated -/
theorem run_write_of_sel (f f2 : FileH) (bs : List Nat) {d d1 d2 : Dev} {cur : Nat} (hne : bs ≠ [])
    (hroom : f.offset % d.fs.clusterSize + bs.length ≤ d.fs.clusterSize) (hu : f.offset + bs.length < 4294967296)
    (h1 : run (setDirtyFlag true) d = (.ok (), d1)) (h2 : run (selCluster f d.fs) d1 = (.ok (cur, f2), d2))
    (hfa : d2.failAt = none) (hg : Geo d.fs d2.img.size) (hc2 : 2 ≤ cur) (hct : cur < d.fs.totalClusters + 2) :
    run (f.write bs) d =
      (.ok (bs.length, ({ f2 with offset := f2.offset + bs.length, currentCluster := some cur } : FileH).afterWrite d2.clock),
        didWrite (d2.didSeek (clusterOff d.fs cur + f.offset % d.fs.clusterSize)) bs) := by
  have hlen : bs.length ≠ 0 := fun h => hne (List.length_eq_zero_iff.mp h)
  have hws : writeLenH f d.fs bs.length = bs.length := by unfold writeLenH; omega
  rw [write_eq, run_bind_ok (run_getFs d), hws, if_neg hlen, run_bind_ok h1, run_bind_ok h2,
    run_writeTail_eq f d.fs bs bs.length cur f2 d2 hg hfa hc2 hct (by omega) (Nat.le_refl _) hroom, List.take_length]

/-- the data region after the device write, cluster by cluster: the machine's `putBytes` -/
theorem data_after_write (fs : FsState) (img img2 img' : Img) (hwf2 : img2.WF) (cur o : Nat) (bs : List Nat)
    (hagree : DataAgree fs img img2) (himg' : img' = img2.write (clusterOff fs cur + o) bs)
    (hbytes : ∀ b ∈ bs, b < 256) (hcur : 2 ≤ cur) (hfit : o + bs.length ≤ fs.clusterSize)
    {x j : Nat} (hx : 2 ≤ x) (hj : j < fs.clusterSize) :
    img'.getByte (clusterOff fs x + j) =
      Cursor.AFile.putBytes (fun c j => img.getByte (clusterOff fs c + j)) cur o bs.toArray x j := by
  rw [himg', Img.getByte_write _ hwf2]
  unfold Cursor.AFile.putBytes
  simp only [List.size_toArray]
  have hiff := cluster_range_iff fs (c := x) (cur := cur) (j := j) (o := o) (w := bs.length) hx hcur hj hfit
  by_cases hin : x = cur ∧ o ≤ j ∧ j < o + bs.length
  · rw [if_pos (hiff.mpr hin), if_pos hin]
    obtain ⟨rfl, h1, h2⟩ := hin
    have hidx : clusterOff fs x + j - (clusterOff fs x + o) = j - o := by omega
    rw [hidx]
    have hlt : j - o < bs.length := by omega
    have hb : bs.getD (j - o) 0 < 256 := by
      rw [List.getD_eq_getElem?_getD, List.getElem?_eq_getElem hlt]
      exact hbytes _ (List.getElem_mem hlt)
    rw [Nat.mod_eq_of_lt hb]
    simp
  · rw [if_neg (fun h => hin (hiff.mp h)), if_neg hin]
    apply hagree
    have := dataStart_le_clusterOff fs x
    omega

/-- a handle is represented when it is core-equal to a state that satisfies the machine's invariant and the FAT side
    holds: its chain is the FAT chain of its first cluster, inside the table, not free, closed by an end mark -/
theorem FileRep.of_core {σ : Type} {isFree : σ → Nat → Prop} {s : σ} {fs : FsState} {img : Img} {f : FileH} {sz : Nat}
    {b : Cursor.AFile} (hsz : f.size? = some sz) (hcore : CoreEq (absFile fs img f) b)
    (hi : Cursor.AFileInv isFree b s)
    (hch : ∀ c, f.firstCluster = some c → Chain (tabView fs img) c (fileChain fs img f))
    (hin : ∀ c ∈ fileChain fs img f, 2 ≤ c ∧ c < fs.totalClusters + 2 ∧ tabView fs img c ≠ .free)
    (heoc : ∀ c, (fileChain fs img f).getLast? = some c → tabView fs img c = .eoc) : FileRep fs img f :=
  have hb := AFileInv.of_coreEq hcore hi
  ⟨⟨sz, hsz⟩, ⟨hb.cs_pos, hb.nodup, hb.first, hb.cover, hb.off_le, hb.size_le, hb.cur, fun c hc => (hin c hc).2.2⟩,
    hch, fun c hc => ⟨(hin c hc).1, (hin c hc).2.1⟩, heoc⟩

/-- **the data step of `File::write`** on a represented handle whose cursor has the cluster `cur`: the machine's `put`.
    The FAT, the chain and the mounted state stay; the one write record is a piece of `cur`. -/
theorem writeTail_sim (f0 f : FileH) (buf : List Nat) (w cur : Nat) (d : Dev)
    (hfa : d.failAt = none) (hg : Geo d.fs d.img.size) (hrep : FileRep d.fs d.img f) (hwf : d.img.WF)
    (hbytes : ∀ b ∈ buf, b < 256) (ho : f0.offset = f.offset)
    (hci : (fileChain d.fs d.img f)[f.offset / d.fs.clusterSize]? = some cur) (hw : 0 < w) (hwb : w ≤ buf.length)
    (hfit : w ≤ d.fs.clusterSize - f.offset % d.fs.clusterSize) (hmax : f.offset + w ≤ 4294967295) :
    ∃ f' d', run (writeTail f0 d.fs buf w (cur, f)) d = (.ok (w, f'), d') ∧ DevStep d d' ∧ d'.fs = d.fs ∧
      CoreEq (absFile d'.fs d'.img f') ((absFile d.fs d.img f).put cur (buf.take w)) ∧
      FileRep d'.fs d'.img f' ∧ tabView d'.fs d'.img = tabView d.fs d.img ∧
      (∀ E D : Nat → Prop, D cur → Trace d.fs E D d d') ∧ (∀ ft, EdStep ft f f') ∧
      f'.firstCluster = f.firstCluster ∧ f'.offset = f.offset + w := by
  obtain ⟨sz, hsz, hasz, _, _⟩ := hrep.size_facts
  have hmod : f.offset % d.fs.clusterSize < d.fs.clusterSize := Nat.mod_lt _ hg.cs_pos
  obtain ⟨hc2, hct⟩ := hrep.inTab cur (List.mem_of_getElem? hci)
  have hlen : (buf.take w).length = w := by rw [List.length_take]; omega
  have hdev := hg.cluster_dev hc2 hct
  have hr' := run_writeTail_eq f0 d.fs buf w cur f d hg hfa hc2 hct hw hwb (by rw [ho]; omega)
  rw [ho] at hr'
  obtain ⟨_, himg', hst'⟩ := devStep_seek_write d (clusterOff d.fs cur + f.offset % d.fs.clusterSize) (buf.take w)
    (by rw [hlen]; omega)
  have hfs' : (didWrite (d.didSeek (clusterOff d.fs cur + f.offset % d.fs.clusterSize)) (buf.take w)).fs = d.fs :=
    didWrite_fs _ _
  have hlog' : (didWrite (d.didSeek (clusterOff d.fs cur + f.offset % d.fs.clusterSize)) (buf.take w)).log =
      .write (clusterOff d.fs cur + f.offset % d.fs.clusterSize) (buf.take w) :: d.log :=
    didWrite_log _ _ (by rw [hlen]; show clusterOff d.fs cur + f.offset % d.fs.clusterSize + w ≤ d.img.size; omega)
  obtain ⟨hf4, hed⟩ := afterWrite_file { f with offset := f.offset + w, currentCluster := some cur } d.clock sz hsz
  have hf1 : (({ f with offset := f.offset + w, currentCluster := some cur } : FileH).afterWrite d.clock).firstCluster =
      f.firstCluster := rfl
  have hf2 : (({ f with offset := f.offset + w, currentCluster := some cur } : FileH).afterWrite d.clock).currentCluster =
      some cur := rfl
  have hf3 : (({ f with offset := f.offset + w, currentCluster := some cur } : FileH).afterWrite d.clock).offset =
      f.offset + w := rfl
  have hed' : ∀ ft, EdStep ft f (({ f with offset := f.offset + w, currentCluster := some cur } : FileH).afterWrite d.clock) :=
    fun ft => EdStep.of_left (g := { f with offset := f.offset + w, currentCluster := some cur }) rfl rfl (hed ft)
  -- the new handle and device as variables
  generalize ({ f with offset := f.offset + w, currentCluster := some cur } : FileH).afterWrite d.clock = f' at *
  generalize didWrite (d.didSeek (clusterOff d.fs cur + f.offset % d.fs.clusterSize)) (buf.take w) = d' at *
  have hcur_data := dataStart_le_clusterOff d.fs cur
  have hfat' : FatAgree d.fs d.img d'.img := by
    intro q _ h2
    have := hg.fat_data
    have hm1 : (fatSliceOf d.fs).size ≤ (fatSliceOf d.fs).mirrors * (fatSliceOf d.fs).size :=
      Nat.le_mul_of_pos_left _ hg.mirrors_pos
    rw [himg', Img.getByte_write_of_not_mem _ hwf _ _ _ (by omega)]
  have htv' : tabView d'.fs d'.img = tabView d.fs d.img := by rw [hfs', tabView_congr hg hfat']
  have hch' : fileChain d'.fs d'.img f' = fileChain d.fs d.img f := by unfold fileChain; rw [hf1, htv', hfs']
  -- the machine's new state
  obtain ⟨hpi, _, _⟩ := hrep.inv.put_refines (buf.take w) hci (by rw [hlen]; exact hw) (by rw [hlen]; exact hfit)
    (by rw [hlen]; exact hmax)
  have hcore : CoreEq (absFile d'.fs d'.img f') ((absFile d.fs d.img f).put cur (buf.take w)) := by
    refine ⟨by rw [hfs']; rfl, hch', fun c hc j hj => ?_, ?_, hf1, by rw [← hlen] at hf3; exact hf3, hf2⟩
    · show d'.img.getByte (clusterOff d'.fs c + j) =
        Cursor.AFile.putBytes (absFile d.fs d.img f).data cur (f.offset % d.fs.clusterSize) (buf.take w).toArray c j
      rw [hfs']
      exact data_after_write d.fs d.img d.img d'.img hwf cur _ _ (fun _ _ => rfl) himg'
        (fun b hb => hbytes b (List.mem_of_mem_take hb)) hc2 (by rw [hlen]; omega) (hrep.inTab c hc).1 hj
    · show f'.size?.getD 0 = if (absFile d.fs d.img f).size < f.offset + (buf.take w).length then
        f.offset + (buf.take w).length else (absFile d.fs d.img f).size
      rw [hf4, hlen, hasz]
      rfl
  refine ⟨f', d', hr', hst', hfs', hcore, ?_, htv', fun E D hD => ?_, hed', hf1, hf3⟩
  · refine FileRep.of_core hf4 hcore hpi ?_ ?_ ?_ <;> rw [hch', htv']
    · rw [hf1]; exact hrep.chain
    · rw [hfs']; exact fun c hc => ⟨(hrep.inTab c hc).1, (hrep.inTab c hc).2, hrep.inv.live c hc⟩
    · exact hrep.last_eoc
  · refine Trace.single hlog' himg' (Or.inr (Or.inl ⟨cur, hD, hc2, hct, Nat.le_add_right _ _, ?_⟩))
    show clusterOff d.fs cur + f.offset % d.fs.clusterSize + (buf.take w).length ≤ _
    rw [hlen]; omega

end FatVerif.FileSim
