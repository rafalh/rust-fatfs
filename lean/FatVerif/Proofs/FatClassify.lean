import FatVerif.Model.FatCodec
import FatVerif.Spec.FatTable
/-! Classification of every raw FAT12 and FAT16 value: model = specification. The two differ only in how the
    end-of-chain range is written (`mark < v ≤ max` against `mark < v`), and these agree below the width's bound.
    FAT32, where the cluster number matters too, is with the codec comparison in `FatSpecEq`. -/
namespace FatVerif.Fat
open FatVerif.FatSpec

theorem classify12_spec (v : Nat) (hv : v < 4096) : classify12 v = specClassify 12 v := by
  unfold classify12 specClassify
  simp only [show badMark 12 = 0xFF7 from rfl, show (0xFF8 ≤ v ∧ v ≤ 0xFFF) ↔ 0xFF7 < v by omega]

theorem classify16_spec (v : Nat) (hv : v < 65536) : classify16 v = specClassify 16 v := by
  unfold classify16 specClassify
  simp only [show badMark 16 = 0xFFF7 from rfl, show (0xFFF8 ≤ v ∧ v ≤ 0xFFFF) ↔ 0xFFF7 < v by omega]

end FatVerif.Fat
