import FatVerif.Proofs.FaultDirKinds
/-! `create_dir(name)` through a writable directory when the scheduled fault may fire at any device call: it propagates
    the storage error up to ONE tolerated outcome, the error of the roll-back `free_cluster_chain(cluster)` run after a
    failed `write_entry` in the parent (`createDir_foX`, the condition `X` on that error left open); the roll-back of
    `write_entry` itself never fails. Props/C09wview.lean closes `X`: where the writes of the parent keep the FAT (`TvKeep`,
    or the fixed root) the freshly allocated cluster still ends a chain after the failed `write_entry`, so that
    roll-back succeeds too. -/
namespace FatVerif.DirSim
open FatVerif.FileSim FatVerif.Fat DirEntryData DirAlias

/-- **the second half of `create_dir` propagates a storage error**: hypotheses as `createDir_child` (the entry of the
    new directory is on the image, cluster `c` is zero-filled and ends a chain), on a device whose fault may still fire -/
theorem createDirTail_fo (fs0 : FsState) (st : DirStream) (e : DirEntry) (a : List Nat) (c : Nat) (d3 : Dev)
    (E : EntryPlaced fs0 e a c d3.fs d3.img d3.clock) (hd3 : d3.fault = none)
    {r d'} (hr : run (createDirTail fs0 st e) d3 = (r, d')) : FaultOutcome (resErr r) d' := by
  have hg3 := E.geom
  have hcs64 := E.cs64
  obtain ⟨heisdir, hefc, hfresh⟩ := FreshSub.of_entry (d3 := d3.disarm) E rfl
  generalize hed0 : e.editor = ed0 at hfresh
  unfold createDirTail at hr
  refine faultOutcome_bind' (ioSafe_propagates (DirEntry.toDir_safe _ _).io) hd3 hr (fun dir d4 h4 hf4 r1 d1' hr1 => ?_)
  obtain ⟨rfl, hs4⟩ := (toDir_sim fs0 e heisdir d3.disarm).unfired hd3 h4 hf4
  have hds : DirEntry.dirStream fs0 e = .file (FileH.new (some c) (some ed0)) := by
    -- (the equation, not `unfold`: that makes the kernel unfold `e.firstCluster fs0` down to its arithmetic)
    rw [DirEntry.dirStream.eq_1, hefc, hed0]
  rw [hds] at hr1
  -- the new directory on `d4`, and its view
  have N4 := hfresh d4.disarm hs4
  obtain ⟨K, hK⟩ : ∃ K, d4.fs.clusterSize / 32 = K + 2 := ⟨d4.fs.clusterSize / 32 - 2, by
    have : d4.fs.clusterSize = fs0.clusterSize := by
      have := hs4.fs
      simp only [Dev.disarm_fs] at this
      rw [this]; exact hg3.clusterSize
    omega⟩
  have hOK' : FaultOK N4.view := faultOK_ofSub d4.disarm c ed0 [c] _ _ _ _ _ _ _
  obtain ⟨hfit1, e5g, d5g, h5g, w5, hfit2⟩ := N4.dot (d := d4.disarm) hK
  -- the scope of the two dot entries
  refine faultOutcomeOf_finallyDrop (T := fun f e => e = some (.io f.k)) (fun rb db hb => ?_) (fun o => ?_) hr1
  · rw [run_bind_ok (run_createSfnEntry _ ATTR_DIRECTORY (e.firstCluster fs0) d4), hefc] at hb
    refine faultOutcome_bind_at (fun r5 d5 h5 => ?_) hb (fun e5 d5 h5 hf5 r6 d6 hr6 => ?_)
    · exact N4.view.writeEntry_fo hf4 N4.view.here hOK' "." _
        (sfnAt_wf d4.fs d4.clock (46 :: List.replicate 10 32) 16 (some c) (by decide) (by decide) (by omega)) true (by decide)
        hfit1 h5
    · -- `.` is written: the state of the directory on the disarmed device
      cases (run_disarm _ d4 (show run (FatVerif.writeEntry (.file (FileH.new (some c) (some ed0))) "."
        (sfnAt d4.fs d4.clock (46 :: List.replicate 10 32) 16 (some c))) d4 = (.ok e5, d5) from h5) hf4 hf5).symm.trans h5g
      rw [run_bind_ok (run_createSfnEntry _ ATTR_DIRECTORY _ d5)] at hr6
      refine faultOutcome_bind_at (fun r7 d7 h7 => ?_) hr6 (fun e7 d7 _ hf7 r8 d8 hr8 =>
        ioSafe_propagates (IoSafe.pure _) d7 hf7 _ _ hr8)
      exact N4.view.writeEntry_fo hf5 w5.inv hOK' ".." _
        (sfnAt_wf d5.fs d5.clock (46 :: 46 :: List.replicate 9 32) 16 (if st.isRootDir then none else st.firstCluster)
          (by decide) (by decide) (by omega)) true (by decide) hfit2 h7
  · cases o with
    | some _ => exact NonFatal.pure ()
    | none => exact (DirStream.dropBody_dtor _).nonFatal

namespace WView
variable {d : Dev} {st : DirStream}

/-- **`create_dir(name)` through a writable directory** (single-component path, free name, the hypotheses of
    `WView.createDir_sim` stated of the disarmed device): after a fault `f` outside destructors the result is `io f.k`,
    or an error `e` of the roll-back `free_cluster_chain(c)` run after the failed `write_entry` — `hX`: what is known of
    that run then gives `X f e` -/
theorem createDir_foX (X : Fault → Err → Prop) (V : WView d.disarm st) (hd : d.fault = none) (hOK : FaultOK V) {env : Env}
    {path name : String} {a : List Nat} {c : Nat} (R : CreateDirReq d.fs d.img env path name (V.slots d.img) a c)
    (hfit : DirSlots.findFree (V.slots d.img) (Lfn.numParts (Names.encodeUtf16 name.toList).length + 1) +
      (Lfn.numParts (Names.encodeUtf16 name.toList).length + 1) ≤ V.N)
    (hkeepA : ∀ d1 d2, SameVol d.disarm d1 → d1.clock = d.clock → AllocStep d1 d2 c → V.Inv d2)
    (hcl : V.ClearOf d.fs d.img.size c)
    (hX : ∀ (d2 d3 d4 : Dev) (raw : DirFileEntryData) (rw : Except Err DirEntry) (f : Fault) (e : Err),
      d2.fault = none → FsGeomEq d.fs d2.fs → d2.img.size = d.img.size → d2.img.WF →
      tabView d2.fs d2.img = updV (tabView d.fs d.img) c .eoc →
      run (FatVerif.writeEntry st name raw) d2 = (rw, d3) → d3.failAt = none → d3.fault = some f →
      run (freeClusterChain c) d3 = (.error e, d4) →
      V.Inv d2.disarm → raw.WF → V.slots d2.img = V.slots d.img → f.inDrop = false → X f e)
    (fuel : Nat) {r d'} (hr : run (FatVerif.createDir env (fuel + 1) st path) d = (r, d')) :
    FaultOutcomeX X (resErr r) d' := by
  have hwf : d.img.WF := V.io.wf d.disarm V.here
  unfold FatVerif.createDir at hr
  rw [run_bind_ok (run_getFs d), R.split] at hr
  simp only at hr
  -- 1. check_for_existence
  refine faultOutcomeX_bind_at (fun r1 d1 h => FaultOutcome.toX
    (ioSafe_propagates (checkForExistence_safe _ _ _ _).io d hd _ _ h)) hr (fun rr d1 h1 hf1 r2 d2' hr2 => ?_)
  obtain ⟨x, hx, rfl, hs1⟩ := (V.toDirView.checkForExistence_sim R.lfnAlloc env name (some true) d.disarm
    (SameVol.refl _)).unfired hd h1 hf1
  cases R.check.symm.trans hx
  have hc1 : d1.clock = d.clock := run_clock _ _ _ _ h1
  simp only [liftEOA, R.notDot, Bool.false_eq_true, if_false, liftE, R.valid] at hr2
  rw [run_bind_ok (rfl : run (pure () : Prog Unit) d1 = (.ok (), d1))] at hr2
  -- 2. alloc_cluster(None, true)
  refine faultOutcomeX_bind_at (fun r1 d2 h => FaultOutcome.toX
    (ioSafe_propagates (allocClusterFs_safe none true).io d1 hf1 _ _ h)) hr2 (fun c' d2 h2 hf2 r3 d3' hr3 => ?_)
  obtain ⟨d2g, h2g, hal1, hal⟩ := R.alloc (d := d.disarm) rfl hwf hs1 hc1
  cases (run_disarm _ d1 h2 hf1 hf2).symm.trans h2g
  have hinv2 : V.Inv d2.disarm := hkeepA d1.disarm d2.disarm hs1 hc1 hal1
  have hg2 : FsGeomEq d.fs d2.fs := hal.step.geom
  have hc2 : d2.clock = d.clock := hal.step.clock
  have hsz2 : d2.img.size = d.img.size := hal.step.size
  have hwf2 : d2.img.WF := hal.step.wf hwf
  have hslots2 : V.slots d2.img = V.slots d.img := srcSlots_clear (X := d.disarm) (Y := d2.disarm) R.geo hcl.slots hal.frame
  have htv2 : tabView d2.fs d2.img = updV (tabView d.fs d.img) c .eoc := hal.tv
  -- 3. create_sfn_entry, write_entry in the parent
  rw [run_bind_ok (run_createSfnEntry a ATTR_DIRECTORY (some c) d2), sfnAt_geom hg2, hc2] at hr3
  have hrawwf := sfnAt_wf d.fs d.clock a 16 (some c) R.alias.1 R.alias.2 (by omega)
  have hfit2 : DirSlots.findFree (V.slots d2.img) (Lfn.numParts (Names.encodeUtf16 name.toList).length + 1) +
      (Lfn.numParts (Names.encodeUtf16 name.toList).length + 1) ≤ V.N := by
    rw [hslots2]; exact hfit
  rcases hw : run (FatVerif.writeEntry st name (sfnAt d.fs d.clock a 16 (some c))) d2 with ⟨rw, d3⟩
  have hFO : FaultOutcome (resErr rw) d3 := V.writeEntry_fo hf2 hinv2 hOK name _ hrawwf false R.notDot hfit2 hw
  have hatt := run_attempt (FatVerif.writeEntry st name (sfnAt d.fs d.clock a ATTR_DIRECTORY (some c))) d2
  rw [show run (FatVerif.writeEntry st name (sfnAt d.fs d.clock a ATTR_DIRECTORY (some c))) d2 = (rw, d3) from hw] at hatt
  -- the fault-free run of `write_entry` (on the disarmed device)
  obtain ⟨eg, d3g, h3g, P, _⟩ := V.createDir_parent R hfit hcl hal hinv2
  cases rw with
  | error err =>
    simp only at hatt
    have hf3 : d3.fault ≠ none := fun h0 => by cases (run_disarm _ d2 hw hf2 h0).symm.trans h3g
    rcases hFO with h0 | ⟨hfa3, f, hff, him⟩
    · exact absurd h0 hf3
    split at hatt
    · rw [run_bind_error hatt] at hr3
      cases hr3
      exact Or.inr ⟨hfa3, f, hff, fun hdrop => Or.inl (him hdrop)⟩
    · rw [run_bind_ok hatt] at hr3
      simp only at hr3
      -- `free_cluster_chain(c)?; Err(err)`
      have hkept := fault_kept _ d3 hr3 hfa3
      refine Or.inr ⟨hkept.2, f, hkept.1.trans hff, fun hdrop => ?_⟩
      cases him hdrop
      rcases run_bind_cases hr3 with ⟨b, d4, h4, _⟩ | ⟨e4, h4, rfl⟩
      · rcases run_bind_cases h4 with ⟨u, d5, _, h6⟩ | ⟨e5, _, he⟩
        · cases h6
        · cases he
      · rcases run_bind_cases h4 with ⟨u, d5, h5, h6⟩ | ⟨e5, h5, he⟩
        · cases h6
          exact Or.inl rfl
        · cases he
          exact Or.inr ⟨e4, rfl, hX d2 d3 _ _ _ f e4 hf2 hg2 hsz2 hwf2 htv2 hw hfa3 hff h5 hinv2 hrawwf hslots2 hdrop⟩
  | ok entry =>
    simp only at hatt
    rw [run_bind_ok hatt] at hr3
    simp only at hr3
    rw [run_bind_ok (rfl : run (pure entry : Prog DirEntry) d3 = (.ok entry, d3))] at hr3
    by_cases hf3 : d3.fault = none
    · -- no fault so far: `d3` is the device of the simulation
      cases (run_disarm _ d2 hw hf2 hf3).symm.trans h3g
      have hc3 : d3.clock = d.clock := (run_clock _ _ _ _ hw).trans hc2
      exact FaultOutcome.toX (createDirTail_fo d.fs st eg a c d3 (P.placed R hwf hal hc3) hf3 hr3)
    · -- the fault fired inside a destructor of `write_entry`
      rcases hFO with h0 | ⟨hfa3, f, hff, him⟩
      · exact absurd h0 hf3
      cases hdrop : f.inDrop with
      | false => cases him hdrop
      | true => exact FaultOutcome.toX (faultOutcome_spent _ hfa3 hff hdrop hr3)

end WView

end FatVerif.DirSim
