import FatVerif.Proofs.AFileWrite
import FatVerif.Proofs.AFileSeek
import FatVerif.Proofs.AFileTrunc
/-!
Footprint of the operations of one file handle: they touch only clusters that are in the file's chain or free.
Consequence (`Props/C02.lean`, `file_frame`): another file of the same volume — disjoint chain, same allocator —
keeps its content and its invariant, whatever is done to this one.
-/
namespace FatVerif.Cursor

section
variable {σ : Type} {isFree : σ → Nat → Prop} {A : Allocator σ}

/-- the clusters a handle may touch: its own chain and the free ones -/
def Own (isFree : σ → Nat → Prop) (f : AFile) (s : σ) (c : Nat) : Prop := c ∈ f.chain ∨ isFree s c

/-- `(f, s) → (f', s')` stayed inside `Own f s`: no cluster outside was linked, freed or written -/
structure Footprint (isFree : σ → Nat → Prop) (f : AFile) (s : σ) (f' : AFile) (s' : σ) : Prop where
  own : ∀ c, Own isFree f' s' c → Own isFree f s c
  data : ∀ c, ¬ Own isFree f s c → f'.data c = f.data c

theorem Footprint.of_eq {f f' : AFile} {s : σ} (hc : f'.chain = f.chain) (hd : f'.data = f.data) :
    Footprint isFree f s f' s :=
  ⟨fun c h => by unfold Own at *; rw [hc] at h; exact h, fun c _ => by rw [hd]⟩

theorem Footprint.trans {f f' f'' : AFile} {s s' s'' : σ} (a : Footprint isFree f s f' s')
    (b : Footprint isFree f' s' f'' s'') : Footprint isFree f s f'' s'' :=
  ⟨fun c h => a.own c (b.own c h), fun c h => by
    rw [b.data c (fun h' => h (a.own c h')), a.data c h]⟩

theorem cutAfter_subset (c : Nat) : ∀ (l : List Nat) (x : Nat), x ∈ cutAfter c l → x ∈ l
  | [], x, h => by simp [cutAfter] at h
  | y :: r, x, h => by
    unfold cutAfter at h
    split at h
    · simp at h; simp [h]
    · rcases List.mem_cons.mp h with e | e
      · simp [e]
      · exact List.mem_cons_of_mem _ (cutAfter_subset c r x e)

theorem freedAfter_subset (c : Nat) : ∀ (l : List Nat) (x : Nat), x ∈ freedAfter c l → x ∈ l
  | [], x, h => by simp [freedAfter] at h
  | y :: r, x, h => by
    unfold freedAfter at h
    split at h
    · exact List.mem_cons_of_mem _ h
    · exact List.mem_cons_of_mem _ (freedAfter_subset c r x h)

theorem seekTo_chain_data (f : AFile) (new : Nat) :
    (f.seekTo new).2.chain = f.chain ∧ (f.seekTo new).2.data = f.data := by
  unfold AFile.seekTo
  repeat' split
  all_goals exact ⟨rfl, rfl⟩

theorem seek_chain_data (f : AFile) (w : SeekFrom) : (f.seek w).2.chain = f.chain ∧ (f.seek w).2.data = f.data := by
  unfold AFile.seek
  split
  · exact ⟨rfl, rfl⟩
  · exact seekTo_chain_data f _

/-- `truncate` frees part of the own chain and touches no data -/
theorem truncate_footprint (hA : AllocLaws A isFree) (f : AFile) (s : σ) :
    Footprint isFree f s (f.truncate A s).2.1 (f.truncate A s).2.2 := by
  -- what is released was in the chain
  have hrel : ∀ (l keep : List Nat), (∀ x ∈ l, x ∈ f.chain) → (∀ x ∈ keep, x ∈ f.chain) → ∀ g : AFile,
      g.chain = keep → g.data = f.data → Footprint isFree f s g (A.release l s) := fun l keep hl hk g hc hd =>
    ⟨fun x hx => hx.elim (fun hx => .inl (hk x (hc ▸ hx)))
      fun hx => (hA.release_sub hx).elim .inr fun h1 => .inl (hl x h1), fun _ _ => by rw [hd]⟩
  unfold AFile.truncate
  split
  next c _ =>
    split
    · exact Footprint.of_eq rfl rfl
    · exact hrel _ _ (freedAfter_subset c f.chain) (cutAfter_subset c f.chain) _ rfl rfl
  next =>
    split
    · exact Footprint.of_eq rfl rfl
    · split
      · exact hrel _ [] (fun _ hx => hx) (fun _ hx => nomatch hx) _ rfl rfl
      · exact Footprint.of_eq rfl rfl

/-- choosing the cluster to write into links at most a free cluster to the chain -/
theorem AFileInv.writeCluster_footprint {f : AFile} {s : σ} (h : AFileInv isFree f s) (hA : AllocLaws A isFree) :
    Footprint isFree f s (f.writeCluster A s).2.1 (f.writeCluster A s).2.2 := by
  unfold AFile.writeCluster
  split
  next hm =>
    split
    · exact Footprint.of_eq rfl rfl
    next hb =>
      split
      · exact Footprint.of_eq rfl rfl
      next c s1 ha =>
        have hnone : f.readCluster = none := by unfold AFile.readCluster; rw [if_pos hm, hb]
        obtain ⟨l1, _, _, l4, _⟩ := h.linkNew_post c (h.readCluster_none hnone).2
        refine ⟨fun x hx => ?_, fun x _ => by rw [l4]⟩
        rcases hx with hx | hx
        · rw [l1] at hx
          rcases List.mem_append.mp hx with hx | hx
          · exact .inl hx
          · exact .inr (List.mem_singleton.mp hx ▸ hA.alloc_free ha)
        · exact .inr (hA.alloc_frame ha hx).1
  · split <;> exact Footprint.of_eq rfl rfl

theorem putBytes_other (data : Nat → Nat → Nat) (c o : Nat) (arr : Array Nat) (d : Nat) (h : d ≠ c) :
    AFile.putBytes data c o arr d = data d := by
  funext j
  simp [AFile.putBytes, h]

/-- ONE write stays inside the own chain and the free clusters -/
theorem AFileInv.write_footprint {f : AFile} {s : σ} (h : AFileInv isFree f s) (hA : AllocLaws A isFree)
    (bs : List Nat) : Footprint isFree f s (f.write A s bs).2.1 (f.write A s bs).2.2 := by
  have hfp1 := h.writeCluster_footprint hA
  unfold AFile.write
  split
  · exact Footprint.of_eq rfl rfl
  · rcases h.writeCluster_post hA with ⟨he, _⟩ | ⟨c, f1, s1, he, h1, hc, _⟩
    · rw [he]; exact Footprint.of_eq rfl rfl
    · rw [he] at hfp1 ⊢
      -- the device write touches cluster `c` only, and `c` is in the chain by now
      refine hfp1.trans ⟨fun x hx => hx, fun x hx => putBytes_other _ _ _ _ _ fun e => hx (.inl ?_)⟩
      rw [e]; exact List.mem_of_getElem? hc

end
end FatVerif.Cursor
