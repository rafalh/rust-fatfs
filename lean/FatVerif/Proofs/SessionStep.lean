import FatVerif.Proofs.Prog
import FatVerif.Model.Api
/-! From single programs to `Session.step`.

`Session.step` (Model/Api.lean) is written with a handful of combinators: a guard that answers `badScript`, `withFile` /
`withDir` (look a handle up), `runOp` (run one program, then do the bookkeeping), `fatal`, and the three loops that
iterate a single `read` / `write` call.  A property of the form "the session invariant `I` holds again and the device
has moved along `R`" (`Keeps`) passes through each of them as soon as `I` and `R` tolerate the bookkeeping (`Lift`);
the rules are proved here once.  Which program an operation runs and what is done with its result is then all a proof
about `Session.step` still has to say, operation by operation. -/
namespace FatVerif.Session

theorem fatal_eq (s : Session) (d : Dev) (e : Err) :
    s.fatal d e = ({ s with dev := d, dead := s.dead || e.isFatal }, .err e) := by
  unfold fatal; cases e.isFatal <;> simp

/-- the two outcomes of `runOp` -/
theorem runOp_cases {Q : Session × ApiRes → Prop} {α} (s : Session) (p : Prog α)
    (k : Session → α → Session × ApiRes)
    (hok : ∀ a d, run p s.dev = (.ok a, d) → Q (k { s with dev := d } a))
    (herr : ∀ e d, run p s.dev = (.error e, d) → Q (s.fatal d e)) : Q (s.runOp p k) := by
  unfold runOp exec
  rcases hr : run p s.dev with ⟨(e | a), d⟩
  · exact herr e d hr
  · exact hok a d hr

/-- what the bookkeeping of `Session.step` needs of a session invariant `I`, of a relation `R` between the device before
    and after, and of a predicate `C` on the file handle that a loop keeps outside the table while it runs -/
structure Lift (I : Session → Prop) (R : Dev → Dev → Prop) (C : FileH → Prop) : Prop where
  refl : ∀ d, R d d
  trans : ∀ {a b c}, R a b → R b c → R a c
  setDev : ∀ {s : Session} {d : Dev}, I s → R s.dev d → I { s with dev := d }
  setDead : ∀ {s : Session} (b : Bool), I s → I { s with dead := b }
  insertFile : ∀ {s : Session} {h : FileH} (f : Nat), I s → C h → I { s with files := s.files.insert f h }

/-- the outcome `x` of a computation started in `s`: the invariant holds of the new session, and the device moved
    along `R` -/
def Keeps (I : Session → Prop) (R : Dev → Dev → Prop) (s : Session) (x : Session × ApiRes) : Prop :=
  I x.1 ∧ R s.dev x.1.dev

/-- what `Keeps` asks of a run `run p s.dev = (r, d)`: the step of the device, and `Q` of a successful result -/
def RunOK (R : Dev → Dev → Prop) {α} (s : Session) (p : Prog α) (Q : α → Prop) : Prop :=
  ∀ r d, run p s.dev = (r, d) → R s.dev d ∧ ∀ a, r = .ok a → Q a

namespace Lift
variable {I : Session → Prop} {R : Dev → Dev → Prop} {C : FileH → Prop} (L : Lift I R C) {s : Session}
include L

theorem same (hs : I s) (r : ApiRes) : Keeps I R s (s, r) := ⟨hs, L.refl _⟩

/-- after the device has moved to `d` -/
theorem after {d : Dev} {x : Session × ApiRes} (hd : R s.dev d) (hx : Keeps I R { s with dev := d } x) :
    Keeps I R s x :=
  ⟨hx.1, L.trans hd hx.2⟩

theorem guard (hs : I s) (c : Prop) [Decidable c] {x : Session × ApiRes} (hx : Keeps I R s x) :
    Keeps I R s (if c then (s, .badScript) else x) := by
  split
  · exact L.same hs _
  · exact hx

theorem withFile (hs : I s) (f : Nat) {k : FileH → Session × ApiRes}
    (hk : ∀ h, s.files[f]? = some h → Keeps I R s (k h)) : Keeps I R s (s.withFile f k) := by
  unfold Session.withFile
  split
  · exact hk _ ‹_›
  · exact L.same hs _

theorem withDir (hs : I s) (d : Nat) {k : DirStream → Session × ApiRes}
    (hk : ∀ h, s.getDir d = some h → Keeps I R s (k h)) : Keeps I R s (s.withDir d k) := by
  unfold Session.withDir
  split
  · exact hk _ ‹_›
  · exact L.same hs _

theorem fatal (hs : I s) {d : Dev} (hd : R s.dev d) (e : Err) : Keeps I R s (s.fatal d e) := by
  rw [fatal_eq]
  exact ⟨L.setDead _ (L.setDev hs hd), hd⟩

/-- `runOp s p k`: the run moves the device along `R`, the bookkeeping `k` keeps the invariant -/
theorem runOp (hs : I s) {α} {p : Prog α} {Q : α → Prop} (hp : RunOK R s p Q)
    {k : Session → α → Session × ApiRes} (hk : ∀ s' a, Q a → I s' → Keeps I R s' (k s' a)) : Keeps I R s (s.runOp p k) :=
  runOp_cases s p k (fun a d hr => L.after (hp _ d hr).1 (hk _ a ((hp _ d hr).2 a rfl) (L.setDev hs (hp _ d hr).1)))
    fun e d hr => L.fatal hs (hp _ d hr).1 e

/-- a loop stops and stores its handle -/
theorem stop (hs : I s) (f : Nat) {h : FileH} (hh : C h) (b : Bool) (r : ApiRes) :
    Keeps I R s ({ s with files := s.files.insert f h, dead := b }, r) :=
  ⟨L.setDead b (L.insertFile f hs hh), L.refl _⟩

variable (hread : ∀ {s : Session} {h : FileH} (n : Nat), I s → C h → RunOK R s (h.read n) fun v => C v.2)
include hread

theorem readxLoop (f : Nat) : ∀ (fuel : Nat) (s : Session) (h : FileH) (n : Nat) (acc : List Nat), I s → C h →
    Keeps I R s (s.readxLoop f fuel h n acc)
  | 0, s, h, _, _, hs, hh => L.stop hs f hh true _
  | fuel + 1, s, h, n, acc, hs, hh => by
    unfold Session.readxLoop
    split
    · exact L.stop hs f hh s.dead _
    · unfold Session.exec
      rcases hr : run (h.read n) s.dev with ⟨r, d⟩
      obtain ⟨hd, hq⟩ := hread n hs hh r d hr
      cases r with
      | error e => exact L.fatal (L.insertFile f hs hh) hd e
      | ok v =>
        simp only
        split
        · exact L.after hd (L.stop (L.setDev hs hd) f (hq v rfl) s.dead _)
        · exact L.after hd (readxLoop f fuel _ _ _ _ (L.setDev hs hd) (hq v rfl))

theorem readAllLoopS (f : Nat) : ∀ (fuel : Nat) (s : Session) (h : FileH) (acc : List Nat), I s → C h →
    Keeps I R s (s.readAllLoopS f fuel h acc)
  | 0, s, h, _, hs, hh => L.stop hs f hh true _
  | fuel + 1, s, h, acc, hs, hh => by
    unfold Session.readAllLoopS Session.exec
    rcases hr : run (h.read 4096) s.dev with ⟨r, d⟩
    obtain ⟨hd, hq⟩ := hread 4096 hs hh r d hr
    cases r with
    | error e => exact L.fatal (L.insertFile f hs hh) hd e
    | ok v =>
      simp only
      split
      · exact L.after hd (L.stop (L.setDev hs hd) f (hq v rfl) s.dead _)
      · exact L.after hd (readAllLoopS f fuel _ _ _ (L.setDev hs hd) (hq v rfl))

omit hread in
theorem writeAllLoopS
    (hwrite : ∀ {s : Session} {h : FileH} (bs : List Nat), I s → C h → RunOK R s (h.write bs) fun v => C v.2)
    (f : Nat) : ∀ (fuel : Nat) (s : Session) (h : FileH) (bs : List Nat), I s → C h →
    Keeps I R s (s.writeAllLoopS f fuel h bs)
  | 0, s, h, _, hs, hh => L.stop hs f hh true _
  | fuel + 1, s, h, bs, hs, hh => by
    unfold Session.writeAllLoopS
    split
    · exact L.stop hs f hh s.dead _
    · unfold Session.exec
      rcases hr : run (h.write bs) s.dev with ⟨r, d⟩
      obtain ⟨hd, hq⟩ := hwrite bs hs hh r d hr
      cases r with
      | error e => exact L.fatal (L.insertFile f hs hh) hd e
      | ok v =>
        simp only
        split
        · exact L.after hd (L.stop (L.setDev hs hd) f (hq v rfl) s.dead _)
        · exact L.after hd (writeAllLoopS hwrite f fuel _ _ _ (L.setDev hs hd) (hq v rfl))

end Lift
end FatVerif.Session
