import FatVerif.Proofs.LfnRun
import FatVerif.Spec.DirSpec
/-! The forward state machine (`LongNameBuilder`, either buffer variant) against the specification's backward scan. -/
namespace FatVerif
namespace Lfn
open LongNameBuilder

/-! ### the two sets of accessors agree -/

theorem spec_ldirName (s : List Nat) : DirSpec.ldirName s = units s := by
  simp [DirSpec.ldirName, DirSpec.w, DirSpec.b, units, unitOffsets, unitAt, byte, le16]

theorem spec_ordNum (s : List Nat) : DirSpec.ordNum s = order s % 32 := rfl
theorem spec_ldirChk (s : List Nat) : DirSpec.ldirChk s = chk s := rfl

theorem spec_ordLast (s : List Nat) : DirSpec.ordLast s = true ↔ order s / 64 % 2 = 1 := by
  simp [DirSpec.ordLast, DirSpec.b, order, byte]

theorem slotClass_spec (s : List Nat) :
    slotClass s =
      if DirSpec.isEndMark s then .endMark else if DirSpec.isFree s then .deleted
      else if DirSpec.isLong s then .lfn else if DirSpec.isLabel s then .volume else .file := rfl

/-- one step of the specification's loop, by what the model's reader does with the slot -/
theorem specLoop_cons (sv : Bool) (s : List Nat) (rest : List (List Nat)) (idx : Nat) (pend : List (List Nat)) :
    DirSpec.specLoop sv (s :: rest) idx pend =
      match act sv s with
      | .stop => []
      | .skip => DirSpec.specLoop sv rest (idx + 1) []
      | .grow => DirSpec.specLoop sv rest (idx + 1) (s :: pend)
      | .emit => ⟨s, DirSpec.specRun (lfnChecksum (sfnName s)) pend 1 [], idx - pend.length, idx + 1⟩ ::
          DirSpec.specLoop sv rest (idx + 1) [] := by
  unfold act
  rw [DirSpec.specLoop, slotClass_spec]
  cases DirSpec.isEndMark s <;> cases DirSpec.isFree s <;> cases DirSpec.isLong s <;> cases DirSpec.isLabel s <;>
    cases sv <;> rfl

/-! ### the implementation's cut at the first NUL = the specification's `nameOf` -/

theorem cutAtNul_eq_spec (r : List Nat) : cutAtNul r = DirSpec.nameOf r := by
  unfold DirSpec.nameOf
  induction r with
  | nil => rfl
  | cons x xs ih =>
    by_cases hx : x = 0
    · simp [cutAtNul, List.takeWhile, hx]
    · simp [cutAtNul, List.takeWhile, hx, ih]

/-- one step of the backward scan, in the accessors of the model -/
theorem specRun_cons (c : Nat) (s : List Nat) (Q : List (List Nat)) (k : Nat) (acc : List Nat) :
    DirSpec.specRun c (s :: Q) k acc =
      if 20 < k ∨ chk s ≠ c ∨ order s % 32 ≠ k then none
      else if order s / 64 % 2 = 1 then some (acc ++ units s) else DirSpec.specRun c Q (k + 1) (acc ++ units s) := by
  rw [DirSpec.specRun, spec_ldirName, spec_ldirChk, spec_ordNum]
  by_cases h1 : k > 20
  · rw [if_pos h1, if_pos (.inl h1)]
  by_cases h2 : chk s ≠ c
  · rw [if_neg h1, if_pos h2, if_pos (.inr (.inl h2))]
  by_cases h3 : order s % 32 ≠ k
  · rw [if_neg h1, if_neg h2, if_pos h3, if_pos (.inr (.inr h3))]
  rw [if_neg h1, if_neg h2, if_neg h3,
    if_neg (show ¬ (20 < k ∨ chk s ≠ c ∨ order s % 32 ≠ k) from fun h => h.elim h1 (·.elim h2 h3))]
  by_cases h4 : DirSpec.ordLast s = true
  · rw [if_pos h4, if_pos ((spec_ordLast s).1 h4)]
  · rw [if_neg h4, if_neg (fun h => h4 ((spec_ordLast s).2 h))]

/-! ### forward machine vs backward scan -/

def outName : Option (List Nat) → List Nat
  | none => []
  | some r => capName (cutAtNul r)

/-- **Main lemma.**  After the long-name slots `Q` (NEAREST FIRST, i.e. reversed on-disk order) and then a tail of ordinals
    `k-1 … 1`, the name the machine hands out is what the backward scan finds when it arrives at `Q` expecting ordinal
    `k` (cut at the first `0x0000`, dropped if longer than 255). -/
theorem fin_specRun (c : Nat) : ∀ Q k T, TailOk c T (k - 1) → 1 ≤ k →
    fin c (T.foldl astep (Q.foldr (fun s o => astep o s) none)) = outName (DirSpec.specRun c Q k (tailUnits T)) := by
  intro Q
  induction Q with
  | nil => intro k T ht _; rw [List.foldr_nil, fin_tail c T _ none ht]; rfl
  | cons s Q ih =>
    intro k T ht hk
    rw [specRun_cons, List.foldr_cons]
    by_cases hbad : 20 < k ∨ chk s ≠ c ∨ order s % 32 ≠ k
    · -- the scan gives up; what the step leaves open (if anything) is not what the tail would complete
      rw [if_pos hbad, fin_tail c T _ _ ht]
      rcases astep_cases (Q.foldr (fun s o => astep o s) none) s with h | ⟨u, h, _, _⟩ <;> rw [h]
      · rfl
      · simp only; rw [if_neg (by omega)]; rfl
    · rw [if_neg hbad]
      by_cases c4 : order s / 64 % 2 = 1
      · -- the 0x40 slot of the set: the run is complete
        rw [if_pos c4, fin_tail c T _ _ ht]
        unfold astep
        rw [if_neg (by omega), if_pos c4]
        simp only
        rw [if_pos (by omega)]; rfl
      · -- a continuing slot: hand over to the induction hypothesis with the longer tail
        rw [if_neg c4]
        exact ih (k + 1) (s :: T) ⟨by omega, by omega, c4, by omega, by simpa using ht⟩ (by omega)

/-! ### the two directory loops -/

/-- the model-side rendering of a specification entry: the specification's own long name (`SpecEntry.name`: the units
    before the first `0x0000` of the complete run, 1 … 255 of them), or no long name -/
def specToModel (e : DirSpec.SpecEntry) : LfnEntry :=
  ⟨e.sfn, e.name.getD [], e.beginIdx, e.endIdx⟩

theorem specToModel_mk (s : List Nat) (o : Option (List Nat)) (bg en : Nat) :
    specToModel ⟨s, o, bg, en⟩ = ⟨s, outName o, bg, en⟩ := by
  cases o with
  | none => simp [specToModel, outName, DirSpec.SpecEntry.name]
  | some r =>
    simp only [specToModel, outName, capName, DirSpec.SpecEntry.name, cutAtNul_eq_spec]
    congr 1
    by_cases h1 : 1 ≤ (DirSpec.nameOf r).length
    · by_cases h2 : (DirSpec.nameOf r).length ≤ 255
      · simp [h1, h2, Nat.not_lt.2 h2]
      · simp [h2, Nat.lt_of_not_le h2]
    · have : DirSpec.nameOf r = [] := List.eq_nil_of_length_eq_zero (by omega)
      simp [this]

theorem readLoop_spec (alloc sv : Bool) : ∀ (slots : List (List Nat)) (idx : Nat) (pend : List (List Nat))
    (b : LongNameBuilder), WF alloc b → view b = pend.foldr (fun s o => astep o s) none → pend.length ≤ idx →
    readLoop alloc sv slots idx (idx - pend.length) b = (DirSpec.specLoop sv slots idx pend).map specToModel := by
  intro slots
  induction slots with
  | nil => intros; rfl
  | cons s rest ih =>
    intro idx pend b hw hv hp
    rw [readLoop_cons, specLoop_cons]
    cases act sv s with
    | stop => rfl
    | skip => simpa using ih (idx + 1) [] (clear alloc b) (WF_clear alloc b) rfl (Nat.zero_le _)
    | grow =>
      have := ih (idx + 1) (s :: pend) _ (WF_process alloc b s hw) (by rw [view_process alloc b s hw, hv]; rfl)
        (by simp; omega)
      rwa [show idx + 1 - (s :: pend).length = idx - pend.length by simp] at this
    | emit =>
      have hnew := ih (idx + 1) [] (new alloc) (WF_new alloc) rfl (Nat.zero_le _)
      simp only [List.length_nil, Nat.sub_zero] at hnew
      simp only [List.map_cons]
      rw [hnew, specToModel_mk, finish_view alloc b _ hw, hv]
      exact congrArg (LfnEntry.mk s · _ _ :: _) (fin_specRun _ pend 1 [] rfl (Nat.le_refl 1))

/-! ### declarative reading of the backward scan -/

/-- `R` (on-disk order) is a complete long-name set for checksum `c`: first slot carries `0x40 | n` with
    `n = |R| ≤ 20`, then ordinals `n-1 … 1` unflagged, one checksum -/
def CompleteRun (c : Nat) (R : List (List Nat)) : Prop :=
  ∃ s0 T, R = s0 :: T ∧ order s0 % 32 = T.length + 1 ∧ T.length + 1 ≤ 20 ∧ order s0 / 64 % 2 = 1 ∧
    chk s0 = c ∧ TailOk c T T.length

/-- all units of a run in name order -/
def runUnits (R : List (List Nat)) : List Nat := tailUnits R

/-- a complete set read from any state is handed out to a short entry with its checksum -/
theorem fin_complete (c : Nat) (R : List (List Nat)) (h : CompleteRun c R) (o : Option (Nat × Nat × List Nat)) :
    fin c (R.foldl astep o) = capName (cutAtNul (runUnits R)) := by
  obtain ⟨s0, T, rfl, h1, h2, h3, h4, h5⟩ := h
  rw [List.foldl_cons, fin_tail c T _ _ h5]
  unfold astep
  rw [if_neg (by omega), if_pos h3]
  simp only
  rw [if_pos ⟨by omega, h4, by omega⟩]; rfl

theorem TailOk_length (c : Nat) : ∀ T j, TailOk c T j → T.length = j := by
  intro T
  induction T with
  | nil => intro j h; simp [TailOk] at h; simp [h]
  | cons s T ih =>
    intro j h
    have := ih _ h.2.2.2.2
    have h1 := h.1
    simp only [List.length_cons]; omega

/-- soundness: whatever the backward scan returns is a complete set ending right before the short entry -/
theorem specRun_sound (c : Nat) : ∀ Q k T r, TailOk c T (k - 1) → 1 ≤ k →
    DirSpec.specRun c Q k (tailUnits T) = some r →
    ∃ R Q0, Q = R.reverse ++ Q0 ∧ CompleteRun c (R ++ T) ∧ r = runUnits (R ++ T) := by
  intro Q
  induction Q with
  | nil => intro k T r _ _ h; simp [DirSpec.specRun] at h
  | cons s Q ih =>
    intro k T r ht hk h
    rw [specRun_cons] at h
    by_cases hbad : 20 < k ∨ chk s ≠ c ∨ order s % 32 ≠ k
    · rw [if_pos hbad] at h; cases h
    · rw [if_neg hbad] at h
      have c2' : chk s = c := by omega
      have hl := TailOk_length c T _ ht
      by_cases c4 : order s / 64 % 2 = 1
      · rw [if_pos c4] at h
        refine ⟨[s], Q, by simp, ⟨s, T, rfl, by omega, by omega, c4, c2', by rw [hl]; exact ht⟩, ?_⟩
        simp [runUnits, tailUnits, ← Option.some.inj h]
      · rw [if_neg c4] at h
        have ht' : TailOk c (s :: T) (k + 1 - 1) := ⟨by omega, by omega, c4, c2', by simpa using ht⟩
        obtain ⟨R, Q0, e1, e2, e3⟩ := ih (k + 1) (s :: T) r ht' (by omega) (by simpa [tailUnits] using h)
        exact ⟨R ++ [s], Q0, by simp [e1], by simpa using e2, by simpa using e3⟩

/-- the backward scan walks over a tail of ordinals `1 … j` (the mirror of `fin_tail`) -/
theorem specRun_tail (c : Nat) : ∀ (T Q : List (List Nat)) (j : Nat), TailOk c T j → j ≤ 20 →
    DirSpec.specRun c (T.reverse ++ Q) 1 [] = DirSpec.specRun c Q (j + 1) (tailUnits T)
  | [], Q, j, h, _ => by simp only [TailOk] at h; subst h; rfl
  | s :: T, Q, j, ⟨h1, h2, h3, h4, h5⟩, h20 => by
    rw [List.reverse_cons, List.append_assoc, List.singleton_append, specRun_tail c T (s :: Q) (j - 1) h5 (by omega),
      specRun_cons, if_neg (by omega), if_neg h3, show j - 1 + 1 + 1 = j + 1 by omega]
    rfl

/-- completeness: a complete set directly before the short entry is found, whatever precedes it -/
theorem specRun_complete (c : Nat) (R Q0 : List (List Nat)) (h : CompleteRun c R) :
    DirSpec.specRun c (R.reverse ++ Q0) 1 [] = some (runUnits R) := by
  obtain ⟨s0, T, rfl, h1, h2, h3, h4, h5⟩ := h
  rw [List.reverse_cons, List.append_assoc, List.singleton_append, specRun_tail c T _ _ h5 (by omega), specRun_cons,
    if_neg (by omega), if_pos h3]
  rfl

end Lfn
end FatVerif
