import FatVerif.Proofs.ImgLemmas
import FatVerif.Proofs.Prog
/-! The device image is the replay of the device log: for every program, `run p d = (r, d')` implies that the bytes of
    `d'.img` are those of `d.img` with the records appended to the log applied in order (`run_img_eq_replay`). This
    turns every statement about the write log into a statement about the image. -/
namespace FatVerif

/-- effect of one record on the bytes -/
def applyRec (g : Nat → Nat) : LogItem → Nat → Nat
  | .write off bs, p => if off ≤ p ∧ p < off + bs.length then bs.getD (p - off) 0 else g p
  | .flush, p => g p

/-- effect of a list of records, newest first -/
def replay (g : Nat → Nat) : List LogItem → Nat → Nat
  | [] => g
  | it :: older => applyRec (replay g older) it

theorem replay_append (g : Nat → Nat) (a b : List LogItem) : replay g (a ++ b) = replay (replay g b) a := by
  induction a with
  | nil => rfl
  | cons it a ih => simp only [List.cons_append, replay, ih]

/-- records that do not cover `p` leave its byte alone -/
theorem replay_outside (g : Nat → Nat) (p : Nat) : ∀ (l : List LogItem),
    (∀ off bs, LogItem.write off bs ∈ l → ¬ (off ≤ p ∧ p < off + bs.length)) → replay g l p = g p := by
  intro l
  induction l with
  | nil => intro _; rfl
  | cons it l ih =>
    intro h
    cases it with
    | flush => simp only [replay, applyRec]; exact ih (fun off bs hm => h off bs (List.mem_cons_of_mem _ hm))
    | write off bs =>
      simp only [replay, applyRec]
      rw [if_neg (h off bs (List.mem_cons_self ..))]
      exact ih (fun off' bs' hm => h off' bs' (List.mem_cons_of_mem _ hm))

/-- a device stores bytes: the values of a record taken modulo 256 (what `Img.write` stores) -/
def LogItem.norm : LogItem → LogItem
  | .write off bs => .write off (bs.map (· % 256))
  | .flush => .flush

theorem getD_map_mod (bs : List Nat) (i : Nat) : (bs.map (· % 256)).getD i 0 = bs.getD i 0 % 256 := by
  simp only [List.getD_eq_getElem?_getD, List.getElem?_map]
  cases bs[i]? <;> rfl

theorem getD_append_lt' {α} {A R : List α} {i : Nat} {x : α} (h : i < A.length) : (A ++ R).getD i x = A.getD i x := by
  simp [List.getD_eq_getElem?_getD, List.getElem?_append_left h]

theorem getD_append_ge' {α} {A R : List α} {i : Nat} {x : α} (h : A.length ≤ i) :
    (A ++ R).getD i x = R.getD (i - A.length) x := by
  simp [List.getD_eq_getElem?_getD, List.getElem?_append_right h]

/-- consecutive records overlay to the one record of their concatenation -/
theorem applyRec_append (g : Nat → Nat) (p : Nat) (a b : List Nat) :
    applyRec (applyRec g (.write p a)) (.write (p + a.length) b) = applyRec g (.write p (a ++ b)) := by
  funext x
  simp only [applyRec, List.length_append]
  by_cases h1 : p + a.length ≤ x ∧ x < p + a.length + b.length
  · rw [if_pos h1, if_pos (by omega), getD_append_ge' (by omega)]
    congr 1; omega
  · rw [if_neg h1]
    by_cases h2 : p ≤ x ∧ x < p + a.length
    · rw [if_pos h2, if_pos (by omega), getD_append_lt' (by omega)]
    · rw [if_neg h2, if_neg (by omega)]

namespace DirSim

/-- what `Img.write` stores is the record with its bytes taken modulo 256 -/
theorem putBytes_eq (g : Nat → Nat) (p : Nat) (bs : List Nat) :
    putBytes g p bs = applyRec g (.write p (bs.map (· % 256))) := by
  funext q; simp only [putBytes, applyRec, List.length_map, getD_map_mod]

theorem putBytes_append (g : Nat → Nat) (p : Nat) (a b : List Nat) :
    putBytes (putBytes g p a) (p + a.length) b = putBytes g p (a ++ b) := by
  rw [putBytes_eq, putBytes_eq, putBytes_eq, List.map_append, ← applyRec_append, List.length_map]

end DirSim

/-- the image after is the image before with the appended log records applied (given the page table is well formed,
    which is then preserved) -/
def ImgRel (d d' : Dev) : Prop :=
  d.img.WF → d'.img.WF ∧ ∃ items, d'.log = items ++ d.log ∧
    ∀ q, d'.img.getByte q = replay d.img.getByte (items.map LogItem.norm) q

theorem imgRel_ok : RelOK ImgRel where
  refl := fun d h => ⟨h, [], rfl, fun _ => rfl⟩
  trans := by
    intro a b c h1 h2 ha
    obtain ⟨hb, i1, e1, g1⟩ := h1 ha
    obtain ⟨hc, i2, e2, g2⟩ := h2 hb
    refine ⟨hc, i2 ++ i1, by rw [e2, e1, List.append_assoc], fun q => ?_⟩
    have hfun : b.img.getByte = replay a.img.getByte (i1.map LogItem.norm) := funext g1
    rw [g2 q, hfun, List.map_append, replay_append]
  depth := fun d n h => ⟨h, [], rfl, fun _ => rfl⟩

theorem stepOp_imgRel (o : Op) (d : Dev) (r : Except Err (Resp o)) (d' : Dev) (hr : stepOp o d = (r, d')) :
    ImgRel d d' := by
  intro hw
  rcases (stepOp_facts o d hr).eff with ⟨hi, hl | hl⟩ | ⟨_, off, bs, hi, hl⟩
  · exact ⟨hi ▸ hw, [], hl, fun q => by rw [hi]; rfl⟩
  · exact ⟨hi ▸ hw, [.flush], hl, fun q => by rw [hi]; rfl⟩
  · refine ⟨hi ▸ Img.wf_write _ hw _ _, [.write off bs], hl, fun q => ?_⟩
    simp only [hi, List.map, LogItem.norm, replay, applyRec, List.length_map, getD_map_mod]
    exact Img.getByte_write _ hw _ _ q

/-- **`run_img_eq_replay`**: for every program and every run, on a well-formed image: the image afterwards is the image
    before with the records the run appended to the log — their bytes taken modulo 256 — replayed on it (and is well formed
    again) -/
theorem run_img_eq_replay {α} (p : Prog α) (d : Dev) (r : Except Err α) (d' : Dev) (hr : run p d = (r, d'))
    (hw : d.img.WF) :
    d'.img.WF ∧ ∃ items, d'.log = items ++ d.log ∧
      ∀ q, d'.img.getByte q = replay d.img.getByte (items.map LogItem.norm) q :=
  (steps_of_ops imgRel_ok stepOp_imgRel p).out d r d' hr hw

theorem run_wf {α} (p : Prog α) (d : Dev) (r : Except Err α) (d' : Dev) (hr : run p d = (r, d')) (hw : d.img.WF) :
    d'.img.WF :=
  (run_img_eq_replay p d r d' hr hw).1

/-- flush records do not matter for the bytes -/
theorem replay_filter (g : Nat → Nat) (l : List LogItem) : replay g (l.filter LogItem.isWrite) = replay g l := by
  induction l with
  | nil => rfl
  | cons it l ih =>
    cases it with
    | flush => simp only [List.filter_cons, LogItem.isWrite, Bool.false_eq_true, if_false, replay, ih]; rfl
    | write off bs => simp only [List.filter_cons, LogItem.isWrite, if_true, replay, ih]

theorem replay_norm (g : Nat → Nat) (hg : ∀ q, g q < 256) : ∀ (l : List LogItem) (q : Nat),
    replay g (l.map LogItem.norm) q = replay g l q % 256 := by
  intro l
  induction l with
  | nil => intro q; simp only [List.map_nil, replay]; exact (Nat.mod_eq_of_lt (hg q)).symm
  | cons it l ih =>
    intro q
    cases it with
    | flush => simp only [List.map_cons, LogItem.norm, replay, applyRec]; exact ih q
    | write off bs =>
      simp only [List.map_cons, LogItem.norm, replay, applyRec, List.length_map]
      split
      · exact getD_map_mod bs _
      · exact ih q

/-- the write records appended between `d` and `d'` are exactly `L` (newest first) -/
def Seg (d d' : Dev) (L : List LogItem) : Prop := d'.writesOf = L ++ d.writesOf

theorem Seg.refl (d : Dev) : Seg d d [] := rfl

theorem Seg.of_log_eq {d d' : Dev} (h : d'.log = d.log) : Seg d d' [] := by
  unfold Seg Dev.writesOf; rw [h]; rfl

theorem Seg.trans {a b c : Dev} {L1 L2 : List LogItem} (h1 : Seg a b L1) (h2 : Seg b c L2) : Seg a c (L2 ++ L1) := by
  unfold Seg at *; rw [h2, h1, List.append_assoc]

theorem img_after_seg {α} {p : Prog α} {d d' : Dev} {r : Except Err α} (hr : run p d = (r, d')) (hwf : d.img.WF)
    {L : List LogItem} (hs : Seg d d' L) :
    d'.img.WF ∧ ∀ q, d'.img.getByte q = replay d.img.getByte L q % 256 := by
  obtain ⟨h1, items, hl, hv⟩ := run_img_eq_replay p d r d' hr hwf
  refine ⟨h1, fun q => ?_⟩
  rw [hv q, replay_norm _ (Img.getByte_lt _) items q]
  have hf : items.filter LogItem.isWrite = L := by
    unfold Seg Dev.writesOf at hs
    rw [hl, List.filter_append] at hs
    exact List.append_cancel_right hs
  rw [← hf, replay_filter]

/-- a step without write records leaves the bytes alone -/
theorem img_after_quiet {α} {p : Prog α} {d d' : Dev} {r : Except Err α} (hr : run p d = (r, d')) (hwf : d.img.WF)
    (hs : d'.writesOf = d.writesOf) : d'.img.WF ∧ ∀ q, d'.img.getByte q = d.img.getByte q := by
  have := img_after_seg hr hwf (L := []) (by unfold Seg; simpa using hs)
  refine ⟨this.1, fun q => ?_⟩
  rw [this.2 q]; simp only [replay]; exact Nat.mod_eq_of_lt (Img.getByte_lt _ _)

end FatVerif
