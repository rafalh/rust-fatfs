import FatVerif.Proofs.NamesGen
/-! State invariant of the alias generator and legality of everything `generate` returns (C16.1). -/
namespace FatVerif.Names

theorem legalSfnBytes_eq : legalSfnBytes =
    [65, 66, 67, 68, 69, 70, 71, 72, 73, 74, 75, 76, 77, 78, 79, 80, 81, 82, 83, 84, 85, 86, 87, 88, 89, 90,
     48, 49, 50, 51, 52, 53, 54, 55, 56, 57, 33, 35, 36, 37, 38, 39, 40, 41, 45, 64, 94, 95, 96, 123, 125, 126] := by
  decide

theorem sfnByte_small : ∀ n < 128, (if sfnAllowed n then asciiUpper n else 95) ∈ legalSfnBytes := by
  rw [legalSfnBytes_eq]; decide +kernel

theorem sfnByte_legal (c : Char) : sfnByte c ∈ legalSfnBytes := by
  unfold sfnByte
  by_cases h : c.toNat < 128
  · exact sfnByte_small _ h
  · have : sfnAllowed c.toNat = false := by
      simp only [sfnAllowed, Bool.or_eq_false_iff, Bool.and_eq_false_iff, decide_eq_false_iff_not,
        List.contains_eq_mem, List.mem_cons, List.not_mem_nil, or_false]
      omega
    rw [this]; simp only [Bool.false_eq_true, if_false]; rw [legalSfnBytes_eq]; decide

theorem hexUp_legal : ∀ d < 16, hexUp d ∈ legalSfnBytes := by
  rw [legalSfnBytes_eq]; decide

theorem digit_legal : ∀ i < 10, 48 + i ∈ legalSfnBytes := by
  rw [legalSfnBytes_eq]; decide

theorem tilde_legal : 126 ∈ legalSfnBytes := by
  rw [legalSfnBytes_eq]; decide

theorem legal_not_reserved : ∀ x ∈ legalSfnBytes, x ≠ 0x00 ∧ x ≠ 0x05 ∧ x ≠ 0xE5 ∧ x ≠ 0x20 := by
  rw [legalSfnBytes_eq]; decide

def AllLegal (l : List Nat) : Prop := ∀ x ∈ l, x ∈ legalSfnBytes

theorem AllLegal.append {a b : List Nat} (ha : AllLegal a) (hb : AllLegal b) : AllLegal (a ++ b) := by
  intro x hx; rcases List.mem_append.1 hx with h | h
  · exact ha x h
  · exact hb x h

theorem AllLegal.take {a : List Nat} (ha : AllLegal a) (k : Nat) : AllLegal (a.take k) :=
  fun x hx => ha x (List.mem_of_mem_take hx)

/-! ## `copy_short_name_part` -/

theorem copyPart_spec (cap : Nat) (src : List Char) (out : List Nat) (lossy : Bool)
    (hlen : out.length ≤ cap) (hleg : AllLegal out) :
    (copyPart cap src out lossy).out.length ≤ cap ∧ AllLegal (copyPart cap src out lossy).out ∧
    out.length ≤ (copyPart cap src out lossy).out.length ∧
    ((copyPart cap src out lossy).lossy = false →
      lossy = false ∧ (src ≠ [] → out.length < cap → out.length < (copyPart cap src out lossy).out.length)) := by
  induction src generalizing out lossy with
  | nil => simp [copyPart, hlen, hleg]
  | cons c cs ih =>
    unfold copyPart
    by_cases h1 : out.length = cap
    · simp only [h1, if_true]
      refine ⟨by omega, hleg, by omega, fun h => ⟨h, fun _ h' => by omega⟩⟩
    · simp only [h1, if_false]
      by_cases h2 : c = ' ' ∨ c = '.'
      · simp only [h2, if_true]
        obtain ⟨a, b, c', d⟩ := ih out true hlen hleg
        refine ⟨a, b, c', fun h => ?_⟩
        have := (d h).1; cases this
      · simp only [h2, if_false]
        have hl' : (out ++ [sfnByte c]).length ≤ cap := by simp; omega
        have hg' : AllLegal (out ++ [sfnByte c]) :=
          hleg.append (by intro x hx; simp at hx; subst hx; exact sfnByte_legal c)
        obtain ⟨a, b, c', d⟩ := ih (out ++ [sfnByte c]) (lossy || !(sfnAllowed c.toNat)) hl' hg'
        refine ⟨a, b, by simp at c'; omega, fun h => ?_⟩
        have := (d h).1
        refine ⟨by cases lossy <;> simp_all, fun _ _ => by simp at c'; omega⟩

/-! ## padding -/

theorem padTo_length {k : Nat} {l : List Nat} (h : l.length ≤ k) : (padTo k l).length = k := by
  simp [padTo]; omega

theorem legalField_padTo {k : Nat} {l : List Nat} (h : l.length ≤ k) (hl : AllLegal l) : LegalField (padTo k l) := by
  refine ⟨l.length, by rw [padTo_length h]; exact h, ?_, ?_⟩
  · unfold padTo; rw [List.take_left']; exact hl; rfl
  · unfold padTo; rw [List.drop_left']; simp; rfl

/-! ## the invariant -/

/-- shape of every reachable generator state (for every name, the empty one included): the two fields hold legal
    bytes then padding, `basename_len` is the number of bytes in the first field, `chksum` is a `u16` -/
def GenWF (g : Gen) : Prop :=
  ∃ b e : List Nat, g.shortName = padTo 8 b ++ padTo 3 e ∧ b.length ≤ 8 ∧ e.length ≤ 3 ∧
    g.basenameLen = b.length ∧ AllLegal b ∧ AllLegal e ∧ g.chksum < 65536

/-- additional invariant of the states built from a NON-EMPTY name: a loss-free conversion wrote at least one byte
    of the base (so the exact form never starts with padding) -/
def GenNE (g : Gen) : Prop := g.lossyConv = false → g.basenameLen ≠ 0

/-- a fold whose step stays below `n` stays below `n` -/
theorem foldl_lt {α : Type} {f : Nat → α → Nat} {n : Nat} (hf : ∀ a x, f a x < n) :
    ∀ (l : List α) (a : Nat), a < n → l.foldl f a < n
  | [], _, h => h
  | x :: xs, a, _ => foldl_lt hf xs _ (hf a x)

theorem checksum_lt (name : List Char) : checksum name < 65536 :=
  foldl_lt (fun chk c => by unfold checksumStep; omega) name 0 (by omega)

theorem newParts_wf (name base : List Char) (ext : Option (List Char)) :
    GenWF (newParts name base ext) := by
  obtain ⟨b1, b2, _, b4⟩ := copyPart_spec 8 base [] false (by simp) (by intro x hx; simp at hx)
  refine ⟨(copyPart 8 base [] false).out,
    (match ext with | none => (⟨[], true, false⟩ : PartRes) | some x => copyPart 3 x [] false).out,
    rfl, b1, ?_, rfl, b2, ?_, checksum_lt name⟩
  · cases ext with
    | none => simp
    | some x => exact (copyPart_spec 3 x [] false (by simp) (by intro x hx; simp at hx)).1
  · cases ext with
    | none => intro x hx; simp at hx
    | some x => exact (copyPart_spec 3 x [] false (by simp) (by intro x hx; simp at hx)).2.1

theorem newParts_ne (name base : List Char) (ext : Option (List Char)) (hb : base ≠ []) :
    GenNE (newParts name base ext) := by
  obtain ⟨_, _, _, b4⟩ := copyPart_spec 8 base [] false (by simp) (by intro x hx; simp at hx)
  intro hl
  have hl' : (copyPart 8 base [] false).lossy = false := by
    simp only [newParts, Bool.or_eq_false_iff] at hl; exact hl.1
  have := (b4 hl').2 hb (by simp)
  simp only [newParts]
  simp at this
  omega

theorem newL_wf {name : List Char} {g : Gen} (h : newL name = .ok g) : GenWF g := by
  obtain ⟨base, ext, h', _⟩ := newL_eq name
  cases h'.symm.trans h
  exact newParts_wf _ _ _

theorem newL_ne {name : List Char} {g : Gen} (hn : name ≠ []) (h : newL name = .ok g) : GenNE g := by
  obtain ⟨base, ext, h', hb⟩ := newL_eq name
  cases h'.symm.trans h
  exact newParts_ne _ _ _ (hb hn)

/-- the fields `add_existing`/`next_iteration` never touch -/
def SameStatic (g g' : Gen) : Prop :=
  g'.shortName = g.shortName ∧ g'.basenameLen = g.basenameLen ∧ g'.nameFits = g.nameFits ∧ g'.lossyConv = g.lossyConv

/-- same static fields and same checksum: `build_prefixed_name` and the three checks behave identically -/
def Same (g g' : Gen) : Prop := SameStatic g g' ∧ g'.chksum = g.chksum

theorem SameStatic.refl (g : Gen) : SameStatic g g := ⟨rfl, rfl, rfl, rfl⟩

theorem SameStatic.trans {a b c : Gen} (h1 : SameStatic a b) (h2 : SameStatic b c) : SameStatic a c :=
  ⟨h2.1.trans h1.1, h2.2.1.trans h1.2.1, h2.2.2.1.trans h1.2.2.1, h2.2.2.2.trans h1.2.2.2⟩

theorem Same.refl (g : Gen) : Same g g := ⟨SameStatic.refl g, rfl⟩

theorem Same.trans {a b c : Gen} (h1 : Same a b) (h2 : Same b c) : Same a c :=
  ⟨h1.1.trans h2.1, h2.2.trans h1.2⟩

theorem testBit_setBit (bm d i : Nat) : (setBit bm d).testBit i = (bm.testBit i || decide (d = i)) := by
  unfold setBit
  rw [Nat.testBit_or, Nat.one_shiftLeft, Nat.testBit_two_pow]

/-! ## what a population member records -/

/-- set the bit of the digit a population member blocks, if it blocks one -/
def mark (bm : Nat) : Option Nat → Nat
  | none => bm
  | some d => setBit bm d

theorem testBit_mark (bm : Nat) (k : Option Nat) (i : Nat) : (mark bm k).testBit i = (bm.testBit i || decide (k = some i)) := by
  cases k with
  | none => simp [mark]
  | some d => simp [mark, testBit_setBit]

/-- the digit `sn` blocks among the candidates `PREFIX~d` -/
def longKey (g : Gen) (sn : List Nat) : Option Nat :=
  if byteAt sn (longPrefixLen g) = 126 ∧ prefixExtMatch g sn (longPrefixLen g) = true
  then digit10 (byteAt sn (longPrefixLen g + 1)) else none

/-- the checksum `sn` carries in hex if it has the form `PRhhhh~d`: the one round in which it blocks a candidate -/
def hashKey (g : Gen) (sn : List Nat) : Option Nat :=
  if byteAt sn (shortPrefixLen g + 4) = 126 ∧ (digit10 (byteAt sn (shortPrefixLen g + 4 + 1))).isSome = true ∧
      prefixExtMatch g sn (shortPrefixLen g) = true
  then fromStrRadix16 ((sn.drop (shortPrefixLen g)).take 4) else none

/-- the digit `sn` blocks among the candidates `PRhhhh~d` of the round whose checksum is `c` -/
def shortKey (g : Gen) (c : Nat) (sn : List Nat) : Option Nat :=
  if hashKey g sn = some c then digit10 (byteAt sn (shortPrefixLen g + 4 + 1)) else none

theorem hashKey_of_shortKey {g : Gen} {c i : Nat} {sn : List Nat} (h : shortKey g c sn = some i) :
    hashKey g sn = some c := by
  unfold shortKey at h
  split at h
  · assumption
  · cases h

/-- a name blocks one digit of one round -/
theorem shortKey_fun {g : Gen} {sn : List Nat} {c i c' i' : Nat} (h : shortKey g c sn = some i)
    (h' : shortKey g c' sn = some i') : c = c' ∧ i = i' := by
  have hc := Option.some.inj ((hashKey_of_shortKey h).symm.trans (hashKey_of_shortKey h'))
  subst hc
  exact ⟨rfl, Option.some.inj (h.symm.trans h')⟩

theorem hashKey_static {g g' : Gen} (h : SameStatic g g') (sn : List Nat) : hashKey g' sn = hashKey g sn := by
  simp [hashKey, shortPrefixLen, prefixExtMatch, h.1, h.2.1]

theorem shortKey_static {g g' : Gen} (h : SameStatic g g') (c : Nat) (sn : List Nat) :
    shortKey g' c sn = shortKey g c sn := by
  simp [shortKey, hashKey_static h, shortPrefixLen, h.2.1]

theorem markExact_eq (g : Gen) (sn : List Nat) :
    markExact g sn = { g with exactMatch := g.exactMatch || decide (sn = g.shortName) } := by
  unfold markExact; split <;> simp [*]

theorem checkLong_eq (g : Gen) (sn : List Nat) :
    checkLong g sn = { g with longPrefixBitmap := mark g.longPrefixBitmap (longKey g sn) } := by
  unfold checkLong longKey
  by_cases h1 : byteAt sn (longPrefixLen g) = 126
  · cases h2 : digit10 (byteAt sn (longPrefixLen g + 1)) <;>
      by_cases h3 : prefixExtMatch g sn (longPrefixLen g) = true <;> simp [h1, h3, mark]
  · simp [h1, mark]

theorem checkShort_eq (g : Gen) (sn : List Nat) :
    checkShort g sn = { g with prefixChksumBitmap := mark g.prefixChksumBitmap (shortKey g g.chksum sn) } := by
  unfold checkShort shortKey hashKey
  by_cases h1 : byteAt sn (shortPrefixLen g + 4) = 126
  · cases h2 : digit10 (byteAt sn (shortPrefixLen g + 4 + 1)) <;>
      by_cases h3 : prefixExtMatch g sn (shortPrefixLen g) = true <;>
      by_cases h4 : fromStrRadix16 ((sn.drop (shortPrefixLen g)).take 4) = some g.chksum <;>
      simp [h1, h3, h4, mark]
  · simp [h1, mark]

/-- **`add_existing` in one equation**: the three checks read only the fields they never write -/
theorem addExisting_eq (g : Gen) (sn : List Nat) :
    addExisting g sn = { g with exactMatch := g.exactMatch || decide (sn = g.shortName)
                                longPrefixBitmap := mark g.longPrefixBitmap (longKey g sn)
                                prefixChksumBitmap := mark g.prefixChksumBitmap (shortKey g g.chksum sn) } := by
  rw [addExisting, markExact_eq, checkLong_eq, checkShort_eq]; rfl

/-- the whole population: each bitmap is a fold of `mark` over keys computed from the ORIGINAL generator -/
theorem addAll_eq (g : Gen) (ex : List (List Nat)) :
    addAll g ex = { g with exactMatch := g.exactMatch || ex.any (fun sn => decide (sn = g.shortName))
                           longPrefixBitmap := ex.foldl (fun bm sn => mark bm (longKey g sn)) g.longPrefixBitmap
                           prefixChksumBitmap :=
                             ex.foldl (fun bm sn => mark bm (shortKey g g.chksum sn)) g.prefixChksumBitmap } := by
  induction ex generalizing g with
  | nil => simp [addAll]
  | cons e es ih =>
    rw [addAll, List.foldl_cons, ← addAll, ih, addExisting_eq]
    simp [Bool.or_assoc, longKey, shortKey, hashKey, longPrefixLen, shortPrefixLen, prefixExtMatch]

theorem testBit_foldl_mark {α : Type} (k : α → Option Nat) (i : Nat) : ∀ (l : List α) (bm : Nat),
    (l.foldl (fun bm x => mark bm (k x)) bm).testBit i = (bm.testBit i || l.any fun x => decide (k x = some i))
  | [], bm => by simp
  | x :: xs, bm => by rw [List.foldl_cons, testBit_foldl_mark k i xs, testBit_mark, List.any_cons, Bool.or_assoc]


theorem addExisting_same (g : Gen) (sn : List Nat) : Same g (addExisting g sn) := by
  rw [addExisting_eq]; exact Same.refl g

theorem addAll_same (g : Gen) (ex : List (List Nat)) : Same g (addAll g ex) := by
  rw [addAll_eq]; exact Same.refl g

theorem nextIteration_static (g : Gen) : SameStatic g (nextIteration g) := ⟨rfl, rfl, rfl, rfl⟩

theorem GenWF.of_static {g g' : Gen} (h : GenWF g) (hs : SameStatic g g') (hc : g'.chksum < 65536) : GenWF g' := by
  obtain ⟨b, e, h1, h2, h3, h4, h5, h6, _⟩ := h
  exact ⟨b, e, by rw [hs.1, h1], h2, h3, by rw [hs.2.1, h4], h5, h6, hc⟩

theorem GenNE.of_static {g g' : Gen} (h : GenNE g) (hs : SameStatic g g') : GenNE g' := by
  intro hl; rw [hs.2.1]; exact h (by rw [← hs.2.2.2]; exact hl)

theorem GenWF.chk {g : Gen} (h : GenWF g) : g.chksum < 65536 := by
  obtain ⟨_, _, _, _, _, _, _, _, h7⟩ := h; exact h7

theorem Same.wf {g g' : Gen} (h : Same g g') (hw : GenWF g) : GenWF g' :=
  hw.of_static h.1 (by rw [h.2]; exact hw.chk)

theorem GenWF.addExisting {g : Gen} (h : GenWF g) (sn : List Nat) : GenWF (addExisting g sn) :=
  (addExisting_same g sn).wf h

theorem GenWF.addAll {g : Gen} (h : GenWF g) (ex : List (List Nat)) : GenWF (addAll g ex) :=
  (addAll_same g ex).wf h

theorem GenWF.nextIteration {g : Gen} (h : GenWF g) : GenWF (nextIteration g) :=
  h.of_static (nextIteration_static g) (by simp only [Names.nextIteration]; omega)

/-! ## legality of generated names -/

theorem u16ToHex_legal (x : Nat) : AllLegal (u16ToHex x) := by
  intro y hy
  simp only [u16ToHex, List.mem_cons, List.not_mem_nil, or_false] at hy
  rcases hy with h | h | h | h <;> subst h <;> apply hexUp_legal <;> omega

theorem u16ToHex_length (x : Nat) : (u16ToHex x).length = 4 := rfl

/-- facts about the 11-byte buffer of a well-formed state -/
theorem shortName_shape {g : Gen} {b e : List Nat} (hs : g.shortName = padTo 8 b ++ padTo 3 e)
    (hb : b.length ≤ 8) (he : e.length ≤ 3) :
    g.shortName.length = 11 ∧ g.shortName.take 8 = padTo 8 b ∧ g.shortName.drop 8 = padTo 3 e ∧
    ∀ p, p ≤ b.length → g.shortName.take p = b.take p := by
  have l8 := padTo_length hb
  have l3 := padTo_length he
  refine ⟨by rw [hs, List.length_append, l8, l3], by rw [hs, List.take_left' l8], by rw [hs, List.drop_left' l8], ?_⟩
  intro p hp
  rw [hs, List.take_append_of_le_length (by rw [l8]; omega)]
  unfold padTo
  rw [List.take_append_of_le_length hp]

theorem prefixPart_spec {g : Gen} (h : GenWF g) (w : Bool) :
    AllLegal (prefixPart g w) ∧ (prefixPart g w).length ≤ 6 := by
  obtain ⟨b, e, hs, hb, he, hl, lb, _, _⟩ := h
  obtain ⟨_, _, _, ht⟩ := shortName_shape hs hb he
  unfold prefixPart
  cases w with
  | true =>
    have hp : shortPrefixLen g ≤ b.length := by unfold shortPrefixLen; omega
    have h2 : shortPrefixLen g ≤ 2 := by unfold shortPrefixLen; omega
    simp only [if_true]
    rw [ht _ hp]
    refine ⟨(lb.take _).append (u16ToHex_legal _), ?_⟩
    simp [u16ToHex_length]; omega
  | false =>
    have hp : longPrefixLen g ≤ b.length := by unfold longPrefixLen; omega
    have h2 : longPrefixLen g ≤ 6 := by unfold longPrefixLen; omega
    simp only [Bool.false_eq_true, if_false]
    rw [ht _ hp]
    refine ⟨lb.take _, ?_⟩
    simp; omega

theorem legalAlias_of_fields {b e : List Nat} (hb : b.length ≤ 8) (he : e.length ≤ 3)
    (lb : AllLegal b) (le : AllLegal e) (hne : b ≠ []) : LegalAlias (padTo 8 b ++ padTo 3 e) := by
  have l8 := padTo_length hb
  have l3 := padTo_length he
  have hh : (padTo 8 b ++ padTo 3 e).head? = some (b.head hne) := by
    cases b with
    | nil => exact absurd rfl hne
    | cons x t => simp [padTo]
  obtain ⟨r0, r5, re5, r20⟩ := legal_not_reserved _ (lb _ (List.head_mem hne))
  refine ⟨by rw [List.length_append, l8, l3], ?_, ?_, ?_, ?_, ?_, ?_⟩
  · rw [List.take_left' l8]; exact legalField_padTo hb lb
  · rw [List.drop_left' l8]; exact legalField_padTo he le
  all_goals rw [hh]; simp only [ne_eq, Option.some.injEq]; assumption

theorem buildPrefixedName_legal {g : Gen} (h : GenWF g) (i : Nat) (hi : i < 10) (w : Bool) :
    LegalAlias (buildPrefixedName g i w) := by
  obtain ⟨lp, hp⟩ := prefixPart_spec h w
  obtain ⟨b, e, hs, hb, he, _, _, le, _⟩ := h
  obtain ⟨_, _, hd, _⟩ := shortName_shape hs hb he
  unfold buildPrefixedName
  rw [hd]
  refine legalAlias_of_fields (by simp; omega) he ?_ le (by simp)
  refine lp.append ?_
  intro x hx
  simp only [List.mem_cons, List.not_mem_nil, or_false] at hx
  rcases hx with h | h <;> subst h
  · exact tilde_legal
  · exact digit_legal i hi

theorem generate_cases {g : Gen} {a : List Nat} (h : generate g = .ok a) :
    (g.lossyConv = false ∧ g.nameFits = true ∧ g.exactMatch = false ∧ a = g.shortName) ∨
    (∃ i, 1 ≤ i ∧ i ≤ 4 ∧ bitClear g.longPrefixBitmap i = true ∧ a = buildPrefixedName g i false) ∨
    (∃ i, 1 ≤ i ∧ i ≤ 9 ∧ bitClear g.prefixChksumBitmap i = true ∧ a = buildPrefixedName g i true) := by
  unfold generate at h
  split at h
  · rename_i hc
    left
    simp only [Bool.and_eq_true, Bool.not_eq_true', ] at hc
    cases h
    exact ⟨hc.1.1, hc.1.2, hc.2, rfl⟩
  · split at h
    · rename_i i hf
      right; left
      cases h
      have hm := List.mem_of_find?_eq_some hf
      have hb := List.find?_some hf
      simp only [List.mem_cons, List.not_mem_nil, or_false] at hm
      exact ⟨i, by omega, by omega, hb, rfl⟩
    · split at h
      · rename_i i hf
        right; right
        cases h
        have hm := List.mem_of_find?_eq_some hf
        have hb := List.find?_some hf
        simp only [List.mem_cons, List.not_mem_nil, or_false] at hm
        exact ⟨i, by omega, by omega, hb, rfl⟩
      · cases h

/-- the `~N` forms are legal in every well-formed state (also for the empty name) -/
theorem generate_legal_prefixed {g : Gen} (h : GenWF g) {a : List Nat} (hg : generate g = .ok a)
    (hx : a ≠ g.shortName) : LegalAlias a := by
  rcases generate_cases hg with ⟨_, _, _, rfl⟩ | ⟨i, _, _, _, rfl⟩ | ⟨i, _, _, _, rfl⟩
  · exact absurd rfl hx
  · exact buildPrefixedName_legal h i (by omega) false
  · exact buildPrefixedName_legal h i (by omega) true

/-- C16.1 on a well-formed state built from a non-empty name -/
theorem generate_legal {g : Gen} (h : GenWF g) (hne : GenNE g) {a : List Nat} (hg : generate g = .ok a) :
    LegalAlias a := by
  rcases generate_cases hg with ⟨hl, _, _, rfl⟩ | ⟨i, _, _, _, rfl⟩ | ⟨i, _, _, _, rfl⟩
  · obtain ⟨b, e, hs, hb, he, hbl, lb, le, _⟩ := h
    have : b ≠ [] := by
      intro h0; exact hne hl (by rw [hbl, h0]; rfl)
    rw [hs]; exact legalAlias_of_fields hb he lb le this
  · exact buildPrefixedName_legal h i (by omega) false
  · exact buildPrefixedName_legal h i (by omega) true

/-- every state the library can bring a generator into after `new` -/
inductive Reach (g : Gen) : Gen → Prop
  | refl : Reach g g
  | add {g' : Gen} (sn : List Nat) : Reach g g' → Reach g (addExisting g' sn)
  | next {g' : Gen} : Reach g g' → Reach g (nextIteration g')

theorem Reach.wf {g g' : Gen} (h : GenWF g) (r : Reach g g') : GenWF g' := by
  induction r with
  | refl => exact h
  | add sn _ ih => exact ih.addExisting sn
  | next _ ih => exact ih.nextIteration

theorem Reach.static {g g' : Gen} (r : Reach g g') : SameStatic g g' := by
  induction r with
  | refl => exact SameStatic.refl g
  | add sn _ ih => exact ih.trans (addExisting_same _ sn).1
  | next _ ih => exact ih.trans (nextIteration_static _)

theorem Reach.ne {g g' : Gen} (h : GenNE g) (r : Reach g g') : GenNE g' := h.of_static r.static

theorem Reach.addAll {g g' : Gen} (r : Reach g g') (ex : List (List Nat)) : Reach g (addAll g' ex) := by
  unfold Names.addAll
  induction ex generalizing g' with
  | nil => exact r
  | cons e es ih => exact ih (Reach.add e r)

theorem newL_bitmaps {name : List Char} {g : Gen} (h : newL name = .ok g) :
    g.longPrefixBitmap = 0 ∧ g.prefixChksumBitmap = 0 ∧ g.exactMatch = false := by
  obtain ⟨base, ext, h', _⟩ := newL_eq name
  cases h'.symm.trans h
  exact ⟨rfl, rfl, rfl⟩

/-- whatever the retry loop returns was produced by `generate` in a reachable state that has just been fed the
    whole population -/
theorem loop_result (ex : List (List Nat)) {a : List Nat} {k : Nat} :
    ∀ (fuel i : Nat) (g0 g : Gen), Reach g0 g → generateLoop ex fuel i g = some (a, k) →
      ∃ g', Reach g0 g' ∧ generate (Names.addAll g' ex) = .ok a := by
  intro fuel
  induction fuel with
  | zero => intro i g0 g _ h; simp [generateLoop] at h
  | succ fuel ih =>
    intro i g0 g r h
    unfold generateLoop at h
    split at h
    · rename_i n hn; cases h; exact ⟨g, r, hn⟩
    · exact ih _ g0 _ (Reach.next (r.addAll ex)) h

end FatVerif.Names
