import FatVerif.Proofs.ReadOnlySession
import FatVerif.Proofs.Geom
import FatVerif.Proofs.ImgReplay
/-! WHERE the model writes (C10/C11): the judgement `GS` — "every write record a program appends to the device
    log satisfies `C`" — relative to the two things it holds fixed, a geometry `fs0` and a device size `sz` (hence the
    name), with its composition rules. -/
namespace FatVerif

/-! ### classification of the appended write records -/

/-- the log of `d'` extends that of `d`, and every write record added satisfies `C off bytes` -/
def LogAll (C : Nat → List Nat → Prop) (d d' : Dev) : Prop :=
  ∃ items, d'.log = items ++ d.log ∧ ∀ off bs, LogItem.write off bs ∈ items → C off bs

theorem LogAll.refl (C) (d : Dev) : LogAll C d d := ⟨[], rfl, by simp⟩

theorem LogAll.of_log_eq {C} {d d' : Dev} (h : d'.log = d.log) : LogAll C d d' := ⟨[], by simp [h], by simp⟩

theorem LogAll.trans {C} {a b c : Dev} (h1 : LogAll C a b) (h2 : LogAll C b c) : LogAll C a c := by
  obtain ⟨i1, e1, w1⟩ := h1
  obtain ⟨i2, e2, w2⟩ := h2
  refine ⟨i2 ++ i1, by rw [e2, e1, List.append_assoc], ?_⟩
  intro off bs hit
  rcases List.mem_append.mp hit with h | h
  · exact w2 _ _ h
  · exact w1 _ _ h

theorem LogAll.mono {C C' : Nat → List Nat → Prop} (h : ∀ off bs, C off bs → C' off bs) {d d' : Dev}
    (hl : LogAll C d d') : LogAll C' d d' := by
  obtain ⟨i, e, w⟩ := hl
  exact ⟨i, e, fun off bs hit => h _ _ (w _ _ hit)⟩

theorem LogAll.of_within {lo hi : Nat} {C : Nat → List Nat → Prop} {d d' : Dev} (h : LogWithin lo hi d d')
    (hc : ∀ off bs, lo ≤ off → off + bs.length ≤ hi → C off bs) : LogAll C d d' := by
  obtain ⟨i, e, w⟩ := h
  exact ⟨i, e, fun off bs hit => hc _ _ (w _ hit).1 (w _ hit).2⟩

/-- no write record added at all: all of them lie in the empty window `[1, 0)` -/
theorem LogAll.of_sameWrites {C} {d d' : Dev} (hx : LogExtends d d') (hs : SameWrites d d') : LogAll C d d' :=
  LogAll.of_within (logWithin_of_sameWrites (lo := 1) (hi := 0) hx hs) (fun _ _ h1 h2 => by omega)

theorem LogAll.cons {C} {d d' : Dev} {off : Nat} {bs : List Nat} (h : d'.log = .write off bs :: d.log) (hc : C off bs) :
    LogAll C d d' := by
  refine ⟨[.write off bs], by simp [h], ?_⟩
  intro o b hit
  simp only [List.mem_singleton, LogItem.write.injEq] at hit
  obtain ⟨rfl, rfl⟩ := hit; exact hc

/-- a byte outside every record class of the run keeps its value -/
theorem logAll_frame {C : Nat → List Nat → Prop} {α} {p : Prog α} {d d' : Dev} {r : Except Err α}
    (hr : run p d = (r, d')) (hw : d.img.WF) (hl : LogAll C d d') (q : Nat)
    (hq : ∀ off bs, C off bs → ¬ (off ≤ q ∧ q < off + bs.length)) : d'.img.getByte q = d.img.getByte q := by
  obtain ⟨_, items, hlog, hb⟩ := run_img_eq_replay p d r d' hr hw
  obtain ⟨items', hlog', hc⟩ := hl
  cases List.append_cancel_right (hlog.symm.trans hlog')
  rw [hb q]
  refine replay_outside _ q _ (fun off bs hm => ?_)
  obtain ⟨it, hit, hn⟩ := List.mem_map.mp hm
  cases it with
  | flush => cases hn
  | write off0 bs0 =>
    simp only [LogItem.norm, LogItem.write.injEq] at hn
    obtain ⟨rfl, rfl⟩ := hn
    rw [List.length_map]
    exact hq off0 bs0 (hc off0 bs0 hit)

/-- the judgement: started with geometry `fs0` on a device of size `sz`, `p` keeps the geometry, appends only write
    records satisfying `C`, and a successful result satisfies `Post` -/
structure GS {α} (fs0 : FsState) (sz : Nat) (C : Nat → List Nat → Prop) (p : Prog α) (Post : α → Prop) : Prop where
  out : ∀ (d : Dev) (r : Except Err α) (d' : Dev), SameGeom fs0 d.fs → d.img.size = sz → run p d = (r, d') →
    SameGeom fs0 d'.fs ∧ LogAll C d d' ∧ ∀ v, r = .ok v → Post v

/-- what a run under `GS` does to a device: records of class `C` only, same geometry, same size -/
def GSRel (C : Nat → List Nat → Prop) (d d' : Dev) : Prop :=
  LogAll C d d' ∧ SameGeom d.fs d'.fs ∧ d'.img.size = d.img.size

theorem gsRel_ok {C} : RelOK (GSRel C) :=
  ⟨fun d => ⟨LogAll.refl C d, SameGeom.refl _, rfl⟩,
   fun _ _ _ h1 h2 => ⟨h1.1.trans h2.1, h1.2.1.trans h2.2.1, h2.2.2.trans h1.2.2⟩,
   fun _ _ => ⟨LogAll.of_log_eq rfl, SameGeom.refl _, rfl⟩⟩

def GSPre (fs0 : FsState) (sz : Nat) (d : Dev) : Prop := SameGeom fs0 d.fs ∧ d.img.size = sz

theorem gsFrame {C} (fs0 : FsState) (sz : Nat) : Frame (GSRel C) (GSPre fs0 sz) :=
  ⟨gsRel_ok, fun _ _ h hr => ⟨h.1.trans hr.2.1, hr.2.2.trans h.2⟩, fun _ _ h => h⟩

theorem quietRel_gsRel {C : Nat → List Nat → Prop} (d d' : Dev) (h : QuietRel d d') : GSRel C d d' :=
  ⟨LogAll.of_sameWrites h.2.2.1 h.1, by rw [h.2.1]; exact SameGeom.refl _, h.2.2.2⟩

section rules
variable {fs0 : FsState} {sz : Nat} {C : Nat → List Nat → Prop}

theorem gs_iff_tri {α} {p : Prog α} {Post : α → Prop} :
    GS fs0 sz C p Post ↔ Tri (GSRel C) (GSPre fs0 sz) p (fun v _ => Post v) :=
  ⟨fun h => ⟨fun d r d' hp hr => let a := h.out d r d' hp.1 hp.2 hr
      ⟨⟨a.2.1, hp.1.symm.trans a.1, run_img_size _ _ _ _ hr⟩, a.2.2⟩⟩,
   fun h => ⟨fun d r d' hg hs hr => let a := h.out d r d' ⟨hg, hs⟩ hr; ⟨hg.trans a.1.2.1, a.1.1, a.2⟩⟩⟩

theorem GS.weaken {α} {p : Prog α} {Q Post : α → Prop} (h : GS fs0 sz C p Q) (hq : ∀ v, Q v → Post v) :
    GS fs0 sz C p Post :=
  gs_iff_tri.2 ((gs_iff_tri.1 h).conseq (fun _ h => h) (fun v _ => hq v))

theorem GS.mono {α} {C' : Nat → List Nat → Prop} {p : Prog α} {Post : α → Prop} (h : GS fs0 sz C p Post)
    (hc : ∀ off bs, C off bs → C' off bs) : GS fs0 sz C' p Post :=
  gs_iff_tri.2 ((gs_iff_tri.1 h).mono (fun _ _ hr => ⟨hr.1.mono hc, hr.2⟩))

theorem GS.pure {α} {Post : α → Prop} {a : α} (h : Post a) : GS fs0 sz C (Prog.pure a) Post :=
  gs_iff_tri.2 (Tri.pureV gsRel_ok h)

theorem GS.fail {α} {Post : α → Prop} (e : Err) : GS fs0 sz C (Prog.fail (α := α) e) Post :=
  gs_iff_tri.2 (Tri.fail gsRel_ok e)

/-- a program without `write`/`setFs` operations appends no write record -/
theorem GS.of_quiet {α} {p : Prog α} (hp : QuietOps p) : GS fs0 sz C p (fun _ => True) :=
  gs_iff_tri.2 (Tri.of_quiet quietRel_gsRel hp)

/-- a read-only judgement gives its postcondition here too (the mounted state is taken as it is) -/
theorem GS.of_ro {α} {p : Prog α} {Post : α → Prop} (hp : ∀ fs, RO fs p Post) : GS fs0 sz C p Post :=
  ⟨fun d r d' hg _ hr => by
    have h := (hp d.fs).out d r d' rfl hr
    exact ⟨by rw [h.2.1]; exact hg, LogAll.of_sameWrites (run_logExtends _ _ _ _ hr) h.1, h.2.2⟩⟩

theorem GS.getFs : GS fs0 sz C Prog.getFs (fun v => SameGeom fs0 v) := by
  refine ⟨fun d r d' hg _ hr => ?_⟩; simp only [Prog.getFs, run, stepOp] at hr; cases hr
  exact ⟨hg, LogAll.refl _ _, fun v hv => by cases hv; exact hg⟩

theorem GS.setFs {fs : FsState} (h : SameGeom fs0 fs) : GS fs0 sz C (Prog.setFs fs) (fun _ => True) := by
  refine ⟨fun d r d' _ _ hr => ?_⟩; simp only [Prog.setFs, run, stepOp] at hr; cases hr
  exact ⟨h, LogAll.of_log_eq rfl, fun _ _ => trivial⟩

theorem GS.modifyFs {f : FsState → FsState} (h : ∀ fs, SameGeom fs0 fs → SameGeom fs0 (f fs)) :
    GS fs0 sz C (Prog.modifyFs f) (fun _ => True) := by
  refine ⟨fun d r d' hg _ hr => ?_⟩
  rw [run_modifyFs] at hr; cases hr
  exact ⟨h _ hg, LogAll.of_log_eq rfl, fun _ _ => trivial⟩

theorem GS.bind {α β} {p : Prog β} {k : β → Prog α} {Q : β → Prop} {Post : α → Prop}
    (hp : GS fs0 sz C p Q) (hk : ∀ b, Q b → GS fs0 sz C (k b) Post) : GS fs0 sz C (Prog.bind p k) Post :=
  gs_iff_tri.2 (Tri.bindV (gsFrame fs0 sz) (gs_iff_tri.1 hp) (fun b hb => gs_iff_tri.1 (hk b hb)))

theorem GS.tryCatch {α} {p : Prog α} {h : Err → Prog α} {Post : α → Prop}
    (hp : GS fs0 sz C p Post) (hh : ∀ e, GS fs0 sz C (h e) Post) : GS fs0 sz C (Prog.tryCatch p h) Post :=
  gs_iff_tri.2 (Tri.tryCatch (gsFrame fs0 sz) (gs_iff_tri.1 hp) (fun e => gs_iff_tri.1 (hh e)))

theorem GS.finallyDrop {α} {p : Prog α} {c : Option α → Prog Unit} {Post : α → Prop}
    (hp : GS fs0 sz C p Post) (hsome : ∀ a, Post a → GS fs0 sz C (c (some a)) (fun _ => True))
    (hnone : GS fs0 sz C (c none) (fun _ => True)) : GS fs0 sz C (Prog.finallyDrop p c) Post :=
  gs_iff_tri.2 (Tri.finallyDropV (gsFrame fs0 sz) (gs_iff_tri.1 hp) (fun a ha => gs_iff_tri.1 (hsome a ha))
    (gs_iff_tri.1 hnone))

end rules

/-- one step of descent for `GS` goals; calls are closed by the listed `GS` lemmas, or by the listed `QuietOps` lemmas
    through `GS.of_quiet` -/
syntax "gs_step" ("[" Lean.Parser.Tactic.SolveByElim.arg,* "]")? : tactic
macro_rules
  | `(tactic| gs_step) => `(tactic| gs_step [])
  | `(tactic| gs_step [$ts,*]) => `(tactic| first
    | with_reducible_and_instances exact GS.fail _
    | focus ((with_reducible_and_instances refine GS.pure ?_);
             (first | with_reducible rfl | trivial | assumption | (simp_all; done)))
    | intro _
    | apply_assumption (transparency := .reducible) (exfalso := false) (symm := false) only [*, $ts,*]
    | (with_reducible_and_instances apply GS.bind GS.getFs
       intro fs hfs)
    | (with_reducible_and_instances apply GS.bind
       case hp => first
         | (apply_assumption (transparency := .reducible) (exfalso := false) (symm := false) only [*, $ts,*]) <;>
             (first | assumption | (simp_all; done))
         | focus (refine GS.of_quiet ?_; quiet [$ts,*]; done))
    | focus (refine GS.of_quiet ?_; quiet [$ts,*]; done)
    | dsimp only
    | split
    | focus (exfalso; simp_all; done))

syntax "gs" ("[" Lean.Parser.Tactic.SolveByElim.arg,* "]")? : tactic
macro_rules
  | `(tactic| gs) => `(tactic| repeat gs_step [])
  | `(tactic| gs [$ts,*]) => `(tactic| repeat gs_step [$ts,*])

end FatVerif
