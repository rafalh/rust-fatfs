import FatVerif.Proofs.DirSlotsFree
import FatVerif.Proofs.LfnGen
/-! A well-formed directory as a list of items (deleted slot / label / entry = complete run + short slot) followed by
    the end region; its listing; where `find_free_entries` lands in terms of items. -/
namespace FatVerif
namespace DirSlots
open Lfn LongNameBuilder

/-- the units a well-formed directory is made of: a deleted slot, a volume label, or an entry — its long-name run
    (possibly empty) and its short slot -/
inductive Item where
  | deleted (s : List Nat)
  | label (s : List Nat)
  | entry (R : List (List Nat)) (sfn : List Nat)

namespace Item

/-- the slots an item occupies, in on-disk order -/
def slots : Item → List (List Nat)
  | .deleted s => [s]
  | .label s => [s]
  | .entry R sfn => R ++ [sfn]

/-- what each kind of item must look like -/
def Ok : Item → Prop
  | .deleted s => slotClass s = .deleted
  | .label s => slotClass s = .volume
  | .entry R sfn =>
    (R = [] ∨ CompleteRun (lfnChecksum (sfnName sfn)) R) ∧ (∀ s ∈ R, slotClass s = .lfn) ∧ slotClass sfn = .file

def IsDeleted : Item → Prop
  | .deleted _ => True
  | _ => False

end Item

def flatten (items : List Item) : List (List Nat) := items.flatMap Item.slots

@[simp] theorem flatten_nil : flatten [] = [] := rfl
@[simp] theorem flatten_cons (it : Item) (items : List Item) : flatten (it :: items) = it.slots ++ flatten items := by
  simp [flatten]
@[simp] theorem flatten_append (a b : List Item) : flatten (a ++ b) = flatten a ++ flatten b := by
  simp [flatten]

/-- the long name the reader attaches to a run (`[]` for no run) -/
def nameOf (R : List (List Nat)) : List Nat := capName (cutAtNul (runUnits R))

theorem nameOf_nil : nameOf [] = [] := by simp [nameOf, runUnits, tailUnits, cutAtNul, capName]

/-- what an item contributes to the listing when its first slot has index `i` -/
def Item.listed : Item → Nat → List LfnEntry
  | .entry R sfn, i => [⟨sfn, nameOf R, i, i + R.length + 1⟩]
  | _, _ => []

/-- the listing of an item list whose first slot has index `i` -/
def listOf : List Item → Nat → List LfnEntry
  | [], _ => []
  | it :: r, i => it.listed i ++ listOf r (i + it.slots.length)

theorem slotClass_end (s : List Nat) (h : isEnd s = true) : slotClass s = .endMark := by simp [slotClass, h]

theorem class_not_end {s : List Nat} {c : SlotClass} (h : slotClass s = c) (hc : c ≠ .endMark) : isEnd s = false := by
  cases he : isEnd s with
  | false => rfl
  | true => rw [slotClass_end s he] at h; exact absurd h.symm hc

theorem class_deleted {s : List Nat} (h : slotClass s = .deleted) : isEnd s = false ∧ isDeleted s = true := by
  have h1 := class_not_end h (by simp)
  refine ⟨h1, ?_⟩
  cases hd : isDeleted s with
  | true => rfl
  | false =>
    exfalso
    unfold slotClass at h
    rw [if_neg (by simp [h1]), if_neg (by simp [hd])] at h
    split at h
    · exact absurd h (by simp)
    · split at h <;> exact absurd h (by simp)

theorem class_used {s : List Nat} {c : SlotClass} (h : slotClass s = c) (h1 : c ≠ .endMark) (h2 : c ≠ .deleted) :
    isEnd s = false ∧ isDeleted s = false := by
  have he := class_not_end h h1
  refine ⟨he, ?_⟩
  cases hd : isDeleted s with
  | false => rfl
  | true => simp [slotClass, he, hd] at h; exact absurd h.symm h2

/-- **the listing of a well-formed directory is the listing of its items** (both buffer variants) -/
theorem readLoop_items (alloc : Bool) : ∀ (items : List Item) (i : Nat) (b : LongNameBuilder) (tail : List (List Nat)),
    (∀ it ∈ items, it.Ok) → (∀ t ∈ tail, isEnd t = true) → WF alloc b → view b = none →
    readLoop alloc true (flatten items ++ tail) i i b = listOf items i := by
  intro items
  induction items with
  | nil =>
    intro i b tail _ ht _ _
    cases tail with
    | nil => rfl
    | cons t ts => simp [readLoop, slotClass_end t (ht t (by simp)), listOf]
  | cons it items ih =>
    intro i b tail hok ht hw hb
    have hrest : ∀ it ∈ items, it.Ok := fun x hx => hok x (by simp [hx])
    have hit := hok it (by simp)
    cases it with
    | deleted s =>
      simp only [flatten_cons, Item.slots, List.cons_append, List.nil_append, listOf, Item.listed, List.length_cons,
        List.length_nil]
      rw [readLoop, show slotClass s = .deleted from hit]
      exact ih (i + 1) _ tail hrest ht (WF_clear alloc b) rfl
    | label s =>
      simp only [flatten_cons, Item.slots, List.cons_append, List.nil_append, listOf, Item.listed, List.length_cons,
        List.length_nil]
      rw [readLoop, show slotClass s = .volume from hit]
      simp only [if_true]
      exact ih (i + 1) _ tail hrest ht (WF_clear alloc b) rfl
    | entry R sfn =>
      obtain ⟨hR, hl, hs⟩ := hit
      simp only [flatten_cons, Item.slots, List.append_assoc, List.cons_append, List.nil_append, listOf, Item.listed,
        List.length_append, List.length_cons, List.length_nil, ← Nat.add_assoc]
      rw [readLoop_lfn_block alloc true R _ i i b hl, readLoop, hs]
      simp only
      rw [ih (i + R.length + 1) _ tail hrest ht (WF_new alloc) rfl]
      congr 2
      obtain ⟨hw', hv⟩ := view_foldl alloc R b hw
      rw [finish_view alloc _ _ hw', hv]
      rcases hR with rfl | hR
      · rw [List.foldl_nil, hb, nameOf_nil]; rfl
      · exact fin_complete _ R hR _

theorem listOf_append : ∀ (a b : List Item) (i : Nat),
    listOf (a ++ b) i = listOf a i ++ listOf b (i + (flatten a).length)
  | [], b, i => by simp [listOf]
  | it :: a, b, i => by simp [listOf, listOf_append a b, Nat.add_assoc]

theorem listOf_deleted : ∀ (d : List Item) (i : Nat), (∀ it ∈ d, it.IsDeleted) →
    listOf d i = [] ∧ (flatten d).length = d.length
  | [], _, _ => by simp [listOf]
  | .deleted s :: d, i, h => by
    have := listOf_deleted d (i + 1) (fun x hx => h x (by simp [hx]))
    simp [listOf, Item.listed, this.1, this.2, Item.slots]
  | .label s :: _, _, h => False.elim (h (.label s) (by simp))
  | .entry R sfn :: _, _, h => False.elim (h (.entry R sfn) (by simp))

theorem listOf_bounds : ∀ (items : List Item) (i : Nat), ∀ e ∈ listOf items i,
    i ≤ e.beginIdx ∧ e.beginIdx < e.endIdx ∧ e.endIdx ≤ i + (flatten items).length
  | [], _, e, he => by simp [listOf] at he
  | it :: items, i, e, he => by
    rw [flatten_cons, List.length_append]
    rcases List.mem_append.1 he with he | he
    · cases it <;> simp only [Item.listed, List.mem_singleton, List.not_mem_nil] at he
      subst he
      simp [Item.slots]; omega
    · have := listOf_bounds items _ e he
      omega

/-! ### `find_free_entries` in terms of items -/

theorem findFreeLoop_used_block (num : Nat) : ∀ (B rest : List (List Nat)) (ff nf i : Nat),
    (∀ s ∈ B, isEnd s = false ∧ isDeleted s = false) → B ≠ [] →
    findFreeLoop num (B ++ rest) ff nf i = findFreeLoop num rest ff 0 (i + B.length) := by
  intro B
  induction B with
  | nil => intro _ _ _ _ _ h; exact absurd rfl h
  | cons s B ih =>
    intro rest ff nf i h _
    obtain ⟨h1, h2⟩ := h s (by simp)
    simp only [List.cons_append, findFreeLoop, h1, h2, Bool.false_eq_true, if_false, List.length_cons]
    by_cases hB : B = []
    · subst hB; simp
    · rw [ih rest ff 0 (i + 1) (fun x hx => h x (by simp [hx])) hB]
      congr 1; omega

theorem item_slots_used (it : Item) (hok : it.Ok) (hnd : ¬ it.IsDeleted) :
    (∀ s ∈ it.slots, isEnd s = false ∧ isDeleted s = false) ∧ it.slots ≠ [] := by
  cases it with
  | deleted s => exact absurd trivial hnd
  | label s =>
    refine ⟨?_, by simp [Item.slots]⟩
    intro x hx
    simp only [Item.slots, List.mem_singleton] at hx
    subst hx
    exact class_used (show slotClass x = .volume from hok) (by simp) (by simp)
  | entry R sfn =>
    obtain ⟨_, hl, hs⟩ := hok
    refine ⟨?_, by simp [Item.slots]⟩
    intro x hx
    simp only [Item.slots, List.mem_append, List.mem_singleton] at hx
    rcases hx with hx | rfl
    · exact class_used (hl x hx) (by simp) (by simp)
    · exact class_used hs (by simp) (by simp)

/-- `carried` for items: the `nf` deleted slots already counted still count as long as no item has been passed -/
def carriedI (I : List Item) (nf : Nat) : Nat :=
  match I with
  | [] => nf
  | _ :: _ => 0

/-- the loop invariant of `find_free_entries` on a well-formed directory, in terms of items -/
theorem findFreeLoop_items (num : Nat) (tail : List (List Nat)) (ht : ∀ t ∈ tail, isEnd t = true) :
    ∀ (items : List Item) (ff nf i : Nat), (∀ it ∈ items, it.Ok) → nf < num → (0 < nf → ff + nf = i) →
    ∃ I1 Dd I2, items = I1 ++ Dd ++ I2 ∧ (∀ it ∈ Dd, it.IsDeleted) ∧
      findFreeLoop num (flatten items ++ tail) ff nf i = i + (flatten I1).length - carriedI I1 nf ∧
      (carriedI I1 nf + Dd.length = num ∨ (carriedI I1 nf + Dd.length < num ∧ I2 = [])) := by
  intro items
  induction items with
  | nil =>
    intro ff nf i _ hnf hff
    refine ⟨[], [], [], rfl, by simp, ?_, Or.inr ⟨by simpa [carriedI] using hnf, rfl⟩⟩
    simp only [flatten_nil, List.nil_append, carriedI, List.length_nil, Nat.add_zero]
    cases tail with
    | nil => simp only [findFreeLoop]; split <;> omega
    | cons t ts => simp only [findFreeLoop, ht t (by simp), if_true]; split <;> omega
  | cons it items ih =>
    intro ff nf i hok hnf hff
    have hrest : ∀ it ∈ items, it.Ok := fun x hx => hok x (by simp [hx])
    have hit := hok it (by simp)
    by_cases hd : it.IsDeleted
    · cases it with
      | label s => exact absurd hd (by simp [Item.IsDeleted])
      | entry R sfn => exact absurd hd (by simp [Item.IsDeleted])
      | deleted s =>
        obtain ⟨hE, hD⟩ := class_deleted (show slotClass s = .deleted from hit)
        by_cases hfull : nf + 1 = num
        · refine ⟨[], [.deleted s], items, rfl, by simp [Item.IsDeleted], ?_, Or.inl (by simpa [carriedI] using hfull)⟩
          simp only [flatten_cons, Item.slots, List.cons_append, List.nil_append, findFreeLoop, hE, hD, hfull,
            if_true, Bool.false_eq_true, if_false, flatten_nil, List.length_nil, carriedI, Nat.add_zero]
          split <;> omega
        · obtain ⟨I1, Dd, I2, e1, e2, e3, e4⟩ :=
            ih (if nf = 0 then i else ff) (nf + 1) (i + 1) hrest (by omega) (by intro _; split <;> omega)
          have hloop : findFreeLoop num (flatten (Item.deleted s :: items) ++ tail) ff nf i =
              findFreeLoop num (flatten items ++ tail) (if nf = 0 then i else ff) (nf + 1) (i + 1) := by
            simp [Item.slots, findFreeLoop, hE, hD, hfull]
          cases I1 with
          | nil =>
            refine ⟨[], .deleted s :: Dd, I2, by simp [e1], List.forall_mem_cons.2 ⟨trivial, e2⟩,
              by rw [hloop, e3]; simp [carriedI], ?_⟩
            simp only [carriedI, List.length_cons] at e4 ⊢
            exact e4.imp (by omega) (And.imp_left (by omega))
          | cons x I1 =>
            refine ⟨.deleted s :: x :: I1, Dd, I2, by simp [e1], e2, ?_, by simpa [carriedI] using e4⟩
            rw [hloop, e3]; simp [carriedI, Item.slots]; omega
    · obtain ⟨hu, hne⟩ := item_slots_used it hit hd
      obtain ⟨I1, Dd, I2, e1, e2, e3, e4⟩ := ih ff 0 (i + it.slots.length) hrest (by omega) (by intro h; omega)
      have hloop : findFreeLoop num (flatten (it :: items) ++ tail) ff nf i =
          findFreeLoop num (flatten items ++ tail) ff 0 (i + it.slots.length) := by
        rw [flatten_cons, List.append_assoc]
        exact findFreeLoop_used_block num _ _ ff nf i hu hne
      refine ⟨it :: I1, Dd, I2, by simp [e1], e2, ?_, ?_⟩
      · rw [hloop, e3]
        cases I1 <;> simp [carriedI] <;> omega
      · cases I1 <;> simpa [carriedI] using e4

/-- where `find_free_entries(num)` lands in a well-formed directory: after the items `I1`, on `num` deleted slots — or on
    fewer than `num` trailing deleted slots followed by the end region -/
theorem findFree_items (num : Nat) (hnum : 1 ≤ num) (items : List Item) (tail : List (List Nat))
    (hok : ∀ it ∈ items, it.Ok) (ht : ∀ t ∈ tail, isEnd t = true) :
    ∃ I1 Dd I2, items = I1 ++ Dd ++ I2 ∧ (∀ it ∈ Dd, it.IsDeleted) ∧
      findFree (flatten items ++ tail) num = (flatten I1).length ∧
      (Dd.length = num ∨ (Dd.length < num ∧ I2 = [])) := by
  obtain ⟨I1, Dd, I2, e1, e2, e3, e4⟩ := findFreeLoop_items num tail ht items 0 0 0 hok (by omega) (by omega)
  refine ⟨I1, Dd, I2, e1, e2, ?_, ?_⟩
  · unfold findFree; rw [e3]; cases I1 <;> simp [carriedI]
  · cases I1 <;> simpa [carriedI] using e4

end DirSlots
end FatVerif
