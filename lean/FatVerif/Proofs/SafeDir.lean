import FatVerif.Proofs.SafeFile
import FatVerif.Proofs.RemoveUnfold
/-! C09 and C12, structural descent: Model/DirOps.lean. -/
namespace FatVerif

namespace DirStream

theorem read_safe (st : DirStream) (n : Nat) : Safe (st.read n) := by
  unfold read; safe [FileH.read_safe, DiskSlice.read_safe]

theorem write_safe (st : DirStream) (bs : List Nat) : Safe (st.write bs) := by
  unfold write; safe [FileH.write_safe, DiskSlice.write_safe]

theorem seek_safe (st : DirStream) (p : SeekFrom) : Safe (st.seek p) := by
  unfold seek; safe [FileH.seek_safe, DiskSlice.seek_safe]

theorem strm_ok : StrmOK DirStream.strm := ⟨read_safe, write_safe, seek_safe⟩

theorem absPos_safe (fs) (st : DirStream) : Safe (st.absPos fs) := by
  unfold absPos; safe [FileH.absPos_safe]

theorem dropBody_dtor (st : DirStream) : Dtor st.dropBody := by
  unfold dropBody; split
  · exact FileH.dropBody_dtor _
  · exact Dtor.pure _

theorem drop_safe (st : DirStream) : Safe st.drop := Safe.inDrop st.dropBody_dtor

end DirStream

theorem liftE_safe {α} (r : Except Err α) : Safe (liftE r) := by
  unfold liftE; safe

theorem withStream_safe {α} (st0 : DirStream) {body : Prog (α × DirStream)} (hb : Safe body) :
    Safe (withStream st0 body) := by
  unfold withStream; safe [DirStream.dropBody_dtor]

theorem thenDrop_safe {α} (st : DirStream) {body : Prog α} (hb : Safe body) : Safe (thenDrop st body) := by
  unfold thenDrop; safe [DirStream.dropBody_dtor]

theorem DirEntry.toFile_safe (fs) (e : DirEntry) : Safe (e.toFile fs) := by
  unfold DirEntry.toFile; safe

theorem DirEntry.toDir_safe (fs) (e : DirEntry) : Safe (e.toDir fs) := by
  unfold DirEntry.toDir; safe

/-- `DirEntryData::deserialize` catches `UnexpectedEof` only -/
theorem readSlot_safe (st : DirStream) : Safe (readSlot st) := by
  unfold readSlot
  safe [readExact_safe, readU8_safe, readChunks_safe, DirStream.strm_ok]

theorem writeSlot_safe (st : DirStream) (e : DirEntryData) : Safe (writeSlot st e) := by
  unfold writeSlot; safe [writeChunks_safe, DirStream.strm_ok]

theorem readDirEntryLoop_safe (alloc skipVolume : Bool) :
    ∀ fuel st offset beginOff b, Safe (readDirEntryLoop alloc skipVolume fuel st offset beginOff b) := by
  intro fuel
  induction fuel with
  | zero => intros; unfold readDirEntryLoop; safe
  | succ k ih => intros; unfold readDirEntryLoop; safe [readSlot_safe, DirStream.absPos_safe]

theorem readDirEntry_safe (skipVolume : Bool) (st : DirStream) : Safe (readDirEntry skipVolume st) := by
  unfold readDirEntry; safe [DirStream.seek_safe, readDirEntryLoop_safe]

theorem findEntryLoop_safe (env name isDir) : ∀ fuel st gen, Safe (findEntryLoop env name isDir fuel st gen) := by
  intro fuel
  induction fuel with
  | zero => intros; unfold findEntryLoop; safe
  | succ k ih => intros; unfold findEntryLoop; safe [readDirEntry_safe]

theorem findEntryG_safe (env d name isDir gen) : Safe (findEntryG env d name isDir gen) := by
  unfold findEntryG; safe [withStream_safe, findEntryLoop_safe]

theorem findEntry_safe (env d name isDir) : Safe (findEntry env d name isDir) := by
  unfold findEntry; safe [findEntryG_safe]

theorem checkForExistenceLoop_safe (env d name isDir) :
    ∀ fuel gen, Safe (checkForExistenceLoop env d name isDir fuel gen) := by
  intro fuel
  induction fuel with
  | zero => intros; unfold checkForExistenceLoop; safe
  | succ k ih => intros; unfold checkForExistenceLoop; safe [findEntryG_safe]

theorem checkForExistence_safe (env d name isDir) : Safe (checkForExistence env d name isDir) := by
  unfold checkForExistence; safe [checkForExistenceLoop_safe]

theorem findFreeLoop_safe (num) : ∀ fuel st firstFree numFree i, Safe (findFreeLoop num fuel st firstFree numFree i) := by
  intro fuel
  induction fuel with
  | zero => intros; unfold findFreeLoop; safe
  | succ k ih => intros; unfold findFreeLoop; safe [readSlot_safe, DirStream.seek_safe]

theorem findFreeEntries_safe (d num) : Safe (findFreeEntries d num) := by
  unfold findFreeEntries; safe [findFreeLoop_safe, DirStream.dropBody_dtor]

theorem createSfnEntry_safe (sn attrs first) : Safe (createSfnEntry sn attrs first) := by
  unfold createSfnEntry; safe

/-- `writeSlotsKeep` returns a caught error as a value: a fault outside a destructor is either raised or carried -/
theorem writeSlotsKeep_via : ∀ slots st, PropagatesVia (fun r : Option Err × DirStream => r.1) (writeSlotsKeep slots st) := by
  intro slots
  induction slots with
  | nil => intro st; unfold writeSlotsKeep; exact PropagatesVia.pure _ _
  | cons e rest ih =>
    intro st
    unfold writeSlotsKeep
    refine PropagatesVia.bind (attempt_via (ioSafe_propagates (writeSlot_safe st e).io)) ?_ ?_
    · intro b
      cases b with
      | ok st' => exact ih st'
      | error err => exact PropagatesVia.pure _ _
    · intro b j hb
      cases b with
      | ok st' => cases hb
      | error err =>
        simp only [resErr, Option.some.injEq] at hb
        subst hb
        intro d _ r d' hr
        cases hr; rfl

theorem freeWrittenLoop_safe : ∀ k st pos endPos, Safe (freeWrittenLoop k st pos endPos) := by
  intro k
  induction k with
  | zero => intros; unfold freeWrittenLoop; safe
  | succ k ih => intros; unfold freeWrittenLoop; safe [DirStream.seek_safe, writeAll_safe, DirStream.strm_ok]

theorem freeWrittenEntries_safe (st startPos) : Safe (freeWrittenEntries st startPos) := by
  unfold freeWrittenEntries; safe [DirStream.seek_safe, freeWrittenLoop_safe]

/-- the one outcome `write_entry` may substitute for `io k` after a fault `f` (fixes 7e7a6f2 + 68bd139:
    `free_written_entries(..)?; return Err(err)`): the fault hit a slot write, the schedule is spent, and the roll-back
    `free_written_entries` — run after the fault — itself ends in an error `e`, which is returned instead (same flavour as
    `RollbackErr` of `create_dir`) -/
def EntryRollbackX (f : Fault) (e : Err) : Prop :=
  ∃ (st : DirStream) (pos : Nat) (d1 d2 : Dev),
    d1.failAt = none ∧ d1.fault = some f ∧ run (freeWrittenEntries st pos) d1 = (.error e, d2)

/-- the error continuation of `write_entry` is pure `?`-propagation: roll back, drop the clone, re-raise -/
theorem entryRollback_safe (st : DirStream) (startPos : Nat) (e : Err) :
    Safe (thenDrop st (Prog.bind (freeWrittenEntries st startPos) (fun _ => (Prog.fail e : Prog DirEntry)))) :=
  thenDrop_safe st (Safe.bind _ _ (freeWrittenEntries_safe st startPos) (fun _ => Safe.fail e))

/-- in particular a fault that fires INSIDE the roll-back (entered after a slot write failed for another reason) is
    reported: the swallowed-fault exception of the first version of the fix is gone -/
theorem entryRollback_propagates (st : DirStream) (startPos : Nat) (e : Err) :
    Propagates (thenDrop st (Prog.bind (freeWrittenEntries st startPos) (fun _ => (Prog.fail e : Prog DirEntry)))) :=
  ioSafe_propagates (entryRollback_safe st startPos e).io

theorem entryRollback_reraises (st : DirStream) (startPos j : Nat) (d : Dev) (f0 : Fault) (hfa : d.failAt = none)
    (hf : d.fault = some f0) {r d'}
    (hr : run (thenDrop st (Prog.bind (freeWrittenEntries st startPos)
      (fun _ => (Prog.fail (.io j) : Prog DirEntry)))) d = (r, d')) :
    resErr r = some (.io j) ∨ ∃ e, resErr r = some e ∧ EntryRollbackX f0 e := by
  unfold thenDrop at hr
  obtain ⟨rq, d1, hq, hres⟩ := resErr_finallyDrop (fun _ => (DirStream.dropBody_dtor st).nonFatal) hr
  rw [hres]
  rcases run_bind_cases hq with ⟨b, d2, h1, h2⟩ | ⟨e', h1, he⟩
  · simp only [run] at h2; cases h2; left; rfl
  · subst he
    right
    exact ⟨e', rfl, st, startPos, d, d1, hfa, hf, h1⟩

/-- `write_entry`: the error of a slot write is kept while the slots written so far are rolled back and the positioned
    clone is dropped, then re-raised — `Propagates` up to `EntryRollbackX` -/
theorem writeEntry_propagatesX (d : DirStream) (name : String) (raw : DirFileEntryData) :
    PropagatesX EntryRollbackX (writeEntry d name raw) := by
  unfold writeEntry
  split
  · exact (ioSafe_propagates (IoSafe.fail _)).toX
  · refine PropagatesX.bind_ioSafe (IoSafe.op _) (fun fs => ?_)
    dsimp only
    refine PropagatesX.bind_ioSafe (findFreeEntries_safe _ _).io (fun st0 => ?_)
    refine PropagatesX.bind_ioSafe (Safe.io ?_) ?_
    · safe [DirStream.seek_safe, DirStream.dropBody_dtor]
    · rintro ⟨startPos, st⟩
      dsimp only
      refine PropagatesX.bindVia (f := fun r : Option Err × DirStream => r.1) (writeSlotsKeep_via _ _) ?_ ?_
      · rintro ⟨err, st'⟩
        dsimp only
        split
        · exact (entryRollback_propagates _ _ _).toX
        · refine (ioSafe_propagates (Safe.io ?_)).toX
          safe [thenDrop_safe, DirStream.seek_safe, DirStream.absPos_safe]
      · rintro ⟨err, st'⟩ j hb dv f0 hfa hf r d' hr
        dsimp only at hb
        subst hb
        exact entryRollback_reraises _ _ _ dv f0 hfa hf hr

theorem deleteSlots_safe : ∀ k st, Safe (deleteSlots k st) := by
  intro k
  induction k with
  | zero => intros; unfold deleteSlots; safe
  | succ k ih => intros; unfold deleteSlots; safe [readSlot_safe, DirStream.seek_safe, writeSlot_safe]

theorem deleteEntry_safe (d e) : Safe (deleteEntry d e) := by
  unfold deleteEntry; safe [withStream_safe, DirStream.seek_safe, deleteSlots_safe]

/-! ### public operations -/

theorem openDir_safe (env) : ∀ fuel d path, Safe (openDir env fuel d path) := by
  intro fuel
  induction fuel with
  | zero => intros; unfold openDir; safe
  | succ k ih =>
    intros; unfold openDir
    safe [findEntry_safe, DirEntry.toDir_safe, thenDrop_safe]

theorem openFile_safe (env) : ∀ fuel d path, Safe (openFile env fuel d path) := by
  intro fuel
  induction fuel with
  | zero => intros; unfold openFile; safe
  | succ k ih =>
    intros; unfold openFile
    safe [findEntry_safe, DirEntry.toDir_safe, DirEntry.toFile_safe, thenDrop_safe]

theorem thenDrop_propagatesX {α} {X : Fault → Err → Prop} (st : DirStream) {body : Prog α} (hb : PropagatesX X body) :
    PropagatesX X (thenDrop st body) := by
  unfold thenDrop
  exact PropagatesX.finallyDrop hb (fun _ => (DirStream.dropBody_dtor _).nonFatal)

theorem createFile_propagatesX (env) : ∀ fuel d path, PropagatesX EntryRollbackX (createFile env fuel d path) := by
  intro fuel
  induction fuel with
  | zero => intros; unfold createFile; exact (ioSafe_propagates (IoSafe.fail _)).toX
  | succ k ih =>
    intro d path; unfold createFile
    refine PropagatesX.bind_ioSafe (IoSafe.op _) (fun fs => ?_)
    split
    split
    · refine PropagatesX.bind_ioSafe (findEntry_safe _ _ _ _).io (fun e => ?_)
      refine PropagatesX.bind_ioSafe (DirEntry.toDir_safe _ _).io (fun sub => ?_)
      exact thenDrop_propagatesX _ (ih _ _)
    · split
      · exact (ioSafe_propagates (IoSafe.fail _)).toX
      refine PropagatesX.bind_ioSafe (checkForExistence_safe _ _ _ _).io (fun r => ?_)
      split
      · refine PropagatesX.bind_ioSafe (createSfnEntry_safe _ _ _).io (fun sfn => ?_)
        refine PropagatesX.bind (writeEntry_propagatesX _ _ _) (fun e => ?_)
        exact (ioSafe_propagates (DirEntry.toFile_safe _ _).io).toX
      · exact (ioSafe_propagates (DirEntry.toFile_safe _ _).io).toX

theorem isEmptyLoop_safe : ∀ fuel st, Safe (isEmptyLoop fuel st) := by
  intro fuel
  induction fuel with
  | zero => intros; unfold isEmptyLoop; safe
  | succ k ih => intros; unfold isEmptyLoop; safe [readDirEntry_safe]

theorem isEmpty_safe (d) : Safe (isEmpty d) := by
  unfold isEmpty; safe [withStream_safe, isEmptyLoop_safe]

theorem remove_safe (env) : ∀ fuel d path, Safe (remove env fuel d path) := by
  intro fuel
  induction fuel with
  | zero => intros; exact Safe.fail _
  | succ k ih =>
    intro d path; rw [remove_succ]
    refine Safe.bind _ _ Safe.progGetFs (fun fs => ?_)
    split
    split
    · safe [findEntry_safe, DirEntry.toDir_safe, thenDrop_safe]
    · split
      · exact Safe.fail _
      refine Safe.bind _ _ (findEntry_safe _ _ _ _) (fun e => Safe.bind _ _ ?_ (fun nonEmpty => ?_))
      · safe [DirEntry.toDir_safe, thenDrop_safe, isEmpty_safe]
      split
      · exact Safe.fail _
      · split
        · exact Safe.bind _ _ (freeClusterChain_safe _) (fun _ => deleteEntry_safe _ _)
        · exact deleteEntry_safe _ _

theorem ancestorWalk_safe (env target) : ∀ fuel anc depth, Safe (ancestorWalk env target fuel anc depth) := by
  intro fuel
  induction fuel with
  | zero => intros; unfold ancestorWalk; safe [thenDrop_safe]
  | succ k ih =>
    intros; unfold ancestorWalk
    safe [thenDrop_safe, DirStream.drop_safe, openDir_safe, DirStream.dropBody_dtor]

theorem ancestorWalkTop_safe (env target dst) : Safe (ancestorWalkTop env target dst) := by
  unfold ancestorWalkTop; safe [ancestorWalk_safe]

theorem renameInternal_propagatesX (env d srcName dst dstName) :
    PropagatesX EntryRollbackX (renameInternal env d srcName dst dstName) := by
  unfold renameInternal
  split
  · exact (ioSafe_propagates (IoSafe.fail _)).toX
  refine PropagatesX.bind_ioSafe (IoSafe.op _) (fun fs => ?_)
  refine PropagatesX.bind_ioSafe (findEntry_safe _ _ _ _).io (fun e => ?_)
  refine PropagatesX.bind_ioSafe (liftE_safe _).io (fun _ => ?_)
  extract_lets _ rest
  have hrest : ∀ u, PropagatesX EntryRollbackX (rest u) := by
    intro u
    refine PropagatesX.bind_ioSafe (checkForExistence_safe _ _ _ _).io (fun r => ?_)
    split
    · refine (ioSafe_propagates (Safe.io ?_)).toX; safe
    · -- the new entry is written first; everything after it is plain `?`-propagation
      refine PropagatesX.bind (writeEntry_propagatesX _ _ _) (fun newEntry => ?_)
      refine (ioSafe_propagates (Safe.io ?_)).toX
      safe [deleteEntry_safe, DirEntry.toDir_safe, thenDrop_safe, findEntry_safe, writeChunks_safe, devStrm_ok]
  split
  · exact PropagatesX.bind_ioSafe (ancestorWalkTop_safe _ _ _).io hrest
  · exact hrest ()

theorem rename_propagatesX (env) : ∀ fuel d srcPath dst dstPath,
    PropagatesX EntryRollbackX (rename env fuel d srcPath dst dstPath) := by
  intro fuel
  induction fuel with
  | zero => intros; unfold rename; exact (ioSafe_propagates (IoSafe.fail _)).toX
  | succ k ih =>
    intro d srcPath dst dstPath; unfold rename
    refine PropagatesX.bind_ioSafe (IoSafe.op _) (fun fs => ?_)
    split
    split
    · refine PropagatesX.bind_ioSafe (findEntry_safe _ _ _ _).io (fun e => ?_)
      refine PropagatesX.bind_ioSafe (DirEntry.toDir_safe _ _).io (fun sub => ?_)
      exact thenDrop_propagatesX _ (ih _ _ _ _)
    · split
      split
      · refine PropagatesX.bind_ioSafe (findEntry_safe _ _ _ _).io (fun e => ?_)
        refine PropagatesX.bind_ioSafe (DirEntry.toDir_safe _ _).io (fun sub => ?_)
        exact thenDrop_propagatesX _ (ih _ _ _ _)
      · exact renameInternal_propagatesX _ _ _ _ _

theorem listLoop_safe : ∀ fuel st acc, Safe (listLoop fuel st acc) := by
  intro fuel
  induction fuel with
  | zero => intros; unfold listLoop; safe
  | succ k ih => intros; unfold listLoop; safe [readDirEntry_safe]

theorem listDir_safe (d) : Safe (listDir d) := by
  unfold listDir; safe [withStream_safe, listLoop_safe]

theorem findVolumeLoop_safe : ∀ fuel st, Safe (findVolumeLoop fuel st) := by
  intro fuel
  induction fuel with
  | zero => intros; unfold findVolumeLoop; safe
  | succ k ih => intros; unfold findVolumeLoop; safe [readDirEntry_safe]

theorem findVolumeEntry_safe (d) : Safe (findVolumeEntry d) := by
  unfold findVolumeEntry; safe [withStream_safe, findVolumeLoop_safe]

end FatVerif
