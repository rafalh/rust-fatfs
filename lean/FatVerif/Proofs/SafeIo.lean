import FatVerif.Proofs.Geom
import FatVerif.Model.Table
import FatVerif.Model.Slice
/-! C09 and C12 on the programs, structural descent through the model, file by file: here Model/Io.lean, Slice.lean,
    Table.lean (then `SafeFile`, `SafeDir`, `SafeFs`; `SafeApi`: the roll-back of `create_dir`).

Every function of the model is traversed ONCE, for the two judgements that hold of all of them without any hypothesis
on device, handles or geometry: `IoSafe` (I/O errors are never swallowed: C09) and `Steps GeoRel` (the immutable part
of the mounted state is kept: C12; named `Geo` in Proofs/GeoModel.lean, which is not `FileSim.Geo`, the layout of a
volume). `Safe p` is their conjunction; the rules below mirror the constructors of `IoSafe`. -/
namespace FatVerif

/-! ### runs that keep the immutable part of the mounted state: `Steps GeoRel` -/

def GeoRel (d d' : Dev) : Prop := SameGeom d.fs d'.fs

theorem geoRel_ok : RelOK GeoRel where
  refl := fun _ => SameGeom.refl _
  trans := fun _ _ _ h1 h2 => SameGeom.trans h1 h2
  depth := fun _ _ => SameGeom.refl _

/-- every primitive operation except `setFs` leaves the mounted state alone -/
theorem geoRel_op (o : Op) (ho : ∀ fs, o ≠ .setFs fs) : Steps GeoRel (Prog.op o) :=
  ⟨fun d r d' hr => by
    simp only [run] at hr
    show SameGeom d.fs d'.fs
    rw [(stepOp_facts o d hr).fs ho]; exact SameGeom.refl _⟩

/-- `modifyFs` with an update of the interior-mutable part only -/
theorem geoRel_modifyFs (f : FsState → FsState) (hf : ∀ fs, SameGeom fs (f fs)) : Steps GeoRel (Prog.modifyFs f) :=
  ⟨fun d r d' hr => by rw [run_modifyFs] at hr; cases hr; exact hf _⟩

/-- reading the mounted state and storing an update of its interior-mutable part -/
theorem geoRel_getFs_then {α} (k : FsState → Prog α)
    (hk : ∀ fs (d : Dev) r d', d.fs = fs → run (k fs) d = (r, d') → SameGeom d.fs d'.fs) :
    Steps GeoRel (Prog.bind Prog.getFs k) :=
  ⟨fun d r d' hr => by rw [run_getFs_bind] at hr; exact hk d.fs d r d' rfl hr⟩

/-! ### the two judgements together -/

structure Safe {α} (p : Prog α) : Prop where
  io : IoSafe p
  geo : Steps GeoRel p

/-- what a destructor body has to satisfy inside a `Safe` scope: it cannot report errors, so it need not be `IoSafe` -/
structure Dtor (c : Prog Unit) : Prop where
  nonFatal : NonFatal c
  geo : Steps GeoRel c

theorem Safe.pure {α} (a : α) : Safe (Prog.pure a) := ⟨.pure a, .pure geoRel_ok a⟩
theorem Safe.fail {α} (e : Err) : Safe (Prog.fail (α := α) e) := ⟨.fail e, .fail geoRel_ok e⟩
theorem Safe.op (o : Op) (ho : ∀ fs, o ≠ .setFs fs) : Safe (Prog.op o) := ⟨.op o, geoRel_op o ho⟩
theorem Safe.modifyFs (f : FsState → FsState) (hf : ∀ fs, SameGeom fs (f fs)) : Safe (Prog.modifyFs f) :=
  ⟨.bind _ _ (.op _) (fun _ => .op _), geoRel_modifyFs f hf⟩
theorem Safe.bind {α β} (p : Prog β) (k : β → Prog α) (hp : Safe p) (hk : ∀ b, Safe (k b)) : Safe (Prog.bind p k) :=
  ⟨.bind p k hp.io (fun b => (hk b).io), .bind geoRel_ok hp.geo (fun b => (hk b).geo)⟩
theorem Safe.tryCatch {α} (p : Prog α) (h : Err → Prog α) (hp : Safe p) (hre : ∀ k, h (.io k) = Prog.fail (.io k))
    (hh : ∀ e, Safe (h e)) : Safe (Prog.tryCatch p h) :=
  ⟨.tryCatch p h hp.io hre (fun e => (hh e).io), .tryCatch geoRel_ok hp.geo (fun e => (hh e).geo)⟩
theorem Safe.finallyDrop {α} (p : Prog α) (c : Option α → Prog Unit) (hp : Safe p) (hc : ∀ o, Dtor (c o)) :
    Safe (Prog.finallyDrop p c) :=
  ⟨.finallyDrop p c hp.io (fun o => (hc o).nonFatal), .finallyDrop geoRel_ok hp.geo (fun o => (hc o).geo)⟩

theorem Safe.progRead (n : Nat) : Safe (Prog.read n) := Safe.op _ (fun _ h => nomatch h)
theorem Safe.progWrite (bs : List Nat) : Safe (Prog.write bs) := Safe.op _ (fun _ h => nomatch h)
theorem Safe.progSeek (p : SeekFrom) : Safe (Prog.seek p) := Safe.op _ (fun _ h => nomatch h)
theorem Safe.progSeekStart (n : Nat) : Safe (Prog.seekStart n) := Safe.op _ (fun _ h => nomatch h)
theorem Safe.progFlush : Safe Prog.flush := Safe.op _ (fun _ h => nomatch h)
theorem Safe.progNow : Safe Prog.now := Safe.op _ (fun _ h => nomatch h)
theorem Safe.progToday : Safe Prog.today := Safe.op _ (fun _ h => nomatch h)
theorem Safe.progGetFs : Safe Prog.getFs := Safe.op _ (fun _ h => nomatch h)
theorem IoSafe.progGetFs : IoSafe Prog.getFs := IoSafe.op _

theorem Dtor.pure (u : Unit) : Dtor (Prog.pure u) := ⟨.pure u, .pure geoRel_ok u⟩

theorem Safe.inDrop {c : Prog Unit} (hc : Dtor c) : Safe (Prog.inDrop c) :=
  Safe.finallyDrop _ _ (Safe.pure _) (fun _ => hc)

/-- a stream all of whose methods are `IoSafe` -/
structure StrmSafe {σ} (S : Strm σ) : Prop where
  read : ∀ s n, IoSafe (S.read s n)
  write : ∀ s bs, IoSafe (S.write s bs)
  seek : ∀ s p, IoSafe (S.seek s p)

/-- `StrmSafe` for both judgements: what the functions generic in a stream (`readExact_safe`, …) assume of it;
    `devStrm_ok`, `adapterStrm_ok`, `DiskSlice.strm_ok` discharge it -/
structure StrmOK {σ} (S : Strm σ) : Prop where
  read : ∀ s n, Safe (S.read s n)
  write : ∀ s bs, Safe (S.write s bs)
  seek : ∀ s p, Safe (S.seek s p)

/-- One step of the descent through an unfolded model function: a leaf (`pure`, `fail`, a primitive operation other
    than `setFs`, an update of the FS-info cache or the status flags), a call of a model function closed by one of the
    listed lemmas or a local hypothesis, one of the three composition rules, or the case split the program makes.
    The order of the alternatives matters: `intro _` stands before `apply_assumption`, so that hypotheses and lemmas
    are matched against the program under the binder of a continuation; `dsimp only` and `split` stand last, since
    they would also take apart a `match` inside the arguments of a call that a lemma closes whole. -/
syntax "safe_step" ("[" Lean.Parser.Tactic.SolveByElim.arg,* "]")? : tactic
macro_rules
  | `(tactic| safe_step) => `(tactic| safe_step [])
  | `(tactic| safe_step [$ts,*]) => `(tactic| first
    | with_reducible_and_instances exact Safe.pure _
    | with_reducible_and_instances exact Safe.fail _
    | with_reducible exact Safe.progRead _
    | with_reducible exact Safe.progWrite _
    | with_reducible exact Safe.progSeek _
    | with_reducible exact Safe.progSeekStart _
    | with_reducible exact Safe.progFlush
    | with_reducible exact Safe.progNow
    | with_reducible exact Safe.progToday
    | with_reducible exact Safe.progGetFs
    | focus ((with_reducible refine Safe.modifyFs _ ?_); intro _; exact rfl)
    | with_reducible_and_instances exact Dtor.pure _
    | intro _
    | with_reducible exact (‹StrmOK _›).read _ _
    | with_reducible exact (‹StrmOK _›).write _ _
    | with_reducible exact (‹StrmOK _›).seek _ _
    | apply_assumption (transparency := .reducible) (exfalso := false) (symm := false) only [*, $ts,*]
    | with_reducible_and_instances apply Safe.bind
    | (with_reducible_and_instances apply Safe.tryCatch
       case hre => (intro _; rfl))
    | with_reducible_and_instances apply Safe.finallyDrop
    | dsimp only
    | split)

/-- `repeat safe_step`, so it ends without an error where no alternative applies: a goal `Safe (foo …)` left over
    means that `foo_safe` is to be proved first and named in the brackets. -/
syntax "safe" ("[" Lean.Parser.Tactic.SolveByElim.arg,* "]")? : tactic
macro_rules
  | `(tactic| safe) => `(tactic| repeat safe_step [])
  | `(tactic| safe [$ts,*]) => `(tactic| repeat safe_step [$ts,*])

/-! ### `Io.lean` -/

theorem devStrm_ok : StrmOK devStrm := by
  refine ⟨?_, ?_, ?_⟩ <;> intros <;> simp only [devStrm] <;> safe

section generic
variable {σ : Type} (S : Strm σ) (hS : StrmOK S)
include hS

theorem readExactLoop_safe : ∀ fuel s n acc, Safe (readExactLoop S fuel s n acc) := by
  intro fuel
  induction fuel with
  | zero => intros; unfold readExactLoop; safe
  | succ k ih => intros; unfold readExactLoop; safe

theorem readExact_safe (s n) : Safe (readExact S s n) := readExactLoop_safe S hS _ _ _ _

theorem writeAllLoop_safe : ∀ fuel s bs, Safe (writeAllLoop S fuel s bs) := by
  intro fuel
  induction fuel with
  | zero => intros; unfold writeAllLoop; safe
  | succ k ih => intros; unfold writeAllLoop; safe

theorem writeAll_safe (s bs) : Safe (writeAll S s bs) := writeAllLoop_safe S hS _ _ _

theorem readU8_safe (s) : Safe (readU8 S s) := by unfold readU8; safe [readExact_safe]
theorem readU16_safe (s) : Safe (readU16 S s) := by unfold readU16; safe [readExact_safe]
theorem readU32_safe (s) : Safe (readU32 S s) := by unfold readU32; safe [readExact_safe]
theorem writeU8_safe (s v) : Safe (writeU8 S s v) := writeAll_safe S hS _ _
theorem writeU16_safe (s v) : Safe (writeU16 S s v) := writeAll_safe S hS _ _
theorem writeU32_safe (s v) : Safe (writeU32 S s v) := writeAll_safe S hS _ _

theorem readChunks_safe : ∀ ns s acc, Safe (readChunks S s ns acc) := by
  intro ns
  induction ns with
  | nil => intros; unfold readChunks; safe
  | cons n rest ih => intros; unfold readChunks; safe [readExact_safe]

theorem writeChunks_safe : ∀ cs s, Safe (writeChunks S s cs) := by
  intro cs
  induction cs with
  | nil => intros; unfold writeChunks; safe
  | cons c rest ih => intros; unfold writeChunks; safe [writeAll_safe]

theorem writeZerosLoop_safe : ∀ fuel s len, Safe (writeZerosLoop S fuel s len) := by
  intro fuel
  induction fuel with
  | zero => intros; unfold writeZerosLoop; safe
  | succ k ih => intros; unfold writeZerosLoop; safe [writeAll_safe]

theorem writeZeros_safe (s len) : Safe (writeZeros S s len) := writeZerosLoop_safe S hS _ _ _

end generic

/-! ### `Slice.lean` -/

theorem setDirtyFlag_safe (b : Bool) : Safe (setDirtyFlag b) := by
  unfold setDirtyFlag; safe [writeU8_safe, devStrm_ok]

theorem markDirtyBeforeWrite_safe : Safe markDirtyBeforeWrite := by
  unfold markDirtyBeforeWrite; safe [setDirtyFlag_safe]

theorem adapterStrm_ok : StrmOK adapterStrm := by
  refine ⟨?_, ?_, ?_⟩ <;> intros <;> simp only [adapterStrm] <;> safe [setDirtyFlag_safe, markDirtyBeforeWrite_safe]

theorem DiskSlice.inner_ok (s : DiskSlice) : StrmOK s.inner := by
  unfold DiskSlice.inner; split
  · exact adapterStrm_ok
  · exact devStrm_ok

theorem DiskSlice.read_safe (s : DiskSlice) (n : Nat) : Safe (s.read n) := by
  have := s.inner_ok
  unfold DiskSlice.read; safe

theorem DiskSlice.writeMirrors_safe (s : DiskSlice) (off : Nat) (bs : List Nat) :
    ∀ k i, Safe (s.writeMirrors off bs k i) := by
  have := s.inner_ok
  intro k
  induction k with
  | zero => intros; unfold DiskSlice.writeMirrors; safe
  | succ k ih => intros; unfold DiskSlice.writeMirrors; safe [writeAll_safe]

theorem DiskSlice.write_safe (s : DiskSlice) (bs : List Nat) : Safe (s.write bs) := by
  unfold DiskSlice.write; safe [DiskSlice.writeMirrors_safe]

theorem DiskSlice.seek_safe (s : DiskSlice) (p : SeekFrom) : Safe (s.seek p) := by
  unfold DiskSlice.seek; safe

theorem DiskSlice.flush_ioSafe (s : DiskSlice) : IoSafe s.flush := IoSafe.op _

theorem DiskSlice.strm_ok : StrmOK DiskSlice.strm :=
  ⟨DiskSlice.read_safe, DiskSlice.write_safe, DiskSlice.seek_safe⟩

/-! ### `Table.lean` -/

namespace Table
section generic
variable {σ : Type} (S : Strm σ) (hS : StrmOK S)
include hS

theorem getRaw_safe (ft s c) : Safe (getRaw S ft s c) := by
  unfold getRaw; safe [readU16_safe, readU32_safe]

theorem get_safe (ft s c) : Safe (get S ft s c) := by
  unfold get; safe [getRaw_safe]

theorem set_safe (ft s c v) : Safe (set S ft s c v) := by
  unfold set; safe [getRaw_safe, readU16_safe, writeU16_safe, writeU32_safe]

theorem findFree12Loop_safe : ∀ fuel s c endC packed, Safe (findFree12Loop S fuel s c endC packed) := by
  intro fuel
  induction fuel with
  | zero => intros; unfold findFree12Loop; safe
  | succ k ih => intros; unfold findFree12Loop; safe [readU16_safe, readU8_safe]

theorem findFreeLoop_safe (ft) : ∀ fuel s c endC, Safe (findFreeLoop S ft fuel s c endC) := by
  intro fuel
  induction fuel with
  | zero => intros; unfold findFreeLoop; safe
  | succ k ih => intros; unfold findFreeLoop; safe [readU16_safe, readU32_safe]

theorem findFree_safe (ft s start endC) : Safe (findFree S ft s start endC) := by
  unfold findFree; safe [readU16_safe, findFree12Loop_safe, findFreeLoop_safe]

theorem countFree12Loop_safe : ∀ fuel s c endC prev count, Safe (countFree12Loop S fuel s c endC prev count) := by
  intro fuel
  induction fuel with
  | zero => intros; unfold countFree12Loop; safe
  | succ k ih => intros; unfold countFree12Loop; safe [readU16_safe, readU8_safe]

theorem countFreeLoop_safe (ft) : ∀ fuel s c endC count, Safe (countFreeLoop S ft fuel s c endC count) := by
  intro fuel
  induction fuel with
  | zero => intros; unfold countFreeLoop; safe
  | succ k ih => intros; unfold countFreeLoop; safe [readU16_safe, readU32_safe]

theorem countFree_safe (ft s total) : Safe (countFree S ft s total) := by
  unfold countFree; safe [countFree12Loop_safe, countFreeLoop_safe]

/-- the one handler of `table.rs`: retry on `NotEnoughSpace` only, every other error is re-raised unchanged -/
theorem allocCluster_safe (ft s prev hint total) : Safe (allocCluster S ft s prev hint total) := by
  unfold allocCluster; safe [findFree_safe, set_safe]

theorem CIter.next_safe (ft) (it : CIter σ) : Safe (CIter.next S ft it) := by
  unfold CIter.next; safe [get_safe]

theorem CIter.freeLoop_safe (ft) : ∀ fuel (it : CIter σ) num, Safe (CIter.freeLoop S ft fuel it num) := by
  intro fuel
  induction fuel with
  | zero => intros; unfold CIter.freeLoop; safe
  | succ k ih => intros; unfold CIter.freeLoop; safe [CIter.next_safe, set_safe]

theorem CIter.free_safe (ft fuel) (it : CIter σ) : Safe (CIter.free S ft fuel it) :=
  CIter.freeLoop_safe S hS _ _ _ _

theorem CIter.truncate_safe (ft fuel) (it : CIter σ) : Safe (CIter.truncate S ft fuel it) := by
  unfold CIter.truncate; safe [CIter.next_safe, set_safe, CIter.free_safe]

theorem readFatFlags_safe (ft s) : Safe (readFatFlags S ft s) := by
  unfold readFatFlags; safe [getRaw_safe]

theorem setRange_safe (ft v) : ∀ k s c, Safe (setRange S ft v k s c) := by
  intro k
  induction k with
  | zero => intros; unfold setRange; safe
  | succ k ih => intros; unfold setRange; safe [set_safe]

theorem formatFat_safe (ft s media bytesPerFat total) : Safe (formatFat S ft s media bytesPerFat total) := by
  unfold formatFat; safe [writeU8_safe, writeU16_safe, writeU32_safe, setRange_safe]

end generic
end Table

end FatVerif
