import FatVerif.Spec.FatSpec
/-!
# The oracle's directory reader as a function of the image's bytes

`Spec.readDirSlots` walks `img.pages` (`ByteArray` pages in a `HashMap`) inside `for` loops with early return.  Here it is
brought, for every image, to list form: the slots of a directory are the 32-byte records `Img.read` returns at the
positions of its extents, cut after the first end marker (`readExtents_eq`, `listDir_fixedRoot`, `listDir_chain`).
Nothing of the page representation is left on the right-hand sides, so on a concrete image the records can be supplied
by the lemmas that already give them for the model's reader.
-/
namespace FatVerif.Spec

theorem readSlot_eq (img : Img) (off : Nat) : readSlot img off = ⟨off, (img.read off 32).toArray⟩ := by
  have hmap : ∀ f g : Nat → Nat, (∀ k < 32, f k = g k) → (Array.range 32).map f = ((List.range 32).map g).toArray := by
    intro f g h
    rw [← Array.toList_inj]
    simp only [Array.toList_map, Array.toList_range]
    exact List.map_congr_left fun k hk => h k (List.mem_range.1 hk)
  unfold readSlot Img.read
  simp only
  split
  · rename_i ho
    have hk : ∀ k < 32, (off + k) / pageSize = off / pageSize ∧ (off + k) % pageSize = off % pageSize + k := by
      unfold pageSize at ho ⊢; omega
    split
    · rename_i p hp
      congr 1
      refine hmap _ _ fun k hk' => ?_
      simp only [Img.getByte, (hk k hk').1, (hk k hk').2, hp]
    · rename_i hp
      congr 1
      rw [show Array.replicate 32 0 = (Array.range 32).map (fun _ => 0) from by rw [← Array.toList_inj]; simp; decide]
      refine hmap _ _ fun k hk' => ?_
      simp only [Img.getByte, (hk k hk').1, hp]
  · congr 1
    exact hmap _ _ fun _ _ => rfl

/-- the slots up to and including the first end marker (first byte 0) when `stop`, and whether one was met -/
def throughEnd (stop : Bool) : List Slot → List Slot × Bool
  | [] => ([], false)
  | s :: r => if stop && s.b 0 == 0 then ([s], true) else (s :: (throughEnd stop r).1, (throughEnd stop r).2)

theorem forIn_throughEnd (stop : Bool) (f : Nat → Slot) : ∀ (l : List Nat) (acc : Array Slot),
    (forIn (m := Id) l ((none, acc) : Option (Array Slot × Bool) × Array Slot) fun i s =>
      if (stop && (f i).b 0 == 0) = true then
        pure (ForInStep.done (some (s.snd.push (f i), true), s.snd.push (f i)))
      else pure (ForInStep.yield (none, s.snd.push (f i)))) =
    pure (if (throughEnd stop (l.map f)).2 then some (acc ++ (throughEnd stop (l.map f)).1.toArray, true) else none,
      acc ++ (throughEnd stop (l.map f)).1.toArray)
  | [], acc => by simp [throughEnd]
  | i :: l, acc => by
    have e : ∀ t : List Slot, acc.push (f i) ++ t.toArray = acc ++ (f i :: t).toArray := fun t => by
      rw [← Array.toList_inj]; simp
    rw [List.forIn_cons]
    by_cases h : (stop && (f i).b 0 == 0) = true
    · rw [if_pos h]
      simp only [List.map_cons, throughEnd, h, if_true]
      rw [← e]; rfl
    · rw [if_neg h]
      show forIn l _ _ = _
      rw [forIn_throughEnd stop f l]
      simp only [List.map_cons, throughEnd, h, e]
      rfl

theorem readSlotRange_eq (img : Img) (off len : Nat) (stop : Bool) (acc : Array Slot) :
    readSlotRange img off len stop acc =
      (acc ++ (throughEnd stop ((List.range (len / 32)).map fun i => readSlot img (off + 32 * i))).1.toArray,
        (throughEnd stop ((List.range (len / 32)).map fun i => readSlot img (off + 32 * i))).2) := by
  unfold readSlotRange
  simp only [Std.Legacy.Range.forIn_eq_forIn_range', Std.Legacy.Range.size]
  rw [show (len / 32 - 0 + 1 - 1) / 1 = len / 32 by simp, ← List.range_eq_range']
  erw [forIn_throughEnd stop (fun i => readSlot img (off + 32 * i))]
  generalize throughEnd stop _ = t
  obtain ⟨l, b⟩ := t
  cases b <;> rfl

theorem throughEnd_append (stop : Bool) (l r : List Slot) :
    throughEnd stop (l ++ r) =
      if (throughEnd stop l).2 then throughEnd stop l
      else ((throughEnd stop l).1 ++ (throughEnd stop r).1, (throughEnd stop r).2) := by
  induction l with
  | nil => simp [throughEnd]
  | cons s l ih =>
    by_cases h : (stop && s.b 0 == 0) = true
    · simp [throughEnd, h]
    · simp only [List.cons_append, throughEnd, h, ih]
      by_cases hl : (throughEnd stop l).2 = true <;> simp [hl]

theorem forIn_extents (img : Img) (stop : Bool) : ∀ (exts : List (Nat × Nat)) (acc : Array Slot),
    (forIn (m := Id) exts ((none, acc) : Option (Array Slot) × Array Slot) fun x s =>
      if (readSlotRange img x.fst x.snd stop s.snd).snd = true then
        pure (ForInStep.done (some (readSlotRange img x.fst x.snd stop s.snd).fst,
          (readSlotRange img x.fst x.snd stop s.snd).fst))
      else pure (ForInStep.yield (none, (readSlotRange img x.fst x.snd stop s.snd).fst))) =
    pure (let t := throughEnd stop (exts.flatMap fun x => (List.range (x.2 / 32)).map fun i => readSlot img (x.1 + 32 * i))
      (if t.2 then some (acc ++ t.1.toArray) else none, acc ++ t.1.toArray))
  | [], acc => by simp [throughEnd]
  | x :: exts, acc => by
    rw [List.forIn_cons, List.flatMap_cons, throughEnd_append, readSlotRange_eq]
    by_cases h : (throughEnd stop ((List.range (x.2 / 32)).map fun i => readSlot img (x.1 + 32 * i))).2 = true
    · simp only [h, if_true]; rfl
    · simp only [h]
      show forIn exts _ _ = _
      rw [forIn_extents img stop exts]
      simp [Array.append_assoc]

theorem readExtents_eq (img : Img) (exts : Array (Nat × Nat)) (stop : Bool) :
    readExtents img exts stop =
      (throughEnd stop (exts.toList.flatMap fun x =>
        (List.range (x.2 / 32)).map fun i => readSlot img (x.1 + 32 * i))).1.toArray := by
  unfold readExtents
  simp only [← Array.forIn_toList]
  erw [forIn_extents img stop exts.toList #[]]
  generalize throughEnd stop _ = t
  obtain ⟨l, b⟩ := t
  cases b <;> simp <;> rfl


/-- positions of the 32-byte records of the extents `(offset, length)`, in order -/
def extPos (exts : List (Nat × Nat)) : List Nat :=
  exts.flatMap fun x => (List.range (x.2 / 32)).map fun i => x.1 + 32 * i

/-- the records themselves -/
def extRecs (img : Img) (exts : List (Nat × Nat)) : List (List Nat) :=
  exts.flatMap fun x => (List.range (x.2 / 32)).map fun i => img.read (x.1 + 32 * i) 32

/-- records at their positions, as the decoder's slots -/
def mkSlots (ps : List Nat) (rs : List (List Nat)) : List Slot := List.zipWith (fun p r => ⟨p, r.toArray⟩) ps rs

theorem extSlots_eq (img : Img) (exts : List (Nat × Nat)) :
    (exts.flatMap fun x => (List.range (x.2 / 32)).map fun i => readSlot img (x.1 + 32 * i)) =
      mkSlots (extPos exts) (extRecs img exts) := by
  unfold mkSlots extPos extRecs
  induction exts with
  | nil => rfl
  | cons x t ih =>
    rw [List.flatMap_cons, List.flatMap_cons, List.flatMap_cons, List.zipWith_append (by simp), ← ih]
    congr 1
    simp only [List.zipWith_map, List.zipWith_self, readSlot_eq]

/-- the slots of a directory given by extents: its records at their positions, through the first end marker -/
theorem readExtents_slots (img : Img) (exts : Array (Nat × Nat)) (stop : Bool) :
    readExtents img exts stop = (throughEnd stop (mkSlots (extPos exts.toList) (extRecs img exts.toList))).1.toArray := by
  rw [readExtents_eq, extSlots_eq]

theorem listDir_fixedRoot (g : Geom) (img : Img) :
    listDir g img .fixedRoot = .ok (parseDir g.fatBits
      (throughEnd true (mkSlots (extPos [(g.rootStart, g.rootDirBytes)]) (extRecs img [(g.rootStart, g.rootDirBytes)]))).1) := by
  simp only [listDir, readDirSlots, dirExtents, readExtents_slots]
  rfl

theorem listDir_chain {g : Geom} {img : Img} {first : Nat} {cs : List Nat} (h : chainOf g img first = .ok cs.toArray) :
    listDir g img (.chain first) = .ok (parseDir g.fatBits
      (throughEnd true (mkSlots (extPos (cs.map fun c => (g.clusterOff c, g.clusterSize)))
        (extRecs img (cs.map fun c => (g.clusterOff c, g.clusterSize))))).1) := by
  simp only [listDir, readDirSlots, dirExtents, h, readExtents_slots]
  simp [bind, Except.bind, pure, Except.pure]

end FatVerif.Spec
