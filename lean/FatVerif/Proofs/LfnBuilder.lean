import FatVerif.Proofs.LfnSlot
/-! Invariant of `LongNameBuilder` (both buffer variants), absence of slice panics, the 260 bound. -/
namespace FatVerif
namespace Lfn
open LongNameBuilder

/-- Representation invariant of the builder.  `alloc`: the vector's length is `len`; fixed: the array has 260
    units.  In both: a started run of `index` remaining slots has `index * 13 ≤ len ≤ 260`. -/
def WF (alloc : Bool) (b : LongNameBuilder) : Prop :=
  b.index ≤ 20 ∧ b.buf.len ≤ 260 ∧ b.index * 13 ≤ b.buf.len ∧ (b.index = 0 → b.buf.len = 0) ∧
  b.buf.units.length = (if alloc then b.buf.len else bufCap)

theorem bufCap_eq : bufCap = 260 := rfl

theorem WF_new (alloc : Bool) : WF alloc (new alloc) := by
  have hcap := bufCap_eq
  cases alloc <;> simp [WF, new, LfnBuf.new]

theorem WF_clear (alloc : Bool) (b : LongNameBuilder) : WF alloc (clear alloc b) := by
  have hcap := bufCap_eq
  cases alloc <;> simp [WF, clear, LfnBuf.clear, LfnBuf.new]

/-- `pre` keeps the invariant and the slice `[pos, pos+13)` it asks for is inside the buffer -/
theorem pre_WF (alloc : Bool) (b : LongNameBuilder) (o c : Nat) (h : WF alloc b) :
    WF alloc (pre alloc b o c).1 ∧
    ∀ pos, (pre alloc b o c).2 = some pos → pos + 13 ≤ (pre alloc b o c).1.buf.units.length := by
  obtain ⟨h1, h2, h3, h4, h5⟩ := h
  have hcap := bufCap_eq
  unfold pre
  split
  · exact ⟨WF_clear alloc b, by simp⟩
  · rename_i hv
    split
    · constructor
      · cases alloc <;> simp [WF, LfnBuf.setLen] at h5 ⊢ <;> omega
      · intro pos hp
        simp only [Option.some.injEq] at hp
        cases alloc <;> simp [LfnBuf.setLen] at h5 ⊢ <;> omega
    · split
      · exact ⟨WF_clear alloc b, by simp⟩
      · rename_i hc
        constructor
        · cases alloc <;> simp [WF] at h5 ⊢ <;> omega
        · intro pos hp
          simp only [Option.some.injEq] at hp
          cases alloc <;> simp at h5 ⊢ <;> omega

/-- the slice `buf[pos..pos+13]` of `process` never goes out of range, and the invariant is kept -/
theorem process?_eq (alloc : Bool) (b : LongNameBuilder) (s : List Nat) (h : WF alloc b) :
    process? alloc b s = some (process alloc b s) ∧ WF alloc (process alloc b s) := by
  obtain ⟨hw, hp⟩ := pre_WF alloc b (order s) (chk s) h
  unfold process? process
  generalize pre alloc b (order s) (chk s) = r at hw hp
  rcases r with ⟨b', _ | pos⟩
  · exact ⟨rfl, hw⟩
  · have hpos := hp pos rfl
    simp only at hpos hw ⊢
    rw [setSlice?_eq _ _ _ hpos]
    refine ⟨rfl, ?_⟩
    obtain ⟨h1, h2, h3, h4, h5⟩ := hw
    exact ⟨h1, h2, h3, h4, by simpa [setSlice_length _ _ _ (units_length s) hpos] using h5⟩

theorem WF_process (alloc : Bool) (b : LongNameBuilder) (s : List Nat) (h : WF alloc b) :
    WF alloc (process alloc b s) := (process?_eq alloc b s h).2

theorem WF_validate (alloc : Bool) (b : LongNameBuilder) (n : List Nat) (h : WF alloc b) :
    WF alloc (validateChksum alloc b n) := by
  unfold validateChksum
  split
  · exact h
  · split
    · exact WF_clear alloc b
    · exact h

theorem WF_len_le (alloc : Bool) (b : LongNameBuilder) (h : WF alloc b) : b.buf.len ≤ b.buf.units.length := by
  obtain ⟨_, h2, _, _, h5⟩ := h
  have hcap := bufCap_eq
  cases alloc <;> simp at h5 <;> omega

theorem asUnits?_eq (buf : LfnBuf) (h : buf.len ≤ buf.units.length) : buf.asUnits? = some buf.asUnits := by
  simp [LfnBuf.asUnits?, LfnBuf.asUnits, h]

theorem asUnits_length (buf : LfnBuf) (h : buf.len ≤ buf.units.length) : buf.asUnits.length = buf.len := by
  simp [LfnBuf.asUnits]; omega

theorem truncate?_eq (alloc : Bool) (b : LongNameBuilder) (h : WF alloc b) :
    truncate? alloc b = some (truncate alloc b) := by
  simp [truncate?, truncate, asUnits?_eq _ (WF_len_le alloc b h)]

/-- after `truncate`: the new length is inside the storage and not larger than the old one -/
theorem truncate_ok (alloc : Bool) (b : LongNameBuilder) (h : WF alloc b) :
    (truncate alloc b).buf.len ≤ (truncate alloc b).buf.units.length ∧
    (truncate alloc b).buf.len = cutLen b.buf.asUnits ∧ cutLen b.buf.asUnits ≤ b.buf.len := by
  have hl := WF_len_le alloc b h
  have h1 := cutLen_le b.buf.asUnits
  rw [asUnits_length _ hl] at h1
  refine ⟨?_, ?_, h1⟩
  · cases alloc <;> simp [truncate, LfnBuf.setLen] <;> omega
  · cases alloc <;> simp [truncate, LfnBuf.setLen]

theorem new_asUnits (alloc : Bool) : (LfnBuf.new alloc).asUnits = [] := by
  cases alloc <;> simp [LfnBuf.new, LfnBuf.asUnits]

theorem new_len (alloc : Bool) : (LfnBuf.new alloc).len = 0 := by
  cases alloc <;> simp [LfnBuf.new]

/-- what `into_buf` hands to the entry: no bounds check fires, `len` is inside the storage and at most 255 -/
theorem intoBuf_ok (alloc : Bool) (b : LongNameBuilder) (h : WF alloc b) :
    intoBuf? alloc b = some (intoBuf alloc b) ∧
    (intoBuf alloc b).len ≤ (intoBuf alloc b).units.length ∧ (intoBuf alloc b).len ≤ 255 := by
  obtain ⟨t1, t2, t3⟩ := truncate_ok alloc b h
  have hl := WF_len_le alloc b h
  have h4 := h.2.2.2.1
  unfold intoBuf? intoBuf
  by_cases i1 : b.index = 1
  · simp only [i1, if_true, truncate?_eq alloc b h, maxNameLen]
    refine ⟨trivial, ?_⟩
    by_cases hgt : (truncate alloc b).buf.len > 255
    · simp only [hgt, if_true]
      simp [clear, LfnBuf.clear, new_len]
    · simp only [hgt, if_false]
      exact ⟨t1, by omega⟩
  · simp only [i1, if_false]
    by_cases i0 : b.index = 0
    · have := h4 i0
      simp [i0]; omega
    · simp [i0, clear, LfnBuf.clear, new_len]

theorem finish?_eq (alloc : Bool) (b : LongNameBuilder) (n : List Nat) (h : WF alloc b) :
    finish? alloc b n = some (finish alloc b n) ∧ (finish alloc b n).length ≤ 255 := by
  obtain ⟨e1, e2, e3⟩ := intoBuf_ok alloc _ (WF_validate alloc b n h)
  unfold finish? finish
  rw [e1]
  simp only [asUnits?_eq _ e2, true_and]
  rw [asUnits_length _ e2]; exact e3

/-- no panic site of the directory reader fires: the checked loop returns what the unchecked one computes; and
    every long name handed out has at most 255 units -/
theorem readLoop_ok (alloc sv : Bool) : ∀ (slots : List (List Nat)) (idx bg : Nat) (b : LongNameBuilder),
    WF alloc b → readLoop? alloc sv slots idx bg b = some (readLoop alloc sv slots idx bg b) ∧
      ∀ e ∈ readLoop alloc sv slots idx bg b, e.units.length ≤ 255 := by
  intro slots
  induction slots with
  | nil => intros; exact ⟨rfl, fun _ he => nomatch he⟩
  | cons s rest ih =>
    intro idx bg b hb
    obtain ⟨f1, f2⟩ := finish?_eq alloc b (sfnName s) hb
    obtain ⟨n1, n2⟩ := ih (idx + 1) (idx + 1) _ (WF_new alloc)
    have entry : ∀ e ∈ (⟨s, finish alloc b (sfnName s), bg, idx + 1⟩ : LfnEntry) ::
        readLoop alloc sv rest (idx + 1) (idx + 1) (new alloc), e.units.length ≤ 255 :=
      fun e he => (List.mem_cons.1 he).elim (fun h => h ▸ f2) (n2 e)
    unfold readLoop? readLoop
    cases hcl : slotClass s with
    | endMark => exact ⟨rfl, fun _ he => nomatch he⟩
    | deleted => exact ih _ _ _ (WF_clear alloc b)
    | lfn =>
      simp only
      rw [(process?_eq alloc b s hb).1]
      exact ih _ _ _ (WF_process alloc b s hb)
    | volume =>
      simp only
      split
      · exact ih _ _ _ (WF_clear alloc b)
      · rw [f1, n1]; exact ⟨rfl, entry⟩
    | file =>
      simp only
      rw [f1, n1]; exact ⟨rfl, entry⟩

end Lfn
end FatVerif
