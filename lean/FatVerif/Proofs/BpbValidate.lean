import FatVerif.Proofs.BpbBasic
/-! What `Bpb.validate = .ok ()` implies — each step is a test that can only fail with `CorruptedFileSystem` (`Checks`),
`validate` the conjunction of their conditions —, when the checked arithmetic of the model panics, and what
`Bpb.geometry` returns afterwards. -/
namespace FatVerif
namespace Bpb

/-- every field fits its machine type -/
structure InRange (p : Bpb) : Prop where
  bps : p.bytesPerSector < 65536
  spc : p.sectorsPerCluster < 256
  rsvd : p.reservedSectors < 65536
  fats : p.fats < 256
  rootEntries : p.rootEntries < 65536
  ts16 : p.totalSectors16 < 65536
  spf16 : p.sectorsPerFat16 < 65536
  ts32 : p.totalSectors32 < 4294967296
  spf32 : p.sectorsPerFat32 < 4294967296
  rootCluster : p.rootDirFirstCluster < 4294967296
  fsInfo : p.fsInfoSector < 65536
  backup : p.backupBootSector < 65536
  extFlags : p.extendedFlags < 65536
  reserved1 : p.reserved1 < 256

/-- root directory sectors in unbounded arithmetic -/
def rdsNat (p : Bpb) : Nat := (p.rootEntries * 32 + p.bytesPerSector - 1) / p.bytesPerSector

/-- first data sector in unbounded arithmetic -/
def fdsNat (p : Bpb) : Nat := p.reservedSectors + p.fats * p.sectorsPerFat + p.rdsNat

theorem sectorsPerFat_lt {p : Bpb} (hr : p.InRange) : p.sectorsPerFat < 4294967296 := by
  have := hr.spf16; have := hr.spf32
  unfold sectorsPerFat; split <;> omega

theorem totalSectors_lt {p : Bpb} (hr : p.InRange) : p.totalSectors < 4294967296 := by
  have := hr.ts16; have := hr.ts32
  unfold totalSectors; split <;> omega

theorem rootDirSectors_eq {p : Bpb} (hr : p.InRange) (hb : 0 < p.bytesPerSector) :
    p.rootDirSectors = .ok p.rdsNat := by
  have := hr.bps; have := hr.rootEntries
  unfold rootDirSectors rdsNat
  rw [u32Mul_of_lt (by omega), ebind_ok, u32Add_of_lt (by omega), ebind_ok, u32Sub_of_le (by omega), ebind_ok,
    u32Div_of_ne (by omega)]

theorem rdsNat_le {p : Bpb} (hr : p.InRange) (hb : 512 ≤ p.bytesPerSector) : p.rdsNat ≤ 4096 := by
  have := hr.bps; have := hr.rootEntries
  unfold rdsNat
  have : p.rootEntries * 32 + p.bytesPerSector - 1 < 4097 * p.bytesPerSector := by omega
  exact Nat.le_of_lt_succ ((Nat.div_lt_iff_lt_mul (by omega)).2 this)

theorem firstDataSector_ok {p : Bpb} (hr : p.InRange) (hb : 0 < p.bytesPerSector) {v : Nat} :
    p.firstDataSector = .ok v ↔
      p.fats * p.sectorsPerFat < 4294967296 ∧ p.fdsNat < 4294967296 ∧ v = p.fdsNat := by
  unfold firstDataSector sectorsPerAllFats fdsNat
  rw [rootDirSectors_eq hr hb, ebind_ok]
  simp only [ebind_eq_ok, u32Mul_ok, u32Add_ok]
  constructor
  · rintro ⟨a, ⟨h1, rfl⟩, s, ⟨h2, rfl⟩, h3, rfl⟩
    exact ⟨h1, h3, rfl⟩
  · rintro ⟨h1, h2, rfl⟩
    exact ⟨_, ⟨h1, rfl⟩, _, ⟨by omega, rfl⟩, h2, rfl⟩

theorem firstDataSector_error {p : Bpb} (hr : p.InRange) (hb : 0 < p.bytesPerSector) {e : Err}
    (h : p.firstDataSector = .error e) :
    e = .panic ∧ (4294967296 ≤ p.fats * p.sectorsPerFat ∨ 4294967296 ≤ p.fdsNat) := by
  unfold firstDataSector sectorsPerAllFats at h
  rw [rootDirSectors_eq hr hb, ebind_ok] at h
  unfold fdsNat
  simp only [ebind_eq_error, u32Mul_ok] at h
  rcases h with h | ⟨a, ⟨_, rfl⟩, h⟩
  · obtain ⟨he, hge⟩ := u32Mul_error h
    exact ⟨he, Or.inl hge⟩
  · rcases h with h | ⟨s, hs, h⟩
    · obtain ⟨he, hge⟩ := u32Add_error h
      exact ⟨he, Or.inr (by omega)⟩
    · rw [u32Add_ok] at hs
      obtain ⟨he, hge⟩ := u32Add_error h
      exact ⟨he, Or.inr (by omega)⟩

/-- total clusters in unbounded arithmetic -/
def tcNat (p : Bpb) : Nat := (p.totalSectors - p.fdsNat) / p.sectorsPerCluster

theorem totalClusters_ok {p : Bpb} (hr : p.InRange) (hb : 0 < p.bytesPerSector) {v : Nat} :
    p.totalClusters = .ok v ↔
      p.fats * p.sectorsPerFat < 4294967296 ∧ p.fdsNat < 4294967296 ∧ p.fdsNat ≤ p.totalSectors ∧
      p.sectorsPerCluster ≠ 0 ∧ v = p.tcNat := by
  unfold totalClusters tcNat
  simp only [ebind_eq_ok, firstDataSector_ok hr hb, u32Sub_ok, u32Div_ok]
  constructor
  · rintro ⟨a, ⟨h1, h2, rfl⟩, d, ⟨h3, rfl⟩, h4, rfl⟩
    exact ⟨h1, h2, h3, h4, rfl⟩
  · rintro ⟨h1, h2, h3, h4, rfl⟩
    exact ⟨_, ⟨h1, h2, rfl⟩, _, ⟨h3, rfl⟩, h4, rfl⟩

theorem clusterSize_eq {p : Bpb} (hr : p.InRange) :
    p.clusterSize = .ok (p.sectorsPerCluster * p.bytesPerSector) := by
  have h1 := hr.bps; have h2 := hr.spc
  unfold clusterSize
  have : p.sectorsPerCluster * p.bytesPerSector < 256 * 65536 :=
    Nat.mul_lt_mul'' h2 h1
  rw [u32Mul_of_lt (by omega)]

/-- `bytes_from_sectors` is total on every `u32` argument -/
theorem bytesFromSectors_total {p : Bpb} (hr : p.InRange) {s : Nat} (hs : s < 4294967296) :
    p.bytesFromSectors s = .ok (s * p.bytesPerSector) := by
  have : s * p.bytesPerSector < 4294967296 * 65536 := Nat.mul_lt_mul'' hs hr.bps
  unfold bytesFromSectors; rw [u64Mul_of_lt (by omega)]

/-! ### the validation steps

Each step is a test that fails with `CorruptedFileSystem`: on in-range fields its checked arithmetic cannot fail. -/

/-- `x` is `Ok(())` when `c` holds and `Err(CorruptedFileSystem)` otherwise -/
structure Checks (x : Except Err Unit) (c : Prop) : Prop where
  ok_iff : x = .ok () ↔ c
  error : ∀ {e : Err}, x = .error e → e = .corrupted

namespace Checks
variable {x y : Except Err Unit} {c d : Prop}

theorem pass (h : c) : Checks (.ok ()) c := ⟨⟨fun _ => h, fun _ => rfl⟩, fun h => nomatch h⟩

theorem fail (h : ¬c) : Checks (.error .corrupted) c :=
  ⟨⟨fun h' => (nomatch h'), fun hc => absurd hc h⟩, fun h' => by cases h'; rfl⟩

/-- a step that is reached only when `c` holds may use `c` -/
theorem bind (hx : Checks x c) (hy : c → Checks y d) : Checks (x >>= fun _ => y) (c ∧ d) := by
  cases x with
  | error e => cases hx.error rfl; exact fail fun h => nomatch hx.ok_iff.2 h.1
  | ok u =>
    have hc := hx.ok_iff.1 rfl
    exact ⟨(hy hc).ok_iff.trans ⟨fun h => ⟨hc, h⟩, fun h => h.2⟩, (hy hc).error⟩

theorem congr (hx : Checks x c) (h : c ↔ d) : Checks x d := ⟨hx.ok_iff.trans h, hx.error⟩

/-- one rejection test in front of the remaining steps -/
theorem ite {c : Prop} [Decidable c] {y : Except Err Unit} {d : Prop} (h : ¬c → Checks y d) :
    Checks (if c then .error .corrupted else y) (¬c ∧ d) := by
  split
  · next hc => exact fail fun hn => hn.1 hc
  · next hc => exact (h hc).congr ⟨fun hd => ⟨hc, hd⟩, fun hn => hn.2⟩

theorem ite_ok {c : Prop} [Decidable c] : Checks (if c then .error .corrupted else .ok ()) (¬c) := by
  split
  · next hc => exact fail fun hn => hn hc
  · next hc => exact pass hc

end Checks

theorem validateBytesPerSector_checks (p : Bpb) : Checks p.validateBytesPerSector
    (p.bytesPerSector = 512 ∨ p.bytesPerSector = 1024 ∨ p.bytesPerSector = 2048 ∨ p.bytesPerSector = 4096) := by
  unfold validateBytesPerSector
  split
  · next h => exact .fail fun c => by rcases c with c | c | c | c <;> rw [c] at h <;> exact absurd h (by decide)
  · split
    · exact .fail fun c => by omega
    · exact .pass (isPowerOfTwo_sector (by simp_all) (by omega) (by omega))

theorem validateSectorsPerCluster_checks {p : Bpb} (hr : p.InRange) : Checks p.validateSectorsPerCluster
    (p.sectorsPerCluster = 1 ∨ p.sectorsPerCluster = 2 ∨ p.sectorsPerCluster = 4 ∨ p.sectorsPerCluster = 8 ∨
     p.sectorsPerCluster = 16 ∨ p.sectorsPerCluster = 32 ∨ p.sectorsPerCluster = 64 ∨ p.sectorsPerCluster = 128) := by
  have h1 := hr.bps; have h2 := hr.spc
  have : p.bytesPerSector * p.sectorsPerCluster < 65536 * 256 := Nat.mul_lt_mul'' h1 h2
  unfold validateSectorsPerCluster
  rw [u32Mul_of_lt (by omega), ebind_ok]
  split
  · next h =>
    exact .fail fun c => by
      rcases c with c | c | c | c | c | c | c | c <;> rw [c] at h <;> exact absurd h (by decide)
  · exact .pass (isPowerOfTwo_u8 (by simp_all) h2)

theorem validateReservedSectors_checks (p : Bpb) : Checks p.validateReservedSectors
    (1 ≤ p.reservedSectors ∧ (p.isFat32 = true → p.backupBootSector < p.reservedSectors) ∧
     (p.isFat32 = true → p.fsInfoSector < p.reservedSectors)) := by
  unfold validateReservedSectors
  exact (Checks.ite fun _ => .ite fun _ => .ite_ok).congr (by simp only [not_and, Nat.not_lt, Nat.not_le, ge_iff_le])

theorem validateFats_checks (p : Bpb) : Checks p.validateFats (1 ≤ p.fats) := by
  unfold validateFats
  exact Checks.ite_ok.congr (by omega)

theorem validateRootEntries_checks {p : Bpb} (hr : p.InRange) (hb : 0 < p.bytesPerSector) :
    Checks p.validateRootEntries
      ((p.isFat32 = true → p.rootEntries = 0) ∧ (p.isFat32 = false → p.rootEntries ≠ 0)) := by
  have := hr.rootEntries
  unfold validateRootEntries
  rw [u32Mul_of_lt (by omega), ebind_ok, u32Rem_of_ne (by omega), ebind_ok]
  exact (Checks.ite fun _ => .ite_ok).congr (by simp only [not_and, Decidable.not_not, ne_eq])

/-- the `u64` region sum never overflows and is the unbounded value -/
theorem firstDataSector64_eq {p : Bpb} (hr : p.InRange) (hb : 512 ≤ p.bytesPerSector) :
    p.firstDataSector64 = .ok p.fdsNat := by
  have h1 := hr.fats; have h2 := sectorsPerFat_lt hr; have h3 := hr.rsvd
  have h4 := rdsNat_le hr hb
  have hm : p.fats * p.sectorsPerFat < 256 * 4294967296 := Nat.mul_lt_mul'' h1 h2
  unfold firstDataSector64 fdsNat
  rw [u64Mul_of_lt (by omega), ebind_ok, u64Add_of_lt (by omega), ebind_ok, rootDirSectors_eq hr (by omega),
    ebind_ok, u64Add_of_lt (by omega)]

/-- since the region sum is checked in `u64` first, `validate_total_sectors` cannot panic -/
theorem validateTotalSectors_checks {p : Bpb} (hr : p.InRange) (hb : 512 ≤ p.bytesPerSector) :
    Checks p.validateTotalSectors
      (p.totalSectorsFieldsBad = false ∧ p.fdsNat < 4294967296 ∧ p.fdsNat < p.totalSectors) := by
  unfold validateTotalSectors
  rw [firstDataSector64_eq hr hb, ebind_ok]
  refine (Checks.ite fun _ => .ite fun h64 => ?_).congr (c := _ ∧ _ ∧ ¬ p.totalSectors ≤ p.fdsNat)
    (and_congr (by simp) (and_congr (by omega) (by omega)))
  have hf : p.fats * p.sectorsPerFat < 4294967296 := by unfold fdsNat at h64; omega
  rw [(firstDataSector_ok hr (by omega)).2 ⟨hf, by omega, rfl⟩, ebind_ok]
  exact .ite_ok

theorem validateSectorsPerFat_checks (p : Bpb) :
    Checks p.validateSectorsPerFat (p.isFat32 = true → p.sectorsPerFat32 ≠ 0) := by
  unfold validateSectorsPerFat
  exact Checks.ite_ok.congr (by simp only [not_and, ne_eq])

theorem sectorsPerFat_pos {p : Bpb} (h : p.isFat32 = true → p.sectorsPerFat32 ≠ 0) : 1 ≤ p.sectorsPerFat := by
  unfold sectorsPerFat
  cases hf : p.isFat32
  · simp [isFat32] at hf; simp; omega
  · have := h hf; simp; omega

theorem fatBits_cases (ft : FatType) : ft.bits = 12 ∨ ft.bits = 16 ∨ ft.bits = 32 := by
  cases ft <;> simp [FatType.bits]

/-- the `u64` FAT capacity computation never overflows -/
theorem usableFatEntries_eq {p : Bpb} (hr : p.InRange) (ft : FatType) :
    p.usableFatEntries ft = .ok (p.sectorsPerFat * p.bytesPerSector * 8 / ft.bits - 2) := by
  have h1 := sectorsPerFat_lt hr; have h2 := hr.bps
  have hm : p.sectorsPerFat * p.bytesPerSector < 4294967296 * 65536 := Nat.mul_lt_mul'' h1 h2
  have hbits := fatBits_cases ft
  unfold usableFatEntries
  rw [u64Mul_of_lt (by omega), ebind_ok, u64Mul_of_lt (by omega), ebind_ok, u64Div_of_ne (by omega), ebind_ok]
  rfl

theorem fromClusters_fat32 {n : Nat} : FatType.fromClusters n = .fat32 ↔ 65525 ≤ n := by
  unfold FatType.fromClusters
  split
  · simp; omega
  · split
    · simp; omega
    · simp; omega

theorem validateTotalClusters_checks {p : Bpb} (hr : p.InRange) (hb : 0 < p.bytesPerSector)
    (hspc : p.sectorsPerCluster ≠ 0) (hf : p.fdsNat < 4294967296) (hfds : p.fdsNat < p.totalSectors) :
    Checks p.validateTotalClusters
      ((p.isFat32 = true ↔ FatType.fromClusters p.tcNat = .fat32) ∧ p.tcNat ≤ 0x0FFFFFF4 ∧
       (p.isFat32 = true → 2 ≤ p.rootDirFirstCluster ∧ p.rootDirFirstCluster < p.tcNat + 2)) := by
  have hfx : p.fats * p.sectorsPerFat < 4294967296 := by unfold fdsNat at hf; omega
  unfold validateTotalClusters
  rw [(totalClusters_ok hr hb).2 ⟨hfx, hf, by omega, hspc, rfl⟩, ebind_ok, usableFatEntries_eq hr, ebind_ok]
  split
  · next hw => exact .fail fun c => hw (by cases hf : p.isFat32 <;> simp_all)
  · next hw =>
    split
    · next hl =>
      rw [hl.1] at hl
      exact .fail fun c => by have := hl.2; simp only [maxClusters] at this; omega
    · next hl =>
      split
      · next hrc =>
        simp only [rootClusterBad, Bool.and_eq_true, Bool.or_eq_true, decide_eq_true_eq] at hrc
        exact .fail fun c => by have := c.2.2 hrc.1; omega
      · next hrc =>
        refine .pass ⟨?_, ?_, fun hf => ?_⟩
        · cases hf : p.isFat32 <;> simp_all
        · by_cases h32 : FatType.fromClusters p.tcNat = .fat32
          · rw [h32] at hl; simp only [true_and, maxClusters] at hl; omega
          · rw [fromClusters_fat32] at h32; omega
        · simp only [rootClusterBad, hf, Bool.true_and, Bool.or_eq_true, decide_eq_true_eq] at hrc
          omega

/-- everything `validate = .ok ()` establishes -/
structure Valid (p : Bpb) : Prop where
  fsVersion : p.fsVersion = 0
  bps : p.bytesPerSector = 512 ∨ p.bytesPerSector = 1024 ∨ p.bytesPerSector = 2048 ∨ p.bytesPerSector = 4096
  spc : p.sectorsPerCluster = 1 ∨ p.sectorsPerCluster = 2 ∨ p.sectorsPerCluster = 4 ∨ p.sectorsPerCluster = 8 ∨
    p.sectorsPerCluster = 16 ∨ p.sectorsPerCluster = 32 ∨ p.sectorsPerCluster = 64 ∨ p.sectorsPerCluster = 128
  rsvd : 1 ≤ p.reservedSectors
  backup : p.isFat32 = true → p.backupBootSector < p.reservedSectors
  fsInfo : p.isFat32 = true → p.fsInfoSector < p.reservedSectors
  fats : 1 ≤ p.fats
  root32 : p.isFat32 = true → p.rootEntries = 0
  root16 : p.isFat32 = false → p.rootEntries ≠ 0
  tsFields : p.totalSectorsFieldsBad = false
  fatsXspf : p.fats * p.sectorsPerFat < 4294967296
  fds : p.fdsNat < p.totalSectors
  spf : 1 ≤ p.sectorsPerFat
  width : p.isFat32 = true ↔ FatType.fromClusters p.tcNat = .fat32
  limit : p.tcNat ≤ 0x0FFFFFF4
  rootCluster : p.isFat32 = true → 2 ≤ p.rootDirFirstCluster ∧ p.rootDirFirstCluster < p.tcNat + 2


/-- `validate` is one test: `fs_version == 0` and the eight steps, each reached only when the earlier ones passed -/
theorem validate_checks {p : Bpb} (hr : p.InRange) : Checks p.validate p.Valid := by
  unfold validate
  split
  · next h => exact .fail fun hv => h hv.fsVersion
  · next h0 =>
    refine Checks.congr
      ((validateBytesPerSector_checks p).bind fun hbps =>
        (validateSectorsPerCluster_checks hr).bind fun hspc =>
        (validateReservedSectors_checks p).bind fun _ =>
        (validateFats_checks p).bind fun _ =>
        (validateRootEntries_checks hr (by omega)).bind fun _ =>
        (validateTotalSectors_checks hr (by omega)).bind fun hts =>
        (validateSectorsPerFat_checks p).bind fun _ =>
        validateTotalClusters_checks hr (by omega) (by omega) hts.2.1 hts.2.2) ⟨?_, fun hv => ?_⟩
    · rintro ⟨h1, h2, ⟨r1, r2, r3⟩, h4, ⟨e1, e2⟩, ⟨t1, t2, t3⟩, h7, c1, c2, c3⟩
      exact ⟨Decidable.not_not.1 h0, h1, h2, r1, r2, r3, h4, e1, e2, t1, by unfold fdsNat at t2; omega, t3,
        sectorsPerFat_pos h7, c1, c2, c3⟩
    · have := hv.fds; have := totalSectors_lt hr
      refine ⟨hv.bps, hv.spc, ⟨hv.rsvd, hv.backup, hv.fsInfo⟩, hv.fats, ⟨hv.root32, hv.root16⟩,
        ⟨hv.tsFields, by omega, hv.fds⟩, fun hf h0 => ?_, hv.width, hv.limit, hv.rootCluster⟩
      have := hv.spf
      rw [sectorsPerFat, if_pos hf] at this
      omega

theorem validate_not_panic {p : Bpb} (hr : p.InRange) : p.validate ≠ .error .panic := by
  intro h
  cases (validate_checks hr).error h

/-- the bounds of a validated boot sector that the offset computations use -/
theorem Valid.nums {p : Bpb} (hr : p.InRange) (hv : p.Valid) :
    p.fdsNat < p.totalSectors ∧ p.totalSectors < 4294967296 ∧ 512 ≤ p.bytesPerSector ∧ p.bytesPerSector ≤ 4096 ∧
    1 ≤ p.sectorsPerCluster ∧ p.sectorsPerCluster ≤ 128 := by
  have := hv.bps; have := hv.spc
  exact ⟨hv.fds, totalSectors_lt hr, by omega, by omega, by omega, by omega⟩

theorem firstDataSector_valid {p : Bpb} (hr : p.InRange) (hv : p.Valid) : p.firstDataSector = .ok p.fdsNat := by
  have := hv.nums hr
  exact (firstDataSector_ok hr (by omega)).2 ⟨hv.fatsXspf, by omega, rfl⟩

theorem totalClusters_valid {p : Bpb} (hr : p.InRange) (hv : p.Valid) : p.totalClusters = .ok p.tcNat := by
  have := hv.nums hr
  exact (totalClusters_ok hr (by omega)).2 ⟨hv.fatsXspf, by omega, by omega, by omega, rfl⟩

/-- the geometry `probe` returns for a validated boot sector -/
def geoOf (p : Bpb) : Geometry :=
  { fatType := FatType.fromClusters p.tcNat
    bytesPerSector := p.bytesPerSector
    clusterSize := p.sectorsPerCluster * p.bytesPerSector
    totalClusters := p.tcNat
    firstDataSector := p.fdsNat
    rootDirSectors := p.rdsNat
    sectorsPerFat := p.sectorsPerFat
    reservedSectors := p.reservedSectors
    fats := p.fats
    totalSectors := p.totalSectors
    mirroring := p.mirroringEnabled
    activeFat := p.activeFat
    rootDirFirstCluster := p.rootDirFirstCluster
    fsInfoSector := p.fsInfoSector
    backupBootSector := p.backupBootSector
    statusDirty := p.statusDirty
    statusIoError := p.statusIoError }

/-- after a successful validation the geometry derivation cannot fail -/
theorem geometry_eq {p : Bpb} (hr : p.InRange) (hv : p.Valid) : p.geometry = .ok p.geoOf := by
  have := hv.nums hr
  unfold geometry
  rw [rootDirSectors_eq hr (by omega), ebind_ok, firstDataSector_valid hr hv, ebind_ok, totalClusters_valid hr hv,
    ebind_ok, clusterSize_eq hr, ebind_ok]
  rfl

end Bpb
end FatVerif
