import FatVerif.Props.C02sim
import FatVerif.Props.C03img
import FatVerif.Proofs.FatMore
import FatVerif.Proofs.LfnSlot
/-! C04: reading a file to its end returns the bytes an independent decoder finds in the image — the clusters of
    the chain the SPECIFICATION's FAT decoder (`FatSpec.specChain` on the FAT bytes of the image) walks, cut at `size`. -/
namespace FatVerif.DecodeAgree
open FatVerif FatVerif.Fat FatVerif.FileSim

/-! ### the table the programs see is the specification's decode of the FAT bytes -/

/-- inside the table, `tabView` (what `ClusterIterator`, `File::read`, `File::seek` follow) is `FatSpec.specValue` of
    the FAT bytes of the image -/
theorem tabView_spec {fs : FsState} {sz : Nat} (g : Geo fs sz) (img : Img) (c : Nat) (hc : c < fs.totalClusters + 2) :
    tabView fs img c = FatSpec.specValue fs.fatType.bits (imgFatBytes fs img) c := by
  have ht := g.tableOk img
  unfold tabView
  rw [if_pos hc, C03img.imgFatView_eq_view_table fs img fs.totalClusters ht c hc]
  exact view_spec ht hc

/-- **what `FatSpec.specChain` computes**: `some cs` exactly for the chain (`Fat.Chain`) of the decoded table from `c`
    when it stays inside `[2, n)` and fits the fuel -/
theorem specChain_eq_some_iff (bits : Nat) (fat : Array Nat) (n : Nat) : ∀ (fuel c : Nat) (cs : List Nat),
    FatSpec.specChain bits fat n fuel c = some cs ↔
      Chain (FatSpec.specValue bits fat) c cs ∧ (∀ x ∈ cs, 2 ≤ x ∧ x < n) ∧ cs.length ≤ fuel
  | 0, c, cs => by
    refine ⟨fun h => (by simp [FatSpec.specChain] at h), fun ⟨h, _, hl⟩ => ?_⟩
    obtain ⟨t, rfl⟩ := chain_head h
    simp at hl
  | fuel + 1, c, cs => by
    unfold FatSpec.specChain
    by_cases hc : c < 2 ∨ n ≤ c
    · rw [if_pos hc]
      refine ⟨fun h => (by cases h), fun ⟨h, hin, _⟩ => ?_⟩
      obtain ⟨t, rfl⟩ := chain_head h
      have := hin c (by simp)
      omega
    · rw [if_neg hc]
      cases hs : FatSpec.specValue bits fat c with
      | data nx =>
        simp only [Option.map_eq_some_iff, specChain_eq_some_iff bits fat n fuel nx]
        constructor
        · rintro ⟨t, ⟨h1, h2, h3⟩, rfl⟩
          exact ⟨Chain.cons c nx t hs h1, by simpa using ⟨by omega, h2⟩, by simpa using h3⟩
        · rintro ⟨h, hin, hl⟩
          cases h with
          | last _ hl' => exact absurd hs (hl' nx)
          | cons _ nx' t hd ht =>
            rw [hs] at hd; cases hd
            exact ⟨t, ⟨ht, fun x hx => hin x (by simp [hx]), by simpa using hl⟩, rfl⟩
      | _ =>
        simp only [Option.some.injEq]
        constructor
        · rintro rfl
          exact ⟨Chain.last c (by rw [hs]; intro k hk; cases hk), by simpa using (by omega : 2 ≤ c ∧ c < n), by simp⟩
        · rintro ⟨h, _, _⟩
          cases h with
          | last _ _ => rfl
          | cons _ nx t hd _ => rw [hs] at hd; cases hd

/-- `Chain` looks at the table only on the clusters of the chain -/
theorem _root_.FatVerif.Fat.Chain.congr {g g' : Nat → FatValue} {c : Nat} {cs : List Nat} (h : Chain g c cs) (hg : ∀ x ∈ cs, g x = g' x) :
    Chain g' c cs := by
  induction h with
  | last c hl => exact Chain.last c (by rw [← hg c (by simp)]; exact hl)
  | cons c nx cs hd _ ih =>
    exact Chain.cons c nx cs (by rw [← hg c (by simp)]; exact hd) (ih fun x hx => hg x (by simp [hx]))

/-- a chain of the programs' table that stays inside the table is the chain the specification decoder walks -/
theorem specChain_of_chain (bits : Nat) (fat : Array Nat) (n : Nat) (g : Nat → FatValue)
    (hg : ∀ c, c < n → g c = FatSpec.specValue bits fat c) (c : Nat) (cs : List Nat) (h : Chain g c cs)
    (hin : ∀ x ∈ cs, 2 ≤ x ∧ x < n) (fuel : Nat) (hf : cs.length ≤ fuel) :
    FatSpec.specChain bits fat n fuel c = some cs :=
  (specChain_eq_some_iff bits fat n fuel c cs).2 ⟨h.congr fun x hx => hg x (hin x hx).2, hin, hf⟩

/-- what the specification's chain walk returns IS a chain of the programs' table, inside the table -/
theorem chain_of_specChain (bits : Nat) (fat : Array Nat) (n : Nat) (g : Nat → FatValue)
    (hg : ∀ c, c < n → g c = FatSpec.specValue bits fat c) (fuel c : Nat) (cs : List Nat)
    (h : FatSpec.specChain bits fat n fuel c = some cs) :
    Chain g c cs ∧ (∀ x ∈ cs, 2 ≤ x ∧ x < n) ∧ cs.length ≤ fuel := by
  obtain ⟨h1, h2, h3⟩ := (specChain_eq_some_iff bits fat n fuel c cs).1 h
  exact ⟨h1.congr fun x hx => (hg x (h2 x hx).2).symm, h2, h3⟩

/-- the handle `to_file` builds from a file's record carries the recorded size -/
theorem size?_new_file (first : Option Nat) (ed : DirEntryEditor) (h : ed.data.isDir = false) :
    (FileH.new first (some ed)).size? = some ed.data.size := by
  simp [FileH.size?, FileH.new, DirFileEntryData.size?, DirFileEntryData.isFile, h]

/-- the specification's chain of a first cluster in the image of a volume mounted as `fs` -/
def specChainOf (fs : FsState) (img : Img) (c0 : Nat) : Option (List Nat) :=
  FatSpec.specChain fs.fatType.bits (imgFatBytes fs img) (fs.totalClusters + 2) (fs.totalClusters + 2) c0

/-- the content an independent decoder reads: the clusters of the specification's chain, concatenated, cut at `size` -/
def specContent (fs : FsState) (img : Img) (first : Option Nat) (size : Nat) : List Nat :=
  match first with
  | none => []
  | some c0 =>
    match specChainOf fs img c0 with
    | none => []
    | some chain => (chain.flatMap fun c => img.read (clusterOff fs c) fs.clusterSize).take size

theorem specContent_of_chain {fs : FsState} {img : Img} {c0 : Nat} {chain : List Nat}
    (h : specChainOf fs img c0 = some chain) (size : Nat) :
    specContent fs img (some c0) size = (chain.flatMap fun c => img.read (clusterOff fs c) fs.clusterSize).take size := by
  simp only [specContent, h]

theorem fileChain_spec {fs : FsState} {img : Img} {f : FileH} (g : Geo fs img.size) (hrep : FileRep fs img f) (c0 : Nat)
    (hf : f.firstCluster = some c0) : specChainOf fs img c0 = some (fileChain fs img f) := by
  unfold specChainOf
  apply specChain_of_chain _ _ _ (tabView fs img) (fun c hc => tabView_spec g img c hc) c0 _ (hrep.chain c0 hf)
    hrep.inTab
  exact nodup_length_le hrep.inv.nodup (fun c hc => (hrep.inTab c hc).2)

/-! ### the content of the cursor machine's state is that concatenation -/

theorem flatMap_clusters_getD (fs : FsState) (img : Img) (hcs : 0 < fs.clusterSize) : ∀ (chain : List Nat) (p : Nat),
    p < chain.length * fs.clusterSize →
    (chain.flatMap fun c => img.read (clusterOff fs c) fs.clusterSize).getD p 0 =
      img.getByte (clusterOff fs (chain.getD (p / fs.clusterSize) 0) + p % fs.clusterSize) := by
  intro chain
  induction chain with
  | nil => intro p hp; simp at hp
  | cons c t ih =>
    intro p hp
    simp only [List.flatMap_cons]
    by_cases hlt : p < fs.clusterSize
    · rw [List.getD_eq_getElem?_getD, List.getElem?_append_left (by simp; exact hlt), ← List.getD_eq_getElem?_getD,
        Img.read_getD _ _ _ _ hlt, Nat.div_eq_of_lt hlt, Nat.mod_eq_of_lt hlt]
      rfl
    · have hge : fs.clusterSize ≤ p := Nat.le_of_not_lt hlt
      rw [List.getD_eq_getElem?_getD, List.getElem?_append_right (by simp; exact hge), ← List.getD_eq_getElem?_getD]
      simp only [Img.read_length]
      have hp' : p - fs.clusterSize < t.length * fs.clusterSize := by
        simp only [List.length_cons, Nat.add_mul, Nat.one_mul] at hp; omega
      rw [ih _ hp']
      have e1 : p / fs.clusterSize = (p - fs.clusterSize) / fs.clusterSize + 1 := by
        have := Nat.add_div_right (p - fs.clusterSize) hcs
        rw [show p - fs.clusterSize + fs.clusterSize = p by omega] at this
        exact this
      have e2 : p % fs.clusterSize = (p - fs.clusterSize) % fs.clusterSize := by
        have := Nat.add_mod_right (p - fs.clusterSize) fs.clusterSize
        rw [show p - fs.clusterSize + fs.clusterSize = p by omega] at this
        exact this
      rw [e1, e2, List.getD_cons_succ]

theorem content_eq_clusters (fs : FsState) (img : Img) (f : FileH) (hcs : 0 < fs.clusterSize)
    (hcov : (absFile fs img f).size ≤ (fileChain fs img f).length * fs.clusterSize) :
    (absFile fs img f).content =
      ((fileChain fs img f).flatMap fun c => img.read (clusterOff fs c) fs.clusterSize).take (absFile fs img f).size := by
  apply Lfn.ext_getD _ _ 0
  · simp [List.length_flatMap, Img.read_length]
    have : (List.map (fun _ => fs.clusterSize) (fileChain fs img f)).sum = (fileChain fs img f).length * fs.clusterSize := by
      induction (fileChain fs img f) with
      | nil => simp
      | cons a t ih => simp [ih, Nat.add_mul]; omega
    rw [this]; omega
  · intro i hi
    simp only [Cursor.AFile.content_length] at hi
    have e : (List.take (absFile fs img f).size
          (List.flatMap (fun c => img.read (clusterOff fs c) fs.clusterSize) (fileChain fs img f))).getD i 0 =
        (List.flatMap (fun c => img.read (clusterOff fs c) fs.clusterSize) (fileChain fs img f)).getD i 0 := by
      simp only [List.getD_eq_getElem?_getD, List.getElem?_take_of_lt hi]
    rw [e, flatMap_clusters_getD fs img hcs _ i (by omega)]
    have hi' : i < f.size?.getD 0 := hi
    have hc : (absFile fs img f).content.getD i 0 = (absFile fs img f).byteAt i := by
      unfold Cursor.AFile.content
      simp [List.getD_eq_getElem?_getD, hi]
    rw [hc]
    simp [Cursor.AFile.byteAt, absFile, List.getD_eq_getElem?_getD]

/-! ### `readall`: `read(4096)` until it returns nothing -/

/-- the loop of `readall` from a represented handle: it returns what was accumulated followed by the rest of the
    content from the cursor on; device image, log and mounted state are untouched; the handle stays represented -/
theorem readAllLoop_sim : ∀ (fuel : Nat) (f : FileH) (acc : List Nat) (d : Dev),
    d.failAt = none → Geo d.fs d.img.size → FileRep d.fs d.img f →
    (absFile d.fs d.img f).size - f.offset < fuel →
    ∃ f' d', run (Session.readAllLoop fuel f acc) d =
        (.ok (acc ++ (absFile d.fs d.img f).content.drop f.offset, f'), d') ∧
      SameStore d d' ∧ FileRep d.fs d.img f' := by
  intro fuel
  induction fuel with
  | zero => intro f acc d _ _ _ h; omega
  | succ fuel ih =>
    intro f acc d hfa hg hrep hfuel
    obtain ⟨bs, f', d1, hr, hs, hres, hab, hrep', _⟩ := read_sim f 4096 d hfa hg hrep
    obtain ⟨post, _⟩ := hrep.inv.read_post 4096
    have hbs : bs = ((absFile d.fs d.img f).content.drop f.offset).take ((absFile d.fs d.img f).readLen 4096) := by
      have := post.res
      rw [hres] at this
      exact Except.ok.inj this
    have hoffle : f.offset ≤ (absFile d.fs d.img f).size := hrep.inv.off_le
    have hcs : 0 < (absFile d.fs d.img f).cs := hrep.inv.cs_pos
    have hmod : f.offset % (absFile d.fs d.img f).cs < (absFile d.fs d.img f).cs := Nat.mod_lt _ hcs
    have hk : (absFile d.fs d.img f).readLen 4096 ≤ (absFile d.fs d.img f).size - f.offset := by
      unfold Cursor.AFile.readLen; exact Nat.min_le_right _ _
    have hklen : bs.length = (absFile d.fs d.img f).readLen 4096 := by
      rw [hbs]; simp [Cursor.AFile.content_length]; omega
    have hoff' : f'.offset = f.offset + (absFile d.fs d.img f).readLen 4096 := by
      have := post.offset
      rw [← hab] at this
      exact this
    have hrun : run (Session.readAllLoop (fuel + 1) f acc) d =
        run (if bs.isEmpty then pure (acc, f') else Session.readAllLoop fuel f' (acc ++ bs)) d1 := by
      simp only [Session.readAllLoop]
      exact run_bind_ok hr
    rw [hrun]
    by_cases hemp : bs.isEmpty = true
    · rw [if_pos hemp]
      have hb0 : bs = [] := List.isEmpty_iff.1 hemp
      have hk0 : (absFile d.fs d.img f).readLen 4096 = 0 := by rw [← hklen, hb0]; rfl
      have hend : (absFile d.fs d.img f).size - f.offset = 0 := by
        unfold Cursor.AFile.readLen at hk0
        have hoffeq : (absFile d.fs d.img f).offset = f.offset := rfl
        rw [hoffeq] at hk0
        omega
      have hdrop : (absFile d.fs d.img f).content.drop f.offset = [] := by
        apply List.drop_of_length_le
        rw [Cursor.AFile.content_length]; omega
      rw [hdrop, List.append_nil]
      exact ⟨f', d1, rfl, hs, hrep'⟩
    · rw [if_neg hemp]
      have hbne : bs ≠ [] := fun h => hemp (by rw [h]; rfl)
      have hkpos : 0 < (absFile d.fs d.img f).readLen 4096 := by
        rw [← hklen]; exact List.length_pos_iff.2 hbne
      have hsize' : (absFile d.fs d.img f').size = (absFile d.fs d.img f).size := by rw [hab]; exact post.size
      have hcont' : (absFile d.fs d.img f').content = (absFile d.fs d.img f).content := by rw [hab]; exact post.content
      obtain ⟨f'', d2, hr2, hs2, hrep2⟩ := ih f' (acc ++ bs) d1 (by rw [hs.failAt]; exact hfa)
        (by rw [hs.fs, hs.img]; exact hg) (by rw [hs.fs, hs.img]; exact hrep')
        (by rw [hs.fs, hs.img, hsize', hoff']; omega)
      refine ⟨f'', d2, ?_, hs.trans hs2, by rw [← hs.fs, ← hs.img]; exact hrep2⟩
      rw [hr2, hs.fs, hs.img, hcont', hoff', hbs, List.append_assoc]
      congr 3
      rw [← List.drop_drop, List.take_append_drop]

/-- **reading a file to its end** from a freshly opened handle (cursor at 0): the bytes are the specification's content
    of the image for the handle's first cluster and recorded size -/
theorem readAll_specContent (f : FileH) (d : Dev) (hfa : d.failAt = none) (hg : Geo d.fs d.img.size)
    (hrep : FileRep d.fs d.img f) (h0 : f.offset = 0) (fuel : Nat) (hfuel : f.size?.getD 0 < fuel) :
    ∃ f' d', run (Session.readAllLoop fuel f []) d =
        (.ok (specContent d.fs d.img f.firstCluster (f.size?.getD 0), f'), d') ∧
      SameStore d d' ∧ FileRep d.fs d.img f' := by
  obtain ⟨f', d', hr, hs, hrep'⟩ := readAllLoop_sim fuel f [] d hfa hg hrep (by
    show f.size?.getD 0 - f.offset < fuel
    omega)
  refine ⟨f', d', ?_, hs, hrep'⟩
  have hcs : 0 < d.fs.clusterSize := hrep.inv.cs_pos
  have hcov : (absFile d.fs d.img f).size ≤ (fileChain d.fs d.img f).length * d.fs.clusterSize := hrep.inv.cover
  have hAB : (absFile d.fs d.img f).content = specContent d.fs d.img f.firstCluster (f.size?.getD 0) := by
    rw [content_eq_clusters d.fs d.img f hcs hcov]
    show _ = specContent d.fs d.img f.firstCluster (absFile d.fs d.img f).size
    cases hf : f.firstCluster with
    | none =>
      have hch : fileChain d.fs d.img f = [] := by unfold fileChain; rw [hf]
      rw [hch] at hcov ⊢
      simp [specContent]
    | some c0 => rw [specContent_of_chain (fileChain_spec hg hrep c0 hf)]
  rw [hr, h0, List.drop_zero, List.nil_append, hAB]

end FatVerif.DecodeAgree
