import FatVerif.Proofs.FsCountCycle
/-! What reaches the FS-info sector at unmount: the hint across a session. -/
namespace FatVerif.FsCount
open FatVerif.Fat

/-- operations between mount and unmount -/
def isSessionOp : Op → Bool
  | .stats | .alloc _ | .free _ | .truncate _ => true
  | _ => false

/-- session operations that never allocate -/
def isNonAllocOp : Op → Bool
  | .stats | .free _ | .truncate _ => true
  | _ => false

theorem freeOp_info {s s' : FsCountState} {c : Nat} (h : freeOp s c = .ok s') :
    ∃ n, s'.info = s.info.mapFree (· + n) ∧ s'.total = s.total ∧ s'.fat32 = s.fat32 := by
  unfold freeOp at h
  cases hf : freeChainV s.fat (some c) (chainFuel s) 0 with
  | none => rw [hf] at h; cases h
  | some r => obtain ⟨n, g'⟩ := r; rw [hf] at h; cases h; exact ⟨n, rfl, rfl, rfl⟩

theorem truncateOp_info {s s' : FsCountState} {c : Nat} (h : truncateOp s c = .ok s') :
    ∃ n, s'.info = s.info.mapFree (· + n) ∧ s'.total = s.total ∧ s'.fat32 = s.fat32 := by
  unfold truncateOp at h
  cases hf : truncateChainV s.fat c (chainFuel s) with
  | none => rw [hf] at h; cases h
  | some r => obtain ⟨n, g'⟩ := r; rw [hf] at h; cases h; exact ⟨n, rfl, rfl, rfl⟩

theorem mapFree_dirty (i : Info) (f : Nat → Nat) (h : i.dirty = true) : (i.mapFree f).dirty = true := by
  unfold Info.mapFree; cases i.free <;> simp [h]

/-- the hint names a valid cluster, is present, and the sector is marked for writing -/
def AfterAlloc (s : FsCountState) : Prop := HintStrict s ∧ s.info.next.isSome = true ∧ s.info.dirty = true

theorem afterAlloc_of_alloc {s s' : FsCountState} {prev : Option Nat} {c : Nat}
    (hh : ∀ n, s.info.next = some n → 2 ≤ n) (h : allocOp s prev = .ok (s', c)) : AfterAlloc s' := by
  obtain ⟨_, _, _, _, hnext, _, _, hd⟩ := allocOp_ok h
  exact ⟨(allocOp_hintStrict hh h).1, by rw [hnext]; rfl, hd⟩

/-- what a session operation does to the FS-info cache, whatever the table: geometry and dirty latch stay; the hint
    stays too, unless the operation is a (successful) `alloc` -/
theorem step_info {s s' : FsCountState} {op : Op} {out : Out} (hop : isSessionOp op = true)
    (h : step s op = .ok (s', out)) :
    s'.total = s.total ∧ s'.fat32 = s.fat32 ∧ (s.info.dirty = true → s'.info.dirty = true) ∧
    (s'.info.next = s.info.next ∨ ∃ prev c, op = .alloc prev ∧ allocOp s prev = .ok (s', c)) := by
  have hmap : (∃ n, s'.info = s.info.mapFree (· + n) ∧ s'.total = s.total ∧ s'.fat32 = s.fat32) →
      s'.total = s.total ∧ s'.fat32 = s.fat32 ∧ (s.info.dirty = true → s'.info.dirty = true) ∧
      (s'.info.next = s.info.next ∨ ∃ prev c, op = .alloc prev ∧ allocOp s prev = .ok (s', c)) :=
    fun ⟨n, e1, e2, e3⟩ => ⟨e2, e3, fun hd => by rw [e1]; exact mapFree_dirty _ _ hd, .inl (by rw [e1, mapFree_next])⟩
  cases op with
  | mount d rf rn => cases hop
  | unmount => cases hop
  | stats =>
    simp only [step] at h; cases h
    obtain ⟨_, e2, e3, e4⟩ := statsOp_fat s
    exact ⟨e2, e3, fun hd => by unfold statsOp; cases s.info.free <;> simp [hd], .inl e4⟩
  | alloc prev =>
    simp only [step] at h
    cases ha : allocOp s prev with
    | error e => rw [ha] at h; cases h
    | ok r =>
      rw [ha] at h; cases h
      obtain ⟨_, _, htot, h32, _, _, _, hd⟩ := allocOp_ok ha
      exact ⟨htot, h32, fun _ => hd, .inr ⟨prev, r.2, rfl, ha⟩⟩
  | free c =>
    simp only [step] at h
    cases ha : freeOp s c with
    | error e => rw [ha] at h; cases h
    | ok s1 => rw [ha] at h; cases h; exact hmap (freeOp_info ha)
  | truncate c =>
    simp only [step] at h
    cases ha : truncateOp s c with
    | error e => rw [ha] at h; cases h
    | ok s1 => rw [ha] at h; cases h; exact hmap (truncateOp_info ha)

theorem afterAlloc_step {s s' : FsCountState} {op : Op} {out : Out} (hp : AfterAlloc s) (hop : isSessionOp op = true)
    (h : step s op = .ok (s', out)) : AfterAlloc s' ∧ s'.total = s.total ∧ s'.fat32 = s.fat32 := by
  obtain ⟨htot, h32, hd, hn | ⟨prev, c, _, ha⟩⟩ := step_info hop h
  · exact ⟨⟨by rw [HintStrict, hn, htot]; exact hp.1, by rw [hn]; exact hp.2.1, hd hp.2.2⟩, htot, h32⟩
  · exact ⟨afterAlloc_of_alloc (fun n hx => (hp.1 n hx).1) ha, htot, h32⟩

theorem afterAlloc_runOps (ops : List Op) (s s' : FsCountState) (hp : AfterAlloc s)
    (hall : ∀ op, op ∈ ops → isSessionOp op = true) (h : runOps s ops = .ok s') :
    AfterAlloc s' ∧ s'.total = s.total ∧ s'.fat32 = s.fat32 :=
  runOps_preserves (J := fun x => AfterAlloc x ∧ x.total = s.total ∧ x.fat32 = s.fat32)
    (C := fun _ ops => ∀ op, op ∈ ops → isSessionOp op = true)
    (fun _ _ _ _ _ hj hc hs =>
      have ⟨p1, t1, f1⟩ := afterAlloc_step hj.1 (hc _ (by simp)) hs
      ⟨⟨p1, t1.trans hj.2.1, f1.trans hj.2.2⟩, fun o ho => hc o (List.mem_cons_of_mem _ ho)⟩)
    ops s s' ⟨hp, rfl, rfl⟩ hall h

/-- without an allocation the hint keeps its mount-time value -/
theorem next_unchanged_step {s s' : FsCountState} {op : Op} {out : Out} (hop : isNonAllocOp op = true)
    (h : step s op = .ok (s', out)) : s'.info.next = s.info.next := by
  rcases (step_info (by cases op <;> first | rfl | cases hop) h).2.2.2 with hn | ⟨prev, c, rfl, _⟩
  · exact hn
  · cases hop

end FatVerif.FsCount
