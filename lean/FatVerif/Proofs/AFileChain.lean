import FatVerif.Model.AFile
/-! The FAT restricted to one file, as a duplicate-free list: successor, truncation, the seek walk. -/
namespace FatVerif.Cursor

theorem nextOf_of_getElem? : ∀ (l : List Nat) (i c : Nat), l.Nodup → l[i]? = some c → nextOf l c = l[i + 1]?
  | [], i, c, _, h => by simp at h
  | [x], i, c, _, h => by
    cases i with
    | zero => simp [nextOf]
    | succ i => simp at h
  | x :: y :: r, 0, c, _, h => by
    simp at h; subst h; simp [nextOf]
  | x :: y :: r, i + 1, c, nd, h => by
    have hx : x ∉ y :: r := (List.nodup_cons.mp nd).1
    have nd' : (y :: r).Nodup := (List.nodup_cons.mp nd).2
    have h' : (y :: r)[i]? = some c := by simpa using h
    have hc : c ∈ y :: r := List.mem_of_getElem? h'
    have hne : x ≠ c := fun e => hx (e ▸ hc)
    have ih := nextOf_of_getElem? (y :: r) i c nd' h'
    simp only [nextOf, hne, if_false]
    rw [ih]; simp

theorem cutAfter_of_getElem? : ∀ (l : List Nat) (i c : Nat), l.Nodup → l[i]? = some c →
    cutAfter c l = l.take (i + 1) ∧ freedAfter c l = l.drop (i + 1)
  | [], i, c, _, h => by simp at h
  | x :: r, 0, c, _, h => by
    simp at h; subst h; simp [cutAfter, freedAfter]
  | x :: r, i + 1, c, nd, h => by
    have hx : x ∉ r := (List.nodup_cons.mp nd).1
    have nd' : r.Nodup := (List.nodup_cons.mp nd).2
    have h' : r[i]? = some c := by simpa using h
    have hc : c ∈ r := List.mem_of_getElem? h'
    have hne : x ≠ c := fun e => hx (e ▸ hc)
    have ih := cutAfter_of_getElem? r i c nd' h'
    simp only [cutAfter, freedAfter, hne, if_false, ih.1, ih.2]
    simp

theorem seekWalk_of_getElem? (l : List Nat) (cs : Nat) (nd : l.Nodup) :
    ∀ (todo j c i off : Nat), l[j]? = some c → j + todo < l.length →
      ∃ c', l[j + todo]? = some c' ∧ AFile.seekWalk l cs c i todo off = (c', off)
  | 0, j, c, i, off, h, _ => ⟨c, by simpa using h, by simp [AFile.seekWalk]⟩
  | todo + 1, j, c, i, off, h, hlt => by
    have hn := nextOf_of_getElem? l j c nd h
    have hj1 : j + 1 < l.length := by omega
    obtain ⟨d, hd⟩ : ∃ d, l[j + 1]? = some d := ⟨l[j + 1], by simp [hj1]⟩
    obtain ⟨c', h1, h2⟩ := seekWalk_of_getElem? l cs nd todo (j + 1) d (i + 1) off hd (by omega)
    refine ⟨c', by rw [← h1]; congr 1; omega, ?_⟩
    simp only [AFile.seekWalk, hn, hd]
    exact h2

/-- in a duplicate-free list equal entries have equal indices -/
theorem nodup_getElem?_inj {l : List Nat} (nd : l.Nodup) {i j c : Nat}
    (hi : l[i]? = some c) (hj : l[j]? = some c) : i = j :=
  (List.getElem?_inj (List.getElem?_eq_some_iff.mp hi).1 nd).mp (hi.trans hj.symm)

end FatVerif.Cursor
