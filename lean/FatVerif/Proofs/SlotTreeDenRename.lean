import FatVerif.Proofs.SlotTreeDenW
/-!
# Slot trees on a device image: `rename` of a file inside the fixed root (both paths single names)

`rename_internal(src, root, dst)` on a device whose image holds the slot tree ends as `renameInternalS` says —
`InvalidInput` for a dot name, `NotFound`, the error of `validate_long_name`, `AlreadyExists`, nothing at all when the
new name answers to the entry itself, or the move — and after the move the image holds the new slot tree
(`renameFile_root_final`).  The move is one root step made of two writes: the renamed record is written, then the old
slots are marked deleted (`rename_file_frame`); the record written is the model's `renamedSfn` when the attribute byte of
the old slot has no undefined bits (`renamed_serialize`: `< 64`, the reader masks them).
-/
namespace FatVerif
namespace SlotTreeImg
open Lfn DirSlots DirAlias SlotTree DirSim FatVerif.FileSim FatVerif.Fat DirEntryData FatVerif.DirSim.WView

/-- writing back what `deserialize` read reproduces the slot (`serialize_deserialize`): under another raw name the
    record serialises to the new name followed by the old bytes 11…31 -/
theorem renamed_serialize (bs a : List Nat) (hlen : bs.length = 32) (hb : ∀ b ∈ bs, b < 256) (ha : a.length = 11)
    (h64 : bs.getD 11 0 < 64) (hnl : Lfn.isLfn bs = false) :
    ((DirEntryData.deserializeFile bs (attrsTruncate (DirEntryData.u8At bs 11))).renamed a).serialize = renamedSfn bs
      a := by
  have hs := serialize_deserialize bs hlen hb
  unfold deserialize at hs
  rw [deser_lfn bs, hnl, if_neg (by decide), Nat.mod_eq_of_lt h64] at hs
  have hset : bs.set 11 (bs.getD 11 0) = bs := by
    rw [List.getD_eq_getElem?_getD, List.getElem?_eq_getElem (by omega), Option.getD_some, List.set_getElem_self]
  rw [hset] at hs
  have htail : (deserializeFile bs (attrsTruncate (u8At bs 11))).serializeTail = bs.drop 11 :=
    List.append_cancel_left (hs.trans (List.take_append_drop 11 bs).symm)
  unfold renamedSfn
  rw [List.take_of_length_le (by omega), ← htail]
  rfl

theorem pairwise_lt_inj {α} (f : α → Nat) : ∀ (l : List α), l.Pairwise (fun a b => f a < f b) →
    ∀ a ∈ l, ∀ b ∈ l, f a = f b → a = b := by
  intro l
  induction l with
  | nil => intro _ a ha; cases ha
  | cons x r ih =>
    intro hp a ha b hb hab
    obtain ⟨hx, hr⟩ := List.pairwise_cons.1 hp
    rcases List.mem_cons.1 ha with h1 | h1 <;> rcases List.mem_cons.1 hb with h2 | h2
    · rw [h1, h2]
    · have := hx b h2; rw [h1] at hab; omega
    · have := hx a h1; rw [h2] at hab; omega
    · exact ih hr a h1 b h2 hab

theorem listing_endIdx_inj (slots : List (List Nat)) (hs : Shape slots) {a b : LfnEntry} (ha : a ∈ listing slots)
    (hb : b ∈ listing slots) (h : a.endIdx = b.endIdx) : a = b := by
  obtain ⟨items, tail, rfl, hok, ht⟩ := hs
  unfold listing at ha hb
  rw [listing_shape true items tail hok ht] at ha hb
  exact pairwise_lt_inj (fun e => e.endIdx) _ (listOf_sorted items 0) a ha b hb h

/-! ## the program on two single-component paths -/

theorem rename_unfold_last (env : Env) (f : Nat) (st st2 : DirStream) (src dst sname dname : String)
    (h1 : Names.splitPath src = (sname, none)) (h2 : Names.splitPath dst = (dname, none)) :
    FatVerif.rename env (f + 1) st src st2 dst =
      Prog.bind Prog.getFs fun _ => renameInternal env st sname st2 dname := by
  conv => lhs; unfold FatVerif.rename
  rw [h1]
  simp only [h2]
  rfl

/-- `check_for_existence` of the new name fails (only `hang` can) -/
theorem rename_check_fails {d : Dev} {st st2 : DirStream} (V1 : DirView d st) (V2 : DirView d st2)
    (ha : d.fs.lfnAlloc = true) (env : Env) (sname dname : String)
    (hdots : (sname = "." || sname = ".." || dname = "." || dname = "..") = false) (e : DirEntry)
    (h : V1.lookup env sname none = .ok e) (hfile : e.isDir = false) (hval : Names.validateLongName dname = .ok ())
    (err : Err) (hchk : V2.check env dname none = .error err) (d1 : Dev) (hv : SameVol d d1) :
    FailsV (renameInternal env st sname st2 dname) d1 err := by
  have key := V1.rename_file_head V2 ha env sname dname d1 hv
  simp only [hdots, h, hval, hfile, hchk, Bool.false_eq_true, if_false] at key
  exact key


/-- the run of `WView.rename_file_sim` (Proofs/DirRename.lean; both are read off `rename_core`), concluded with the
    frame of the two writes (`write_entry` of the renamed record, `deleteEntry` of the old slots) in place of the
    dirty flag and the invariant -/
theorem rename_file_frame {d : Dev} {st : DirStream} (V : WView d st) (env : Env) (srcName dstName : String)
    (hdots : (srcName = "." || srcName = ".." || dstName = "." || dstName = "..") = false)
    (hval : Names.validateLongName dstName = .ok ()) (ha : d.fs.lfnAlloc = true) (le : LfnEntry)
    (hl : lookupL env.upper srcName.toList none (readDirEntries d.fs.lfnAlloc true (V.slots d.img)) = .ok le)
    (hfile : Lfn.isDir le.sfn = false) (a : List Nat)
    (hchk : DirAlias.checkForExistenceL env.upper (V.slots d.img) dstName none 70000 = .ok (.alias a))
    (hfit : DirSlots.findFree (V.slots d.img) (Lfn.numParts (Names.encodeUtf16 dstName.toList).length + 1) +
      (Lfn.numParts (Names.encodeUtf16 dstName.toList).length + 1) ≤ V.N) :
    ∃ d', run (renameInternal env st srcName st dstName) d = (.ok (), d') ∧ VolStep d d' ∧
      V.slots d'.img =
        DirSlots.deleteRange
          (DirSlots.writeEntry (V.slots d.img) (Names.encodeUtf16 dstName.toList)
            ((toDirEntryS V.src le).data.renamed a).serialize)
          le.beginIdx le.endIdx ∧
      FrameOutE V.N V.src V.Extra d d' := by
  obtain ⟨dm, d4, newE, hrun, hnd, _, _, ⟨hs1, _, _, (hsl2 : V.slots dm.img = _), hfr2, _⟩, hs2, _, _,
    (hsl1 : V.slots d4.img = _), hfr1, _⟩ := V.rename_core V ⟨hdots, hval, ha, hl, hchk, hfit⟩
    (Or.inl hfile) (fun _ _ _ _ h _ _ _ => h)
  exact ⟨d4, hrun.trans (fixDotDot_file env d.fs st newE
      (V.renamed_file_isDir le hfile a hnd) d4),
    hs1.trans hs2, by rw [hsl1, hsl2], hfr2.trans hfr1⟩

/-- scope / resources of a rename inside the root: the source, if found, is a file whose attribute byte has no
    undefined bits (the reader masks them, the model copies the byte); the new entry fits into the root region -/
def RenameRes (d : Dev) (up : Char → List Char) (slots : List (List Nat)) (ch : List (LfnEntry × Node))
    (sname dname : String) : Prop :=
  (∀ x, lookupS up slots ch sname = some x → x.2.isDir = false ∧ Lfn.byte x.1.sfn 11 < 64) ∧
  HasRoomRoot d slots dname

section final
variable {d : Dev} {up : Char → List Char} {cl : List String → Option Nat} {slots : List (List Nat)}
  {ch : List (LfnEntry × Node)}

theorem renameFile_root_final (W : ImgTreeW d up (.dir slots ch) cl) (hwf : TreeWf up (.dir slots ch)) (env : Env)
    (henv : env.upper = up) (sname dname : String) (hres : RenameRes d up slots ch sname dname)
    (d4 : Dev) (hv : SameVol d d4) :
    MOut (fun (_ : Unit) d' => VolStep d d' ∧
        ImgTreeW d' up (renameInternalS up 70000 (.dir slots ch) [] sname [] dname).tree cl)
      (renameInternal env (rootAt d.fs 0) sname (rootAt d.fs 0) dname) d4
      (outErr (renameInternalS up 70000 (.dir slots ch) [] sname [] dname)) := by
  subst henv
  obtain ⟨hsrc, hroom⟩ := hres
  obtain ⟨W4, hd, hst, N, tail, hR, hsl, htl⟩ := W.root_view hwf hv
  rw [hst]
  have halloc := W4.lay.alloc
  have hlk := root_lookup hR halloc hsl htl env.upper sname
  -- the reading part of the program, which branches as `renameInternalS` does
  have key := (DirView.ofRoot hR).rename_file_head (DirView.ofRoot hR) halloc env sname dname d4 (SameVol.refl d4)
  rw [root_check hR hsl htl env dname, root_lookupV hR halloc hsl htl] at key
  unfold renameInternalS
  cases hdn : (isDotName sname || isDotName dname) with
  | true =>
    have hdots : (sname = "." || sname = ".." || dname = "." || dname = "..") = true := by
      rw [← isDotName_eq sname, ← isDotName_eq dname] at hdn
      simpa [Bool.or_assoc] using hdn
    rw [hdots] at key
    exact key
  | false =>
    have hdots : (sname = "." || sname = ".." || dname = "." || dname = "..") = false := by
      rw [← isDotName_eq sname, ← isDotName_eq dname] at hdn
      simpa [Bool.or_assoc] using hdn
    rw [hdots] at key
    simp only [Bool.false_eq_true, if_false, getAtS] at key ⊢
    cases hx : lookupS env.upper slots ch sname with
    | none => rw [lookupS_none hd hx] at key; exact key
    | some x =>
      obtain ⟨hfx, hxm, hxl, _⟩ := lookupS_some hd hx
      rw [hfx] at hlk
      obtain ⟨hfile, h64⟩ := hsrc x hx
      have hsfn : Lfn.isDir x.1.sfn = false := by rw [hd.kind x hxm]; exact hfile
      -- the slot of the source entry was read from the image
      obtain ⟨hslotok, hlen32, hlt256, hnotlfn, _, _⟩ := (rootW hR W4.lay).listed x.1 (lookupL_ok _ _ _ _ _ hlk).1
      have hfileE : (toDirEntryS (fun o => (rootSliceOf d4.fs).beginOff + o) x.1).isDir = false := by
        rw [toDirEntryS_isDir _ x.1]; exact hsfn
      rw [hfx] at key
      dsimp only at key ⊢
      cases hval : Names.validateLongName dname with
      | error err => rw [hval] at key; exact key
      | ok u =>
        cases u
        rw [hval, hfileE] at key
        simp only [Bool.false_eq_true, if_false] at key ⊢
        unfold renameFinal
        simp only [hsfn, Bool.false_and, Bool.false_eq_true, if_false]
        have hbx := readLoop_bounds true true slots 0 0 _ (Nat.le_refl _) x.1 hxl
        cases hal : checkForExistenceL env.upper slots dname none 70000 with
        | error err => rw [hal] at key; exact key
        | ok r =>
        rw [hal] at key
        cases r with
        | entry e =>
          have hel := (check_entry_facts _ _ _ _ _ _ hal).1
          have hbe := readLoop_bounds true true slots 0 0 _ (Nat.le_refl _) e hel
          dsimp only at key ⊢
          cases heq : (e == x.1) with
          | true =>
            have hex : e = x.1 := by simpa using heq
            simp only [samePathS, prefixS, List.length_nil, BEq.rfl, Bool.and_self, if_true, outErr, done]
            rw [if_pos (by rw [hex]; rfl)] at key
            obtain ⟨d', hr, hs⟩ := key
            exact ⟨(), d', hr, VolStep.of_sameVol (hv.trans hs), W.of_sameVol (hv.trans hs)⟩
          | false =>
            have hne : e ≠ x.1 := by simpa using heq
            simp only [samePathS, prefixS, List.length_nil, BEq.rfl, Bool.and_self, Bool.true_and, Bool.false_eq_true,
              if_false, outErr, fail]
            rw [if_neg (fun hpos => hne ?_)] at key
            · exact key
            refine (listing_endIdx_inj slots hd.wf.shape hxl hel ?_).symm
            have hpos' : (rootSliceOf d4.fs).beginOff + (32 * x.1.endIdx - 32) =
                (rootSliceOf d4.fs).beginOff + (32 * e.endIdx - 32) := hpos
            omega
        | alias al =>
          simp only [outErr, done]
          -- the model: the renamed record is added, then the old entry deleted
          have hU := UnitsOk.of_valid hval
          obtain ⟨hwf', hcls⟩ :=
            rename_write_wf slots hd.wf dname 70000 al x.1.sfn (listed_class hd.wf.shape hxl) hval hal
          have hlen := C16dir.dir_alias_length _ _ _ _ _ _ hal
          obtain ⟨hd1, hsub, _, _⟩ := addEntry_dirOk hd (Names.encodeUtf16 dname.toList) (renamedSfn x.1.sfn al) x.2
            hwf' hU hcls (by rw [isDir_renamed _ _ hlen, hsfn, hfile])
          have hx1 := hsub x.1 hxl
          have hd2 := delEntry_dirOk hd1 x.1 hx1
          -- the program
          have hVs := rootW_slots hR W4.lay hsl
          obtain ⟨d', hrun, hs, hslots', hfr⟩ := rename_file_frame (rootW hR W4.lay) env sname dname hdots hval
            halloc x.1 hlk hsfn al (by rw [hVs, check_append_ends _ slots tail htl]; exact hal)
            (by rw [hVs, findFree_append_ends slots tail htl]; exact hroom.of_sameVol hv N hR)
          refine ⟨(), d', hrun, (VolStep.of_sameVol hv).trans hs, ?_⟩
          obtain ⟨tail', htw, htl'⟩ := writeEntry_append_ends slots tail htl (Names.encodeUtf16 dname.toList)
            (renamedSfn x.1.sfn al) (DirSlots.findFree_le slots _)
          have hb1 := readLoop_bounds true true _ 0 0 _ (Nat.le_refl _) x.1 hx1
          have hser : ((toDirEntryS (rootW hR W4.lay).src x.1).data.renamed al).serialize = renamedSfn x.1.sfn al :=
            renamed_serialize x.1.sfn al hlen32 hlt256 hlen h64 hnotlfn
          have hroot' : rootDirSlots d'.fs d'.img =
              DirSlots.deleteRange (DirSlots.writeEntry slots (Names.encodeUtf16 dname.toList) (renamedSfn x.1.sfn al))
                x.1.beginIdx x.1.endIdx ++ tail' := by
            rw [rootW_slots_step hR W4.lay hs, hslots', hVs, hser, htw, deleteRange_append _ tail' _ _ (by omega)]
          show ImgTreeW d' env.upper (delEntry x.1 (addEntry _ _ x.2 (.dir slots ch))) cl
          rw [addEntry_dir hd.wf.shape _ _ _ ch hU hcls, delEntry_dir]
          refine imgTreeW_root_step W4 hd hd2 hR hs hfr.toG tail' hroot' htl' (fun y hy hdy => ?_)
          rcases List.mem_append.1 (List.mem_filter.1 hy).1 with h | h
          · exact h
          · rw [List.mem_singleton.1 h, show ((_, x.2) : LfnEntry × Node).2 = x.2 from rfl, hfile] at hdy
            cases hdy

end final


theorem pathParts_single (p : String) (a : List Char) (h : Names.splitPathL p.toList = (a, none)) :
    pathParts p = ([], String.ofList a) := by
  have hpp : pathParts p = splitAll p.toList.length p.toList := rfl
  rw [hpp, splitAll_last _ _ _ h]

theorem splitPath_single (p : String) (a : List Char) (h : Names.splitPathL p.toList = (a, none)) :
    Names.splitPath p = (String.ofList a, none) := by
  have := splitPath_ofList p.toList
  rw [String.ofList_toList, h] at this
  exact this

/-- two single names through the root handle: the model goes straight to `renameInternalS` in the root -/
theorem renameS_single (up : Char → List Char) (t : Node) (src dst : String) (sa da : List Char)
    (h1 : Names.splitPathL src.toList = (sa, none)) (h2 : Names.splitPathL dst.toList = (da, none))
    (hroot : ∃ s c, t = .dir s c) :
    renameS up 70000 t [] src [] dst = renameInternalS up 70000 t [] (String.ofList sa) [] (String.ofList da) := by
  obtain ⟨s, c, rfl⟩ := hroot
  unfold renameS
  rw [pathParts_single src sa h1, pathParts_single dst da h2]
  simp only [walkDirsS_nil (up := up) (t := .dir s c) (cwd := []) (s := s) (ch := c) rfl]


end SlotTreeImg
end FatVerif
