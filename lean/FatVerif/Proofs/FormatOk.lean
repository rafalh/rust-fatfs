import FatVerif.Proofs.FormatNoPanic
import FatVerif.Proofs.BpbValidate
/-! `format_boot_sector` + `validate` as one equation (`formatChecked_eq`): under the builder's constraints the result
    is the layout `determine_fs_layout` finds, assembled by `bootOf`, unless the sector size is above 4096 or a
    FAT12/16 layout has no root entries. That it never panics, what a success says and when it succeeds are read off. -/
namespace FatVerif
namespace Format
open Bpb (Checks)

/-! ### `validate` is one test -/

/-- none of the rejection tests of `validate` fires, its arithmetic taken unbounded -/
def FBpb.Valid (b : FBpb) : Prop :=
  ¬ b.fsVersion ≠ 0 ∧
  (¬ (!isPow2 b.bps) = true ∧ ¬ (b.bps < 512 ∨ 4096 < b.bps)) ∧
  ¬ (!isPow2 b.spc) = true ∧
  (¬ b.reserved < 1 ∧ ¬ (b.isFat32 = true ∧ b.reserved ≤ b.backupBoot) ∧
    ¬ (b.isFat32 = true ∧ b.reserved ≤ b.fsInfoSector)) ∧
  ¬ b.fats = 0 ∧
  (¬ (b.isFat32 = true ∧ b.rootEntries ≠ 0) ∧ ¬ (¬ b.isFat32 = true ∧ b.rootEntries = 0)) ∧
  (¬ (b.isFat32 = true ∧ b.totalSectors16 ≠ 0) ∧ ¬ (b.totalSectors16 = 0 ∧ b.totalSectors32 = 0) ∧
    ¬ (b.totalSectors16 ≠ 0 ∧ b.totalSectors32 ≠ 0 ∧ b.totalSectors16 ≠ b.totalSectors32) ∧
    ¬ 4294967295 < b.fdsNat ∧ ¬ b.totalSectors ≤ b.fdsNat) ∧
  ¬ (b.isFat32 = true ∧ b.spf32 = 0) ∧
  (¬ b.isFat32 ≠ (FatType.fromClusters b.tcNat == .fat32) ∧
    ¬ (FatType.fromClusters b.tcNat = .fat32 ∧ 0x0FFFFFF4 < b.tcNat) ∧
    ¬ (b.isFat32 = true ∧ (b.rootCluster < 2 ∨ b.tcNat ≤ b.rootCluster - 2)))

/-- `validate` runs its tests in order; the two steps that compute (`first_data_sector`, `total_clusters`) are reached
    only when the region sum fits `u32` and lies below the total, so neither can fail -/
theorem validateBpb_checks (b : FBpb) : Checks (validateBpb b) b.Valid := by
  unfold validateBpb validateBytesPerSector validateSectorsPerCluster validateReservedSectors validateFats
    validateRootEntries validateSectorsPerFat
  refine .ite fun _ => (Checks.ite fun _ => .ite_ok).bind fun _ => Checks.ite_ok.bind fun hspc =>
    (Checks.ite fun _ => .ite fun _ => .ite_ok).bind fun _ => Checks.ite_ok.bind fun _ =>
    (Checks.ite fun _ => .ite_ok).bind fun _ => Checks.bind (c := _ ∧ _ ∧ _ ∧ _ ∧ _) ?_ fun hts =>
    Checks.ite_ok.bind fun _ => ?_
  · unfold validateTotalSectors
    refine .ite fun _ => .ite fun _ => .ite fun _ => .ite fun hg => ?_
    rw [firstDataSector_of_le hg, ebind_ok]
    exact .ite_ok
  · have hs0 : b.spc ≠ 0 := fun hz => by rw [hz, isPow2_zero] at hspc; exact hspc rfl
    obtain ⟨_, _, _, hg, hlt⟩ := hts
    unfold validateTotalClusters
    rw [totalClusters_of hg hlt hs0, ebind_ok]
    exact .ite fun _ => .ite fun _ => .ite_ok

theorem validateBpb_not_panic (b : FBpb) : validateBpb b ≠ .error .panic :=
  fun h => nomatch (validateBpb_checks b).error h

theorem validateBoot_checks (boot : FBoot) :
    Checks (validateBoot boot) (¬ boot.bootSig ≠ [0x55, 0xAA] ∧ boot.bpb.Valid) :=
  .ite fun _ => validateBpb_checks _

/-! ### the assembled BPB -/

theorem isPow2_bps : ∀ b ∈ [512, 1024, 2048, 4096, 8192, 16384, 32768], isPow2 b = true := by decide +kernel
theorem isPow2_spc : ∀ s ∈ [1, 2, 4, 8, 16, 32, 64, 128], isPow2 s = true := by decide +kernel

theorem bpbOf_isFat32 (o : FormatOpts) (t spf spc : Nat) (ft : FatType) (hspf1 : 1 ≤ spf) :
    (bpbOf o t ft spf spc).isFat32 = decide (ft = .fat32) := by
  cases ft <;> simp [bpbOf, mkBpb, FBpb.isFat32] <;> omega

/-- `validate` accepts the BPB of a layout that fits unless the sector is too large or a fixed root directory is empty -/
theorem bpbOf_valid {o : FormatOpts} {t spf spc : Nat} {ft : FatType} (hacc : Accepted o) (ht : t < 4294967296)
    (h : Fitted o t ft spf spc) :
    (bpbOf o t ft spf spc).Valid ↔ o.bps ≤ 4096 ∧ (ft ≠ .fat32 → o.rootEntries ≠ 0) := by
  obtain ⟨hspc, _, hspf1, _, _, _, hfit, hfrom, hmax, _⟩ := h
  have hb := bps_bounds hacc.bps
  have hfats := hacc.fats
  have efds := bpbOf_fdsNat o t ft spf spc (by omega)
  have etc := bpbOf_tcNat o t ft spf spc (by omega)
  have e32 : FatType.fromClusters
      ((t - (reservedFor ft + o.fats * spf + determineRootDirSectors o.rootEntries o.bps ft)) / spc) = .fat32 →
      65525 ≤ (t - (reservedFor ft + o.fats * spf + determineRootDirSectors o.rootEntries o.bps ft)) / spc :=
    Bpb.fromClusters_fat32.1
  unfold FBpb.Valid
  rw [etc, efds, bpbOf_totalSectors, bpbOf_isFat32 o t spf spc ft hspf1, ← hfrom]
  generalize (t - (reservedFor ft + o.fats * spf + determineRootDirSectors o.rootEntries o.bps ft)) / spc = cl
    at hfrom hmax e32
  have e32 : ft = .fat32 → 65525 ≤ cl := fun h => e32 (hfrom.symm.trans h)
  have e1 : (bpbOf o t ft spf spc).bps = o.bps := rfl
  have e2 : (bpbOf o t ft spf spc).spc = spc := rfl
  rw [e1, e2, isPow2_bps _ hacc.bps, isPow2_spc _ hspc]
  clear efds etc e1 e2 hfrom
  cases ft <;> simp [bpbOf, mkBpb, reservedFor, maxClusters] at hfit hmax e32 ⊢ <;> omega

theorem determineFsLayout_not_panic {o : FormatOpts} {t : Nat} (hacc : Accepted o) (ht : t < 4294967296) :
    determineFsLayout o t ≠ .error .panic := by
  obtain ⟨c, hc⟩ := effectiveBpc_total hacc t ht
  rw [determineFsLayout_eq hacc ht, hc, ebind_ok]
  unfold firstFit
  intro h
  repeat' split at h
  all_goals cases h

/-! ### the whole -/

/-- after `determine_fs_layout` nothing computes that could fail: the FAT of a FAT12/16 layout fits `u16`
    (`spfOf_le_of_clusters_le`), the cluster count of the assembled BPB is the layout's, and of `validate`'s tests
    only the two that look at the request alone can fire (`bpbOf_valid`) -/
theorem formatChecked_eq {o : FormatOpts} {t : Nat} (hacc : Accepted o) (ht : t < 4294967296) :
    formatChecked o t = determineFsLayout o t >>= fun L =>
      if o.bps ≤ 4096 ∧ (L.fatType ≠ .fat32 → o.rootEntries ≠ 0) then
        .ok (bootOf o t L.fatType L.spf L.spc, L.fatType)
      else .error .invalidInput := by
  cases hL : determineFsLayout o t with
  | error e => unfold formatChecked formatBootSector formatBpb; rw [hL]; rfl
  | ok L =>
    obtain ⟨hres, hl⟩ := determineFsLayout_ok_facts hacc ht hL
    have hb := bps_bounds hacc.bps
    have hfit := hl.fit
    have hs16 : spf16Of L = .ok (if L.fatType = .fat32 then 0 else L.spf) := by
      unfold spf16Of
      split
      · rfl
      · next hne => rw [if_pos (hl.spf16 hne)]
    have hbeq : mkBpb o t L (if L.fatType = .fat32 then 0 else L.spf) = bpbOf o t L.fatType L.spf L.spc := by
      unfold bpbOf; rw [← hres]
    have hfb : formatBootSector o t = .ok (bootOf o t L.fatType L.spf L.spc, L.fatType) := by
      unfold formatBootSector formatBpb checkBpbType
      rw [hL, ebind_ok, hs16, ebind_ok, hbeq,
        bpbOf_totalClusters o t L.fatType L.spf L.spc (by omega) hfit ht
          (by have := spc_bounds hl.spc_mem; omega),
        ebind_ok, ← hl.width, if_neg (by simp), ebind_ok]
      rfl
    have hc := validateBoot_checks (bootOf o t L.fatType L.spf L.spc)
    have hv := bpbOf_valid hacc ht hl
    unfold formatChecked
    rw [hfb, ebind_ok, ebind_ok]
    by_cases hcond : o.bps ≤ 4096 ∧ (L.fatType ≠ .fat32 → o.rootEntries ≠ 0)
    · rw [if_pos hcond, hc.ok_iff.2 ⟨by simp [bootOf], hv.2 hcond⟩]
    · rw [if_neg hcond]
      cases hvb : validateBoot (bootOf o t L.fatType L.spf L.spc) with
      | ok u => exact absurd (hv.1 (hc.ok_iff.1 hvb).2) hcond
      | error e => cases hc.error hvb; rfl

/-- C06.1: under the builder's constraints, formatting (`format_boot_sector` + strict `validate`) never panics -/
theorem formatChecked_not_panic {o : FormatOpts} {t : Nat} (hacc : Accepted o) (ht : t < 4294967296) :
    formatChecked o t ≠ .error .panic := by
  rw [formatChecked_eq hacc ht]
  intro h
  rcases ebind_eq_error.mp h with h | ⟨L, _, h⟩
  · exact determineFsLayout_not_panic hacc ht h
  · split at h <;> cases h

/-- from the layout to the final answer -/
theorem formatChecked_of_layout {o : FormatOpts} {t : Nat} {L : FsLayout}
    (hacc : Accepted o) (ht : t < 4294967296) (hbps : o.bps ∈ [512, 1024, 2048, 4096])
    (hL : determineFsLayout o t = .ok L) (hroot : L.fatType ≠ .fat32 → o.rootEntries ≠ 0) :
    formatChecked o t = .ok (bootOf o t L.fatType L.spf L.spc, L.fatType) := by
  have h4 : o.bps ≤ 4096 := by simp only [List.mem_cons, List.mem_nil_iff, or_false] at hbps; omega
  rw [formatChecked_eq hacc ht, hL, ebind_ok, if_pos ⟨h4, hroot⟩]

/-- a success is the boot sector of the layout found, on a sector size `validate` accepts -/
theorem formatChecked_ok_iff {o : FormatOpts} {t : Nat} {boot : FBoot} {ft : FatType}
    (hacc : Accepted o) (ht : t < 4294967296) :
    formatChecked o t = .ok (boot, ft) ↔
      ∃ L, determineFsLayout o t = .ok L ∧ o.bps ≤ 4096 ∧ (ft ≠ .fat32 → o.rootEntries ≠ 0) ∧ L.fatType = ft ∧
        boot = bootOf o t ft L.spf L.spc := by
  rw [formatChecked_eq hacc ht, ebind_eq_ok]
  constructor
  · rintro ⟨L, hL, h⟩
    split at h
    · next hc => cases h; exact ⟨L, hL, hc.1, hc.2, rfl, rfl⟩
    · cases h
  · rintro ⟨L, hL, h1, h2, rfl, rfl⟩
    exact ⟨L, hL, if_pos ⟨h1, h2⟩⟩

/-- a success is `bootOf` of numbers that are `LayoutOk` -/
theorem formatChecked_sized {o : FormatOpts} {t : Nat} {boot : FBoot} {ft : FatType}
    (hacc : Accepted o) (ht : t < 4294967296) (h : formatChecked o t = .ok (boot, ft)) :
    ∃ spf spc, boot = bootOf o t ft spf spc ∧ LayoutOk o t ft spf spc := by
  obtain ⟨L, hL, h4, hroot, rfl, rfl⟩ := (formatChecked_ok_iff hacc ht).1 h
  refine ⟨_, _, rfl, (determineFsLayout_ok_facts hacc ht hL).2, ?_, hroot⟩
  have := hacc.bps
  simp only [List.mem_cons, List.mem_nil_iff, or_false] at this ⊢
  omega

theorem formatChecked_bps {o : FormatOpts} {t : Nat} {boot : FBoot} {ft : FatType}
    (hacc : Accepted o) (ht : t < 4294967296) (h : formatChecked o t = .ok (boot, ft)) : boot.bpb.bps = o.bps := by
  obtain ⟨_, _, rfl, _⟩ := formatChecked_sized hacc ht h
  rfl

/-- a requested width is the one reported -/
theorem formatChecked_asked {o : FormatOpts} {t : Nat} {boot : FBoot} {ft w : FatType}
    (hacc : Accepted o) (ht : t < 4294967296) (h : formatChecked o t = .ok (boot, ft)) (hw : o.fatType = some w) :
    ft = w := by
  obtain ⟨_, _, _, hl⟩ := formatChecked_sized hacc ht h
  exact (hl.asked w hw).symm

open FatVerif.FormatSpec in
/-- C06.2 at the level of the boot-sector record -/
theorem formatChecked_valid {o : FormatOpts} {t : Nat} {boot : FBoot} {ft : FatType}
    (hacc : Accepted o) (ht : t < 4294967296) (h : formatChecked o t = .ok (boot, ft)) :
    ValidBpb (viewOfBoot boot) (FormatDriver.requestOf o t) ft.bits := by
  obtain ⟨spf, spc, rfl, hl⟩ := formatChecked_sized hacc ht h
  exact hl.validBpb ht hacc.fats

end Format
end FatVerif
