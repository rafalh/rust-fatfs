import FatVerif.Proofs.DirAliasDisplay
import FatVerif.Proofs.NamesEq
/-!
The directory-level alias loop after the repair of F23, one checksum "epoch" at a time: what a run that exhausts its
fuel has seen (`loop_hang`).

Within one epoch every `continue` marks a previously unmarked candidate (≤ 14 per epoch); an epoch fails only if all
nine hash candidates of ITS checksum are marked, each either by a listed raw short name that parses to that checksum,
or by a candidate whose display form a listed entry answers to.  How many epochs can fail is counted in
`DirAliasCount`.
-/
namespace FatVerif
namespace DirAlias
open Lfn DirSlots

/-! ## which bit a name sets in `prefix_chksum_bitmap` -/

theorem addExisting_testBit (g : Names.Gen) (x : List Nat) (i : Nat) :
    (Names.addExisting g x).prefixChksumBitmap.testBit i = true ↔
      g.prefixChksumBitmap.testBit i = true ∨ Names.shortKey g g.chksum x = some i := by
  rw [Names.addExisting_eq]; simp [Names.testBit_mark]

theorem addAll_testBit (g : Names.Gen) (xs : List (List Nat)) (i : Nat) :
    (Names.addAll g xs).prefixChksumBitmap.testBit i = true ↔
      g.prefixChksumBitmap.testBit i = true ∨ ∃ x ∈ xs, Names.shortKey g g.chksum x = some i := by
  rw [Names.addAll_short_testBit]; simp

/-! ## the number of unmarked candidates of an epoch -/

/-- 1 for a candidate that is not marked yet -/
def c2n (b : Bool) : Nat := if b then 0 else 1

/-- how many of the positions `l` are not marked in `t` -/
def unset (t : Nat → Bool) (l : List Nat) : Nat := (l.map fun j => c2n (t j)).sum

/-- the exact form, the four `~N` forms and the nine hash forms of an epoch that are still unmarked -/
def free (g : Names.Gen) : Nat :=
  c2n g.exactMatch + unset g.longPrefixBitmap.testBit (List.range' 1 4) +
    unset g.prefixChksumBitmap.testBit (List.range' 1 9)

theorem c2n_le_one (b : Bool) : c2n b ≤ 1 := by cases b <;> simp [c2n]

theorem c2n_mono {a b : Bool} (h : a = true → b = true) : c2n b ≤ c2n a := by
  cases a <;> cases b <;> simp_all [c2n]

theorem c2n_drop {a b : Bool} (ha : a = false) (hb : b = true) : c2n b + 1 ≤ c2n a := by
  subst ha hb; simp [c2n]

theorem unset_le (t : Nat → Bool) (l : List Nat) : unset t l ≤ l.length := by
  induction l with
  | nil => exact Nat.le_refl 0
  | cons j l ih =>
    have := c2n_le_one (t j)
    simp only [unset, List.map_cons, List.sum_cons, List.length_cons] at ih ⊢
    omega

theorem unset_mono {t t' : Nat → Bool} (h : ∀ j, t j = true → t' j = true) (l : List Nat) :
    unset t' l ≤ unset t l := by
  induction l with
  | nil => exact Nat.le_refl 0
  | cons j l ih =>
    have := c2n_mono (h j)
    simp only [unset, List.map_cons, List.sum_cons] at ih ⊢
    omega

/-- a position of `l` that gets marked lowers the count -/
theorem unset_drop {t t' : Nat → Bool} (h : ∀ j, t j = true → t' j = true) {i : Nat} (h0 : t i = false)
    (h1 : t' i = true) {l : List Nat} (hi : i ∈ l) : unset t' l + 1 ≤ unset t l := by
  induction l with
  | nil => cases hi
  | cons j l ih =>
    simp only [unset, List.map_cons, List.sum_cons] at ih ⊢
    rcases List.mem_cons.1 hi with rfl | hi
    · have := c2n_drop h0 h1
      have := unset_mono h l
      unfold unset at this
      omega
    · have := c2n_mono (h j)
      have := ih hi
      omega

theorem free_le (g : Names.Gen) : free g ≤ 14 := by
  have := c2n_le_one g.exactMatch
  have := unset_le g.longPrefixBitmap.testBit (List.range' 1 4)
  have := unset_le g.prefixChksumBitmap.testBit (List.range' 1 9)
  simp only [List.length_range'] at *
  unfold free; omega

theorem free_mono {g g' : Names.Gen} (m : Names.Mono g g') : free g' ≤ free g := by
  have := c2n_mono m.2.2
  have := unset_mono m.1 (List.range' 1 4)
  have := unset_mono m.2.1 (List.range' 1 9)
  unfold free; omega

theorem free_drop_exact {g g' : Names.Gen} (m : Names.Mono g g') (h : g.exactMatch = false)
    (h' : g'.exactMatch = true) : free g' + 1 ≤ free g := by
  have := c2n_drop h h'
  have := unset_mono m.1 (List.range' 1 4)
  have := unset_mono m.2.1 (List.range' 1 9)
  unfold free; omega

theorem free_drop_long {g g' : Names.Gen} (m : Names.Mono g g') (i : Nat) (h1 : 1 ≤ i) (h4 : i ≤ 4)
    (h : g.longPrefixBitmap.testBit i = false) (h' : g'.longPrefixBitmap.testBit i = true) :
    free g' + 1 ≤ free g := by
  have := c2n_mono m.2.2
  have := unset_drop m.1 h h' (List.mem_range'_1.2 ⟨h1, by omega⟩ : i ∈ List.range' 1 4)
  have := unset_mono m.2.1 (List.range' 1 9)
  unfold free; omega

theorem free_drop_hash {g g' : Names.Gen} (m : Names.Mono g g') (i : Nat) (h1 : 1 ≤ i) (h9 : i ≤ 9)
    (h : g.prefixChksumBitmap.testBit i = false) (h' : g'.prefixChksumBitmap.testBit i = true) :
    free g' + 1 ≤ free g := by
  have := c2n_mono m.2.2
  have := unset_mono m.1 (List.range' 1 4)
  have := unset_drop m.2.1 h h' (List.mem_range'_1.2 ⟨h1, by omega⟩ : i ∈ List.range' 1 9)
  unfold free; omega

/-- feeding a candidate back strictly reduces the number of unmarked candidates -/
theorem free_continue {g : Names.Gen} (hw : Names.GenWF g) {a : List Nat} (hg : Names.generate g = .ok a) :
    free (Names.addExisting g a) + 1 ≤ free g := by
  have m := Names.addExisting_mono g a
  rcases Names.generate_cases hg with ⟨_, _, hx, rfl⟩ | ⟨i, h1, h4, hb, rfl⟩ | ⟨i, h1, h9, hb, rfl⟩
  · exact free_drop_exact m hx (Names.addExisting_exact_hit g)
  · rw [Names.bitClear_eq] at hb
    exact free_drop_long m i h1 h4 (by simpa using hb) (Names.addExisting_long_hit hw (by omega))
  · rw [Names.bitClear_eq] at hb
    exact free_drop_hash m i h1 h9 (by simpa using hb) (Names.addExisting_short_hit hw (by omega))

/-! ## the epoch invariant and the analysis of a run that exhausts its fuel -/

/-- a listed entry answers to the display form of `x` -/
def Blocked (upper : Char → List Char) (L : List LfnEntry) (x : List Nat) : Prop :=
  ∃ e ∈ L, matchesName upper e (Names.aliasDisplay x) = true

/-- why bit `i` of the epoch with checksum `c` can be marked: a listed raw short name, or a blocked candidate -/
def Charged (upper : Char → List Char) (L : List LfnEntry) (g0 : Names.Gen) (c i : Nat) : Prop :=
  ∃ x, ((x ∈ L.map fun e => sfnName e.sfn) ∨ (Canon x ∧ Blocked upper L x)) ∧ Names.shortKey g0 c x = some i

/-- every hash candidate marked in the current epoch has been charged -/
def EpochInv (upper : Char → List Char) (L : List LfnEntry) (g0 g : Names.Gen) : Prop :=
  ∀ i, g.prefixChksumBitmap.testBit i = true → Charged upper L g0 g.chksum i

/-- a run that ends in `hang`: `m` whole epochs failed, all nine hash candidates of each were charged, and the fuel was
    at most the unmarked candidates of the current epoch plus 15 rounds per failed epoch -/
theorem loop_hang (upper : Char → List Char) (L : List LfnEntry) (name : List Char) (isDir : Option Bool)
    (hnone : (L.find? fun e => matchesName upper e name) = none) (g0 : Names.Gen) (hw0 : Names.GenWF g0) :
    ∀ (fuel : Nat) (g : Names.Gen), Names.Reach g0 g → EpochInv upper L g0 g →
      loop upper L name isDir fuel g = .error .hang →
      ∃ m, fuel ≤ free g + 15 * m ∧
        ∀ c ∈ Names.chkSeq g.chksum m, ∀ i, 1 ≤ i → i ≤ 9 → Charged upper L g0 c i := by
  intro fuel
  induction fuel with
  | zero => intro g _ _ _; exact ⟨0, by omega, by simp [Names.chkSeq]⟩
  | succ fuel ih =>
    intro g r inv hl
    rw [loop_succ_notfound upper L name isDir hnone] at hl
    have rh : Names.Reach g0 (Names.addAll g (L.map fun e => sfnName e.sfn)) := r.addAll _
    have sh := Names.addAll_same g (L.map fun e => sfnName e.sfn)
    have hwh : Names.GenWF (Names.addAll g (L.map fun e => sfnName e.sfn)) := rh.wf hw0
    have hfree := free_mono (Names.addAll_mono g (L.map fun e => sfnName e.sfn))
    -- the invariant after the scan
    have invh : EpochInv upper L g0 (Names.addAll g (L.map fun e => sfnName e.sfn)) := by
      intro i hi
      rw [sh.2]
      rcases (addAll_testBit g _ i).1 hi with h | ⟨x, hx, hk⟩
      · exact inv i h
      · exact ⟨x, Or.inl hx, (Names.shortKey_static r.static _ x).symm.trans hk⟩
    cases hg : Names.generate (Names.addAll g (L.map fun e => sfnName e.sfn)) with
    | ok a =>
      rw [hg] at hl
      simp only at hl
      by_cases hd : displayAscii a = true
      · rw [if_pos hd] at hl
        cases hk : lookupNoGen upper L (Names.aliasDisplay a) with
        | none => rw [hk] at hl; cases hl
        | some e =>
          rw [hk] at hl
          have hmem : e ∈ L := List.mem_of_find?_eq_some hk
          have hmatch : matchesName upper e (Names.aliasDisplay a) = true :=
            List.find?_some (p := fun e => matchesName upper e (Names.aliasDisplay a)) hk
          have hblocked : Blocked upper L a := ⟨e, hmem, hmatch⟩
          have hcanon : Canon a := generate_canon hwh hg
          have s1 := Names.addExisting_same (Names.addAll g (L.map fun e => sfnName e.sfn)) a
          have inv1 : EpochInv upper L g0 (Names.addExisting (Names.addAll g (L.map fun e => sfnName e.sfn)) a) := by
            intro i hi
            rw [s1.2]
            rcases (addExisting_testBit _ a i).1 hi with h | hk'
            · exact invh i h
            · exact ⟨a, Or.inr ⟨hcanon, hblocked⟩, (Names.shortKey_static rh.static _ a).symm.trans hk'⟩
          obtain ⟨m, hm1, hm2⟩ := ih _ (Names.Reach.add a rh) inv1 hl
          have hdrop := free_continue hwh hg
          refine ⟨m, by omega, ?_⟩
          rw [s1.2, sh.2] at hm2
          exact hm2
      · rw [if_neg hd] at hl; cases hl
    | error x =>
      rw [hg] at hl
      simp only at hl
      have hbits := Names.generate_error_bits hg
      have inv2 : EpochInv upper L g0 (Names.nextIteration (Names.addAll g (L.map fun e => sfnName e.sfn))) := by
        intro i hi
        simp [Names.nextIteration] at hi
      obtain ⟨m, hm1, hm2⟩ := ih _ (Names.Reach.next rh) inv2 hl
      have hf2 := free_le (Names.nextIteration (Names.addAll g (L.map fun e => sfnName e.sfn)))
      refine ⟨m + 1, by omega, ?_⟩
      intro c hc i h1 h9
      simp only [Names.chkSeq, List.mem_cons] at hc
      rcases hc with rfl | hc
      · have := invh i (hbits i h1 h9)
        rwa [sh.2] at this
      · have hck : (Names.nextIteration (Names.addAll g (L.map fun e => sfnName e.sfn))).chksum =
            (g.chksum + 1) % 65536 := by simp only [Names.nextIteration, sh.2]
        rw [hck] at hm2
        exact hm2 c hc i h1 h9

end DirAlias
end FatVerif
