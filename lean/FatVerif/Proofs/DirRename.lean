import FatVerif.Proofs.DirWriteKinds
import FatVerif.Proofs.FileSimFatAlloc
/-! Directory WRITES: `rename_internal(src, dst_dir, dst)` with a free destination name, through writable directories
    (`WView`): `find_entry` in the source → for a directory the ancestor walk from the destination (it must not be moved
    into its own subtree) → `check_for_existence` in the destination → `write_entry(dst, renamed record)` there →
    `deleteEntry(old entry)` in the source → for a directory its `..` entry is pointed at the new parent (raw 32-byte
    write of the record if the cluster changes; nothing if it stays). -/
namespace FatVerif.DirSim
open FatVerif.FileSim FatVerif.Fat DirEntryData DirAlias

/-! ### the ancestor walk -/

/-- the climb from the directory `anc` (at depth `depth`) to a root in `n` steps: every directory on the way is readable
    (`DirView`), is not the directory `target`, and (unless it is a root) lists a directory `..`, whose stream is the
    next one; the depth stays within the number of clusters -/
inductive Climbs (d : Dev) (env : Env) (target : Option Nat) : DirStream → Nat → Nat → Prop
  | top {anc : DirStream} {depth : Nat} (V : DirView d anc) (hne : (anc.firstCluster == target) = false)
      (hroot : anc.isRootDir = true) : Climbs d env target anc depth 0
  | up {anc : DirStream} {depth n : Nat} {e : DirEntry} (V : DirView d anc)
      (hne : (anc.firstCluster == target) = false) (hnr : anc.isRootDir = false)
      (hdepth : depth + 1 ≤ d.fs.totalClusters) (hl : V.lookup env ".." (some true) = .ok e)
      (hr : Climbs d env target (DirEntry.dirStream d.fs e) (depth + 1) n) : Climbs d env target anc depth (n + 1)

theorem Reads.drop {st : DirStream} {d : Dev} (h : ∀ d1, SameVol d d1 → Reads st.dropBody d1 ()) : Reads st.drop d () :=
  Reads.finallyDrop (Reads.pure () d) h

theorem splitPath_dotdot : Names.splitPath ".." = ("..", none) := by decide +kernel

/-- **the ancestor walk** succeeds along a climb, keeping the volume -/
theorem ancestorWalk_sim {d : Dev} {env : Env} {target : Option Nat} : ∀ {anc : DirStream} {depth n : Nat},
    Climbs d env target anc depth n → ∀ fuel, n < fuel → ∀ d1, SameVol d d1 →
    Reads (ancestorWalk env target fuel anc depth) d1 () := by
  intro anc depth n h
  induction h with
  | @top anc depth V hne hroot =>
    intro fuel hf d1 hv
    obtain ⟨k, rfl⟩ : ∃ k, fuel = k + 1 := ⟨fuel - 1, by omega⟩
    unfold ancestorWalk
    refine Reads.bind (Reads.getFs d1) (fun d2 hs2 => ?_)
    simp only [hne, hroot, Bool.false_eq_true, if_false, if_true]
    exact Reads.drop (fun d3 hs3 => V.drop_sim d3 ((hv.trans hs2).trans hs3))
  | @up anc depth n e V hne hnr hdepth hl hr ih =>
    intro fuel hf d1 hv
    obtain ⟨k, rfl⟩ : ∃ k, fuel = k + 1 := ⟨fuel - 1, by omega⟩
    unfold ancestorWalk
    refine Reads.bind (Reads.getFs d1) (fun d2 hs2 => ?_)
    rw [hv.fs]
    have hd : ¬ (depth + 1 > d.fs.totalClusters) := by omega
    simp only [hne, hnr, hd, Bool.false_eq_true, if_false]
    have hv2 := hv.trans hs2
    have hopen : Reads (openDir env 4 anc "..") d2 (DirEntry.dirStream d.fs e) :=
      openDir_sim (ResolvesTo.last (fuel := 3) splitPath_dotdot V hl) d2 hv2
    refine Reads.bind (Reads.finallyDrop hopen (fun d3 _ => Reads.pure () d3)) (fun d3 hs3 => ?_)
    refine Reads.bind (Reads.drop (fun d4 hs4 => V.drop_sim d4 ((hv2.trans hs3).trans hs4))) (fun d4 hs4 => ?_)
    exact ih k (by omega) d4 ((hv2.trans hs3).trans hs4)

/-- `ancestorWalkTop` along a climb of fewer than `total_clusters + 3` steps -/
theorem ancestorWalkTop_sim {d : Dev} {env : Env} {target : Option Nat} {dst : DirStream} {n : Nat}
    (h : Climbs d env target dst 0 n) (hn : n < d.fs.totalClusters + 3) (d1 : Dev) (hv : SameVol d d1) :
    Reads (ancestorWalkTop env target dst) d1 () := by
  unfold ancestorWalkTop
  refine Reads.bind (Reads.getFs d1) (fun d2 hs2 => ?_)
  rw [hv.fs]
  exact ancestorWalk_sim h _ hn d2 (hv.trans hs2)

/-! ### the `..` entry of a moved directory -/

/-- the tail of `rename_internal` after the old slots are deleted (same text as in `Model/DirOps.lean`) -/
def fixDotDot (env : Env) (fs : FsState) (dst : DirStream) (newEntry : DirEntry) : Prog Unit :=
  if newEntry.isDir then do
    let parentCluster := if dst.isRootDir then none else dst.firstCluster
    let moved ← newEntry.toDir fs
    let dotdot ← thenDrop moved (findEntry env moved ".." (some true))
    let ed := dotdot.editor.setFirstCluster parentCluster fs.fatType
    if ed.dirty then do
      let _ ← Prog.seekStart ed.pos
      let _ ← writeChunks devStrm () (chunksOf ed.data.serialize FileH.entryChunkSizes)
      pure ()
    else pure ()
  else pure ()

theorem fixDotDot_file (env : Env) (fs : FsState) (dst : DirStream) (newEntry : DirEntry) (h : newEntry.isDir = false)
    (d : Dev) : run (fixDotDot env fs dst newEntry) d = (.ok (), d) := by
  unfold fixDotDot; rw [h]; rfl

/-- the `..` entry already names the (new) parent: only reads -/
theorem fixDotDot_same (env : Env) (fs : FsState) (dst : DirStream) (newEntry : DirEntry) (hdir : newEntry.isDir = true)
    {d0 : Dev} (Vm : DirView d0 (DirEntry.dirStream fs newEntry)) (dde : DirEntry)
    (hlk : Vm.lookup env ".." (some true) = .ok dde)
    (hsame : dde.data.firstCluster fs.fatType = (if dst.isRootDir then none else dst.firstCluster))
    (d : Dev) (hv : SameVol d0 d) : Reads (fixDotDot env fs dst newEntry) d () := by
  unfold fixDotDot
  rw [hdir]
  simp only [if_true]
  refine Reads.bind (toDir_sim fs newEntry hdir d) (fun d1 hs1 => ?_)
  have hf := Vm.findEntry_sim env ".." (some true) d1 (hv.trans hs1)
  rw [hlk] at hf
  refine Reads.bind (Reads.thenDrop hf (fun d2 hs2 => Vm.drop_sim d2 ((hv.trans hs1).trans hs2))) (fun d2 _ => ?_)
  have hclean : (dde.editor.setFirstCluster (if dst.isRootDir then none else dst.firstCluster) fs.fatType).dirty = false := by
    unfold DirEntryEditor.setFirstCluster
    rw [if_neg (by
      show ¬ ((if dst.isRootDir then none else dst.firstCluster) ≠ dde.data.firstCluster fs.fatType)
      rw [hsame]; exact fun h => h rfl)]
    rfl
  simp only [id, hclean, Bool.false_eq_true, if_false]
  exact Reads.pure () d2

/-- the parent changes: the record of `..` with the new cluster is written raw at its position (the volume is marked
    dirty already: `write_entry` and `deleteEntry` came before) -/
theorem fixDotDot_move (env : Env) (fs : FsState) (dst : DirStream) (newEntry : DirEntry) (hdir : newEntry.isDir = true)
    {d : Dev} (Vm : DirView d (DirEntry.dirStream fs newEntry)) (dde : DirEntry)
    (hlk : Vm.lookup env ".." (some true) = .ok dde)
    (hne : (if dst.isRootDir then none else dst.firstCluster) ≠ dde.data.firstCluster fs.fatType)
    (hname : dde.data.name.length = 11) (hfa : d.failAt = none) (hd : d.fs.curDirty = true)
    (hin : dde.entryPos + 32 ≤ d.img.size) :
    ∃ d', run (fixDotDot env fs dst newEntry) d = (.ok (), d') ∧ WritesTo d d' dde.entryPos
        (dde.data.setFirstCluster (if dst.isRootDir then none else dst.firstCluster) fs.fatType).serialize := by
  obtain ⟨d1, h1, hs1⟩ := toDir_sim fs newEntry hdir d
  have hf := Vm.findEntry_sim env ".." (some true) d1 hs1
  rw [hlk] at hf
  obtain ⟨d2, h2, hs2⟩ := Reads.thenDrop hf (fun d2 hs2 => Vm.drop_sim d2 (hs1.trans hs2))
  have hv2 : SameVol d d2 := hs1.trans hs2
  generalize hpc : (if dst.isRootDir then none else dst.firstCluster) = pc at hne ⊢
  have hed : dde.editor.setFirstCluster pc fs.fatType =
      { dde.editor with data := dde.data.setFirstCluster pc fs.fatType, dirty := true } := by
    unfold DirEntryEditor.setFirstCluster
    exact if_pos hne
  obtain ⟨d3, h3, hs3, hfs3, hb3⟩ := run_writeRecord (dde.data.setFirstCluster pc fs.fatType) hname dde.entryPos d2
    (by rw [hv2.failAt]; exact hfa) (by rw [hv2.img]; exact hin)
  have hc2 : d2.clock = d.clock := (run_clock _ _ _ _ h2).trans (run_clock _ _ _ _ h1)
  have hd3 : d3.fs.curDirty = true := by rw [hfs3, hv2.fs]; exact hd
  refine ⟨d3, ?_, ⟨⟨hs3.failAt.trans hv2.failAt, hs3.size.trans (congrArg Img.size hv2.img),
    fun hw => hs3.wf (by rw [hv2.img]; exact hw), by have := hs3.geom; rwa [hv2.fs] at this, hs3.clock.trans hc2⟩,
    fun _ => hd3, fun _ => hd3, fun hw q _ => by rw [hb3 (by rw [hv2.img]; exact hw) q, hv2.img], by rw [hfs3, hv2.fs]⟩⟩
  unfold fixDotDot
  rw [hdir]
  simp only [if_true]
  rw [run_bind_ok h1, run_bind_ok h2]
  simp only [id, hpc, hed, if_true]
  exact h3 _

/-- a chain directory read through another clean editor, on a later device with the same FAT -/
theorem ChainDir.reEdit {d d' : Dev} {c0 : Nat} {ed : DirEntryEditor} {chain : List Nat}
    (C : ChainDir d (FileH.new (some c0) (some ed)) c0 chain) (hs : VolStep d d')
    (htv : tabView d'.fs d'.img = tabView d.fs d.img) (ed' : DirEntryEditor) (hclean : ed'.dirty = false)
    (hsz : ed'.data.size? = none) : ChainDir d' (FileH.new (some c0) (some ed')) c0 chain := by
  have C' := C.of_tabView hs htv
  refine ⟨C'.failAt, C'.geo, rfl, C'.link, C'.inTab, hsz, ?_, ?_, C'.cs32, C'.u32⟩
  · rcases C'.noacc with h | h
    · exact Or.inl h
    · cases h
  · intro e he
    cases he
    exact hclean

/-- the read view of that directory -/
def movedView {d' : Dev} {c0 : Nat} {ed' : DirEntryEditor} {chain : List Nat}
    (C' : ChainDir d' (FileH.new (some c0) (some ed')) c0 chain)
    (hfuel : chain.length * (d'.fs.clusterSize / 32) < dirFuel d'.fs) : DirView d' (.file (FileH.new (some c0) (some ed'))) :=
  ⟨chainS (FileH.new (some c0) (some ed')) chain d'.fs.clusterSize, chain.length * (d'.fs.clusterSize / 32),
    chainSrc d'.fs chain, chainRoom d'.fs chain, rfl, C'.dirSrc, hfuel⟩

theorem renamed_firstCluster (e : DirFileEntryData) (a : List Nat) (ft : FatType) :
    (e.renamed a).firstCluster ft = e.firstCluster ft := rfl

theorem renamed_isDir (e : DirFileEntryData) (a : List Nat) : (e.renamed a).isDir = e.isDir := rfl

theorem isDir_size? (e : DirFileEntryData) (h : e.isDir = true) : e.size? = none := by
  unfold DirFileEntryData.size? DirFileEntryData.isFile
  rw [h]; rfl

/-- the moved directory (first cluster `c0`, chain `mchain`) on a later device with the same FAT and the same slots: it
    is readable through the new entry and lists the same `..` -/
theorem moved_view {d d4 : Dev} (env : Env) {c0 : Nat} {mchain : List Nat} {ed : DirEntryEditor}
    (hC : ChainDir d (FileH.new (some c0) (some ed)) c0 mchain)
    (hfuelm : mchain.length * (d.fs.clusterSize / 32) < dirFuel d.fs) (hvs4 : VolStep d d4)
    (htv4 : tabView d4.fs d4.img = tabView d.fs d.img)
    (hmslots : srcSlots d4.img (chainSrc d.fs mchain) (mchain.length * (d.fs.clusterSize / 32)) =
      srcSlots d.img (chainSrc d.fs mchain) (mchain.length * (d.fs.clusterSize / 32)))
    (newE : DirEntry) (hnewdir : newE.isDir = true) (hnewfc : newE.firstCluster d.fs = some c0) (ldd : LfnEntry)
    (hldd : lookupL env.upper "..".toList (some true) (readDirEntries d.fs.lfnAlloc true
      (srcSlots d.img (chainSrc d.fs mchain) (mchain.length * (d.fs.clusterSize / 32)))) = .ok ldd) :
    ∃ Vm : DirView d4 (DirEntry.dirStream d.fs newE),
      Vm.lookup env ".." (some true) = .ok (toDirEntryS (chainSrc d.fs mchain) ldd) := by
  have hds := DirEntry.dirStream_of_cluster d.fs newE c0 hnewfc
  have hg4 := hvs4.geom
  rw [hds]
  refine ⟨movedView (hC.reEdit hvs4 htv4 newE.editor rfl (isDir_size? _ hnewdir))
    (by rw [hg4.clusterSize, dirFuel_geom hg4]; exact hfuelm), ?_⟩
  show (lookupL env.upper "..".toList (some true) (readDirEntries d4.fs.lfnAlloc true
    (srcSlots d4.img (chainSrc d4.fs mchain) (mchain.length * (d4.fs.clusterSize / 32))))).map
      (toDirEntryS (chainSrc d4.fs mchain)) = _
  have hla : d4.fs.lfnAlloc = d.fs.lfnAlloc := by
    have := hg4; unfold FsGeomEq at this; rw [this]
  rw [chainSrc_geom hg4, hg4.clusterSize, hla, hmslots, hldd]
  rfl

namespace WView
variable {d : Dev} {st1 st2 : DirStream}

/-- **the request `rename_internal(src, srcName, dst, dstName)`** between the writable directories `V1` (source) and `V2`
    (destination, possibly the same): ordinary names, `dstName` valid and free (`check_for_existence` chooses the alias
    `a`), `srcName` finds the listed entry `le`, and the new entry fits into the allocated slots of the destination -/
structure RenameReq (V1 : WView d st1) (V2 : WView d st2) (env : Env) (srcName dstName : String) (le : LfnEntry)
    (a : List Nat) : Prop where
  dots : (srcName = "." || srcName = ".." || dstName = "." || dstName = "..") = false
  valid : Names.validateLongName dstName = .ok ()
  lfnAlloc : d.fs.lfnAlloc = true
  found : lookupL env.upper srcName.toList none (readDirEntries d.fs.lfnAlloc true (V1.slots d.img)) = .ok le
  check : DirAlias.checkForExistenceL env.upper (V2.slots d.img) dstName none 70000 = .ok (.alias a)
  fit : DirSlots.findFree (V2.slots d.img) (Lfn.numParts (Names.encodeUtf16 dstName.toList).length + 1) +
    (Lfn.numParts (Names.encodeUtf16 dstName.toList).length + 1) ≤ V2.N

/-- **`rename_internal` between two writable directories (possibly the same) up to the `..` fix**: the entry `le` of
    the source is a file, or a directory for which the climb from the destination succeeds. `dm`: after the new entry
    (long name of `dstName`, the old record under the alias `a` chosen by `check_for_existence`) is written in the
    destination; `d4`: after the old slots are deleted in the source; what remains to run is `fixDotDot` on the new
    entry. Each step is described relative to the device before it — the two directories may be parent and child, in
    which case the destructor of one touches a slot of the other (its own entry: `Extra`, `MidImg`).
    `hkeep1`: the invariant of the source survives the write into the destination -/
theorem rename_core (V1 : WView d st1) (V2 : WView d st2) {env : Env} {srcName dstName : String} {le : LfnEntry}
    {a : List Nat} (R : V1.RenameReq V2 env srcName dstName le a)
    (hkind : Lfn.isDir le.sfn = false ∨
      ∃ n, Climbs d env ((toDirEntryS V1.src le).firstCluster d.fs) st2 0 n ∧ n < d.fs.totalClusters + 3)
    (hkeep1 : ∀ d2 d3, SameVol d d2 → V1.Inv d2 → V2.Inv d3 → VolStep d2 d3 → d3.clock = d2.clock →
      FrameOutE V2.N V2.src V2.Extra d2 d3 → V1.Inv d3) :
    ∃ (dm d4 : Dev) (newE : DirEntry),
      run (renameInternal env st1 srcName st2 dstName) d = run (fixDotDot env d.fs st2 newE) d4 ∧
      newE.data = (toDirEntryS V1.src le).data.renamed a ∧ dm.clock = d.clock ∧ d4.clock = d.clock ∧
      V2.Wrote d dm (DirSlots.writeEntry (V2.slots d.img) (Names.encodeUtf16 dstName.toList)
        ((toDirEntryS V1.src le).data.renamed a).serialize) ∧
      V1.Wrote dm d4 (DirSlots.deleteRange (V1.slots dm.img) le.beginIdx le.endIdx) := by
  have ⟨hdots, hval, ha, hl, hchk, hfit⟩ := R
  obtain ⟨hmem, _, _⟩ := lookupL_ok _ _ _ _ _ hl
  obtain ⟨hslotok, hsfn32, hsfnlt, hnotlfn, hlt, hle⟩ := V1.listed le hmem
  -- 1. find_entry in the source
  have hfe := V1.toDirView.findEntry_sim env srcName none d (SameVol.refl d)
  rw [V1.lookup_ok env srcName none le hl] at hfe
  obtain ⟨d1, h1, hs1⟩ := hfe
  have hisdir : (toDirEntryS V1.src le).isDir = Lfn.isDir le.sfn := toDirEntryS_isDir V1.src le
  -- 2. the ancestor walk (directories only)
  obtain ⟨d1', hs1', hcl1', hwalk⟩ : ∃ d1', SameVol d1 d1' ∧ d1'.clock = d1.clock ∧ ∀ k : Prog Unit,
      run (if (toDirEntryS V1.src le).isDir = true then
        (ancestorWalkTop env ((toDirEntryS V1.src le).firstCluster d.fs) st2 >>= fun _ => k) else k) d1 = run k d1' := by
    cases hd : (toDirEntryS V1.src le).isDir with
    | false => exact ⟨d1, SameVol.refl d1, rfl, fun k => by simp⟩
    | true =>
      rcases hkind with hf | ⟨n, hclimb, hn⟩
      · rw [hisdir, hf] at hd; cases hd
      · obtain ⟨d1', h1', hs1'⟩ := ancestorWalkTop_sim hclimb hn d1 hs1
        exact ⟨d1', hs1', run_clock _ _ _ _ h1', fun k => by simp only [if_true]; exact run_bind_ok h1'⟩
  have hv01 := hs1.trans hs1'
  have hc1 : d1'.clock = d.clock := hcl1'.trans (run_clock _ _ _ _ h1)
  -- 3. check_for_existence in the destination
  have hce := (V2.ops.dsrc d V2.here).checkForExistence_sim (V2.ops.fuel d V2.here) ha env dstName none d1' hv01
  rw [show srcSlots d.img V2.src V2.N = V2.slots d.img from rfl, hchk] at hce
  obtain ⟨d2, h2, hs2⟩ := hce
  have hc2 : d2.clock = d.clock := (run_clock _ _ _ _ h2).trans hc1
  have hv02 := hv01.trans hs2
  have hinv2 : V2.Inv d2 := V2.io.vol d d2 V2.here hv02 hc2
  -- 4. write_entry of the renamed record in the destination
  obtain ⟨hcan, hl11, _⟩ := C16dir.dir_alias_canon env.upper (V2.slots d.img) dstName none 70000 a hchk
  have hrawwf : ((toDirEntryS V1.src le).data.renamed a).WF :=
    (deserializeFile_wf le.sfn hsfn32 hsfnlt).renamed a hl11 (canon_lt hcan)
  have hlfn : attrsIsLfn ((toDirEntryS V1.src le).data.renamed a).attrs = false := by
    show attrsIsLfn (attrsTruncate (DirEntryData.u8At le.sfn 11)) = false
    rw [deser_lfn le.sfn]
    exact hnotlfn
  have hdotd : (dstName = "." || dstName = "..") = false := by
    simp only [Bool.or_eq_false_iff] at hdots ⊢
    exact ⟨hdots.1.2, hdots.2⟩
  have hsl2 : V2.slots d2.img = V2.slots d.img := by unfold WView.slots; rw [hv02.img]
  obtain ⟨d3, h3, w3⟩ := V2.writeEntry_sim d2 hinv2 dstName _ hval hdotd hrawwf hlfn (by rw [hsl2]; exact hfit)
  rw [hsl2] at h3 w3
  have hc3 : d3.clock = d2.clock := run_clock _ _ _ _ h3
  -- 5. deleteEntry of the old entry in the source
  obtain ⟨d4, h4, w4⟩ := V1.deleteEntry_sim d3
    (hkeep1 d2 d3 hv02 (V1.io.vol d d2 V1.here hv02 hc2) w3.inv w3.vol hc3 w3.frame) le hmem
  have hnd := congrArg DirEntry.data (writeEntry_result V2.src _ hrawwf hlfn (Names.encodeUtf16 dstName.toList)
    (DirSlots.findFree (V2.slots d.img) (Lfn.numParts (Names.encodeUtf16 dstName.toList).length + 1))
    (Lfn.numParts (Names.encodeUtf16 dstName.toList).length + 1)).symm
  refine ⟨d3, d4, _, ?_, hnd, hc3.trans hc2, (run_clock _ _ _ _ h4).trans (hc3.trans hc2), w3.of_reads hv02, w4⟩
  unfold renameInternal
  rw [if_neg (by rw [hdots]; decide)]
  rw [run_bind_ok (run_getFs d), run_bind_ok h1]
  simp only [id, liftE, hval]
  rw [run_bind_ok (rfl : run (pure () : Prog Unit) d1 = (.ok (), d1))]
  refine (hwalk _).trans ?_
  have h2' : run (checkForExistence env st2 dstName none) d1' = (.ok (liftEOA V2.src (.alias a)), d2) :=
    (congrArg (fun s => run (checkForExistence env s dstName none) d1') V2.start).trans h2
  rw [run_bind_ok h2']
  simp only [liftEOA]
  rw [run_bind_ok h3, run_bind_ok h4]
  rfl

/-- the new entry of a renamed file is a file: nothing remains to be done -/
theorem renamed_file_isDir (V : WView d st1) (le : LfnEntry) (hfile : Lfn.isDir le.sfn = false) (a : List Nat)
    {newE : DirEntry} (hnd : newE.data = (toDirEntryS V.src le).data.renamed a) : newE.isDir = false := by
  unfold DirEntry.isDir
  rw [hnd, renamed_isDir]
  exact (toDirEntryS_isDir V.src le).trans hfile

/-- **`rename_internal` of a file between two directories** (`V1` source, `V2` destination, both writable on `d`).
    The new entry is written in the destination first (device `dm`), then the slots of the old entry are marked deleted
    in the source. Each step is described relative to the device before it — the two directories may be parent and
    child, in which case the destructor of one touches a slot of the other (its own entry: `Extra`, `MidImg`).
    `hkeep1`: the invariant of the source survives a write that keeps the FAT (`*.of_volStep`). -/
theorem rename_file_across_sim (V1 : WView d st1) (V2 : WView d st2) {env : Env} {srcName dstName : String}
    {le : LfnEntry} {a : List Nat} (R : V1.RenameReq V2 env srcName dstName le a) (hgeo : Geo d.fs d.img.size)
    (hfile : Lfn.isDir le.sfn = false)
    (hkeep1 : ∀ d2 d3, V1.Inv d2 → VolStep d2 d3 → d3.clock = d2.clock →
      tabView d3.fs d3.img = tabView d2.fs d2.img → V1.Inv d3)
    (hbehind2 : ∀ j, j < V2.N → (fatSliceOf d.fs).beginOff + (fatSliceOf d.fs).size ≤ V2.src (32 * j))
    (hextra2 : ∀ q, V2.Extra q → (fatSliceOf d.fs).beginOff + (fatSliceOf d.fs).size ≤ q) :
    ∃ dm d', run (renameInternal env st1 srcName st2 dstName) d = (.ok (), d') ∧
      dm.clock = d.clock ∧ d'.clock = d.clock ∧ tabView dm.fs dm.img = tabView d.fs d.img ∧
      V2.Wrote d dm (DirSlots.writeEntry (V2.slots d.img) (Names.encodeUtf16 dstName.toList)
        ((toDirEntryS V1.src le).data.renamed a).serialize) ∧
      V1.Wrote dm d' (DirSlots.deleteRange (V1.slots dm.img) le.beginIdx le.endIdx) := by
  obtain ⟨hmem, _, _⟩ := lookupL_ok _ _ _ _ _ R.found
  obtain ⟨dm, d4, newE, hrun, hnd, hcm, hc4, w2, w1⟩ := V1.rename_core V2 R (Or.inl hfile)
      (fun d2 d3 hv h1 _ hs hc hf => hkeep1 d2 d3 h1 hs hc
        (tabView_of_frameE hgeo (VolStep.of_sameVol hv) hs hf hbehind2 hextra2))
  exact ⟨dm, d4, hrun.trans (fixDotDot_file env d.fs st2 newE (V1.renamed_file_isDir le hfile a hnd) d4), hcm, hc4,
    tabView_of_frameE hgeo (VolStep.of_sameVol (SameVol.refl d)) w2.vol w2.frame hbehind2 hextra2, w2, w1⟩

/-- **`rename_internal` of a file between two directories that lie apart** (neither is the parent of the other: the
    slots of each are disjoint from the slots and the own entry of the other): afterwards the source has the old entry
    deleted, the destination has the new entry, the FAT is unchanged -/
theorem rename_file_apart_sim (V1 : WView d st1) (V2 : WView d st2) (env : Env) (srcName dstName : String)
    (hdots : (srcName = "." || srcName = ".." || dstName = "." || dstName = "..") = false)
    (hval : Names.validateLongName dstName = .ok ()) (ha : d.fs.lfnAlloc = true) (hgeo : Geo d.fs d.img.size)
    (le : LfnEntry)
    (hl : lookupL env.upper srcName.toList none (readDirEntries d.fs.lfnAlloc true (V1.slots d.img)) = .ok le)
    (hfile : Lfn.isDir le.sfn = false) (a : List Nat)
    (hchk : DirAlias.checkForExistenceL env.upper (V2.slots d.img) dstName none 70000 = .ok (.alias a))
    (hfit : DirSlots.findFree (V2.slots d.img) (Lfn.numParts (Names.encodeUtf16 dstName.toList).length + 1) +
      (Lfn.numParts (Names.encodeUtf16 dstName.toList).length + 1) ≤ V2.N)
    (hkeep1 : ∀ d2 d3, V1.Inv d2 → VolStep d2 d3 → d3.clock = d2.clock →
      tabView d3.fs d3.img = tabView d2.fs d2.img → V1.Inv d3)
    (hkeep2 : ∀ d2 d3, V2.Inv d2 → VolStep d2 d3 → d3.clock = d2.clock →
      tabView d3.fs d3.img = tabView d2.fs d2.img → V2.Inv d3)
    (hbehind1 : ∀ j, j < V1.N → (fatSliceOf d.fs).beginOff + (fatSliceOf d.fs).size ≤ V1.src (32 * j))
    (hextra1 : ∀ q, V1.Extra q → (fatSliceOf d.fs).beginOff + (fatSliceOf d.fs).size ≤ q)
    (hbehind2 : ∀ j, j < V2.N → (fatSliceOf d.fs).beginOff + (fatSliceOf d.fs).size ≤ V2.src (32 * j))
    (hextra2 : ∀ q, V2.Extra q → (fatSliceOf d.fs).beginOff + (fatSliceOf d.fs).size ≤ q)
    (h12 : ∀ i, i < V1.N → ∀ x, x < 32 → ¬ V2.Extra (V1.src (32 * i) + x) ∧
      ∀ j, j < V2.N → ¬ (V2.src (32 * j) ≤ V1.src (32 * i) + x ∧ V1.src (32 * i) + x < V2.src (32 * j) + 32))
    (h21 : ∀ i, i < V2.N → ∀ x, x < 32 → ¬ V1.Extra (V2.src (32 * i) + x) ∧
      ∀ j, j < V1.N → ¬ (V1.src (32 * j) ≤ V2.src (32 * i) + x ∧ V2.src (32 * i) + x < V1.src (32 * j) + 32)) :
    ∃ d', run (renameInternal env st1 srcName st2 dstName) d = (.ok (), d') ∧
      VolStep d d' ∧ d'.fs.curDirty = true ∧ V1.Inv d' ∧ V2.Inv d' ∧
      V1.slots d'.img = DirSlots.deleteRange (V1.slots d.img) le.beginIdx le.endIdx ∧
      V2.slots d'.img = DirSlots.writeEntry (V2.slots d.img) (Names.encodeUtf16 dstName.toList)
        ((toDirEntryS V1.src le).data.renamed a).serialize ∧
      tabView d'.fs d'.img = tabView d.fs d.img := by
  obtain ⟨dm, d', hr, hcm, hc', htv, ⟨hs1, _, hinv2, (hsl2 : V2.slots dm.img = _), hfr2, _⟩, hs2, hd, hinv1,
    (hsl1 : V1.slots d'.img = _), hfr1, _⟩ :=
    V1.rename_file_across_sim V2 ⟨hdots, hval, ha, hl, hchk, hfit⟩ hgeo hfile hkeep1 hbehind2 hextra2
  have htv' := tabView_of_frameE hgeo hs1 hs2 hfr1 hbehind1 hextra1
  have e1 : V1.slots dm.img = V1.slots d.img := V1.slots_of_frameE hfr2 h12
  have e2 : V2.slots d'.img = V2.slots dm.img := V2.slots_of_frameE hfr1 h21
  exact ⟨d', hr, hs1.trans hs2, hd, hinv1, hkeep2 dm d' hinv2 hs2 (hc'.trans hcm.symm) htv', by rw [hsl1, e1],
    by rw [e2, hsl2], by rw [htv', htv]⟩

/-- **`rename_internal` of a directory between two directories that lie apart**, the destination not inside the moved
    directory (`hclimb`: the ancestor walk from the destination reaches the root without meeting it) and the parent
    really changing (`hmove`): as for a file, and the `..` entry `ldd` of the moved directory `mchain`, which lies apart
    from both (`hm1`, `hm2`), gets the destination's first cluster -/
theorem rename_dir_apart_sim (V1 : WView d st1) (V2 : WView d st2) (env : Env) (srcName dstName : String)
    (hdots : (srcName = "." || srcName = ".." || dstName = "." || dstName = "..") = false)
    (hval : Names.validateLongName dstName = .ok ()) (ha : d.fs.lfnAlloc = true) (hgeo : Geo d.fs d.img.size)
    (le : LfnEntry)
    (hl : lookupL env.upper srcName.toList none (readDirEntries d.fs.lfnAlloc true (V1.slots d.img)) = .ok le)
    (hdir : Lfn.isDir le.sfn = true) (n : Nat)
    (hclimb : Climbs d env ((toDirEntryS V1.src le).firstCluster d.fs) st2 0 n) (hn : n < d.fs.totalClusters + 3)
    (a : List Nat)
    (hchk : DirAlias.checkForExistenceL env.upper (V2.slots d.img) dstName none 70000 = .ok (.alias a))
    (hfit : DirSlots.findFree (V2.slots d.img) (Lfn.numParts (Names.encodeUtf16 dstName.toList).length + 1) +
      (Lfn.numParts (Names.encodeUtf16 dstName.toList).length + 1) ≤ V2.N)
    (hkeep1 : ∀ d2 d3, V1.Inv d2 → VolStep d2 d3 → d3.clock = d2.clock →
      tabView d3.fs d3.img = tabView d2.fs d2.img → V1.Inv d3)
    (hkeep2 : ∀ d2 d3, V2.Inv d2 → VolStep d2 d3 → d3.clock = d2.clock →
      tabView d3.fs d3.img = tabView d2.fs d2.img → V2.Inv d3)
    (hbehind1 : ∀ j, j < V1.N → (fatSliceOf d.fs).beginOff + (fatSliceOf d.fs).size ≤ V1.src (32 * j))
    (hextra1 : ∀ q, V1.Extra q → (fatSliceOf d.fs).beginOff + (fatSliceOf d.fs).size ≤ q)
    (hbehind2 : ∀ j, j < V2.N → (fatSliceOf d.fs).beginOff + (fatSliceOf d.fs).size ≤ V2.src (32 * j))
    (hextra2 : ∀ q, V2.Extra q → (fatSliceOf d.fs).beginOff + (fatSliceOf d.fs).size ≤ q)
    (h12 : ∀ i, i < V1.N → ∀ x, x < 32 → ¬ V2.Extra (V1.src (32 * i) + x) ∧
      ∀ j, j < V2.N → ¬ (V2.src (32 * j) ≤ V1.src (32 * i) + x ∧ V1.src (32 * i) + x < V2.src (32 * j) + 32))
    (h21 : ∀ i, i < V2.N → ∀ x, x < 32 → ¬ V1.Extra (V2.src (32 * i) + x) ∧
      ∀ j, j < V1.N → ¬ (V1.src (32 * j) ≤ V2.src (32 * i) + x ∧ V2.src (32 * i) + x < V1.src (32 * j) + 32))
    -- the moved directory
    (c0 : Nat) (hfc : (toDirEntryS V1.src le).firstCluster d.fs = some c0) (mchain : List Nat)
    (hC : ChainDir d (FileH.new (some c0) (some (toDirEntryS V1.src le).editor)) c0 mchain)
    (hfuelm : mchain.length * (d.fs.clusterSize / 32) < dirFuel d.fs)
    (hm1 : ∀ i, i < mchain.length * (d.fs.clusterSize / 32) → ∀ x, x < 32 →
      ¬ V1.Extra (chainSrc d.fs mchain (32 * i) + x) ∧
      ∀ j, j < V1.N → ¬ (V1.src (32 * j) ≤ chainSrc d.fs mchain (32 * i) + x ∧
        chainSrc d.fs mchain (32 * i) + x < V1.src (32 * j) + 32))
    (hm2 : ∀ i, i < mchain.length * (d.fs.clusterSize / 32) → ∀ x, x < 32 →
      ¬ V2.Extra (chainSrc d.fs mchain (32 * i) + x) ∧
      ∀ j, j < V2.N → ¬ (V2.src (32 * j) ≤ chainSrc d.fs mchain (32 * i) + x ∧
        chainSrc d.fs mchain (32 * i) + x < V2.src (32 * j) + 32))
    (ldd : LfnEntry)
    (hldd : lookupL env.upper "..".toList (some true) (readDirEntries d.fs.lfnAlloc true
      (srcSlots d.img (chainSrc d.fs mchain) (mchain.length * (d.fs.clusterSize / 32)))) = .ok ldd)
    (hmove : (if st2.isRootDir then none else st2.firstCluster) ≠
      (toDirEntryS (chainSrc d.fs mchain) ldd).data.firstCluster d.fs.fatType) :
    ∃ d', run (renameInternal env st1 srcName st2 dstName) d = (.ok (), d') ∧
      VolStep d d' ∧ d'.fs.curDirty = true ∧ V1.Inv d' ∧ V2.Inv d' ∧
      V1.slots d'.img = DirSlots.deleteRange (V1.slots d.img) le.beginIdx le.endIdx ∧
      V2.slots d'.img = DirSlots.writeEntry (V2.slots d.img) (Names.encodeUtf16 dstName.toList)
        ((toDirEntryS V1.src le).data.renamed a).serialize ∧
      srcSlots d'.img (chainSrc d.fs mchain) (mchain.length * (d.fs.clusterSize / 32)) =
        (srcSlots d.img (chainSrc d.fs mchain) (mchain.length * (d.fs.clusterSize / 32))).set (ldd.endIdx - 1)
          ((toDirEntryS (chainSrc d.fs mchain) ldd).data.setFirstCluster
            (if st2.isRootDir then none else st2.firstCluster) d.fs.fatType).serialize ∧
      tabView d'.fs d'.img = tabView d.fs d.img := by
  obtain ⟨hmem, _, _⟩ := lookupL_ok _ _ _ _ _ hl
  have hisdir : (toDirEntryS V1.src le).isDir = true := by
    rw [toDirEntryS_isDir V1.src le]; exact hdir
  obtain ⟨dm, d4, newE, hrun, hnd, hcm, hc4, ⟨hs1, _, hinv2m, (hsl2 : V2.slots dm.img = _), hfr2, _⟩, hs2, hd4, hinv1,
    (hsl1 : V1.slots d4.img = _), hfr1, _⟩ :=
    V1.rename_core V2 ⟨hdots, hval, ha, hl, hchk, hfit⟩ (Or.inr ⟨n, hclimb, hn⟩)
      (fun d2 d3 hv h1 _ hs hc hf => hkeep1 d2 d3 h1 hs hc
        (tabView_of_frameE hgeo (VolStep.of_sameVol hv) hs hf hbehind2 hextra2))
  have hvs4 : VolStep d d4 := hs1.trans hs2
  have hg4 := hvs4.geom
  -- the FAT and the slots of the two directories on `d4`
  have htvm := tabView_of_frameE hgeo (VolStep.of_sameVol (SameVol.refl d)) hs1 hfr2 hbehind2 hextra2
  have htv4 : tabView d4.fs d4.img = tabView d.fs d.img := by
    rw [tabView_of_frameE hgeo hs1 hs2 hfr1 hbehind1 hextra1, htvm]
  have hinv2 : V2.Inv d4 := hkeep2 dm d4 hinv2m hs2 (hc4.trans hcm.symm) (by rw [htv4, htvm])
  rw [show V1.slots dm.img = V1.slots d.img from V1.slots_of_frameE hfr2 h12] at hsl1
  rw [← show V2.slots d4.img = V2.slots dm.img from V2.slots_of_frameE hfr1 h21] at hsl2
  have hm42 : ∀ i x, 0x42 ≤ chainSrc d.fs mchain (32 * i) + x := fun i x => by
    have h1 := chainSrc_ge d.fs mchain (32 * i)
    have h2 := hgeo.fat_before_data
    omega
  -- the moved directory on `d4`
  have hmslots : srcSlots d4.img (chainSrc d.fs mchain) (mchain.length * (d.fs.clusterSize / 32)) =
      srcSlots d.img (chainSrc d.fs mchain) (mchain.length * (d.fs.clusterSize / 32)) := by
    rw [srcSlots_frameE hfr1 _ _ (fun i hi x hx => ⟨hm42 i x, hm1 i hi x hx⟩),
      srcSlots_frameE hfr2 _ _ (fun i hi x hx => ⟨hm42 i x, hm2 i hi x hx⟩)]
  have hnewdir : newE.isDir = true := by
    unfold DirEntry.isDir; rw [hnd, renamed_isDir]; exact hisdir
  obtain ⟨Vm, hVm⟩ := moved_view env hC hfuelm hvs4 htv4 hmslots newE hnewdir
    (by unfold DirEntry.firstCluster; rw [hnd, renamed_firstCluster]; exact hfc) ldd hldd
  -- the `..` entry: its record lies in slot `endIdx - 1` of the moved directory
  obtain ⟨hmemdd, _, _⟩ := lookupL_ok _ _ _ _ _ hldd
  obtain ⟨_, hsfn32, hsfnlt, _, hlt, hle⟩ := srcSlots_listed _ _ _ _ ldd hmemdd
  have hddwf : (toDirEntryS (chainSrc d.fs mchain) ldd).data.WF := deserializeFile_wf ldd.sfn hsfn32 hsfnlt
  have hidx : ldd.endIdx - 1 < mchain.length * (d.fs.clusterSize / 32) := by omega
  have hpos : (toDirEntryS (chainSrc d.fs mchain) ldd).entryPos = chainSrc d.fs mchain (32 * (ldd.endIdx - 1)) := by
    show chainSrc d.fs mchain (32 * ldd.endIdx - 32) = _
    congr 1; omega
  have hwf4 := hvs4.wf (V1.io.wf d V1.here)
  obtain ⟨d5, h5, hw5⟩ := fixDotDot_move env d.fs st2 newE hnewdir Vm _ hVm hmove hddwf.name_len
    (by rw [hvs4.failAt]; exact V1.io.noFault d V1.here) hd4 (by
      rw [hpos, hvs4.size]
      exact (chainSrc_inside hgeo hC.cs32 mchain hC.inTab _ hidx).2)
  rw [hpos] at hw5
  -- it is a write of one slot of the moved directory, apart from the two others
  have hlen := DirFileEntryData.serialize_length _ (hddwf.setFirstCluster
    (if st2.isRootDir then none else st2.firstCluster) d.fs.fatType).name_len
  obtain ⟨hsl5, hfr5⟩ := srcSlots_put hC.slotGeo hw5 hwf4 hidx hlen
    (DirFileEntryData.serialize_lt _ (hddwf.setFirstCluster _ _))
  have htv5 := hw5.tabView hwf4 (by rw [hvs4.size]; exact hgeo.frame hg4)
    (by rw [← chainSrc_geom hg4]; exact chainSrc_ge _ _ _)
  have e15 : V1.slots d5.img = V1.slots d4.img := V1.slots_of_frameE (Extra' := fun _ => False) hfr5.toE
    (fun i hi x hx => ⟨id, fun j hj hq => (hm1 j hj (V1.src (32 * i) + x - chainSrc d.fs mchain (32 * j)) (by omega)).2 i hi
      (by omega)⟩)
  have e25 : V2.slots d5.img = V2.slots d4.img := V2.slots_of_frameE (Extra' := fun _ => False) hfr5.toE
    (fun i hi x hx => ⟨id, fun j hj hq => (hm2 j hj (V2.src (32 * i) + x - chainSrc d.fs mchain (32 * j)) (by omega)).2 i hi
      (by omega)⟩)
  exact ⟨d5, hrun.trans h5, hvs4.trans (VolStep.of_devStep hw5.step), hw5.keep hd4,
    hkeep1 d4 d5 hinv1 (VolStep.of_devStep hw5.step) hw5.step.clock htv5,
    hkeep2 d4 d5 hinv2 (VolStep.of_devStep hw5.step) hw5.step.clock htv5, by rw [e15, hsl1], by rw [e25, hsl2],
    by rw [hsl5, hmslots], by rw [htv5, htv4]⟩

end WView

namespace WView
variable {d : Dev} {st : DirStream}

/-- **`rename_internal(src, self, dst)` of a file inside one directory**, destination name free and the new entry fits:
    the new entry (long name of `dstName`, the old record under the alias `a` chosen by `check_for_existence`) is
    written first, then the slots of the old entry are marked deleted -/
theorem rename_file_sim (V : WView d st) (env : Env) (srcName dstName : String)
    (hdots : (srcName = "." || srcName = ".." || dstName = "." || dstName = "..") = false)
    (hval : Names.validateLongName dstName = .ok ()) (ha : d.fs.lfnAlloc = true) (le : LfnEntry)
    (hl : lookupL env.upper srcName.toList none (readDirEntries d.fs.lfnAlloc true (V.slots d.img)) = .ok le)
    (hfile : Lfn.isDir le.sfn = false) (a : List Nat)
    (hchk : DirAlias.checkForExistenceL env.upper (V.slots d.img) dstName none 70000 = .ok (.alias a))
    (hfit : DirSlots.findFree (V.slots d.img) (Lfn.numParts (Names.encodeUtf16 dstName.toList).length + 1) +
      (Lfn.numParts (Names.encodeUtf16 dstName.toList).length + 1) ≤ V.N) :
    ∃ d', run (renameInternal env st srcName st dstName) d = (.ok (), d') ∧
      VolStep d d' ∧ d'.fs.curDirty = true ∧ V.Inv d' ∧
      V.slots d'.img =
        DirSlots.deleteRange
          (DirSlots.writeEntry (V.slots d.img) (Names.encodeUtf16 dstName.toList)
            ((toDirEntryS V.src le).data.renamed a).serialize)
          le.beginIdx le.endIdx := by
  obtain ⟨hmem, _, _⟩ := lookupL_ok _ _ _ _ _ hl
  obtain ⟨dm, d4, newE, hrun, hnd, _, _, w2, w1⟩ := V.rename_core V ⟨hdots, hval, ha, hl, hchk, hfit⟩
    (Or.inl hfile) (fun _ _ _ _ h _ _ _ => h)
  exact ⟨d4, hrun.trans (fixDotDot_file env d.fs st newE (V.renamed_file_isDir le hfile a hnd) d4), w2.vol.trans w1.vol,
    w1.dirty, w1.inv, by rw [← w2.slots]; exact w1.slots⟩

/-- **`rename_internal(src, self, dst)` of a directory inside one directory**. Besides the hypotheses of the file case:
    `hclimb` — the climb from this directory to the root never meets the moved directory; the moved directory (first
    cluster `c0`, chain `mchain`) is readable through its entry, lies apart from the slots (and own entry) of this
    directory, and lists `..` (`ldd`) naming this directory, so that nothing has to be written into it -/
theorem rename_dir_sim (V : WView d st) (env : Env) (srcName dstName : String)
    (hdots : (srcName = "." || srcName = ".." || dstName = "." || dstName = "..") = false)
    (hval : Names.validateLongName dstName = .ok ()) (ha : d.fs.lfnAlloc = true) (hgeo : Geo d.fs d.img.size)
    (le : LfnEntry)
    (hl : lookupL env.upper srcName.toList none (readDirEntries d.fs.lfnAlloc true (V.slots d.img)) = .ok le)
    (hdir : Lfn.isDir le.sfn = true) (n : Nat)
    (hclimb : Climbs d env ((toDirEntryS V.src le).firstCluster d.fs) st 0 n) (hn : n < d.fs.totalClusters + 3)
    (a : List Nat)
    (hchk : DirAlias.checkForExistenceL env.upper (V.slots d.img) dstName none 70000 = .ok (.alias a))
    (hfit : DirSlots.findFree (V.slots d.img) (Lfn.numParts (Names.encodeUtf16 dstName.toList).length + 1) +
      (Lfn.numParts (Names.encodeUtf16 dstName.toList).length + 1) ≤ V.N)
    (hbehind : ∀ j, j < V.N → (fatSliceOf d.fs).beginOff + (fatSliceOf d.fs).size ≤ V.src (32 * j))
    (hextra : ∀ q, V.Extra q → (fatSliceOf d.fs).beginOff + (fatSliceOf d.fs).size ≤ q)
    (c0 : Nat) (hfc : (toDirEntryS V.src le).firstCluster d.fs = some c0) (mchain : List Nat)
    (hC : ChainDir d (FileH.new (some c0) (some (toDirEntryS V.src le).editor)) c0 mchain)
    (hfuelm : mchain.length * (d.fs.clusterSize / 32) < dirFuel d.fs)
    (hapart : ∀ i, i < mchain.length * (d.fs.clusterSize / 32) → ∀ x, x < 32 →
      ¬ V.Extra (chainSrc d.fs mchain (32 * i) + x) ∧
      ∀ j, j < V.N → ¬ (V.src (32 * j) ≤ chainSrc d.fs mchain (32 * i) + x ∧
        chainSrc d.fs mchain (32 * i) + x < V.src (32 * j) + 32))
    (ldd : LfnEntry)
    (hldd : lookupL env.upper "..".toList (some true) (readDirEntries d.fs.lfnAlloc true
      (srcSlots d.img (chainSrc d.fs mchain) (mchain.length * (d.fs.clusterSize / 32)))) = .ok ldd)
    (hddc : (toDirEntryS (chainSrc d.fs mchain) ldd).data.firstCluster d.fs.fatType =
      (if st.isRootDir then none else st.firstCluster)) :
    ∃ d', run (renameInternal env st srcName st dstName) d = (.ok (), d') ∧
      VolStep d d' ∧ d'.fs.curDirty = true ∧ V.Inv d' ∧
      V.slots d'.img =
        DirSlots.deleteRange
          (DirSlots.writeEntry (V.slots d.img) (Names.encodeUtf16 dstName.toList)
            ((toDirEntryS V.src le).data.renamed a).serialize)
          le.beginIdx le.endIdx ∧
      tabView d'.fs d'.img = tabView d.fs d.img := by
  obtain ⟨hmem, _, _⟩ := lookupL_ok _ _ _ _ _ hl
  have hisdir : (toDirEntryS V.src le).isDir = true := by
    rw [toDirEntryS_isDir V.src le]; exact hdir
  obtain ⟨dm, d4, newE, hrun, hnd, _, _, ⟨hs1, _, _, (hsl2 : V.slots dm.img = _), hfr2, _⟩, hs2, hd4, hinv4,
    (hsl1 : V.slots d4.img = _), hfr1, _⟩ := V.rename_core V ⟨hdots, hval, ha, hl, hchk, hfit⟩ (Or.inr ⟨n, hclimb, hn⟩)
    (fun _ _ _ _ h _ _ _ => h)
  have hvs4 : VolStep d d4 := hs1.trans hs2
  have htv4 : tabView d4.fs d4.img = tabView d.fs d.img := by
    rw [tabView_of_frameE hgeo hs1 hs2 hfr1 hbehind hextra,
      tabView_of_frameE hgeo (VolStep.of_sameVol (SameVol.refl d)) hs1 hfr2 hbehind hextra]
  -- the moved directory on `d4`
  have hmslots : srcSlots d4.img (chainSrc d.fs mchain) (mchain.length * (d.fs.clusterSize / 32)) =
      srcSlots d.img (chainSrc d.fs mchain) (mchain.length * (d.fs.clusterSize / 32)) := by
    have hcont : ∀ i, i < mchain.length * (d.fs.clusterSize / 32) → ∀ x, x < 32 →
        0x42 ≤ chainSrc d.fs mchain (32 * i) + x ∧ ¬ V.Extra (chainSrc d.fs mchain (32 * i) + x) ∧
        ∀ j, j < V.N → ¬ (V.src (32 * j) ≤ chainSrc d.fs mchain (32 * i) + x ∧
          chainSrc d.fs mchain (32 * i) + x < V.src (32 * j) + 32) := by
      intro i hi x hx
      have h1 := chainSrc_ge d.fs mchain (32 * i)
      have h2 := hgeo.fat_before_data
      exact ⟨by omega, (hapart i hi x hx).1, (hapart i hi x hx).2⟩
    rw [srcSlots_frameE hfr1 _ _ hcont, srcSlots_frameE hfr2 _ _ hcont]
  have hnewdir : newE.isDir = true := by
    unfold DirEntry.isDir; rw [hnd, renamed_isDir]; exact hisdir
  obtain ⟨Vm, hVm⟩ := moved_view env hC hfuelm hvs4 htv4 hmslots newE hnewdir
    (by unfold DirEntry.firstCluster; rw [hnd, renamed_firstCluster]; exact hfc) ldd hldd
  -- the `..` entry stays
  obtain ⟨d5, h5, hs5⟩ := fixDotDot_same env d.fs st newE hnewdir Vm _ hVm hddc d4 (SameVol.refl d4)
  refine ⟨d5, hrun.trans h5, hvs4.trans (VolStep.of_sameVol hs5), by rw [hs5.fs]; exact hd4,
    V.io.vol d4 d5 hinv4 hs5 (run_clock _ _ _ _ h5), ?_, by rw [hs5.fs, hs5.img]; exact htv4⟩
  have e3 : V.slots d5.img = V.slots d4.img := by unfold WView.slots; rw [hs5.img]
  rw [e3, hsl1, hsl2]


end WView

end FatVerif.DirSim
