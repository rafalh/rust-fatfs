import FatVerif.Proofs.FileSimRead
/-!
# FileSim / seek: `File::seek` simulates the cursor machine's `seek`
-/
namespace FatVerif.FileSim
open FatVerif FatVerif.Fat

/-- the two `SeekFrom` types (byte-level model / cursor machine) -/
def convSeek : FatVerif.SeekFrom → Cursor.SeekFrom
  | .start n => .start n
  | .cur x => .current x
  | .fromEnd x => .fromEnd x

/-- the chain walk of `seek` along the FAT chain: it ends `toSkip − i` links further -/
theorem run_seekWalk (fs : FsState) (img : Img) (chain : List Nat) (first : Nat)
    (hg : Geo fs img.size) (hch : Chain (tabView fs img) first chain)
    (hin : ∀ c ∈ chain, c < fs.totalClusters + 2) :
    ∀ (k : Nat) (it : Table.CIter DiskSlice) (cluster i toSkip newOff j : Nat) (d : Dev),
      d.failAt = none → d.fs = fs → d.img = img →
      it.cluster = some cluster → it.err = false → IsFatSlice fs it.fat →
      chain[j]? = some cluster → j + (toSkip - i) < chain.length → toSkip - i ≤ k →
      ∃ d' c', run (FileH.seekWalk fs k it cluster i toSkip newOff) d = (.ok (c', newOff), d') ∧
        chain[j + (toSkip - i)]? = some c' ∧ SameStore d d' := by
  intro k
  induction k with
  | zero =>
    intro it cluster i toSkip newOff j d _ _ _ _ _ _ hj _ hk
    have : toSkip - i = 0 := by omega
    exact ⟨d, cluster, rfl, by rw [this]; exact hj, SameStore.refl d⟩
  | succ k ih =>
    intro it cluster i toSkip newOff j d hfa hfs himg hc herr hsl hj hlen hk
    unfold FileH.seekWalk
    by_cases hi : i ≥ toSkip
    · rw [if_pos hi]
      have : toSkip - i = 0 := by omega
      exact ⟨d, cluster, rfl, by rw [this]; exact hj, SameStore.refl d⟩
    · rw [if_neg hi]
      have hcin : cluster < fs.totalClusters + 2 := hin cluster (List.mem_of_getElem? hj)
      obtain ⟨d1, s1, h1, hs1, hsl1⟩ := run_citer_next fs it cluster d hfa (by rw [himg]; exact hg) hsl herr hc hcin
      have hnext : nextV (tabView fs d.img) cluster = chain[j + 1]? := by
        rw [himg]; exact chain_nextV_getElem? hch j cluster hj
      have hj1 : j + 1 < chain.length := by omega
      obtain ⟨c2, hc2⟩ : ∃ c2, chain[j + 1]? = some c2 := ⟨chain[j + 1], by simp [hj1]⟩
      rw [hnext, hc2] at h1
      rw [run_bind_ok h1]
      simp only [Option.map]
      obtain ⟨d2, c', h2, hget, hs2⟩ := ih { it with fat := s1, cluster := some c2 } c2 (i + 1) toSkip newOff (j + 1) d1
        (by rw [hs1.failAt]; exact hfa) (by rw [hs1.fs]; exact hfs) (by rw [hs1.img]; exact himg)
        rfl herr hsl1 hc2 (by omega) (by omega)
      refine ⟨d2, c', h2, ?_, hs1.trans hs2⟩
      rw [← hget]; congr 1; omega

/-- `new_offset_opt` of `File::seek` for a regular file of recorded size `sz` -/
def seekTgt (f : FileH) (sz : Nat) (p : FatVerif.SeekFrom) : Option Nat :=
  match p with
  | .cur x => (if -9223372036854775808 ≤ (f.offset : Int) + x ∧ (f.offset : Int) + x ≤ 9223372036854775807
      then some ((f.offset : Int) + x) else none).bind
      (fun t => if 0 ≤ t ∧ t < 4294967296 then some t.toNat else none)
  | .start x => if x < 4294967296 then some x else none
  | .fromEnd x => (if -9223372036854775808 ≤ (sz : Int) + x ∧ (sz : Int) + x ≤ 9223372036854775807
      then some ((sz : Int) + x) else none).bind
      (fun t => if 0 ≤ t ∧ t < 4294967296 then some t.toNat else none)

/-- `File::seek` after the target has been computed and clamped -/
def seekBody (f : FileH) (fs : FsState) (newOff : Nat) : Prog (Nat × FileH) :=
  if newOff = f.offset then pure (f.offset, f)
  else
    if newOff = 0 then pure (0, { f with offset := 0, currentCluster := none })
    else if FileH.clustersFromBytes fs newOff = FileH.clustersFromBytes fs f.offset then
      pure (newOff, { f with offset := newOff })
    else match f.firstCluster with
      | some first => do
        let it : Table.CIter DiskSlice := { fat := fatSliceOf fs, cluster := some first }
        let (c, off) ← FileH.seekWalk fs (FileH.clustersFromBytes fs newOff + 1) it first 0
          (FileH.clustersFromBytes fs newOff - 1) newOff
        pure (off, { f with offset := off, currentCluster := some c })
      | none => pure (0, { f with offset := 0, currentCluster := none })

/-- `FileH.seek` for a regular file, restated with `seekTgt` / `seekBody` -/
theorem seek_eq (f : FileH) (p : FatVerif.SeekFrom) (sz : Nat) (hsz : f.size? = some sz) :
    f.seek p = (Prog.getFs >>= fun fs =>
      match seekTgt f sz p with
      | none => Prog.fail Err.invalidInput
      | some t => seekBody f fs (if t > sz then sz else t)) := by
  unfold FileH.seek seekTgt seekBody
  simp only [hsz]
  cases p <;> rfl

/-- the target computation of the byte-level model is the machine's -/
theorem seekTgt_eq (f : FileH) (fs : FsState) (img : Img) (sz : Nat) (hsz : f.size? = some sz)
    (p : FatVerif.SeekFrom) : seekTgt f sz p = (absFile fs img f).seekTarget (convSeek p) := by
  unfold seekTgt
  have hasz : (absFile fs img f).size = sz := by simp [absFile, hsz]
  have hu : Cursor.u32Max = 4294967295 := rfl
  have hi : Cursor.i64Max = 9223372036854775807 := rfl
  cases p with
  | start n =>
    simp only [convSeek, Cursor.AFile.seekTarget]
    by_cases h : n < 4294967296
    · rw [if_pos h, if_pos (by omega)]
    · rw [if_neg h, if_neg (by omega)]
  | cur x =>
    simp only [convSeek, Cursor.AFile.seekTarget, Cursor.AFile.addToU32]
    show _ = if (f.offset : Int) + x > Cursor.i64Max then none
      else if 0 ≤ (f.offset : Int) + x ∧ (f.offset : Int) + x ≤ (Cursor.u32Max : Int) then
        some ((f.offset : Int) + x).toNat else none
    by_cases h1 : (f.offset : Int) + x > Cursor.i64Max
    · rw [if_pos h1, if_neg (by omega)]; rfl
    · rw [if_neg h1]
      by_cases h2 : 0 ≤ (f.offset : Int) + x ∧ (f.offset : Int) + x ≤ (Cursor.u32Max : Int)
      · rw [if_pos h2, if_pos (by omega)]
        simp only [Option.bind]
        rw [if_pos (by omega)]
      · rw [if_neg h2]
        by_cases h3 : -9223372036854775808 ≤ (f.offset : Int) + x ∧ (f.offset : Int) + x ≤ 9223372036854775807
        · rw [if_pos h3]; simp only [Option.bind]; rw [if_neg (by omega)]
        · rw [if_neg h3]; rfl
  | fromEnd x =>
    simp only [convSeek, Cursor.AFile.seekTarget, Cursor.AFile.addToU32, hasz]
    by_cases h1 : (sz : Int) + x > Cursor.i64Max
    · rw [if_pos h1, if_neg (by omega)]; rfl
    · rw [if_neg h1]
      by_cases h2 : 0 ≤ (sz : Int) + x ∧ (sz : Int) + x ≤ (Cursor.u32Max : Int)
      · rw [if_pos h2, if_pos (by omega)]
        simp only [Option.bind]
        rw [if_pos (by omega)]
      · rw [if_neg h2]
        by_cases h3 : -9223372036854775808 ≤ (sz : Int) + x ∧ (sz : Int) + x ≤ 9223372036854775807
        · rw [if_pos h3]; simp only [Option.bind]; rw [if_neg (by omega)]
        · rw [if_neg h3]; rfl

/-- the round-up cluster count of a 32-bit byte count needs no truncation -/
theorem clustersFromBytes_eq (fs : FsState) (b : Nat) (hcs : 0 < fs.clusterSize) (hb : b ≤ 4294967295) :
    FileH.clustersFromBytes fs b = Cursor.clustersFromBytes fs.clusterSize b := by
  unfold FileH.clustersFromBytes Cursor.clustersFromBytes
  apply Nat.mod_eq_of_lt
  have : (b + fs.clusterSize - 1) / fs.clusterSize ≤ b := by
    rcases Nat.eq_zero_or_pos b with h0 | h0
    · subst h0; rw [Nat.zero_add, Nat.div_eq_of_lt (by omega)]; exact Nat.zero_le _
    · apply Nat.div_le_of_le_mul
      have : fs.clusterSize * b ≥ fs.clusterSize + b - 1 := by
        have h1 : fs.clusterSize * b ≥ fs.clusterSize * 1 + (b - 1) * 1 := by
          have : fs.clusterSize * b = fs.clusterSize * 1 + fs.clusterSize * (b - 1) := by
            rw [← Nat.mul_add]; congr 1; omega
          rw [this]
          have : (b - 1) * 1 ≤ fs.clusterSize * (b - 1) := by
            rw [Nat.mul_comm fs.clusterSize]; exact Nat.mul_le_mul_left _ hcs
          omega
        omega
      omega
  omega

/-- a handle that differs from a represented one in cursor position only is represented as soon as the machine's
    invariant holds for it -/
theorem FileRep.of_cursor {fs : FsState} {img : Img} {f f' : FileH} (h : FileRep fs img f)
    (hfirst : f'.firstCluster = f.firstCluster) (hsize : f'.size? = f.size?)
    (hinv : Cursor.AFileInv viewFree (absFile fs img f') (tabView fs img)) : FileRep fs img f' := by
  have hch : fileChain fs img f' = fileChain fs img f := by unfold fileChain; rw [hfirst]
  obtain ⟨sz, hsz⟩ := h.file
  exact ⟨⟨sz, hsize.trans hsz⟩, hinv, fun c hc => by rw [hch]; exact h.chain c (hfirst ▸ hc),
    fun c hc => h.inTab c (hch ▸ hc), fun c hc => h.last_eoc c (hch ▸ hc)⟩

/-- the clamped part of `File::seek` is the machine's `seekTo` -/
theorem run_seekBody (f : FileH) (d : Dev) (hfa : d.failAt = none) (hg : Geo d.fs d.img.size)
    (hrep : FileRep d.fs d.img f) (sz : Nat) (hsz : f.size? = some sz) (new : Nat) (hnew : new ≤ sz) :
    ∃ pos f' d', run (seekBody f d.fs new) d = (.ok (pos, f'), d') ∧ SameStore d d' ∧
      ((absFile d.fs d.img f).seekTo new).1 = .ok pos ∧
      absFile d.fs d.img f' = ((absFile d.fs d.img f).seekTo new).2 ∧ FileRep d.fs d.img f' ∧
      EdStep d.fs.fatType f f' := by
  have hinv := hrep.inv
  have hasz : (absFile d.fs d.img f).size = sz := by simp [absFile, hsz]
  have hpost := hinv.seekTo_post new (by rw [hasz]; exact hnew)
  have hcs := hg.cs_pos
  have hszle : sz ≤ 4294967295 := by have := hinv.size_le; rw [hasz] at this; exact this
  have hoff : f.offset ≤ sz := by have := hinv.off_le; rw [hasz] at this; exact this
  have hrepOf : ∀ f' : FileH, f'.firstCluster = f.firstCluster → f'.size? = f.size? →
      absFile d.fs d.img f' = ((absFile d.fs d.img f).seekTo new).2 → FileRep d.fs d.img f' :=
    fun f' h1 h2 h3 => hrep.of_cursor h1 h2 (by rw [h3]; exact hpost.2)
  -- program and machine have the same case tree (same position / position 0 / same number of clusters / walk from the
  -- first cluster) and are split in lockstep; only the last case reads the device, and there both walks stop at
  -- cluster number `(new - 1) / cs` of the chain (`run_seekWalk` along the FAT links, `seekWalk_of_getElem?` on the list)
  unfold seekBody
  unfold Cursor.AFile.seekTo at hpost ⊢
  show ∃ pos f' d', _ ∧ _ ∧
    (if new = f.offset then _ else _ : Except Err Nat × Cursor.AFile).1 = _ ∧ _ = (if new = f.offset then _ else _ : Except Err Nat × Cursor.AFile).2 ∧ _ ∧ _
  by_cases h1 : new = f.offset
  · rw [if_pos h1, if_pos h1]
    exact ⟨f.offset, f, d, rfl, SameStore.refl d, rfl, rfl, hrep, EdStep.refl _ f⟩
  · rw [if_neg h1, if_neg h1]
    have hp1 : ¬ new = (absFile d.fs d.img f).offset := h1
    rw [if_neg hp1] at hpost
    by_cases h2 : new = 0
    · rw [if_pos h2, if_pos h2]
      rw [if_pos h2] at hpost
      exact ⟨0, _, d, rfl, SameStore.refl d, rfl, rfl, hrep.of_cursor rfl rfl hpost.2, EdStep.of_entry_eq rfl rfl⟩
    · rw [if_neg h2, if_neg h2]
      rw [if_neg h2] at hpost
      rw [clustersFromBytes_eq d.fs new hcs (by omega), clustersFromBytes_eq d.fs f.offset hcs (by omega)]
      show ∃ pos f' d', _ ∧ _ ∧
        (if Cursor.clustersFromBytes d.fs.clusterSize new = Cursor.clustersFromBytes d.fs.clusterSize f.offset
          then _ else _ : Except Err Nat × Cursor.AFile).1 = _ ∧
        _ = (if Cursor.clustersFromBytes d.fs.clusterSize new = Cursor.clustersFromBytes d.fs.clusterSize f.offset
          then _ else _ : Except Err Nat × Cursor.AFile).2 ∧ _ ∧ _
      by_cases h3 : Cursor.clustersFromBytes d.fs.clusterSize new = Cursor.clustersFromBytes d.fs.clusterSize f.offset
      · rw [if_pos h3, if_pos h3]
        have hp3 : Cursor.clustersFromBytes (absFile d.fs d.img f).cs new =
            Cursor.clustersFromBytes (absFile d.fs d.img f).cs (absFile d.fs d.img f).offset := h3
        rw [if_pos hp3] at hpost
        exact ⟨new, _, d, rfl, SameStore.refl d, rfl, rfl, hrep.of_cursor rfl rfl hpost.2, EdStep.of_entry_eq rfl rfl⟩
      · rw [if_neg h3, if_neg h3]
        have hp3 : ¬ Cursor.clustersFromBytes (absFile d.fs d.img f).cs new =
            Cursor.clustersFromBytes (absFile d.fs d.img f).cs (absFile d.fs d.img f).offset := h3
        rw [if_neg hp3] at hpost
        show ∃ pos f' d', run (match f.firstCluster with | some first => _ | none => _) d = _ ∧ _ ∧
          (match f.firstCluster with | some first => _ | none => _ : Except Err Nat × Cursor.AFile).1 = _ ∧
          _ = (match f.firstCluster with | some first => _ | none => _ : Except Err Nat × Cursor.AFile).2 ∧ _ ∧ _
        cases hf : f.firstCluster with
        | none =>
          have hpf : (absFile d.fs d.img f).firstCluster = none := hf
          rw [hpf] at hpost
          simp only at hpost ⊢
          refine ⟨0, _, d, rfl, SameStore.refl d, rfl, ?_, ?_, EdStep.of_entry_eq rfl hf.symm⟩
          · unfold absFile fileChain; simp only [hf]; rfl
          · refine hrep.of_cursor hf.symm rfl ?_
            have : absFile d.fs d.img { firstCluster := none, entry := f.entry } =
                { absFile d.fs d.img f with firstCluster := none, offset := 0, current := none } := by
              unfold absFile fileChain; simp only [hf]; rfl
            rw [this]; exact hpost.2
        | some first =>
          have hpf : (absFile d.fs d.img f).firstCluster = some first := hf
          rw [hpf] at hpost
          simp only at hpost ⊢
          have hnpos : 0 < new := Nat.pos_of_ne_zero h2
          have hcfb := Cursor.clustersFromBytes_pos hcs hnpos
          have hidx : (new - 1) / d.fs.clusterSize < (fileChain d.fs d.img f).length := by
            have := hinv.index_lt (p := new - 1) (by rw [hasz]; omega)
            exact this
          have h0 : (fileChain d.fs d.img f)[0]? = some first := by
            have := hinv.first
            have e : (absFile d.fs d.img f).firstCluster = (fileChain d.fs d.img f).head? := this
            rw [hpf, List.head?_eq_getElem?] at e; exact e.symm
          have hcfb' : Cursor.clustersFromBytes (absFile d.fs d.img f).cs new =
              (new - 1) / (absFile d.fs d.img f).cs + 1 := hcfb
          rw [hcfb'] at hpost ⊢
          rw [hcfb]
          simp only [Nat.add_sub_cancel] at hpost ⊢
          obtain ⟨d1, c', hw, hget, hs1⟩ := run_seekWalk d.fs d.img (fileChain d.fs d.img f) first hg
            (hrep.chain first hf) (fun c hc => (hrep.inTab c hc).2)
            ((new - 1) / d.fs.clusterSize + 1 + 1) { fat := fatSliceOf d.fs, cluster := some first } first 0
            ((new - 1) / d.fs.clusterSize) new 0 d hfa rfl rfl rfl rfl (isFatSlice_self _) h0
            (by rw [Nat.zero_add, Nat.sub_zero]; exact hidx) (by omega)
          obtain ⟨c'', hget', hw'⟩ := Cursor.seekWalk_of_getElem? (fileChain d.fs d.img f) d.fs.clusterSize
            hinv.nodup ((new - 1) / d.fs.clusterSize) 0 first 0 new h0 (by rw [Nat.zero_add]; exact hidx)
          have hcc : c'' = c' := by
            simp only [Nat.sub_zero] at hget
            rw [hget] at hget'; exact (Option.some.inj hget').symm
          subst hcc
          have hw'' : Cursor.AFile.seekWalk (absFile d.fs d.img f).chain (absFile d.fs d.img f).cs first 0
              ((new - 1) / (absFile d.fs d.img f).cs) new = (c'', new) := hw'
          rw [hw''] at hpost ⊢
          rw [run_bind_ok hw]
          refine ⟨new, _, d1, rfl, hs1, rfl, ?_, ?_, EdStep.of_entry_eq rfl hf.symm⟩
          · unfold absFile fileChain; simp only [hf]; rfl
          · refine hrep.of_cursor hf.symm rfl ?_
            have : absFile d.fs d.img ⟨some first, some c'', new, f.entry⟩ =
                { absFile d.fs d.img f with firstCluster := some first, offset := new, current := some c'' } := by
              unfold absFile fileChain; simp only [hf]; rfl
            rw [this]; exact hpost.2

/-- **`seek_sim`.**  `File::seek`, all three forms: either the machine rejects the target (before the start, or
    not representable in 32 bits) and so does the byte-level model, with `InvalidInput` and nothing changed; or both
    move the cursor to the same position (`min target size`), the new handle is exactly the machine's new state and
    is represented again; the device keeps image, log and mounted state. -/
theorem seek_sim (f : FileH) (p : FatVerif.SeekFrom) (d : Dev) (hfa : d.failAt = none) (hg : Geo d.fs d.img.size)
    (hrep : FileRep d.fs d.img f) :
    (∃ pos f' d', run (f.seek p) d = (.ok (pos, f'), d') ∧ SameStore d d' ∧
      ((absFile d.fs d.img f).seek (convSeek p)).1 = .ok pos ∧
      absFile d.fs d.img f' = ((absFile d.fs d.img f).seek (convSeek p)).2 ∧ FileRep d.fs d.img f' ∧
      EdStep d.fs.fatType f f') ∨
    (run (f.seek p) d = (.error .invalidInput, d) ∧
      (absFile d.fs d.img f).seek (convSeek p) = (.error .invalidInput, absFile d.fs d.img f)) := by
  obtain ⟨sz, hsz, hasz, _, _⟩ := hrep.size_facts
  rw [seek_eq f p sz hsz, run_bind_ok (run_getFs d)]
  rw [seekTgt_eq f d.fs d.img sz hsz p]
  unfold Cursor.AFile.seek
  cases (absFile d.fs d.img f).seekTarget (convSeek p) with
  | none => exact Or.inr ⟨rfl, rfl⟩
  | some t =>
    left
    simp only [hasz]
    exact run_seekBody f d hfa hg hrep sz hsz _ (by split <;> omega)

end FatVerif.FileSim
