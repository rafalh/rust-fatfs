import FatVerif.Props.C10slice
import FatVerif.Proofs.FileWriteForm
/-! WHERE the model writes (C11): the record classes of a mounted volume, the position-sensitive units
    (seek, then raw writes), and the `File` layer. -/
namespace FatVerif

/-- byte offset of cluster `c` (`offset_from_cluster`) -/
def clusterOff (fs : FsState) (c : Nat) : Nat := (fs.firstDataSector + (c - 2) * fs.spc) * fs.bps

theorem clusterOff_succ (fs : FsState) (c : Nat) (hc : 2 ≤ c) :
    clusterOff fs (c + 1) = clusterOff fs c + fs.clusterSize := by
  unfold clusterOff FsState.clusterSize
  have : c + 1 - 2 = (c - 2) + 1 := by omega
  rw [this, Nat.succ_mul, ← Nat.add_assoc, Nat.add_mul, Nat.mul_comm fs.spc fs.bps]

theorem clusterOff_mono (fs : FsState) {a b : Nat} (h : a ≤ b) : clusterOff fs a ≤ clusterOff fs b := by
  unfold clusterOff
  exact Nat.mul_le_mul_right _ (Nat.add_le_add_left (Nat.mul_le_mul_right _ (Nat.sub_le_sub_right h 2)) _)

/-- inside the data cluster `c`, for some `c ≥ 2` -/
def ClusterRec (fs : FsState) (off : Nat) (bs : List Nat) : Prop :=
  ∃ c, 2 ≤ c ∧ clusterOff fs c ≤ off ∧ off + bs.length ≤ clusterOff fs c + fs.clusterSize

/-- inside the FS-info sector -/
def FsInfoRec (fs : FsState) (off : Nat) (bs : List Nat) : Prop :=
  fsInfoLo fs ≤ off ∧ off + bs.length ≤ fsInfoLo fs + 512

/-- inside the 32-byte directory record at `pos` -/
def SlotAt (pos : Nat) (off : Nat) (bs : List Nat) : Prop := pos ≤ off ∧ off + bs.length ≤ pos + 32

/-- the classes of write records of a mounted volume with geometry `fs`: status byte, FS-info sector, window of the
    FAT copies, fixed root-directory region, a data cluster, the directory record of an open handle -/
inductive WClass (fs : FsState) (off : Nat) (bs : List Nat) : Prop where
  | status : StatusRec fs off bs → WClass fs off bs
  | fsInfo : FsInfoRec fs off bs → WClass fs off bs
  | fat : SliceRec (fatSliceOf fs) off bs → WClass fs off bs
  | root : SliceRec (rootSliceOf fs) off bs → WClass fs off bs
  | cluster : ClusterRec fs off bs → WClass fs off bs
  | slot (pos : Nat) : SlotAt pos off bs → WClass fs off bs

/-- the FAT copies and the fixed root region lie inside a device of size `sz` -/
structure DevFits (fs : FsState) (sz : Nat) : Prop where
  fat : (fatSliceOf fs).beginOff + (fatSliceOf fs).mirrors * (fatSliceOf fs).size ≤ sz
  root : (rootSliceOf fs).beginOff + (rootSliceOf fs).mirrors * (rootSliceOf fs).size ≤ sz

/-! ### position-sensitive units: after `seek(p)`, raw writes of `len` bytes stay in `[p, p+len)` -/

/-- a position-sensitive unit: started at device position `p`, `q` keeps the mounted state and appends only records
    inside `[p, p + len)` -/
structure PU {β} (p len : Nat) (q : Prog β) : Prop where
  out : ∀ (d : Dev) (r : Except Err β) (d' : Dev), d.pos = p → run q d = (r, d') →
    d'.fs = d.fs ∧ LogWithin p (p + len) d d'

theorem PU.write (p : Nat) (data : List Nat) : PU p data.length (Prog.write data) := by
  refine ⟨fun d r d' hp hr => ?_⟩
  simp only [Prog.write, run] at hr
  rcases stepOp_write_spec data d hr with ⟨hfs, ⟨e, _, hlog⟩ | ⟨m, _, hle, hlog, _⟩⟩
  · exact ⟨hfs, LogWithin.of_log_eq hlog⟩
  · refine ⟨hfs, [.write d.pos (data.take m)], by simp [hlog], ?_⟩
    intro it hit
    simp only [List.mem_singleton] at hit; subst hit
    refine ⟨by omega, ?_⟩
    simp only [List.length_take]; omega

theorem PU.writeChunks (p : Nat) (cs : List (List Nat)) : PU p (totalLen cs) (writeChunks devStrm () cs) :=
  ⟨fun d r d' hp hr => by
    have := writeChunks_dev_within cs d r d' hr
    rw [hp] at this; exact this⟩

theorem PU.mono {β} {p len len' : Nat} {q : Prog β} (h : PU p len q) (hl : len ≤ len') : PU p len' q :=
  ⟨fun d r d' hp hr => ⟨(h.out d r d' hp hr).1, (h.out d r d' hp hr).2.mono (Nat.le_refl _) (by omega)⟩⟩

theorem writeZerosLoop_dev_within : ∀ (fuel len : Nat) (d : Dev) r d',
    run (writeZerosLoop devStrm fuel () len) d = (r, d') →
    d'.fs = d.fs ∧ LogWithin d.pos (d.pos + len) d d' := by
  intro fuel
  induction fuel with
  | zero =>
    intro len d r d' hr
    unfold writeZerosLoop at hr
    simp only [run] at hr; cases hr
    exact ⟨rfl, LogWithin.refl _ _ _⟩
  | succ k ih =>
    intro len d r d' hr
    unfold writeZerosLoop at hr
    split at hr
    · cases run_pure_cases hr
      exact ⟨rfl, LogWithin.refl _ _ _⟩
    · dsimp only at hr
      rcases run_bind_cases hr with ⟨u, d1, h1, h2⟩ | ⟨e, h1, _⟩
      · have hw := writeAll_dev_within _ d h1
        have hp := hw.2.2 u rfl
        simp only [List.length_replicate] at hw hp
        have h3 := ih _ _ _ _ h2
        refine ⟨h3.1.trans hw.1, (hw.2.1.mono (Nat.le_refl _) (by omega)).trans (h3.2.mono (by omega) (by omega))⟩
      · have hw := writeAll_dev_within _ d h1
        simp only [List.length_replicate] at hw
        exact ⟨hw.1, hw.2.1.mono (Nat.le_refl _) (by omega)⟩

theorem PU.writeZeros (p len : Nat) : PU p len (writeZeros devStrm () len) :=
  ⟨fun d r d' hp hr => by
    have := writeZerosLoop_dev_within _ len d r d' hr
    rw [hp] at this; exact this⟩

/-- the composition rule: seek, one position-sensitive unit, continuation -/
theorem GS.seek_unit {α β} {fs0 : FsState} {sz : Nat} {C : Nat → List Nat → Prop} {p len : Nat} {q : Prog β}
    {k : β → Prog α} {Post : α → Prop} (hq : PU p len q)
    (hC : ∀ off bs, p ≤ off → off + bs.length ≤ p + len → C off bs) (hk : ∀ b, GS fs0 sz C (k b) Post) :
    GS fs0 sz C (Prog.bind (Prog.seekStart p) (fun _ => Prog.bind q k)) Post := by
  refine ⟨fun d r d' hg hs hr => ?_⟩
  rcases run_bind_cases hr with ⟨_, d1, h1, h2⟩ | ⟨e, h1, he⟩
  · have hsk := run_seekStart_spec p d h1
    have hs1 : d1.img.size = sz := (run_img_size _ _ _ _ h1).trans hs
    rcases run_bind_cases h2 with ⟨b, d2, h3, h4⟩ | ⟨e, h3, he⟩
    · have hu := hq.out d1 _ _ (hsk.2.2 _ rfl) h3
      have hg2 : SameGeom fs0 d2.fs := by rw [hu.1, hsk.1]; exact hg
      have a := (hk b).out d2 _ _ hg2 ((run_img_size _ _ _ _ h3).trans hs1) h4
      exact ⟨a.1, ((LogAll.of_log_eq hsk.2.1).trans (LogAll.of_within hu.2 hC)).trans a.2.1, a.2.2⟩
    · have hu := hq.out d1 _ _ (hsk.2.2 _ rfl) h3
      exact ⟨by rw [hu.1, hsk.1]; exact hg, (LogAll.of_log_eq hsk.2.1).trans (LogAll.of_within hu.2 hC),
        fun v hv => by rw [he] at hv; cases hv⟩
  · have hsk := run_seekStart_spec p d h1
    exact ⟨by rw [hsk.1]; exact hg, LogAll.of_log_eq hsk.2.1, fun v hv => by rw [he] at hv; cases hv⟩


/-! ### the `File` layer -/

section file
variable {fs0 : FsState} {sz : Nat}

theorem setDirtyFlag_gs (b : Bool) : GS fs0 sz (WClass fs0) (setDirtyFlag b) (fun _ => True) := by
  refine ⟨fun d r d' hg _ hr => ?_⟩
  have h := setDirtyFlag_all b d hr
  exact ⟨hg.trans h.1, h.2.mono (fun off bs hs => .status (hs.geom hg)), fun _ _ => trivial⟩

theorem fatSliceOf_offset (fs : FsState) : (fatSliceOf fs).offset = 0 := by
  unfold fatSliceOf; split <;> rfl

theorem fatSlice_inv {fs : FsState} (h : SameGeom fs0 fs) : SliceInv (fatSliceOf fs0) (fatSliceOf fs) := by
  rw [fatSliceOf_geom h]
  exact SliceInv.self (by rw [fatSliceOf_offset]; exact Nat.zero_le _)

theorem fatStrm_gs (hfit : DevFits fs0 sz) :
    StrmGS fs0 sz (WClass fs0) DiskSlice.strm (SliceInv (fatSliceOf fs0)) :=
  DiskSlice.strm_gs _ hfit.fat (fun _ _ h => .fat h) (fun _ _ h => .status h)

theorem rootStrm_gs (hfit : DevFits fs0 sz) :
    StrmGS fs0 sz (WClass fs0) DiskSlice.strm (SliceInv (rootSliceOf fs0)) :=
  DiskSlice.strm_gs _ hfit.root (fun _ _ h => .root h) (fun _ _ h => .status h)

theorem mapFree_geom {fs : FsState} (h : SameGeom fs0 fs) (i : FsInfoSt) : SameGeom fs0 { fs with fsInfo := i } := h

theorem truncateClusterChain_gs (hfit : DevFits fs0 sz) (c : Nat) :
    GS fs0 sz (WClass fs0) (truncateClusterChain c) (fun _ => True) := by
  unfold truncateClusterChain
  refine GS.bind GS.getFs (fun fs hfs => ?_)
  dsimp only
  refine GS.bind (Table.CIter.truncate_gs (fatStrm_gs hfit) _ _ _ (fatSlice_inv hfs)) (fun _ _ => ?_)
  exact GS.modifyFs (fun fs h => h)

theorem freeClusterChain_gs (hfit : DevFits fs0 sz) (c : Nat) :
    GS fs0 sz (WClass fs0) (freeClusterChain c) (fun _ => True) := by
  unfold freeClusterChain
  refine GS.bind GS.getFs (fun fs hfs => ?_)
  dsimp only
  refine GS.bind (Table.CIter.free_gs (fatStrm_gs hfit) _ _ _ (fatSlice_inv hfs)) (fun _ _ => ?_)
  exact GS.modifyFs (fun fs h => h)

theorem offsetFromClusterP_ro (fs' fs : FsState) (c : Nat) :
    RO fs' (offsetFromClusterP fs c) (fun off => 2 ≤ c ∧ off = clusterOff fs c) := by
  unfold offsetFromClusterP
  split
  · exact RO.fail _
  · split
    · exact RO.fail _
    · split
      · exact RO.fail _
      · exact RO.pure ⟨by omega, rfl⟩

theorem clusterOff_geom {a b : FsState} (h : SameGeom a b) (c : Nat) : clusterOff b c = clusterOff a c := by
  simp only [clusterOff, h.proj FsState.firstDataSector, h.proj FsState.spc, h.proj FsState.bps]

theorem clusterSize_geom {a b : FsState} (h : SameGeom a b) : b.clusterSize = a.clusterSize := by
  simp only [FsState.clusterSize, h.proj FsState.spc, h.proj FsState.bps]

/-- `FileSystem::alloc_cluster(prev, zero)`, for any record class containing the FAT window, the status byte and —
    when `zero` is requested — the data clusters; the cluster it returns lies below `total_clusters + 2` -/
theorem allocClusterFs_gsC {C : Nat → List Nat → Prop}
    (hdev : (fatSliceOf fs0).beginOff + (fatSliceOf fs0).mirrors * (fatSliceOf fs0).size ≤ sz)
    (hfat : ∀ o b, SliceRec (fatSliceOf fs0) o b → C o b) (hst : ∀ o b, StatusRec fs0 o b → C o b)
    (prev : Option Nat) (zero : Bool) (hcl : zero = true → ∀ o b, ClusterRec fs0 o b → C o b) :
    GS fs0 sz C (allocClusterFs prev zero) (fun c => c < fs0.totalClusters + 2) := by
  unfold allocClusterFs
  refine GS.bind GS.getFs (fun fs hfs => ?_)
  refine GS.bind (Table.allocCluster_lt (DiskSlice.strm_gs _ hdev hfat hst) _ _ _ _ _ (fatSlice_inv hfs)) ?_
  rintro ⟨c, sl⟩ ⟨hc, _⟩
  dsimp only at hc ⊢
  rw [← hfs.proj FsState.totalClusters] at hc
  have hrest : GS fs0 sz C (do
      let fs ← Prog.getFs
      match fs.fsInfo.free with
      | some 0 => Prog.fail Err.panic
      | _ =>
        let nextFree := if c + 1 < fs.totalClusters + 2 then c + 1 else 2
        Prog.setFs { fs with fsInfo := ({ fs.fsInfo with next := some nextFree, dirty := true }).mapFree (· - 1) }
        pure c) (fun r => r < fs0.totalClusters + 2) := by
    refine GS.bind GS.getFs (fun fs2 hfs2 => ?_)
    split
    · exact GS.fail _
    · exact GS.bind (GS.setFs hfs2) (fun _ _ => GS.pure hc)
  split
  · rename_i hz
    refine GS.bind (GS.of_ro (fun fs' => offsetFromClusterP_ro fs' fs c)) ?_
    rintro off ⟨hc2, rfl⟩
    refine GS.seek_unit (PU.writeZeros _ _) ?_ (fun _ => hrest)
    intro o b h1 h2
    exact hcl hz _ _ ⟨c, hc2, by rw [← clusterOff_geom hfs]; exact h1,
      by rw [← clusterOff_geom hfs, ← clusterSize_geom hfs]; exact h2⟩
  · exact hrest

/-- `FileSystem::alloc_cluster` returns a cluster number below `total_clusters + 2` -/
theorem allocClusterFs_lt (hfit : DevFits fs0 sz) (prev : Option Nat) (zero : Bool) :
    GS fs0 sz (WClass fs0) (allocClusterFs prev zero) (fun c => c < fs0.totalClusters + 2) :=
  allocClusterFs_gsC hfit.fat (fun _ _ h => .fat h) (fun _ _ h => .status h) prev zero (fun _ _ _ h => .cluster h)

theorem allocClusterFs_gs (hfit : DevFits fs0 sz) (prev : Option Nat) (zero : Bool) :
    GS fs0 sz (WClass fs0) (allocClusterFs prev zero) (fun _ => True) :=
  (allocClusterFs_lt hfit prev zero).weaken (fun _ _ => trivial)

/-- the choice of the cluster in `File::write`: status and FAT records and, for a directory only, the zero-fill of the
    new cluster -/
theorem selCluster_gsC {C : Nat → List Nat → Prop}
    (hdev : (fatSliceOf fs0).beginOff + (fatSliceOf fs0).mirrors * (fatSliceOf fs0).size ≤ sz)
    (hfat : ∀ o b, SliceRec (fatSliceOf fs0) o b → C o b) (hst : ∀ o b, StatusRec fs0 o b → C o b)
    (f : FileH) (fs : FsState) (hcl : f.isDir = true → ∀ o b, ClusterRec fs0 o b → C o b) :
    GS fs0 sz C (FileSim.selCluster f fs) (fun _ => True) := by
  unfold FileSim.selCluster
  split
  · refine GS.bind (GS.of_quiet (FileH.boundaryCluster_quiet f)) (fun nxt _ => ?_)
    split
    · exact GS.pure trivial
    · exact GS.bind (allocClusterFs_gsC hdev hfat hst _ _ hcl) (fun _ _ => GS.pure trivial)
  · split
    · exact GS.pure trivial
    · exact GS.fail _

theorem FileH.flushDirEntry_gs (f : FileH) :
    GS fs0 sz (fun off bs => ∀ e, f.entry = some e → SlotAt e.pos off bs) f.flushDirEntry (fun _ => True) := by
  unfold FileH.flushDirEntry
  split
  · rename_i e he
    split
    · refine GS.seek_unit (len := 32) ((PU.writeChunks _ _).mono ?_) ?_ (fun _ => GS.pure trivial)
      · have := totalLen_chunksOf_le FileH.entryChunkSizes e.data.serialize
        have h32 : FileH.entryChunkSizes.sum = 32 := by decide
        omega
      · intro o b h1 h2 e' he'
        rw [he] at he'; cases he'
        exact ⟨h1, h2⟩
    · exact GS.pure trivial
  · exact GS.pure trivial

theorem FileH.flushDirEntry_gsW (f : FileH) : GS fs0 sz (WClass fs0) f.flushDirEntry (fun _ => True) := by
  cases he : f.entry with
  | none =>
    unfold FileH.flushDirEntry; rw [he]; exact GS.pure trivial
  | some e =>
    exact (FileH.flushDirEntry_gs f).mono (fun off bs h => .slot e.pos (h e he))

theorem FileH.flush_gs (f : FileH) : GS fs0 sz (WClass fs0) f.flush (fun _ => True) := by
  unfold FileH.flush
  exact GS.bind (FileH.flushDirEntry_gsW f) (fun _ _ => GS.bind (GS.of_quiet QuietOps.progFlush) (fun _ _ => GS.pure trivial))

theorem FileH.dropBody_gs (f : FileH) : GS fs0 sz (WClass fs0) (do let _ ← f.flush; pure ()) (fun _ => True) :=
  GS.bind (FileH.flush_gs f) (fun _ _ => GS.pure trivial)

theorem inDrop_gs {C : Nat → List Nat → Prop} {c : Prog Unit} (hc : GS fs0 sz C c (fun _ => True)) :
    GS fs0 sz C (Prog.inDrop c) (fun _ => True) :=
  GS.finallyDrop (GS.pure trivial) (fun _ _ => hc) hc

theorem FileH.drop_gs (f : FileH) : GS fs0 sz (WClass fs0) f.drop (fun _ => True) := inDrop_gs (FileH.dropBody_gs f)

theorem FileH.write_gs (hfit : DevFits fs0 sz) (f : FileH) (buf : List Nat) :
    GS fs0 sz (WClass fs0) (f.write buf) (fun _ => True) := by
  unfold FileH.write
  refine GS.bind GS.getFs (fun fs hfs => ?_)
  dsimp only
  split
  · exact GS.pure trivial
  · refine GS.bind (setDirtyFlag_gs true) (fun _ _ => ?_)
    refine GS.bind (selCluster_gsC hfit.fat (fun _ _ h => .fat h) (fun _ _ h => .status h) f fs
      (fun _ _ _ h => .cluster h)) ?_
    · rintro ⟨cur, f1⟩ _
      dsimp only
      refine GS.bind (GS.of_ro (fun fs' => offsetFromClusterP_ro fs' fs cur)) ?_
      rintro off ⟨hc, rfl⟩
      refine GS.seek_unit (PU.write _ _) ?_ (fun n => ?_)
      · intro o b h1 h2
        refine .cluster ⟨cur, hc, by rw [← clusterOff_geom hfs]; omega, ?_⟩
        rw [← clusterOff_geom hfs, ← clusterSize_geom hfs]
        simp only [List.length_take] at h2
        have hm : f.offset % fs.clusterSize < fs.clusterSize ∨ fs.clusterSize = 0 := by
          rcases Nat.eq_zero_or_pos fs.clusterSize with h | h
          · exact Or.inr h
          · exact Or.inl (Nat.mod_lt _ h)
        omega
      · split
        · exact GS.pure trivial
        · refine GS.bind (GS.of_quiet ?_) (fun _ _ => GS.pure trivial)
          unfold FileH.updateAfterWrite; quiet

theorem FileH.truncate_gs (hfit : DevFits fs0 sz) (f : FileH) : GS fs0 sz (WClass fs0) f.truncate (fun _ => True) := by
  unfold FileH.truncate
  refine GS.bind (setDirtyFlag_gs true) (fun _ _ => ?_)
  refine GS.bind GS.getFs (fun fs hfs => ?_)
  split
  · exact GS.fail _
  · dsimp only
    split
    · split
      · exact GS.fail _
      · exact GS.bind (truncateClusterChain_gs hfit _) (fun _ _ => GS.pure trivial)
    · split
      · exact GS.fail _
      · split
        · exact GS.bind (freeClusterChain_gs hfit _) (fun _ _ => GS.pure trivial)
        · exact GS.pure trivial

theorem FileH.strm_gs (hfit : DevFits fs0 sz) : StrmGS fs0 sz (WClass fs0) FileH.strm (fun _ => True) :=
  ⟨fun f n _ => (GS.of_quiet (f.read_quiet n)).weaken (fun _ _ => trivial),
   fun f bs _ => (FileH.write_gs hfit f bs).weaken (fun _ _ => trivial),
   fun f p _ => (GS.of_quiet (f.seek_quiet p)).weaken (fun _ _ => trivial)⟩

end file

end FatVerif
