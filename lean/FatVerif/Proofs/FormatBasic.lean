import FatVerif.Model.Format
import FatVerif.Proofs.BpbBasic
/-! Inversion lemmas for the checked arithmetic of `Model/Format.lean` and flat characterisations of `try_fs_layout`. -/
namespace FatVerif.Format

theorem chkSub_ok {a b r : Nat} : chkSub a b = .ok r ↔ r = a - b ∧ b ≤ a := by
  unfold chkSub; split <;> simp_all [eq_comm] <;> omega
theorem chkSub_err {a b : Nat} {e : Err} : chkSub a b = .error e ↔ e = .panic ∧ a < b := by
  unfold chkSub; split <;> simp_all [eq_comm] <;> omega
theorem chkAdd32_ok {a b r : Nat} : chkAdd32 a b = .ok r ↔ r = a + b ∧ a + b < 4294967296 := by
  unfold chkAdd32; split <;> simp_all [eq_comm] <;> omega
theorem chkAdd32_err {a b : Nat} {e : Err} : chkAdd32 a b = .error e ↔ e = .panic ∧ 4294967296 ≤ a + b := by
  unfold chkAdd32; split <;> simp_all [eq_comm] <;> omega
theorem chkMul32_ok {a b r : Nat} : chkMul32 a b = .ok r ↔ r = a * b ∧ a * b < 4294967296 := by
  unfold chkMul32; split <;> simp_all [eq_comm] <;> omega
theorem chkMul32_err {a b : Nat} {e : Err} : chkMul32 a b = .error e ↔ e = .panic ∧ 4294967296 ≤ a * b := by
  unfold chkMul32; split <;> simp_all [eq_comm] <;> omega
theorem chkDiv_ok {a b r : Nat} : chkDiv a b = .ok r ↔ r = a / b ∧ b ≠ 0 := by
  unfold chkDiv; split <;> simp_all [eq_comm]
theorem chkDiv_err {a b : Nat} {e : Err} : chkDiv a b = .error e ↔ e = .panic ∧ b = 0 := by
  unfold chkDiv; split <;> simp_all [eq_comm]

theorem chkSub_of_le {a b : Nat} (h : b ≤ a) : chkSub a b = .ok (a - b) := by simp [chkSub, h]
theorem chkSub_of_lt {a b : Nat} (h : ¬ b ≤ a) : chkSub a b = .error .panic := by simp [chkSub, h]
theorem chkAdd32_of_lt {a b : Nat} (h : a + b < 4294967296) : chkAdd32 a b = .ok (a + b) := by simp [chkAdd32, h]
theorem chkAdd32_of_ge {a b : Nat} (h : ¬ a + b < 4294967296) : chkAdd32 a b = .error .panic := by simp [chkAdd32, h]
theorem chkMul32_of_lt {a b : Nat} (h : a * b < 4294967296) : chkMul32 a b = .ok (a * b) := by simp [chkMul32, h]
theorem chkMul32_of_ge {a b : Nat} (h : ¬ a * b < 4294967296) : chkMul32 a b = .error .panic := by simp [chkMul32, h]
theorem chkDiv_of_ne {a b : Nat} (h : ¬ b = 0) : chkDiv a b = .ok (a / b) := by simp [chkDiv, h]
theorem chkDiv_of_eq {a b : Nat} (h : b = 0) : chkDiv a b = .error .panic := by simp [chkDiv, h]

/-- `t2` of `determine_sectors_per_fat` -/
def t2Of (bps spc bits fats : Nat) : Nat := spc * bps * 8 / bits + fats
/-- value of `determine_sectors_per_fat` when nothing panics -/
def spfOf (total bps spc bits reserved rds fats : Nat) : Nat :=
  ((total - reserved - rds + 2 * spc + t2Of bps spc bits fats - 1) / t2Of bps spc bits fats) % 4294967296
/-- cluster count of `try_fs_layout` when nothing panics -/
def clOf (total spc reserved rds fats spf : Nat) : Nat := (total - reserved - rds - spf * fats) / spc

/-- flat form of `determine_sectors_per_fat` -/
theorem determineSectorsPerFat_eq (total bps spc : Nat) (ft : FatType) (reserved rds fats : Nat) :
    determineSectorsPerFat total bps spc ft reserved rds fats =
      if reserved ≤ total ∧ rds ≤ total - reserved ∧
         1 ≤ total - reserved - rds + 2 * spc + t2Of bps spc ft.bits fats ∧ ¬ t2Of bps spc ft.bits fats = 0
      then .ok (spfOf total bps spc ft.bits reserved rds fats) else .error .panic := by
  unfold determineSectorsPerFat spfOf t2Of
  by_cases h1 : reserved ≤ total
  · rw [chkSub_of_le h1, ebind_ok]
    by_cases h2 : rds ≤ total - reserved
    · rw [chkSub_of_le h2, ebind_ok]
      by_cases h3 : 1 ≤ total - reserved - rds + 2 * spc + (spc * bps * 8 / ft.bits + fats)
      · rw [chkSub_of_le h3, ebind_ok]
        by_cases h4 : spc * bps * 8 / ft.bits + fats = 0
        · rw [chkDiv_of_eq h4, ebind_error, if_neg (by simp [h4])]
        · rw [chkDiv_of_ne h4, ebind_ok, if_pos ⟨h1, h2, h3, h4⟩]
      · rw [chkSub_of_lt h3, ebind_error, if_neg (fun h => h3 h.2.2.1)]
    · rw [chkSub_of_lt h2, ebind_error, if_neg (fun h => h2 h.2.1)]
  · rw [chkSub_of_lt h1, ebind_error, if_neg (fun h => h1 h.1)]

/-- flat form of the cluster-count computation of `try_fs_layout` -/
theorem layoutClusters_eq (total spc reserved rds fats spf : Nat) :
    layoutClusters total spc reserved rds fats spf =
      if spf * fats < 4294967296 ∧ reserved ≤ total ∧ rds ≤ total - reserved ∧
         spf * fats ≤ total - reserved - rds ∧ ¬ spc = 0
      then .ok (clOf total spc reserved rds fats spf) else .error .panic := by
  unfold layoutClusters clOf
  by_cases h0 : spf * fats < 4294967296
  · rw [chkMul32_of_lt h0, ebind_ok]
    by_cases h1 : reserved ≤ total
    · rw [chkSub_of_le h1, ebind_ok]
      by_cases h2 : rds ≤ total - reserved
      · rw [chkSub_of_le h2, ebind_ok]
        by_cases h3 : spf * fats ≤ total - reserved - rds
        · rw [chkSub_of_le h3, ebind_ok]
          by_cases h4 : spc = 0
          · rw [chkDiv_of_eq h4, if_neg (fun h => h.2.2.2.2 h4)]
          · rw [chkDiv_of_ne h4, if_pos ⟨h0, h1, h2, h3, h4⟩]
        · rw [chkSub_of_lt h3, ebind_error, if_neg (fun h => h3 h.2.2.2.1)]
      · rw [chkSub_of_lt h2, ebind_error, if_neg (fun h => h2 h.2.2.1)]
    · rw [chkSub_of_lt h1, ebind_error, if_neg (fun h => h1 h.2.1)]
  · rw [chkMul32_of_ge h0, ebind_error, if_neg (fun h => h0 h.1)]

/-- none of the checked operations of `try_fs_layout` (before the final cluster-count checks) fails -/
def LayoutArithOk (total bps spc bits reserved rds fats : Nat) : Prop :=
  (reserved ≤ total ∧ rds ≤ total - reserved ∧
    1 ≤ total - reserved - rds + 2 * spc + t2Of bps spc bits fats ∧ ¬ t2Of bps spc bits fats = 0) ∧
  (spfOf total bps spc bits reserved rds fats * fats < 4294967296 ∧ reserved ≤ total ∧ rds ≤ total - reserved ∧
    spfOf total bps spc bits reserved rds fats * fats ≤ total - reserved - rds ∧ ¬ spc = 0)

instance (total bps spc bits reserved rds fats : Nat) : Decidable (LayoutArithOk total bps spc bits reserved rds fats) := by
  unfold LayoutArithOk; infer_instance

/-- `try_fs_layout` on every input: refused when too small, a panic exactly when one of its checked operations fails,
    else the verdict of the cluster-count checks -/
theorem tryFsLayout_eq (total bps spc : Nat) (ft : FatType) (rds fats : Nat) :
    tryFsLayout total bps spc ft rds fats =
      if total ≤ reservedFor ft + rds + 8 then .error .invalidInput
      else if LayoutArithOk total bps spc ft.bits (reservedFor ft) rds fats then
        checkClusters ft (reservedFor ft) (spfOf total bps spc ft.bits (reservedFor ft) rds fats)
          (clOf total spc (reservedFor ft) rds fats (spfOf total bps spc ft.bits (reservedFor ft) rds fats))
      else .error .panic := by
  unfold tryFsLayout
  rw [determineSectorsPerFat_eq]
  by_cases h0 : total ≤ reservedFor ft + rds + 8
  · rw [if_pos h0, if_pos h0]
  · rw [if_neg h0, if_neg h0]
    by_cases hA : LayoutArithOk total bps spc ft.bits (reservedFor ft) rds fats
    · rw [if_pos hA]
      have h1 := hA.1
      have h2 := hA.2
      rw [if_pos h1, ebind_ok, layoutClusters_eq, if_pos h2, ebind_ok]
    · rw [if_neg hA]
      by_cases h1 : reservedFor ft ≤ total ∧ rds ≤ total - reservedFor ft ∧
          1 ≤ total - reservedFor ft - rds + 2 * spc + t2Of bps spc ft.bits fats ∧ ¬ t2Of bps spc ft.bits fats = 0
      · rw [if_pos h1, ebind_ok, layoutClusters_eq, if_neg (fun h2 => hA ⟨h1, h2⟩), ebind_error]
      · rw [if_neg h1, ebind_error]

end FatVerif.Format
