import FatVerif.Proofs.FileSimFrame
import FatVerif.Proofs.DirEntry
/-!
# FileSim / entry: the record invariant `EntryRep` is carried through every operation of a history

`SlotApart`: the handle's slot is not a position its own `write` / `truncate` may modify (it lies in a directory, not in
the FAT, not in a cluster of the file, not in a free cluster).  `entry_carried`: a step summarised by `OpSummary` whose
editor moved by `EdStep` keeps `EntryRep` and `SlotApart`.  `execH_entry`: all six operations of `HOp`.
-/
namespace FatVerif.FileSim
open FatVerif FatVerif.Fat

/-- the slot of the handle is not among the positions its own `write` / `truncate` may modify -/
def SlotApart (fs : FsState) (img : Img) (f : FileH) (e : DirEntryEditor) : Prop :=
  ∀ q, e.pos ≤ q → q < e.pos + 32 → ¬ MayTouchData fs img f q

theorem apart_of_not_inCluster {fs : FsState} {c pos : Nat} (hcs : 0 < fs.clusterSize)
    (h : ∀ q, pos ≤ q → q < pos + 32 → ¬ InCluster fs c q) :
    pos + 32 ≤ clusterOff fs c ∨ clusterOff fs c + fs.clusterSize ≤ pos := by
  apply Classical.byContradiction
  intro hn
  by_cases hle : pos ≤ clusterOff fs c
  · exact h (clusterOff fs c) hle (by omega) ⟨Nat.le_refl _, by omega⟩
  · exact h pos (Nat.le_refl _) (by omega) ⟨by omega, by omega⟩

theorem firstOk_of_rep {fs : FsState} {img : Img} {f : FileH} (hg : Geo fs img.size) (hrep : FileRep fs img f) :
    FirstOk fs.fatType f.firstCluster := by
  intro c hc
  have hmem : c ∈ fileChain fs img f := by
    have := hrep.inv.first
    have h1 : (fileChain fs img f).head? = some c := by rw [← hc]; exact this.symm
    exact List.mem_of_head? h1
  obtain ⟨h2, ht⟩ := hrep.inTab c hmem
  have hs := hg.small
  refine ⟨by omega, ?_⟩
  cases hft : fs.fatType <;> rw [hft] at hs <;> simp only [badMark] at hs <;> simp <;> omega

/-- a summarised step whose editor moved by `EdStep` keeps the record invariant -/
theorem entry_carried {f f' : FileH} {d d' : Dev} {e : DirEntryEditor} (hsum : OpSummary f d f' d')
    (hwfd : d.img.WF) (hg : Geo d.fs d.img.size) (hrep' : FileRep d'.fs d'.img f')
    (he : EntryRep d.fs d.img f e) (hap : SlotApart d.fs d.img f e) (hst : EdStep d.fs.fatType f f')
    (hoff : f'.offset < 4294967296) :
    ∃ e', EntryRep d'.fs d'.img f' e' ∧ SlotApart d'.fs d'.img f' e' ∧ EdRel e e' := by
  have hgeo := hsum.step.geom
  have hg' : Geo d'.fs d'.img.size := by rw [hsum.step.size]; exact hg.frame hgeo
  obtain ⟨e', he', hrel, hwf, hfirst⟩ := hst.step e he.entry
  have hslot : ∀ q, e.pos ≤ q → q < e.pos + 32 → d'.img.getByte q = d.img.getByte q := by
    intro q h1 h2
    apply Classical.byContradiction
    intro hne
    exact hap q h1 h2 (hsum.diff hwfd q hne)
  refine ⟨e', ⟨he', hwf he.wf hoff, by rw [hrel.attrs]; exact he.notLfn, ?_, ?_, ?_, ?_, ?_⟩, ?_, hrel⟩
  · rw [hrel.pos, hsum.step.size]; exact he.inDev
  · rw [hrel.pos, hgeo.fatSlice]; exact he.offFat
  · intro c hc
    rw [hrel.pos, hgeo.clusterOff, hgeo.clusterSize]
    rcases hsum.chain c hc with h | h
    · exact he.offData c h
    · obtain ⟨a, b⟩ := hrep'.inTab c hc
      rw [hgeo.totalClusters] at b
      exact apart_of_not_inCluster hg.cs_pos (fun q h1 h2 hin => hap q h1 h2 (Or.inr (Or.inr (Or.inl ⟨c, ⟨a, b, h⟩, hin⟩))))
  · rw [hgeo.fatType]
    refine hfirst he.first ?_
    have := firstOk_of_rep hg' hrep'
    rw [hgeo.fatType] at this
    exact this
  · intro hcl
    have heq := hrel.clean hcl
    rw [heq] at hcl ⊢
    exact he.sync_of_slot hslot hcl
  · intro q h1 h2 hm
    rw [hrel.pos] at h1 h2
    exact hap q h1 h2 (mayTouchData_mono hsum hrep' hm)

theorem offset_lt_of_simInv {f : FileH} {d : Dev} (h : SimInv f d) : f.offset < 4294967296 := by
  have h1 := h.rep.inv.off_le
  have h2 := h.rep.inv.size_le
  have h3 : (absFile d.fs d.img f).offset = f.offset := rfl
  unfold Cursor.u32Max at h2
  omega

/-- one single call keeps the record invariant -/
theorem execH_entry_prim (op : HOp) (hp : op.isPrim) (f : FileH) (d : Dev) (h : SimInv f d) (hok : op.BytesOk)
    (e : DirEntryEditor) (he : EntryRep d.fs d.img f e) (hap : SlotApart d.fs d.img f e) :
    ∃ e', EntryRep (execH op f d).2.2.fs (execH op f d).2.2.img (execH op f d).2.1 e' ∧
      SlotApart (execH op f d).2.2.fs (execH op f d).2.2.img (execH op f d).2.1 e' ∧ EdRel e e' := by
  obtain ⟨hsum, hed⟩ := execH_prim op hp f d h hok
  have hsim' := (execH_refines_prim op hp f d h hok).1
  exact entry_carried hsum h.wf h.geo hsim'.rep he hap hed (offset_lt_of_simInv hsim')

/-- **every operation of a history keeps the record invariant**: the slot still lies inside the device, outside the
    FAT and the clusters of the (possibly grown) file; the record is well formed with the handle's first cluster; a
    clean editor still means the slot holds the record -/
theorem execH_entry (op : HOp) (f : FileH) (d : Dev) (h : SimInv f d) (hok : op.BytesOk)
    (e : DirEntryEditor) (he : EntryRep d.fs d.img f e) (hap : SlotApart d.fs d.img f e) :
    ∃ e', EntryRep (execH op f d).2.2.fs (execH op f d).2.2.img (execH op f d).2.1 e' ∧
      SlotApart (execH op f d).2.2.fs (execH op f d).2.2.img (execH op f d).2.1 e' ∧ EdRel e e' :=
  execH_lift (fun f d f' d' => ∀ e, EntryRep d.fs d.img f e → SlotApart d.fs d.img f e →
      ∃ e', EntryRep d'.fs d'.img f' e' ∧ SlotApart d'.fs d'.img f' e' ∧ EdRel e e')
    (fun _ _ e he hap => ⟨e, he, hap, EdRel.refl e⟩)
    (fun _ _ r1 r2 e he hap => by
      obtain ⟨e1, a1, a2, a3⟩ := r1 e he hap
      obtain ⟨e2, b1, b2, b3⟩ := r2 e1 a1 a2
      exact ⟨e2, b1, b2, a3.trans b3⟩)
    execH_entry_prim op f d h hok e he hap

end FatVerif.FileSim
