import FatVerif.Model.SlotTree
import FatVerif.Props.C16dir
/-!
# Slot trees: well-formedness, the side conditions on a path component and on a handle, and the one-directory correspondence

* `TreeWf up t`: every directory of `t` is `DirOk`: its slot list is `DirWf`, its children hang exactly on the listed
  entries (`Perm`), a child is a directory iff its entry has the directory attribute.
* `cfgOf u` / `upOf u`: the specification's configuration and the model's case folding for the build's upper-casing `u`
  (`Spec.foldName` applies ASCII upper-casing on top of `u`).
* `QAll up t q`: the hypothesis on a path component `q` given by the caller: any entry anywhere in `t` that answers to
  `q` answers by its NAME (not only by its 8.3 alias — the specification tree has no aliases; the run-time oracle
  translates such queries, `Spec.dealias`), and `q` is then an ordinary valid name (not `.`/`..`/empty/invalid).
* `Lock up t p`: along the resolution of the path `p` (a directory handle) no component answers only to an alias.
-/
namespace FatVerif
namespace SlotTree
open Lfn DirSlots DirAlias

/-! ## configuration -/

def validNameS (s : String) : Option Err :=
  match Names.validateLongName s with
  | .ok _ => none
  | .error e => some e

/-- the specification's configuration for a build whose `char_to_uppercase` is `u` -/
def cfgOf (u : Char → List Char) : Spec.TreeCfg := { upper := u, validName := validNameS }

/-- the case folding the specification compares names with (`u`, then ASCII upper-casing) -/
def upOf (u : Char → List Char) : Char → List Char := fun c => (u c).map Char.toUpper

theorem same_eq (u : Char → List Char) (a b : String) : (cfgOf u).same a b = sameName (upOf u) a b := by
  unfold Spec.TreeCfg.same Spec.foldName sameName Names.fold upOf cfgOf
  simp only
  rw [Bool.eq_iff_iff]
  simp only [beq_iff_eq]
  constructor
  · intro h
    have := congrArg String.toList h
    simpa using this
  · intro h; rw [h]

theorem sameName_iff (up : Char → List Char) (a b : String) :
    sameName up a b = true ↔ Names.fold up a.toList = Names.fold up b.toList := by
  unfold sameName; simp

theorem sameName_refl (up : Char → List Char) (a : String) : sameName up a a = true := by
  rw [sameName_iff]

theorem sameName_symm (up : Char → List Char) (a b : String) : sameName up a b = sameName up b a := by
  rw [Bool.eq_iff_iff, sameName_iff, sameName_iff]; exact eq_comm

/-! ## predicates over all directories of a tree -/

mutual
def Node.All (P : List (List Nat) → List (LfnEntry × Node) → Prop) : Node → Prop
  | .file _ => True
  | .dir s ch => P s ch ∧ allCh P ch
def allCh (P : List (List Nat) → List (LfnEntry × Node) → Prop) : List (LfnEntry × Node) → Prop
  | [] => True
  | (_, c) :: r => c.All P ∧ allCh P r
end

theorem allCh_iff (P : List (List Nat) → List (LfnEntry × Node) → Prop) (ch : List (LfnEntry × Node)) :
    allCh P ch ↔ ∀ x ∈ ch, x.2.All P := by
  induction ch with
  | nil => simp [allCh]
  | cons x r ih =>
    obtain ⟨e, c⟩ := x
    simp only [allCh, ih, List.mem_cons, forall_eq_or_imp]

theorem all_dir (P : List (List Nat) → List (LfnEntry × Node) → Prop) (s : List (List Nat))
    (ch : List (LfnEntry × Node)) : (Node.dir s ch).All P ↔ P s ch ∧ ∀ x ∈ ch, x.2.All P := by
  rw [Node.All, allCh_iff]

theorem all_file (P : List (List Nat) → List (LfnEntry × Node) → Prop) (c : List Nat) : (Node.file c).All P := by
  simp [Node.All]

/-- one directory: slot list well-formed, children = listed entries, kinds agree -/
structure DirOk (up : Char → List Char) (slots : List (List Nat)) (ch : List (LfnEntry × Node)) : Prop where
  wf : DirWf up slots
  perm : (ch.map (·.1)).Perm (listing slots)
  kind : ∀ x ∈ ch, Lfn.isDir x.1.sfn = x.2.isDir

def TreeWf (up : Char → List Char) (t : Node) : Prop := t.All (DirOk up)

/-- an entry answering to `q` answers by its name, and `q` is an ordinary valid name -/
def QHit (up : Char → List Char) (q : String) (slots : List (List Nat)) (_ : List (LfnEntry × Node)) : Prop :=
  ∀ e ∈ listing slots, matchesName up e q.toList = true →
    Names.fold up (entryNameL e) = Names.fold up q.toList ∧ Names.validateLongName q = .ok () ∧ isDotName q = false

/-- `QHit` in every directory of `t` -/
def QAll (up : Char → List Char) (t : Node) (q : String) : Prop := t.All (QHit up q)

/-- in this directory `q` answers to no alias -/
def NameHitOnly (up : Char → List Char) (slots : List (List Nat)) (q : String) : Prop :=
  ∀ e ∈ listing slots, matchesName up e q.toList = true → Names.fold up (entryNameL e) = Names.fold up q.toList

/-- along the resolution of the handle `p` every component is `NameHitOnly` in the directory it is looked up in -/
def Lock (up : Char → List Char) : Node → List String → Prop
  | _, [] => True
  | .file _, _ :: _ => True
  | .dir slots ch, q :: r => NameHitOnly up slots q ∧ ∀ x, lookupS up slots ch q = some x → Lock up x.2 r

/-! ## abstraction -/

theorem absCh_eq_map (ch : List (LfnEntry × Node)) : absCh ch = ch.map fun x => (entryName x.1, abs x.2) := by
  induction ch with
  | nil => rfl
  | cons x r ih => obtain ⟨e, c⟩ := x; simp [absCh, ih]

theorem abs_dir (s : List (List Nat)) (ch : List (LfnEntry × Node)) :
    abs (.dir s ch) = .dir (ch.map fun x => (entryName x.1, abs x.2)) := by
  rw [abs, absCh_eq_map]

theorem abs_isDir (n : Node) : (abs n).isDir = n.isDir := by
  cases n <;> simp [abs, Spec.TNode.isDir, Node.isDir]

/-! ## names -/

theorem allSome_eq_some (l : List (Option Char)) (long : List Char) : allSome l = some long ↔ l = long.map some := by
  induction l generalizing long with
  | nil => cases long <;> simp [allSome]
  | cons a r ih =>
    cases a with
    | none => cases long <;> simp [allSome]
    | some c =>
      cases long with
      | nil => simp [allSome]
      | cons d ds =>
        simp only [allSome, Option.map_eq_some_iff, List.map_cons, List.cons.injEq, Option.some.injEq]
        constructor
        · rintro ⟨x, hx, h1, h2⟩
          exact ⟨h1, by rw [← h2]; exact (ih x).1 hx⟩
        · rintro ⟨h1, h2⟩
          exact ⟨ds, (ih ds).2 h2, h1, rfl⟩

/-- an entry always answers to its own name -/
theorem matches_of_nameHit (up : Char → List Char) (e : LfnEntry) (q : List Char)
    (h : Names.fold up (entryNameL e) = Names.fold up q) : matchesName up e q = true := by
  unfold matchesName
  rw [C15.lookup_iff]
  unfold entryNameL at h
  split at h
  · exact Or.inr h.symm
  · rename_i hne
    split at h
    · rename_i long hl
      exact Or.inl ⟨by simpa using hne, long, (allSome_eq_some _ _).1 hl, h.symm⟩
    · exact Or.inr h.symm

theorem matches_self (up : Char → List Char) (e : LfnEntry) : matchesName up e (entryNameL e) = true :=
  matches_of_nameHit up e _ rfl

theorem matches_congr (up : Char → List Char) (e : LfnEntry) {q q' : List Char}
    (h : Names.fold up q = Names.fold up q') : matchesName up e q = matchesName up e q' :=
  C15.lookup_congr up _ _ h

theorem findEntry_congr (up : Char → List Char) (slots : List (List Nat)) {q q' : List Char}
    (h : Names.fold up q = Names.fold up q') : findEntry up slots q = findEntry up slots q' := by
  unfold findEntry
  congr 1
  funext e
  exact matches_congr up e h

theorem entryName_toList (e : LfnEntry) : (entryName e).toList = entryNameL e := by
  unfold entryName; simp

theorem _root_.FatVerif.DirSlots.UnitsOk.of_valid {name : String} (hv : Names.validateLongName name = .ok ()) :
    UnitsOk (Names.encodeUtf16 name.toList) :=
  let ⟨_, _, h1, h255, hu, hnz⟩ := valid_units (cs := name.toList) hv
  ⟨h1, h255, hu, hnz⟩

/-- the name of the entry `write_entry` makes for a valid name is that name -/
theorem entryName_new (name : String) (sfn : List Nat) (b e : Nat) (hv : Names.validateLongName name = .ok ()) :
    entryName ⟨sfn, Names.encodeUtf16 name.toList, b, e⟩ = name := by
  obtain ⟨_, _, h1, _, _, _⟩ := valid_units (cs := name.toList) hv
  unfold entryName entryNameL
  have hne : (Names.encodeUtf16 name.toList).isEmpty = false := by
    cases hx : Names.encodeUtf16 name.toList with
    | nil => rw [hx] at h1; simp at h1
    | cons _ _ => rfl
  simp only [hne, Bool.false_eq_true, if_false]
  rw [Names.decode_encode, (allSome_eq_some _ _).2 rfl]
  simp

theorem find_congr' {α : Type} {p q : α → Bool} : ∀ {l : List α}, (∀ x ∈ l, p x = q x) → l.find? p = l.find? q
  | [], _ => rfl
  | a :: r, h => by
    have ha := h a (by simp)
    have ih := find_congr' (l := r) (fun x hx => h x (by simp [hx]))
    simp only [List.find?_cons, ha, ih]

/-! ## one directory -/

section dir
variable {up : Char → List Char} {slots : List (List Nat)} {ch : List (LfnEntry × Node)}

theorem DirOk.mem_listing (h : DirOk up slots ch) {x : LfnEntry × Node} (hx : x ∈ ch) : x.1 ∈ listing slots :=
  h.perm.mem_iff.1 (List.mem_map.2 ⟨x, hx, rfl⟩)

theorem DirOk.keys_nodup (h : DirOk up slots ch) : (ch.map (·.1)).Nodup :=
  h.perm.nodup_iff.2 (listing_nodup slots h.wf.shape)

/-- the child found by key is THE pair with that key -/
theorem DirOk.find_key (h : DirOk up slots ch) {x : LfnEntry × Node} (hx : x ∈ ch) :
    ch.find? (fun y => y.1 == x.1) = some x := by
  have hn := h.keys_nodup
  clear h
  induction ch with
  | nil => simp at hx
  | cons y r ih =>
    rw [List.map_cons, List.nodup_cons] at hn
    rcases List.mem_cons.1 hx with rfl | hx
    · simp
    · have hne : y.1 ≠ x.1 := fun heq => hn.1 (heq ▸ List.mem_map.2 ⟨x, hx, rfl⟩)
      rw [List.find?_cons_of_neg (by simpa using hne)]
      exact ih hx hn.2

/-- a listed entry has its child -/
theorem DirOk.child_exists (h : DirOk up slots ch) {e : LfnEntry} (he : e ∈ listing slots) :
    ∃ c, (e, c) ∈ ch := by
  obtain ⟨x, hx, rfl⟩ := List.mem_map.1 (h.perm.mem_iff.2 he)
  exact ⟨x.2, hx⟩

/-- within a well-formed directory only the entry itself answers to its name -/
theorem DirOk.name_hits_self (h : DirOk up slots ch) {e e' : LfnEntry} (he : e ∈ listing slots)
    (he' : e' ∈ listing slots) (hm : matchesName up e' (entryNameL e) = true) : e' = e :=
  match_unique up _ h.wf.keys e' he' e he _ hm (matches_self up e)

theorem lookupS_some (h : DirOk up slots ch) {q : String} {x : LfnEntry × Node}
    (hl : lookupS up slots ch q = some x) :
    findEntry up slots q.toList = some x.1 ∧ x ∈ ch ∧ x.1 ∈ listing slots ∧ matchesName up x.1 q.toList = true := by
  unfold lookupS at hl
  cases hf : findEntry up slots q.toList with
  | none => rw [hf] at hl; cases hl
  | some e =>
    rw [hf] at hl
    have hx := List.mem_of_find?_eq_some hl
    have hk : x.1 = e := by simpa using List.find?_some hl
    obtain ⟨L1, L2, h1, h2, _⟩ := (findEntry_some_iff up slots _ e).1 hf
    exact ⟨by rw [hk], hx, h.mem_listing hx, by rw [hk]; exact h2⟩

theorem lookupS_of_find (h : DirOk up slots ch) {q : String} {e : LfnEntry}
    (hf : findEntry up slots q.toList = some e) : ∃ c, lookupS up slots ch q = some (e, c) ∧ (e, c) ∈ ch := by
  obtain ⟨L1, L2, h1, _, _⟩ := (findEntry_some_iff up slots _ e).1 hf
  obtain ⟨c, hc⟩ := h.child_exists (e := e) (by rw [h1]; simp)
  refine ⟨c, ?_, hc⟩
  unfold lookupS
  rw [hf]
  exact h.find_key hc

theorem lookupS_none (h : DirOk up slots ch) {q : String} (hl : lookupS up slots ch q = none) :
    findEntry up slots q.toList = none := by
  cases hf : findEntry up slots q.toList with
  | none => rfl
  | some e =>
    obtain ⟨c, hc, _⟩ := lookupS_of_find h hf
    rw [hc] at hl; cases hl

/-- a child is found under the name of its entry -/
theorem lookupS_self (h : DirOk up slots ch) {x : LfnEntry × Node} (hx : x ∈ ch) :
    lookupS up slots ch (entryName x.1) = some x := by
  have hf : findEntry up slots (entryName x.1).toList = some x.1 := by
    rw [entryName_toList]
    exact findEntry_unique up slots h.wf _ _ (h.mem_listing hx) (matches_self up x.1)
  unfold lookupS
  rw [hf]
  exact h.find_key hx

/-- a child found in one directory is found, under the same query, in every directory that has it -/
theorem lookupS_mono {slots' : List (List Nat)} {ch' : List (LfnEntry × Node)} (hd : DirOk up slots ch)
    (hd' : DirOk up slots' ch') {q : String} {x : LfnEntry × Node} (hx : lookupS up slots ch q = some x)
    (hm : x ∈ ch') : lookupS up slots' ch' q = some x := by
  unfold lookupS
  rw [findEntry_unique up _ hd'.wf _ _ (hd'.mem_listing hm) (lookupS_some hd hx).2.2.2]
  exact hd'.find_key hm

/-- **the one-directory correspondence**: for a query that answers to no alias in this directory, the specification's
    lookup among the abstracted children is the model's lookup in the slots -/
theorem find_corr (u : Char → List Char) (h : DirOk (upOf u) slots ch) (q : String)
    (hq : NameHitOnly (upOf u) slots q) :
    Spec.findEntry (cfgOf u) (abs (.dir slots ch)) q =
      (lookupS (upOf u) slots ch q).map fun x => (entryName x.1, abs x.2) := by
  unfold Spec.findEntry
  rw [abs_dir]
  simp only [Spec.TNode.children]
  rw [List.find?_map]
  have hpt : ∀ x ∈ ch, ((fun (p : String × Spec.TNode) => (cfgOf u).same p.1 q) ∘
      fun (x : LfnEntry × Node) => (entryName x.1, abs x.2)) x = matchesName (upOf u) x.1 q.toList := by
    intro x hx
    simp only [Function.comp]
    rw [same_eq, Bool.eq_iff_iff, sameName_iff, entryName_toList]
    exact ⟨matches_of_nameHit _ _ _, hq x.1 (h.mem_listing hx)⟩
  have hcongr : ch.find? ((fun (p : String × Spec.TNode) => (cfgOf u).same p.1 q) ∘
      fun (x : LfnEntry × Node) => (entryName x.1, abs x.2)) =
      ch.find? (fun x => matchesName (upOf u) x.1 q.toList) := find_congr' hpt
  have hgoal : ch.find? (fun x => matchesName (upOf u) x.1 q.toList) = lookupS (upOf u) slots ch q := by
    unfold lookupS
    cases hf : findEntry (upOf u) slots q.toList with
    | none =>
      rw [List.find?_eq_none]
      intro x hx
      have := (findEntry_none_iff _ slots _).1 hf x.1 (h.mem_listing hx)
      simp [this]
    | some e =>
      simp only
      apply find_congr'
      intro x hx
      obtain ⟨L1, L2, h1, h2, _⟩ := (findEntry_some_iff _ slots _ e).1 hf
      have he : e ∈ listing slots := by rw [h1]; simp
      rw [Bool.eq_iff_iff]
      constructor
      · intro hm
        have := match_unique _ _ h.wf.keys x.1 (h.mem_listing hx) e he _ hm h2
        simp [this]
      · intro hk
        have : x.1 = e := by simpa using hk
        rw [this]; exact h2
  have hfun : (fun (x : String × Spec.TNode) => match x with | (nm, _) => (cfgOf u).same nm q) =
      (fun (p : String × Spec.TNode) => (cfgOf u).same p.1 q) := by
    funext p; obtain ⟨a, b⟩ := p; rfl
  rw [hfun, hcongr, hgoal]

end dir

end SlotTree
end FatVerif
