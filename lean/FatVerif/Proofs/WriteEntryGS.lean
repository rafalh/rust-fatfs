import FatVerif.Proofs.WriteClassFile
/-! WHERE `write_entry` writes, for any class `C` of records: if the directory's stream appends only records of `C` and
    keeps the stream predicate `OK`, so do `find_free_entries`, the slot writes, the roll-back and `write_entry` itself
    (the lemmas `…_gsC`: `GS` at a class `C` left open). -/
namespace FatVerif

variable {fs0 : FsState} {sz : Nat} {C : Nat → List Nat → Prop} {OK : DirStream → Prop}
  (hS : StrmGS fs0 sz C DirStream.strm OK) (hdrop : ∀ st, OK st → GS fs0 sz C st.dropBody (fun _ => True))
include hS

theorem readSlot_gsC {st : DirStream} (hst : OK st) : GS fs0 sz C (readSlot st) (fun r => OK r.2) :=
  gs_iff_tri.2 (readSlot_tri (gsFrame fs0 sz) hS.tri hst)

theorem writeSlot_gsC {st : DirStream} (hst : OK st) (e : DirEntryData) : GS fs0 sz C (writeSlot st e) OK := by
  unfold writeSlot
  split
  · exact writeChunks_gs hS _ _ hst
  · exact writeChunks_gs hS _ _ hst

theorem findFreeLoop_gsC (num) : ∀ fuel st firstFree numFree i, OK st →
    GS fs0 sz C (findFreeLoop num fuel st firstFree numFree i) OK := by
  intro fuel
  induction fuel with
  | zero => intros; unfold findFreeLoop; exact GS.fail _
  | succ k ih =>
    intro st firstFree numFree i hst
    unfold findFreeLoop
    refine GS.bind (readSlot_gsC hS hst) ?_
    rintro ⟨raw, st'⟩ hst'
    dsimp only
    split
    · refine GS.bind (hS.seek _ _ hst') ?_
      rintro ⟨_, st2⟩ hst2; exact GS.pure hst2
    · split
      · try dsimp only
        split
        · refine GS.bind (hS.seek _ _ hst') ?_
          rintro ⟨_, st2⟩ hst2; exact GS.pure hst2
        · exact ih _ _ _ _ hst'
      · exact ih _ _ _ _ hst'

theorem writeSlotsKeep_gsC : ∀ slots st, OK st → GS fs0 sz C (writeSlotsKeep slots st) (fun r => OK r.2) := by
  intro slots
  induction slots with
  | nil => intro st hst; unfold writeSlotsKeep; exact GS.pure hst
  | cons e rest ih =>
    intro st hst
    unfold writeSlotsKeep
    refine GS.bind (Q := fun r => ∀ st', r = .ok st' → OK st') ?_ ?_
    · unfold Prog.attempt
      refine GS.tryCatch (GS.bind (writeSlot_gsC hS hst e) (fun st' hst' => GS.pure ?_)) (fun err => GS.pure ?_)
      · intro st2 h; cases h; exact hst'
      · intro st2 h; cases h
    · intro r hr
      split
      · exact ih _ (hr _ rfl)
      · exact GS.pure hst

theorem freeWrittenLoop_gsC : ∀ k st pos endPos, OK st → GS fs0 sz C (freeWrittenLoop k st pos endPos) OK := by
  intro k
  induction k with
  | zero => intro st pos endPos hst; unfold freeWrittenLoop; exact GS.pure hst
  | succ k ih =>
    intro st pos endPos hst
    unfold freeWrittenLoop
    split
    · refine GS.bind (hS.seek _ _ hst) ?_
      rintro ⟨_, st1⟩ hst1
      dsimp only
      exact GS.bind (writeAll_gs hS _ _ hst1) (fun st2 hst2 => ih _ _ _ hst2)
    · exact GS.pure hst

theorem freeWrittenEntries_gsC {st : DirStream} (hst : OK st) (startPos : Nat) :
    GS fs0 sz C (freeWrittenEntries st startPos) (fun _ => True) := by
  unfold freeWrittenEntries
  refine GS.bind (hS.seek _ _ hst) ?_
  rintro ⟨endPos, st1⟩ hst1
  dsimp only
  exact GS.bind (freeWrittenLoop_gsC hS _ _ _ _ hst1) (fun _ _ => GS.pure trivial)

include hdrop

theorem findFreeEntries_gsC {d : DirStream} (hd : OK d) (num : Nat) : GS fs0 sz C (findFreeEntries d num) OK := by
  unfold findFreeEntries
  refine GS.bind GS.getFs (fun fs _ => ?_)
  exact GS.finallyDrop (findFreeLoop_gsC hS _ _ _ _ _ _ hd) (fun _ _ => GS.pure trivial) (hdrop _ hd)

theorem writeEntry_gsC {d : DirStream} (hd : OK d) (name : String) (raw : DirFileEntryData) :
    GS fs0 sz C (writeEntry d name raw) (fun _ => True) := by
  unfold writeEntry
  split
  · exact GS.fail _
  · refine GS.bind GS.getFs (fun fs _ => ?_)
    dsimp only
    refine GS.bind (findFreeEntries_gsC hS hdrop hd _) (fun st0 hst0 => ?_)
    refine GS.bind (Q := fun r => OK r.2) ?_ ?_
    · exact GS.finallyDrop (hS.seek _ _ hst0) (fun _ _ => GS.pure trivial) (hdrop _ hst0)
    · rintro ⟨startPos, st⟩ hst
      dsimp only
      refine GS.bind (writeSlotsKeep_gsC hS _ _ hst) ?_
      rintro ⟨err, st'⟩ hst'
      dsimp only
      split
      · unfold thenDrop
        exact GS.finallyDrop (GS.bind (freeWrittenEntries_gsC hS hst' _) (fun _ _ => GS.fail _))
          (fun _ _ => hdrop _ hst') (hdrop _ hst')
      · unfold thenDrop
        refine GS.finallyDrop ?_ (fun _ _ => hdrop _ hst') (hdrop _ hst')
        refine GS.bind (hS.seek _ _ hst') ?_
        rintro ⟨endPos, st2⟩ _
        refine GS.bind (GS.of_quiet (DirStream.absPos_quiet _ _)) (fun endAbs _ => ?_)
        split
        · exact GS.fail _
        · exact GS.pure trivial


end FatVerif
