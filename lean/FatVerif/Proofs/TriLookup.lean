import FatVerif.Proofs.QuietModel
/-! The read side of `io.rs` and the directory lookups of `dir.rs`, traversed once for every instance of `Tri`: for any
    relation `R` that admits quiet steps, any precondition `P` that `R`-steps keep, and any invariant `Inv` of the
    stream state that the stream's `read` and `seek` keep (`StrmTri`) and from which the destructor of a directory
    handle is harmless (bundled for the lookups as `DirFrame`). `RO` takes `Inv := CleanStream` (Proofs/ReadOnlyDir.lean), `GS` takes
    `Inv := DirOK fs0` (Proofs/WriteClassDir.lean). -/
namespace FatVerif

theorem DirStream.absPos_quiet (fs) (st : DirStream) : QuietOps (st.absPos fs) := by
  unfold DirStream.absPos; quiet [FileH.absPos_quiet]


/-- a stream whose `read` and `seek` keep an invariant of the stream state -/
structure StrmTri {σ} (R : Dev → Dev → Prop) (P : Dev → Prop) (S : Strm σ) (Inv : σ → Prop) : Prop where
  read : ∀ s n, Inv s → Tri R P (S.read s n) (fun r _ => Inv r.2)
  seek : ∀ s p, Inv s → Tri R P (S.seek s p) (fun r _ => Inv r.2)

section generic
variable {R : Dev → Dev → Prop} {P : Dev → Prop} (hF : Frame R P)
include hF

section strm
variable {σ : Type} {S : Strm σ} {Inv : σ → Prop} (hS : StrmTri R P S Inv)
include hS

theorem readExactLoop_tri : ∀ fuel s n acc, Inv s → Tri R P (readExactLoop S fuel s n acc) (fun r _ => Inv r.2) := by
  intro fuel
  induction fuel with
  | zero => intros; unfold readExactLoop; exact Tri.fail hF.rel _
  | succ k ih =>
    intro s n acc hs
    unfold readExactLoop
    split
    · exact Tri.pureV hF.rel hs
    · refine Tri.bindV hF (hS.read s n hs) ?_
      rintro ⟨got, s'⟩ hs'
      dsimp only
      split
      · exact Tri.fail hF.rel _
      · exact ih _ _ _ hs'

theorem readExact_tri (s n) (hs : Inv s) : Tri R P (readExact S s n) (fun r _ => Inv r.2) :=
  readExactLoop_tri hF hS _ _ _ _ hs

theorem readU8_tri (s) (hs : Inv s) : Tri R P (readU8 S s) (fun r _ => Inv r.2) := by
  unfold readU8
  refine Tri.bindV hF (readExact_tri hF hS s 1 hs) ?_
  rintro ⟨bs, s'⟩ hs'
  exact Tri.pureV hF.rel hs'

theorem readChunks_tri : ∀ ns s acc, Inv s → Tri R P (readChunks S s ns acc) (fun r _ => Inv r.2) := by
  intro ns
  induction ns with
  | nil => intro s acc hs; unfold readChunks; exact Tri.pureV hF.rel hs
  | cons n rest ih =>
    intro s acc hs
    unfold readChunks
    refine Tri.bindV hF (readExact_tri hF hS s n hs) ?_
    rintro ⟨bs, s'⟩ hs'
    exact ih _ _ hs'

end strm

section dir
variable {Inv : DirStream → Prop} (hS : StrmTri R P DirStream.strm Inv)
include hS

/-- `DirEntryData::deserialize`: the handler turns `UnexpectedEof` into "no slot" and re-raises the rest -/
theorem readSlot_tri {st : DirStream} (hst : Inv st) : Tri R P (readSlot st) (fun r _ => Inv r.2) := by
  unfold readSlot
  refine Tri.bindV (Q := fun r => ∀ p, r = some p → Inv p.2) hF ?_ ?_
  · refine Tri.tryCatch hF ?_ ?_
    · refine Tri.bindV hF (readExact_tri hF hS st 11 hst) ?_
      rintro ⟨bs, st'⟩ hst'
      refine Tri.pureV hF.rel ?_
      intro p hp; cases hp; exact hst'
    · intro e
      split
      · refine Tri.pureV hF.rel ?_
        intro p hp; cases hp
      · exact Tri.fail hF.rel _
  · intro r hr
    split
    · exact Tri.pureV hF.rel hst
    · rename_i name st'
      have hst' : Inv st' := hr _ rfl
      refine Tri.bindV hF (readU8_tri hF hS st' hst') ?_
      rintro ⟨attrs, st2⟩ hst2
      refine Tri.bindV hF (readChunks_tri hF hS _ st2 [] hst2) ?_
      rintro ⟨tail, st3⟩ hst3
      exact Tri.pureV hF.rel hst3

end dir

section drop
variable {Inv : DirStream → Prop} (hdrop : ∀ st, Inv st → Tri R P st.dropBody (fun _ _ => True))
include hdrop

/-- run on a clone: the destructor of the clone starts from the invariant the body kept -/
theorem withStream_tri {α} {st0 : DirStream} (h0 : Inv st0) {body : Prog (α × DirStream)}
    (hb : Tri R P body (fun r _ => Inv r.2)) : Tri R P (withStream st0 body) (fun _ _ => True) := by
  unfold withStream
  refine Tri.bindV (Q := fun r => Inv r.2) hF (Tri.finallyDropV hF hb ?_ (hdrop _ h0)) (fun _ _ => ?_)
  · rintro ⟨a, st⟩ hst; exact hdrop _ hst
  · split; exact Tri.pureV hF.rel trivial

end drop

end generic

/-- what the directory lookups need of a judgement: quiet steps are admitted, the methods of a directory stream keep
    `Inv`, and from `Inv` the destructor of a directory handle is harmless -/
structure DirFrame (R : Dev → Dev → Prop) (P : Dev → Prop) (Inv : DirStream → Prop) : Prop where
  frame : Frame R P
  quiet : ∀ d d', QuietRel d d' → R d d'
  strm : StrmTri R P DirStream.strm Inv
  drop : ∀ st, Inv st → Tri R P st.dropBody (fun _ _ => True)

section lookup
variable {R : Dev → Dev → Prop} {P : Dev → Prop} {Inv : DirStream → Prop} (h : DirFrame R P Inv)
include h

theorem readDirEntryLoop_tri (alloc skipVolume : Bool) : ∀ fuel st offset beginOff b, Inv st →
    Tri R P (readDirEntryLoop alloc skipVolume fuel st offset beginOff b) (fun r _ => Inv r.2) := by
  intro fuel
  induction fuel with
  | zero => intros; unfold readDirEntryLoop; exact Tri.fail h.frame.rel _
  | succ k ih =>
    intro st offset beginOff b hst
    unfold readDirEntryLoop
    refine Tri.bindV h.frame (readSlot_tri h.frame h.strm hst) ?_
    rintro ⟨raw, st'⟩ hst'
    dsimp only
    split
    · exact Tri.pureV h.frame.rel hst'
    · split
      · split
        · exact ih _ _ _ _ hst'
        · refine Tri.bindGetFs (F := fun _ => True) (fun _ _ => trivial) (fun fs _ => ?_)
          refine Tri.bindV h.frame (Tri.of_quiet h.quiet (DirStream.absPos_quiet fs st')) (fun endAbs _ => ?_)
          split
          · exact Tri.fail h.frame.rel _
          · split
            · exact Tri.fail h.frame.rel _
            · exact Tri.pureV h.frame.rel hst'
      · split
        · exact ih _ _ _ _ hst'
        · exact ih _ _ _ _ hst'

theorem readDirEntry_tri (skipVolume : Bool) {st : DirStream} (hst : Inv st) :
    Tri R P (readDirEntry skipVolume st) (fun r _ => Inv r.2) := by
  unfold readDirEntry
  refine Tri.bindGetFs (F := fun _ => True) (fun _ _ => trivial) (fun fs _ => ?_)
  refine Tri.bindV h.frame (h.strm.seek st _ hst) ?_
  rintro ⟨offset, st'⟩ hst'
  exact readDirEntryLoop_tri h _ _ _ _ _ _ _ hst'

theorem findEntryLoop_tri (env name isDir) : ∀ fuel st gen, Inv st →
    Tri R P (findEntryLoop env name isDir fuel st gen) (fun r _ => Inv r.2) := by
  intro fuel
  induction fuel with
  | zero => intros; unfold findEntryLoop; exact Tri.fail h.frame.rel _
  | succ k ih =>
    intro st gen hst
    unfold findEntryLoop
    refine Tri.bindV h.frame (readDirEntry_tri h true hst) ?_
    rintro ⟨r, st'⟩ hst'
    dsimp only
    split
    · exact Tri.pureV h.frame.rel hst'
    · split
      · split
        · exact Tri.pureV h.frame.rel hst'
        · exact Tri.pureV h.frame.rel hst'
      · exact ih _ _ hst'

theorem listLoop_tri : ∀ fuel st acc, Inv st → Tri R P (listLoop fuel st acc) (fun r _ => Inv r.2) := by
  intro fuel
  induction fuel with
  | zero => intros; unfold listLoop; exact Tri.fail h.frame.rel _
  | succ k ih =>
    intro st acc hst
    unfold listLoop
    refine Tri.bindV h.frame (readDirEntry_tri h true hst) ?_
    rintro ⟨r, st'⟩ hst'
    dsimp only
    split
    · exact Tri.pureV h.frame.rel hst'
    · exact ih _ _ hst'

theorem findVolumeLoop_tri : ∀ fuel st, Inv st → Tri R P (findVolumeLoop fuel st) (fun r _ => Inv r.2) := by
  intro fuel
  induction fuel with
  | zero => intros; unfold findVolumeLoop; exact Tri.fail h.frame.rel _
  | succ k ih =>
    intro st hst
    unfold findVolumeLoop
    refine Tri.bindV h.frame (readDirEntry_tri h false hst) ?_
    rintro ⟨r, st'⟩ hst'
    dsimp only
    split
    · exact Tri.pureV h.frame.rel hst'
    · split
      · exact Tri.pureV h.frame.rel hst'
      · exact ih _ hst'

theorem findEntryG_tri (env) {d : DirStream} (hd : Inv d) (name isDir gen) :
    Tri R P (findEntryG env d name isDir gen) (fun _ _ => True) := by
  unfold findEntryG
  exact Tri.bindGetFs (F := fun _ => True) (fun _ _ => trivial)
    (fun fs _ => withStream_tri h.frame h.drop hd (findEntryLoop_tri h _ _ _ _ _ _ hd))

theorem findEntry_tri (env) {d : DirStream} (hd : Inv d) (name isDir) :
    Tri R P (findEntry env d name isDir) (fun _ _ => True) := by
  unfold findEntry
  refine Tri.bindV (Q := fun _ => True) h.frame (findEntryG_tri h env hd name isDir none) ?_
  rintro ⟨r, g⟩ _
  dsimp only
  split
  · exact Tri.pureV h.frame.rel trivial
  · exact Tri.fail h.frame.rel _

theorem listDir_tri {d : DirStream} (hd : Inv d) : Tri R P (listDir d) (fun _ _ => True) := by
  unfold listDir
  exact Tri.bindGetFs (F := fun _ => True) (fun _ _ => trivial)
    (fun fs _ => withStream_tri h.frame h.drop hd (listLoop_tri h _ _ _ hd))

theorem findVolumeEntry_tri {d : DirStream} (hd : Inv d) : Tri R P (findVolumeEntry d) (fun _ _ => True) := by
  unfold findVolumeEntry
  exact Tri.bindGetFs (F := fun _ => True) (fun _ _ => trivial)
    (fun fs _ => withStream_tri h.frame h.drop hd (findVolumeLoop_tri h _ _ hd))

end lookup


end FatVerif
