import FatVerif.Proofs.FileSimIter
import FatVerif.Props.C01sim
/-! `FileSim.Geo` and `DirSim.RootReadable` from the layout numbers of a mounted state: the one place where the byte
    arithmetic of the FAT window, the fixed root region and the data region is done, for a foreign volume
    (`DecodeAgree.geo_of_valid`, `rootReadable_of_valid`) and for the volume `format_volume` wrote (`C06vol.Fresh.geo`,
    `C06root`) alike. -/
namespace FatVerif.FileSim
open FatVerif FatVerif.Fat

/-- a table of `Z` bytes holds `Z * 8 / bits` entries -/
theorem ent_fits (ft : FatType) {c n Z : Nat} (hc : c < n) (hcap : n ≤ Z * 8 / ft.bits) :
    entOff ft c + entWidth ft ≤ Z := by
  cases ft <;> simp only [entOff, entWidth, FatType.bits] at * <;> omega

/-- `FatType::from_clusters` picks a width whose BAD mark lies above every cluster number -/
theorem badMark_fromClusters {n : Nat} (h : n ≤ 0x0FFFFFF4) : n + 2 ≤ badMark (FatType.fromClusters n) := by
  unfold FatType.fromClusters
  split
  · simp only [badMark]; omega
  · split <;> simp only [badMark] <;> omega

/-- the regions of a volume in sectors — reserved, FATs, (root,) data, in this order inside `totalSectors`, which the
    device holds — and the FAT's capacity give the layout in bytes. With mirroring off the window is the active copy. -/
theorem Geo.of_layout {fs : FsState} {sz : Nat} (hB : 512 ≤ fs.bps) (hS : 1 ≤ fs.spc) (hR : 1 ≤ fs.reserved)
    (hF : 1 ≤ fs.fats) (hA : fs.mirroring = false → fs.activeFat < fs.fats)
    (hfat : fs.reserved + fs.fats * fs.spf ≤ fs.firstDataSector)
    (hfit : fs.firstDataSector + fs.totalClusters * fs.spc ≤ fs.totalSectors) (h32 : fs.totalSectors < 4294967296)
    (hdev : fs.totalSectors * fs.bps ≤ sz) (hcap : fs.totalClusters + 2 ≤ fs.spf * fs.bps * 8 / fs.fatType.bits)
    (h4g : fs.spf * fs.bps ≤ 4294967296) (hsmall : fs.totalClusters + 2 ≤ badMark fs.fatType) : Geo fs sz := by
  have hRB : 512 ≤ fs.reserved * fs.bps := Nat.le_trans hB (Nat.le_mul_of_pos_left _ hR)
  -- the window `[beginOff, beginOff + mirrors * size)` is one or all of the `fats` copies behind the reserved sectors
  have hwin : (fatSliceOf fs).size = fs.spf * fs.bps ∧ 1 ≤ (fatSliceOf fs).mirrors ∧
      fs.reserved * fs.bps ≤ (fatSliceOf fs).beginOff ∧
      (fatSliceOf fs).beginOff + (fatSliceOf fs).mirrors * (fatSliceOf fs).size ≤
        (fs.reserved + fs.fats * fs.spf) * fs.bps := by
    unfold fatSliceOf
    cases hm : fs.mirroring
    · rw [if_neg Bool.false_ne_true]
      have h1 : fs.reserved + fs.activeFat * fs.spf + 1 * fs.spf ≤ fs.reserved + fs.fats * fs.spf := by
        have := Nat.mul_le_mul_right fs.spf (hA hm)
        rw [Nat.succ_mul] at this; omega
      have h2 := Nat.mul_le_mul_right fs.bps h1
      rw [Nat.add_mul _ _ fs.bps, Nat.mul_assoc 1] at h2
      exact ⟨rfl, Nat.le_refl _, Nat.mul_le_mul_right _ (Nat.le_add_right _ _), h2⟩
    · rw [if_pos rfl, Nat.add_mul, Nat.mul_assoc]
      exact ⟨rfl, hF, Nat.le_refl _, Nat.le_refl _⟩
  obtain ⟨hsz, hmir, hbeg, hend⟩ := hwin
  have hfatB := Nat.mul_le_mul_right fs.bps hfat
  have hfitB := Nat.mul_le_mul_right fs.bps hfit
  refine ⟨by omega, by omega, by omega, fun c hc => ?_, hmir, by omega, ?_, by omega, by omega,
    by rw [hsz]; exact h4g, hsmall⟩
  · rw [hsz]; exact ent_fits _ hc hcap
  · show (fs.firstDataSector + (fs.totalClusters + 2 - 2) * fs.spc) * fs.bps ≤ sz
    rw [Nat.add_sub_cancel]; omega

end FatVerif.FileSim

namespace FatVerif.DirSim

/-- the fixed root region — the `rootDirSectors` sectors before the data region, sectors of `m` slots — lies inside a
    device that holds the volume up to its data region, and has fewer slots than the scan fuel, because
    `rootDirSectors` is `rootEntries * 32` rounded up to sectors -/
theorem RootReadable.of_layout {d : Dev} {m : Nat} (hfa : d.failAt = none) (hm : d.fs.bps = 32 * m)
    (hS : 1 ≤ d.fs.spc) (hrds : d.fs.rootDirSectors ≤ d.fs.firstDataSector)
    (hdev : d.fs.firstDataSector * d.fs.bps ≤ d.img.size)
    (hroot : d.fs.rootDirSectors * d.fs.bps ≤ d.fs.rootEntries * 32 + d.fs.bps - 1) :
    RootReadable d (d.fs.rootDirSectors * m) := by
  have hslots : d.fs.rootDirSectors * d.fs.bps = 32 * (d.fs.rootDirSectors * m) := by
    rw [hm, ← Nat.mul_assoc, Nat.mul_comm d.fs.rootDirSectors 32, Nat.mul_assoc]
  refine ⟨hfa, ?_, hslots, ?_⟩
  · show (d.fs.firstDataSector - d.fs.rootDirSectors) * d.fs.bps + d.fs.rootDirSectors * d.fs.bps ≤ _
    rw [← Nat.add_mul, Nat.sub_add_cancel hrds]; exact hdev
  · show _ < (d.fs.totalClusters + 2) * (d.fs.bps * d.fs.spc / 32) + d.fs.rootEntries + 64
    have h2 : m ≤ d.fs.bps * d.fs.spc / 32 := by
      rw [hm, Nat.mul_assoc, Nat.mul_div_cancel_left _ (by omega)]
      exact Nat.le_mul_of_pos_right _ hS
    have h3 : 2 * (d.fs.bps * d.fs.spc / 32) ≤ (d.fs.totalClusters + 2) * (d.fs.bps * d.fs.spc / 32) :=
      Nat.mul_le_mul_right _ (by omega)
    rw [hslots, hm] at hroot
    omega

end FatVerif.DirSim
