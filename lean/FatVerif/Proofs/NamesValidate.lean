import FatVerif.Model.Names
/-! Lemmas for C15.1: `validate_long_name` against the specification's character set. -/
namespace FatVerif.Names

theorem longCharOk_small : ∀ n < 128, (longCharOk n = true ↔
    (0x20 ≤ n ∧ n ≤ 0xFFFF ∧ n ≠ 0x7F ∧ n ∉ forbiddenLong)) := by decide +kernel

theorem longCharOk_iff (c : Char) : longCharOk c.toNat = true ↔ InCharset c := by
  unfold InCharset
  by_cases h : c.toNat < 128
  · exact longCharOk_small _ h
  · have hf : c.toNat ∉ forbiddenLong := by
      simp only [forbiddenLong, List.mem_cons, List.not_mem_nil, or_false]; omega
    simp only [longCharOk, Bool.or_eq_true, Bool.and_eq_true, decide_eq_true_eq, List.contains_eq_mem,
      List.mem_cons, List.not_mem_nil, or_false]
    constructor
    · intro _; refine ⟨by omega, ?_, by omega, hf⟩; omega
    · intro ⟨_, h2, _, _⟩; omega

theorem utf8Len_pos_of_ne_nil : ∀ {cs : List Char}, cs ≠ [] → 1 ≤ utf8Len cs
  | c :: cs, _ => by have := c.utf8Size_pos; simp [utf8Len]; omega

theorem utf8Len_eq_zero_iff (cs : List Char) : utf8Len cs = 0 ↔ cs = [] := by
  constructor
  · intro h; by_cases hn : cs = []
    · exact hn
    · have := utf8Len_pos_of_ne_nil hn; omega
  · rintro rfl; rfl

theorem all_ok_iff (cs : List Char) :
    cs.all (fun c => longCharOk c.toNat) = true ↔ ∀ c ∈ cs, InCharset c := by
  simp [List.all_eq_true, longCharOk_iff]

/-- the model's byte length is the real UTF-8 length of the string -/
theorem utf8Len_ofList (l : List Char) : (String.ofList l).utf8ByteSize = utf8Len l := by
  induction l with
  | nil => rfl
  | cons c cs ih => simp [utf8Len, ← ih]

theorem utf8Len_toList (s : String) : utf8Len s.toList = s.utf8ByteSize := by
  rw [← utf8Len_ofList, String.ofList_toList]

/-- `validate_long_name` in the order of the specification: length first, then the character set -/
theorem validateL_eq (cs : List Char) : validateLongNameL cs =
    if utf8Len cs = 0 ∨ 255 < utf8Len cs then .error .nameLen
    else if ∀ c ∈ cs, InCharset c then .ok () else .error .nameChar := by
  unfold validateLongNameL
  simp only [List.isEmpty_iff, ← utf8Len_eq_zero_iff, all_ok_iff]
  by_cases h0 : utf8Len cs = 0
  · rw [if_pos h0, if_pos (.inl h0)]
  · by_cases h1 : utf8Len cs > 255
    · rw [if_neg h0, if_pos h1, if_pos (.inr h1)]
    · rw [if_neg h0, if_neg h1, if_neg (show ¬ (utf8Len cs = 0 ∨ 255 < utf8Len cs) by omega)]

theorem validateL_ok_iff (cs : List Char) :
    validateLongNameL cs = .ok () ↔ 1 ≤ utf8Len cs ∧ utf8Len cs ≤ 255 ∧ ∀ c ∈ cs, InCharset c := by
  rw [validateL_eq]
  repeat' split
  all_goals simp_all <;> omega

theorem validateL_nameLen_iff (cs : List Char) :
    validateLongNameL cs = .error .nameLen ↔ utf8Len cs = 0 ∨ 255 < utf8Len cs := by
  rw [validateL_eq]
  repeat' split
  all_goals simp_all

theorem validateL_nameChar_iff (cs : List Char) :
    validateLongNameL cs = .error .nameChar ↔
      1 ≤ utf8Len cs ∧ utf8Len cs ≤ 255 ∧ ¬ ∀ c ∈ cs, InCharset c := by
  rw [validateL_eq]
  repeat' split
  all_goals simp_all <;> omega

end FatVerif.Names
