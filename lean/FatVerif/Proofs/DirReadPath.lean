import FatVerif.Proofs.DirReadEntries
/-! Directory reads: PATH WALKS. A `DirView` packages a readable directory (a `DirSrc` starting at the given stream,
    inside the scan fuel); `ResolvesTo` / `ResolveFails` are the pure path resolution over the listings of the image;
    `open_dir` / `open_file` evaluate to what it finds, or fail with its error (a component missing or of the wrong
    kind, or the fuel exhausted). -/
namespace FatVerif.DirSim
open DirAlias

/-- a readable directory starting at the stream `st` -/
structure DirView (d : Dev) (st : DirStream) where
  S : Nat → DirStream
  N : Nat
  src : Nat → Nat
  room : Nat → Nat
  start : st = S 0
  dir : DirSrc d S N src room
  fuel : N < dirFuel d.fs

namespace DirView
variable {d : Dev} {st : DirStream}

/-- the entries the pure reader finds in the slots of the directory in the image -/
def lfnEntries (V : DirView d st) : List LfnEntry := readDirEntries d.fs.lfnAlloc true (srcSlots d.img V.src V.N)

/-- `find_entry(name, is_dir)` as a function of the image -/
def lookup (V : DirView d st) (env : Env) (name : String) (isDir : Option Bool) : Except Err DirEntry :=
  (lookupL env.upper name.toList isDir V.lfnEntries).map (toDirEntryS V.src)

/-- `find_entry(..)?` on a view evaluates to `lookup` -/
theorem findEntry_sim (V : DirView d st) (env : Env) (name : String) (isDir : Option Bool) (d1 : Dev)
    (hv : SameVol d d1) :
    Outcome (findEntry env st name isDir) d1 id (V.lookup env name isDir) := by
  obtain ⟨S, N, src, room, start, dir, fuel⟩ := V
  subst start
  unfold lookup lfnEntries
  simp only
  cases hl : lookupL env.upper name.toList isDir (readDirEntries d.fs.lfnAlloc true (srcSlots d.img src N)) with
  | ok e => exact dir.toK.findEntry_ok fuel env name isDir hl d1 hv
  | error err => exact dir.toK.findEntry_error fuel env name isDir hl d1 hv

/-- what a successful lookup found: a listed entry answering to the name, of the requested kind -/
theorem lookup_ok (V : DirView d st) (env : Env) (name : String) (isDir : Option Bool) {e : DirEntry}
    (h : V.lookup env name isDir = .ok e) :
    ∃ le ∈ V.lfnEntries, e = toDirEntryS V.src le ∧ DirSlots.matchesName env.upper le name.toList = true ∧
      (∀ b, isDir = some b → e.isDir = b) := by
  unfold lookup at h
  cases hl : lookupL env.upper name.toList isDir V.lfnEntries with
  | error err => rw [hl] at h; cases h
  | ok le =>
    rw [hl] at h
    cases h
    obtain ⟨h1, h2, h3⟩ := lookupL_ok _ _ _ _ _ hl
    refine ⟨le, h1, rfl, h2, fun b hb => ?_⟩
    rw [toDirEntryS_isDir V.src le]
    exact h3 b hb

/-- the destructor of (a clone of) the directory's stream at its start -/
theorem drop_sim (V : DirView d st) (d1 : Dev) (hv : SameVol d d1) : Reads st.dropBody d1 () := by
  rw [V.start]; exact V.dir.drop d1 hv 0 (Nat.zero_le _)

end DirView

/-- the stream `to_dir` opens for a directory entry -/
def DirEntry.dirStream (fs : FsState) (e : DirEntry) : DirStream :=
  match e.firstCluster fs with
  | some n => .file (FileH.new (some n) (some e.editor))
  | none => rootDirStream fs

theorem toDir_sim (fs : FsState) (e : DirEntry) (h : e.isDir = true) (d1 : Dev) :
    Reads (e.toDir fs) d1 (DirEntry.dirStream fs e) := by
  unfold DirEntry.toDir
  rw [DirEntry.dirStream.eq_1, h]
  simp only [Bool.not_true, Bool.false_eq_true, if_false]
  cases e.firstCluster fs <;> exact Reads.pure _ d1

/-- one step down a path, `find_entry(name, Some(true))?.to_dir()`, for a name the view finds: the walk goes on with
    the stream of the directory found -/
theorem DirView.descend {d : Dev} {st : DirStream} (V : DirView d st) {env : Env} {name : String} {e : DirEntry}
    (hl : V.lookup env name (some true) = .ok e) {α β} {k : DirStream → Prog α} {f : β → α} {r : Except Err β}
    (d1 : Dev) (hv : SameVol d d1) (hk : ∀ d2, SameVol d d2 → Outcome (k (DirEntry.dirStream d.fs e)) d2 f r) :
    Outcome (Prog.bind (findEntry env st name (some true)) fun e => Prog.bind (e.toDir d.fs) k) d1 f r := by
  have hf := V.findEntry_sim env name (some true) d1 hv
  rw [hl] at hf
  obtain ⟨_, _, _, _, hdir⟩ := V.lookup_ok env _ _ hl
  exact Outcome.bind hf (fun d2 hs2 => Outcome.bind (toDir_sim d.fs _ (hdir true rfl) d2)
    (fun d3 hs3 => hk d3 ((hv.trans hs2).trans hs3)))

/-- a name the view does not find (or finds with the wrong kind): `find_entry(..)?` leaves with the error -/
theorem DirView.findEntry_fails {d : Dev} {st : DirStream} (V : DirView d st) {env : Env} {name : String}
    {kind : Option Bool} {err : Err} (hl : V.lookup env name kind = .error err) {α} {k : DirEntry → Prog α} (d1 : Dev)
    (hv : SameVol d d1) : FailsV (Prog.bind (findEntry env st name kind) k) d1 err := by
  have hf := V.findEntry_sim env name kind d1 hv
  rw [hl] at hf
  exact FailsV.bind_left hf

/-- **pure path resolution on the image**: every component but the last must be a directory with a readable listing
    (`DirView`); the last component is looked up with the kind filter `kind` -/
inductive ResolvesTo (d : Dev) (env : Env) (kind : Option Bool) : Nat → DirStream → String → DirEntry → Prop
  | last {fuel : Nat} {st : DirStream} {path name : String} {e : DirEntry} (hsp : Names.splitPath path = (name, none))
      (V : DirView d st) (hl : V.lookup env name kind = .ok e) : ResolvesTo d env kind (fuel + 1) st path e
  | step {fuel : Nat} {st : DirStream} {path name rest : String} {e e' : DirEntry}
      (hsp : Names.splitPath path = (name, some rest)) (V : DirView d st)
      (hl : V.lookup env name (some true) = .ok e)
      (hr : ResolvesTo d env kind fuel (DirEntry.dirStream d.fs e) rest e') : ResolvesTo d env kind (fuel + 1) st path e'

theorem ResolvesTo.view {d : Dev} {env : Env} {kind : Option Bool} {fuel : Nat} {st : DirStream} {path : String}
    {e : DirEntry} (h : ResolvesTo d env kind fuel st path e) : Nonempty (DirView d st) := by
  cases h with
  | last _ V _ => exact ⟨V⟩
  | step _ V _ _ => exact ⟨V⟩

theorem Reads.thenDrop {α} {st : DirStream} {body : Prog α} {d : Dev} {a : α} (h : Reads body d a)
    (hd : ∀ d1, SameVol d d1 → Reads st.dropBody d1 ()) : Reads (thenDrop st body) d a :=
  Reads.finallyDrop h hd

/-- **`open_dir`** = the pure resolution (last component a directory): the stream of the directory found -/
theorem openDir_sim {d : Dev} {env : Env} : ∀ {fuel : Nat} {st : DirStream} {path : String} {e : DirEntry},
    ResolvesTo d env (some true) fuel st path e → ∀ d1, SameVol d d1 →
    Reads (openDir env fuel st path) d1 (DirEntry.dirStream d.fs e) := by
  intro fuel st path e h
  induction h with
  | @last fuel st path name e hsp V hl =>
    intro d1 hv
    unfold openDir
    refine Reads.bind (Reads.getFs d1) (fun d2 hs2 => ?_)
    rw [hv.fs, hsp]
    exact V.descend hl (f := DirEntry.dirStream d.fs) (r := .ok e) d2 (hv.trans hs2) (fun d3 _ => Reads.pure _ d3)
  | @step fuel st path name rest e e' hsp V hl hr ih =>
    intro d1 hv
    unfold openDir
    refine Reads.bind (Reads.getFs d1) (fun d2 hs2 => ?_)
    rw [hv.fs, hsp]
    obtain ⟨V'⟩ := hr.view
    exact V.descend hl (f := DirEntry.dirStream d.fs) (r := .ok e') d2 (hv.trans hs2)
      (fun d3 hv3 => Reads.thenDrop (ih d3 hv3) (fun d4 hs4 => V'.drop_sim d4 (hv3.trans hs4)))

/-- **`open_file`** = the pure resolution (last component a file): the handle of the file found -/
theorem openFile_sim {d : Dev} {env : Env} : ∀ {fuel : Nat} {st : DirStream} {path : String} {e : DirEntry},
    ResolvesTo d env (some false) fuel st path e → ∀ d1, SameVol d d1 →
    Reads (openFile env fuel st path) d1 (FileH.new (e.firstCluster d.fs) (some e.editor)) := by
  intro fuel st path e h
  induction h with
  | @last fuel st path name e hsp V hl =>
    intro d1 hv
    unfold openFile
    refine Reads.bind (Reads.getFs d1) (fun d2 hs2 => ?_)
    rw [hv.fs, hsp]
    simp only
    have hf := V.findEntry_sim env name (some false) d2 (hv.trans hs2)
    rw [hl] at hf
    refine Reads.bind hf (fun d3 hs3 => ?_)
    obtain ⟨_, _, _, _, hk⟩ := V.lookup_ok env _ _ hl
    unfold DirEntry.toFile
    simp only [id, hk false rfl, Bool.false_eq_true, if_false]
    exact Reads.pure _ d3
  | @step fuel st path name rest e e' hsp V hl hr ih =>
    intro d1 hv
    unfold openFile
    refine Reads.bind (Reads.getFs d1) (fun d2 hs2 => ?_)
    rw [hv.fs, hsp]
    obtain ⟨V'⟩ := hr.view
    exact V.descend hl (f := fun e : DirEntry => FileH.new (e.firstCluster d.fs) (some e.editor)) (r := .ok e') d2
      (hv.trans hs2) (fun d3 hv3 => Reads.thenDrop (ih d3 hv3) (fun d4 hs4 => V'.drop_sim d4 (hv3.trans hs4)))

/-- **failing pure path resolution**: where and with which error the walk stops -/
inductive ResolveFails (d : Dev) (env : Env) (kind : Option Bool) : Nat → DirStream → String → Err → Prop
  | hang {st : DirStream} {path : String} : ResolveFails d env kind 0 st path .hang
  | last {fuel : Nat} {st : DirStream} {path name : String} {err : Err} (hsp : Names.splitPath path = (name, none))
      (V : DirView d st) (hl : V.lookup env name kind = .error err) : ResolveFails d env kind (fuel + 1) st path err
  | mid {fuel : Nat} {st : DirStream} {path name rest : String} {err : Err}
      (hsp : Names.splitPath path = (name, some rest)) (V : DirView d st)
      (hl : V.lookup env name (some true) = .error err) : ResolveFails d env kind (fuel + 1) st path err
  | step {fuel : Nat} {st : DirStream} {path name rest : String} {e : DirEntry} {err : Err}
      (hsp : Names.splitPath path = (name, some rest)) (V : DirView d st)
      (hl : V.lookup env name (some true) = .ok e) (V' : DirView d (DirEntry.dirStream d.fs e))
      (hr : ResolveFails d env kind fuel (DirEntry.dirStream d.fs e) rest err) :
      ResolveFails d env kind (fuel + 1) st path err

/-- **`open_dir`, failing**: the error of the pure resolution, the volume kept -/
theorem openDir_fails {d : Dev} {env : Env} : ∀ {fuel : Nat} {st : DirStream} {path : String} {err : Err},
    ResolveFails d env (some true) fuel st path err → ∀ d1, SameVol d d1 → FailsV (openDir env fuel st path) d1 err := by
  intro fuel st path err h
  induction h with
  | hang => intro d1 _; exact ⟨d1, rfl, SameVol.refl d1⟩
  | @last fuel st path name err hsp V hl =>
    intro d1 hv
    unfold openDir
    refine FailsV.bind_right (Reads.getFs d1) (fun d2 hs2 => ?_)
    rw [hv.fs, hsp]
    exact V.findEntry_fails hl d2 (hv.trans hs2)
  | @mid fuel st path name rest err hsp V hl =>
    intro d1 hv
    unfold openDir
    refine FailsV.bind_right (Reads.getFs d1) (fun d2 hs2 => ?_)
    rw [hv.fs, hsp]
    exact V.findEntry_fails hl d2 (hv.trans hs2)
  | @step fuel st path name rest e err hsp V hl V' hr ih =>
    intro d1 hv
    unfold openDir
    refine FailsV.bind_right (Reads.getFs d1) (fun d2 hs2 => ?_)
    rw [hv.fs, hsp]
    exact V.descend hl (f := id) (r := .error err) d2 (hv.trans hs2)
      (fun d3 hv3 => FailsV.finallyDrop (ih d3 hv3) (fun d4 hs4 => V'.drop_sim d4 (hv3.trans hs4)))

/-- **`open_file`, failing** -/
theorem openFile_fails {d : Dev} {env : Env} : ∀ {fuel : Nat} {st : DirStream} {path : String} {err : Err},
    ResolveFails d env (some false) fuel st path err → ∀ d1, SameVol d d1 →
    FailsV (openFile env fuel st path) d1 err := by
  intro fuel st path err h
  induction h with
  | hang => intro d1 _; exact ⟨d1, rfl, SameVol.refl d1⟩
  | @last fuel st path name err hsp V hl =>
    intro d1 hv
    unfold openFile
    refine FailsV.bind_right (Reads.getFs d1) (fun d2 hs2 => ?_)
    rw [hv.fs, hsp]
    exact V.findEntry_fails hl d2 (hv.trans hs2)
  | @mid fuel st path name rest err hsp V hl =>
    intro d1 hv
    unfold openFile
    refine FailsV.bind_right (Reads.getFs d1) (fun d2 hs2 => ?_)
    rw [hv.fs, hsp]
    exact V.findEntry_fails hl d2 (hv.trans hs2)
  | @step fuel st path name rest e err hsp V hl V' hr ih =>
    intro d1 hv
    unfold openFile
    refine FailsV.bind_right (Reads.getFs d1) (fun d2 hs2 => ?_)
    rw [hv.fs, hsp]
    exact V.descend hl (f := id) (r := .error err) d2 (hv.trans hs2)
      (fun d3 hv3 => FailsV.finallyDrop (ih d3 hv3) (fun d4 hs4 => V'.drop_sim d4 (hv3.trans hs4)))

end FatVerif.DirSim
