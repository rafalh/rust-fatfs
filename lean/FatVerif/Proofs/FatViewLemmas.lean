import FatVerif.Model.FatView
/-! View-level lemmas: the free-cluster scans, allocation, chains and chain freeing on `Nat → FatValue`. -/
namespace FatVerif.Fat

@[simp] theorem updV_same (g : Nat → FatValue) (c : Nat) (v : FatValue) : updV g c v c = v := by simp [updV]

theorem updV_ne (g : Nat → FatValue) (c i : Nat) (v : FatValue) (h : i ≠ c) : updV g c v i = g i := by
  simp [updV, h]

/-! ### scans -/

theorem findFreeV_some (g : Nat → FatValue) : ∀ len s c, findFreeV g s len = some c →
    s ≤ c ∧ c < s + len ∧ g c = .free ∧ ∀ i, s ≤ i → i < c → g i ≠ .free := by
  intro len
  induction len with
  | zero => intro s c h; simp [findFreeV] at h
  | succ len ih =>
    intro s c h
    simp only [findFreeV] at h
    split at h
    · rename_i hf; cases h; exact ⟨Nat.le_refl _, by omega, hf, fun i h1 h2 => by omega⟩
    · rename_i hf
      obtain ⟨a, b, c', d⟩ := ih _ _ h
      refine ⟨by omega, by omega, c', fun i h1 h2 => ?_⟩
      by_cases hi : i = s
      · subst hi; exact hf
      · exact d i (by omega) h2

theorem findFreeV_none (g : Nat → FatValue) : ∀ len s, findFreeV g s len = none →
    ∀ i, s ≤ i → i < s + len → g i ≠ .free := by
  intro len
  induction len with
  | zero => intro s _ i h1 h2; omega
  | succ len ih =>
    intro s h i h1 h2
    simp only [findFreeV] at h
    split at h
    · cases h
    · rename_i hf
      by_cases hi : i = s
      · subst hi; exact hf
      · exact ih _ h i (by omega) (by omega)

/-- the scan depends only on the entries it reads -/
theorem findFreeV_congr (g g' : Nat → FatValue) : ∀ len s, (∀ i, s ≤ i → i < s + len → g i = g' i) →
    findFreeV g s len = findFreeV g' s len := by
  intro len
  induction len with
  | zero => intro s _; rfl
  | succ len ih =>
    intro s h
    simp only [findFreeV]
    rw [h s (Nat.le_refl _) (by omega), ih (s + 1) (fun i h1 h2 => h i (by omega) (by omega))]

theorem allocStartV_le (hint : Option Nat) (total : Nat) : allocStartV hint total ≤ total + 2 := by
  unfold allocStartV
  cases hint with
  | none => simp
  | some n => simp only; split <;> omega

/-- `Some(n) if n < end_cluster` : the first scan never starts at `total+2` unless the volume has no clusters -/
theorem allocStartV_lt (hint : Option Nat) (total : Nat) (ht : 0 < total) : allocStartV hint total < total + 2 := by
  unfold allocStartV
  cases hint with
  | none => simp; omega
  | some n => simp only; split <;> omega

theorem allocStartV_ge (hint : Option Nat) (total : Nat) (hh : ∀ n, hint = some n → 2 ≤ n) :
    2 ≤ allocStartV hint total := by
  unfold allocStartV
  cases hint with
  | none => simp
  | some n => have := hh n rfl; simp only; split <;> omega

/-- whatever the hint: the result is below `total+2` and was free -/
theorem allocFindV_some_lt (g : Nat → FatValue) (hint : Option Nat) (total c : Nat)
    (h : allocFindV g hint total = some c) : c < total + 2 ∧ g c = .free := by
  have hs := allocStartV_le hint total
  unfold allocFindV at h
  generalize allocStartV hint total = start at *
  cases h1 : findFreeV g start (total + 2 - start) with
  | some c' =>
    rw [h1] at h; cases h
    obtain ⟨a, b, cf, _⟩ := findFreeV_some g _ _ _ h1
    exact ⟨by omega, cf⟩
  | none =>
    rw [h1] at h
    simp only at h
    split at h
    · obtain ⟨a, b, cf, _⟩ := findFreeV_some g _ _ _ h
      exact ⟨by omega, cf⟩
    · cases h

theorem allocFindV_some (g : Nat → FatValue) (hint : Option Nat) (total c : Nat)
    (hh : ∀ n, hint = some n → 2 ≤ n) (h : allocFindV g hint total = some c) :
    2 ≤ c ∧ c < total + 2 ∧ g c = .free := by
  have hs := allocStartV_le hint total
  have hs2 := allocStartV_ge hint total hh
  obtain ⟨hlt, hf⟩ := allocFindV_some_lt g hint total c h
  refine ⟨?_, hlt, hf⟩
  unfold allocFindV at h
  generalize allocStartV hint total = start at *
  cases h1 : findFreeV g start (total + 2 - start) with
  | some c' =>
    rw [h1] at h; cases h
    obtain ⟨a, _, _, _⟩ := findFreeV_some g _ _ _ h1
    omega
  | none =>
    rw [h1] at h
    simp only at h
    split at h
    · obtain ⟨a, _, _, _⟩ := findFreeV_some g _ _ _ h
      exact a
    · cases h

/-- NotEnoughSpace ⇒ no free entry in `[max 2 start … total+2)` ∪ `[2, start)`; with a hint ≥ 2 (or none): none at all -/
theorem allocFindV_none (g : Nat → FatValue) (hint : Option Nat) (total : Nat)
    (h : allocFindV g hint total = none) : ∀ i, 2 ≤ i → i < total + 2 → g i ≠ .free := by
  have hs := allocStartV_le hint total
  unfold allocFindV at h
  generalize allocStartV hint total = start at *
  cases h1 : findFreeV g start (total + 2 - start) with
  | some c' => rw [h1] at h; cases h
  | none =>
    rw [h1] at h
    simp only at h
    have hn1 := findFreeV_none g _ _ h1
    intro i hi1 hi2
    split at h
    · have hn2 := findFreeV_none g _ _ h
      by_cases hlt : i < start
      · exact hn2 i hi1 (by omega)
      · exact hn1 i (by omega) (by omega)
    · exact hn1 i (by omega) (by omega)

theorem allocFindV_eq_none {g : Nat → FatValue} {hint : Option Nat} {total : Nat}
    (hh : ∀ n, hint = some n → 2 ≤ n) (h : ∀ i, 2 ≤ i → i < total + 2 → g i ≠ .free) :
    allocFindV g hint total = none := by
  cases hf : allocFindV g hint total with
  | none => rfl
  | some c =>
    obtain ⟨a, b, c'⟩ := allocFindV_some _ _ _ _ hh hf
    exact absurd c' (h c a b)

/-- converse: a free entry in `[2,total+2)` is found (hint anywhere ≥ 2, or absent) -/
theorem allocFindV_isSome (g : Nat → FatValue) (hint : Option Nat) (total i : Nat)
    (hi1 : 2 ≤ i) (hi2 : i < total + 2) (hf : g i = .free) : ∃ c, allocFindV g hint total = some c := by
  cases h : allocFindV g hint total with
  | some c => exact ⟨c, rfl⟩
  | none => exact absurd hf (allocFindV_none g hint total h i hi1 hi2)

theorem allocLinkV_spec (g : Nat → FatValue) (prev : Option Nat) (c : Nat) (hp : ∀ p, prev = some p → p ≠ c) :
    allocLinkV g prev c c = .eoc ∧ (∀ p, prev = some p → allocLinkV g prev c p = .data c) ∧
    (∀ i, i ≠ c → (∀ p, prev = some p → i ≠ p) → allocLinkV g prev c i = g i) := by
  unfold allocLinkV
  cases prev with
  | none =>
    refine ⟨by simp [updV], ?_, ?_⟩
    · intro p h; cases h
    · intro i hi _; simp [updV, hi]
  | some p =>
    have := hp p rfl
    refine ⟨by simp [updV, Ne.symm this], ?_, ?_⟩
    · intro q hq; cases hq; simp [updV]
    · intro i hi hq; simp [updV, hi, hq p rfl]

/-! ### chains -/

theorem chain_head {g : Nat → FatValue} {c : Nat} {cs : List Nat} (h : Chain g c cs) : ∃ t, cs = c :: t := by
  cases h with
  | last _ _ => exact ⟨[], rfl⟩
  | cons _ n t _ _ => exact ⟨t, rfl⟩

theorem chain_ne_nil {g : Nat → FatValue} {c : Nat} {cs : List Nat} (h : Chain g c cs) : cs ≠ [] := by
  obtain ⟨t, rfl⟩ := chain_head h; simp

/-- a chain is determined by the view -/
theorem chain_unique {g : Nat → FatValue} : ∀ {cs : List Nat} {c : Nat} {cs' : List Nat},
    Chain g c cs → Chain g c cs' → cs = cs' := by
  intro cs
  induction cs with
  | nil => intro c cs' h; cases h
  | cons x xs ih =>
    intro c cs' h h'
    cases h with
    | last _ hl =>
      cases h' with
      | last _ _ => rfl
      | cons _ n t hd _ => exact absurd hd (hl n)
    | cons _ n _ hd hc =>
      cases h' with
      | last _ hl => exact absurd hd (hl n)
      | cons _ n' t hd' hc' =>
        rw [hd] at hd'; cases hd'
        rw [ih hc hc']

/-- a chain only depends on the entries of its members -/
theorem chain_congr {g g' : Nat → FatValue} {c0 : Nat} {cs : List Nat} (h : Chain g c0 cs)
    (hg : ∀ x ∈ cs, g' x = g x) : Chain g' c0 cs := by
  induction h with
  | last m hl => exact Chain.last m (by rw [hg m (by simp)]; exact hl)
  | cons m k ms hd _ ih =>
    exact Chain.cons m k ms (by rw [hg m (by simp)]; exact hd) (ih (fun x hx => hg x (List.mem_cons_of_mem _ hx)))

theorem chain_updV_other (g : Nat → FatValue) (c : Nat) (v : FatValue) (n : Nat) (cs : List Nat) (h : Chain g n cs)
    (hc : c ∉ cs) : Chain (updV g c v) n cs :=
  chain_congr h fun x hx => updV_ne g c x v fun e => hc (e ▸ hx)

/-- a suffix of a chain is the chain of its first cluster -/
theorem chain_drop {g : Nat → FatValue} {c0 : Nat} {cs : List Nat} (h : Chain g c0 cs) :
    ∀ i x, cs[i]? = some x → Chain g x (cs.drop i) := by
  induction h with
  | last m hl =>
    intro i x hi
    cases i with
    | zero => simp at hi; subst hi; exact Chain.last m hl
    | succ i => simp at hi
  | cons m k ms hd hch ih =>
    intro i x hi
    cases i with
    | zero => simp at hi; subst hi; exact Chain.cons m k ms hd hch
    | succ i => exact ih i x (by simpa using hi)

/-- a chain does not repeat a cluster: two suffixes with the same head are the same chain -/
theorem chain_nodup' {g : Nat → FatValue} {c : Nat} {cs : List Nat} (hc : Chain g c cs) : cs.Nodup := by
  rw [List.nodup_iff_pairwise_ne, List.pairwise_iff_getElem]
  intro i j hi hj hij e
  have h1 := chain_drop hc i cs[i] (List.getElem?_eq_getElem hi)
  have h2 := chain_drop hc j cs[j] (List.getElem?_eq_getElem hj)
  rw [e] at h1
  have hl := congrArg List.length (chain_unique h1 h2)
  simp only [List.length_drop] at hl
  omega

/-- cutting a chain after its `i`-th cluster: in a view where that cluster no longer links and the clusters before it
    are unchanged, the prefix is the chain -/
theorem chain_take {g g' : Nat → FatValue} {c0 : Nat} {cs : List Nat} (h : Chain g c0 cs) :
    ∀ i x, cs[i]? = some x → (∀ n, g' x ≠ .data n) → (∀ j y, j < i → cs[j]? = some y → g' y = g y) →
      Chain g' c0 (cs.take (i + 1)) := by
  induction h with
  | last m hl =>
    intro i x hi hx _
    cases i with
    | zero => simp at hi; subst hi; exact Chain.last m hx
    | succ i => simp at hi
  | cons m k ms hd hch ih =>
    intro i x hi hx hsame
    cases i with
    | zero => simp at hi; subst hi; exact Chain.last m hx
    | succ i =>
      have hm : g' m = g m := hsame 0 m (by omega) (by simp)
      refine Chain.cons m k (ms.take (i + 1)) (by rw [hm]; exact hd) ?_
      exact ih i x (by simpa using hi) hx (fun j y hj hy => hsame (j + 1) y (by omega) (by simpa using hy))

/-- the chain after `alloc_cluster(Some(last))`: the free cluster `c` behind the last one -/
theorem chain_snoc {g : Nat → FatValue} : ∀ {chain : List Nat} {c0 : Nat}, Chain g c0 chain → ∀ (c last : Nat),
    chain.getLast? = some last → c ∉ chain → Chain (allocLinkV g (some last) c) c0 (chain ++ [c]) := by
  intro chain c0 h
  induction h with
  | last m hl =>
    intro c last hlast hc
    simp only [List.getLast?_singleton, Option.some.injEq] at hlast
    subst hlast
    have hne : m ≠ c := fun h => hc (by simp [h])
    obtain ⟨h1, h2, _⟩ := allocLinkV_spec g (some m) c (fun p hp => by cases hp; exact hne)
    exact Chain.cons m c [c] (h2 m rfl) (Chain.last c (fun n hn => by rw [h1] at hn; cases hn))
  | cons m k ms hd hc ih =>
    intro c last hlast hcn
    have hnd := chain_nodup' (Chain.cons m k ms hd hc)
    obtain ⟨t, ht⟩ := chain_head hc
    have hlast' : ms.getLast? = some last := by
      rw [ht] at hlast ⊢
      simpa using hlast
    have hmem : last ∈ ms := List.mem_of_getLast? hlast'
    have hm_notin : m ∉ ms := (List.nodup_cons.mp hnd).1
    have hml : m ≠ last := fun h => hm_notin (h ▸ hmem)
    have hmc : m ≠ c := fun h => hcn (by simp [h])
    have hlc : last ≠ c := fun h => hcn (by rw [← h]; exact List.mem_cons_of_mem _ hmem)
    obtain ⟨_, _, h3⟩ := allocLinkV_spec g (some last) c (fun p hp => by cases hp; exact hlc)
    have hgm : allocLinkV g (some last) c m = .data k := by
      rw [h3 m hmc (fun p hp => by cases hp; exact hml)]; exact hd
    exact Chain.cons m k (ms ++ [c]) hgm (ih c last hlast' (fun h => hcn (List.mem_cons_of_mem _ h)))

/-- linking the free cluster `c` behind the chain `l` (behind nothing, for the empty chain): the new chain, still
    allocated, closed by `c`; no other entry changes -/
theorem chain_link {g : Nat → FatValue} {l : List Nat} {c : Nat} (hlive : ∀ x ∈ l, g x ≠ .free)
    (hc : g c = .free) (hch : ∀ c0, l.head? = some c0 → Chain g c0 l) :
    (∀ c0, (l ++ [c]).head? = some c0 → Chain (allocLinkV g l.getLast? c) c0 (l ++ [c])) ∧
    (∀ x ∈ l ++ [c], allocLinkV g l.getLast? c x ≠ .free) ∧ allocLinkV g l.getLast? c c = .eoc ∧
    ∀ x, x ≠ c → l.getLast? ≠ some x → allocLinkV g l.getLast? c x = g x := by
  have hcn : c ∉ l := fun hm => hlive c hm hc
  cases hl : l.getLast? with
  | none =>
    obtain rfl : l = [] := List.getLast?_eq_none_iff.mp hl
    simp only [allocLinkV]
    refine ⟨fun c0 h0 => ?_, fun x hx => ?_, updV_same _ _ _, fun x hxc _ => updV_ne _ _ _ _ hxc⟩
    · obtain rfl : c = c0 := by simpa using h0
      exact Chain.last c fun n hn => by rw [updV_same] at hn; cases hn
    · obtain rfl : x = c := by simpa using hx
      rw [updV_same]; exact fun e => by cases e
  | some p =>
    have hpm : p ∈ l := List.mem_of_getLast? hl
    have hcp : c ≠ p := fun e => hcn (by rw [e]; exact hpm)
    simp only [allocLinkV]
    refine ⟨fun c0 h0 => ?_, fun x hx => ?_, ?_, fun x hxc hxp => ?_⟩
    · have h0' : l.head? = some c0 := by
        cases l with
        | nil => cases hl
        | cons a t => exact h0
      exact chain_snoc (hch c0 h0') c p hl hcn
    · by_cases hxp : x = p
      · rw [hxp, updV_same]; exact fun e => by cases e
      · rw [updV_ne _ _ _ _ hxp]
        by_cases hxc : x = c
        · rw [hxc, updV_same]; exact fun e => by cases e
        · rw [updV_ne _ _ _ _ hxc]
          exact hlive x ((List.mem_append.mp hx).resolve_right (by simpa using hxc))
    · rw [updV_ne _ _ _ _ hcp, updV_same]
    · rw [updV_ne _ _ _ _ (fun e => hxp (by rw [e])), updV_ne _ _ _ _ hxc]

/-- every member of a chain except its head has its predecessor in the chain -/
theorem chain_pred {g : Nat → FatValue} {c : Nat} {cs : List Nat} (h : Chain g c cs) :
    ∀ n, n ∈ cs → n = c ∨ ∃ a, a ∈ cs ∧ g a = .data n := by
  induction h with
  | last m _ => intro n hn; simp at hn; exact Or.inl hn
  | cons m k ms hd hc ih =>
    intro n hn
    rcases List.mem_cons.mp hn with rfl | hn
    · exact Or.inl rfl
    · rcases ih n hn with rfl | ⟨a, ha, hga⟩
      · exact Or.inr ⟨m, by simp, hd⟩
      · exact Or.inr ⟨a, List.mem_cons_of_mem _ ha, hga⟩

/-- the links leaving a chain's members stay in the chain, except the last one -/
theorem chain_succ {g : Nat → FatValue} {c : Nat} {cs : List Nat} (h : Chain g c cs) :
    ∀ a n, a ∈ cs → g a = .data n → n ∈ cs := by
  induction h with
  | last m hl => intro a n ha hd; simp at ha; subst ha; exact absurd hd (hl n)
  | cons m k ms hd hc ih =>
    intro a n ha hda
    rcases List.mem_cons.mp ha with rfl | ha
    · rw [hd] at hda; cases hda
      obtain ⟨t, rfl⟩ := chain_head hc
      simp
    · exact List.mem_cons_of_mem _ (ih a n ha hda)

/-! ### ClusterIterator::free on the view -/

theorem nextV_last {g : Nat → FatValue} {c : Nat} (hl : ∀ n, g c ≠ .data n) : nextV g c = none := by
  unfold nextV
  cases hfc : g c with
  | data n => exact absurd hfc (hl n)
  | _ => rfl

theorem nextV_data {g : Nat → FatValue} {c n : Nat} (hd : g c = .data n) : nextV g c = some n := by
  unfold nextV; rw [hd]

/-- the clusters the `free` loop visits: it follows the links of the table as its own writes leave it -/
def walkV (g : Nat → FatValue) : Option Nat → Nat → List Nat
  | none, _ => []
  | some _, 0 => []
  | some c, k + 1 => c :: walkV (updV g c .free) (nextV g c) k

theorem walkV_none (g : Nat → FatValue) (k : Nat) : walkV g none k = [] := by cases k <;> rfl

theorem freeChainV_none (g : Nat → FatValue) (k cnt : Nat) : freeChainV g none k cnt = some (cnt, g) := by
  cases k <;> rfl

/-- **`free` on an acyclic chain, in closed form**: the loop visits the chain and frees exactly its members -/
theorem freeChainV_chain : ∀ (cs : List Nat) (g : Nat → FatValue) (c : Nat), Chain g c cs → cs.Nodup →
    ∀ fuel cnt, cs.length ≤ fuel → walkV g (some c) fuel = cs ∧
      freeChainV g (some c) fuel cnt = some (cnt + cs.length, fun i => if i ∈ cs then .free else g i) := by
  intro cs
  induction cs with
  | nil => intro g c h; cases h
  | cons x xs ih =>
    intro g c h hnd fuel cnt hf
    obtain ⟨fuel, rfl⟩ : ∃ k, fuel = k + 1 := ⟨fuel - 1, by simp at hf; omega⟩
    have hupd : ∀ l : List Nat, (fun i => if i ∈ l then FatValue.free else updV g x .free i) =
        fun i => if i ∈ x :: l then .free else g i := by
      intro l; funext i; by_cases hi : i = x <;> simp [updV, hi]
    cases h with
    | last _ hl =>
      rw [walkV, freeChainV, nextV_last hl, walkV_none, freeChainV_none, ← hupd []]
      exact ⟨rfl, by simp⟩
    | cons _ n _ hd hc =>
      obtain ⟨h1, h2⟩ := ih _ n (chain_updV_other g x .free n xs hc (List.nodup_cons.mp hnd).1)
        (List.nodup_cons.mp hnd).2 fuel (cnt + 1) (by simp at hf; omega)
      rw [walkV, freeChainV, nextV_data hd, h1, h2, hupd xs, List.length_cons]
      exact ⟨rfl, by congr 2; omega⟩

theorem freeChainV_spec (cs : List Nat) (g : Nat → FatValue) (c : Nat) (h : Chain g c cs) (hnd : cs.Nodup)
    (fuel cnt : Nat) (hf : cs.length ≤ fuel) : ∃ g', freeChainV g (some c) fuel cnt = some (cnt + cs.length, g') ∧
      (∀ i, i ∈ cs → g' i = .free) ∧ (∀ i, i ∉ cs → g' i = g i) :=
  ⟨_, (freeChainV_chain cs g c h hnd fuel cnt hf).2, fun _ hi => if_pos hi, fun _ hi => if_neg hi⟩

/-- `truncate` keeps the head (now EOC) and frees the rest of the chain -/
theorem truncateChainV_spec (g : Nat → FatValue) (c : Nat) (t : List Nat) (h : Chain g c (c :: t))
    (hnd : (c :: t).Nodup) (fuel : Nat) (hf : t.length ≤ fuel) :
    ∃ g', truncateChainV g c fuel = some (t.length, g') ∧ g' c = .eoc ∧
      (∀ i, i ∈ t → g' i = .free) ∧ (∀ i, i ≠ c → i ∉ t → g' i = g i) := by
  have hct : c ∉ t := (List.nodup_cons.mp hnd).1
  have hndt : t.Nodup := (List.nodup_cons.mp hnd).2
  unfold truncateChainV
  cases h with
  | last _ hl =>
    refine ⟨updV g c .eoc, ?_, by simp, ?_, ?_⟩
    · simp [nextV_last hl, freeChainV]
    · intro i hi; simp at hi
    · intro i hi _; simp [updV, hi]
  | cons _ n _ hd hc =>
    have hc' := chain_updV_other g c .eoc n t hc hct
    obtain ⟨g', h1, h2, h3⟩ := freeChainV_spec t (updV g c .eoc) n hc' hndt fuel 0 hf
    refine ⟨g', ?_, ?_, h2, ?_⟩
    · rw [nextV_data hd, h1]; simp
    · rw [h3 c hct]; simp
    · intro i hi hit; rw [h3 i hit]; simp [updV, hi]

/-! ### counting -/

theorem countFreeV_congr (g g' : Nat → FatValue) (total : Nat)
    (h : ∀ i, 2 ≤ i → i < total + 2 → (g i = .free ↔ g' i = .free)) : countFreeV g total = countFreeV g' total := by
  unfold countFreeV
  apply List.countP_congr
  intro i hi
  have := List.mem_range.mp hi
  simp only [decide_eq_true_eq]
  exact h (i + 2) (by omega) (by omega)

theorem countFreeV_succ (g : Nat → FatValue) (total : Nat) :
    countFreeV g (total + 1) = countFreeV g total + (if g (total + 2) = .free then 1 else 0) := by
  unfold countFreeV
  rw [List.range_succ, List.countP_append]
  simp [List.countP_cons]


theorem countFreeV_updV_out (g : Nat → FatValue) (c : Nat) (v : FatValue) (total : Nat)
    (h : c < 2 ∨ total + 2 ≤ c) : countFreeV (updV g c v) total = countFreeV g total :=
  countFreeV_congr _ _ _ (fun i h1 h2 => by rw [updV_ne _ _ _ _ (by omega)])

/-- effect of a point update inside `[2,total+2)` on the free count -/
theorem countFreeV_updV (g : Nat → FatValue) (c : Nat) (v : FatValue) : ∀ total, 2 ≤ c → c < total + 2 →
    countFreeV (updV g c v) total + (if g c = .free then 1 else 0) =
      countFreeV g total + (if v = .free then 1 else 0) := by
  intro total
  induction total with
  | zero => intro h1 h2; omega
  | succ n ih =>
    intro h1 h2
    rw [countFreeV_succ, countFreeV_succ]
    by_cases hc : c = n + 2
    · subst hc
      rw [countFreeV_updV_out g (n + 2) v n (by omega), updV_same]
      omega
    · rw [updV_ne _ _ _ _ (Ne.symm hc)]
      have := ih h1 (by omega)
      omega

/-- freeing the members of a duplicate-free list of allocated in-range entries raises the free count by its length -/
theorem countFreeV_free_list : ∀ (cs : List Nat) (g g' : Nat → FatValue) (total : Nat), cs.Nodup →
    (∀ i, i ∈ cs → 2 ≤ i ∧ i < total + 2 ∧ g i ≠ .free) → (∀ i, i ∈ cs → g' i = .free) →
    (∀ i, i ∉ cs → (g' i = .free ↔ g i = .free)) → countFreeV g' total = countFreeV g total + cs.length := by
  intro cs
  induction cs with
  | nil =>
    intro g g' total _ _ _ h
    simp; exact countFreeV_congr _ _ _ (fun i _ _ => h i (by simp))
  | cons x xs ih =>
    intro g g' total hnd hin hfree hsame
    have hx := hin x (by simp)
    have hxn : x ∉ xs := (List.nodup_cons.mp hnd).1
    have h1 := ih (updV g x .free) g' total (List.nodup_cons.mp hnd).2
      (fun i hi => by
        have := hin i (List.mem_cons_of_mem _ hi)
        have hix : i ≠ x := by intro h; subst h; exact hxn hi
        rw [updV_ne _ _ _ _ hix]; exact this)
      (fun i hi => hfree i (List.mem_cons_of_mem _ hi))
      (fun i hi => by
        by_cases hix : i = x
        · subst hix; simp [hfree i (by simp)]
        · rw [updV_ne _ _ _ _ hix]; exact hsame i (by simp [hix, hi]))
    have h2 := countFreeV_updV g x .free total
    have h2 := h2 hx.1 hx.2.1
    rw [if_neg hx.2.2, if_pos rfl] at h2
    rw [h1, List.length_cons]; omega

theorem countFreeV_pos (g : Nat → FatValue) (total c : Nat) (h1 : 2 ≤ c) (h2 : c < total + 2) (hf : g c = .free) :
    1 ≤ countFreeV g total := by
  have := countFreeV_updV g c .eoc total h1 h2
  rw [if_pos hf, if_neg (by intro e; cases e)] at this
  omega

/-- allocating the free cluster `c` and linking it from an allocated `prev` lowers the free count by exactly one -/
theorem countFreeV_allocLink (g : Nat → FatValue) (total c : Nat) (prev : Option Nat) (h1 : 2 ≤ c)
    (h2 : c < total + 2) (hf : g c = .free) (hp : ∀ p, prev = some p → g p ≠ .free) :
    countFreeV (allocLinkV g prev c) total + 1 = countFreeV g total := by
  have hc := countFreeV_updV g c .eoc total h1 h2
  rw [if_pos hf, if_neg (by intro e; cases e)] at hc
  cases prev with
  | none => simp only [allocLinkV]; omega
  | some p =>
    have hpf := hp p rfl
    have hpc : p ≠ c := by intro e; subst e; exact hpf hf
    simp only [allocLinkV]
    by_cases hin : 2 ≤ p ∧ p < total + 2
    · have := countFreeV_updV (updV g c .eoc) p (.data c) total hin.1 hin.2
      rw [updV_ne _ _ _ _ hpc, if_neg hpf, if_neg (by intro e; cases e)] at this
      omega
    · rw [countFreeV_updV_out _ p _ total (by omega)]; omega

end FatVerif.Fat
