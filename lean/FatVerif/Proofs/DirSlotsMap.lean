import FatVerif.Proofs.DirSlotsOps
/-! Listing-level consequences: insertion / removal of exactly one entry, preservation of well-formedness; at most one
    listed entry answers to a name. -/
namespace FatVerif
namespace DirSlots
open Lfn LongNameBuilder

theorem KeysDisjoint.symm {upper : Char → List Char} {a b : LfnEntry} (h : KeysDisjoint upper a b) :
    KeysDisjoint upper b a := fun q hq => h q ⟨hq.2, hq.1⟩

theorem pairwise_insert {α} {R : α → α → Prop} (hsym : ∀ a b, R a b → R b a) (L1 L2 : List α) (a : α)
    (h : (L1 ++ L2).Pairwise R) (ha : ∀ x ∈ L1 ++ L2, R x a) : (L1 ++ a :: L2).Pairwise R := by
  rw [List.pairwise_append] at h ⊢
  obtain ⟨h1, h2, h3⟩ := h
  refine ⟨h1, List.pairwise_cons.2 ⟨fun y hy => hsym _ _ (ha y (by simp [hy])), h2⟩, ?_⟩
  intro x hx y hy
  rcases List.mem_cons.1 hy with rfl | hy
  · exact ha x (by simp [hx])
  · exact h3 x hx y hy

theorem pairwise_remove {α} {R : α → α → Prop} (L1 L2 : List α) (a : α) (h : (L1 ++ a :: L2).Pairwise R) :
    (L1 ++ L2).Pairwise R :=
  h.sublist (List.Sublist.append (List.Sublist.refl _) (List.sublist_cons_self _ _))

/-- with pairwise-disjoint keys a query hits at most one entry -/
theorem match_unique (upper : Char → List Char) : ∀ (l : List LfnEntry), l.Pairwise (KeysDisjoint upper) →
    ∀ e1 ∈ l, ∀ e2 ∈ l, ∀ q, matchesName upper e1 q = true → matchesName upper e2 q = true → e1 = e2 := by
  intro l
  induction l with
  | nil => intro _ e1 h1; simp at h1
  | cons a t ih =>
    intro hp e1 h1 e2 h2 q m1 m2
    obtain ⟨ha, ht⟩ := List.pairwise_cons.1 hp
    rcases List.mem_cons.1 h1 with r1 | r1
    · rcases List.mem_cons.1 h2 with r2 | r2
      · rw [r1, r2]
      · subst r1; exact absurd ⟨m1, m2⟩ (ha e2 r2 q)
    · rcases List.mem_cons.1 h2 with r2 | r2
      · subst r2; exact absurd ⟨m2, m1⟩ (ha e1 r1 q)
      · exact ih ht e1 r1 e2 r2 q m1 m2

/-! ### creation -/

/-- the core of `writeEntry_listing`: exactly one entry is inserted, at the position `find_free_entries` gives -/
theorem writeEntry_insert (alloc : Bool) (slots : List (List Nat)) (units sfn : List Nat) (hs : Shape slots)
    (hU : UnitsOk units) (hsfn : slotClass sfn = .file) :
    ∃ L1 L2, readDirEntries alloc true slots = L1 ++ L2 ∧
      readDirEntries alloc true (writeEntry slots units sfn) =
        L1 ++ ⟨sfn, units, findFree slots (numParts units.length + 1),
                findFree slots (numParts units.length + 1) + (numParts units.length + 1)⟩ :: L2 ∧
      (∀ e ∈ L1, e.endIdx ≤ findFree slots (numParts units.length + 1)) ∧
      (∀ e ∈ L2, findFree slots (numParts units.length + 1) + (numParts units.length + 1) ≤ e.beginIdx) ∧
      Shape (writeEntry slots units sfn) := by
  obtain ⟨items, tail, rfl, hok, ht⟩ := hs
  obtain ⟨I1, Dd, I2, e1, e2, e3, e4⟩ := writeEntry_items items tail units sfn hok ht
  have hnew := newItem_ok units sfn hU.pos hU.le hU.lt hsfn
  have hname := newItem_name units sfn hU
  have hgl : (lfnGenerate units (lfnChecksum (sfnName sfn))).length = numParts units.length := genFrom_length ..
  have hokI1 : ∀ it ∈ I1, it.Ok := fun x hx => hok x (by rw [e1]; simp [hx])
  have hokI2 : ∀ it ∈ I2, it.Ok := fun x hx => hok x (by rw [e1]; simp [hx])
  obtain ⟨hD1, hD2⟩ := listOf_deleted Dd (0 + (flatten I1).length) e2
  have hold : readDirEntries alloc true (flatten items ++ tail) =
      listOf I1 0 ++ listOf I2 ((flatten I1).length + Dd.length) := by
    rw [listing_shape alloc items tail hok ht, e1, listOf_append, listOf_append, hD1]
    simp [hD2]
  rw [e3]
  rcases e4 with ⟨e4, e5⟩ | ⟨e4, rfl, e5⟩
  · have hok' : ∀ it ∈ I1 ++ [newItem units sfn] ++ I2, it.Ok := by
      intro x hx
      simp only [List.mem_append, List.mem_singleton] at hx
      rcases hx with (hx | rfl) | hx
      · exact hokI1 x hx
      · exact hnew
      · exact hokI2 x hx
    refine ⟨listOf I1 0, listOf I2 ((flatten I1).length + (numParts units.length + 1)), ?_, ?_, ?_, ?_, ?_⟩
    · rw [hold, e4]
    · rw [e5, listing_shape alloc _ tail hok' ht, listOf_append, listOf_append]
      simp only [newItem, listOf, Item.listed, hname, hgl, Nat.zero_add]
      simp [Item.slots, hgl, Nat.add_assoc]
    · intro e he
      have := listOf_bounds I1 0 e he
      omega
    · intro e he
      have := listOf_bounds I2 _ e he
      omega
    · exact ⟨_, tail, e5, hok', ht⟩
  · have hok' : ∀ it ∈ I1 ++ [newItem units sfn], it.Ok := by
      intro x hx
      simp only [List.mem_append, List.mem_singleton] at hx
      rcases hx with hx | rfl
      · exact hokI1 x hx
      · exact hnew
    have ht' : ∀ t ∈ tail.drop (numParts units.length + 1 - Dd.length), isEnd t = true :=
      fun t h => ht t (List.mem_of_mem_drop h)
    refine ⟨listOf I1 0, [], ?_, ?_, ?_, by simp, ?_⟩
    · rw [hold]; simp [listOf]
    · rw [e5, listing_shape alloc _ _ hok' ht', listOf_append]
      simp only [newItem, listOf, Item.listed, hname, hgl, Nat.zero_add, Nat.add_assoc, List.append_nil]
    · intro e he
      have := listOf_bounds I1 0 e he
      omega
    · exact ⟨_, _, e5, hok', ht'⟩

/-- the bytes: outside the written range nothing changes, inside it are the generated slots -/
theorem writeEntry_bytes (slots : List (List Nat)) (units sfn : List Nat) :
    findFree slots (numParts units.length + 1) ≤ slots.length ∧
    (∀ i, i < findFree slots (numParts units.length + 1) ∨
        findFree slots (numParts units.length + 1) + (numParts units.length + 1) ≤ i →
      (writeEntry slots units sfn).getD i [] = slots.getD i []) ∧
    (∀ k, k < numParts units.length + 1 →
      (writeEntry slots units sfn).getD (findFree slots (numParts units.length + 1) + k) [] =
        (entrySlots units sfn).getD k []) := by
  have hp := findFree_le slots (numParts units.length + 1)
  have hlen := entrySlots_length units sfn
  refine ⟨hp, ?_, ?_⟩
  · intro i hi
    unfold writeEntry
    rcases hi with hi | hi
    · exact writeAt_getD_before _ _ _ _ hp hi
    · exact writeAt_getD_after _ _ _ _ hp (by omega)
  · intro k hk
    unfold writeEntry writeAt
    have hl : (List.take (findFree slots (numParts units.length + 1)) slots).length =
        findFree slots (numParts units.length + 1) := by simp; omega
    simp only [List.getD_eq_getElem?_getD]
    rw [List.append_assoc, List.getElem?_append_right (by omega), hl, Nat.add_sub_cancel_left,
      List.getElem?_append_left (by omega)]

/-- well-formedness is preserved when the new raw short name and the new names are fresh -/
theorem writeEntry_wf (upper : Char → List Char) (slots : List (List Nat)) (units sfn : List Nat)
    (hwf : DirWf upper slots)
    (hU : UnitsOk units) (hsfn : slotClass sfn = .file)
    (hraw : ∀ e ∈ listing slots, sfnName e.sfn ≠ sfnName sfn)
    (hfresh : ∀ e ∈ listing slots, ∀ q,
      ¬ (matchesName upper e q = true ∧ Names.eqName upper units (sfnName sfn) q = true)) :
    DirWf upper (writeEntry slots units sfn) := by
  obtain ⟨L1, L2, e1, e2, _, _, e5⟩ := writeEntry_insert true slots units sfn hwf.shape hU hsfn
  have hr := hwf.rawNodup
  have hk := hwf.keys
  unfold listing at hr hk hraw hfresh
  rw [e1] at hr hk hraw hfresh
  refine ⟨e5, ?_, ?_⟩
  · unfold listing
    rw [e2]
    simp only [List.map_append, List.map_cons] at hr ⊢
    rw [List.nodup_append] at hr ⊢
    obtain ⟨r1, r2, r3⟩ := hr
    refine ⟨r1, List.nodup_cons.2 ⟨?_, r2⟩, ?_⟩
    · intro hm
      obtain ⟨x, hx, hx'⟩ := List.mem_map.1 hm
      exact hraw x (by simp [hx]) hx'
    · intro a ha b hb
      rcases List.mem_cons.1 hb with rfl | hb
      · obtain ⟨x, hx, rfl⟩ := List.mem_map.1 ha
        exact hraw x (by simp [hx])
      · exact r3 a ha b hb
  · unfold listing
    rw [e2]
    apply pairwise_insert (fun a b => KeysDisjoint.symm) _ _ _ hk
    intro x hx q hq
    exact hfresh x hx q ⟨hq.1, hq.2⟩

/-! ### deletion -/

theorem deleteRange_remove (alloc : Bool) (slots : List (List Nat)) (hs : Shape slots) (e : LfnEntry)
    (he : e ∈ readDirEntries alloc true slots) :
    ∃ L1 L2, readDirEntries alloc true slots = L1 ++ e :: L2 ∧
      readDirEntries alloc true (deleteRange slots e.beginIdx e.endIdx) = L1 ++ L2 ∧
      Shape (deleteRange slots e.beginIdx e.endIdx) := by
  obtain ⟨items, tail, rfl, hok, ht⟩ := hs
  rw [listing_shape alloc items tail hok ht] at he ⊢
  obtain ⟨I1, R, sfn, I2, e1, e2⟩ := mem_listOf items 0 e he
  subst e1
  have hokE : (Item.entry R sfn).Ok := hok _ (by simp)
  obtain ⟨d1, d2, _⟩ := deletedItems_ok R sfn hokE
  have hok' : ∀ it ∈ I1 ++ deletedItems R sfn ++ I2, it.Ok := by
    intro x hx
    simp only [List.mem_append] at hx
    rcases hx with (hx | hx) | hx
    · exact hok x (by simp [hx])
    · exact d1 x hx
    · exact hok x (by simp [hx])
  have hdel := deleteRange_items I1 I2 R sfn tail hokE
  have hb : e.beginIdx = (flatten I1).length := by rw [e2]; simp
  have hen : e.endIdx = (flatten I1).length + R.length + 1 := by rw [e2]; simp
  rw [hb, hen, hdel]
  obtain ⟨hD1, hD2⟩ := listOf_deleted (deletedItems R sfn) (0 + (flatten I1).length) d2
  have hdl : (deletedItems R sfn).length = R.length + 1 := by simp [deletedItems]
  refine ⟨listOf I1 0, listOf I2 ((flatten I1).length + R.length + 1), ?_, ?_, ⟨_, tail, rfl, hok', ht⟩⟩
  · rw [listOf_append, listOf_append]
    simp only [listOf, Item.listed, Nat.zero_add, e2]
    simp [Item.slots, Nat.add_assoc]
  · rw [listing_shape alloc _ tail hok' ht, listOf_append, listOf_append, hD1]
    simp [hD2, hdl, Nat.add_assoc]

theorem deleteRange_wf (upper : Char → List Char) (slots : List (List Nat)) (hwf : DirWf upper slots) (e : LfnEntry)
    (he : e ∈ listing slots) : DirWf upper (deleteRange slots e.beginIdx e.endIdx) := by
  obtain ⟨L1, L2, e1, e2, e3⟩ := deleteRange_remove true slots hwf.shape e he
  have hr := hwf.rawNodup
  have hk := hwf.keys
  unfold listing at hr hk
  rw [e1] at hr hk
  refine ⟨e3, ?_, ?_⟩
  · unfold listing
    rw [e2]
    refine List.Nodup.sublist ?_ hr
    simp only [List.map_append, List.map_cons]
    exact List.Sublist.append (List.Sublist.refl _) (List.sublist_cons_self _ _)
  · unfold listing
    rw [e2]; exact pairwise_remove L1 L2 e hk

end DirSlots
end FatVerif
