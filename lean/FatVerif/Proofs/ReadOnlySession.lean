import FatVerif.Proofs.FsInfoWrites
import FatVerif.Proofs.SessionStep
/-! C13: a whole read-only session (induction over `Session.step`). -/
namespace FatVerif

theorem StatsStep.accDate {a b : FsState} (h : StatsStep a b) : b.accDate = a.accDate := by
  rcases h with h | ⟨_, n, hn⟩ <;> simp [*]

theorem StatsStep.flags {a b : FsState} (h : StatsStep a b) (ha : FlagsClean a) : FlagsClean b := by
  rcases h with h | ⟨_, n, hn⟩
  · rw [h]; exact ha
  · rw [hn]; exact ha

/-! ### read-only operations of the API -/

inductive ROOp where
  | list (d : Nat)
  | openDir (d : Nat) (path : String) (dnew : Nat)
  | openFile (d : Nat) (path : String) (fnew : Nat)
  | seek (f : Nat) (k : SeekKind) (n : Int)
  | read (f : Nat) (n : Nat)
  | readx (f : Nat) (n : Nat)
  | readall (f : Nat)
  | extents (f : Nat)
  | label
  | labelRoot
  | status
  | stats
  | volid
  | fattype
  | dropf (f : Nat)
  | dropd (d : Nat)

def ROOp.toApi : ROOp → ApiOp
  | .list d => .list d
  | .openDir d p n => .openDir d p n
  | .openFile d p n => .openFile d p n
  | .seek f k n => .seek f k n
  | .read f n => .read f n
  | .readx f n => .readx f n
  | .readall f => .readall f
  | .extents f => .extents f
  | .label => .label
  | .labelRoot => .labelRoot
  | .status => .status
  | .stats => .stats
  | .volid => .volid
  | .fattype => .fattype
  | .dropf f => .dropf f
  | .dropd d => .dropd d

/-- the invariant of a read-only session: `update_accessed_date` is off, the status flags are as at mount, and every
    open handle is clean -/
structure ROInv (s : Session) : Prop where
  acc : s.dev.fs.accDate = false
  flags : FlagsClean s.dev.fs
  files : ∀ (f : Nat) (h : FileH), s.files[f]? = some h → CleanFile h
  dirs : ∀ (d : Nat) (h : DirStream), s.dirs[d]? = some h → CleanStream h

theorem StatsRel.of_ro {d d' : Dev} (h : SameWrites d d') (hfs : d'.fs = d.fs) : StatsRel d d' :=
  ⟨h, Or.inl hfs⟩

theorem ROInv.setDev {s : Session} (h : ROInv s) {d : Dev} (hd : StatsRel s.dev d) : ROInv { s with dev := d } :=
  ⟨by rw [show ({ s with dev := d } : Session).dev = d from rfl, hd.2.accDate]; exact h.acc,
   hd.2.flags h.flags, h.files, h.dirs⟩

theorem ROInv.setDead {s : Session} (h : ROInv s) (b : Bool) : ROInv { s with dead := b } :=
  ⟨h.acc, h.flags, h.files, h.dirs⟩

theorem ROInv.insertFile {s : Session} (h : ROInv s) (f : Nat) {fh : FileH} (hf : CleanFile fh) :
    ROInv { s with files := s.files.insert f fh } := by
  refine ⟨h.acc, h.flags, ?_, h.dirs⟩
  intro f' h' hget
  simp only [Std.HashMap.getElem?_insert] at hget
  split at hget
  · cases hget; exact hf
  · exact h.files f' h' hget

theorem ROInv.insertDir {s : Session} (h : ROInv s) (d : Nat) {st : DirStream} (hst : CleanStream st) :
    ROInv { s with dirs := s.dirs.insert d st } := by
  refine ⟨h.acc, h.flags, h.files, ?_⟩
  intro d' h' hget
  simp only [Std.HashMap.getElem?_insert] at hget
  split at hget
  · cases hget; exact hst
  · exact h.dirs d' h' hget

theorem ROInv.eraseFile {s : Session} (h : ROInv s) (f : Nat) : ROInv { s with files := s.files.erase f } := by
  refine ⟨h.acc, h.flags, ?_, h.dirs⟩
  intro f' h' hget
  simp only [Std.HashMap.getElem?_erase] at hget
  split at hget
  · cases hget
  · exact h.files f' h' hget

theorem ROInv.eraseDir {s : Session} (h : ROInv s) (d : Nat) : ROInv { s with dirs := s.dirs.erase d } := by
  refine ⟨h.acc, h.flags, h.files, ?_⟩
  intro d' h' hget
  simp only [Std.HashMap.getElem?_erase] at hget
  split at hget
  · cases hget
  · exact h.dirs d' h' hget

theorem ROInv.getDir {s : Session} (h : ROInv s) {d : Nat} {st : DirStream} (hg : s.getDir d = some st) :
    CleanStream st := by
  unfold Session.getDir at hg
  split at hg
  · split at hg
    · cases hg; exact cleanStream_root _
    · cases hg
  · exact h.dirs d st hg

theorem roLift : Session.Lift ROInv StatsRel CleanFile :=
  ⟨statsRel_ok.refl, statsRel_ok.trans _ _ _, fun h hd => h.setDev hd, fun b h => h.setDead b, fun f h hf => h.insertFile f hf⟩

theorem RO.runOK {α} {s : Session} {p : Prog α} {Post : α → Prop} (hp : RO s.dev.fs p Post) :
    Session.RunOK StatsRel s p Post :=
  fun r d hr => let a := hp.out s.dev r d rfl hr; ⟨.of_ro a.1 a.2.1, a.2.2⟩

theorem FileH.read_runOK {s : Session} {fh : FileH} (n : Nat) (h : ROInv s) (hf : CleanFile fh) :
    Session.RunOK StatsRel s (fh.read n) fun v => CleanFile v.2 :=
  ((FileH.read_ro h.acc fh n).weaken fun _ e => cleanFile_of_entry_eq e hf).runOK

/-- one read-only API operation keeps the invariant and writes nothing -/
theorem step_good (s : Session) (h : ROInv s) (op : ROOp) : Session.Keeps ROInv StatsRel s (s.step op.toApi) := by
  have L := roLift
  unfold Session.step
  split
  · exact L.same h _
  cases op with
  | list d =>
    exact L.withDir h d fun st hst => L.runOp h (listDir_ro h.acc (h.getDir hst)).runOK fun _ _ _ hi => L.same hi _
  | openDir d path dnew =>
    exact L.withDir h d fun st hst => L.guard h _ <|
      L.runOp h (openDir_ro h.acc s.env _ st path (h.getDir hst)).runOK fun _ _ ha hi =>
        ⟨hi.insertDir dnew ha, statsRel_ok.refl _⟩
  | openFile d path fnew =>
    exact L.withDir h d fun st hst => L.guard h _ <|
      L.runOp h (openFile_ro h.acc s.env _ st path (h.getDir hst)).runOK fun _ _ ha hi =>
        ⟨hi.insertFile fnew ha, statsRel_ok.refl _⟩
  | seek f k n =>
    exact L.withFile h f fun fh hf => L.runOp h (FileH.seek_ro fh _).runOK fun _ ⟨_, _⟩ ha hi =>
      ⟨hi.insertFile f (cleanFile_of_entry_eq ha (h.files f fh hf)), statsRel_ok.refl _⟩
  | read f n =>
    exact L.withFile h f fun fh hf => L.runOp h (FileH.read_runOK n h (h.files f fh hf)) fun _ ⟨_, _⟩ ha hi =>
      ⟨hi.insertFile f ha, statsRel_ok.refl _⟩
  | readx f n => exact L.withFile h f fun fh hf => L.readxLoop FileH.read_runOK f _ s fh n [] h (h.files f fh hf)
  | readall f => exact L.withFile h f fun fh hf => L.readAllLoopS FileH.read_runOK f _ s fh [] h (h.files f fh hf)
  | extents f =>
    exact L.withFile h f fun fh _ => L.runOp h (RO.of_quiet fh.extents_quiet).runOK fun _ _ _ hi => L.same hi _
  | label => exact L.guard h _ (L.same h _)
  | labelRoot =>
    exact L.guard h _ (L.runOp h (readVolumeLabelFromRootDir_ro h.acc).runOK fun _ _ _ hi => L.same hi _)
  | status =>
    exact L.guard h _ (L.runOp h (RO.of_quiet readStatusFlags_quiet).runOK fun _ ⟨_, _⟩ _ hi => L.same hi _)
  | stats =>
    -- the one program that is not `RO`: it may cache the free count (`StatsStep`)
    exact L.guard h _ (L.runOp h (Q := fun _ => True)
      (fun r d hr => ⟨((stats_tri s.dev.fs).out s.dev r d rfl hr).1, fun _ _ => trivial⟩)
      fun _ ⟨_, _, _⟩ _ hi => L.same hi _)
  | volid => exact L.guard h _ (L.same h _)
  | fattype => exact L.guard h _ (L.same h _)
  | dropf f =>
    exact L.withFile h f fun fh hf => L.runOp h (FileH.drop_clean_ro (h.files f fh hf)).runOK fun _ _ _ hi =>
      ⟨hi.eraseFile f, statsRel_ok.refl _⟩
  | dropd d =>
    exact L.guard h _ (L.withDir h d fun st hst => L.runOp h (DirStream.drop_clean_ro (h.getDir hst)).runOK
      fun _ _ _ hi => ⟨hi.eraseDir d, statsRel_ok.refl _⟩)

/-- run a list of operations -/
def Session.steps (s : Session) : List ApiOp → Session
  | [] => s
  | op :: rest => Session.steps (s.step op).1 rest

theorem steps_good : ∀ (ops : List ROOp) (s : Session), ROInv s →
    ROInv (s.steps (ops.map ROOp.toApi)) ∧ StatsRel s.dev (s.steps (ops.map ROOp.toApi)).dev := by
  intro ops
  induction ops with
  | nil => intro s h; exact ⟨h, statsRel_ok.refl _⟩
  | cons op rest ih =>
    intro s h
    have h1 := step_good s h op
    have h2 := ih _ h1.1
    exact ⟨h2.1, statsRel_ok.trans _ _ _ h1.2 h2.2⟩

end FatVerif
