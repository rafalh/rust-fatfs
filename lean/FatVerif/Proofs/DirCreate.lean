import FatVerif.Proofs.DirWriteGrow
/-! Directory WRITES: `create_dir(name)` as a whole operation, single-component path, free name:
    `check_for_existence` → `alloc_cluster(None, true)` → `create_sfn_entry` → `write_entry` in the parent → `to_dir` →
    `.` and `..` in the new directory. Through any writable directory (`WView`) when the entry fits into its slots;
    for a chain directory of any kind when it is full and grows by one cluster. And `create_file(name)` in a full
    sub-directory, which grows by one cluster.
    Both cases are `createDir_core` with their own `write_entry` in the parent. The stations of the call are records:
    `CreateDirReq` (the request), `AllocStep` (cluster `c` allocated), `ParentWrote` / `EntryPlaced` (the entry is in
    its parent), `FreshSub` (cluster `c` as the directory `to_dir` opens). -/
namespace FatVerif.DirSim
open FatVerif.FileSim FatVerif.Fat DirEntryData DirAlias

/-! ### the allocation step and what it leaves of the directory invariants -/

/-- what a successful `alloc_cluster(None, true)` with result `c` leaves of the device -/
structure AllocStep (d d' : Dev) (c : Nat) : Prop where
  step : DevStep d d'
  range : 2 ≤ c ∧ c < d.fs.totalClusters + 2
  wasFree : tabView d.fs d.img c = .free
  tv : tabView d'.fs d'.img = updV (tabView d.fs d.img) c .eoc
  dirty : d'.fs.curDirty = true
  info : InfoOk d'.fs d'.img
  fs : d'.fs = { markedFs d.fs with fsInfo := ({ d.fs.fsInfo with
        next := some (hintAfter d.fs.totalClusters c), dirty := true }).mapFree (· - 1) }
  zero : ∀ q, clusterOff d.fs c ≤ q → q < clusterOff d.fs c + d.fs.clusterSize → d'.img.getByte q = 0
  frame : ∀ q, 0x42 ≤ q → OutsideFat d.fs q → ¬ (clusterOff d.fs c ≤ q ∧ q < clusterOff d.fs c + d.fs.clusterSize) →
    d'.img.getByte q = d.img.getByte q

/-- forward evaluation of the allocation step of `create_dir` -/
theorem run_alloc_step (c : Nat) (d : Dev) (hfa : d.failAt = none) (hwf : d.img.WF) (hgeo : Geo d.fs d.img.size)
    (hinfo : InfoOk d.fs d.img)
    (hfind : allocFindV (tabView d.fs d.img) d.fs.fsInfo.next d.fs.totalClusters = some c) :
    ∃ d', run (allocClusterFs none true) d = (.ok c, d') ∧ AllocStep d d' c := by
  rcases run_allocClusterFs_any none true d hfa hwf hgeo hinfo (fun p h => by cases h) with
    ⟨hnone, _⟩ | ⟨c', d', hsome, hr, hst, hfs, htv, hinfo', hz, hfr⟩
  · rw [hnone] at hfind; cases hfind
  · rw [hsome] at hfind
    cases hfind
    obtain ⟨h2, hlt, hfree⟩ := allocFindV_some _ _ _ _ hinfo.hint hsome
    exact ⟨d', hr, hst, ⟨h2, hlt⟩, hfree, htv, by rw [hfs]; exact markedFs_curDirty _, hinfo', hfs, hz rfl,
      fun q hq ho hn => hfr q hq ho (fun _ => hn)⟩

/-! ### the invariants survive the allocation step -/

theorem RootInv.of_alloc {fs0 : FsState} {s : DiskSlice} {N : Nat} {d d1 d2 : Dev} {c : Nat}
    (h : RootInv fs0 s N d) (hv : SameVol d d1) (ha : AllocStep d1 d2 c) : RootInv fs0 s N d2 :=
  ⟨by rw [ha.step.failAt, hv.failAt]; exact h.noFault, by rw [ha.step.size, hv.img]; exact h.inside,
   ha.step.wf (by rw [hv.img]; exact h.wf), (show FsGeomEq fs0 d1.fs by rw [hv.fs]; exact h.geom).trans ha.step.geom,
   h.fuel⟩

theorem ChainInv.of_alloc {fs0 : FsState} {f0 : FileH} {c0 : Nat} {chain : List Nat} {d d1 d2 : Dev} {c : Nat}
    (h : ChainInv fs0 f0 c0 chain d) (hv : SameVol d d1) (ha : AllocStep d1 d2 c) (hc : c ∉ chain) :
    ChainInv fs0 f0 c0 chain d2 :=
  h.keep ((VolStep.of_sameVol hv).trans (VolStep.of_devStep ha.step))
    (by rw [ha.tv, hv.fs, hv.img]; exact chain_updV_other _ _ _ _ _ h.dir.link hc)
    (by rw [← h.geom.totalClusters]; exact h.dir.inTab) (by rw [← h.geom.clusterSize]; exact h.dir.u32) h.fuel

theorem SubInv.of_alloc {fs0 : FsState} {ed0 : DirEntryEditor} {c0 : Nat} {chain : List Nat} {t0 : Nat} {d d1 d2 : Dev}
    {c : Nat} (h : SubInv fs0 ed0 c0 chain t0 d) (hv : SameVol d d1) (hcl : d1.clock = d.clock) (ha : AllocStep d1 d2 c)
    (hc : c ∉ chain) : SubInv fs0 ed0 c0 chain t0 d2 :=
  h.keep ((VolStep.of_sameVol hv).trans (VolStep.of_devStep ha.step)) (ha.step.clock.trans hcl)
    (by rw [ha.tv, hv.fs, hv.img]; exact chain_updV_other _ _ _ _ _ h.dir.link hc)
    (by rw [← h.geom.totalClusters]; exact h.dir.inTab) (by rw [← h.geom.clusterSize]; exact h.dir.u32) h.fuel

/-- the allocation step seen from a device with the same volume (`d`: where `create_dir` started, `d1`: after
    `check_for_existence`) -/
theorem AllocStep.of_sameVol {d d1 d2 : Dev} {c : Nat} (hv : SameVol d d1) (hcl : d1.clock = d.clock)
    (ha : AllocStep d1 d2 c) : AllocStep d d2 c := by
  obtain ⟨hst, h2, h3, h4, h5, h6, h7, h8, h9⟩ := ha
  rw [hv.fs] at h2 h7 h8
  rw [hv.fs, hv.img] at h3 h4 h9
  exact ⟨⟨hst.failAt.trans hv.failAt, hst.size.trans (congrArg Img.size hv.img), fun h => hst.wf (by rw [hv.img]; exact h),
    by have := hst.geom; rwa [hv.fs] at this, hst.clock.trans hcl⟩, h2, h3, h4, h5, h6, h7, h8, h9⟩

/-! ### … and writes elsewhere that leave the FAT alone -/

theorem RootInv.of_volStep {fs0 : FsState} {s : DiskSlice} {N : Nat} {d1 d2 : Dev} (h : RootInv fs0 s N d1)
    (hs : VolStep d1 d2) : RootInv fs0 s N d2 :=
  ⟨by rw [hs.failAt]; exact h.noFault, by rw [hs.size]; exact h.inside, hs.wf h.wf, h.geom.trans hs.geom, h.fuel⟩

theorem ChainInv.of_volStep {fs0 : FsState} {f0 : FileH} {c0 : Nat} {chain : List Nat} {d1 d2 : Dev}
    (h : ChainInv fs0 f0 c0 chain d1) (hs : VolStep d1 d2) (htv : tabView d2.fs d2.img = tabView d1.fs d1.img) :
    ChainInv fs0 f0 c0 chain d2 :=
  ⟨h.dir.of_tabView hs htv, hs.wf h.wf, h.geom.trans hs.geom, h.fuel⟩

theorem SubInv.of_volStep {fs0 : FsState} {ed0 : DirEntryEditor} {c0 : Nat} {chain : List Nat} {t0 : Nat} {d1 d2 : Dev}
    (h : SubInv fs0 ed0 c0 chain t0 d1) (hs : VolStep d1 d2) (hc : d2.clock = d1.clock)
    (htv : tabView d2.fs d2.img = tabView d1.fs d1.img) : SubInv fs0 ed0 c0 chain t0 d2 :=
  subKind.of_tabView h hs hc htv

/-! ### the two dot entries of a fresh one-cluster directory -/

theorem validate_dot : Names.validateLongName "." = .ok () ∧ Names.validateLongName ".." = .ok () := by
  constructor <;> decide

/-- the new directory's own entry keeps its bytes when a clone of the handle is dropped: the stamp of the (unchanged)
    clock re-writes the record as it is -/
theorem sub_entry_stable {ed0 : DirEntryEditor} {t0 N : Nat} {src : Nat → Nat} {X Y : Dev}
    (hmid : MidImg N src (subDropPost ed0 t0) X Y)
    (hst : ed0.data.setModified (clockDateTime t0) = ed0.data) (hwf : ed0.data.WF) (h42 : 0x42 ≤ ed0.pos)
    (hout : ∀ i, i < N → src (32 * i) + 32 ≤ ed0.pos ∨ ed0.pos + 32 ≤ src (32 * i))
    (hP : ∀ q, subExtra ed0 q → X.img.getByte q = ed0.data.serialize.getD (q - ed0.pos) 0) :
    ∀ q, subExtra ed0 q → Y.img.getByte q = X.img.getByte q := by
  obtain ⟨im, him, _, hdirty, hclean⟩ := hmid
  intro q hq
  have himq : im.getByte q = X.img.getByte q := by
    refine him q (by unfold subExtra at hq; omega) (fun i hi hc => ?_)
    have := hout i hi
    unfold subExtra at hq
    omega
  by_cases hd : (ed0.setModified (clockDateTime t0)).dirty = true
  · rw [hdirty hd q hq, hP q hq]
    have hdata : (ed0.setModified (clockDateTime t0)).data = ed0.data := by
      rcases ed_setModified_data ed0 (clockDateTime t0) with h1 | h1
      · exact h1
      · rw [h1, hst]
    rw [hdata]
    exact Nat.mod_eq_of_lt (serialize_getD_lt _ hwf _)
  · rw [hclean (by simpa using hd) q, himq]

/-- the single cluster `c` as the directory `create_dir` opens for the entry it wrote, on a device `d`: zero-filled and
    ending a chain; the handle carries the editor `ed0` of that entry, whose record lies behind the FAT copies, inside
    the device and apart from the cluster — what `WView.ofSub` and `sub_fresh_dots` ask for -/
structure FreshSub (d : Dev) (c : Nat) (ed0 : DirEntryEditor) : Prop where
  dir : ChainDir d (FileH.new (some c) (some ed0)) c [c]
  wf : d.img.WF
  fuel : d.fs.clusterSize / 32 < dirFuel d.fs
  name : ed0.data.name.length = 11
  epos : (fatSliceOf d.fs).beginOff + (fatSliceOf d.fs).mirrors * (fatSliceOf d.fs).size ≤ ed0.pos
  ein : ed0.pos + 32 ≤ d.img.size
  eout : ∀ i, i < d.fs.clusterSize / 32 →
    chainSrc d.fs [c] (32 * i) + 32 ≤ ed0.pos ∨ ed0.pos + 32 ≤ chainSrc d.fs [c] (32 * i)
  zero : ∀ q, clusterOff d.fs c ≤ q → q < clusterOff d.fs c + d.fs.clusterSize → d.img.getByte q = 0

/-- the new directory as a writable directory -/
def FreshSub.view {d : Dev} {c : Nat} {ed0 : DirEntryEditor} (N : FreshSub d c ed0) :
    WView d (.file (FileH.new (some c) (some ed0))) :=
  WView.ofSub d c ed0 [c] N.dir N.wf (by rw [List.length_singleton, Nat.one_mul]; exact N.fuel) N.name N.epos N.ein
    (fun i hi => N.eout i (by rwa [List.length_singleton, Nat.one_mul] at hi))

theorem FreshSub.view_N {d : Dev} {c : Nat} {ed0 : DirEntryEditor} (N : FreshSub d c ed0) :
    N.view.N = d.fs.clusterSize / 32 := by
  show [c].length * _ = _
  rw [List.length_singleton, Nat.one_mul]

/-- **`.` in the fresh directory**: its slots are zero, so `.` goes to slot 0, and `..` will fit behind it -/
theorem FreshSub.dot {d : Dev} {c : Nat} {ed0 : DirEntryEditor} (N : FreshSub d c ed0) {K : Nat}
    (hK : d.fs.clusterSize / 32 = K + 2) :
    DirSlots.findFree (N.view.slots d.img) 1 + 1 ≤ N.view.N ∧
    ∃ e5 d5, run (FatVerif.writeEntry (.file (FileH.new (some c) (some ed0))) "."
        (sfnAt d.fs d.clock (46 :: List.replicate 10 32) 16 (some c))) d = (.ok e5, d5) ∧
      N.view.Wrote d d5 (sfnWith (46 :: List.replicate 10 32) (16 :: sfnStamp d.fs d.clock (some c)) ::
        List.replicate (K + 1) (List.replicate 32 0)) ∧
      DirSlots.findFree (N.view.slots d5.img) 1 + 1 ≤ N.view.N := by
  have hz : N.view.slots d.img = List.replicate (K + 2) (List.replicate 32 0) := by
    unfold WView.slots
    rw [N.view_N, hK]
    refine srcSlots_zero _ _ _ (fun i hi x hx => ?_)
    have := Nat.div_add_mod d.fs.clusterSize 32
    have := N.dir.cs32
    rw [show N.view.src = chainSrc d.fs [c] from rfl, chainSrc_single d.fs c i (by omega)]
    exact N.zero _ (by omega) (by omega)
  obtain ⟨hf1, hw1, hf2, _⟩ := writeEntryDot_fresh
    (sfnWith (46 :: List.replicate 10 32) (16 :: sfnStamp d.fs d.clock (some c))) [] K rfl rfl
  have hfit1 : DirSlots.findFree (N.view.slots d.img) 1 + 1 ≤ N.view.N := by rw [hz, hf1, N.view_N, hK]; omega
  obtain ⟨d5, h5, w5⟩ := N.view.writeEntryDot_sim d N.view.here "."
    (sfnAt d.fs d.clock (46 :: List.replicate 10 32) 16 (some c)) validate_dot.1 (by decide)
    (sfnAt_wf d.fs d.clock (46 :: List.replicate 10 32) 16 (some c) (by decide) (by decide) (by omega))
    (by rw [sfnAt_attrs]; decide) hfit1
  rw [hz, sfnAt_serialize, hw1] at w5
  exact ⟨hfit1, _, d5, h5, w5, by rw [show N.view.slots d5.img = _ from w5.slots, hf2, N.view_N, hK]; omega⟩

/-- **`.` and `..` in a fresh sub-directory**: the directory of the single zero-filled cluster `c`, opened through the
    handle with the (clean) editor `ed0` of its own entry, whose record already carries the stamp of the clock and is on
    the image. `.` goes to slot 0 and `..` (first cluster `dd`) to slot 1; the rest stays zero; the own entry keeps its
    bytes. -/
theorem sub_fresh_dots {d : Dev} {c : Nat} {ed0 : DirEntryEditor} (N : FreshSub d c ed0) (dd : Option Nat) {K : Nat}
    (hK : d.fs.clusterSize / 32 = K + 2)
    (hst : ed0.data.setModified (clockDateTime d.clock) = ed0.data) (hedwf : ed0.data.WF)
    (hP : ∀ q, subExtra ed0 q → d.img.getByte q = ed0.data.serialize.getD (q - ed0.pos) 0) :
    ∃ d5 e5 d6 e6,
      run (FatVerif.writeEntry (.file (FileH.new (some c) (some ed0))) "."
        (sfnAt d.fs d.clock (46 :: List.replicate 10 32) 16 (some c))) d = (.ok e5, d5) ∧
      run (FatVerif.writeEntry (.file (FileH.new (some c) (some ed0))) ".."
        (sfnAt d5.fs d5.clock (46 :: 46 :: List.replicate 9 32) 16 dd)) d5 = (.ok e6, d6) ∧
      VolStep d d6 ∧ d6.fs.curDirty = true ∧ d6.clock = d.clock ∧ SubInv d.fs ed0 c [c] d.clock d6 ∧
      srcSlots d6.img (chainSrc d.fs [c]) (d.fs.clusterSize / 32) =
        sfnWith (46 :: List.replicate 10 32) (16 :: sfnStamp d.fs d.clock (some c)) ::
        sfnWith (46 :: 46 :: List.replicate 9 32) (16 :: sfnStamp d.fs d.clock dd) ::
        List.replicate K (List.replicate 32 0) ∧
      FrameOutE (d.fs.clusterSize / 32) (chainSrc d.fs [c]) (subExtra ed0) d d6 ∧
      (∀ q, subExtra ed0 q → d6.img.getByte q = d.img.getByte q) := by
  have h42 : 0x42 ≤ ed0.pos := by
    have := N.dir.geo.status_lt
    have := N.epos
    omega
  -- `.`
  obtain ⟨_, e5, d5, h5, w5, hfit2⟩ := N.dot hK
  have hc5 : d5.clock = d.clock := run_clock _ _ _ _ h5
  have hg5 : FsGeomEq d.fs d5.fs := w5.vol.geom
  -- `..`
  have hraw2 := sfnAt_wf d5.fs d5.clock (46 :: 46 :: List.replicate 9 32) 16 dd (by decide) (by decide) (by omega)
  have hlfn2 : attrsIsLfn (sfnAt d5.fs d5.clock (46 :: 46 :: List.replicate 9 32) 16 dd).attrs = false := by
    rw [sfnAt_attrs]; decide
  obtain ⟨d6, h6, w6⟩ := N.view.writeEntryDot_sim d5 w5.inv ".."
    (sfnAt d5.fs d5.clock (46 :: 46 :: List.replicate 9 32) 16 dd) validate_dot.2 (by decide) hraw2 hlfn2 hfit2
  have hsl6 := w6.slots
  rw [show N.view.slots d5.img = _ from w5.slots, sfnAt_geom hg5, hc5, sfnAt_serialize,
    (writeEntryDot_fresh _ (sfnWith (46 :: 46 :: List.replicate 9 32) (16 :: sfnStamp d.fs d.clock dd)) K rfl rfl).2.2.2,
    N.view_N] at hsl6
  have hfr := FrameOutE.trans w5.frame w6.frame
  have hmid5 := w5.mid
  have hmid6 := w6.mid
  rw [N.view_N] at hfr hmid5 hmid6
  -- the own entry
  have hst5 := sub_entry_stable hmid5 hst hedwf h42 N.eout hP
  have hst6 := sub_entry_stable hmid6 hst hedwf h42 N.eout (fun q hq => by rw [hst5 q hq]; exact hP q hq)
  exact ⟨d5, e5, d6, _, h5, h6, w5.vol.trans w6.vol, w6.dirty, (run_clock _ _ _ _ h6).trans hc5, w6.inv, hsl6, hfr,
    fun q hq => (hst6 q hq).trans (hst5 q hq)⟩

/-! ### the second half of `create_dir`: `to_dir` on the new entry and the two dot entries -/

/-- the tail of `create_dir` after the entry is in the parent (same text as in `Model/DirOps.lean`) -/
def createDirTail (fs : FsState) (d : DirStream) (entry : DirEntry) : Prog DirStream := do
  let dir ← entry.toDir fs
  Prog.finallyDrop (do
      let dot ← createSfnEntry (46 :: List.replicate 10 32) ATTR_DIRECTORY (entry.firstCluster fs)
      let _ ← writeEntry dir "." dot
      let ddCluster := if d.isRootDir then none else d.firstCluster
      let dotdot ← createSfnEntry (46 :: 46 :: List.replicate 9 32) ATTR_DIRECTORY ddCluster
      let _ ← writeEntry dir ".." dotdot
      pure dir)
    (fun r => match r with
      | some _ => pure ()
      | none => dir.dropBody)

/-- **the entry `e` of the new directory is in place** (cluster `c`, alias `a`; geometry `fs0`), on a device with mounted
    state `fs3`, image `img3` and clock `t3`: `e` carries the record stamped with the clock; its short slot lies behind
    the FAT copies, inside the device and outside cluster `c`, which is zero-filled and ends a chain; the options and the
    cluster geometry are those the proofs cover (`cs64`: the entries `.` and `..` fit into the one cluster) -/
structure EntryPlaced (fs0 : FsState) (e : DirEntry) (a : List Nat) (c : Nat) (fs3 : FsState) (img3 : Img) (t3 : Nat) :
    Prop where
  alias : a.length = 11
  data : e.data = sfnAt fs0 t3 a 16 (some c)
  geom : FsGeomEq fs0 fs3
  wf : img3.WF
  geo : Geo fs0 img3.size
  noAcc : fs0.accDate = false
  cs32 : fs0.clusterSize % 32 = 0
  cs64 : 64 ≤ fs0.clusterSize
  u32 : fs0.clusterSize < 4294967296
  fuel : fs0.clusterSize / 32 < dirFuel fs0
  range : 2 ≤ c ∧ c < fs0.totalClusters + 2
  ends : ∀ n, tabView fs3 img3 c ≠ .data n
  zero : ∀ q, clusterOff fs0 c ≤ q → q < clusterOff fs0 c + fs0.clusterSize → img3.getByte q = 0
  behind : (fatSliceOf fs0).beginOff + (fatSliceOf fs0).mirrors * (fatSliceOf fs0).size ≤ e.entryPos
  inside : e.entryPos + 32 ≤ img3.size
  apart : e.entryPos + 32 ≤ clusterOff fs0 c ∨ clusterOff fs0 c + fs0.clusterSize ≤ e.entryPos

/-- the entry `e` of the new directory (hypotheses of `createDir_child`) is a directory with first cluster `c`, and `c`
    is a `FreshSub` for its editor on every device with the volume of `d3` (`to_dir` and the position queries keep it) -/
theorem FreshSub.of_entry {fs0 : FsState} {e : DirEntry} {a : List Nat} {c : Nat} {d3 : Dev}
    (E : EntryPlaced fs0 e a c d3.fs d3.img d3.clock) (hfa : d3.failAt = none) :
    e.isDir = true ∧ e.firstCluster fs0 = some c ∧ ∀ d4, SameVol d3 d4 → FreshSub d4 c e.editor := by
  have ⟨hl11, hedata, hg3, hwf, hgeo, hacc, hcs32, hcs64, hu32, hfuelN, hrange, htvc, hzero, hpos1, hpos2, hpos3⟩ := E
  have heisdir : e.isDir = true := by
    unfold DirEntry.isDir; rw [hedata]; exact sfnAt_isDir_true _ _ _ _
  have hefc : e.firstCluster fs0 = some c := by
    unfold DirEntry.firstCluster
    rw [hedata]
    refine sfnAt_firstCluster fs0 d3.clock a 16 (some c) (fun m hm => ?_)
    cases hm
    have := hgeo.small
    have := badMark_bound fs0.fatType
    omega
  refine ⟨heisdir, hefc, fun d4 hs4 => ?_⟩
  generalize hed0 : e.editor = ed0
  have hedpos : ed0.pos = e.entryPos := by rw [← hed0]; rfl
  have heddata : ed0.data = sfnAt fs0 d3.clock a 16 (some c) := by rw [← hed0]; exact hedata
  have hg4 : FsGeomEq fs0 d4.fs := by rw [hs4.fs]; exact hg3
  have hcs4 : d4.fs.clusterSize = fs0.clusterSize := hg4.clusterSize
  have hsz4 : d4.img.size = d3.img.size := by rw [hs4.img]
  refine ⟨⟨by rw [hs4.failAt]; exact hfa, by rw [hsz4]; exact hgeo.frame hg4, rfl, ?_, ?_, ?_,
      Or.inl (by rw [hg4.accDate]; exact hacc), ?_, by rw [hcs4]; exact hcs32,
      by rw [hcs4, List.length_singleton, Nat.one_mul]; exact hu32⟩, by rw [hs4.img]; exact hwf,
    by rw [hcs4, dirFuel_geom hg4]; exact hfuelN, by rw [heddata, sfnAt_name]; exact hl11,
    by rw [hg4.fatSlice, hedpos]; exact hpos1, by rw [hsz4, hedpos]; exact hpos2, fun i hi => ?_, fun q h1 h2 => ?_⟩
  · refine Chain.last c (fun m => ?_)
    rw [hs4.fs, hs4.img]; exact htvc m
  · intro x hx
    simp only [List.mem_singleton] at hx
    subst hx
    rw [hg4.totalClusters]; exact hrange
  · show ed0.data.size? = none
    rw [heddata]; exact sfnAt_size?_dir _ _ _ _
  · intro ed hed
    cases hed
    rw [← hed0]; rfl
  · rw [hcs4] at hi
    have := Nat.div_add_mod fs0.clusterSize 32
    rw [chainSrc_geom hg4, chainSrc_single fs0 c i (by omega), hedpos]
    omega
  · rw [hg4.clusterOff] at h1 h2
    rw [hcs4] at h2
    rw [hs4.img]; exact hzero q h1 h2

/-- **the new directory gets its dot entries**: `e` is the entry of the new directory (record `sfnAt … 16 (some c)`
    stamped with the clock of `d3`) whose 32 bytes are on the image at `e.entryPos` (behind the FAT copies, inside the
    device, outside cluster `c`); cluster `c` is zero-filled and ends a chain in the FAT -/
theorem createDir_child (fs0 : FsState) (st : DirStream) (e : DirEntry) (a : List Nat) (c : Nat) (d3 : Dev)
    (E : EntryPlaced fs0 e a c d3.fs d3.img d3.clock) (hab : ∀ b ∈ a, b < 256) (hfa : d3.failAt = none)
    (hP : ∀ x, x < 32 → d3.img.getByte (e.entryPos + x) = e.data.serialize.getD x 0) :
    ∃ d6, run (createDirTail fs0 st e) d3 = (.ok (.file (FileH.new (some c) (some e.editor))), d6) ∧
      VolStep d3 d6 ∧ d6.fs.curDirty = true ∧ d6.clock = d3.clock ∧
      ChainDir d6 (FileH.new (some c) (some e.editor)) c [c] ∧
      srcSlots d6.img (chainSrc fs0 [c]) (fs0.clusterSize / 32) =
        sfnWith (46 :: List.replicate 10 32) (16 :: sfnStamp fs0 d3.clock (some c)) ::
        sfnWith (46 :: 46 :: List.replicate 9 32)
          (16 :: sfnStamp fs0 d3.clock (if st.isRootDir then none else st.firstCluster)) ::
        List.replicate (fs0.clusterSize / 32 - 2) (List.replicate 32 0) ∧
      tabView d6.fs d6.img = tabView d3.fs d3.img ∧
      (∀ q, 0x42 ≤ q → ¬ (clusterOff fs0 c ≤ q ∧ q < clusterOff fs0 c + fs0.clusterSize) →
        d6.img.getByte q = d3.img.getByte q) := by
  have ⟨hl11, hedata, hg3, hwf, hgeo, hacc, hcs32, hcs64, hu32, hfuelN, hrange, htvc, hzero, hpos1, hpos2, hpos3⟩ := E
  have hrawwf := sfnAt_wf fs0 d3.clock a 16 (some c) hl11 hab (by omega)
  have hst42 := hgeo.status_lt
  have hfatdata := hgeo.fat_data
  have hms : (fatSliceOf fs0).size ≤ (fatSliceOf fs0).mirrors * (fatSliceOf fs0).size :=
    Nat.le_mul_of_pos_left _ hgeo.mirrors_pos
  obtain ⟨hco1, hco2⟩ := clusterOff_end hgeo hrange.1 hrange.2
  obtain ⟨heisdir, hefc, hfresh⟩ := FreshSub.of_entry E hfa
  generalize hed0 : e.editor = ed0 at hfresh ⊢
  have hedpos : ed0.pos = e.entryPos := by rw [← hed0]; rfl
  have heddata : ed0.data = sfnAt fs0 d3.clock a 16 (some c) := by rw [← hed0]; exact hedata
  -- to_dir
  obtain ⟨d4, h4, hs4⟩ := toDir_sim fs0 e heisdir d3
  have hds : DirEntry.dirStream fs0 e = .file (FileH.new (some c) (some ed0)) := by
    rw [DirEntry.dirStream_of_cluster fs0 e c hefc, hed0]
  rw [hds] at h4
  have hg4 : FsGeomEq fs0 d4.fs := by rw [hs4.fs]; exact hg3
  have hc4 : d4.clock = d3.clock := run_clock _ _ _ _ h4
  have hcs4 : d4.fs.clusterSize = fs0.clusterSize := hg4.clusterSize
  have hsz4 : d4.img.size = d3.img.size := by rw [hs4.img]
  have N4 := hfresh d4 hs4
  obtain ⟨K, hK⟩ : ∃ K, fs0.clusterSize / 32 = K + 2 := ⟨fs0.clusterSize / 32 - 2, by omega⟩
  have hcsK : fs0.clusterSize = 32 * (K + 2) := by
    have := Nat.div_add_mod fs0.clusterSize 32; omega
  have hsrcC : ∀ i, i < fs0.clusterSize / 32 → chainSrc fs0 [c] (32 * i) = clusterOff fs0 c + 32 * i :=
    fun i hi => chainSrc_single fs0 c i (by omega)
  have hP4 : ∀ q, subExtra ed0 q → d4.img.getByte q = ed0.data.serialize.getD (q - ed0.pos) 0 := by
    intro q hq
    unfold subExtra at hq
    obtain ⟨x, hx⟩ : ∃ x, q = ed0.pos + x := ⟨q - ed0.pos, by omega⟩
    subst hx
    rw [hs4.img, hedpos, hP x (by omega), heddata, hedata]
    congr 1
    omega
  obtain ⟨d5, e5, d6, e6, h5, h6, hs6, hd6, hc6, hinv6, hsl6, hfr6, hst6⟩ := sub_fresh_dots N4
    (if st.isRootDir then none else st.firstCluster) (by rw [hcs4]; exact hK)
    (by rw [heddata, hc4]; exact sfnAt_setModified _ _ _ _ _) (by rw [heddata]; exact hrawwf) hP4
  rw [chainSrc_geom hg4, hcs4, sfnStamp_geom hg4, sfnStamp_geom hg4, hc4] at hsl6
  rw [chainSrc_geom hg4, hcs4] at hfr6
  have hagree6 : FatAgree d4.fs d4.img d6.img :=
    fatAgree_of_frameE hfr6 d4.fs (by rw [hg4.fatSlice]; exact hst42)
      (fun j hj => by rw [hg4.fatSlice, hsrcC j hj]; omega)
      (fun q hq => by rw [hg4.fatSlice]; unfold subExtra at hq; rw [hedpos] at hq; omega)
  have htv46 : tabView d6.fs d6.img = tabView d4.fs d4.img := by
    rw [hs6.geom.tabView, tabView_congr (sz := d3.img.size) (by rw [← hsz4]; rw [hsz4]; exact hgeo.frame hg4) hagree6]
  refine ⟨d6, ?_, (VolStep.of_sameVol hs4).trans hs6, hd6, hc6.trans hc4, ?_, by rw [hsl6, hK]; rfl,
    by rw [htv46, hs4.fs, hs4.img], ?_⟩
  · unfold createDirTail
    rw [run_bind_ok h4]
    refine run_finallyDrop_noop ?_ (fun _ => rfl)
    rw [run_bind_ok (run_createSfnEntry _ ATTR_DIRECTORY (e.firstCluster fs0) d4), hefc]
    have h5' : run (FatVerif.writeEntry (.file (FileH.new (some c) (some ed0))) "."
        (sfnAt d4.fs d4.clock (46 :: List.replicate 10 32) ATTR_DIRECTORY (some c))) d4 = (.ok e5, d5) := h5
    have h6' : run (FatVerif.writeEntry (.file (FileH.new (some c) (some ed0))) ".."
        (sfnAt d5.fs d5.clock (46 :: 46 :: List.replicate 9 32) ATTR_DIRECTORY
          (if st.isRootDir then none else st.firstCluster))) d5 = (.ok e6, d6) := h6
    rw [run_bind_ok h5']
    rw [run_bind_ok (run_createSfnEntry _ ATTR_DIRECTORY _ d5), run_bind_ok h6']
    rfl
  · exact hinv6.dir
  · intro q hq hnc
    rw [← hs4.img]
    by_cases hx : subExtra ed0 q
    · exact hst6 q hx
    · exact hfr6 q hq (fun j hj hc => by rw [hsrcC j hj] at hc; omega) hx

/-- the short record of a freshly written entry on the image: it is in the last of its slots -/
theorem newEntry_bytes (img : Img) (src : Nat → Nat) (N : Nat) (slots : List (List Nat)) (units sfn : List Nat)
    (Z : List (List Nat)) (hsl : srcSlots img src N = DirSlots.writeEntry slots units sfn ++ Z)
    (hple : DirSlots.findFree slots (Lfn.numParts units.length + 1) ≤ slots.length)
    (hidx : DirSlots.findFree slots (Lfn.numParts units.length + 1) + (Lfn.numParts units.length + 1) - 1 < N)
    (x : Nat) (hx : x < 32) :
    img.getByte (src (32 * (DirSlots.findFree slots (Lfn.numParts units.length + 1) +
      (Lfn.numParts units.length + 1) - 1)) + x) = sfn.getD x 0 := by
  have hlen : (lfnGenerate units (lfnChecksum (Lfn.sfnName sfn))).length = Lfn.numParts units.length + 1 - 1 := by
    rw [lfnGenerate_length]; rfl
  unfold DirSlots.writeEntry DirSlots.entrySlots at hsl
  have hn1 : 1 ≤ Lfn.numParts units.length + 1 := by omega
  generalize Lfn.numParts units.length + 1 = n at *
  generalize DirSlots.findFree slots n = p at *
  have hslot : (srcSlots img src N).getD (p + n - 1) [] = sfn := by
    have hw := writeAt_last_getD slots (lfnGenerate units (lfnChecksum (Lfn.sfnName sfn))) sfn p hple
    rw [hlen, show p + (n - 1) = p + n - 1 by omega] at hw
    rw [hsl, DirSlots.getD_append_left' _ _ _ (by
      unfold DirSlots.writeAt
      simp only [List.length_append, List.length_take, List.length_cons, List.length_nil, hlen]
      omega)]
    exact hw
  rw [srcSlots_getD _ _ _ _ hidx] at hslot
  rw [← Img.read_getD img _ 32 x hx, hslot]

/-- `create_dir(name)` for a free name, up to `createDirTail`: `check_for_existence` (alias `a`), `alloc_cluster` (`c`),
    `create_sfn_entry`, `write_entry` in the parent -/
theorem run_createDir_new (env : Env) (fuel : Nat) (st : DirStream) (path name : String)
    (hsp : Names.splitPath path = (name, none)) (hdot : (name = "." || name = "..") = false)
    (hval : Names.validateLongName name = .ok ()) {d d1 d2 d3 : Dev} {a : List Nat} {c : Nat} {e : DirEntry}
    (h1 : run (checkForExistence env st name (some true)) d = (.ok (.short a), d1))
    (h2 : run (allocClusterFs none true) d1 = (.ok c, d2)) (hg2 : FsGeomEq d.fs d2.fs) (hc2 : d2.clock = d.clock)
    (h3 : run (FatVerif.writeEntry st name (sfnAt d.fs d.clock a 16 (some c))) d2 = (.ok e, d3)) :
    run (FatVerif.createDir env (fuel + 1) st path) d = run (createDirTail d.fs st e) d3 := by
  unfold FatVerif.createDir
  rw [run_bind_ok (run_getFs d), hsp]
  simp only
  rw [run_bind_ok h1]
  simp only [hdot, Bool.false_eq_true, if_false, liftE, hval]
  rw [run_bind_ok (rfl : run (pure () : Prog Unit) d1 = (.ok (), d1)), run_bind_ok h2,
    run_bind_ok (run_createSfnEntry a ATTR_DIRECTORY (some c) d2)]
  have h3' : run (Prog.attempt (FatVerif.writeEntry st name (sfnAt d2.fs d2.clock a ATTR_DIRECTORY (some c)))) d2 =
      (.ok (.ok e), d3) := by
    have h3'' : run (FatVerif.writeEntry st name (sfnAt d.fs d.clock a ATTR_DIRECTORY (some c))) d2 = (.ok e, d3) := h3
    rw [run_attempt, sfnAt_geom hg2, hc2, h3'']
  rw [run_bind_ok h3']
  simp only
  rw [run_bind_ok (rfl : run (pure e : Prog DirEntry) d3 = (.ok e, d3))]
  rfl

/-! ### `create_dir` around the `write_entry` in its parent -/

/-- **the request `create_dir path` on a volume (mounted state `fs`, image `img`)**, in a directory whose slots are `slots`: `path` is the single
    component `name`, an ordinary valid name that is free (`check_for_existence` chooses the alias `a`); the options and
    the cluster geometry the proofs cover; the FS-info agrees with the FAT, in which the allocator finds `c` -/
structure CreateDirReq (fs : FsState) (img : Img) (env : Env) (path name : String) (slots : List (List Nat)) (a : List Nat)
    (c : Nat) : Prop where
  split : Names.splitPath path = (name, none)
  notDot : (name = "." || name = "..") = false
  valid : Names.validateLongName name = .ok ()
  lfnAlloc : fs.lfnAlloc = true
  geo : Geo fs img.size
  info : InfoOk fs img
  noAcc : fs.accDate = false
  cs32 : fs.clusterSize % 32 = 0
  cs64 : 64 ≤ fs.clusterSize
  u32 : fs.clusterSize < 4294967296
  fuel : fs.clusterSize / 32 < dirFuel fs
  check : DirAlias.checkForExistenceL env.upper slots name (some true) 70000 = .ok (.alias a)
  find : allocFindV (tabView fs img) fs.fsInfo.next fs.totalClusters = some c

/-- the alias chosen has 11 bytes -/
theorem CreateDirReq.alias {fs : FsState} {img : Img} {env : Env} {path name : String} {slots : List (List Nat)}
    {a : List Nat} {c : Nat} (R : CreateDirReq fs img env path name slots a c) : a.length = 11 ∧ ∀ b ∈ a, b < 256 :=
  let ⟨hcan, hl11, _⟩ := C16dir.dir_alias_canon env.upper slots name (some true) 70000 a R.check
  ⟨hl11, canon_lt hcan⟩


/-- the allocation step of the request, on a device `d1` with the volume of `d` (after `check_for_existence`): relative to
    `d1` and to `d` -/
theorem CreateDirReq.alloc {d d1 : Dev} {env : Env} {path name : String} {slots : List (List Nat)} {a : List Nat} {c : Nat}
    (R : CreateDirReq d.fs d.img env path name slots a c) (hfa : d.failAt = none) (hwf : d.img.WF) (hs1 : SameVol d d1)
    (hc1 : d1.clock = d.clock) :
    ∃ d2, run (allocClusterFs none true) d1 = (.ok c, d2) ∧ AllocStep d1 d2 c ∧ AllocStep d d2 c := by
  obtain ⟨d2, h2, hal⟩ := run_alloc_step c d1 (by rw [hs1.failAt]; exact hfa) (by rw [hs1.img]; exact hwf)
    (by rw [hs1.fs, hs1.img]; exact R.geo) (by rw [hs1.fs, hs1.img]; exact R.info) (by rw [hs1.fs, hs1.img]; exact R.find)
  exact ⟨d2, h2, hal, hal.of_sameVol hs1 hc1⟩

/-- what `create_dir` needs of the `write_entry` in the parent (`d2`: the device after the allocation of `c`, `d3`: after
    the write, `e`: the entry returned): `e` carries the record, its short slot is on the image behind the FAT copies and
    outside cluster `c`, cluster `c` is untouched and still ends a chain -/
structure ParentWrote (fs0 : FsState) (c : Nat) (raw : DirFileEntryData) (d2 d3 : Dev) (e : DirEntry) : Prop where
  vol : VolStep d2 d3
  data : e.data = raw
  behind : (fatSliceOf fs0).beginOff + (fatSliceOf fs0).mirrors * (fatSliceOf fs0).size ≤ e.entryPos
  inside : e.entryPos + 32 ≤ d3.img.size
  apart : e.entryPos + 32 ≤ clusterOff fs0 c ∨ clusterOff fs0 c + fs0.clusterSize ≤ e.entryPos
  bytes : ∀ x, x < 32 → d3.img.getByte (e.entryPos + x) = raw.serialize.getD x 0
  cluster : ∀ q, clusterOff fs0 c ≤ q → q < clusterOff fs0 c + fs0.clusterSize → d3.img.getByte q = d2.img.getByte q
  ends : ∀ n, tabView d3.fs d3.img c ≠ .data n

/-- … from the slots of the parent afterwards (`Z`: the zero slots of a new cluster, if it grew), when each slot lies
    behind the FAT copies, inside the device and outside cluster `c` -/
theorem ParentWrote.of_slots {fs0 : FsState} {c : Nat} {raw : DirFileEntryData} {d2 d3 : Dev} (src : Nat → Nat) (N : Nat)
    (slots : List (List Nat)) (units : List Nat) (Z : List (List Nat)) (hraw : raw.WF) (hlfn : attrsIsLfn raw.attrs = false)
    (hvol : VolStep d2 d3) (hsl : srcSlots d3.img src N = DirSlots.writeEntry slots units raw.serialize ++ Z)
    (n p : Nat) (hn : Lfn.numParts units.length + 1 = n) (hp : DirSlots.findFree slots n = p) (hfit : p + n ≤ N)
    (hpos : ∀ i, i < N → (fatSliceOf fs0).beginOff + (fatSliceOf fs0).mirrors * (fatSliceOf fs0).size ≤ src (32 * i) ∧
      src (32 * i) + 32 ≤ d3.img.size ∧
      (src (32 * i) + 32 ≤ clusterOff fs0 c ∨ clusterOff fs0 c + fs0.clusterSize ≤ src (32 * i)))
    (hcl : ∀ q, clusterOff fs0 c ≤ q → q < clusterOff fs0 c + fs0.clusterSize → d3.img.getByte q = d2.img.getByte q)
    (hends : ∀ n, tabView d3.fs d3.img c ≠ .data n) :
    ParentWrote fs0 c raw d2 d3 (toDirEntryS src ⟨raw.serialize, units, p, p + n⟩) := by
  subst hn hp
  have hple := DirSlots.findFree_le slots (Lfn.numParts units.length + 1)
  have hb := newEntry_bytes d3.img src N slots units raw.serialize Z hsl hple (by omega)
  have hn : 0 < Lfn.numParts units.length + 1 := Nat.succ_pos _
  generalize Lfn.numParts units.length + 1 = n at *
  generalize DirSlots.findFree slots n = p at *
  have hlast : (toDirEntryS src ⟨raw.serialize, units, p, p + n⟩).entryPos = src (32 * (p + n - 1)) := by
    show src (32 * (p + n) - 32) = _
    congr 1; omega
  obtain ⟨h1, h2, h3⟩ := hpos (p + n - 1) (by omega)
  refine ⟨hvol, congrArg DirEntry.data (writeEntry_result src raw hraw hlfn units p n).symm, ?_, ?_, ?_,
    fun x hx => ?_, hcl, hends⟩ <;> rw [hlast]
  · exact h1
  · exact h2
  · exact h3
  · exact hb x hx

/-- … so the entry is in place on `d3` (`d2`: after the allocation of `c` on `d`) -/
theorem ParentWrote.placed {d d2 d3 : Dev} {env : Env} {path name : String} {slots : List (List Nat)} {a : List Nat}
    {c : Nat} {e : DirEntry} (P : ParentWrote d.fs c (sfnAt d.fs d.clock a 16 (some c)) d2 d3 e)
    (R : CreateDirReq d.fs d.img env path name slots a c) (hwf : d.img.WF) (hal : AllocStep d d2 c)
    (hc3 : d3.clock = d.clock) : EntryPlaced d.fs e a c d3.fs d3.img d3.clock :=
  ⟨R.alias.1, by rw [P.data, hc3], hal.step.geom.trans P.vol.geom, P.vol.wf (hal.step.wf hwf),
    by rw [P.vol.size, hal.step.size]; exact R.geo, R.noAcc, R.cs32, R.cs64, R.u32, R.fuel, hal.range, P.ends,
    fun q h1 h2 => (P.cluster q h1 h2).trans (hal.zero q h1 h2), P.behind, P.inside, P.apart⟩

/-- **`create_dir(name)`, whatever the parent**: `check_for_existence` chose the alias `a`, the allocator finds `c`, and
    the parent's `write_entry` after the allocation does `ParentWrote` (and `Q`, which the caller wants to keep: its own
    slots and invariant). Then the run succeeds; the writes into the new directory touch cluster `c` only and keep the FAT -/
theorem createDir_core {Q : Dev → Dev → DirEntry → Prop} {d : Dev} {env : Env} {path name : String}
    {slots : List (List Nat)} {a : List Nat} {c : Nat} (R : CreateDirReq d.fs d.img env path name slots a c) (fuel : Nat)
    (st : DirStream) (hfa : d.failAt = none) (hwf : d.img.WF)
    (hchk : Reads (checkForExistence env st name (some true)) d (.short a))
    (parent : ∀ d1 d2, SameVol d d1 → d1.clock = d.clock → AllocStep d1 d2 c →
      ∃ e d3, run (FatVerif.writeEntry st name (sfnAt d.fs d.clock a 16 (some c))) d2 = (.ok e, d3) ∧
        ParentWrote d.fs c (sfnAt d.fs d.clock a 16 (some c)) d2 d3 e ∧ Q d2 d3 e) :
    ∃ d2 d3 d' e, ParentWrote d.fs c (sfnAt d.fs d.clock a 16 (some c)) d2 d3 e ∧ Q d2 d3 e ∧
      run (FatVerif.createDir env (fuel + 1) st path) d = (.ok (.file (FileH.new (some c) (some e.editor))), d') ∧
      VolStep d d' ∧ VolStep d3 d' ∧ d'.fs.curDirty = true ∧ d'.clock = d3.clock ∧
      ChainDir d' (FileH.new (some c) (some e.editor)) c [c] ∧
      srcSlots d'.img (chainSrc d.fs [c]) (d.fs.clusterSize / 32) =
        sfnWith (46 :: List.replicate 10 32) (16 :: sfnStamp d.fs d.clock (some c)) ::
        sfnWith (46 :: 46 :: List.replicate 9 32)
          (16 :: sfnStamp d.fs d.clock (if st.isRootDir then none else st.firstCluster)) ::
        List.replicate (d.fs.clusterSize / 32 - 2) (List.replicate 32 0) ∧
      tabView d'.fs d'.img = tabView d3.fs d3.img ∧
      (∀ q, 0x42 ≤ q → ¬ (clusterOff d.fs c ≤ q ∧ q < clusterOff d.fs c + d.fs.clusterSize) →
        d'.img.getByte q = d3.img.getByte q) := by
  obtain ⟨d1, h1, hs1⟩ := hchk
  have hc1 : d1.clock = d.clock := run_clock _ _ _ _ h1
  obtain ⟨d2, h2, hal1, hal⟩ := R.alloc hfa hwf hs1 hc1
  have hg2 : FsGeomEq d.fs d2.fs := hal.step.geom
  have hc2 : d2.clock = d.clock := hal.step.clock
  have hvs2 : VolStep d d2 := VolStep.of_devStep hal.step
  obtain ⟨e, d3, h3, P, hQ⟩ := parent d1 d2 hs1 hc1 hal1
  have hc3 : d3.clock = d.clock := (run_clock _ _ _ _ h3).trans hc2
  obtain ⟨d6, h6, hs6, hd6, hc6, hC6, hsl6, htv6, hfr6⟩ := createDir_child d.fs st e a c d3
    (P.placed R hwf hal hc3) R.alias.2 (by rw [P.vol.failAt, hvs2.failAt]; exact hfa)
    (fun x hx => by rw [P.data]; exact P.bytes x hx)
  rw [hc3] at hsl6
  exact ⟨d2, d3, d6, e, P, hQ, (run_createDir_new env fuel st path name R.split R.notDot R.valid h1 h2 hg2 hc2 h3).trans h6,
    (hvs2.trans P.vol).trans hs6, hs6, hd6, hc6, hC6, hsl6, htv6, hfr6⟩

/-! ### `create_dir` when the entry fits into the slots of the parent -/

namespace WView
variable {d : Dev} {st : DirStream}

/-- the directory lies clear of cluster `c` (geometry `fs`, device size `sz`): its slots lie behind the FAT copies, inside the
    device and outside cluster `c`,
    and so do the bytes the destructor of a clone writes (`Extra`: its own entry in its parent) -/
structure ClearOf (V : WView d st) (fs : FsState) (sz c : Nat) : Prop where
  slots : ∀ i, i < V.N →
    (fatSliceOf fs).beginOff + (fatSliceOf fs).mirrors * (fatSliceOf fs).size ≤ V.src (32 * i) ∧
    V.src (32 * i) + 32 ≤ sz ∧
    (V.src (32 * i) + 32 ≤ clusterOff fs c ∨ clusterOff fs c + fs.clusterSize ≤ V.src (32 * i))
  extra : ∀ q, V.Extra q →
    (fatSliceOf fs).beginOff + (fatSliceOf fs).mirrors * (fatSliceOf fs).size ≤ q ∧
    ¬ (clusterOff fs c ≤ q ∧ q < clusterOff fs c + fs.clusterSize)

/-- what the parent keeps of its `write_entry` in `create_dir` when the entry fits into its allocated slots (`d3`: the
    device after the write, `e`: the entry returned), relative to the device `d` at the start -/
structure ParentKept (V : WView d st) (name : String) (a : List Nat) (c : Nat) (d3 : Dev) (e : DirEntry) : Prop where
  entry : e = toDirEntryS V.src ⟨(sfnAt d.fs d.clock a 16 (some c)).serialize, Names.encodeUtf16 name.toList,
    DirSlots.findFree (V.slots d.img) (Lfn.numParts (Names.encodeUtf16 name.toList).length + 1),
    DirSlots.findFree (V.slots d.img) (Lfn.numParts (Names.encodeUtf16 name.toList).length + 1) +
      (Lfn.numParts (Names.encodeUtf16 name.toList).length + 1)⟩
  inv : V.Inv d3
  slots : V.slots d3.img = DirSlots.writeEntry (V.slots d.img) (Names.encodeUtf16 name.toList)
    (sfnAt d.fs d.clock a 16 (some c)).serialize
  tv : tabView d3.fs d3.img = updV (tabView d.fs d.img) c .eoc
  frame : ∀ q, 0x42 ≤ q → OutsideFat d.fs q → (∀ i, i < V.N → ¬ (V.src (32 * i) ≤ q ∧ q < V.src (32 * i) + 32)) →
    ¬ V.Extra q → ¬ (clusterOff d.fs c ≤ q ∧ q < clusterOff d.fs c + d.fs.clusterSize) →
    d3.img.getByte q = d.img.getByte q

/-- **the `write_entry` of `create_dir` in its parent**, on the device `d2` after the allocation of `c` (seen from the
    start: `AllocStep.of_sameVol`), when the entry fits into the allocated slots -/
theorem createDir_parent (V : WView d st) {env : Env} {path name : String} {a : List Nat} {c : Nat}
    (R : CreateDirReq d.fs d.img env path name (V.slots d.img) a c)
    (hfit : DirSlots.findFree (V.slots d.img) (Lfn.numParts (Names.encodeUtf16 name.toList).length + 1) +
      (Lfn.numParts (Names.encodeUtf16 name.toList).length + 1) ≤ V.N)
    (hcl : V.ClearOf d.fs d.img.size c)
    {d2 : Dev} (hal : AllocStep d d2 c) (hinv2 : V.Inv d2) :
    ∃ e d3, run (FatVerif.writeEntry st name (sfnAt d.fs d.clock a 16 (some c))) d2 = (.ok e, d3) ∧
      ParentWrote d.fs c (sfnAt d.fs d.clock a 16 (some c)) d2 d3 e ∧ V.ParentKept name a c d3 e := by
  have hgeo := R.geo
  have hfatdata := hgeo.fat_data
  have hms : (fatSliceOf d.fs).size ≤ (fatSliceOf d.fs).mirrors * (fatSliceOf d.fs).size :=
    Nat.le_mul_of_pos_left _ hgeo.mirrors_pos
  have hrawwf := sfnAt_wf d.fs d.clock a 16 (some c) R.alias.1 R.alias.2 (by omega)
  have hlfn : attrsIsLfn (sfnAt d.fs d.clock a 16 (some c)).attrs = false := by rw [sfnAt_attrs]; decide
  have hvs2 : VolStep d d2 := VolStep.of_devStep hal.step
  have hslots2 : V.slots d2.img = V.slots d.img := srcSlots_clear hgeo hcl.slots hal.frame
  obtain ⟨d3, h3, w3⟩ := V.writeEntry_sim d2 hinv2 name (sfnAt d.fs d.clock a 16 (some c)) R.valid R.notDot hrawwf hlfn
    (by rw [hslots2]; exact hfit)
  rw [hslots2] at h3 w3
  have htv3 : tabView d3.fs d3.img = updV (tabView d.fs d.img) c .eoc := by
    rw [tabView_of_frameE hgeo hvs2 w3.vol w3.frame (fun j hj => by have := (hcl.slots j hj).1; omega)
      (fun q hq => by have := (hcl.extra q hq).1; omega), hal.tv]
  exact ⟨_, d3, h3, ParentWrote.of_slots V.src V.N (V.slots d.img) _ [] hrawwf hlfn w3.vol
      (by rw [List.append_nil]; exact w3.slots) _ _ rfl rfl hfit
      (fun i hi => ⟨(hcl.slots i hi).1, by rw [w3.vol.size, hvs2.size]; exact (hcl.slots i hi).2.1, (hcl.slots i hi).2.2⟩)
      (fun q h1 h2 => w3.frame q (by have := FileSim.dataStart_le_clusterOff d.fs c; have := hgeo.fat_before_data; omega)
        (fun i hi hc => by have := (hcl.slots i hi).2.2; omega)
        (fun hq => (hcl.extra q hq).2 ⟨h1, h2⟩))
      (fun m => by rw [htv3]; simp [updV]),
    ⟨rfl, w3.inv, w3.slots, htv3, fun q hq ho hn hne hnc => by rw [w3.frame q hq hn hne, hal.frame q hq ho hnc]⟩⟩

/-- **`create_dir(name)` through a writable directory** (the request `R`; the entry fits into the allocated slots of the
    parent, which lies clear of the new cluster: `hcl`).
    `hkeepA` / `hkeepW`: the invariant of the parent survives the allocation step and writes that leave the FAT alone
    (instances: `RootInv.of_alloc`, `ChainInv.of_alloc`, `SubInv.of_alloc`; `*.of_volStep`). -/
theorem createDir_sim (V : WView d st) {env : Env} {path name : String} {a : List Nat} {c : Nat}
    (R : CreateDirReq d.fs d.img env path name (V.slots d.img) a c)
    (hfit : DirSlots.findFree (V.slots d.img) (Lfn.numParts (Names.encodeUtf16 name.toList).length + 1) +
      (Lfn.numParts (Names.encodeUtf16 name.toList).length + 1) ≤ V.N)
    (hkeepA : ∀ d1 d2, SameVol d d1 → d1.clock = d.clock → AllocStep d1 d2 c → V.Inv d2)
    (hkeepW : ∀ d1 d2, V.Inv d1 → VolStep d1 d2 → d2.clock = d1.clock →
      tabView d2.fs d2.img = tabView d1.fs d1.img → V.Inv d2)
    (hcl : V.ClearOf d.fs d.img.size c)
    (fuel : Nat) :
    ∃ d', run (FatVerif.createDir env (fuel + 1) st path) d =
        (.ok (.file (FileH.new (some c) (some (DirEntryEditor.new (sfnAt d.fs d.clock a 16 (some c))
          (V.src (32 * (DirSlots.findFree (V.slots d.img) (Lfn.numParts (Names.encodeUtf16 name.toList).length + 1) +
            (Lfn.numParts (Names.encodeUtf16 name.toList).length + 1)) - 32)))))), d') ∧
      VolStep d d' ∧ d'.fs.curDirty = true ∧ V.Inv d' ∧
      V.slots d'.img = DirSlots.writeEntry (V.slots d.img) (Names.encodeUtf16 name.toList)
        (sfnWith a (16 :: sfnStamp d.fs d.clock (some c))) ∧
      tabView d'.fs d'.img = updV (tabView d.fs d.img) c .eoc ∧
      srcSlots d'.img (chainSrc d.fs [c]) (d.fs.clusterSize / 32) =
        sfnWith (46 :: List.replicate 10 32) (16 :: sfnStamp d.fs d.clock (some c)) ::
        sfnWith (46 :: 46 :: List.replicate 9 32)
          (16 :: sfnStamp d.fs d.clock (if st.isRootDir then none else st.firstCluster)) ::
        List.replicate (d.fs.clusterSize / 32 - 2) (List.replicate 32 0) ∧
      ChainDir d' (FileH.new (some c) (some (DirEntryEditor.new (sfnAt d.fs d.clock a 16 (some c))
          (V.src (32 * (DirSlots.findFree (V.slots d.img) (Lfn.numParts (Names.encodeUtf16 name.toList).length + 1) +
            (Lfn.numParts (Names.encodeUtf16 name.toList).length + 1)) - 32))))) c [c] ∧
      (∀ q, 0x42 ≤ q → OutsideFat d.fs q → (∀ i, i < V.N → ¬ (V.src (32 * i) ≤ q ∧ q < V.src (32 * i) + 32)) →
        ¬ V.Extra q → ¬ (clusterOff d.fs c ≤ q ∧ q < clusterOff d.fs c + d.fs.clusterSize) →
        d'.img.getByte q = d.img.getByte q) := by
  have hfa := V.io.noFault d V.here
  have hwf := V.io.wf d V.here
  have hce := (V.ops.dsrc d V.here).checkForExistence_sim (V.ops.fuel d V.here) R.lfnAlloc env name (some true) d
    (SameVol.refl d)
  rw [show srcSlots d.img V.src V.N = V.slots d.img from rfl, R.check, ← V.start] at hce
  obtain ⟨d2, d3, d', e, P, ⟨he, hinv3, hsl3, htv3, hfr3⟩, hr, hs, hs6, hd6, hc6, hC6, hsl6, htv6, hfr6⟩ :=
    createDir_core (Q := fun _ d3 e => V.ParentKept name a c d3 e) R fuel st hfa hwf hce
      (fun d1 d2 hs1 hc1 hal => V.createDir_parent R hfit hcl (hal.of_sameVol hs1 hc1) (hkeepA d1 d2 hs1 hc1 hal))
  -- the parent after the writes in the new directory
  have hslots6 : V.slots d'.img = V.slots d3.img := srcSlots_clear R.geo hcl.slots (fun q hq _ hn => hfr6 q hq hn)
  have heq : e.editor = DirEntryEditor.new (sfnAt d.fs d.clock a 16 (some c))
      (V.src (32 * (DirSlots.findFree (V.slots d.img) (Lfn.numParts (Names.encodeUtf16 name.toList).length + 1) +
        (Lfn.numParts (Names.encodeUtf16 name.toList).length + 1)) - 32)) := by
    unfold DirEntry.editor
    rw [P.data, he]
    rfl
  rw [heq] at hr hC6
  exact ⟨d', hr, hs, hd6, hkeepW d3 d' hinv3 hs6 hc6 htv6, by rw [hslots6, hsl3, sfnAt_serialize], by rw [htv6, htv3], hsl6,
    hC6, fun q hq ho hn hne hnc => by rw [hfr6 q hq hnc, hfr3 q hq ho hn hne hnc]⟩

end WView

/-! ### `create_dir` when the parent, a chain directory of any kind, is full and grows by one cluster -/

/-- `alloc_cluster(None, true)` for the new directory (`c`), then `write_entry` in the parent allocates `c2` behind its
    last cluster, then the dot entries. `hexcl`: the bytes the destructor of a clone of the parent writes (its own entry
    in the grandparent, for a sub-directory) lie in no cluster -/
theorem ChainKind.createDir_grow {c0 : Nat} {f g : FileH} {Inv : List Nat → Dev → Prop} {Extra : Nat → Prop}
    {DropPost : Img → Img → Prop} (d : Dev) (K : ChainKind d.fs c0 f g Inv Extra DropPost) (chain : List Nat)
    (h : Inv chain d) (hdirF : f.isDir = true) (hdirG : g.isDir = true) {env : Env} {path name : String} {a : List Nat}
    {c : Nat} (R : CreateDirReq d.fs d.img env path name
      (srcSlots d.img (chainSrc d.fs chain) (chain.length * (d.fs.clusterSize / 32))) a c)
    (hu32 : (chain.length + 1) * d.fs.clusterSize < 4294967296)
    (hfuel' : (chain.length + 1) * (d.fs.clusterSize / 32) < dirFuel d.fs)
    (last : Nat) (hlast : chain.getLast? = some last) (hlv : tabView d.fs d.img last ≠ .free)
    (c2 : Nat) (hfind2 : allocFindV (updV (tabView d.fs d.img) c .eoc) (some (hintAfter d.fs.totalClusters c))
      d.fs.totalClusters = some c2)
    (hexcl : ∀ q, Extra q → ∀ x, 2 ≤ x → x < d.fs.totalClusters + 2 →
      ¬ (clusterOff d.fs x ≤ q ∧ q < clusterOff d.fs x + d.fs.clusterSize))
    (n p : Nat) (hn : Lfn.numParts (Names.encodeUtf16 name.toList).length + 1 = n)
    (hp : DirSlots.findFree (srcSlots d.img (chainSrc d.fs chain) (chain.length * (d.fs.clusterSize / 32))) n = p)
    (hgrow : chain.length * (d.fs.clusterSize / 32) < p + n)
    (hfit : p + n ≤ chain.length * (d.fs.clusterSize / 32) + d.fs.clusterSize / 32) (fuel : Nat) :
    ∃ (d' : Dev) (edN : DirEntryEditor),
      run (FatVerif.createDir env (fuel + 1) (chainS f chain d.fs.clusterSize 0) path) d =
        (.ok (.file (FileH.new (some c) (some edN))), d') ∧
      edN.data = sfnAt d.fs d.clock a 16 (some c) ∧
      VolStep d d' ∧ d'.fs.curDirty = true ∧ Inv (chain ++ [c2]) d' ∧
      srcSlots d'.img (chainSrc d.fs (chain ++ [c2])) (chain.length * (d.fs.clusterSize / 32) + d.fs.clusterSize / 32) =
        DirSlots.writeEntry (srcSlots d.img (chainSrc d.fs chain) (chain.length * (d.fs.clusterSize / 32)))
          (Names.encodeUtf16 name.toList) (sfnWith a (16 :: sfnStamp d.fs d.clock (some c))) ++
        List.replicate (chain.length * (d.fs.clusterSize / 32) + d.fs.clusterSize / 32 - (p + n)) DirSlots.zeroSlot ∧
      tabView d'.fs d'.img = allocLinkV (updV (tabView d.fs d.img) c .eoc) (some last) c2 ∧
      srcSlots d'.img (chainSrc d.fs [c]) (d.fs.clusterSize / 32) =
        sfnWith (46 :: List.replicate 10 32) (16 :: sfnStamp d.fs d.clock (some c)) ::
        sfnWith (46 :: 46 :: List.replicate 9 32) (16 :: sfnStamp d.fs d.clock
          (if (chainS f chain d.fs.clusterSize 0).isRootDir then none else (chainS f chain d.fs.clusterSize 0).firstCluster)) ::
        List.replicate (d.fs.clusterSize / 32 - 2) (List.replicate 32 0) ∧
      ChainDir d' (FileH.new (some c) (some edN)) c [c] := by
  have C := K.dir h
  have hwf := K.wf h
  have hgeo := C.geo
  have hcs32 := C.cs32
  have hfd := hgeo.fat_before_data
  have hfatdata := hgeo.fat_data
  have hms : (fatSliceOf d.fs).size ≤ (fatSliceOf d.fs).mirrors * (fatSliceOf d.fs).size :=
    Nat.le_mul_of_pos_left _ hgeo.mirrors_pos
  obtain ⟨hc2', hct, hcf⟩ := allocFindV_some _ _ _ _ R.info.hint R.find
  have hcnot : c ∉ chain := free_not_in_chain C.link hcf (fun l hl => by rw [hlast] at hl; cases hl; exact hlv)
  have hlastc : last ≠ c := fun e => hcnot (e ▸ List.mem_of_getLast? hlast)
  obtain ⟨hc22, hc2t, hc2f⟩ := allocFindV_some _ _ _ _ (fun m hm => by
    cases hm
    unfold hintAfter; split <;> omega) hfind2
  have hcc2 : c ≠ c2 := by
    intro heq
    rw [← heq] at hc2f
    unfold updV at hc2f
    rw [if_pos rfl] at hc2f
    cases hc2f
  have hin2 : ∀ x ∈ chain ++ [c2], 2 ≤ x ∧ x < d.fs.totalClusters + 2 := forall_mem_snoc C.inTab ⟨hc22, hc2t⟩
  have hex := chainSrc_not_of_noCluster d.fs hgeo.cs_pos hcs32 hexcl
  have hNK : (chain ++ [c2]).length * (d.fs.clusterSize / 32) =
      chain.length * (d.fs.clusterSize / 32) + d.fs.clusterSize / 32 := by
    rw [List.length_append, List.length_singleton, Nat.add_mul, Nat.one_mul]
  have hpar := fun i (hi : i < chain.length * (d.fs.clusterSize / 32) + d.fs.clusterSize / 32) =>
    chainSrc_clear hgeo hcs32 (chain ++ [c2]) hin2 hc2' (fun hm => forall_mem_snoc (P := (c ≠ ·))
      (fun x hx e => hcnot (e ▸ hx)) hcc2 c hm rfl) i (by rw [hNK]; exact hi)
  have hce := C.dirSrc.checkForExistence_sim (by rw [dirFuel_geom (K.geom h)]; exact K.fuel h) R.lfnAlloc env name (some true) d
    (SameVol.refl d)
  rw [R.check] at hce
  have hrawwf := sfnAt_wf d.fs d.clock a 16 (some c) R.alias.1 R.alias.2 (by omega)
  have hlfn : attrsIsLfn (sfnAt d.fs d.clock a 16 (some c)).attrs = false := by rw [sfnAt_attrs]; decide
  obtain ⟨d2, d3, d', e, P, ⟨hinv3, hsl3, htv3⟩, hr, hs, hs6, hd6, hc6, hC6, hsl6, htv6, hfr6⟩ :=
    createDir_core (Q := fun _ d3 _ => Inv (chain ++ [c2]) d3 ∧
        srcSlots d3.img (chainSrc d.fs (chain ++ [c2])) (chain.length * (d.fs.clusterSize / 32) + d.fs.clusterSize / 32) =
          DirSlots.writeEntry (srcSlots d.img (chainSrc d.fs chain) (chain.length * (d.fs.clusterSize / 32)))
            (Names.encodeUtf16 name.toList) (sfnAt d.fs d.clock a 16 (some c)).serialize ++
          List.replicate (chain.length * (d.fs.clusterSize / 32) + d.fs.clusterSize / 32 - (p + n)) DirSlots.zeroSlot ∧
        tabView d3.fs d3.img = allocLinkV (updV (tabView d.fs d.img) c .eoc) (some last) c2)
      R fuel _ C.failAt hwf hce
      (fun d1 d2 hs1 hc1 hal => by
        have hvs2 : VolStep d d2 := (VolStep.of_sameVol hs1).trans (VolStep.of_devStep hal.step)
        have htv2 : tabView d2.fs d2.img = updV (tabView d.fs d.img) c .eoc := by rw [hal.tv, hs1.fs, hs1.img]
        have hinv2 : Inv chain d2 := K.keep h hvs2 (hal.step.clock.trans hc1)
          (by rw [htv2]; exact chain_updV_other _ _ _ _ _ C.link hcnot) C.inTab C.u32 (K.fuel h)
        have hslots2 : srcSlots d2.img (chainSrc d.fs chain) (chain.length * (d.fs.clusterSize / 32)) =
            srcSlots d.img (chainSrc d.fs chain) (chain.length * (d.fs.clusterSize / 32)) :=
          srcSlots_clear hgeo (chainSrc_clear hgeo hcs32 chain C.inTab hc2' hcnot) (fun q hq ho hn => by
            rw [hal.frame q hq (by rw [hs1.fs]; exact ho) (by rw [hs1.fs]; exact hn), hs1.img])
        have hnext2 : d2.fs.fsInfo.next = some (hintAfter d.fs.totalClusters c) := by
          rw [hal.fs]
          show (FsInfoSt.mapFree _ _).next = _
          rw [mapFree_next, hs1.fs]
        obtain ⟨d3, e, h3, he, hs3, _, hinv3, hsl3, hfr3, htv3⟩ := K.writeEntry_grow hdirF hdirG c2 last name
          (sfnAt d.fs d.clock a 16 (some c)) R.valid R.notDot hrawwf hlfn d2 hinv2 hal.info hlast
          (by rw [htv2]; unfold updV; rw [if_neg hlastc]; exact hlv)
          (by rw [htv2, hnext2, (K.geom hinv2).totalClusters]; exact hfind2) hu32 hfuel' (hex chain C.inTab) (hex _ hin2)
          n p hn (by rw [hslots2]; exact hp) hgrow hfit
        rw [hslots2] at hsl3
        subst he
        have hco := clusterOff_end hgeo hc2' hct
        exact ⟨_, d3, h3, ParentWrote.of_slots _ _ _ _ _ hrawwf hlfn hs3 hsl3 n p hn hp hfit
            (fun i hi => ⟨(hpar i hi).1, by rw [hs3.size, hvs2.size]; exact (hpar i hi).2.1, (hpar i hi).2.2⟩)
            (fun q h1 h2 => hfr3 q (by omega) (Or.inr (by omega))
              (fun i hi hc => by have := (hpar i hi).2.2; omega) (fun hx => hexcl q hx c hc2' hct ⟨h1, h2⟩))
            (fun m => by
              rw [htv3, htv2]
              unfold allocLinkV updV
              simp only
              rw [if_neg (fun h => hlastc h.symm), if_neg hcc2]
              simp),
          hinv3, hsl3, by rw [htv3, htv2]⟩)
  -- the parent after the writes in the new directory
  have hpslots6 : srcSlots d'.img (chainSrc d.fs (chain ++ [c2])) (chain.length * (d.fs.clusterSize / 32) + d.fs.clusterSize / 32) =
      srcSlots d3.img (chainSrc d.fs (chain ++ [c2])) (chain.length * (d.fs.clusterSize / 32) + d.fs.clusterSize / 32) :=
    srcSlots_clear hgeo hpar (fun q hq _ hn => hfr6 q hq hn)
  exact ⟨d', e.editor, hr, P.data, hs, hd6, K.of_tabView hinv3 hs6 hc6 htv6, by rw [hpslots6, hsl3, sfnAt_serialize],
    by rw [htv6, htv3], hsl6, hC6⟩

/-- `ChainKind.createDir_grow` for a chain root (the root of FAT32: a handle without entry): `c` becomes the new directory,
    `c2` the new last cluster of the parent; `..` in the new directory records no cluster -/
theorem createDir_chain_grow (d : Dev) (c0 : Nat) (chain : List Nat)
    (C : ChainDir d (FileH.new (some c0) none) c0 chain) (hwf : d.img.WF)
    (hfuel : chain.length * (d.fs.clusterSize / 32) < dirFuel d.fs) (hinfo : InfoOk d.fs d.img)
    (ha : d.fs.lfnAlloc = true) (hacc : d.fs.accDate = false) (hcs64 : 64 ≤ d.fs.clusterSize)
    (hu32 : (chain.length + 1) * d.fs.clusterSize < 4294967296)
    (hfuel' : (chain.length + 1) * (d.fs.clusterSize / 32) < dirFuel d.fs) (hfuelN : d.fs.clusterSize / 32 < dirFuel d.fs)
    (env : Env) (path name : String) (hsp : Names.splitPath path = (name, none))
    (hdot : (name = "." || name = "..") = false) (hval : Names.validateLongName name = .ok ()) (a : List Nat)
    (hchk : DirAlias.checkForExistenceL env.upper
      (srcSlots d.img (chainSrc d.fs chain) (chain.length * (d.fs.clusterSize / 32))) name (some true) 70000 = .ok (.alias a))
    (c : Nat) (hfind : allocFindV (tabView d.fs d.img) d.fs.fsInfo.next d.fs.totalClusters = some c)
    (last : Nat) (hlast : chain.getLast? = some last) (hlv : tabView d.fs d.img last ≠ .free)
    (c2 : Nat) (hfind2 : allocFindV (updV (tabView d.fs d.img) c .eoc) (some (hintAfter d.fs.totalClusters c))
      d.fs.totalClusters = some c2)
    (hgrow : chain.length * (d.fs.clusterSize / 32) <
      DirSlots.findFree (srcSlots d.img (chainSrc d.fs chain) (chain.length * (d.fs.clusterSize / 32)))
        (Lfn.numParts (Names.encodeUtf16 name.toList).length + 1) + (Lfn.numParts (Names.encodeUtf16 name.toList).length + 1))
    (hfit : DirSlots.findFree (srcSlots d.img (chainSrc d.fs chain) (chain.length * (d.fs.clusterSize / 32)))
        (Lfn.numParts (Names.encodeUtf16 name.toList).length + 1) + (Lfn.numParts (Names.encodeUtf16 name.toList).length + 1) ≤
      chain.length * (d.fs.clusterSize / 32) + d.fs.clusterSize / 32) (fuel : Nat) :
    ∃ (d' : Dev) (ed0 : DirEntryEditor),
      run (FatVerif.createDir env (fuel + 1) (.file (FileH.new (some c0) none)) path) d =
        (.ok (.file (FileH.new (some c) (some ed0))), d') ∧
      ed0.data = sfnAt d.fs d.clock a 16 (some c) ∧
      VolStep d d' ∧ d'.fs.curDirty = true ∧ ChainInv d.fs (FileH.new (some c0) none) c0 (chain ++ [c2]) d' ∧
      srcSlots d'.img (chainSrc d.fs (chain ++ [c2])) (chain.length * (d.fs.clusterSize / 32) + d.fs.clusterSize / 32) =
        DirSlots.writeEntry (srcSlots d.img (chainSrc d.fs chain) (chain.length * (d.fs.clusterSize / 32)))
          (Names.encodeUtf16 name.toList) (sfnWith a (16 :: sfnStamp d.fs d.clock (some c))) ++
        List.replicate (chain.length * (d.fs.clusterSize / 32) + d.fs.clusterSize / 32 -
          (DirSlots.findFree (srcSlots d.img (chainSrc d.fs chain) (chain.length * (d.fs.clusterSize / 32)))
            (Lfn.numParts (Names.encodeUtf16 name.toList).length + 1) +
            (Lfn.numParts (Names.encodeUtf16 name.toList).length + 1))) DirSlots.zeroSlot ∧
      tabView d'.fs d'.img = allocLinkV (updV (tabView d.fs d.img) c .eoc) (some last) c2 ∧
      srcSlots d'.img (chainSrc d.fs [c]) (d.fs.clusterSize / 32) =
        sfnWith (46 :: List.replicate 10 32) (16 :: sfnStamp d.fs d.clock (some c)) ::
        sfnWith (46 :: 46 :: List.replicate 9 32) (16 :: sfnStamp d.fs d.clock none) ::
        List.replicate (d.fs.clusterSize / 32 - 2) (List.replicate 32 0) ∧
      ChainDir d' (FileH.new (some c) (some ed0)) c [c] := by
  obtain ⟨d', edN, hr, hed, hs, hd, hinv, hsl, htv, hsl6, hC6⟩ := (chainKind (fs0 := d.fs) (c0 := c0) rfl).createDir_grow d chain
    ⟨C, hwf, FsGeomEq.refl _, hfuel⟩ rfl rfl ⟨hsp, hdot, hval, ha, C.geo, hinfo, hacc, C.cs32, hcs64,
      Nat.lt_of_le_of_lt (Nat.le_mul_of_pos_left _ (Nat.succ_pos _)) hu32, hfuelN, hchk, hfind⟩ hu32 hfuel'
    last hlast hlv c2 hfind2 (fun _ h => h.elim) _ _ rfl rfl hgrow hfit fuel
  exact ⟨d', edN, hr, hed, hs, hd, hinv, hsl, htv, hsl6, hC6⟩

/-- `ChainKind.createDir_grow` for a sub-directory (a handle with the entry `ed0`, whose slot lies behind the FAT copies
    and in no cluster of the table, `hepos`/`heout`: an entry of the fixed root): `..` in the new directory records `c0` -/
theorem createDir_sub_grow (d : Dev) (c0 : Nat) (ed0 : DirEntryEditor) (chain : List Nat)
    (C : ChainDir d (FileH.new (some c0) (some ed0)) c0 chain) (hwf : d.img.WF)
    (hdirattr : ed0.data.isDir = true) (hname : ed0.data.name.length = 11)
    (hepos : (fatSliceOf d.fs).beginOff + (fatSliceOf d.fs).mirrors * (fatSliceOf d.fs).size ≤ ed0.pos)
    (hein : ed0.pos + 32 ≤ d.img.size)
    (hfuel : chain.length * (d.fs.clusterSize / 32) < dirFuel d.fs) (hinfo : InfoOk d.fs d.img)
    (ha : d.fs.lfnAlloc = true) (hacc : d.fs.accDate = false) (hcs64 : 64 ≤ d.fs.clusterSize)
    (hu32 : (chain.length + 1) * d.fs.clusterSize < 4294967296)
    (hfuel' : (chain.length + 1) * (d.fs.clusterSize / 32) < dirFuel d.fs) (hfuelN : d.fs.clusterSize / 32 < dirFuel d.fs)
    (env : Env) (path name : String) (hsp : Names.splitPath path = (name, none))
    (hdot : (name = "." || name = "..") = false) (hval : Names.validateLongName name = .ok ()) (a : List Nat)
    (hchk : DirAlias.checkForExistenceL env.upper
      (srcSlots d.img (chainSrc d.fs chain) (chain.length * (d.fs.clusterSize / 32))) name (some true) 70000 = .ok (.alias a))
    (c : Nat) (hfind : allocFindV (tabView d.fs d.img) d.fs.fsInfo.next d.fs.totalClusters = some c)
    (last : Nat) (hlast : chain.getLast? = some last) (hlv : tabView d.fs d.img last ≠ .free)
    (c2 : Nat) (hfind2 : allocFindV (updV (tabView d.fs d.img) c .eoc) (some (hintAfter d.fs.totalClusters c))
      d.fs.totalClusters = some c2)
    (heout : ∀ x, 2 ≤ x → x < d.fs.totalClusters + 2 →
      ed0.pos + 32 ≤ clusterOff d.fs x ∨ clusterOff d.fs x + d.fs.clusterSize ≤ ed0.pos)
    (hgrow : chain.length * (d.fs.clusterSize / 32) <
      DirSlots.findFree (srcSlots d.img (chainSrc d.fs chain) (chain.length * (d.fs.clusterSize / 32)))
        (Lfn.numParts (Names.encodeUtf16 name.toList).length + 1) + (Lfn.numParts (Names.encodeUtf16 name.toList).length + 1))
    (hfit : DirSlots.findFree (srcSlots d.img (chainSrc d.fs chain) (chain.length * (d.fs.clusterSize / 32)))
        (Lfn.numParts (Names.encodeUtf16 name.toList).length + 1) + (Lfn.numParts (Names.encodeUtf16 name.toList).length + 1) ≤
      chain.length * (d.fs.clusterSize / 32) + d.fs.clusterSize / 32) (fuel : Nat) :
    ∃ (d' : Dev) (edN : DirEntryEditor),
      run (FatVerif.createDir env (fuel + 1) (.file (FileH.new (some c0) (some ed0))) path) d =
        (.ok (.file (FileH.new (some c) (some edN))), d') ∧
      edN.data = sfnAt d.fs d.clock a 16 (some c) ∧
      VolStep d d' ∧ d'.fs.curDirty = true ∧ SubInv d.fs ed0 c0 (chain ++ [c2]) d.clock d' ∧
      srcSlots d'.img (chainSrc d.fs (chain ++ [c2])) (chain.length * (d.fs.clusterSize / 32) + d.fs.clusterSize / 32) =
        DirSlots.writeEntry (srcSlots d.img (chainSrc d.fs chain) (chain.length * (d.fs.clusterSize / 32)))
          (Names.encodeUtf16 name.toList) (sfnWith a (16 :: sfnStamp d.fs d.clock (some c))) ++
        List.replicate (chain.length * (d.fs.clusterSize / 32) + d.fs.clusterSize / 32 -
          (DirSlots.findFree (srcSlots d.img (chainSrc d.fs chain) (chain.length * (d.fs.clusterSize / 32)))
            (Lfn.numParts (Names.encodeUtf16 name.toList).length + 1) +
            (Lfn.numParts (Names.encodeUtf16 name.toList).length + 1))) DirSlots.zeroSlot ∧
      tabView d'.fs d'.img = allocLinkV (updV (tabView d.fs d.img) c .eoc) (some last) c2 ∧
      srcSlots d'.img (chainSrc d.fs [c]) (d.fs.clusterSize / 32) =
        sfnWith (46 :: List.replicate 10 32) (16 :: sfnStamp d.fs d.clock (some c)) ::
        sfnWith (46 :: 46 :: List.replicate 9 32) (16 :: sfnStamp d.fs d.clock (some c0)) ::
        List.replicate (d.fs.clusterSize / 32 - 2) (List.replicate 32 0) ∧
      ChainDir d' (FileH.new (some c) (some edN)) c [c] := by
  obtain ⟨d', edN, hr, hed, hs, hd, hinv, hsl, htv, hsl6, hC6⟩ := (subKind (fs0 := d.fs) (ed0 := ed0) (c0 := c0)
      (t0 := d.clock)).createDir_grow d chain ⟨C, hwf, FsGeomEq.refl _, hfuel, rfl, hname, hepos, hein⟩ hdirattr
    (subW_isDir hdirattr) ⟨hsp, hdot, hval, ha, C.geo, hinfo, hacc, C.cs32, hcs64,
      Nat.lt_of_le_of_lt (Nat.le_mul_of_pos_left _ (Nat.succ_pos _)) hu32, hfuelN, hchk, hfind⟩ hu32 hfuel' last hlast hlv
    c2 hfind2 (fun q hq x h2 ht hc => by
      unfold subExtra at hq
      have := heout x h2 ht
      omega) _ _ rfl rfl hgrow hfit fuel
  exact ⟨d', edN, hr, hed, hs, hd, hinv, hsl, htv, hsl6, hC6⟩

/-! ### `create_file(name)` in a full sub-directory, which grows by one cluster -/

theorem createFile_sub_grow (d : Dev) (c0 : Nat) (ed0 : DirEntryEditor) (chain : List Nat)
    (C : ChainDir d (FileH.new (some c0) (some ed0)) c0 chain) (hwf : d.img.WF)
    (hdirattr : ed0.data.isDir = true) (hname : ed0.data.name.length = 11)
    (hepos : (fatSliceOf d.fs).beginOff + (fatSliceOf d.fs).mirrors * (fatSliceOf d.fs).size ≤ ed0.pos)
    (hein : ed0.pos + 32 ≤ d.img.size)
    (hfuel : chain.length * (d.fs.clusterSize / 32) < dirFuel d.fs) (hinfo : InfoOk d.fs d.img)
    (ha : d.fs.lfnAlloc = true) (env : Env) (path name : String) (hsp : Names.splitPath path = (name, none))
    (hdot : (name = "." || name = "..") = false) (hval : Names.validateLongName name = .ok ()) (a : List Nat)
    (hchk : DirAlias.checkForExistenceL env.upper
      (srcSlots d.img (chainSrc d.fs chain) (chain.length * (d.fs.clusterSize / 32))) name (some false) 70000 = .ok (.alias a))
    (c last : Nat) (hlast : chain.getLast? = some last) (hlv : tabView d.fs d.img last ≠ .free)
    (hfind : allocFindV (tabView d.fs d.img) d.fs.fsInfo.next d.fs.totalClusters = some c)
    (hu32 : (chain.length + 1) * d.fs.clusterSize < 4294967296)
    (hfuel' : (chain.length + 1) * (d.fs.clusterSize / 32) < dirFuel d.fs)
    (heout : ∀ x, 2 ≤ x → x < d.fs.totalClusters + 2 →
      ed0.pos + 32 ≤ clusterOff d.fs x ∨ clusterOff d.fs x + d.fs.clusterSize ≤ ed0.pos)
    (hgrow : chain.length * (d.fs.clusterSize / 32) <
      DirSlots.findFree (srcSlots d.img (chainSrc d.fs chain) (chain.length * (d.fs.clusterSize / 32)))
        (Lfn.numParts (Names.encodeUtf16 name.toList).length + 1) + (Lfn.numParts (Names.encodeUtf16 name.toList).length + 1))
    (hfit : DirSlots.findFree (srcSlots d.img (chainSrc d.fs chain) (chain.length * (d.fs.clusterSize / 32)))
        (Lfn.numParts (Names.encodeUtf16 name.toList).length + 1) + (Lfn.numParts (Names.encodeUtf16 name.toList).length + 1) ≤
      chain.length * (d.fs.clusterSize / 32) + d.fs.clusterSize / 32) (fuel : Nat) :
    ∃ (d' : Dev) (e : DirEntry),
      run (FatVerif.createFile env (fuel + 1) (.file (FileH.new (some c0) (some ed0))) path) d =
        (.ok (FileH.new (e.firstCluster d.fs) (some e.editor)), d') ∧
      e.data = sfnAt d.fs d.clock a 0 none ∧ e.lfn = Names.encodeUtf16 name.toList ∧
      VolStep d d' ∧ d'.fs.curDirty = true ∧ SubInv d.fs ed0 c0 (chain ++ [c]) d.clock d' ∧
      srcSlots d'.img (chainSrc d.fs (chain ++ [c])) (chain.length * (d.fs.clusterSize / 32) + d.fs.clusterSize / 32) =
        DirSlots.writeEntry (srcSlots d.img (chainSrc d.fs chain) (chain.length * (d.fs.clusterSize / 32)))
          (Names.encodeUtf16 name.toList) (sfnAt d.fs d.clock a 0 none).serialize ++
        List.replicate (chain.length * (d.fs.clusterSize / 32) + d.fs.clusterSize / 32 -
          (DirSlots.findFree (srcSlots d.img (chainSrc d.fs chain) (chain.length * (d.fs.clusterSize / 32)))
            (Lfn.numParts (Names.encodeUtf16 name.toList).length + 1) +
            (Lfn.numParts (Names.encodeUtf16 name.toList).length + 1))) DirSlots.zeroSlot ∧
      tabView d'.fs d'.img = allocLinkV (tabView d.fs d.img) (some last) c := by
  have hgeo := C.geo
  obtain ⟨hcan, hl11, _⟩ := C16dir.dir_alias_canon env.upper _ name (some false) 70000 a hchk
  obtain ⟨hc2, hct, _⟩ := allocFindV_some _ _ _ _ hinfo.hint hfind
  have hce := C.dirSrc.checkForExistence_sim hfuel ha env name (some false) d (SameVol.refl d)
  rw [hchk] at hce
  obtain ⟨d1, h1, hs1⟩ := hce
  have hinv1 := subInv_ok.vol d d1 (⟨C, hwf, FsGeomEq.refl _, hfuel, rfl, hname, hepos, hein⟩ :
    SubInv d.fs ed0 c0 chain d.clock d) hs1 (run_clock _ _ _ _ h1)
  have hrawwf := sfnAt_wf d.fs d.clock a 0 none hl11 (canon_lt hcan) (by omega)
  have hrawlfn : attrsIsLfn (sfnAt d.fs d.clock a 0 none).attrs = false := by rw [sfnAt_attrs]; decide
  have hex := chainSrc_not_of_noCluster d.fs hgeo.cs_pos C.cs32 (E := subExtra ed0) (fun q hq x h2 ht hc => by
    unfold subExtra at hq
    have := heout x h2 ht
    omega)
  obtain ⟨d', e, hr, he, hs, hd, hinv', hsl, _, htv⟩ := (subKind (fs0 := d.fs) (ed0 := ed0) (c0 := c0)
      (t0 := d.clock)).writeEntry_grow hdirattr (subW_isDir hdirattr) c last name (sfnAt d.fs d.clock a 0 none) hval hdot
    hrawwf hrawlfn d1 hinv1 (by rw [hs1.fs, hs1.img]; exact hinfo) hlast (by rw [hs1.fs, hs1.img]; exact hlv)
    (by rw [hs1.fs, hs1.img]; exact hfind) hu32 hfuel' (hex chain C.inTab)
    (hex (chain ++ [c]) (forall_mem_snoc C.inTab ⟨hc2, hct⟩))
    _ _ rfl rfl (by rw [hs1.img]; exact hgrow) (by rw [hs1.img]; exact hfit)
  rw [hs1.img] at hsl he
  rw [hs1.fs, hs1.img] at htv
  have hdata : e.data = sfnAt d.fs d.clock a 0 none := by
    rw [he]
    have := writeEntry_result (chainSrc d.fs (chain ++ [c])) _ hrawwf hrawlfn (Names.encodeUtf16 name.toList) 0 1
    simp only [toDirEntryS] at this ⊢
    injection this with h1
    exact h1.symm
  exact ⟨d', e, run_createFile_new env fuel _ path name hsp hdot h1 hs1 hr hdata, hdata, by rw [he]; rfl,
    (VolStep.of_sameVol hs1).trans hs, hd, hinv', hsl, htv⟩

end FatVerif.DirSim
