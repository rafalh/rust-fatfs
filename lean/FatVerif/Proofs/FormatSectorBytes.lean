import FatVerif.Proofs.LogReplay
import FatVerif.Proofs.FormatBytes
/-! The two sectors `format_volume` serialises, for reading them back at mount: every element of the serialised boot
    sector is a byte (`bootOf_serialize_lt`), and the FS-info sector deserialises to what was stored
    (`fsInfo_roundtrip`). -/
namespace FatVerif
open Format FormatSpec

theorem bootCode_lt (ft : FatType) : AllB (bootCodeFor ft) := by
  cases ft <;> (unfold AllB; decide +kernel)
theorem bootJmp_lt (ft : FatType) : AllB (bootJmpFor ft) := by
  cases ft <;> (unfold AllB; decide +kernel)
theorem fsTypeLabel_lt (ft : FatType) : AllB (fsTypeLabelOf ft) := by
  cases ft <;> (unfold AllB; decide +kernel)
theorem oemName_lt : AllB Format.oemName := by unfold AllB; decide +kernel
theorem noName_lt : AllB noNameLabel := by unfold AllB; decide +kernel

/-- every byte of a formatted boot sector is a byte, provided the label bytes are -/
theorem bootOf_serialize_lt (o : FormatOpts) (t : Nat) (ft : FatType) (spf spc : Nat)
    (hl : ∀ l, o.label = some l → AllB l) : AllB (bootOf o t ft spf spc).serialize := by
  have hlab : AllB (o.label.getD noNameLabel) := by
    cases h : o.label with
    | none => exact noName_lt
    | some l => exact hl l h
  have hmod : ∀ x : Nat, x % 256 < 256 := fun x => Nat.mod_lt _ (by omega)
  unfold FBoot.serialize FBpb.serialize
  simp only [allB_append, allB_cons]
  have e1 : (bootOf o t ft spf spc).bootjmp = bootJmpFor ft := rfl
  have e2 : (bootOf o t ft spf spc).oemName = Format.oemName := rfl
  have e3 : (bootOf o t ft spf spc).bootCode = bootCodeFor ft := rfl
  have e4 : (bootOf o t ft spf spc).bootSig = [0x55, 0xAA] := rfl
  have e5 : (bootOf o t ft spf spc).bpb.label = o.label.getD noNameLabel := rfl
  have e6 : (bootOf o t ft spf spc).bpb.fsTypeLabel = fsTypeLabelOf ft := rfl
  have e7 : (bootOf o t ft spf spc).bpb.reserved0 = List.replicate 12 0 := rfl
  rw [e1, e2, e3, e4, e5, e6, e7]
  refine ⟨⟨⟨⟨bootJmp_lt ft, oemName_lt⟩, ?_⟩, ?_⟩, by simp only [allB_cons]; exact ⟨by omega, by omega, allB_nil⟩⟩
  · refine ⟨⟨⟨⟨⟨⟨⟨⟨⟨⟨⟨⟨⟨⟨⟨⟨allB_le16 _, hmod _, allB_nil⟩, allB_le16 _⟩, hmod _, allB_nil⟩, allB_le16 _⟩, allB_le16 _⟩,
      hmod _, allB_nil⟩, allB_le16 _⟩, allB_le16 _⟩, allB_le16 _⟩, allB_le32 _⟩, allB_le32 _⟩, ?_⟩,
      hmod _, hmod _, hmod _, allB_nil⟩, allB_le32 _⟩, hlab⟩, fsTypeLabel_lt ft⟩
    split
    · simp only [allB_append]
      exact ⟨⟨⟨⟨⟨⟨allB_le32 _, allB_le16 _⟩, allB_le16 _⟩, allB_le32 _⟩, allB_le16 _⟩, allB_le16 _⟩, allB_replicate0 _⟩
    · exact allB_nil
  · split <;> exact allB_take (bootCode_lt ft) _

/-! ### the FS-info sector: serialise, then deserialise -/

theorem fsInfoBytes_len (i : FsInfoSt) : (fsInfoBytes i).length = 512 := by
  unfold fsInfoBytes
  simp only [List.length_append, List.length_replicate, bytesLe32, List.length_cons, List.length_nil]

theorem fsInfoBytes_allB (i : FsInfoSt) : AllB (fsInfoBytes i) := by
  unfold fsInfoBytes
  simp only [allB_append]
  exact ⟨⟨⟨⟨⟨⟨allB_le32 _, allB_replicate0 _⟩, allB_le32 _⟩, allB_le32 _⟩, allB_le32 _⟩, allB_replicate0 _⟩, allB_le32 _⟩

/-- the sector `FsInfoSector::serialize` writes, read back: the two fields decoded (`0xFFFFFFFF` = unknown, hint 0/1 =
    unknown) -/
theorem fsInfo_deserialize_raw (a n : Nat) (ha : a < 4294967296) (hn : n < 4294967296) :
    FsInfo.deserialize (bytesLe32 0x41615252 ++ List.replicate 480 0 ++ bytesLe32 0x61417272 ++ bytesLe32 a ++
        bytesLe32 n ++ List.replicate 12 0 ++ bytesLe32 0xAA550000) =
      .ok { freeClusterCount := FsInfo.decodeFree a, nextFreeCluster := FsInfo.decodeNext n, dirty := false } := by
  -- the sector cut into its seven pieces (`Format.splitSizes_of_flatten`); `u32At` is the spec's `rd32`
  generalize hX : bytesLe32 0x41615252 ++ List.replicate 480 0 ++ bytesLe32 0x61417272 ++ bytesLe32 a ++ bytesLe32 n ++
    List.replicate 12 0 ++ bytesLe32 0xAA550000 = X
  obtain ⟨hsp, _⟩ := splitSizes_of_flatten
    (cs := [bytesLe32 0x41615252, List.replicate 480 0, bytesLe32 0x61417272, bytesLe32 a, bytesLe32 n,
      List.replicate 12 0, bytesLe32 0xAA550000]) (ns := [4, 480, 4, 4, 4, 12, 4]) (S := X)
    (by simp only [← hX, List.flatten_cons, List.flatten_nil, List.append_nil, List.append_assoc])
    (by simp only [List.map_cons, List.map_nil, List.length_replicate, bytesLe32, List.length_cons, List.length_nil])
  simp only [splitSizes, List.drop_drop, Nat.reduceAdd, List.cons.injEq, and_true] at hsp
  have hrd : ∀ k, u32At X k = rd32 X k := fun _ => rfl
  unfold FsInfo.deserialize
  simp only [hrd, rd32_eq, List.drop_zero, hsp, leVal_bytesLe32, Nat.mod_eq_of_lt ha, Nat.mod_eq_of_lt hn]
  rfl

/-- `deserialize ∘ serialize` on the in-memory FS-info: the cached count and the hint come back, provided they are
    representable (a count `< 0xFFFFFFFF`, a hint in `[2, 0xFFFFFFFF)`) -/
theorem fsInfo_roundtrip (i : FsInfoSt) (hf : ∀ a, i.free = some a → a < 4294967295)
    (hn : ∀ n, i.next = some n → 2 ≤ n ∧ n < 4294967295) :
    FsInfo.deserialize (fsInfoBytes i) = .ok { freeClusterCount := i.free, nextFreeCluster := i.next, dirty := false } := by
  unfold fsInfoBytes
  rw [fsInfo_deserialize_raw _ _ (by cases h : i.free with | none => simp | some a => have := hf a h; simp; omega)
    (by cases h : i.next with | none => simp | some n => have := hn n h; simp; omega)]
  congr 2
  · cases h : i.free with
    | none => rfl
    | some a => have := hf a h; simp only [Option.getD_some, FsInfo.decodeFree]; rw [if_neg (by omega)]
  · cases h : i.next with
    | none => rfl
    | some n => have := hn n h; simp only [Option.getD_some, FsInfo.decodeNext]; rw [if_neg (by omega)]

/-- what `FsInfoSector::deserialize` makes of the sector `format_volume` wrote -/
theorem fsInfo_deserialize_fmt (a n : Nat) (ha : a < 4294967295) (hn : 2 ≤ n) (hn2 : n < 4294967295) :
    FsInfo.deserialize (fsInfoBytes { free := some a, next := some n, dirty := false }) =
      .ok { freeClusterCount := some a, nextFreeCluster := some n, dirty := false } :=
  fsInfo_roundtrip _ (fun _ h => by cases h; exact ha) (fun _ h => by cases h; exact ⟨hn, hn2⟩)

end FatVerif
