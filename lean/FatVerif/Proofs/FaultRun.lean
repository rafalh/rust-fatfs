import FatVerif.Proofs.GeoModel
import FatVerif.Proofs.FileSimDirty
/-! Runs and the scheduled fault. A run during which the fault does NOT fire is the run on the disarmed device
    (`run_disarm`), so up to the failing call the forward-evaluation theorems of the simulation layer apply. The outcome
    of a run hit by the fault (`FaultOutcome`, `FaultOutcomeX`: both are `FaultOutcomeOf`, Proofs/Prog) is sequenced at
    ONE device (`faultOutcome_bind_at`, `faultOutcomeX_bind_at`; `PropagatesX.bind` asks for all devices). -/
namespace FatVerif

/-! ### the disarmed device -/

/-- the device without its fault schedule -/
def Dev.disarm (d : Dev) : Dev := { d with failAt := none }

theorem Dev.disarm_count (d : Dev) (k : CallKind) : (d.count k).disarm = d.disarm.count k := by
  unfold Dev.count Dev.disarm; cases k <;> rfl

theorem Dev.disarm_of_none {d : Dev} (h : d.failAt = none) : d.disarm = d := by
  unfold Dev.disarm; cases d; simp_all

theorem Dev.disarm_depth (d : Dev) (n : Nat) : ({ d with dropDepth := n } : Dev).disarm = { d.disarm with dropDepth := n } := rfl

@[simp] theorem Dev.disarm_img (d : Dev) : d.disarm.img = d.img := rfl
@[simp] theorem Dev.disarm_fs (d : Dev) : d.disarm.fs = d.fs := rfl
@[simp] theorem Dev.disarm_clock (d : Dev) : d.disarm.clock = d.clock := rfl
@[simp] theorem Dev.disarm_fault (d : Dev) : d.disarm.fault = d.fault := rfl
@[simp] theorem Dev.disarm_failAt (d : Dev) : d.disarm.failAt = none := rfl
@[simp] theorem Dev.disarm_dropDepth (d : Dev) : d.disarm.dropDepth = d.dropDepth := rfl

/-- a device call that does not fire the fault is the call on the disarmed device -/
theorem devCall_disarm {α} (k : CallKind) (d : Dev) (act : Dev → Except Err α × Dev)
    (hact : ∀ d0 r d1, act d0 = (r, d1) → act d0.disarm = (r, d1.disarm) ∧ d1.fault = d0.fault)
    {r d'} (h : devCall k d act = (r, d')) (hf' : d'.fault = none) :
    devCall k d.disarm act = (r, d'.disarm) := by
  unfold devCall devCallCore at h ⊢
  rw [← Dev.disarm_count]
  split at h
  · cases h; cases hf'
  · rw [if_neg (by simp)]
    exact (hact _ _ _ h).1

theorem stepOp_disarm (o : Op) (d : Dev) {r d'} (h : stepOp o d = (r, d')) (hf' : d'.fault = none) :
    stepOp o d.disarm = (r, d'.disarm) := by
  cases o with
  | seek p =>
    refine devCall_disarm _ _ _ (fun d0 r d1 h0 => ?_) h hf'
    cases p with
    | start n => cases h0; exact ⟨rfl, rfl⟩
    | cur x => simp only at h0; split at h0 <;> cases h0 <;> exact ⟨by simp only [Dev.disarm, *]; rfl, rfl⟩
    | fromEnd x => simp only at h0; split at h0 <;> cases h0 <;> exact ⟨by simp only [Dev.disarm, *]; rfl, rfl⟩
  | read n => exact devCall_disarm _ _ _ (fun d0 r d1 h0 => by cases h0; exact ⟨rfl, rfl⟩) h hf'
  | write bs => exact devCall_disarm _ _ _ (fun d0 r d1 h0 => by cases h0; exact ⟨rfl, rfl⟩) h hf'
  | flush => exact devCall_disarm _ _ _ (fun d0 r d1 h0 => by cases h0; exact ⟨rfl, rfl⟩) h hf'
  | now => cases h; rfl
  | today => cases h; rfl
  | getFs => cases h; rfl
  | setFs fs => cases h; rfl

/-- a fault recorded before a run (started with the schedule spent) is still recorded after it -/
theorem fault_kept {α} (p : Prog α) (d : Dev) {r d'} (h : run p d = (r, d')) (hfa : d.failAt = none) :
    d'.fault = d.fault ∧ d'.failAt = none :=
  let s := (run_facts p d h).spent hfa
  ⟨s.2, s.1⟩

/-- a run in which the fault fired has spent the schedule -/
theorem spent_of_fired {α} {p : Prog α} {d : Dev} (hd : d.fault = none) {r d'} (h : run p d = (r, d'))
    (hf : d'.fault ≠ none) : d'.failAt = none :=
  ((run_any p d hd h).resolve_left hf).1

/-- no fault is recorded after a run: none was recorded before it (one recorded with the schedule spent would have
    been kept) -/
theorem unfired_before {α} {p : Prog α} {d : Dev} {r d'} (h : run p d = (r, d')) (hf : d'.fault = none)
    (hs : d.fault ≠ none → d.failAt = none) : d.fault = none :=
  Classical.byContradiction fun hne => hne ((fault_kept p d h (hs hne)).1.symm.trans hf)

/-- **a run during which the fault does not fire is the run on the disarmed device** -/
theorem run_disarm {α} (p : Prog α) : ∀ (d : Dev) {r d'}, run p d = (r, d') → d.fault = none → d'.fault = none →
    run p d.disarm = (r, d'.disarm) := by
  induction p with
  | pure a => intro d r d' h _ _; cases h; rfl
  | fail e => intro d r d' h _ _; cases h; rfl
  | op o => intro d r d' h _ hf'; exact stepOp_disarm o d h hf'
  | bind p k ihp ihk =>
    intro d r d' h hf hf'
    rcases run_bind_cases h with ⟨b, d1, hp, hk⟩ | ⟨e, hp, rfl⟩
    · have h1 := unfired_before hk hf' (spent_of_fired hf hp)
      exact (run_bind_ok (ihp d hp hf h1)).trans (ihk b d1 hk h1 hf')
    · exact run_bind_error (ihp d hp hf hf')
  | tryCatch p hnd ihp ihh =>
    intro d r d' h hf hf'
    simp only [run] at h ⊢
    rcases hp : run p d with ⟨rp, d1⟩
    rw [hp] at h
    cases rp with
    | ok a => cases h; rw [ihp d hp hf hf']
    | error e =>
      simp only at h
      by_cases hfat : e.isFatal = true
      · rw [if_pos hfat] at h; cases h
        rw [ihp d hp hf hf']; simp only [hfat, if_true]
      · rw [if_neg hfat] at h
        have h1 := unfired_before h hf' (spent_of_fired hf hp)
        rw [ihp d hp hf h1]
        simp only [hfat]
        exact ihh e d1 h h1 hf'
  | finallyDrop p c ihp ihc =>
    intro d r d' h hf hf'
    obtain ⟨rb, d1, hp, ⟨hh, rfl, rfl⟩ | ⟨hh, rc, d2, hc, rfl, rfl⟩⟩ := run_finallyDrop_cases h
    · subst hh; exact run_finallyDrop_hang (ihp d hp hf hf')
    · have h1 : d1.fault = none :=
        unfired_before (d := { d1 with dropDepth := d1.dropDepth + 1 }) hc hf' (spent_of_fired (d' := d1) hf hp)
      exact run_finallyDrop_of (ihp d hp hf h1) hh (ihc _ _ hc h1 hf')

/-! ### geometry -/

theorem fsGeomEq_iff_sameGeom {a b : FsState} : FileSim.FsGeomEq a b ↔ SameGeom a b := by
  unfold SameGeom FsState.geom FileSim.FsGeomEq
  constructor
  · intro h; rw [h]
  · intro h
    cases a; cases b
    simp only [FsState.mk.injEq] at h ⊢
    simp_all

/-- every run of a geometry-keeping program keeps the geometry in the sense of the simulation layer -/
theorem Geo.fsGeomEq {α} {p : Prog α} (hp : Geo p) {d : Dev} {r d'} (h : run p d = (r, d')) :
    FileSim.FsGeomEq d.fs d'.fs := fsGeomEq_iff_sameGeom.mpr (hp.out d r d' h)

/-! ### the outcome of a run hit by the fault, at one device -/

theorem faultOutcome_of_X {e? : Option Err} {d' : Dev} (h : FaultOutcomeX (fun _ _ => False) e? d') : FaultOutcome e? d' :=
  h.toOutcome fun _ _ h => h

theorem faultOutcomeX_bind_at {X : Fault → Err → Prop} {α β} {p : Prog β} {k : β → Prog α} {d : Dev}
    (hp : ∀ r1 d1, run p d = (r1, d1) → FaultOutcomeX X (resErr r1) d1)
    {r d'} (hr : run (p >>= k) d = (r, d'))
    (hk : ∀ b d1, run p d = (.ok b, d1) → d1.fault = none → ∀ r d', run (k b) d1 = (r, d') → FaultOutcomeX X (resErr r) d') :
    FaultOutcomeX X (resErr r) d' :=
  faultOutcomeOf_bind (T := xT X) (xT_none X) hp hr hk

theorem faultOutcome_bind_at {α β} {p : Prog β} {k : β → Prog α} {d : Dev}
    (hp : ∀ r1 d1, run p d = (r1, d1) → FaultOutcome (resErr r1) d1)
    {r d'} (hr : run (p >>= k) d = (r, d'))
    (hk : ∀ b d1, run p d = (.ok b, d1) → d1.fault = none → ∀ r d', run (k b) d1 = (r, d') → FaultOutcome (resErr r) d') :
    FaultOutcome (resErr r) d' :=
  faultOutcomeOf_bind (T := ioT) (fun _ _ h => nomatch h) hp hr hk

/-- after a propagating prefix -/
theorem faultOutcome_bind' {α β} {p : Prog β} {k : β → Prog α} (hp : Propagates p) {d : Dev} (hd : d.fault = none)
    {r d'} (hr : run (p >>= k) d = (r, d'))
    (hk : ∀ b d1, run p d = (.ok b, d1) → d1.fault = none → ∀ r d', run (k b) d1 = (r, d') → FaultOutcome (resErr r) d') :
    FaultOutcome (resErr r) d' := faultOutcome_bind_at (fun _ _ h => hp d hd _ _ h) hr hk

/-- outcomes of a run started after the fault fired inside a destructor -/
theorem faultOutcome_spent {α} (p : Prog α) {d : Dev} (hfa : d.failAt = none) {f : Fault} (hf : d.fault = some f)
    (hdrop : f.inDrop = true) {r d'} (hr : run p d = (r, d')) : FaultOutcome (resErr r) d' :=
  have hs := fault_kept p d hr hfa
  Or.inr ⟨hs.2, f, hs.1.trans hf, fun h => by rw [hdrop] at h; cases h⟩

/-! ### where the fault fired -/

/-- an `IoSafe` step that returned a value, in a run that ends without a fault fired inside a destructor, did not fire
    the fault -/
theorem unfired_of_ok {α β} {p : Prog α} (hp : IoSafe p) {d d1 d' : Dev} (hd : d.fault = none) {a : α}
    (h1 : run p d = (.ok a, d1)) {q : Prog β} {r} (hk : run q d1 = (r, d'))
    (hnd : ∀ f, d'.fault = some f → f.inDrop = false) : d1.fault = none := by
  refine Classical.byContradiction fun hne => ?_
  have hkept := fault_kept _ d1 hk (spent_of_fired hd h1 hne)
  rcases ioSafe_propagates hp d hd _ _ h1 with h0 | ⟨_, f, hf, him⟩
  · exact hne h0
  · cases him (hnd f (hkept.1.trans hf))

/-- a scope exit that ends with the fault fired outside destructors: it fired in the (`IoSafe`) body, which failed with
    the I/O error -/
theorem finallyDrop_fired_body {α} {p : Prog α} {c : Option α → Prog Unit} (hp : IoSafe p) {d : Dev} (hd : d.fault = none)
    {r d'} (hr : run (Prog.finallyDrop p c) d = (r, d')) {f : Fault} (hf : d'.fault = some f) (hnd : f.inDrop = false) :
    ∃ dq, run p d = (.error (.io f.k), dq) ∧ dq.fault = some f ∧ dq.failAt = none := by
  obtain ⟨rb, dq, hb, hcase⟩ := run_finallyDrop_cases hr
  have key : dq.fault = some f := by
    rcases hcase with ⟨_, _, rfl⟩ | ⟨_, rc, d2, hc, _, rfl⟩
    · exact hf
    · by_cases hq : dq.fault = none
      · -- had the body not fired it, the destructor would have: recorded as in-drop
        rcases run_any _ { dq with dropDepth := dq.dropDepth + 1 } hq hc with h | ⟨_, f', hf', hin⟩
        · cases h.symm.trans hf
        · cases hf'.symm.trans hf
          cases (hin (Nat.succ_pos _)).symm.trans hnd
      · exact (fault_kept _ { dq with dropDepth := dq.dropDepth + 1 } hc
          (spent_of_fired (d' := dq) hd hb hq)).1.symm.trans hf
  rcases ioSafe_propagates hp d hd _ _ hb with h0 | ⟨hfa, f', hf', him⟩
  · cases h0.symm.trans key
  · cases hf'.symm.trans key
    cases rb with
    | ok a => cases him hnd
    | error e => cases him hnd; exact ⟨dq, hb, key, hfa⟩

theorem quiet_img {α} {p : Prog α} (hp : QuietOps p) {d : Dev} {r d'} (h : run p d = (r, d')) : d'.img = d.img :=
  (noWriteOps_sound hp.noWriteOps d h).1

/-- a faulted device write changes nothing on the image -/
theorem DirSim.progWrite_fired_img (bs : List Nat) (d : Dev) {r d'} (h : run (Prog.write bs) d = (r, d'))
    (hd : d.fault = none) (hf : d'.fault ≠ none) : d'.img = d.img := by
  simp only [Prog.write, run, stepOp, devCall, devCallCore] at h
  split at h
  · cases h
    unfold Dev.count; rfl
  · cases h
    exfalso
    apply hf
    show (d.count .w).fault = none
    unfold Dev.count; exact hd

end FatVerif
