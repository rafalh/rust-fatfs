import FatVerif.Model.File
/-! `update_dir_entry_after_write` (`FileH.updateAfterWrite`, the last step of a successful `File::write`) as an equation:
    it never fails, leaves the device alone and returns the pure function `FileH.afterWrite` of the handle and the
    clock.  What the file, directory and time-stamp layers say about that step are facts about this function. -/
namespace FatVerif

/-- what `update_dir_entry_after_write` does to the editor of a handle whose cursor is at `off`, at clock value `t`:
    stamps it, and grows the recorded size of a file to the cursor -/
def DirEntryEditor.afterWrite (e : DirEntryEditor) (off t : Nat) : DirEntryEditor :=
  match (e.setModified (clockDateTime t)).data.size? with
  | some s => if off > s then (e.setModified (clockDateTime t)).setSize off else e.setModified (clockDateTime t)
  | none => e.setModified (clockDateTime t)

def FileH.afterWrite (f : FileH) (t : Nat) : FileH := { f with entry := f.entry.map (·.afterWrite f.offset t) }

/-- `update_dir_entry_after_write` never fails and touches nothing but the handle -/
theorem FileH.run_updateAfterWrite (f : FileH) (d : Dev) :
    run f.updateAfterWrite d = (.ok (f.afterWrite d.clock), d) := by
  unfold FileH.updateAfterWrite FileH.afterWrite
  cases he : f.entry with
  | none => cases f; simp only at he; subst he; rfl
  | some e => rfl

end FatVerif
