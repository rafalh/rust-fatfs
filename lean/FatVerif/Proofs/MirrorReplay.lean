import FatVerif.Proofs.WriteClassSlice
import FatVerif.Proofs.ImgReplay
/-! The bytes after replaying the records of a mirrored write (`mirrorLog`: the same `data` at the same relative offset
    `rel` of `m` consecutive copies of `Z` bytes from `B` on). -/
namespace FatVerif

/-- a mirrored write in the order the slice produces it (copy 0 is the OLDEST record) -/
theorem mirrorLog_all (off size : Nat) (bs : List Nat) (k : Nat) (st : List LogItem) :
    mirrorLog off size bs k 1 ++ (.write off bs :: st) = mirrorLog off size bs (k + 1) 0 ++ st := by
  simp only [mirrorLog, Nat.zero_mul, Nat.add_zero, List.append_assoc, List.singleton_append]

theorem cover_iff {B Z rel len i j x : Nat} (hx : x < Z) (hfit : rel + len ≤ Z) :
    (B + rel + j * Z ≤ B + i * Z + x ∧ B + i * Z + x < B + rel + j * Z + len) ↔ (i = j ∧ rel ≤ x ∧ x < rel + len) := by
  rcases Nat.lt_trichotomy i j with h | h | h
  · have := Nat.mul_le_mul_right Z (show i + 1 ≤ j from h)
    rw [Nat.add_mul, Nat.one_mul] at this
    constructor
    · intro h1; omega
    · intro h1; omega
  · subst h; constructor <;> intro h1 <;> omega
  · have := Nat.mul_le_mul_right Z (show j + 1 ≤ i from h)
    rw [Nat.add_mul, Nat.one_mul] at this
    constructor
    · intro h1; omega
    · intro h1; omega

theorem replay_mirrorLog (B Z rel : Nat) (data : List Nat) (hfit : rel + data.length ≤ Z) :
    ∀ (m i0 : Nat) (h : Nat → Nat) (i x : Nat), x < Z →
      replay h (mirrorLog (B + rel) Z data m i0) (B + i * Z + x) =
        if (i0 ≤ i ∧ i < i0 + m) ∧ rel ≤ x ∧ x < rel + data.length then data.getD (x - rel) 0 else h (B + i * Z + x) := by
  intro m
  induction m with
  | zero =>
    intro i0 h i x _
    simp only [mirrorLog, replay]
    rw [if_neg]
    rintro ⟨⟨h1, h2⟩, _⟩; omega
  | succ m ih =>
    intro i0 h i x hx
    simp only [mirrorLog, replay_append, ih _ _ i x hx, replay, applyRec]
    have hc := cover_iff (B := B) (j := i0) (i := i) hx hfit
    by_cases h1 : (i0 + 1 ≤ i ∧ i < i0 + 1 + m) ∧ rel ≤ x ∧ x < rel + data.length
    · rw [if_pos h1, if_pos ⟨by omega, h1.2⟩]
    · rw [if_neg h1]
      by_cases h2 : i = i0 ∧ rel ≤ x ∧ x < rel + data.length
      · rw [if_pos (hc.mpr h2), if_pos ⟨by omega, h2.2⟩]
        obtain ⟨rfl, _, _⟩ := h2
        have hidx : B + i * Z + x - (B + rel + i * Z) = x - rel := by omega
        rw [hidx]
      · rw [if_neg (fun h3 => h2 (hc.mp h3)), if_neg]
        rintro ⟨⟨h4, h5⟩, h6⟩
        by_cases h7 : i = i0
        · exact h2 ⟨h7, h6⟩
        · exact h1 ⟨⟨by omega, by omega⟩, h6⟩

/-- … followed (in time: preceded) by records `st` outside the window: every copy holds `data` at `rel` -/
theorem replay_mirrored (B Z rel k : Nat) (data : List Nat) (hfit : rel + data.length ≤ Z) (st : List LogItem)
    (hst : ∀ off bs, LogItem.write off bs ∈ st → off + bs.length ≤ B ∨ B + (k + 1) * Z ≤ off) (g : Nat → Nat)
    {i x : Nat} (hi : i < k + 1) (hx : x < Z) :
    replay g (mirrorLog (B + rel) Z data k 1 ++ (.write (B + rel) data :: st)) (B + i * Z + x) =
      if rel ≤ x ∧ x < rel + data.length then data.getD (x - rel) 0 else g (B + i * Z + x) := by
  rw [mirrorLog_all, replay_append, replay_mirrorLog B Z rel data hfit (k + 1) 0 _ i x hx, replay_outside g _ st]
  · simp only [Nat.zero_le, Nat.zero_add, hi, and_self, true_and]
  · intro off bs hm
    have := Nat.mul_le_mul_right Z (show i + 1 ≤ k + 1 from hi)
    rw [Nat.add_mul, Nat.one_mul] at this
    rcases hst off bs hm with h | h <;> omega

end FatVerif
