import FatVerif.Proofs.SlotTreeNav
/-!
# Slot trees: the hypotheses on a call (`PathOk`, `CwdOk`, `OpOk`), and the path walk — one component, then the
directory components — against the specification's `stepComp` / `walkDirs`
-/
namespace FatVerif
namespace SlotTree
open Lfn DirSlots DirAlias

/-- the specification's way of splitting a path (`splitOn "/"`, empty components dropped) and `split_path` applied
    component by component give the same components.  A fact about two string functions, independent of the file
    system; it is a hypothesis of the refinement theorem (`String.splitOn` has no specification lemmas in core). -/
def SplitAgree (path : String) : Prop :=
  ((pathParts path).2 = "" ∧ (pathParts path).1 = [] ∧ Spec.splitPath path = []) ∨
  ((pathParts path).2 ≠ "" ∧ Spec.splitPath path = (pathParts path).1 ++ [(pathParts path).2])

/-- hypotheses on a path argument -/
def PathOk (up : Char → List Char) (t : Node) (path : String) : Prop :=
  SplitAgree path ∧ (∀ q ∈ (pathParts path).1, QAll up t q) ∧ QAll up t (pathParts path).2

/-- hypotheses on a directory handle: it is live (resolves to a directory) and no component answers to an alias only -/
def CwdOk (up : Char → List Char) (t : Node) (cwd : List String) : Prop :=
  Lock up t cwd ∧ ∃ s c, getAtS up t cwd = some (.dir s c)

/-- hypotheses on a call -/
def OpOk (up : Char → List Char) (t : Node) : Spec.Op → Prop
  | .createFile cwd p => CwdOk up t cwd ∧ PathOk up t p
  | .createDir cwd p => CwdOk up t cwd ∧ PathOk up t p
  | .openFile cwd p => CwdOk up t cwd ∧ PathOk up t p
  | .openDir cwd p => CwdOk up t cwd ∧ PathOk up t p
  | .list cwd => CwdOk up t cwd
  | .remove cwd p => CwdOk up t cwd ∧ PathOk up t p
  | .rename cwd s d p => CwdOk up t cwd ∧ PathOk up t s ∧ CwdOk up t d ∧ PathOk up t p

variable (u : Char → List Char)

theorem qall_at {t : Node} {q : String} (hq : QAll (upOf u) t q) {p : List String} {s : List (List Nat)}
    {ch : List (LfnEntry × Node)} (hg : getAtS (upOf u) t p = some (.dir s ch)) : QHit (upOf u) q s ch :=
  ((all_dir _ s ch).1 (all_getAtS _ p t _ hq hg)).1

theorem dirOk_at {t : Node} (hwf : TreeWf (upOf u) t) {p : List String} {s : List (List Nat)}
    {ch : List (LfnEntry × Node)} (hg : getAtS (upOf u) t p = some (.dir s ch)) : DirOk (upOf u) s ch :=
  ((all_dir _ s ch).1 (all_getAtS _ p t _ hwf hg)).1

theorem QHit.nameHitOnly {up : Char → List Char} {q : String} {s : List (List Nat)} {ch : List (LfnEntry × Node)}
    (h : QHit up q s ch) : NameHitOnly up s q := fun e he hm => (h e he hm).1

/-- a query that is a dot name, or is not a valid name, finds nothing -/
theorem lookup_none_of_bad {up : Char → List Char} {q : String} {s : List (List Nat)} {ch : List (LfnEntry × Node)}
    (h : QHit up q s ch) (hbad : isDotName q = true ∨ Names.validateLongName q ≠ .ok ()) :
    findEntry up s q.toList = none ∧ lookupS up s ch q = none := by
  have hf : findEntry up s q.toList = none := by
    rw [findEntry_none_iff]
    intro e he
    cases hm : matchesName up e q.toList with
    | false => rfl
    | true =>
      obtain ⟨_, h2, h3⟩ := h e he hm
      rcases hbad with hb | hb
      · rw [h3] at hb; cases hb
      · exact absurd h2 hb
  exact ⟨hf, by unfold lookupS; rw [hf]⟩

theorem isDotName_iff (s : String) : isDotName s = true ↔ s = "." ∨ s = ".." := by
  unfold isDotName; simp

theorem spec_isDot_eq (s : String) : Spec.isDot s = isDotName s := rfl

/-! ## one component -/

theorem stepComp_corr (t : Node) (hwf : TreeWf (upOf u) t) (cur : List String) (hl : Lock (upOf u) t cur)
    (comp : String) (hq : QAll (upOf u) t comp) :
    (∀ p n, stepCompS (upOf u) t cur comp = .ok (p, n) →
      Spec.stepComp (cfgOf u) (abs t) cur comp = .ok (p, abs n) ∧ Lock (upOf u) t p ∧
        getAtS (upOf u) t p = some n) ∧
    (∀ e, stepCompS (upOf u) t cur comp = .error e →
      ∃ es, Spec.stepComp (cfgOf u) (abs t) cur comp = .error es ∧ e ∈ es) := by
  unfold stepCompS Spec.stepComp
  rw [getAt_corr u cur t hwf hl]
  cases hg : getAtS (upOf u) t cur with
  | none => simp
  | some d =>
    cases d with
    | file c => simp [abs]
    | dir slots ch =>
      have hd := dirOk_at u hwf hg
      have hqh := qall_at u hq hg
      simp only [Option.map, abs_dir]
      by_cases h1 : comp = "."
      · subst h1
        by_cases hc : cur = []
        · subst hc
          have hn := (lookup_none_of_bad hqh (Or.inl rfl)).2
          simp [hn]
        · have hce : cur.isEmpty = false := by simpa using hc
          simp only [hce, beq_self_eq_true, Bool.not_false, Bool.and_self, if_true, Bool.false_eq_true, if_false]
          refine ⟨?_, by simp⟩
          intro p n h
          simp only [Except.ok.injEq, Prod.mk.injEq] at h
          obtain ⟨rfl, rfl⟩ := h
          exact ⟨by rw [abs_dir], hl, hg⟩
      · by_cases h2 : comp = ".."
        · subst h2
          by_cases hc : cur = []
          · subst hc
            have hn := (lookup_none_of_bad hqh (Or.inl rfl)).2
            simp [hn]
          · have hce : cur.isEmpty = false := by simpa using hc
            have hdl := lock_dropLast t cur hl
            rw [getAt_corr u cur.dropLast t hwf hdl]
            have hne : ((".." : String) == ".") = false := by decide
            simp only [hce, hne, beq_self_eq_true, Bool.not_false, Bool.and_self, if_true, Bool.false_eq_true,
              if_false, Bool.false_and]
            cases hp : getAtS (upOf u) t cur.dropLast with
            | none => simp
            | some pn =>
              simp only [Option.map]
              refine ⟨?_, by simp⟩
              intro p n h
              simp only [Except.ok.injEq, Prod.mk.injEq] at h
              obtain ⟨rfl, rfl⟩ := h
              exact ⟨rfl, hdl, hp⟩
        · have hb1 : (comp == ".") = false := by simpa using h1
          have hb2 : (comp == "..") = false := by simpa using h2
          simp only [hb1, hb2, Bool.false_and, Bool.false_eq_true, if_false]
          have hfc := find_corr u hd comp hqh.nameHitOnly
          rw [abs_dir] at hfc
          rw [hfc]
          cases hx : lookupS (upOf u) slots ch comp with
          | none => simp
          | some x =>
            simp only [Option.map]
            refine ⟨?_, by simp⟩
            intro p n h
            simp only [Except.ok.injEq, Prod.mk.injEq] at h
            obtain ⟨rfl, rfl⟩ := h
            obtain ⟨l1, l2⟩ := lock_snoc t hwf cur hl slots ch hg x (lookupS_mem hx)
            exact ⟨rfl, l1, l2⟩

/-! ## the directory components -/

theorem walkDirs_corr (t : Node) (hwf : TreeWf (upOf u) t) : ∀ (comps cur : List String), Lock (upOf u) t cur →
    (∀ c ∈ comps, QAll (upOf u) t c) →
    (∀ p, walkDirsS (upOf u) t cur comps = .ok p →
      Spec.walkDirs (cfgOf u) (abs t) cur comps = .ok p ∧ Lock (upOf u) t p ∧
        ∃ s c, getAtS (upOf u) t p = some (.dir s c)) ∧
    (∀ e, walkDirsS (upOf u) t cur comps = .error e →
      ∃ es, Spec.walkDirs (cfgOf u) (abs t) cur comps = .error es ∧ e ∈ es) := by
  intro comps
  induction comps with
  | nil =>
    intro cur hl _
    unfold walkDirsS Spec.walkDirs
    rw [getAt_corr u cur t hwf hl]
    cases hg : getAtS (upOf u) t cur with
    | none => simp
    | some d =>
      cases d with
      | file c => simp [abs]
      | dir slots ch =>
        simp only [Option.map, abs_dir]
        refine ⟨?_, by simp⟩
        intro p h
        simp only [Except.ok.injEq] at h
        subst h
        exact ⟨rfl, hl, slots, ch, hg⟩
  | cons c rest ih =>
    intro cur hl hq
    obtain ⟨s1, s2⟩ := stepComp_corr u t hwf cur hl c (hq c (by simp))
    unfold walkDirsS Spec.walkDirs
    cases hs : stepCompS (upOf u) t cur c with
    | error e =>
      obtain ⟨es, h1, h2⟩ := s2 e hs
      rw [h1]
      simp only
      exact ⟨by simp, fun e' he' => ⟨es, rfl, by simp only [Except.error.injEq] at he'; rw [← he']; exact h2⟩⟩
    | ok pn =>
      obtain ⟨p, n⟩ := pn
      obtain ⟨h1, h2, h3⟩ := s1 p n hs
      rw [h1]
      cases n with
      | file fc => simp [abs]
      | dir slots ch =>
        simp only [abs_dir]
        exact ih p h2 (fun c' hc' => hq c' (by simp [hc']))

end SlotTree
end FatVerif
