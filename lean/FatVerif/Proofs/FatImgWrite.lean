import FatVerif.Proofs.FatImgScan
/-! Writing the FAT through a `DiskSlice`: the effect of one entry update on the device image, as an
    order-independent fact (`FatWrite`): the entry bytes land at the same relative offset of every copy, the only other
    byte that may change is the status byte (`FsIoAdapter` marks the volume dirty around the first modifying write). -/
namespace FatVerif
open FatVerif.Fat

/-- effect on the image of writing `data` at relative offset `rel` of the FAT window `s0` (all its copies) -/
structure FatWrite (s0 : DiskSlice) (d d' : Dev) (rel : Nat) (data : List Nat) : Prop where
  wf : d'.img.WF
  size : d'.img.size = d.img.size
  geom : SameGeom d.fs d'.fs
  copies : ∀ i, i < s0.mirrors → ∀ x, x < s0.size →
    d'.img.getByte (s0.beginOff + i * s0.size + x) =
      if rel ≤ x ∧ x < rel + data.length then data.getD (x - rel) 0 % 256
      else d.img.getByte (s0.beginOff + i * s0.size + x)
  outside : ∀ q, ¬ (s0.beginOff ≤ q ∧ q < s0.beginOff + s0.mirrors * s0.size) → q ≠ statusOff d.fs →
    d'.img.getByte q = d.img.getByte q

/-- the bytes after replaying the records of a mirrored write that owed the status record `st` (one byte at `so`, in
    front of the window): every copy holds `data` at `rel`; outside the window only `so` may have changed -/
theorem replay_setItems (B Z rel k : Nat) (data : List Nat) (hfit : rel + data.length ≤ Z) (st : List LogItem)
    (so : Nat) (hso : so + 1 ≤ B) (hst : ∀ off bs, LogItem.write off bs ∈ st → off = so ∧ bs.length = 1)
    (g : Nat → Nat) :
    (∀ i, i < k + 1 → ∀ x, x < Z →
      replay g (mirrorLog (B + rel) Z data k 1 ++ (.write (B + rel) data :: st)) (B + i * Z + x) =
        if rel ≤ x ∧ x < rel + data.length then data.getD (x - rel) 0 else g (B + i * Z + x)) ∧
    (∀ q, ¬ (B ≤ q ∧ q < B + (k + 1) * Z) → q ≠ so →
      replay g (mirrorLog (B + rel) Z data k 1 ++ (.write (B + rel) data :: st)) q = g q) := by
  refine ⟨fun i hi x hx => replay_mirrored B Z rel k data hfit st
    (fun off bs hm => Or.inl (by obtain ⟨rfl, hl⟩ := hst off bs hm; omega)) g hi hx, fun q hq hso' => ?_⟩
  rw [mirrorLog_all]
  apply replay_outside
  intro off bs hm hcov
  rcases List.mem_append.mp hm with hm | hm
  · obtain ⟨j, hj, hit⟩ := (mem_mirrorLog (k + 1) 0 _).mp hm
    simp only [LogItem.write.injEq] at hit
    obtain ⟨rfl, rfl⟩ := hit
    have : (0 + j + 1) * Z ≤ (k + 1) * Z := Nat.mul_le_mul_right Z (by omega)
    rw [Nat.add_mul, Nat.one_mul] at this
    exact hq (by omega)
  · obtain ⟨rfl, hl⟩ := hst off bs hm
    omega

section window
variable {s0 : DiskSlice}

/-- `write_all data` at the slice's position, successfully: a `FatWrite` there -/
theorem writeAll_fatWrite {s : DiskSlice} (hs : SliceInv s0 s) (hmir : 0 < s0.mirrors) (data : List Nat)
    (hne : data ≠ []) (d : Dev) (hw : d.img.WF) (hdev : s0.beginOff + s0.mirrors * s0.size ≤ d.img.size)
    (hstat : statusOff d.fs + 1 ≤ s0.beginOff) {s' : DiskSlice} {d' : Dev}
    (hr : run (writeAll DiskSlice.strm s data) d = (.ok s', d')) :
    s.offset + data.length ≤ s0.size ∧ s'.offset = s.offset + data.length ∧ SliceInv s0 s' ∧
      FatWrite s0 d d' s.offset data := by
  obtain ⟨hfit, hs', hinv, kk, hkk, hfs2, hlog⟩ := writeAll_mirrored hs hmir data hne d hdev hr
  have hseg : Seg d d' (mirrorLog (s0.beginOff + s.offset) s0.size data kk 1 ++
      (.write (s0.beginOff + s.offset) data :: statusExtra s0.viaFs d.fs)) := by
    rw [Seg, hlog]; simp
  obtain ⟨hwf', hbytes⟩ := img_after_seg hr hw hseg
  obtain ⟨hcop, hout⟩ := replay_setItems s0.beginOff s0.size s.offset kk data hfit (statusExtra s0.viaFs d.fs)
    (statusOff d.fs) hstat (statusExtra_mem _ _) d.img.getByte
  refine ⟨hfit, by rw [hs'], hinv, ⟨hwf', run_img_size _ _ _ _ hr, by rw [hfs2]; exact fsAfter_geom _ _, ?_, ?_⟩⟩
  · intro i hi x hx
    rw [hbytes, hcop i (by omega) x hx]
    split
    · rfl
    · exact Nat.mod_eq_of_lt (Img.getByte_lt _ _)
  · intro q hq hso
    rw [hbytes, hout q (by rw [← hkk]; exact hq) hso]
    exact Nat.mod_eq_of_lt (Img.getByte_lt _ _)

/-- seek to `rel`, then `write_all data`, successfully: a `FatWrite` -/
theorem seek_writeAll_fatWrite {s : DiskSlice} (hs : SliceInv s0 s) (hmir : 0 < s0.mirrors) (rel : Nat)
    (data : List Nat) (hne : data ≠ []) (d : Dev) (hw : d.img.WF)
    (hdev : s0.beginOff + s0.mirrors * s0.size ≤ d.img.size) (hstat : statusOff d.fs + 1 ≤ s0.beginOff)
    {s' : DiskSlice} {d' : Dev} (k : Nat × DiskSlice → Prog DiskSlice)
    (hk : ∀ t s1, k (t, s1) = writeAll DiskSlice.strm s1 data)
    (hr : run (Prog.bind (DiskSlice.strm.seek s (.start rel)) k) d = (.ok s', d')) :
    rel + data.length ≤ s0.size ∧ SliceInv s0 s' ∧ FatWrite s0 d d' rel data := by
  obtain ⟨⟨t, s1⟩, d1, h1, h2⟩ := run_bind_ok_inv hr
  rw [hk] at h2
  obtain ⟨hd1, hs1, _, hi1⟩ := slice_seek_at hs rel d h1
  subst hd1
  obtain ⟨hfit, _, hs', hfw⟩ := writeAll_fatWrite hi1 hmir data hne d1 hw hdev hstat h2
  have hoff1 : s1.offset = rel := by rw [hs1]
  rw [hoff1] at hfit hfw
  exact ⟨hfit, hs', hfw⟩

end window

/-- what may change besides the FAT entry bytes: nothing outside the FAT copies except the status byte; geometry,
    image size and well-formedness are kept -/
structure FatFrame (s0 : DiskSlice) (d d' : Dev) : Prop where
  wf : d'.img.WF
  size : d'.img.size = d.img.size
  geom : SameGeom d.fs d'.fs
  outside : ∀ q, ¬ (s0.beginOff ≤ q ∧ q < s0.beginOff + s0.mirrors * s0.size) → q ≠ statusOff d.fs →
    d'.img.getByte q = d.img.getByte q

theorem FatFrame.of_sameBytes {s0 : DiskSlice} {d d' : Dev} (h : SameBytes d d') : FatFrame s0 d d' :=
  ⟨h.2.2.1, h.2.2.2, by rw [h.2.1]; exact SameGeom.refl _, fun q _ _ => h.1 q⟩

theorem FatFrame.trans {s0 : DiskSlice} {a b c : Dev} (h1 : FatFrame s0 a b) (h2 : FatFrame s0 b c) : FatFrame s0 a c :=
  ⟨h2.wf, h2.size.trans h1.size, h1.geom.trans h2.geom, fun q hq hs => by
    rw [h2.outside q hq (by rw [statusOff_geom h1.geom]; exact hs), h1.outside q hq hs]⟩

theorem FatWrite.frame {s0 : DiskSlice} {d d' : Dev} {rel : Nat} {data : List Nat} (h : FatWrite s0 d d' rel data) :
    FatFrame s0 d d' := ⟨h.wf, h.size, h.geom, h.outside⟩

theorem FatWrite.of_sameBytes {s0 : DiskSlice} {d0 d d' : Dev} {rel : Nat} {data : List Nat} (hsb : SameBytes d0 d)
    (h : FatWrite s0 d d' rel data) : FatWrite s0 d0 d' rel data :=
  ⟨h.wf, h.size.trans hsb.2.2.2, by rw [← hsb.2.1]; exact h.geom,
   fun i hi x hx => by rw [h.copies i hi x hx, hsb.1],
   fun q hq hs => by rw [h.outside q hq (by rw [hsb.2.1]; exact hs), hsb.1]⟩

section window
variable {s0 : DiskSlice}
local notation "F[" d "]" => fatBytes s0.beginOff s0.size (Dev.img d)

/-- the window's bytes after a `FatWrite` -/
theorem fatWrite_bytes (hmir : 0 < s0.mirrors) {d d' : Dev} {rel : Nat} {data : List Nat} (hd : ∀ k, data.getD k 0 < 256)
    (hfit : rel + data.length ≤ s0.size) (h : FatWrite s0 d d' rel data) : F[d'] = writeBytes F[d] rel data :=
  fatBytes_patch _ _ _ _ _ _ hd hfit fun i hi => by
    have := h.copies 0 hmir i hi
    rwa [Nat.zero_mul, Nat.add_zero] at this

/-- **`Table.set` at image level.** A successful `write_fat(c, v)` through the FAT slice of a device: the window's bytes
    afterwards are those the pure `Fat.set` computes from the bytes before; nothing outside the FAT copies changes
    except (possibly) the status byte. (All copies receive the same bytes: `fat_copies_equal_img`.) -/
theorem set_img (ft : FatType) {s : DiskSlice} (hs : SliceInv s0 s) (hmir : 0 < s0.mirrors) (c : Nat) (v : FatValue)
    (d : Dev) (hw : d.img.WF) (hdev : s0.beginOff + s0.mirrors * s0.size ≤ d.img.size)
    (hstat : statusOff d.fs + 1 ≤ s0.beginOff) (hZ : s0.size < u32Lim) {s' : DiskSlice} {d' : Dev}
    (hr : run (Table.set DiskSlice.strm ft s c v) d = (.ok s', d')) :
    Fat.set ft F[d] c v = .ok F[d'] ∧ SliceInv s0 s' ∧ FatFrame s0 d d' := by
  have hdev1 : s0.beginOff + s0.size ≤ d.img.size := by
    have : s0.size ≤ s0.mirrors * s0.size := Nat.le_mul_of_pos_left _ hmir
    omega
  have hsz := fatBytes_size s0.beginOff s0.size d.img
  cases ft with
  | fat16 =>
    unfold Table.set at hr
    dsimp only at hr
    obtain ⟨hfit, hs', hfw⟩ := seek_writeAll_fatWrite hs hmir (c * 2) (bytesLe16 (Table.rawOfValue .fat16 v % 65536))
      (by simp [bytesLe16]) d hw hdev hstat _ (fun _ _ => rfl) hr
    have hb := fatWrite_bytes hmir (bytesLe16_lt _) hfit hfw
    simp only [bytesLe16, List.length_cons, List.length_nil] at hfit
    refine ⟨?_, hs', hfw.frame⟩
    simp only [Fat.set, setRaw16, hsz]
    rw [if_neg (by omega), if_neg (by omega), hb, tableRawOfValue_eq, wr16_eq_writeBytes]
  | fat12 =>
    unfold Table.set at hr
    dsimp only at hr
    obtain ⟨⟨t, s1⟩, d1, h1, h2⟩ := run_bind_ok_inv hr
    obtain ⟨rfl, hs1, _, hi1⟩ := slice_seek_at hs _ d h1
    obtain ⟨⟨old, s2⟩, d2, h3, h4⟩ := run_bind_ok_inv h2
    obtain ⟨a, b, _, hi2, f⟩ := slice_readU16_at hi1 d1 hw hdev1 h3
    rw [hs1] at a b
    dsimp only at a b h4
    obtain ⟨hfit, hs', hfw⟩ := seek_writeAll_fatWrite hi2 hmir (c + c / 2) (bytesLe16 _) (by simp [bytesLe16]) d2
      f.2.2.1 (by rw [f.2.2.2]; exact hdev) (by rw [f.2.1]; exact hstat) _ (fun _ _ => rfl) h4
    have hfw' := FatWrite.of_sameBytes f hfw
    refine ⟨?_, hs', hfw'.frame⟩
    simp only [Fat.set, setRaw12, hsz]
    rw [if_neg (by omega), if_neg (by omega), fatWrite_bytes hmir (bytesLe16_lt _) hfit hfw', ← b, tableRawOfValue_eq]
    rfl
  | fat32 =>
    unfold Table.set at hr
    dsimp only at hr
    obtain ⟨⟨old, s2⟩, d2, h3, h4⟩ := run_bind_ok_inv hr
    obtain ⟨hg, hi2, f⟩ := getRaw_img .fat32 hs c d hw hdev1 hZ h3
    dsimp only at h4
    have hg' : getRaw32 F[d] c = .ok old := hg
    simp only [Fat.set, set32, hg']
    by_cases hsp : v = .free ∧ Table.isSpecial32 c = true
    · rw [if_pos hsp] at h4; simp only [run] at h4; cases h4
    · rw [if_neg hsp] at h4
      rw [if_neg (fun h => hsp ⟨h.1, (isSpecial32_iff c).mpr h.2⟩)]
      obtain ⟨hfit, hs', hfw⟩ := seek_writeAll_fatWrite hi2 hmir (c * 4) (bytesLe32 _) (by simp [bytesLe32]) d2
        f.2.2.1 (by rw [f.2.2.2]; exact hdev) (by rw [f.2.1]; exact hstat) _ (fun _ _ => rfl) h4
      have hfw' := FatWrite.of_sameBytes f hfw
      have hb := fatWrite_bytes hmir (bytesLe32_lt _) hfit hfw'
      simp only [bytesLe32, List.length_cons, List.length_nil] at hfit
      refine ⟨?_, hs', hfw'.frame⟩
      simp only [setRaw32, hsz]
      rw [if_neg (by omega), if_neg (by omega), hb, tableRawOfValue_eq, wr32_eq_writeBytes]

end window
end FatVerif
