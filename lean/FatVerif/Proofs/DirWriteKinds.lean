import FatVerif.Proofs.DirWriteChain
/-! Directory WRITES: the KINDS of cluster-chain directories as write families. A chain WITHOUT a directory entry (the
    root of FAT32): writing does not change the handle. A SUB-DIRECTORY (handle with the editor of its own entry):
    writing stamps the entry (`update_dir_entry_after_write`: modification date/time from the clock); the destructor
    of the clone then writes the directory's own 32-byte record back to its slot in the parent (raw storage). What the
    two have in common is `ChainKind`; the write family and the stream operations are proved once from it.
    A chain directory is described as for the reader (Proofs/DirReadKinds: `ChainDir`, its part `ChainCore` that does
    not ask for a clean editor, the handle `dirFile` and the stream `chainS` at an offset, `chainSrc`, `chainRoom`);
    `stamped f t` (Proofs/DirWriteChain) is the handle `f` after a write at clock `t`. -/
namespace FatVerif.DirSim
open FatVerif.FileSim FatVerif.Fat DirEntryData

/-! ### the stamped entry -/

theorem ed_setModified_idem (ed : DirEntryEditor) (dt : DateTime) :
    (ed.setModified dt).setModified dt = ed.setModified dt := by
  unfold DirEntryEditor.setModified
  by_cases h : dt ≠ ed.data.modified
  · rw [if_pos h]
    simp only
    split
    · rfl
    · rfl
  · rw [if_neg h, if_neg h]

theorem ed_setModified_pos (ed : DirEntryEditor) (dt : DateTime) : (ed.setModified dt).pos = ed.pos := by
  unfold DirEntryEditor.setModified; split <;> rfl

/-- what the stamp changes in the record: the modification date and time, nothing else -/
theorem ed_setModified_data (ed : DirEntryEditor) (dt : DateTime) :
    (ed.setModified dt).data = ed.data ∨ (ed.setModified dt).data = ed.data.setModified dt := by
  unfold DirEntryEditor.setModified; split
  · exact Or.inr rfl
  · exact Or.inl rfl

theorem isDir_setModified_ed (e : DirEntryEditor) (dt : DateTime) : (e.setModified dt).data.isDir = e.data.isDir := by
  unfold DirEntryEditor.setModified
  split <;> rfl

/-- the stamped record differs from the handle's record in the modification time and date only: bytes 22–25 -/
theorem stamped_record (ed0 : DirEntryEditor) (t0 : Nat) (h : ed0.data.name.length = 11) :
    (ed0.setModified (clockDateTime t0)).data.serialize = ed0.data.serialize ∨
    (ed0.setModified (clockDateTime t0)).data.serialize =
      ed0.data.serialize.take 22 ++ (bytesLe16 (clockDateTime t0).time.encodeLo ++ bytesLe16 (clockDateTime t0).date.encode) ++
        ed0.data.serialize.drop 26 := by
  rcases ed_setModified_data ed0 (clockDateTime t0) with h1 | h1
  · left; rw [h1]
  · right; rw [h1]; exact DirFileEntryData.serialize_setModified _ _ h

/-! ### what the kinds have in common -/

/-- a kind of cluster-chain directory with first cluster `c0`: `Inv chain` is threaded through the writes on the
    directory while its chain is `chain`; a clone starts as the handle `f` and is `g` once it was written through.
    `keep`: the invariant holds again after a step that keeps fault schedule, size, geometry and clock, of any list of
    clusters that is then the chain of `c0`; `drop`: the destructor of a clone keeps mounted state and FAT and writes
    at most `Extra` -/
structure ChainKind (fs0 : FsState) (c0 : Nat) (f g : FileH) (Inv : List Nat → Dev → Prop) (Extra : Nat → Prop)
    (DropPost : Img → Img → Prop) : Prop where
  dir : ∀ {chain d}, Inv chain d → ChainDir d f c0 chain
  -- of `g` the core only: its stamped editor has something to write back, so `ChainDir.clean` fails of it
  coreG : ∀ {chain d}, Inv chain d → ChainCore d g c0 chain
  stampF : ∀ {chain d}, Inv chain d → stamped f d.clock = g
  stampG : ∀ {chain d}, Inv chain d → stamped g d.clock = g
  wf : ∀ {chain d}, Inv chain d → d.img.WF
  geom : ∀ {chain d}, Inv chain d → FsGeomEq fs0 d.fs
  fuel : ∀ {chain d}, Inv chain d → chain.length * (fs0.clusterSize / 32) < dirFuel fs0
  vol : ∀ {chain d d1}, Inv chain d → SameVol d d1 → d1.clock = d.clock → Inv chain d1
  keep : ∀ {chain chain' d d'}, Inv chain d → VolStep d d' → d'.clock = d.clock →
    Chain (tabView d'.fs d'.img) c0 chain' → (∀ c ∈ chain', 2 ≤ c ∧ c < fs0.totalClusters + 2) →
    chain'.length * fs0.clusterSize < 4294967296 → chain'.length * (fs0.clusterSize / 32) < dirFuel fs0 → Inv chain' d'
  drop : ∀ {chain d}, Inv chain d → ∀ o, o ≤ 32 * (chain.length * (fs0.clusterSize / 32)) → ∃ d1, run (chainS g chain fs0.clusterSize o).dropBody d = (.ok (), d1) ∧
    VolStep d d1 ∧ d1.clock = d.clock ∧ d1.fs = d.fs ∧ tabView d1.fs d1.img = tabView d.fs d.img ∧
    (∀ q, 0x42 ≤ q → ¬ Extra q → d1.img.getByte q = d.img.getByte q) ∧ DropPost d.img d1.img

namespace ChainKind
variable {fs0 : FsState} {c0 : Nat} {f g : FileH} {Inv : List Nat → Dev → Prop} {Extra : Nat → Prop}
  {DropPost : Img → Img → Prop}

theorem invOK (K : ChainKind fs0 c0 f g Inv Extra DropPost) (chain : List Nat) : InvOK (Inv chain) :=
  ⟨fun _ h => (K.dir h).failAt, fun _ h => K.wf h, fun _ _ h hv hc => K.vol h hv hc⟩

/-- … after a step that keeps the decoded FAT -/
theorem of_tabView (K : ChainKind fs0 c0 f g Inv Extra DropPost) {chain : List Nat} {d d' : Dev} (h : Inv chain d)
    (hs : VolStep d d') (hc : d'.clock = d.clock) (htv : tabView d'.fs d'.img = tabView d.fs d.img) : Inv chain d' :=
  K.keep h hs hc (by rw [htv]; exact (K.dir h).link) (by rw [← (K.geom h).totalClusters]; exact (K.dir h).inTab)
    (by rw [← (K.geom h).clusterSize]; exact (K.dir h).u32) (K.fuel h)

theorem slots_bytes (K : ChainKind fs0 c0 f g Inv Extra DropPost) {chain : List Nat} {d : Dev} (h : Inv chain d)
    (n : Nat) : 32 * (n * (fs0.clusterSize / 32)) = n * fs0.clusterSize :=
  DirSim.slots_bytes (by rw [← (K.geom h).clusterSize]; exact (K.dir h).cs32) n

/-- the write family of a handle `x` of the directory whose stamp at the device clock is `g` (`x = f`, or `x = g`) -/
theorem wfam (K : ChainKind fs0 c0 f g Inv Extra DropPost) (chain : List Nat) (x : FileH)
    (hcore : ∀ d, Inv chain d → ChainCore d x c0 chain) (hst : ∀ d, Inv chain d → stamped x d.clock = g) :
    WFam (Inv chain) (chainS x chain fs0.clusterSize) (chainS g chain fs0.clusterSize)
      (chain.length * (fs0.clusterSize / 32)) (chainSrc fs0 chain) (chainRoom fs0 chain) := by
  refine ⟨fun d h => ?_, fun d h o bs hne hroom hfit => ?_, fun d h o _ hfit => ?_⟩
  · have := (hcore d h).byteSrc (T := 32 * (chain.length * (fs0.clusterSize / 32)))
      (by rw [K.slots_bytes h, (K.geom h).clusterSize])
    rw [(K.geom h).clusterSize, chainSrc_geom (K.geom h), chainRoom_geom (K.geom h)] at this
    exact this
  · have hcs := (K.geom h).clusterSize
    obtain ⟨d', h1, hw, hC, hwf⟩ := (hcore d h).file_write (K.wf h) o bs hne
      (by rw [chainRoom_geom (K.geom h)]; exact hroom) (by rw [hcs, ← K.slots_bytes h]; exact hfit)
    rw [hcs, hst d h] at h1
    rw [chainSrc_geom (K.geom h)] at hw
    have hg' := (K.geom h).trans hw.step.geom
    refine ⟨d', ?_, hw, K.keep h (VolStep.of_devStep hw.step) hw.step.clock hC.link
      (by rw [← hg'.totalClusters]; exact hC.inTab) (by rw [← hg'.clusterSize]; exact hC.u32) (K.fuel h)⟩
    simp only [chainS, DirStream.write]
    rw [run_bind_ok h1]
    rfl
  · have hcs := (K.geom h).clusterSize
    obtain ⟨d1, h1, hs1⟩ := (hcore d h).seekBack o (by rw [hcs, ← K.slots_bytes h]; exact hfit)
    rw [hcs] at h1
    refine ⟨d1, ?_, hs1.toVol⟩
    simp only [chainS, DirStream.seek]
    rw [run_bind_ok h1]
    rfl

/-- … and the stream operations; `hex`: the bytes the destructor writes lie apart from the slots -/
theorem wops (K : ChainKind fs0 c0 f g Inv Extra DropPost) (chain : List Nat)
    (hex : ∀ i, i < chain.length * (fs0.clusterSize / 32) → ∀ x, x < 32 → ¬ Extra (chainSrc fs0 chain (32 * i) + x)) :
    WOps (Inv chain) (chainS f chain fs0.clusterSize) (chainS g chain fs0.clusterSize)
      (chain.length * (fs0.clusterSize / 32)) (chainSrc fs0 chain) (chainRoom fs0 chain) Extra DropPost := by
  have hT : ∀ d, Inv chain d → 32 * (chain.length * (fs0.clusterSize / 32)) = chain.length * d.fs.clusterSize :=
    fun d h => by rw [(K.geom h).clusterSize]; exact K.slots_bytes h _
  have hD : ∀ d, Inv chain d → DirSrc d (chainS f chain fs0.clusterSize)
      (chain.length * (fs0.clusterSize / 32)) (chainSrc fs0 chain) (chainRoom fs0 chain) := by
    intro d h
    have := (K.dir h).dirSrc
    rw [(K.geom h).clusterSize, chainSrc_geom (K.geom h), chainRoom_geom (K.geom h)] at this
    exact this
  refine ⟨hD, fun d h => by rw [dirFuel_geom (K.geom h)]; exact K.fuel h, fun d h d0 hv0 o t ho ht => ?_,
    fun d h o ho => (hD d h).seekCur d (SameVol.refl d) o ho, fun d h o ho => ?_,
    fun d h fs' hg o ho32 hpos ho => ?_, fun d h o ho => ?_, hex⟩
  · have hT0 : 32 * (chain.length * (fs0.clusterSize / 32)) = chain.length * d0.fs.clusterSize := by
      rw [hv0.fs]; exact hT d h
    obtain ⟨d1, h1, hs1⟩ := ((K.dir h).core.of_sameVol hv0).seekStart o t (by rw [← hT0]; exact ho) (by rw [← hT0]; exact ht)
    rw [hv0.fs, (K.geom h).clusterSize] at h1
    refine ⟨d1, ?_, hs1.toVol⟩
    simp only [chainS, DirStream.seek]
    rw [run_bind_ok h1]
    rfl
  · have := dirFile_seekCur0 (K.coreG h) o (by rw [← hT d h]; exact ho) d
    rw [(K.geom h).clusterSize] at this
    simp only [chainS, DirStream.seek]
    exact Reads.bind this (fun d2 _ => Reads.pure _ d2)
  · have := (hD d h).absPos d (SameVol.refl d) o ho32 hpos ho
    rw [absPos_geom hg] at this
    exact this
  · obtain ⟨d1, h1, hs1, hc1, hfs1, htv1, hb1, hp1⟩ := K.drop h o ho
    exact ⟨d1, h1, hs1, K.of_tabView h hs1 hc1 htv1, fun hk => by rw [hfs1]; exact hk, hb1, hp1⟩

end ChainKind

/-! ### a chain directory without an entry -/

/-- the invariant threaded through the writes on the directory of first cluster `c0` (geometry `fs0`) -/
structure ChainInv (fs0 : FsState) (f0 : FileH) (c0 : Nat) (chain : List Nat) (d : Dev) : Prop where
  dir : ChainDir d f0 c0 chain
  wf : d.img.WF
  geom : FsGeomEq fs0 d.fs
  fuel : chain.length * (fs0.clusterSize / 32) < dirFuel fs0

section chain
variable {fs0 : FsState} {f0 : FileH} {c0 : Nat} {chain : List Nat}

theorem ChainInv.keep {chain' : List Nat} {d d' : Dev} (h : ChainInv fs0 f0 c0 chain d) (hs : VolStep d d')
    (hl : Chain (tabView d'.fs d'.img) c0 chain') (hin : ∀ c ∈ chain', 2 ≤ c ∧ c < fs0.totalClusters + 2)
    (hu : chain'.length * fs0.clusterSize < 4294967296) (hfuel : chain'.length * (fs0.clusterSize / 32) < dirFuel fs0) :
    ChainInv fs0 f0 c0 chain' d' :=
  ⟨(h.dir.core.of_step hs.failAt hs.size hs.geom hl (by rw [h.geom.totalClusters]; exact hin)
      (by rw [h.geom.clusterSize]; exact hu)).toDir h.dir.clean, hs.wf h.wf, h.geom.trans hs.geom, hfuel⟩

theorem chainInv_ok : InvOK (ChainInv fs0 f0 c0 chain) where
  noFault := fun _ h => h.dir.failAt
  wf := fun _ h => h.wf
  vol := fun d d1 h hv _ => ⟨h.dir.of_sameVol hv, by rw [hv.img]; exact h.wf, by rw [hv.fs]; exact h.geom, h.fuel⟩

/-- the kind: writing does not change the handle, the destructor of a clone writes nothing -/
theorem chainKind (hent : f0.entry = none) :
    ChainKind fs0 c0 f0 f0 (ChainInv fs0 f0 c0) (fun _ => False) (fun im im' => im' = im) where
  dir := fun h => h.dir
  coreG := fun h => h.dir.core
  stampF := fun _ => stamped_none f0 _ hent
  stampG := fun _ => stamped_none f0 _ hent
  wf := fun h => h.wf
  geom := fun h => h.geom
  fuel := fun h => h.fuel
  vol := fun h hv hc => chainInv_ok.vol _ _ h hv hc
  keep := fun h hs _ hl hin hu hfuel => h.keep hs hl hin hu hfuel
  drop := fun {chain d} h o ho => by
    have := h.dir.dirSrc.drop d (SameVol.refl d) o (by rw [h.geom.clusterSize]; exact ho)
    rw [h.geom.clusterSize] at this
    obtain ⟨d1, h1, hs1⟩ := this
    exact ⟨d1, h1, VolStep.of_sameVol hs1, run_clock _ _ _ _ h1, hs1.fs, by rw [hs1.fs, hs1.img],
      fun q _ _ => by rw [hs1.img], hs1.img⟩

/-- the write family (`F = G`) -/
theorem chain_wfam (hent : f0.entry = none) :
    WFam (ChainInv fs0 f0 c0 chain) (chainS f0 chain fs0.clusterSize) (chainS f0 chain fs0.clusterSize)
      (chain.length * (fs0.clusterSize / 32)) (chainSrc fs0 chain) (chainRoom fs0 chain) :=
  (chainKind hent).wfam chain f0 (fun _ h => h.dir.core) (fun _ _ => stamped_none f0 _ hent)

/-- … and its stream operations -/
theorem chain_wops (hent : f0.entry = none) :
    WOps (ChainInv fs0 f0 c0 chain) (chainS f0 chain fs0.clusterSize) (chainS f0 chain fs0.clusterSize)
      (chain.length * (fs0.clusterSize / 32)) (chainSrc fs0 chain) (chainRoom fs0 chain) (fun _ => False)
      (fun im im' => im' = im) :=
  (chainKind hent).wops chain (fun _ _ _ _ h => h)

end chain

/-- a cluster-chain directory without an entry (the root of FAT32) as a `WView` -/
def WView.ofChain (d : Dev) (c0 : Nat) (chain : List Nat) (C : ChainDir d (FileH.new (some c0) none) c0 chain)
    (hwf : d.img.WF) (hfuel : chain.length * (d.fs.clusterSize / 32) < dirFuel d.fs) :
    WView d (.file (FileH.new (some c0) none)) where
  Inv := ChainInv d.fs (FileH.new (some c0) none) c0 chain
  F := chainS (FileH.new (some c0) none) chain d.fs.clusterSize
  G := chainS (FileH.new (some c0) none) chain d.fs.clusterSize
  N := chain.length * (d.fs.clusterSize / 32)
  src := chainSrc d.fs chain
  room := chainRoom d.fs chain
  Extra := fun _ => False
  DropPost := fun im im' => im' = im
  start := rfl
  io := chainInv_ok
  geo := C.slotGeo
  w := chain_wfam rfl
  wg := chain_wfam rfl
  ops := chain_wops rfl
  here := ⟨C, hwf, FsGeomEq.refl _, hfuel⟩

/-! ### sub-directories -/

/-- the invariant threaded through the writes on the sub-directory of first cluster `c0` whose handle carries the
    (clean) editor `ed0` of its own entry; `t0` = the clock of the device -/
structure SubInv (fs0 : FsState) (ed0 : DirEntryEditor) (c0 : Nat) (chain : List Nat) (t0 : Nat) (d : Dev) : Prop where
  dir : ChainDir d (FileH.new (some c0) (some ed0)) c0 chain
  wf : d.img.WF
  geom : FsGeomEq fs0 d.fs
  fuel : chain.length * (fs0.clusterSize / 32) < dirFuel fs0
  clock : d.clock = t0
  -- the directory's own entry: a 32-byte record behind the FAT copies, inside the device
  nameLen : ed0.data.name.length = 11
  epos : (fatSliceOf fs0).beginOff + (fatSliceOf fs0).mirrors * (fatSliceOf fs0).size ≤ ed0.pos
  einside : ed0.pos + 32 ≤ d.img.size

section sub
variable {fs0 : FsState} {ed0 : DirEntryEditor} {c0 : Nat} {chain : List Nat} {t0 : Nat}

/-- the handle after the first write: the editor stamped with the clock -/
def subW (ed0 : DirEntryEditor) (c0 t0 : Nat) : FileH := FileH.new (some c0) (some (ed0.setModified (clockDateTime t0)))

theorem stamped_sub0 : stamped (FileH.new (some c0) (some ed0)) t0 = subW ed0 c0 t0 := rfl

theorem stamped_subW : stamped (subW ed0 c0 t0) t0 = subW ed0 c0 t0 := by
  unfold stamped subW FileH.new
  simp only [Option.map, ed_setModified_idem]

theorem SubInv.coreW {d : Dev} (h : SubInv fs0 ed0 c0 chain t0 d) : ChainCore d (subW ed0 c0 t0) c0 chain := by
  have C := h.dir.core
  refine ⟨C.failAt, C.geo, rfl, C.link, C.inTab, ?_, ?_, C.cs32, C.u32⟩
  · have := C.nosize
    unfold FileH.size? FileH.new at this
    simp only at this
    unfold subW FileH.size? FileH.new
    simp only
    rw [size?_setModified]; exact this
  · rcases C.noacc with h1 | h1
    · exact Or.inl h1
    · cases h1

theorem subInv_ok : InvOK (SubInv fs0 ed0 c0 chain t0) where
  noFault := fun _ h => h.dir.failAt
  wf := fun _ h => h.wf
  vol := fun d d1 h hv hc => ⟨h.dir.of_sameVol hv, by rw [hv.img]; exact h.wf, by rw [hv.fs]; exact h.geom, h.fuel,
    hc.trans h.clock, h.nameLen, h.epos, by rw [hv.img]; exact h.einside⟩

theorem SubInv.keep {chain' : List Nat} {d d' : Dev} (h : SubInv fs0 ed0 c0 chain t0 d) (hs : VolStep d d')
    (hc : d'.clock = d.clock) (hl : Chain (tabView d'.fs d'.img) c0 chain')
    (hin : ∀ c ∈ chain', 2 ≤ c ∧ c < fs0.totalClusters + 2) (hu : chain'.length * fs0.clusterSize < 4294967296)
    (hfuel : chain'.length * (fs0.clusterSize / 32) < dirFuel fs0) : SubInv fs0 ed0 c0 chain' t0 d' :=
  ⟨(h.dir.core.of_step hs.failAt hs.size hs.geom hl (by rw [h.geom.totalClusters]; exact hin)
      (by rw [h.geom.clusterSize]; exact hu)).toDir h.dir.clean, hs.wf h.wf, h.geom.trans hs.geom, hfuel,
   hc.trans h.clock, h.nameLen, h.epos, by rw [hs.size]; exact h.einside⟩

/-- the bytes of the directory's own entry in its parent -/
def subExtra (ed0 : DirEntryEditor) (q : Nat) : Prop := ed0.pos ≤ q ∧ q < ed0.pos + 32

/-- what the destructor of a stamped clone does to the image: nothing outside the 32 bytes of the directory's own entry;
    if the stamp changed the record, those bytes become the serialised stamped record, otherwise they stay too -/
def subDropPost (ed0 : DirEntryEditor) (t0 : Nat) (im im' : Img) : Prop :=
  (∀ q, ¬ subExtra ed0 q → im'.getByte q = im.getByte q) ∧
  ((ed0.setModified (clockDateTime t0)).dirty = true → ∀ q, subExtra ed0 q →
    im'.getByte q = (ed0.setModified (clockDateTime t0)).data.serialize.getD (q - ed0.pos) 0 % 256) ∧
  ((ed0.setModified (clockDateTime t0)).dirty = false → ∀ q, im'.getByte q = im.getByte q)

/-- the directory's own entry lies behind the FAT copies: writing it keeps the decoded FAT -/
theorem SubInv.tabView_of_extra {d : Dev} (h : SubInv fs0 ed0 c0 chain t0 d) {im : Img}
    (hout : ∀ q, 0x42 ≤ q → ¬ subExtra ed0 q → im.getByte q = d.img.getByte q) :
    tabView d.fs im = tabView d.fs d.img := by
  refine tabView_congr h.dir.geo (fun q h1 h2 => hout q (by have := h.dir.geo.status_lt; omega) ?_)
  unfold subExtra
  have := h.epos
  have e1 := h.geom.fatSlice
  rw [e1] at h1 h2
  have : (fatSliceOf fs0).size ≤ (fatSliceOf fs0).mirrors * (fatSliceOf fs0).size := by
    have := h.dir.geo.mirrors_pos
    rw [e1] at this
    exact Nat.le_mul_of_pos_left _ this
  omega

/-- **the destructor of a clone of a stamped sub-directory handle**: if the stamp changed the record, its 32 bytes are
    written to the slot of the directory's entry (raw storage), then the storage is flushed; nothing else changes.
    The destructor does not look at the position `o`, so `o` is not bounded here -/
theorem sub_drop {d : Dev} (h : SubInv fs0 ed0 c0 chain t0 d) (o : Nat) :
    ∃ d1, run (chainS (subW ed0 c0 t0) chain fs0.clusterSize o).dropBody d = (.ok (), d1) ∧ VolStep d d1 ∧
      d1.clock = d.clock ∧ d1.fs = d.fs ∧ tabView d1.fs d1.img = tabView d.fs d.img ∧
      (∀ q, 0x42 ≤ q → ¬ subExtra ed0 q → d1.img.getByte q = d.img.getByte q) ∧ subDropPost ed0 t0 d.img d1.img := by
  have hfa := h.dir.failAt
  generalize hedW : ed0.setModified (clockDateTime t0) = edW
  have hpos : edW.pos = ed0.pos := by rw [← hedW]; exact ed_setModified_pos _ _
  have hent : (dirFile (subW ed0 c0 t0) chain fs0.clusterSize o).entry = some edW := by
    show some (ed0.setModified (clockDateTime t0)) = _; rw [hedW]
  by_cases hdirty : edW.dirty = true
  · -- the record is written back
    have hname : edW.data.name.length = 11 := by
      rw [← hedW]
      rcases ed_setModified_data ed0 (clockDateTime t0) with h1 | h1 <;> (rw [h1]; exact h.nameLen)
    have hser := DirFileEntryData.serialize_length _ hname
    obtain ⟨d2, h2, hstep, hfs2, hb2⟩ := run_writeRecord edW.data hname edW.pos d hfa (by rw [hpos]; exact h.einside)
    obtain ⟨d3, h3, hs3⟩ := run_flush_ok d2 (by rw [hstep.failAt]; exact hfa)
    have hbytes : ∀ q, d3.img.getByte q = putBytes d.img.getByte ed0.pos edW.data.serialize q := by
      intro q
      rw [hs3.img, hb2 h.wf q, hpos]
    have hout : ∀ q, ¬ subExtra ed0 q → d3.img.getByte q = d.img.getByte q := fun q hq => by
      rw [hbytes q, putBytes_outside _ _ _ _ (by rw [hser]; exact hq)]
    have hfs3 : d3.fs = d.fs := by rw [hs3.fs, hfs2]
    refine ⟨d3, ?_, (VolStep.of_devStep hstep).trans (VolStep.of_sameVol hs3),
      (run_clock _ _ _ _ h3).trans hstep.clock, hfs3, by rw [hfs3]; exact h.tabView_of_extra (fun q _ hq => hout q hq),
      fun q _ hq => hout q hq, ?_⟩
    · have hfd : run (FileH.flushDirEntry (dirFile (subW ed0 c0 t0) chain fs0.clusterSize o)) d =
          (.ok { dirFile (subW ed0 c0 t0) chain fs0.clusterSize o with entry := some { edW with dirty := false } }, d2) := by
        unfold FileH.flushDirEntry
        rw [hent]
        simp only [hdirty, if_true]
        exact h2 _
      show run (do let _ ← FileH.flush (dirFile (subW ed0 c0 t0) chain fs0.clusterSize o); pure ()) d = _
      unfold FileH.flush
      rw [run_bind_assoc, run_bind_ok hfd, run_bind_assoc, run_bind_ok h3]
      rfl
    · unfold subDropPost
      rw [hedW]
      refine ⟨hout, fun _ q hq => ?_, fun hd => absurd hdirty (by rw [hd]; decide)⟩
      rw [hbytes q]
      unfold putBytes
      unfold subExtra at hq
      rw [if_pos (by rw [hser]; exact hq)]
  · -- nothing to write back
    obtain ⟨d3, h3, hs3⟩ := run_flush_ok d hfa
    refine ⟨d3, ?_, VolStep.of_sameVol hs3, run_clock _ _ _ _ h3, hs3.fs, by rw [hs3.fs, hs3.img],
      fun q _ _ => by rw [hs3.img],
      by unfold subDropPost; rw [hedW]; exact ⟨fun q _ => by rw [hs3.img], fun hd => absurd hd hdirty, fun _ q => by rw [hs3.img]⟩⟩
    have hfd : run (FileH.flushDirEntry (dirFile (subW ed0 c0 t0) chain fs0.clusterSize o)) d =
        (.ok (dirFile (subW ed0 c0 t0) chain fs0.clusterSize o), d) := by
      unfold FileH.flushDirEntry
      rw [hent]
      simp only [hdirty, Bool.false_eq_true, if_false]
      rfl
    show run (do let _ ← FileH.flush (dirFile (subW ed0 c0 t0) chain fs0.clusterSize o); pure ()) d = _
    unfold FileH.flush
    rw [run_bind_assoc, run_bind_ok hfd, run_bind_assoc, run_bind_ok h3]
    rfl

/-- the kind: the first write through a clone stamps the editor, the destructor of a stamped clone writes the record
    back -/
theorem subKind : ChainKind fs0 c0 (FileH.new (some c0) (some ed0)) (subW ed0 c0 t0)
    (fun chain => SubInv fs0 ed0 c0 chain t0) (subExtra ed0) (subDropPost ed0 t0) where
  dir := fun h => h.dir
  coreG := fun h => h.coreW
  stampF := fun h => by rw [h.clock]; rfl
  stampG := fun h => by rw [h.clock]; exact stamped_subW
  wf := fun h => h.wf
  geom := fun h => h.geom
  fuel := fun h => h.fuel
  vol := fun h hv hc => subInv_ok.vol _ _ h hv hc
  keep := fun h hs hc hl hin hu hfuel => h.keep hs hc hl hin hu hfuel
  drop := fun h o _ => sub_drop h o

/-- the write family of a handle `f` of the sub-directory whose stamp at the device clock is the stamped handle -/
theorem sub_wfam (f : FileH) (hcore : ∀ d, SubInv fs0 ed0 c0 chain t0 d → ChainCore d f c0 chain)
    (hst : stamped f t0 = subW ed0 c0 t0) :
    WFam (SubInv fs0 ed0 c0 chain t0) (chainS f chain fs0.clusterSize) (chainS (subW ed0 c0 t0) chain fs0.clusterSize)
      (chain.length * (fs0.clusterSize / 32)) (chainSrc fs0 chain) (chainRoom fs0 chain) :=
  subKind.wfam chain f hcore (fun _ h => by rw [h.clock]; exact hst)

theorem sub_core0 {d : Dev} (h : SubInv fs0 ed0 c0 chain t0 d) :
    ChainCore d (FileH.new (some c0) (some ed0)) c0 chain := h.dir.core

/-- slots that lie apart from the directory's own entry do not meet `subExtra` -/
theorem subExtra_apart (ch : List Nat) (h : ∀ i, i < ch.length * (fs0.clusterSize / 32) →
      chainSrc fs0 ch (32 * i) + 32 ≤ ed0.pos ∨ ed0.pos + 32 ≤ chainSrc fs0 ch (32 * i)) (i : Nat)
    (hi : i < ch.length * (fs0.clusterSize / 32)) (x : Nat) (hx : x < 32) : ¬ subExtra ed0 (chainSrc fs0 ch (32 * i) + x) := by
  intro hq
  unfold subExtra at hq
  have := h i hi
  omega

/-- the stream operations of the sub-directory; `heout`: its own entry lies apart from its slots -/
theorem sub_wops (heout : ∀ i, i < chain.length * (fs0.clusterSize / 32) →
      chainSrc fs0 chain (32 * i) + 32 ≤ ed0.pos ∨ ed0.pos + 32 ≤ chainSrc fs0 chain (32 * i)) :
    WOps (SubInv fs0 ed0 c0 chain t0) (chainS (FileH.new (some c0) (some ed0)) chain fs0.clusterSize)
      (chainS (subW ed0 c0 t0) chain fs0.clusterSize) (chain.length * (fs0.clusterSize / 32)) (chainSrc fs0 chain)
      (chainRoom fs0 chain) (subExtra ed0) (subDropPost ed0 t0) :=
  subKind.wops chain (subExtra_apart chain heout)

end sub

/-- **a sub-directory as a `WView`**: first cluster `c0`, the handle carries the (clean) editor `ed0` of the directory's
    own entry, which lies at `ed0.pos` behind the FAT copies, inside the device and apart from the directory's slots;
    `update_accessed_date` off (part of `ChainDir`) -/
def WView.ofSub (d : Dev) (c0 : Nat) (ed0 : DirEntryEditor) (chain : List Nat)
    (C : ChainDir d (FileH.new (some c0) (some ed0)) c0 chain) (hwf : d.img.WF)
    (hfuel : chain.length * (d.fs.clusterSize / 32) < dirFuel d.fs) (hname : ed0.data.name.length = 11)
    (hepos : (fatSliceOf d.fs).beginOff + (fatSliceOf d.fs).mirrors * (fatSliceOf d.fs).size ≤ ed0.pos)
    (hein : ed0.pos + 32 ≤ d.img.size)
    (heout : ∀ i, i < chain.length * (d.fs.clusterSize / 32) →
      chainSrc d.fs chain (32 * i) + 32 ≤ ed0.pos ∨ ed0.pos + 32 ≤ chainSrc d.fs chain (32 * i)) :
    WView d (.file (FileH.new (some c0) (some ed0))) where
  Inv := SubInv d.fs ed0 c0 chain d.clock
  F := chainS (FileH.new (some c0) (some ed0)) chain d.fs.clusterSize
  G := chainS (subW ed0 c0 d.clock) chain d.fs.clusterSize
  N := chain.length * (d.fs.clusterSize / 32)
  src := chainSrc d.fs chain
  room := chainRoom d.fs chain
  Extra := subExtra ed0
  DropPost := subDropPost ed0 d.clock
  start := rfl
  io := subInv_ok
  geo := C.slotGeo
  w := sub_wfam _ (fun _ h => h.dir.core) stamped_sub0
  wg := sub_wfam _ (fun _ h => h.coreW) stamped_subW
  ops := sub_wops heout
  here := ⟨C, hwf, FsGeomEq.refl _, hfuel, rfl, hname, hepos, hein⟩

end FatVerif.DirSim
