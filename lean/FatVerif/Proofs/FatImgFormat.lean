import FatVerif.Proofs.FatImgOps
/-! `format_fat` at image level, for every FAT width at once: `Table.setRange` / `Table.formatFat` through the FAT
    slice of a device compute what the pure `Fat.fmtLoop` / `Fat.formatFat` compute from the window's bytes (the two
    table programs `Proofs/FatImgOps` leaves out), and what `Fat.formatFat` does to the decoded view. -/
namespace FatVerif
open FatVerif.Fat

namespace Fat

/-- `g` with the entries `[c, c+k)` set to `v` -/
def fillV (g : Nat → FatValue) (c k : Nat) (v : FatValue) : Nat → FatValue :=
  fun i => if c ≤ i ∧ i < c + k then v else g i

theorem fillV_succ (g : Nat → FatValue) (c k : Nat) (v : FatValue) :
    fillV (updV g c v) (c + 1) k v = fillV g c (k + 1) v := by
  funext i
  unfold fillV updV
  by_cases h1 : c + 1 ≤ i ∧ i < c + 1 + k
  · rw [if_pos h1, if_pos (by omega)]
  · rw [if_neg h1]
    by_cases h2 : i = c
    · rw [if_pos h2, if_pos (by omega)]
    · rw [if_neg h2, if_neg (by omega)]

/-- a successful fill loop: the entries `[c, c+k)` decode to `v`, every other raw entry is as before -/
theorem fmtLoop_spec {ft : FatType} {v : FatValue} (hv : Representable ft v) :
    ∀ (k : Nat) (f : Array Nat) (c : Nat) (f' : Array Nat), WfBytes f →
    (ft = .fat32 → ∀ i, c ≤ i → i < c + k → ¬ special32 i) →
    fmtLoop ft v k f c = ⟨.ok (), f'⟩ →
    WfBytes f' ∧ f'.size = f.size ∧ view ft f' = fillV (view ft f) c k v ∧
      ∀ i, ¬ (c ≤ i ∧ i < c + k) → getRaw ft f' i = getRaw ft f i := by
  intro k
  induction k with
  | zero =>
    intro f c f' hf _ h
    simp only [fmtLoop, Res.mk.injEq, true_and] at h
    subst h
    refine ⟨hf, rfl, ?_, fun _ _ => rfl⟩
    funext i; unfold fillV; rw [if_neg (by omega)]
  | succ k ih =>
    intro f c f' hf hsp h
    unfold fmtLoop at h
    split at h
    · simp only [Res.mk.injEq, reduceCtorEq, false_and] at h
    · rename_i f1 hset
      obtain ⟨hw, hs, hview, hraw⟩ := ih f1 (c + 1) f' (set_wf hf hset)
        (fun h32 i h1 h2 => hsp h32 i (by omega) (by omega)) h
      refine ⟨hw, hs.trans (set_size hset), ?_, fun i hi => ?_⟩
      · rw [hview, view_set hf hv (fun h32 => hsp h32 c (Nat.le_refl _) (by omega)) hset, fillV_succ]
      · rw [hraw i (by omega), getRaw_set_other hf (representable_fits hv) hset (by omega)]

theorem writeBytes_append : ∀ (a b : List Nat) (f : Array Nat) (o : Nat),
    writeBytes (writeBytes f o a) (o + a.length) b = writeBytes f o (a ++ b)
  | [], b, f, o => rfl
  | x :: a, b, f, o => by
    rw [List.cons_append, writeBytes, writeBytes, List.length_cons, ← writeBytes_append a b,
      show o + (a.length + 1) = o + 1 + a.length by omega]

theorem wfBytes_writeBytes : ∀ (bs : List Nat) (f : Array Nat) (o : Nat), WfBytes f → (∀ b ∈ bs, b < 256) →
    WfBytes (writeBytes f o bs)
  | [], _, _, hf, _ => hf
  | b :: bs, f, o, hf, hb => by
    rw [writeBytes]
    exact wfBytes_writeBytes bs _ _ (wfBytes_wr _ _ _ hf (hb b (List.mem_cons_self ..)))
      (fun x hx => hb x (List.mem_cons_of_mem _ hx))

/-- bytes stored in front of entry `c` leave it alone -/
theorem getRaw_writeBytes_before (ft : FatType) (f : Array Nat) (bs : List Nat) (c : Nat) (hfit : bs.length ≤ f.size)
    (hc : bs.length ≤ off ft c) : getRaw ft (writeBytes f 0 bs) c = getRaw ft f c := by
  have key : ∀ j, bs.length ≤ j → rd (writeBytes f 0 bs) j = rd f j := fun j hj => by
    rw [rd_writeBytes bs f 0 j (by omega), if_neg (by omega)]
  cases ft <;> simp only [off] at hc <;>
    simp only [getRaw, getRaw12, getRaw16, getRaw32, rd16, rd32, size_writeBytes] <;>
    repeat rw [key _ (by omega)]

/-- the header bytes as `Table.formatFat` computes them -/
theorem fmtHeader_eq {media : Nat} (hm : media < 256) :
    fmtHeader .fat12 media = [media % 256] ++ bytesLe16 0xFFFF ∧
    fmtHeader .fat16 media = bytesLe16 (media ||| 0xFF00) ++ bytesLe16 0xFFFF ∧
    fmtHeader .fat32 media = bytesLe32 (media ||| 0x0FFFFF00) ++ bytesLe32 0xFFFFFFFF := by
  have e16 := or_shift8 media 0xFF hm
  have e32 := or_shift8 media 0x0FFFFF hm
  simp only [fmtHeader, bytesLe16, bytesLe32, Nat.reduceMul] at e16 e32 ⊢
  rw [e16, e32]
  refine ⟨rfl, ?_, ?_⟩ <;> simp only [List.cons_append, List.nil_append, List.cons.injEq, and_true] <;> omega

/-- the reserved entries 0 and 1 that the header of `format_fat` encodes: the media byte under all ones, and all ones -/
theorem getRaw_fmtHeader {media : Nat} (hm : media < 256) (f : Array Nat) (ft : FatType)
    (hfit : (fmtHeader ft media).length ≤ f.size) :
    getRaw ft (writeBytes f 0 (fmtHeader ft media)) 0 = .ok (match (generalizing := false) ft with
      | .fat12 => 0xF00 + media % 256
      | .fat16 => (media ||| 0xFF00) % 65536
      | .fat32 => (media ||| 0x0FFFFF00) % 4294967296) ∧
    getRaw ft (writeBytes f 0 (fmtHeader ft media)) 1 =
      .ok (match (generalizing := false) ft with | .fat12 => 0xFFF | .fat16 => 0xFFFF | .fat32 => 0xFFFFFFFF) := by
  have key := fun j => rd_writeBytes (fmtHeader ft media) f 0 j (by omega)
  have e16 := or_shift8 media 0xFF hm
  have e32 := or_shift8 media 0x0FFFFF hm
  simp only [Nat.reduceMul] at e16 e32
  rw [e16, e32]
  cases ft <;> simp only [fmtHeader, List.length_cons, List.length_nil] at hfit key ⊢ <;>
    simp only [getRaw, getRaw12, getRaw16, getRaw32, val12, rd16, rd32, size_writeBytes, u32Lim, key]
  all_goals (rw [if_neg (by omega), if_neg (by omega)]; simp; omega)

/-- **what `format_fat` leaves in the table** (no room for BAD markers: `fmtEnd ≤ 0x0FFFFFF0`): the header bytes in
    front, entries `[total+2, fmtEnd)` end-of-chain, every other entry from 2 on as before -/
theorem formatFat_view {ft : FatType} {f f' : Array Nat} {media bpf total : Nat} (hf : WfBytes f)
    (hend : fmtEnd ft bpf ≤ 0x0FFFFFF0) (h : formatFat ft f media bpf total = ⟨.ok (), f'⟩) :
    WfBytes f' ∧ f'.size = f.size ∧
    (∀ c, c < 2 → getRaw ft f' c = getRaw ft (writeBytes f 0 (fmtHeader ft media)) c) ∧
    ∀ c, 2 ≤ c → view ft f' c = if total + 2 ≤ c ∧ c < fmtEnd ft bpf then .eoc else view ft f c := by
  unfold formatFat at h
  split at h; · simp only [Res.mk.injEq, reduceCtorEq, false_and] at h
  split at h; · simp only [Res.mk.injEq, reduceCtorEq, false_and] at h
  split at h; · simp only [Res.mk.injEq, reduceCtorEq, false_and] at h
  rename_i hlen _ _
  have hb : ∀ b ∈ fmtHeader ft media, b < 256 := by
    intro b hb
    cases ft <;> simp only [fmtHeader, List.mem_cons, List.mem_nil_iff, or_false] at hb <;> omega
  have hf0 := wfBytes_writeBytes _ f 0 hf hb
  split at h
  · simp only [Res.mk.injEq, reduceCtorEq, false_and] at h
  · rename_i f1 hloop
    unfold fmtBad at h
    rw [if_neg (by omega)] at h
    simp only [Res.mk.injEq, true_and] at h
    subst h
    obtain ⟨hw, hs, hview, hraw⟩ := fmtLoop_spec (ft := ft) (v := .eoc) (by cases ft <;> trivial) _ _ _ _ hf0
      (fun _ i _ h2 => by unfold special32; omega) hloop
    refine ⟨hw, by rw [hs, size_writeBytes], fun c hc => hraw c (by omega), fun c hc => ?_⟩
    rw [hview]
    unfold fillV
    by_cases hin : total + 2 ≤ c ∧ c < fmtEnd ft bpf
    · rw [if_pos (by omega), if_pos hin]
    · rw [if_neg (by omega), if_neg hin]
      exact view_eq_of_getRaw_eq (getRaw_writeBytes_before ft f _ c (by omega)
        (by cases ft <;> simp only [fmtHeader, off, List.length_cons, List.length_nil] <;> omega))

/-- a table of zero bytes decodes to free entries -/
theorem view_zero {ft : FatType} {f : Array Nat} {c : Nat} (hz : ∀ i, rd f i = 0) (hr : InRange ft f c)
    (hs : ft = .fat32 → ¬ special32 c) : view ft f c = .free := by
  unfold InRange at hr
  cases ft <;> simp only [off, width] at hr
  · simp only [view, get, getRaw, getRaw12]
    rw [if_neg (by omega), if_neg (by omega)]
    simp [rd16, hz, val12, classify, classify12]
  · simp only [view, get, getRaw, getRaw16]
    rw [if_neg (by omega), if_neg (by omega)]
    simp [rd16, hz, classify, classify16]
  · simp only [view, get, getRaw, getRaw32]
    rw [if_neg (by omega), if_neg (by omega)]
    simp [rd32, hz, classify, classify32, hs rfl]

/-- a successful `alloc_cluster` without a predecessor marks the cluster it returns and does nothing else -/
theorem allocCluster_none {f f' : Array Nat} {ft : FatType} {hint : Option Nat} {total c : Nat}
    (h : allocCluster f ft none hint total = ⟨.ok c, f'⟩) : set ft f c .eoc = .ok f' := by
  unfold allocCluster at h
  split at h; · simp only [Res.mk.injEq, reduceCtorEq, false_and] at h
  split at h; · simp only [Res.mk.injEq, reduceCtorEq, false_and] at h
  unfold allocLink at h
  split at h; · simp only [Res.mk.injEq, reduceCtorEq, false_and] at h
  rename_i f1 hset
  simp only [allocLinkPrev, Res.mk.injEq, Except.ok.injEq] at h
  obtain ⟨rfl, rfl⟩ := h
  exact hset

end Fat

section window
variable {s0 : DiskSlice}
local notation "F[" d "]" => fatBytes s0.beginOff s0.size (Dev.img d)

/-- **`Table.setRange` at image level** -/
theorem setRange_img (ft : FatType) (v : FatValue) : ∀ (k : Nat) (s : DiskSlice) (c : Nat) (d : Dev) (s' : DiskSlice)
    (d' : Dev), SliceInv s0 s → FatDev s0 d → run (Table.setRange DiskSlice.strm ft v k s c) d = (.ok s', d') →
    Fat.fmtLoop ft v k F[d] c = ⟨.ok (), F[d']⟩ ∧ SliceInv s0 s' ∧ FatFrame s0 d d' := by
  intro k
  induction k with
  | zero =>
    intro s c d s' d' hs hd hr
    obtain ⟨rfl, rfl⟩ := run_pure_ok_inv (show run (Prog.pure s) d = _ from hr)
    exact ⟨rfl, hs, FatFrame.of_sameBytes (SameBytes.refl hd.wf)⟩
  | succ k ih =>
    intro s c d s' d' hs hd hr
    unfold Table.setRange at hr
    obtain ⟨s1, d1, h1, h2⟩ := run_bind_ok_inv hr
    obtain ⟨hset, hs1, hfr1⟩ := set_img ft hs hd.mir c v d hd.wf hd.dev hd.stat hd.small h1
    obtain ⟨hloop, hs2, hfr2⟩ := ih s1 (c + 1) d1 s' d' hs1 (hd.of_frame hfr1) h2
    refine ⟨?_, hs2, hfr1.trans hfr2⟩
    unfold Fat.fmtLoop
    rw [hset]
    exact hloop

/-- **`Table.formatFat` at image level**: on a slice positioned at 0 it computes the pure `Fat.formatFat` of the
    window's bytes -/
theorem formatFat_img (ft : FatType) {media : Nat} (hm : media < 256) (bpf total : Nat) (d : Dev) (hd : FatDev s0 d)
    (htot : total + 2 < u32Lim) (hbpf : bpf * 8 < 18446744073709551616) {s' : DiskSlice} {d' : Dev}
    (hr : run (Table.formatFat DiskSlice.strm ft { s0 with offset := 0 } media bpf total) d = (.ok s', d')) :
    Fat.formatFat ft F[d] media bpf total = ⟨.ok (), F[d']⟩ ∧ FatFrame s0 d d' := by
  have hs : SliceInv s0 { s0 with offset := 0 } := ⟨rfl, rfl, rfl, rfl, Nat.zero_le _⟩
  unfold Table.formatFat at hr
  obtain ⟨s2, d2, h1, h2⟩ := run_bind_ok_inv hr
  -- the two header words: one `writeBytes` of `fmtHeader`
  have hdr : ∀ (a b : List Nat), a ≠ [] → b ≠ [] → (∀ k, a.getD k 0 < 256) → (∀ k, b.getD k 0 < 256) →
      fmtHeader ft media = a ++ b →
      run (Prog.bind (writeAll DiskSlice.strm { s0 with offset := 0 } a) fun s => writeAll DiskSlice.strm s b) d =
        (.ok s2, d2) →
      (fmtHeader ft media).length ≤ s0.size ∧ F[d2] = writeBytes F[d] 0 (fmtHeader ft media) ∧ SliceInv s0 s2 ∧
        FatFrame s0 d d2 := by
    intro a b ha hb hab hbb he h
    obtain ⟨s1, d1, h3, h4⟩ := run_bind_ok_inv h
    obtain ⟨hfit1, ho1, hs1, hw1⟩ := writeAll_fatWrite hs hd.mir a ha d hd.wf hd.dev hd.stat h3
    obtain ⟨hfit2, _, hs2, hw2⟩ := writeAll_fatWrite hs1 hd.mir b hb d1 hw1.wf (by rw [hw1.size]; exact hd.dev)
      (by rw [statusOff_geom hw1.geom]; exact hd.stat) h4
    rw [ho1] at hfit2 hw2
    simp only [Nat.zero_add] at hfit1 hfit2 hw1 hw2 ho1
    refine ⟨by rw [he, List.length_append]; exact hfit2, ?_, hs2, hw1.frame.trans hw2.frame⟩
    rw [fatWrite_bytes hd.mir hbb hfit2 hw2, fatWrite_bytes hd.mir hab (by omega) hw1, he, ← writeBytes_append,
      Nat.zero_add]
  obtain ⟨e12, e16, e32⟩ := fmtHeader_eq hm
  have hhdr : (fmtHeader ft media).length ≤ s0.size ∧ F[d2] = writeBytes F[d] 0 (fmtHeader ft media) ∧
      SliceInv s0 s2 ∧ FatFrame s0 d d2 := by
    cases ft
    · exact hdr _ _ (by simp) (by simp [bytesLe16])
        (fun k => by match k with | 0 => exact Nat.mod_lt _ (by omega) | _ + 1 => simp)
        (bytesLe16_lt _) e12 h1
    · exact hdr _ _ (by simp [bytesLe16]) (by simp [bytesLe16]) (bytesLe16_lt _) (bytesLe16_lt _) e16 h1
    · exact hdr _ _ (by simp [bytesLe32]) (by simp [bytesLe32]) (bytesLe32_lt _) (bytesLe32_lt _) e32 h1
  obtain ⟨hlen, hF2, hs2, hfr2⟩ := hhdr
  dsimp only at h2
  obtain ⟨s3, d3, h5, h6⟩ := run_bind_ok_inv h2
  obtain ⟨hloop, hs3, hfr3⟩ := setRange_img ft .eoc _ s2 _ d2 s3 d3 hs2 (hd.of_frame hfr2) h5
  have hsz := fatBytes_size s0.beginOff s0.size d.img
  unfold Fat.formatFat
  rw [if_neg (by rw [hsz]; omega), if_neg (by omega), if_neg (by omega), ← hF2]
  show (match Fat.fmtLoop ft .eoc (fmtEnd ft bpf - (total + 2)) F[d2] (total + 2) with
    | ⟨.error e, f1⟩ => (⟨.error e, f1⟩ : Res Unit)
    | ⟨.ok (), f1⟩ => fmtBad ft f1 (fmtEnd ft bpf)) = _ ∧ _
  rw [show fmtEnd ft bpf = bpf * 8 / ft.bits % 4294967296 from rfl, hloop]
  dsimp only
  unfold fmtBad
  split at h6
  · rename_i hgt
    rw [if_pos hgt]
    obtain ⟨hbad, _, hfr4⟩ := setRange_img ft .bad _ s3 _ d3 s' d' hs3 ((hd.of_frame hfr2).of_frame hfr3) h6
    exact ⟨hbad, (hfr2.trans hfr3).trans hfr4⟩
  · rename_i hgt
    rw [if_neg hgt]
    obtain ⟨_, rfl⟩ := run_pure_ok_inv (show run (Prog.pure s3) d3 = _ from h6)
    exact ⟨rfl, hfr2.trans hfr3⟩

end window
end FatVerif
