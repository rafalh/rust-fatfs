import FatVerif.Proofs.FileSimFrame
/-!
# FileSim / cut: every PREFIX of the write records of operations on `f` leaves another file `g` readable

`Keeps fs pos L img img'`: `img'` shows a file with slot `pos` and chain `L` exactly as `img` does — same slot bytes, same
bytes in the clusters of `L`, same DECODED FAT entries of `L` (so the byte a FAT12 neighbour shares does not matter).
`classified_keeps`: a classified record list (`Trace`) whose clusters `E` / `D` avoid `L` and whose positions avoid the slot
keeps all of that after every prefix.  `runH_summary`: the summary (and the classified records) of a whole history.
-/
namespace FatVerif.FileSim
open FatVerif FatVerif.Fat

/-- `img'` shows the file with slot `pos` and chain `L` as `img` does -/
structure Keeps (fs : FsState) (pos : Nat) (L : List Nat) (img img' : Img) : Prop where
  size : img'.size = img.size
  wf : img'.WF
  slot : ∀ q, pos ≤ q → q < pos + 32 → img'.getByte q = img.getByte q
  data : ∀ c ∈ L, ∀ j, j < fs.clusterSize → img'.getByte (clusterOff fs c + j) = img.getByte (clusterOff fs c + j)
  fat : ∀ c ∈ L, tabView fs img' c = tabView fs img c

theorem Keeps.refl (fs : FsState) (pos : Nat) (L : List Nat) (img : Img) (hwf : img.WF) : Keeps fs pos L img img :=
  ⟨rfl, hwf, fun _ _ _ => rfl, fun _ _ _ _ => rfl, fun _ _ => rfl⟩

theorem Keeps.trans {fs : FsState} {pos : Nat} {L : List Nat} {a b c : Img} (h1 : Keeps fs pos L a b)
    (h2 : Keeps fs pos L b c) : Keeps fs pos L a c :=
  ⟨h2.size.trans h1.size, h2.wf, fun q x y => (h2.slot q x y).trans (h1.slot q x y),
   fun x hx j hj => (h2.data x hx j hj).trans (h1.data x hx j hj), fun x hx => (h2.fat x hx).trans (h1.fat x hx)⟩

/-- ONE classified record keeps a file whose clusters it is not about and whose slot it does not hit -/
theorem recOk_keeps {fs : FsState} {E D : Nat → Prop} {img : Img} {r : Rec} {pos : Nat} {L : List Nat}
    (hg : Geo fs img.size) (hwf : img.WF) (hr : RecOk fs E D img r)
    (hL : ∀ c ∈ L, 2 ≤ c ∧ c < fs.totalClusters + 2 ∧ ¬ E c ∧ ¬ D c)
    (hslot : ∀ q, pos ≤ q → q < pos + 32 → q ≠ statusOff fs ∧
      (∀ c, D c → 2 ≤ c → c < fs.totalClusters + 2 → ¬ InCluster fs c q) ∧ (∀ c, E c → ¬ FatEntryPos fs c q)) :
    Keeps fs pos L img (img.write r.1 r.2) := by
  have hst := statusOff_lt fs
  have hsl := hg.status_lt
  have hfd := hg.fat_data
  have hm1 : (fatSliceOf fs).size ≤ (fatSliceOf fs).mirrors * (fatSliceOf fs).size :=
    Nat.le_mul_of_pos_left _ hg.mirrors_pos
  have hco := dataStart_le_clusterOff fs
  have hfatOut : (∀ q, r.1 ≤ q → q < r.1 + r.2.length →
      q < (fatSliceOf fs).beginOff ∨ (fatSliceOf fs).beginOff + (fatSliceOf fs).size ≤ q) →
      tabView fs (img.write r.1 r.2) = tabView fs img := by
    intro hout
    apply tabView_congr hg
    intro q h1 h2
    apply Img.getByte_write_of_not_mem _ hwf
    intro hin
    rcases hout q hin.1 hin.2 with h | h <;> omega
  refine ⟨Img.write_size _ _ _, Img.wf_write _ hwf _ _, ?_, ?_, ?_⟩
  · intro q h1 h2
    apply Img.getByte_write_of_not_mem _ hwf
    intro hin
    obtain ⟨s1, s2, s3⟩ := hslot q h1 h2
    rcases hr with ⟨e1, e2⟩ | ⟨c, hc, c2, ct, a1, a2⟩ | ⟨c, i, hc, ct, hi, e1, e2, _⟩
    · apply s1; omega
    · exact s2 c hc c2 ct ⟨by omega, by omega⟩
    · exact s3 c hc ⟨i, hi, by omega, by omega⟩
  · intro x hx j hj
    obtain ⟨x2, xt, xE, xD⟩ := hL x hx
    apply Img.getByte_write_of_not_mem _ hwf
    intro hin
    have := hco x
    rcases hr with ⟨e1, e2⟩ | ⟨c, hc, c2, ct, a1, a2⟩ | ⟨c, i, hc, ct, hi, e1, e2, _⟩
    · omega
    · have hne : x ≠ c := fun e => xD (e ▸ hc)
      obtain ⟨i1, i2⟩ := hin
      have q1 : InCluster fs x (clusterOff fs x + j) := ⟨Nat.le_add_right _ _, Nat.add_lt_add_left hj _⟩
      have q2 : InCluster fs c (clusterOff fs x + j) := ⟨Nat.le_trans a1 i1, Nat.lt_of_lt_of_le i2 a2⟩
      exact inCluster_disjoint fs x2 c2 hne q1 q2
    · have := hg.fatEntry_in_fat ct (q := clusterOff fs x + j) ⟨i, hi, by omega, by omega⟩
      omega
  · intro x hx
    obtain ⟨x2, xt, xE, xD⟩ := hL x hx
    rcases hr with ⟨e1, e2⟩ | ⟨c, hc, c2, ct, a1, a2⟩ | ⟨c, i, hc, ct, hi, e1, e2, hkeep⟩
    · rw [hfatOut (fun q h1 h2 => Or.inl (by omega))]
    · rw [hfatOut (fun q h1 h2 => Or.inr (by have := hco c; omega))]
    · exact hkeep x (fun e => xE (e ▸ hc))

/-- every prefix of a classified record list keeps the file -/
theorem classified_keeps {fs : FsState} {E D : Nat → Prop} {pos : Nat} {L : List Nat}
    (hL : ∀ c ∈ L, 2 ≤ c ∧ c < fs.totalClusters + 2 ∧ ¬ E c ∧ ¬ D c)
    (hslot : ∀ q, pos ≤ q → q < pos + 32 → q ≠ statusOff fs ∧
      (∀ c, D c → 2 ≤ c → c < fs.totalClusters + 2 → ¬ InCluster fs c q) ∧ (∀ c, E c → ¬ FatEntryPos fs c q)) :
    ∀ (recs : List Rec) (img : Img), Geo fs img.size → img.WF → Classified fs E D img recs →
      ∀ k, Keeps fs pos L img (applyRecs img (recs.take k))
  | [], img, _, hwf, _, k => by simp only [List.take_nil]; exact Keeps.refl _ _ _ _ hwf
  | r :: rs, img, hg, hwf, hc, k => by
    cases k with
    | zero => exact Keeps.refl _ _ _ _ hwf
    | succ k =>
      have h1 := recOk_keeps hg hwf hc.1 hL hslot
      have h2 := classified_keeps hL hslot rs (img.write r.1 r.2) (by rw [Img.write_size]; exact hg)
        (Img.wf_write _ hwf _ _) hc.2 k
      exact h1.trans h2

/-- the summary of a whole history on one handle -/
theorem runH_summary : ∀ (ops : List HOp) (f : FileH) (d : Dev), SimInv f d → BytesOk ops →
    OpSummary f d (runH ops f d).2.1 (runH ops f d).2.2
  | [], f, d, _, _ => OpSummary.refl f d
  | op :: ops, f, d, h, hok => by
    have hop := hok.cons
    have hsim' := (execH_refines op f d h hop.1).1
    exact (execH_summary op f d h hop.1).trans (runH_summary ops _ _ hsim' hop.2) hsim'.rep

/-- a represented file with a clean record is what a semantically equal image shows: re-open from the slot and read
    to the end -/
theorem reopen_reads_keeps {fs : FsState} {img : Img} {g : FileH} {eg : DirEntryEditor} (hg : Geo fs img.size)
    (hrep : FileRep fs img g) (he : EntryRep fs img g eg) (hcl : eg.dirty = false) (dk : Dev)
    (hk : Keeps fs eg.pos (fileChain fs img g) img dk.img) (hfs : dk.fs = fs) (hfa : dk.failAt = none) :
    ∃ g' d', run (readExact FileH.strm (reopen dk.fs dk.img eg.pos) (absFile fs img g).size) dk =
      (.ok ((absFile fs img g).content, g'), d') := by
  obtain ⟨hrepk, hcore, hch⟩ := hrep.of_sem_agree (fs' := fs) (img' := dk.img) (FsGeomEq.refl _) hk.fat hk.data
  have hek : EntryRep fs dk.img g eg := by
    refine ⟨he.entry, he.wf, he.notLfn, by rw [hk.size]; exact he.inDev, he.offFat, ?_, he.first, ?_⟩
    · intro c hc; rw [hch] at hc; exact he.offData c hc
    · exact he.sync_of_slot hk.slot
  obtain ⟨g', d', hrd⟩ := reopen_reads_of_agree (by rw [hk.size]; exact hg) hrepk hek hcl dk rfl (fun _ _ => rfl) hfs hfa
  have hcont : (absFile fs dk.img g).content = (absFile fs img g).content :=
    congrArg Cursor.ByteFile.content (hcore.abs_eq hrep.inv.cs_pos hrep.inv.cover)
  rw [hcore.size, hcont] at hrd
  exact ⟨g', d', hrd⟩

end FatVerif.FileSim
