import FatVerif.Proofs.Prog
/-! The immutable part of the mounted state: `SameGeom`. -/
namespace FatVerif

/-- the mounted state with its interior-mutable part (FS-info cache, current status flags) blanked -/
def FsState.geom (fs : FsState) : FsState := { fs with fsInfo := {}, curDirty := false, curIoErr := false }

/-- same geometry (everything except the FS-info cache and the current status flags) -/
def SameGeom (a b : FsState) : Prop := a.geom = b.geom

theorem SameGeom.refl (a : FsState) : SameGeom a a := rfl
theorem SameGeom.symm {a b : FsState} (h : SameGeom a b) : SameGeom b a := Eq.symm h
theorem SameGeom.trans {a b c : FsState} (h1 : SameGeom a b) (h2 : SameGeom b c) : SameGeom a c := Eq.trans h1 h2

/-- any projection that does not look at the mutable part agrees -/
theorem SameGeom.proj {α} {a b : FsState} (h : SameGeom a b) (f : FsState → α)
    (hf : ∀ fs, f fs.geom = f fs := by intro _; rfl) : f a = f b := by
  rw [← hf a, ← hf b]; exact congrArg f h

theorem SameGeom.setInfo {a b : FsState} (h : SameGeom a b) (i : FsInfoSt) : SameGeom a { b with fsInfo := i } := h
theorem SameGeom.setFlags {a b : FsState} (h : SameGeom a b) (x y : Bool) :
    SameGeom a { b with curDirty := x, curIoErr := y } := h

end FatVerif
