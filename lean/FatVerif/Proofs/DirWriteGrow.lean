import FatVerif.Proofs.DirWriteKinds
import FatVerif.Proofs.FileSimFatAlloc
/-! Directory WRITES, GROWTH of a cluster-chain directory by one cluster. One `File::write` at the end of the chain
    allocates a free cluster (`alloc_cluster(Some(last), zero = true)`, `run_allocClusterFs_any` of
    Proofs/FileSimFatAlloc), links it behind the last cluster, zero-fills it, and the bytes go to its start: after the
    allocation the write is an ordinary one (`WritesTo`). The GROWTH SLOT is `writeSlot` there: its first chunk allocates, the
    remaining chunks are ordinary writes into the new cluster; seen from the device after the allocation it is one record
    put on the first of the new zero slots, a `SlotStep` like any other. `writeSlotsKeep` and
    `write_entry` ACROSS ONE GROWTH: the records that fit are written in the old configuration, the next record is the
    growth slot, the rest goes into the new configuration — first for write families, then for every kind of chain
    directory. -/
namespace FatVerif.DirSim
open FatVerif.FileSim FatVerif.Fat DirEntryData

section chain
variable {d : Dev} {f0 : FileH} {c0 : Nat} {chain : List Nat}

/-- **one `File::write` at the end of the chain of a directory: growth by one zero-filled cluster.** `c` is the cluster
    the allocator finds. On the way the device is `d3`, after `alloc_cluster`: the chain is `chain ++ [c]`, cluster `c` is
    zero, and from byte `0x42` on nothing else has changed outside the FAT copies; then `bs` goes to the start of `c` -/
theorem ChainCore.file_write_grow (C : ChainCore d f0 c0 chain) (hwf : d.img.WF) (hinfo : InfoOk d.fs d.img)
    (hisdir : f0.isDir = true) (last : Nat) (hlast : chain.getLast? = some last)
    (hlv : tabView d.fs d.img last ≠ .free) (c : Nat)
    (hfind : allocFindV (tabView d.fs d.img) d.fs.fsInfo.next d.fs.totalClusters = some c)
    (hu32 : (chain.length + 1) * d.fs.clusterSize < 4294967296) (bs : List Nat) (hne : bs ≠ [])
    (hlen : bs.length ≤ d.fs.clusterSize) :
    ∃ d3 d', run ((dirFile f0 chain d.fs.clusterSize (chain.length * d.fs.clusterSize)).write bs) d =
        (.ok (bs.length, dirFile (stamped f0 d.clock) (chain ++ [c]) d.fs.clusterSize
          (chain.length * d.fs.clusterSize + bs.length)), d') ∧
      DevStep d d3 ∧ d3.fs.curDirty = true ∧ d3.img.WF ∧ ChainCore d3 f0 c0 (chain ++ [c]) ∧
      tabView d3.fs d3.img = allocLinkV (tabView d.fs d.img) (some last) c ∧
      (∀ q, clusterOff d.fs c ≤ q → q < clusterOff d.fs c + d.fs.clusterSize → d3.img.getByte q = 0) ∧
      (∀ q, 0x42 ≤ q → OutsideFat d.fs q →
        ¬ (clusterOff d.fs c ≤ q ∧ q < clusterOff d.fs c + d.fs.clusterSize) → d3.img.getByte q = d.img.getByte q) ∧
      WritesTo d3 d' (clusterOff d.fs c) bs := by
  have hcs := C.geo.cs_pos
  have hLpos : 0 < chain.length := by
    cases chain with
    | nil => cases hlast
    | cons _ _ => simp
  have hlastmem : last ∈ chain := List.mem_of_getLast? hlast
  rw [Nat.add_mul, Nat.one_mul] at hu32
  generalize hT : chain.length * d.fs.clusterSize = T at *
  have hTmod : T % d.fs.clusterSize = 0 := by rw [← hT]; exact Nat.mul_mod_left _ _
  have hTdiv : T / d.fs.clusterSize = chain.length := by rw [← hT]; exact Nat.mul_div_cancel _ hcs
  have hTpos : 0 < T := by rw [← hT]; exact Nat.mul_pos hLpos hcs
  -- set_dirty_flag(true); on the boundary there is no next cluster
  obtain ⟨d1, h1, hw1, hd1⟩ := run_setDirty_writesTo d C.failAt C.dev42 (d.fs.firstDataSector * d.fs.bps)
  obtain ⟨d2, h2, hs2⟩ := (C.of_writesTo hw1 hwf (Nat.le_refl _)).curOpt T
    (by rw [hw1.step.geom.clusterSize, hT]; exact Nat.le_refl _)
  rw [hw1.step.geom.clusterSize, if_pos hTmod, hTdiv, List.getElem?_eq_none (Nat.le_refl _)] at h2
  have hw2 := hw1.of_sameStore hs2
  have hg2 := hw2.step.geom
  have C2 := C.of_writesTo hw2 hwf (Nat.le_refl _)
  have htv2 := hw2.tabView hwf C.geo (Nat.le_refl _)
  have hwf2 := hw2.step.wf hwf
  -- alloc_cluster(Some(last), true)
  have halloc := run_allocClusterFs_any (some last) true d2 C2.failAt hwf2 C2.geo
    (infoOk_of_writesTo hw2 hwf C.geo (Nat.le_refl _) hinfo) (fun p hp => by
      cases hp
      exact ⟨(C2.inTab last hlastmem).1, (C2.inTab last hlastmem).2, by rw [htv2]; exact hlv⟩)
  rw [htv2, hw2.info, hg2.totalClusters, hfind] at halloc
  rcases halloc with ⟨hnone, _⟩ | ⟨c', d3, hc', h3, hs3, hfs3, htv3, _, hz3, hfr3⟩
  · cases hnone
  cases hc'
  obtain ⟨hc2, hct, hcf⟩ := allocFindV_some _ _ _ _ hinfo.hint hfind
  rw [hg2.clusterOff, hg2.clusterSize] at hz3 hfr3
  have hcnotin : c ∉ chain :=
    free_not_in_chain C.link hcf (fun l hl => by rw [hlast] at hl; cases hl; exact hlv)
  have C3 : ChainCore d3 f0 c0 (chain ++ [c]) :=
    C2.of_step hs3.failAt hs3.size hs3.geom (by rw [htv3]; exact chain_snoc C.link c last hlast hcnotin)
      (by rw [hg2.totalClusters]; exact forall_mem_snoc C.inTab ⟨hc2, hct⟩)
      (by rw [hg2.clusterSize, List.length_append, List.length_singleton, Nat.add_mul, Nat.one_mul, hT]; exact hu32)
  have hd3 : d3.fs.curDirty = true := by rw [hfs3]; exact markedFs_curDirty _
  -- the device write at the start of the new cluster
  have hdev := C.geo.cluster_dev hc2 hct
  have hw4 := writesTo_seek_write d3 (clusterOff d.fs c) bs (by rw [hs3.size, hw2.step.size]; omega) hd3
  have hcurT : (dirFile f0 chain d.fs.clusterSize T).currentCluster = some last := by
    have hp : (T - 1) / d.fs.clusterSize = chain.length - 1 := by rw [pred_div hcs hTpos, if_pos hTmod, hTdiv]
    simp only [dirFile, if_neg (Nat.ne_of_gt hTpos), hp]
    rw [← List.getLast?_eq_getElem?]; exact hlast
  have hsel : run (selCluster (dirFile f0 chain d.fs.clusterSize T) d.fs) d1 =
      (.ok (c, dirFile f0 chain d.fs.clusterSize T), d3) :=
    (run_selCluster_alloc _ _ hTmod h2
      (by rw [hcurT, show (dirFile f0 chain d.fs.clusterSize T).isDir = true from hisdir]; exact h3)).trans
      (by rw [if_neg (by show ¬ f0.firstCluster.isNone = true; rw [C.first]; exact Bool.noConfusion)])
  refine ⟨d3, _, ?_, hw2.step.trans hs3, hd3, hs3.wf hwf2, C3, htv3, hz3 rfl,
    fun q hq ho hn => ?_, hw4⟩
  · rw [run_write_of_sel _ _ bs hne (by show T % _ + _ ≤ _; omega) (by show T + _ < _; omega) h1 hsel C3.failAt
        (by rw [hs3.size, hw2.step.size]; exact C.geo) hc2 hct,
      show (dirFile f0 chain d.fs.clusterSize T).offset = T from rfl, hTmod, hs3.clock, hw2.step.clock,
      dirFile_advance (chain := chain ++ [c]) hcs (by rw [hTdiv, List.getElem?_append_right (Nat.le_refl _), Nat.sub_self]; rfl)
        (List.length_pos_iff.mpr hne) (by omega) chain, dirFile_afterWrite C.nosize]
    rfl
  · rw [hfr3 q hq (by unfold OutsideFat at ho ⊢; rw [hg2.fatSlice]; exact ho) (fun _ => hn)]
    exact hw2.outside hwf q hq (by simp)

end chain

/-! ### the geometry of the grown chain -/

theorem chainSrc_append_old (fs : FsState) (chain : List Nat) (c o : Nat) (h : o / fs.clusterSize < chain.length) :
    chainSrc fs (chain ++ [c]) o = chainSrc fs chain o := by
  unfold chainSrc
  rw [List.getD_eq_getElem?_getD, List.getD_eq_getElem?_getD, List.getElem?_append_left h]

theorem chainSrc_append_new (fs : FsState) (chain : List Nat) (c x : Nat) (hx : x < fs.clusterSize) :
    chainSrc fs (chain ++ [c]) (chain.length * fs.clusterSize + x) = clusterOff fs c + x := by
  rw [chainSrc_at fs _ _ x hx, List.getD_eq_getElem?_getD, List.getElem?_append_right (Nat.le_refl _), Nat.sub_self]
  rfl

/-- the slots of a chain grown by a zero-filled cluster: the old ones (`hold`: kept) followed by zero slots -/
theorem srcSlots_grown (fs : FsState) (chain : List Nat) (c : Nat) (hcs : 0 < fs.clusterSize)
    (h32 : fs.clusterSize % 32 = 0) (img img' : Img)
    (hold : srcSlots img' (chainSrc fs chain) (chain.length * (fs.clusterSize / 32)) =
      srcSlots img (chainSrc fs chain) (chain.length * (fs.clusterSize / 32)))
    (hz : ∀ q, clusterOff fs c ≤ q → q < clusterOff fs c + fs.clusterSize → img'.getByte q = 0) :
    srcSlots img' (chainSrc fs (chain ++ [c])) ((chain.length + 1) * (fs.clusterSize / 32)) =
      srcSlots img (chainSrc fs chain) (chain.length * (fs.clusterSize / 32)) ++
        List.replicate (fs.clusterSize / 32) DirSlots.zeroSlot := by
  have hK := mul_div32 h32
  have e := srcSlots_chain fs img' hcs h32 (chain ++ [c])
  rw [List.length_append, List.length_singleton] at e
  rw [e, chainSlots_append, ← srcSlots_chain fs img' hcs h32 chain, ← srcSlots_chain fs img' hcs h32 [c], hold,
    srcSlots_zero img' _ _ (fun i hi x hx => by
      rw [List.length_singleton, Nat.one_mul] at hi
      rw [chainSrc_single fs c i (by omega)]
      exact hz _ (by omega) (by omega)),
    List.length_singleton, Nat.one_mul]
  rfl

/-- every byte of a cluster of the chain lies in one of the slots of the directory -/
theorem cluster_in_slots (fs : FsState) (chain : List Nat) (h32 : fs.clusterSize % 32 = 0)
    (j : Nat) (hj : j < chain.length) (q : Nat) (h1 : clusterOff fs (chain.getD j 0) ≤ q)
    (h2 : q < clusterOff fs (chain.getD j 0) + fs.clusterSize) :
    ∃ i, i < chain.length * (fs.clusterSize / 32) ∧ chainSrc fs chain (32 * i) ≤ q ∧ q < chainSrc fs chain (32 * i) + 32 := by
  have hK := mul_div32 h32
  generalize hx : q - clusterOff fs (chain.getD j 0) = x at *
  have hxlt : x < fs.clusterSize := by omega
  have hx32 : x / 32 < fs.clusterSize / 32 := by
    rw [Nat.div_lt_iff_lt_mul (by omega)]; omega
  refine ⟨j * (fs.clusterSize / 32) + x / 32, ?_, ?_, ?_⟩
  · have : (j + 1) * (fs.clusterSize / 32) ≤ chain.length * (fs.clusterSize / 32) := Nat.mul_le_mul_right _ hj
    rw [Nat.add_mul, Nat.one_mul] at this
    omega
  all_goals
    have hoff : 32 * (j * (fs.clusterSize / 32) + x / 32) = j * fs.clusterSize + 32 * (x / 32) := by
      rw [Nat.mul_add, Nat.mul_left_comm, hK]
    have hlt : 32 * (x / 32) < fs.clusterSize := by
      have := Nat.div_add_mod x 32; omega
    rw [hoff, chainSrc_at fs chain j _ hlt]
    have := Nat.div_add_mod x 32
    have := Nat.mod_lt x (by omega : 0 < 32)
    omega

/-! ### the growth slot -/

theorem chunksOf_cons_ne (bs : List Nat) (ns : List Nat) (hpos : ∀ n ∈ ns, 0 < n) (hne : ns ≠ [])
    (hsum : ns.sum ≤ bs.length) :
    ∃ c1 rest, chunksOf bs ns = c1 :: rest ∧ c1 ≠ [] ∧ (∀ c ∈ rest, c ≠ []) ∧ c1.length ≤ ns.headD 0 := by
  cases ns with
  | nil => exact absurd rfl hne
  | cons n r =>
    have hall := chunksOf_ne_nil (n :: r) bs hpos hsum
    refine ⟨bs.take n, chunksOf (bs.drop n) r, rfl, hall _ (by simp [chunksOf]), fun c hc => hall c (by simp [chunksOf, hc]), ?_⟩
    simp only [List.length_take, List.headD_cons]
    omega

section grow
variable {fs0 : FsState} {c0 : Nat} {chain : List Nat}

/-- **the growth slot.** Hypotheses: the handle `f` (core `C`) of a directory (`f.isDir`) whose chain ends in `last`
    (not free), the allocator finds `c`, the grown directory still has a 32-bit size; `Inv'`/`WG'` = invariant and
    closed write family of the grown directory for the stamped handle `fW`; `hInv'` says that the device after the
    allocating write satisfies `Inv'`. -/
theorem grow_slot (f fW : FileH) (c last : Nat) (Inv' : Dev → Prop)
    (WG' : WFam Inv' (chainS fW (chain ++ [c]) fs0.clusterSize) (chainS fW (chain ++ [c]) fs0.clusterSize)
      ((chain.length + 1) * (fs0.clusterSize / 32)) (chainSrc fs0 (chain ++ [c])) (chainRoom fs0 (chain ++ [c])))
    (d : Dev) (C : ChainCore d f c0 chain) (hwf : d.img.WF) (hg : FsGeomEq fs0 d.fs)
    (hstamp : stamped f d.clock = fW) (hinfo : InfoOk d.fs d.img) (hisdir : f.isDir = true)
    (hlast : chain.getLast? = some last) (hlv : tabView d.fs d.img last ≠ .free)
    (hfind : allocFindV (tabView d.fs d.img) d.fs.fsInfo.next d.fs.totalClusters = some c)
    (hu32 : (chain.length + 1) * d.fs.clusterSize < 4294967296)
    (hInv' : ∀ d1, DevStep d d1 → d1.img.WF → ChainCore d1 f c0 (chain ++ [c]) → Inv' d1)
    (e : DirEntryData) (hl : e.serialize.length = 32) (hb : ∀ b ∈ e.serialize, b < 256) :
    ∃ d', run (writeSlot (chainS f chain fs0.clusterSize (chain.length * fs0.clusterSize)) e) d =
        (.ok (chainS fW (chain ++ [c]) fs0.clusterSize (chain.length * fs0.clusterSize + 32)), d') ∧
      VolStep d d' ∧ d'.fs.curDirty = true ∧ Inv' d' ∧
      srcSlots d'.img (chainSrc fs0 (chain ++ [c])) ((chain.length + 1) * (fs0.clusterSize / 32)) =
        (srcSlots d.img (chainSrc fs0 chain) (chain.length * (fs0.clusterSize / 32)) ++
          List.replicate (fs0.clusterSize / 32) DirSlots.zeroSlot).set (chain.length * (fs0.clusterSize / 32)) e.serialize ∧
      tabView d'.fs d'.img = allocLinkV (tabView d.fs d.img) (some last) c ∧
      (∀ q, 0x42 ≤ q → OutsideFat d.fs q →
        ¬ (clusterOff d.fs c ≤ q ∧ q < clusterOff d.fs c + d.fs.clusterSize) → d'.img.getByte q = d.img.getByte q) := by
  have hcs : d.fs.clusterSize = fs0.clusterSize := hg.clusterSize
  have hcspos : 0 < fs0.clusterSize := by rw [← hcs]; exact C.geo.cs_pos
  have h32 : fs0.clusterSize % 32 = 0 := by rw [← hcs]; exact C.cs32
  have hcs32 : 32 ≤ fs0.clusterSize := by
    have := mul_div32 h32
    rcases Nat.eq_zero_or_pos (fs0.clusterSize / 32) with h | h
    · rw [h] at this; omega
    · omega
  -- the chunks of the record
  obtain ⟨ns, hsum, hpos, hnn, hhead, heq⟩ := writeSlot_chunks (chainS f chain fs0.clusterSize (chain.length * fs0.clusterSize)) e
  rw [heq]
  obtain ⟨c1, rest, hchunks, hc1, hrest, hc1len⟩ := chunksOf_cons_ne e.serialize ns hpos hnn (by rw [hsum, hl]; exact Nat.le_refl _)
  have hfl : c1 ++ rest.flatten = e.serialize := by
    have := chunksOf_flatten ns e.serialize (by rw [hsum, hl])
    rw [hchunks, List.flatten_cons] at this
    exact this
  have hlens : c1.length + rest.flatten.length = 32 := by
    rw [← List.length_append, hfl, hl]
  -- A. the allocating write of the first chunk: `d3` after the allocation, `d1` after the chunk
  have hc1le : c1.length ≤ 32 := Nat.le_of_lt (Nat.lt_of_le_of_lt hc1len hhead)
  obtain ⟨d3, d1, h1, hs3, hd3, hwf3, C3, htv3, hz3, hfr3, hwA⟩ := C.file_write_grow hwf hinfo hisdir last hlast hlv c
    hfind hu32 c1 hc1 (by rw [hcs]; exact Nat.le_trans hc1le hcs32)
  rw [hcs, hstamp] at h1
  rw [hg.clusterOff] at hwA
  have hg3 : FsGeomEq fs0 d3.fs := hg.trans hs3.geom
  have hdata : d3.fs.firstDataSector * d3.fs.bps ≤ clusterOff fs0 c := by rw [← hg3.clusterOff]; exact FileSim.dataStart_le_clusterOff _ _
  have hinv1 := hInv' d1 (hs3.trans hwA.step) (hwA.step.wf hwf3) (C3.of_writesTo hwA hwf3 hdata)
  have hw1 : run (writeAll DirStream.strm (chainS f chain fs0.clusterSize (chain.length * fs0.clusterSize)) c1) d =
      (.ok (chainS fW (chain ++ [c]) fs0.clusterSize (chain.length * fs0.clusterSize + c1.length)), d1) := by
    refine run_writeAll_of_write DirStream.strm hc1 ?_
    show run (DirStream.write (.file _) c1) d = _
    simp only [DirStream.write]
    rw [run_bind_ok h1]
    rfl
  -- B. the remaining chunks, inside the new cluster: together one write of the record at the start of `c`
  have hlt : c1.length < fs0.clusterSize := by omega
  have hroom' : chainRoom fs0 (chain ++ [c]) (chain.length * fs0.clusterSize + c1.length) = fs0.clusterSize - c1.length := by
    unfold chainRoom
    rw [List.length_append, List.length_singleton, if_pos (by
      rw [Nat.add_mul, Nat.one_mul]; exact Nat.add_lt_add_left hlt _)]
    congr 1
    rw [Nat.mul_comm, Nat.mul_add_mod, Nat.mod_eq_of_lt hlt]
  obtain ⟨d2, h2, hw2, hinv2⟩ := WG'.writeChunks_closed rest (chain.length * fs0.clusterSize + c1.length) d1 hinv1 hrest
    (by rw [hroom']; omega)
    (by rw [slots_bytes h32, Nat.add_mul, Nat.one_mul]; omega)
  rw [chainSrc_append_new fs0 chain c _ hlt] at hw2
  have hw : WritesTo d3 d2 (clusterOff fs0 c) e.serialize := hfl ▸ hwA.append hw2
  -- C. the slots: those of the old chain are kept by the allocation, the new cluster is zero, the record goes to its first slot
  have hcin := C3.inTab c (by simp)
  have hcnotin : c ∉ chain := fun hmem =>
    (List.nodup_append.mp (chain_nodup' C3.link)).2.2 c hmem c (by simp) rfl
  have hold := srcSlots_clear C.geo (fun i hi => chainSrc_clear C.geo C.cs32 chain C.inTab hcin.1 hcnotin i hi) hfr3
  rw [hg.clusterOff, hcs] at hz3
  rw [chainSrc_geom hg, hcs] at hold
  have hg' := C3.slotGeo
  rw [chainSrc_geom hg3, hg3.clusterSize, List.length_append, List.length_singleton] at hg'
  have hsrcN : chainSrc fs0 (chain ++ [c]) (32 * (chain.length * (fs0.clusterSize / 32))) = clusterOff fs0 c := by
    rw [slots_bytes h32]; exact chainSrc_append_new fs0 chain c 0 hcspos
  obtain ⟨hsl, _⟩ := srcSlots_put hg' (hsrcN ▸ hw) hwf3
    (by rw [Nat.add_mul, Nat.one_mul]; omega) hl hb
  refine ⟨d2, ?_, (VolStep.of_devStep hs3).trans (VolStep.of_devStep hw.step), hw.keep hd3, hinv2, ?_, ?_,
    fun q hq ho hn => ?_⟩
  · rw [hchunks]
    unfold writeChunks
    rw [run_bind_ok hw1, h2, Nat.add_assoc, hlens]
  · rw [hsl, srcSlots_grown fs0 chain c hcspos h32 d.img d3.img hold hz3]
  · rw [hw.tabView hwf3 C3.geo hdata, htv3]
  · rw [hg.clusterOff, hcs] at hn
    rw [hw.outside hwf3 q hq (by omega)]
    exact hfr3 q hq ho (by rw [hg.clusterOff, hcs]; exact hn)

end grow

/-! ### `writeSlotsKeep` and `write_entry` across one growth, for write families -/

/-- the frame of a write in the old configuration is a frame of the new one (the old slots are slots of the new) -/
theorem FrameOutG.mono {N N' : Nat} {src src' : Nat → Nat} {Extra : Nat → Prop} {d d' : Dev} (h : FrameOutG N src d d')
    (hN : N ≤ N') (hsub : ∀ i, i < N → src' (32 * i) = src (32 * i)) : FrameOutE N' src' Extra d d' :=
  fun q hq hn _ => h q hq (fun i hi => by rw [← hsub i hi]; exact hn i (by omega))

section generic
-- `OutFat q` (instance: `OutsideFat fs0 q`): `q` lies outside the FAT copies. The growth slot allocates a cluster, i.e.
-- writes FAT entries, so the positions INSIDE the copies are the `Extra` of its frame: `fun q => ¬ OutFat q`.
variable {Inv Inv' : Dev → Prop} {F G G' : Nat → DirStream} {N K : Nat} {src room src' room' : Nat → Nat}
  {OutFat : Nat → Prop}

/-- **`writeSlotsKeep` across one growth**, as a path: the records before slot `N` stay in the old configuration, the record
    on slot `N` is the growth slot, the rest goes into the grown one -/
theorem writeSlotsKeep_grow (IO : InvOK Inv) (IO' : InvOK Inv') (hg : SlotGeo N src)
    (hg' : SlotGeo (N + K) src') (W : WFam Inv F G N src room) (WG : WFam Inv G G N src room)
    (WG' : WFam Inv' G' G' (N + K) src' room') (hK : 0 < K) (hsub : ∀ i, i < N → src' (32 * i) = src (32 * i))
    (growF : SlotStep (FrameOutE (N + K) src' (fun q => ¬ OutFat q)) ⟨Inv, N, src⟩ ⟨Inv', N + K, src'⟩ (F (32 * N))
      (G' (32 * (N + 1))) N)
    (growG : SlotStep (FrameOutE (N + K) src' (fun q => ¬ OutFat q)) ⟨Inv, N, src⟩ ⟨Inv', N + K, src'⟩ (G (32 * N))
      (G' (32 * (N + 1))) N)
    (es : List DirEntryData) (p : Nat) (hp : p ≤ N) (hgrow : N < p + es.length) (hfit : p + es.length ≤ N + K)
    (hes : ∀ x ∈ es, x.serialize.length = 32 ∧ ∀ b ∈ x.serialize, b < 256) (d : Dev) (hinv : Inv d) :
    ∃ d', run (writeSlotsKeep es (F (32 * p))) d = (.ok (none, G' (32 * (p + es.length))), d') ∧
      VolStep d d' ∧ d'.fs.curDirty = true ∧ Inv' d' ∧
      srcSlots d'.img src' (N + K) =
        putK (srcSlots d.img src N ++ List.replicate K DirSlots.zeroSlot) p (es.map DirEntryData.serialize) ∧
      FrameOutE (N + K) src' (fun q => ¬ OutFat q) d d' := by
  have hne : es ≠ [] := fun h => by subst h; simp at hgrow; omega
  have := writeSlotsKeep_path (Fr := FrameOutE (N + K) src' (fun q => ¬ OutFat q)) (fun _ _ _ _ _ => rfl)
    (fun _ _ _ => FrameOutE.trans) es (fun j => if p + j ≤ N then ⟨Inv, N, src⟩ else ⟨Inv', N + K, src'⟩)
    (fun j => if j = 0 then F (32 * p) else if p + j ≤ N then G (32 * (p + j)) else G' (32 * (p + j))) p
    (fun j hj => by
      have hS : ∀ X : Nat → DirStream, (if j = 0 then F (32 * p) else X (32 * (p + j))) =
          (if j = 0 then F else X) (32 * (p + j)) := fun X => by split <;> simp_all
      rcases Nat.lt_trichotomy (p + j) N with h | h | h
      · rw [if_pos (Nat.le_of_lt h), if_pos (show p + (j + 1) ≤ N by omega), if_neg (Nat.succ_ne_zero j),
          if_pos (show p + (j + 1) ≤ N by omega), if_pos (Nat.le_of_lt h), hS G]
        refine ⟨Nat.le_refl _, h, ?_⟩
        by_cases hj0 : j = 0
        · rw [if_pos hj0]
          exact (W.slotStep IO hg WG (p + j) h).frame (fun _ _ hf => hf.mono (by omega) hsub)
        · rw [if_neg hj0]
          exact (WG.slotStep IO hg WG (p + j) h).frame (fun _ _ hf => hf.mono (by omega) hsub)
      · rw [if_pos (Nat.le_of_eq h), if_neg (show ¬ p + (j + 1) ≤ N by omega), if_neg (Nat.succ_ne_zero j),
          if_neg (show ¬ p + (j + 1) ≤ N by omega), if_pos (Nat.le_of_eq h), hS G, h]
        refine ⟨Nat.le_add_right _ _, Nat.lt_add_of_pos_right hK, ?_⟩
        rw [show p + (j + 1) = N + 1 by omega]
        by_cases hj0 : j = 0
        · rw [if_pos hj0]; exact growF
        · rw [if_neg hj0]; exact growG
      · rw [if_neg (show ¬ p + j ≤ N by omega), if_neg (show ¬ p + (j + 1) ≤ N by omega), if_neg (Nat.succ_ne_zero j),
          if_neg (show ¬ p + (j + 1) ≤ N by omega), if_neg (show ¬ j = 0 by omega), if_neg (show ¬ p + j ≤ N by omega)]
        exact ⟨Nat.le_refl _, show p + j < N + K by omega,
          (WG'.slotStep IO' hg' WG' (p + j) (by omega)).frame (fun _ _ hf => hf.toE)⟩)
    hes d (by rw [if_pos (by omega)]; exact hinv)
  rw [if_pos rfl, if_neg (show ¬ p + es.length ≤ N by omega), if_pos (show p + 0 ≤ N by omega),
    if_neg (show ¬ es.length = 0 by rw [List.length_eq_zero_iff]; exact hne), if_neg (show ¬ p + es.length ≤ N by omega)] at this
  obtain ⟨d', h1, h2, h3, h4, h5, h6⟩ := this
  exact ⟨d', h1, h2, h3 hne, h4, by rw [h5]; show putK (_ ++ List.replicate (N + K - N) _) _ _ = _; rw [Nat.add_sub_cancel_left], h6⟩

/-- **`write_entry` across one growth of the directory**, for an ordinary valid name: the entry starts in the allocated
    space (or exactly at its end) and reaches into ONE new cluster. The slots of the grown directory afterwards are
    `DirSlots.writeEntry` of the old ones (the list grows) followed by the zero slots that remain in the new cluster -/
theorem writeEntry_grow {F' : Nat → DirStream} {Extra Extra' : Nat → Prop} {DropPost DropPost' : Img → Img → Prop}
    (IO : InvOK Inv) (IO' : InvOK Inv') (hg : SlotGeo N src) (hg' : SlotGeo (N + K) src')
    (W : WFam Inv F G N src room) (WG : WFam Inv G G N src room) (WG' : WFam Inv' G' G' (N + K) src' room')
    (hK : 0 < K) (hsub : ∀ i, i < N → src' (32 * i) = src (32 * i))
    (growF : SlotStep (FrameOutE (N + K) src' (fun q => ¬ OutFat q)) ⟨Inv, N, src⟩ ⟨Inv', N + K, src'⟩ (F (32 * N))
      (G' (32 * (N + 1))) N)
    (growG : SlotStep (FrameOutE (N + K) src' (fun q => ¬ OutFat q)) ⟨Inv, N, src⟩ ⟨Inv', N + K, src'⟩ (G (32 * N))
      (G' (32 * (N + 1))) N)
    (O : WOps Inv F G N src room Extra DropPost) (O' : WOps Inv' F' G' (N + K) src' room' Extra' DropPost')
    (name : String) (raw : DirFileEntryData)
    (hval : Names.validateLongName name = .ok ()) (hdot : (name = "." || name = "..") = false) (hraw : raw.WF)
    (d : Dev) (hinv : Inv d)
    (n p : Nat) (hn : Lfn.numParts (Names.encodeUtf16 name.toList).length + 1 = n)
    (hp : DirSlots.findFree (srcSlots d.img src N) n = p) (hgrow : N < p + n) (hfit : p + n ≤ N + K) :
    ∃ d', run (FatVerif.writeEntry (F 0) name raw) d =
        (.ok { data := raw, lfn := Names.encodeUtf16 name.toList, entryPos := src' (32 * (p + n) - 32) + 32 - 32,
               rangeBegin := 32 * p, rangeEnd := 32 * (p + n) }, d') ∧
      VolStep d d' ∧ d'.fs.curDirty = true ∧ Inv' d' ∧
      srcSlots d'.img src' (N + K) =
        DirSlots.writeEntry (srcSlots d.img src N) (Names.encodeUtf16 name.toList) raw.serialize ++
          List.replicate (N + K - (p + n)) DirSlots.zeroSlot ∧
      (∀ q, 0x42 ≤ q → OutFat q → (∀ i, i < N + K → ¬ (src' (32 * i) ≤ q ∧ q < src' (32 * i) + 32)) → ¬ Extra' q →
        d'.img.getByte q = d.img.getByte q) := by
  subst hn hp
  have hlen := lfnGenerate_length (Names.encodeUtf16 name.toList) (lfnChecksum raw.name)
  rw [← hlen] at hgrow hfit ⊢
  generalize hslg : lfnGenerate (Names.encodeUtf16 name.toList) (lfnChecksum raw.name) = sl at hgrow hfit ⊢
  obtain ⟨hesok, hmap⟩ := slotRecords sl (by rw [← hslg]; exact lfnGenerate_slot _ _ (C16.checksum_lt raw.name)) raw hraw
  have hple : DirSlots.findFree (srcSlots d.img src N) (sl.length + 1) ≤ N := by
    have := DirSlots.findFreeLoop_le (sl.length + 1) (srcSlots d.img src N) 0 0 0 (Nat.le_refl _)
    rwa [srcSlots_length, Nat.zero_add] at this
  generalize hp : DirSlots.findFree (srcSlots d.img src N) (sl.length + 1) = p at hgrow hfit hple ⊢
  generalize hes : sl.map deserialize ++ [DirEntryData.file raw] = es at hesok hmap
  have heslen : es.length = sl.length + 1 := by rw [← hes]; simp
  obtain ⟨d2, d3, d', hv2, ⟨hsl3, hfr3⟩, hr, hs, hd, hinv', hb, _⟩ := O.writeEntry_around IO IO' O' name raw hval sl
    (by rw [if_neg (by rw [hdot]; decide), hslg]) d hinv p hp hfit
    (fun d2 d3 => srcSlots d3.img src' (N + K) =
        putK (srcSlots d2.img src N ++ List.replicate K DirSlots.zeroSlot) p (es.map DirEntryData.serialize) ∧
      FrameOutE (N + K) src' (fun q => ¬ OutFat q) d2 d3)
    (fun d2 _ hinv2 => by
      rw [hes]
      have := writeSlotsKeep_grow IO IO' hg hg' W WG WG' hK hsub growF growG es p hple (by omega) (by omega) hesok d2 hinv2
      rwa [heslen] at this)
  refine ⟨d', hr, hs, hd, hinv', ?_, fun q hq ho hn he => by rw [hb q hq he, hfr3 q hq hn (fun h => h ho), hv2.img]⟩
  have hlenS : (srcSlots d.img src N).length = N := srcSlots_length _ _ _
  rw [srcSlots_congr (fun i hi x hx => hb _ (by have := hg'.behind i hi; omega) (O'.extra_out i hi x hx)), hsl3, hv2.img,
    hmap, putK_grow _ K p _ (by rw [hlenS]; exact hple) (by rw [hlenS]; simp; omega) (by rw [hlenS]; simpa using hfit), hlenS]
  unfold DirSlots.writeEntry DirSlots.entrySlots
  rw [sfnName_serialize raw hraw.name_len, hslg, ← hlen, hslg, hp]
  simp

end generic

/-! ### … for every kind of chain directory -/

/-- what the allocator will do is fixed by the FAT of the image and the hint: kept by directory writes -/
structure AllocOk (tv0 : Nat → FatValue) (nx0 : Option Nat) (d : Dev) : Prop where
  info : InfoOk d.fs d.img
  tv : tabView d.fs d.img = tv0
  next : d.fs.fsInfo.next = nx0

theorem AllocOk.of_tabView {tv0 : Nat → FatValue} {nx0 : Option Nat} {d d' : Dev} (h : AllocOk tv0 nx0 d)
    (hi : d'.fs.fsInfo = d.fs.fsInfo) (ht : d'.fs.totalClusters = d.fs.totalClusters)
    (hv : tabView d'.fs d'.img = tabView d.fs d.img) : AllocOk tv0 nx0 d' :=
  ⟨infoOk_congr h.info hi ht hv, hv.trans h.tv, by rw [hi]; exact h.next⟩

/-- the decoded FAT of the device is `tv` -/
def TvIs (tv : Nat → FatValue) (d : Dev) : Prop := tabView d.fs d.img = tv

theorem TvIs.of_sameVol {tv : Nat → FatValue} {d d1 : Dev} (h : TvIs tv d) (hv : SameVol d d1) : TvIs tv d1 := by
  unfold TvIs at *; rw [hv.fs, hv.img]; exact h

section kind
variable {fs0 : FsState} {c0 : Nat} {f g : FileH} {Inv : List Nat → Dev → Prop} {Extra : Nat → Prop}
  {DropPost : Img → Img → Prop} {chain : List Nat}

/-- the growth slot of a chain directory, for a handle `x` of it (the initial one, or the one after the first write);
    the invariant of the grown directory is strengthened by the FAT it was created with, which later writes keep -/
theorem ChainKind.growSlot (K : ChainKind fs0 c0 f g Inv Extra DropPost) (x : FileH)
    (hcore : ∀ d, Inv chain d → ChainCore d x c0 chain) (hst : ∀ d, Inv chain d → stamped x d.clock = g)
    (hisdir : x.isDir = true) (c last : Nat) (tv0 : Nat → FatValue)
    (nx0 : Option Nat) (hlast : chain.getLast? = some last) (hlv : tv0 last ≠ .free)
    (hfind : allocFindV tv0 nx0 fs0.totalClusters = some c)
    (hu32 : (chain.length + 1) * fs0.clusterSize < 4294967296)
    (hfuel' : (chain.length + 1) * (fs0.clusterSize / 32) < dirFuel fs0) :
    SlotStep (FrameOutE (chain.length * (fs0.clusterSize / 32) + fs0.clusterSize / 32) (chainSrc fs0 (chain ++ [c]))
        (fun q => ¬ OutsideFat fs0 q))
      ⟨fun d => Inv chain d ∧ AllocOk tv0 nx0 d, chain.length * (fs0.clusterSize / 32), chainSrc fs0 chain⟩
      ⟨fun d => Inv (chain ++ [c]) d ∧ TvIs (allocLinkV tv0 (some last) c) d,
        chain.length * (fs0.clusterSize / 32) + fs0.clusterSize / 32, chainSrc fs0 (chain ++ [c])⟩
      (chainS x chain fs0.clusterSize (32 * (chain.length * (fs0.clusterSize / 32))))
      (chainS g (chain ++ [c]) fs0.clusterSize (32 * (chain.length * (fs0.clusterSize / 32) + 1)))
      (chain.length * (fs0.clusterSize / 32)) := by
  intro d hinv e hl hb
  obtain ⟨h, ha⟩ := hinv
  have hcs : d.fs.clusterSize = fs0.clusterSize := (K.geom h).clusterSize
  have hcspos : 0 < fs0.clusterSize := by rw [← hcs]; exact (K.dir h).geo.cs_pos
  have h32 : fs0.clusterSize % 32 = 0 := by rw [← hcs]; exact (K.dir h).cs32
  have hNK : (chain.length + 1) * (fs0.clusterSize / 32) = chain.length * (fs0.clusterSize / 32) + fs0.clusterSize / 32 := by
    rw [Nat.add_mul, Nat.one_mul]
  have hlen1 : (chain ++ [c]).length = chain.length + 1 := by rw [List.length_append, List.length_singleton]
  have WG' := K.wfam (chain ++ [c]) g (fun _ h => K.coreG h) (fun _ h => K.stampG h)
  rw [hlen1] at WG'
  obtain ⟨d', hr, hs, hd, hinv', hsl, htv, hfr⟩ := grow_slot x g c last (Inv (chain ++ [c])) WG' d (hcore d h)
    (K.wf h) (K.geom h) (hst d h) ha.info hisdir hlast (by rw [ha.tv]; exact hlv)
    (by rw [ha.tv, ha.next, (K.geom h).totalClusters]; exact hfind) (by rw [hcs]; exact hu32)
    (fun d1 hs1 _ hC1 => by
      have hg1 := (K.geom h).trans hs1.geom
      exact K.keep h (VolStep.of_devStep hs1) hs1.clock hC1.link (by rw [← hg1.totalClusters]; exact hC1.inTab)
        (by rw [← hg1.clusterSize]; exact hC1.u32) (by rw [hlen1]; exact hfuel'))
    e hl hb
  rw [← K.slots_bytes h, ← Nat.mul_add_one] at hr
  refine ⟨d', hr, hs, hd, ⟨hinv', by unfold TvIs; rw [htv, ha.tv]⟩, by
    show srcSlots d'.img (chainSrc fs0 (chain ++ [c])) (chain.length * (fs0.clusterSize / 32) + fs0.clusterSize / 32) =
      (_ ++ List.replicate (chain.length * (fs0.clusterSize / 32) + fs0.clusterSize / 32 -
        chain.length * (fs0.clusterSize / 32)) _).set _ _
    rw [Nat.add_sub_cancel_left, ← hNK]; exact hsl, ?_⟩
  intro q hq hn ho
  have ho := Classical.not_not.mp ho
  refine hfr q hq (by unfold OutsideFat at ho ⊢; rw [(K.geom h).fatSlice]; exact ho) ?_
  rintro ⟨h1, h2⟩
  rw [(K.geom h).clusterOff] at h1 h2
  rw [hcs] at h2
  have hget : (chain ++ [c]).getD chain.length 0 = c := by
    rw [List.getD_eq_getElem?_getD, List.getElem?_append_right (Nat.le_refl _), Nat.sub_self]; rfl
  obtain ⟨i, hi, hi1, hi2⟩ := cluster_in_slots fs0 (chain ++ [c]) h32 chain.length
    (by rw [hlen1]; omega) q (by rw [hget]; exact h1) (by rw [hget]; exact h2)
  rw [hlen1, hNK] at hi
  exact hn i hi ⟨hi1, hi2⟩

/-- **`write_entry` in a chain directory across one growth** (the entry does not fit into the allocated clusters but fits
    after one more): the allocator's cluster `c` is linked behind `last`, zero-filled, and the slots of the grown
    directory are `DirSlots.writeEntry` of the old ones followed by the remaining zero slots. `hex`, `hex'`: what the
    destructor of a clone writes lies apart from the slots, before and after the growth -/
theorem ChainKind.writeEntry_grow (K : ChainKind fs0 c0 f g Inv Extra DropPost) (hdirF : f.isDir = true)
    (hdirG : g.isDir = true) (c last : Nat) (name : String) (raw : DirFileEntryData)
    (hval : Names.validateLongName name = .ok ()) (hdot : (name = "." || name = "..") = false) (hraw : raw.WF)
    (hlfn : attrsIsLfn raw.attrs = false) (d : Dev) (h : Inv chain d) (hinfo : InfoOk d.fs d.img)
    (hlast : chain.getLast? = some last) (hlv : tabView d.fs d.img last ≠ .free)
    (hfind : allocFindV (tabView d.fs d.img) d.fs.fsInfo.next d.fs.totalClusters = some c)
    (hu32 : (chain.length + 1) * fs0.clusterSize < 4294967296)
    (hfuel' : (chain.length + 1) * (fs0.clusterSize / 32) < dirFuel fs0)
    (hex : ∀ i, i < chain.length * (fs0.clusterSize / 32) → ∀ x, x < 32 → ¬ Extra (chainSrc fs0 chain (32 * i) + x))
    (hex' : ∀ i, i < (chain ++ [c]).length * (fs0.clusterSize / 32) → ∀ x, x < 32 →
      ¬ Extra (chainSrc fs0 (chain ++ [c]) (32 * i) + x))
    (n p : Nat) (hn : Lfn.numParts (Names.encodeUtf16 name.toList).length + 1 = n)
    (hp : DirSlots.findFree (srcSlots d.img (chainSrc fs0 chain) (chain.length * (fs0.clusterSize / 32))) n = p)
    (hgrow : chain.length * (fs0.clusterSize / 32) < p + n)
    (hfit : p + n ≤ chain.length * (fs0.clusterSize / 32) + fs0.clusterSize / 32) :
    ∃ (d' : Dev) (e : DirEntry), run (FatVerif.writeEntry (chainS f chain fs0.clusterSize 0) name raw) d = (.ok e, d') ∧
      e = toDirEntryS (chainSrc fs0 (chain ++ [c])) ⟨raw.serialize, Names.encodeUtf16 name.toList, p, p + n⟩ ∧
      VolStep d d' ∧ d'.fs.curDirty = true ∧ Inv (chain ++ [c]) d' ∧
      srcSlots d'.img (chainSrc fs0 (chain ++ [c])) (chain.length * (fs0.clusterSize / 32) + fs0.clusterSize / 32) =
        DirSlots.writeEntry (srcSlots d.img (chainSrc fs0 chain) (chain.length * (fs0.clusterSize / 32)))
          (Names.encodeUtf16 name.toList) raw.serialize ++
        List.replicate (chain.length * (fs0.clusterSize / 32) + fs0.clusterSize / 32 - (p + n)) DirSlots.zeroSlot ∧
      (∀ q, 0x42 ≤ q → OutsideFat fs0 q →
        (∀ i, i < chain.length * (fs0.clusterSize / 32) + fs0.clusterSize / 32 →
          ¬ (chainSrc fs0 (chain ++ [c]) (32 * i) ≤ q ∧ q < chainSrc fs0 (chain ++ [c]) (32 * i) + 32)) →
        ¬ Extra q → d'.img.getByte q = d.img.getByte q) ∧
      tabView d'.fs d'.img = allocLinkV (tabView d.fs d.img) (some last) c := by
  have hcs : d.fs.clusterSize = fs0.clusterSize := (K.geom h).clusterSize
  have hcspos : 0 < fs0.clusterSize := by rw [← hcs]; exact (K.dir h).geo.cs_pos
  have h32 : fs0.clusterSize % 32 = 0 := by rw [← hcs]; exact (K.dir h).cs32
  have hK := mul_div32 h32
  have hKpos : 0 < fs0.clusterSize / 32 := by
    rcases Nat.eq_zero_or_pos (fs0.clusterSize / 32) with h0 | h0
    · rw [h0] at hK; omega
    · exact h0
  have hNK : (chain ++ [c]).length * (fs0.clusterSize / 32) = chain.length * (fs0.clusterSize / 32) + fs0.clusterSize / 32 := by
    rw [List.length_append, List.length_singleton, Nat.add_mul, Nat.one_mul]
  have hgeo0 : Geo fs0 d.img.size := (K.dir h).geo.frame (K.geom h).symm
  obtain ⟨hc2, hct, hcf⟩ := allocFindV_some _ _ _ _ hinfo.hint hfind
  have hcnotin : c ∉ chain :=
    free_not_in_chain (K.dir h).link hcf (fun l hl => by rw [hlast] at hl; cases hl; exact hlv)
  -- the configurations
  have hg : SlotGeo (chain.length * (fs0.clusterSize / 32)) (chainSrc fs0 chain) :=
    slotGeo_of hgeo0 h32 (fun x hx => ((K.dir h).inTab x hx).1) (chain_nodup' (K.dir h).link)
  have hg' : SlotGeo (chain.length * (fs0.clusterSize / 32) + fs0.clusterSize / 32) (chainSrc fs0 (chain ++ [c])) := by
    rw [← hNK]
    refine slotGeo_of hgeo0 h32 (forall_mem_snoc (fun x hx => ((K.dir h).inTab x hx).1) hc2) ?_
    · rw [List.nodup_append]
      exact ⟨chain_nodup' (K.dir h).link, by simp, fun a ha b hb hab => by
        simp only [List.mem_singleton] at hb; subst hb; subst hab; exact hcnotin ha⟩
  have hdata : ∀ {ch : List Nat} {d1 : Dev} (hi : Inv ch d1) (o : Nat), d1.fs.firstDataSector * d1.fs.bps ≤ chainSrc fs0 ch o :=
    fun hi o => by rw [← chainSrc_geom (K.geom hi)]; exact chainSrc_ge _ _ _
  have hPw : ∀ (d1 d2 : Dev) (o : Nat) (bs : List Nat), Inv chain d1 →
      AllocOk (tabView d.fs d.img) d.fs.fsInfo.next d1 → WritesTo d1 d2 (chainSrc fs0 chain o) bs →
      Inv chain d2 → o + bs.length ≤ 32 * (chain.length * (fs0.clusterSize / 32)) →
      AllocOk (tabView d.fs d.img) d.fs.fsInfo.next d2 := fun d1 d2 o bs hi ha hw _ _ =>
    ha.of_tabView hw.info hw.step.geom.totalClusters (hw.tabView (K.wf hi) (K.dir hi).geo (hdata hi o))
  have W := (K.wfam chain f (fun _ h => (K.dir h).core) (fun _ h => K.stampF h)).strengthen _ hPw
  have WG := (K.wfam chain g (fun _ h => K.coreG h) (fun _ h => K.stampG h)).strengthen _ hPw
  have IO := (K.invOK chain).strengthen (AllocOk (tabView d.fs d.img) d.fs.fsInfo.next)
    (fun _ _ ha hv => ha.of_tabView (by rw [hv.fs]) (by rw [hv.fs]) (by rw [hv.fs, hv.img]))
  have O := (K.wops chain hex).strengthen (AllocOk (tabView d.fs d.img) d.fs.fsInfo.next) (fun d1 hi ha o d2 ho hr => by
      obtain ⟨d2', hr', _, _, hfs', htv', _⟩ := K.drop hi o ho
      rw [hr] at hr'
      cases hr'
      exact ha.of_tabView (by rw [hfs']) (by rw [hfs']) htv')
  have WG' := K.wfam (chain ++ [c]) g (fun _ h => K.coreG h) (fun _ h => K.stampG h)
  have O' := K.wops (chain ++ [c]) hex'
  rw [hNK] at WG' O'
  have hsub : ∀ i, i < chain.length * (fs0.clusterSize / 32) →
      chainSrc fs0 (chain ++ [c]) (32 * i) = chainSrc fs0 chain (32 * i) := by
    intro i hi
    apply chainSrc_append_old
    apply div_lt_of_lt_mul hcspos
    have := DirSim.slots_bytes h32 chain.length
    omega
  have IO' := (K.invOK (chain ++ [c])).strengthen (TvIs (allocLinkV (tabView d.fs d.img) (some last) c))
    (fun _ _ hp hv => hp.of_sameVol hv)
  have WG'' := WG'.strengthen (TvIs (allocLinkV (tabView d.fs d.img) (some last) c)) (fun d1 d2 o bs hi hp hw _ _ =>
      (hw.tabView (K.wf hi) (K.dir hi).geo (hdata hi o)).trans hp)
  have O'' := O'.strengthen (TvIs (allocLinkV (tabView d.fs d.img) (some last) c)) (fun d1 hi hp o d2 ho hr => by
      obtain ⟨d2', hr', _, _, _, htv', _⟩ := K.drop hi o (by rw [hNK]; exact ho)
      rw [hr] at hr'
      cases hr'
      exact htv'.trans hp)
  have hgsF := K.growSlot (chain := chain) f (fun _ h => (K.dir h).core) (fun _ h => K.stampF h) hdirF c last
    (tabView d.fs d.img) d.fs.fsInfo.next hlast hlv (by rw [← (K.geom h).totalClusters]; exact hfind) hu32 hfuel'
  have hgsG := K.growSlot (chain := chain) g (fun _ h => K.coreG h) (fun _ h => K.stampG h) hdirG c last
    (tabView d.fs d.img) d.fs.fsInfo.next hlast hlv (by rw [← (K.geom h).totalClusters]; exact hfind) hu32 hfuel'
  obtain ⟨d', hr, hs, hd, ⟨hinv', htv'⟩, hsl, hfr⟩ := DirSim.writeEntry_grow IO IO' hg hg' W WG WG'' hKpos hsub hgsF hgsG O O'' name raw
    hval hdot hraw d ⟨h, hinfo, rfl, rfl⟩ n p hn hp hgrow hfit
  exact ⟨d', _, hr, writeEntry_result _ raw hraw hlfn _ _ _, hs, hd, hinv', hsl, hfr, htv'⟩

end kind

section sub
variable {fs0 : FsState} {ed0 : DirEntryEditor} {c0 : Nat} {chain : List Nat} {t0 : Nat}

theorem subW_isDir (h : ed0.data.isDir = true) : (subW ed0 c0 t0).isDir = true := by
  show (ed0.setModified (clockDateTime t0)).data.isDir = true
  rw [isDir_setModified_ed]; exact h

/-- **`write_entry` in a sub-directory across one growth** -/
theorem sub_writeEntry_grow (hdirattr : ed0.data.isDir = true) (c last : Nat) (name : String) (raw : DirFileEntryData)
    (hval : Names.validateLongName name = .ok ()) (hdot : (name = "." || name = "..") = false) (hraw : raw.WF)
    (hlfn : attrsIsLfn raw.attrs = false) (d : Dev) (h : SubInv fs0 ed0 c0 chain t0 d) (hinfo : InfoOk d.fs d.img)
    (hlast : chain.getLast? = some last) (hlv : tabView d.fs d.img last ≠ .free)
    (hfind : allocFindV (tabView d.fs d.img) d.fs.fsInfo.next d.fs.totalClusters = some c)
    (hu32 : (chain.length + 1) * fs0.clusterSize < 4294967296)
    (hfuel' : (chain.length + 1) * (fs0.clusterSize / 32) < dirFuel fs0)
    (heout : ∀ i, i < chain.length * (fs0.clusterSize / 32) →
      chainSrc fs0 chain (32 * i) + 32 ≤ ed0.pos ∨ ed0.pos + 32 ≤ chainSrc fs0 chain (32 * i))
    (heout' : ∀ i, i < (chain ++ [c]).length * (fs0.clusterSize / 32) →
      chainSrc fs0 (chain ++ [c]) (32 * i) + 32 ≤ ed0.pos ∨ ed0.pos + 32 ≤ chainSrc fs0 (chain ++ [c]) (32 * i))
    (hgrow : chain.length * (fs0.clusterSize / 32) <
      DirSlots.findFree (srcSlots d.img (chainSrc fs0 chain) (chain.length * (fs0.clusterSize / 32)))
        (Lfn.numParts (Names.encodeUtf16 name.toList).length + 1) + (Lfn.numParts (Names.encodeUtf16 name.toList).length + 1))
    (hfit : DirSlots.findFree (srcSlots d.img (chainSrc fs0 chain) (chain.length * (fs0.clusterSize / 32)))
        (Lfn.numParts (Names.encodeUtf16 name.toList).length + 1) + (Lfn.numParts (Names.encodeUtf16 name.toList).length + 1) ≤
      chain.length * (fs0.clusterSize / 32) + fs0.clusterSize / 32) :
    ∃ (d' : Dev) (e : DirEntry),
      run (FatVerif.writeEntry (chainS (FileH.new (some c0) (some ed0)) chain fs0.clusterSize 0) name raw) d = (.ok e, d') ∧
      e = toDirEntryS (chainSrc fs0 (chain ++ [c])) ⟨raw.serialize, Names.encodeUtf16 name.toList,
        DirSlots.findFree (srcSlots d.img (chainSrc fs0 chain) (chain.length * (fs0.clusterSize / 32)))
          (Lfn.numParts (Names.encodeUtf16 name.toList).length + 1),
        DirSlots.findFree (srcSlots d.img (chainSrc fs0 chain) (chain.length * (fs0.clusterSize / 32)))
          (Lfn.numParts (Names.encodeUtf16 name.toList).length + 1) + (Lfn.numParts (Names.encodeUtf16 name.toList).length + 1)⟩ ∧
      VolStep d d' ∧ d'.fs.curDirty = true ∧ SubInv fs0 ed0 c0 (chain ++ [c]) t0 d' ∧
      srcSlots d'.img (chainSrc fs0 (chain ++ [c])) (chain.length * (fs0.clusterSize / 32) + fs0.clusterSize / 32) =
        DirSlots.writeEntry (srcSlots d.img (chainSrc fs0 chain) (chain.length * (fs0.clusterSize / 32)))
          (Names.encodeUtf16 name.toList) raw.serialize ++
        List.replicate (chain.length * (fs0.clusterSize / 32) + fs0.clusterSize / 32 -
          (DirSlots.findFree (srcSlots d.img (chainSrc fs0 chain) (chain.length * (fs0.clusterSize / 32)))
            (Lfn.numParts (Names.encodeUtf16 name.toList).length + 1) +
            (Lfn.numParts (Names.encodeUtf16 name.toList).length + 1))) DirSlots.zeroSlot ∧
      (∀ q, 0x42 ≤ q → OutsideFat fs0 q →
        (∀ i, i < chain.length * (fs0.clusterSize / 32) + fs0.clusterSize / 32 →
          ¬ (chainSrc fs0 (chain ++ [c]) (32 * i) ≤ q ∧ q < chainSrc fs0 (chain ++ [c]) (32 * i) + 32)) →
        ¬ subExtra ed0 q → d'.img.getByte q = d.img.getByte q) := by
  obtain ⟨d', e, hr, he, hs, hd, hinv', hsl, hfr, _⟩ := subKind.writeEntry_grow hdirattr (subW_isDir hdirattr) c last name raw
    hval hdot hraw hlfn d h hinfo hlast hlv hfind hu32 hfuel' (subExtra_apart chain heout) (subExtra_apart _ heout') _ _ rfl rfl hgrow hfit
  exact ⟨d', e, hr, he, hs, hd, hinv', hsl, hfr⟩

end sub

end FatVerif.DirSim
