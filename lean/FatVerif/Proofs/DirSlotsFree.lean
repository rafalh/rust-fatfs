import FatVerif.Model.DirSlots
import FatVerif.Proofs.LfnSlot
/-! `find_free_entries` on a slot list: what the returned index is (first fit / end marker / the trailing-run quirk). -/
namespace FatVerif
namespace DirSlots
open Lfn

/-! ### how the scan depends on its counters and on what follows the end marker -/

theorem findFreeLoop_le (num : Nat) : ∀ (L : List (List Nat)) (ff nf i : Nat), ff ≤ i →
    findFreeLoop num L ff nf i ≤ i + L.length := by
  intro L
  induction L with
  | nil => intro ff nf i h; simp only [findFreeLoop, List.length_nil]; split <;> omega
  | cons s rest ih =>
    intro ff nf i h
    simp only [findFreeLoop, List.length_cons]
    split
    · split <;> omega
    · split
      · split
        · split <;> omega
        · have := ih (if nf = 0 then i else ff) (nf + 1) (i + 1) (by split <;> omega)
          omega
      · have := ih ff 0 (i + 1) (by omega)
        omega

theorem findFree_le (slots : List (List Nat)) (num : Nat) : findFree slots num ≤ slots.length := by
  have := findFreeLoop_le num slots 0 0 0 (Nat.le_refl _)
  rwa [Nat.zero_add] at this

theorem findFreeLoop_append_ends (num : Nat) (tail : List (List Nat)) (ht : ∀ s ∈ tail, isEnd s = true) :
    ∀ (slots : List (List Nat)) (ff nf i : Nat),
      findFreeLoop num (slots ++ tail) ff nf i = findFreeLoop num slots ff nf i := by
  intro slots
  induction slots with
  | nil =>
    intro ff nf i
    cases tail with
    | nil => rfl
    | cons e r => simp only [List.nil_append, findFreeLoop, ht e (by simp), if_true]
  | cons s rest ih =>
    intro ff nf i
    simp only [List.cons_append, findFreeLoop, ih]

theorem findFree_append_ends (slots tail : List (List Nat)) (ht : ∀ s ∈ tail, isEnd s = true) (num : Nat) :
    findFree (slots ++ tail) num = findFree slots num :=
  findFreeLoop_append_ends num tail ht slots 0 0 0

/-- with no free run open, the remembered start of a run is not read -/
theorem findFreeLoop_ff_irrel (num : Nat) : ∀ (slots : List (List Nat)) (ff ff' i : Nat),
    findFreeLoop num slots ff 0 i = findFreeLoop num slots ff' 0 i := by
  intro slots
  induction slots with
  | nil => intro ff ff' i; simp [findFreeLoop]
  | cons s rest ih =>
    intro ff ff' i
    simp only [findFreeLoop, if_true]
    by_cases h1 : isEnd s = true
    · simp [h1]
    · by_cases h2 : isDeleted s = true
      · simp [h1, h2]
      · simp only [h1, h2, Bool.false_eq_true, if_false]
        exact ih ff ff' (i + 1)

theorem findFreeLoop_shift (num k : Nat) : ∀ (slots : List (List Nat)) (ff nf i : Nat),
    findFreeLoop num slots (ff + k) nf (i + k) = findFreeLoop num slots ff nf i + k := by
  intro slots
  induction slots with
  | nil =>
    intro ff nf i
    simp only [findFreeLoop]
    split <;> rfl
  | cons s rest ih =>
    intro ff nf i
    have e1 : (if nf = 0 then i + k else ff + k) = (if nf = 0 then i else ff) + k := by split <;> rfl
    have e2 : i + k + 1 = (i + 1) + k := by omega
    simp only [findFreeLoop, e1, e2, ih]
    by_cases h1 : isEnd s = true
    · simp [h1]
    · by_cases h2 : isDeleted s = true
      · by_cases h3 : nf + 1 = num
        · simp [h1, h2, h3]
        · simp [h1, h2, h3]
      · simp [h1, h2]

/-- a live slot in front moves the position found by one -/
theorem findFree_cons_live (s : List Nat) (slots : List (List Nat)) (num : Nat) (h1 : isEnd s = false)
    (h2 : isDeleted s = false) : findFree (s :: slots) num = findFree slots num + 1 := by
  unfold findFree
  simp only [findFreeLoop, h1, h2, Bool.false_eq_true, if_false]
  rw [findFreeLoop_ff_irrel num slots 0 (0 + 1) (0 + 1)]
  exact findFreeLoop_shift num 1 slots 0 0 0

/-! ### where the scan stops -/

/-- deleted slots already counted when the scan has not yet passed a used slot -/
def carried (U : List (List Nat)) (nf : Nat) : Nat :=
  match U with
  | [] => nf
  | _ :: _ => 0

@[simp] theorem carried_nil (nf : Nat) : carried [] nf = nf := rfl
@[simp] theorem carried_cons (u : List Nat) (U : List (List Nat)) (nf : Nat) : carried (u :: U) nf = 0 := rfl

/-- the rest of the directory starts with an end marker (or is the end of the stream) -/
def EndsHere (rest : List (List Nat)) : Prop := rest = [] ∨ ∃ r rs, rest = r :: rs ∧ isEnd r = true

/-- **Loop invariant of `find_free_entries`.**  From a state with `nf < num` deleted slots already counted
    (`ff = i - nf` their start), the scan splits the remaining slots into `U` (up to and including the last used slot
    before the answer), `D` (deleted slots) and `rest`; the answer is the start of the counted run; either the run is
    complete, or the end marker was reached first; no earlier window of `num` deleted slots was passed. -/
theorem findFreeLoop_spec (num : Nat) : ∀ (slots : List (List Nat)) (ff nf i : Nat), nf < num →
    (0 < nf → ff + nf = i) →
    ∃ U D rest, slots = U ++ D ++ rest ∧ (∀ s ∈ U ++ D, isEnd s = false) ∧ (∀ s ∈ D, isDeleted s = true) ∧
      (U ≠ [] → ∃ U' u, U = U' ++ [u] ∧ isDeleted u = false) ∧
      findFreeLoop num slots ff nf i = i + U.length - carried U nf ∧
      (carried U nf + D.length = num ∨ (carried U nf + D.length < num ∧ EndsHere rest)) ∧
      (∀ j k, j + k ≤ U.length → (∀ t, t < k → isDeleted (U.getD (j + t) []) = true) →
        (if j = 0 then nf + k else k) < num) := by
  intro slots
  -- with `U = []` no window has been passed
  have nowin : ∀ {nf}, nf < num → ∀ j k, j + k ≤ ([] : List (List Nat)).length →
      (∀ t, t < k → isDeleted (([] : List (List Nat)).getD (j + t) []) = true) →
      (if j = 0 then nf + k else k) < num := fun hnf j k hjk _ => by
    obtain ⟨rfl, rfl⟩ : j = 0 ∧ k = 0 := by simpa using hjk
    simpa using hnf
  -- a window that starts after the first slot of `s :: U` is a window of `U`
  have shift : ∀ {s : List Nat} {U : List (List Nat)} {nf' : Nat},
      (∀ j k, j + k ≤ U.length → (∀ t, t < k → isDeleted (U.getD (j + t) []) = true) →
        (if j = 0 then nf' + k else k) < num) →
      ∀ j k, j + 1 + k ≤ (s :: U).length → (∀ t, t < k → isDeleted ((s :: U).getD (j + 1 + t) []) = true) →
        k < num := fun h7 j k hjk hall => by
    have := h7 j k (by simpa [Nat.add_right_comm] using hjk) fun t ht => by
      simpa [Nat.add_right_comm j 1 t] using hall t ht
    split at this <;> omega
  induction slots with
  | nil =>
    intro ff nf i hnf hff
    refine ⟨[], [], [], rfl, by simp, by simp, by simp, ?_, Or.inr ⟨by simpa using hnf, Or.inl rfl⟩, nowin hnf⟩
    simp only [findFreeLoop, carried_nil, List.length_nil, Nat.add_zero]
    split <;> omega
  | cons s t ih =>
    intro ff nf i hnf hff
    by_cases hE : isEnd s = true
    · refine ⟨[], [], s :: t, rfl, by simp, by simp, by simp, ?_,
        Or.inr ⟨by simpa using hnf, Or.inr ⟨s, t, rfl, hE⟩⟩, nowin hnf⟩
      simp only [findFreeLoop, hE, if_true, carried_nil, List.length_nil, Nat.add_zero]
      split <;> omega
    · have hE' : isEnd s = false := by simpa using hE
      by_cases hD : isDeleted s = true
      · by_cases hfull : nf + 1 = num
        · -- the run is complete with this slot
          refine ⟨[], [s], t, rfl, by simp [hE'], by simp [hD], by simp, ?_, Or.inl (by simpa using hfull),
            nowin hnf⟩
          simp only [findFreeLoop, hE', hD, hfull, if_true, Bool.false_eq_true, if_false, carried_nil,
            List.length_nil, Nat.add_zero]
          split <;> omega
        · obtain ⟨U, D, rest, h1, h2, h3, h4, h5, h6, h7⟩ :=
            ih (if nf = 0 then i else ff) (nf + 1) (i + 1) (by omega) (by intro _; split <;> omega)
          have hloop : findFreeLoop num (s :: t) ff nf i =
              findFreeLoop num t (if nf = 0 then i else ff) (nf + 1) (i + 1) := by
            simp [findFreeLoop, hE', hD, hfull]
          cases U with
          | nil =>
            refine ⟨[], s :: D, rest, by simp [h1], List.forall_mem_cons.2 ⟨hE', h2⟩,
              List.forall_mem_cons.2 ⟨hD, h3⟩, by simp, by rw [hloop, h5]; simp, ?_, nowin hnf⟩
            simp only [carried_nil, List.length_cons] at h6 ⊢
            exact h6.imp (by omega) (And.imp_left (by omega))
          | cons u U =>
            refine ⟨s :: u :: U, D, rest, by simp [h1], List.forall_mem_cons.2 ⟨hE', h2⟩, h3, fun _ => ?_,
              by rw [hloop, h5]; simp; omega, by simpa using h6, fun j k hjk hall => ?_⟩
            · obtain ⟨U', w, e1, e2⟩ := h4 (by simp)
              exact ⟨s :: U', w, by simp [e1], e2⟩
            · cases j with
              | succ j => simpa using shift h7 j k hjk hall
              | zero =>
                cases k with
                | zero => simpa using hnf
                | succ k =>
                  have := h7 0 k (by simp at hjk ⊢; omega) fun t ht => by
                    simpa [List.getD_cons_succ] using hall (t + 1) (by omega)
                  simp at this ⊢; omega
      · -- a used slot: counting restarts
        have hD' : isDeleted s = false := by simpa using hD
        obtain ⟨U, D, rest, h1, h2, h3, h4, h5, h6, h7⟩ := ih ff 0 (i + 1) (by omega) (by intro h; omega)
        have hloop : findFreeLoop num (s :: t) ff nf i = findFreeLoop num t ff 0 (i + 1) := by
          simp [findFreeLoop, hE', hD']
        refine ⟨s :: U, D, rest, by simp [h1], List.forall_mem_cons.2 ⟨hE', h2⟩, h3, fun _ => ?_, ?_, ?_,
          fun j k hjk hall => ?_⟩
        · cases U with
          | nil => exact ⟨[], s, rfl, hD'⟩
          | cons u U =>
            obtain ⟨U', w, e1, e2⟩ := h4 (by simp)
            exact ⟨s :: U', w, by simp [e1], e2⟩
        · rw [hloop, h5]
          cases U <;> simp <;> omega
        · cases U <;> simpa using h6
        · cases j with
          | succ j => simpa using shift h7 j k hjk hall
          | zero =>
            cases k with
            | zero => simpa using hnf
            | succ k => simpa [hD'] using hall 0 (by omega)

/-- a slot index is free: a deleted slot before the first end marker, or anything from the first end marker on
    (the end of the list counts as end marker) -/
def FreeAt (slots : List (List Nat)) (i : Nat) : Prop :=
  (isDeleted (slots.getD i []) = true ∧ ∀ e, e ≤ i → isEnd (slots.getD e []) = false) ∨
  ∃ e, e ≤ i ∧ isEnd (slots.getD e []) = true

/-- top-level reading of the invariant -/
theorem findFree_spec (slots : List (List Nat)) (num : Nat) (hnum : 1 ≤ num) :
    ∃ U D rest, slots = U ++ D ++ rest ∧ (∀ s ∈ U ++ D, isEnd s = false) ∧ (∀ s ∈ D, isDeleted s = true) ∧
      (U ≠ [] → ∃ U' u, U = U' ++ [u] ∧ isDeleted u = false) ∧
      findFree slots num = U.length ∧
      (D.length = num ∨ (D.length < num ∧ EndsHere rest)) ∧
      (∀ j k, j + k ≤ U.length → (∀ t, t < k → isDeleted (U.getD (j + t) []) = true) → k < num) := by
  obtain ⟨U, D, rest, h1, h2, h3, h4, h5, h6, h7⟩ := findFreeLoop_spec num slots 0 0 0 (by omega) (by omega)
  refine ⟨U, D, rest, h1, h2, h3, h4, ?_, ?_, ?_⟩
  · unfold findFree; rw [h5]; cases U <;> simp
  · cases U <;> simpa using h6
  · intro j k hjk hall
    have := h7 j k hjk hall
    split at this <;> omega

theorem getD_append_left' (A B : List (List Nat)) (i : Nat) (h : i < A.length) :
    (A ++ B).getD i [] = A.getD i [] := by
  simp [List.getD_eq_getElem?_getD, List.getElem?_append_left h]

theorem getD_mem' (A : List (List Nat)) (i : Nat) (h : i < A.length) : A.getD i [] ∈ A := by
  rw [getD_eq_getElem _ _ _ h]; exact List.getElem_mem h

end DirSlots
end FatVerif
