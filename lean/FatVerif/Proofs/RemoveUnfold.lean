import FatVerif.Model.DirOps
/-! The unfolding equation of `remove`, by `rfl`. (`unfold remove` / `rw [remove]` make Lean derive `remove.eq_2`, whose
    generated proof takes the kernel several seconds, again in every module that is the first on its import path to ask
    for it.) -/
namespace FatVerif

theorem remove_succ (env : Env) (fuel : Nat) (d : DirStream) (path : String) :
    remove env (fuel + 1) d path = (do
    let fs ← Prog.getFs
    let (name, rest) := Names.splitPath path
    match rest with
    | some rest => do
      let e ← findEntry env d name (some true)
      let sub ← e.toDir fs
      thenDrop sub (remove env fuel sub rest)
    | none =>
      if name = "." || name = ".." then .fail .invalidInput else do
      let e ← findEntry env d name none
      let nonEmpty ← (if e.isDir then do
          let sub ← e.toDir fs
          let emp ← thenDrop sub (isEmpty sub)
          pure (!emp)
        else pure false)
      if nonEmpty then .fail .dirNotEmpty
      else do
        match e.firstCluster fs with
        | some n => freeClusterChain n
        | none => pure ()
        deleteEntry d e) := rfl

end FatVerif
