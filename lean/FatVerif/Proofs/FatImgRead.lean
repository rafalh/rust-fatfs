import FatVerif.Proofs.FatImgBytes
import FatVerif.Props.C10slice
import FatVerif.Proofs.LogReplay
import FatVerif.Proofs.FileSimRun
/-! Reading the FAT through a `DiskSlice`: programs that only read keep the bytes (`SameBytes`) and, on a fault-free
    device, the whole store (`ReadOps`); what the little-endian readers return in terms of the window's byte array
    `fatBytes`. -/
namespace FatVerif
open FatVerif.Fat

/-- the image bytes, the image size and the mounted state are the same, and the image of `d'` is well formed (log,
    counters and the device position may differ) -/
def SameBytes (d d' : Dev) : Prop := (∀ q, d'.img.getByte q = d.img.getByte q) ∧ d'.fs = d.fs ∧ d'.img.WF ∧
  d'.img.size = d.img.size

theorem SameBytes.refl {d : Dev} (h : d.img.WF) : SameBytes d d := ⟨fun _ => rfl, rfl, h, rfl⟩

theorem SameBytes.trans {a b c : Dev} (h1 : SameBytes a b) (h2 : SameBytes b c) : SameBytes a c :=
  ⟨fun q => (h2.1 q).trans (h1.1 q), h2.2.1.trans h1.2.1, h2.2.2.1, h2.2.2.2.trans h1.2.2.2⟩

theorem SameBytes.bytes {d d' : Dev} (h : SameBytes d d') (B Z : Nat) : fatBytes B Z d'.img = fatBytes B Z d.img :=
  fatBytes_congr B Z d.img d'.img (fun i _ => h.1 _)

theorem SameBytes.of_eq {d d' : Dev} (hw : d.img.WF) (hi : d'.img = d.img) (hf : d'.fs = d.fs) : SameBytes d d' :=
  ⟨fun _ => by rw [hi], hf, by rw [hi]; exact hw, by rw [hi]⟩

/-- a program without write operations leaves the store alone, whatever its outcome -/
theorem quiet_sameBytes {α} {p : Prog α} (hq : QuietOps p) {d d' : Dev} {r : Except Err α} (hw : d.img.WF)
    (hr : run p d = (r, d')) : SameBytes d d' := by
  have hsw := noWriteOps_sound hq.noWriteOps d hr
  have := img_after_quiet hr hw hsw.2
  exact ⟨this.2, quietOps_fs hq d hr, this.1, run_img_size _ _ _ _ hr⟩

/-! ### programs that only read

`QuietOps` admits `flush`, which leaves a mark in the log; the table scans do not even flush, so on a fault-free device
they keep the whole store (`SameStore`), whatever their outcome. The judgement also records which errors the program
raises itself (`F`): every other error of a run is an I/O error of a device call. -/

def Op.isRead : Op → Bool
  | .read _ => true
  | .seek (.start _) => true
  | .getFs => true
  | _ => false

/-- only `read`, `seek(Start ..)` and `getFs` nodes, no handler, no destructor scope; `fail e` only with `F e` -/
inductive ReadOps (F : Err → Prop) : {α : Type} → Prog α → Prop where
  | pure {α} (a : α) : ReadOps F (Prog.pure a)
  | fail {α} (e : Err) : F e → ReadOps F (Prog.fail (α := α) e)
  | op (o : Op) : o.isRead = true → ReadOps F (Prog.op o)
  | bind {α β} (p : Prog β) (k : β → Prog α) : ReadOps F p → (∀ b, ReadOps F (k b)) → ReadOps F (Prog.bind p k)

theorem ReadOps.sameStore {F : Err → Prop} {α} {p : Prog α} (hp : ReadOps F p) : ∀ (d : Dev) {r d'},
    d.failAt = none → run p d = (r, d') → SameStore d d' := by
  induction hp with
  | pure a => intro d r d' _ h; cases h; exact SameStore.refl d
  | fail e _ => intro d r d' _ h; cases h; exact SameStore.refl d
  | op o ho =>
    intro d r d' hfa h
    cases o with
    | read n => rw [show run (Prog.op (.read n)) d = _ from run_read n d hfa] at h; cases h; exact sameStore_didRead _ _
    | seek p =>
      cases p with
      | start n =>
        rw [show run (Prog.op (.seek (.start n))) d = _ from run_seekStart n d hfa] at h
        cases h; exact sameStore_didSeek _ _
      | cur _ => cases ho
      | fromEnd _ => cases ho
    | getFs => cases h; exact SameStore.refl d
    | write _ => cases ho
    | flush => cases ho
    | now => cases ho
    | today => cases ho
    | setFs _ => cases ho
  | bind p k _ _ ihp ihk =>
    intro d r d' hfa h
    rcases run_bind_cases h with ⟨b, d1, h1, h2⟩ | ⟨e, h1, _⟩
    · have s1 := ihp d hfa h1
      exact s1.trans (ihk b d1 (s1.failAt.trans hfa) h2)
    · exact ihp d hfa h1

theorem stepOp_err_io (o : Op) (d : Dev) {e d'} (hr : stepOp o d = (.error e, d')) : ∃ k, e = .io k := by
  have dc : ∀ {β} (k : CallKind) (d0 : Dev) (act : Dev → Except Err β × Dev),
      (∀ d1 e d2, act d1 = (.error e, d2) → ∃ k, e = .io k) →
      ∀ {e d'}, devCall k d0 act = (.error e, d') → ∃ k, e = .io k := by
    intro β k d0 act hact e d' h
    unfold devCall devCallCore at h
    split at h
    · cases h; exact ⟨_, rfl⟩
    · exact hact _ _ _ h
  cases o with
  | read n => simp only [stepOp] at hr; exact dc _ _ _ (by intro d1 e d2 h; cases h) hr
  | write bs => simp only [stepOp] at hr; exact dc _ _ _ (by intro d1 e d2 h; cases h) hr
  | seek p =>
    simp only [stepOp] at hr
    refine dc _ _ _ ?_ hr
    intro d1 e d2 h
    cases p with
    | start n => cases h
    | cur x => simp only at h; split at h <;> cases h; exact ⟨_, rfl⟩
    | fromEnd x => simp only at h; split at h <;> cases h; exact ⟨_, rfl⟩
  | flush => simp only [stepOp] at hr; exact dc _ _ _ (by intro d1 e d2 h; cases h) hr
  | now => simp only [stepOp] at hr; cases hr
  | today => simp only [stepOp] at hr; cases hr
  | getFs => simp only [stepOp] at hr; cases hr
  | setFs fs => simp only [stepOp] at hr; cases hr

/-- the error a run ends with is one the program raises, or the I/O error of a device call -/
theorem ReadOps.err {F : Err → Prop} {α} {p : Prog α} (hp : ReadOps F p) : ∀ (d : Dev) {e d'},
    run p d = (.error e, d') → F e ∨ ∃ k, e = .io k := by
  induction hp with
  | pure a => intro d e d' h; cases h
  | fail e he => intro d e' d' h; cases h; exact Or.inl he
  | op o _ => intro d e d' h; exact Or.inr (stepOp_err_io o d h)
  | bind p k _ _ ihp ihk =>
    intro d e d' h
    rcases run_bind_cases h with ⟨b, d1, _, h2⟩ | ⟨e1, h1, he⟩
    · exact ihk b d1 h2
    · cases he; exact ihp d h1

/-- a program that reads and does not raise `NotEnoughSpace` itself never ends with it -/
theorem ReadOps.ne_noSpace {α} {p : Prog α} (hp : ReadOps (· ≠ .noSpace) p) {d : Dev} {r d'} (hr : run p d = (r, d')) :
    r ≠ .error .noSpace := by
  intro h
  rw [h] at hr
  rcases hp.err d hr with h | ⟨k, h⟩
  · exact h rfl
  · cases h

section
variable {σ : Type} {S : Strm σ} {F : Err → Prop}

/-- a stream whose `read` and `seek` only read -/
structure StrmReads (F : Err → Prop) (S : Strm σ) : Prop where
  read : ∀ s n, ReadOps F (S.read s n)
  seek : ∀ s p, ReadOps F (S.seek s p)
  hang : F .hang
  eof : F S.eofErr

theorem readExactLoop_reads (hS : StrmReads F S) : ∀ fuel s n acc, ReadOps F (readExactLoop S fuel s n acc)
  | 0, _, _, _ => .fail _ hS.hang
  | fuel + 1, s, n, acc => by
    unfold readExactLoop
    split
    · exact .pure _
    · refine .bind _ _ (hS.read s n) fun x => ?_
      dsimp only
      split
      · exact .fail _ hS.eof
      · exact readExactLoop_reads hS fuel _ _ _

theorem readU8_reads (hS : StrmReads F S) (s : σ) : ReadOps F (readU8 S s) :=
  .bind _ _ (readExactLoop_reads hS _ _ _ _) fun _ => .pure _

theorem readU16_reads (hS : StrmReads F S) (s : σ) : ReadOps F (readU16 S s) :=
  .bind _ _ (readExactLoop_reads hS _ _ _ _) fun _ => .pure _

theorem readU32_reads (hS : StrmReads F S) (s : σ) : ReadOps F (readU32 S s) :=
  .bind _ _ (readExactLoop_reads hS _ _ _ _) fun _ => .pure _

end

/-- a `DiskSlice` only reads; of its own it raises `InvalidInput` (seek), `UnexpectedEof` and the loop guard -/
theorem DiskSlice.strm_reads : StrmReads (· ≠ .noSpace) DiskSlice.strm where
  read s n := by
    have hi : ∀ q, ReadOps (· ≠ .noSpace) (s.inner.seek () (.start q)) ∧ ReadOps (· ≠ .noSpace) (s.inner.read () q) :=
      fun q => by
        unfold DiskSlice.inner
        split <;> exact ⟨.bind _ _ (.op _ rfl) fun _ => .pure _, .bind _ _ (.op _ rfl) fun _ => .pure _⟩
    exact .bind _ _ (hi _).1 fun _ => .bind _ _ (hi _).2 fun _ => .pure _
  seek s p := by
    show ReadOps _ (DiskSlice.seek s p)
    unfold DiskSlice.seek
    dsimp only
    split
    · split
      · exact .fail _ nofun
      · exact .pure _
    · exact .fail _ nofun
  hang := nofun
  eof := nofun

section window
variable {s0 : DiskSlice}

theorem slice_readN_at {s : DiskSlice} (hs : SliceInv s0 s) (n : Nat) (d : Dev) (hw : d.img.WF)
    (hdev : s0.beginOff + s0.size ≤ d.img.size) {bs : List Nat} {s' : DiskSlice} {d' : Dev}
    (hr : run (readExact DiskSlice.strm s n) d = (.ok (bs, s'), d')) :
    s.offset + n ≤ s0.size ∧ (∀ k, k < n → bs.getD k 0 = rd (fatBytes s0.beginOff s0.size d.img) (s.offset + k)) ∧
    s' = { s with offset := s.offset + n } ∧ SliceInv s0 s' ∧ SameBytes d d' := by
  obtain ⟨h1, h2, h3, h4, h5⟩ := slice_readExact_ok s n d hs.le (by rw [hs.beginOff, hs.size]; exact hdev) hr
  rw [hs.size] at h1
  refine ⟨h1, ?_, h3, ?_, SameBytes.of_eq hw h4 h5⟩
  · intro k hk
    rw [h2, Img.read_getD _ _ _ _ hk, rd_fatBytes, if_pos (by omega), hs.beginOff, Nat.add_assoc]
  · rw [h3]; exact ⟨hs.beginOff, hs.size, hs.mirrors, hs.viaFs, by show s.offset + n ≤ s.size; rw [hs.size]; exact h1⟩

theorem slice_readU8_at {s : DiskSlice} (hs : SliceInv s0 s) (d : Dev) (hw : d.img.WF)
    (hdev : s0.beginOff + s0.size ≤ d.img.size) {v : Nat} {s' : DiskSlice} {d' : Dev}
    (hr : run (readU8 DiskSlice.strm s) d = (.ok (v, s'), d')) :
    s.offset + 1 ≤ s0.size ∧ v = rd (fatBytes s0.beginOff s0.size d.img) s.offset ∧
    s' = { s with offset := s.offset + 1 } ∧ SliceInv s0 s' ∧ SameBytes d d' := by
  unfold readU8 at hr
  obtain ⟨⟨bs, s1⟩, d1, h1, h2⟩ := run_bind_ok_inv hr
  obtain ⟨a, b, c, e, f⟩ := slice_readN_at hs 1 d hw hdev h1
  obtain ⟨h3, rfl⟩ := run_pure_ok_inv h2
  cases h3
  exact ⟨a, by rw [b 0 (by omega)]; rfl, c, e, f⟩

theorem slice_readU16_at {s : DiskSlice} (hs : SliceInv s0 s) (d : Dev) (hw : d.img.WF)
    (hdev : s0.beginOff + s0.size ≤ d.img.size) {v : Nat} {s' : DiskSlice} {d' : Dev}
    (hr : run (readU16 DiskSlice.strm s) d = (.ok (v, s'), d')) :
    s.offset + 2 ≤ s0.size ∧ v = rd16 (fatBytes s0.beginOff s0.size d.img) s.offset ∧
    s' = { s with offset := s.offset + 2 } ∧ SliceInv s0 s' ∧ SameBytes d d' := by
  unfold readU16 at hr
  obtain ⟨⟨bs, s1⟩, d1, h1, h2⟩ := run_bind_ok_inv hr
  obtain ⟨a, b, c, e, f⟩ := slice_readN_at hs 2 d hw hdev h1
  obtain ⟨h3, rfl⟩ := run_pure_ok_inv h2
  cases h3
  refine ⟨a, ?_, c, e, f⟩
  rw [b 0 (by omega), b 1 (by omega)]; rfl

theorem slice_readU32_at {s : DiskSlice} (hs : SliceInv s0 s) (d : Dev) (hw : d.img.WF)
    (hdev : s0.beginOff + s0.size ≤ d.img.size) {v : Nat} {s' : DiskSlice} {d' : Dev}
    (hr : run (readU32 DiskSlice.strm s) d = (.ok (v, s'), d')) :
    s.offset + 4 ≤ s0.size ∧ v = rd32 (fatBytes s0.beginOff s0.size d.img) s.offset ∧
    s' = { s with offset := s.offset + 4 } ∧ SliceInv s0 s' ∧ SameBytes d d' := by
  unfold readU32 at hr
  obtain ⟨⟨bs, s1⟩, d1, h1, h2⟩ := run_bind_ok_inv hr
  obtain ⟨a, b, c, e, f⟩ := slice_readN_at hs 4 d hw hdev h1
  obtain ⟨h3, rfl⟩ := run_pure_ok_inv h2
  cases h3
  refine ⟨a, ?_, c, e, f⟩
  rw [b 0 (by omega), b 1 (by omega), b 2 (by omega), b 3 (by omega)]; rfl

end window
end FatVerif
