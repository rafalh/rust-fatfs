import FatVerif.Proofs.DirReadStream
import FatVerif.Props.C16dir
/-! Directory reads, entry layer: `DirIter::read_dir_entry`, the listing loop, `Dir::iter`, `find_entry`,
    `check_for_existence` on a directory stream described by a `DirSrcK` (a byte source of `32 * N` bytes whose streams
    answer `seek(Current(0))`, `abs_pos` and can be dropped) = the pure reader `Lfn.readLoop` and the pure scans of
    `DirAlias` on the slots `srcSlots` of the image. -/
namespace FatVerif.DirSim
open DirEntryData DirAlias

/-! ### `DirEntryData::deserialize` classifies a slot as `slotClass` does -/

theorem take11_getD0 (raw : List Nat) : (raw.take 11).getD 0 0 = raw.getD 0 0 := by
  cases raw <;> simp [List.getD]

theorem deser_isEnd (raw : List Nat) : (deserialize raw).isEnd = Lfn.isEnd raw := by
  unfold deserialize
  split <;> simp [DirEntryData.isEnd, DirFileEntryData.isEnd, DirLfnEntryData.isEnd, deserializeFile, deserializeLfn,
    Lfn.isEnd, Lfn.byte, u8At]

theorem deser_isDeleted (raw : List Nat) : (deserialize raw).isDeleted = Lfn.isDeleted raw := by
  unfold deserialize
  split <;> simp [DirEntryData.isDeleted, DirFileEntryData.isDeleted, DirLfnEntryData.isDeleted, deserializeFile,
    deserializeLfn, Lfn.isDeleted, Lfn.byte, u8At]

theorem deser_lfn (raw : List Nat) : attrsIsLfn (attrsTruncate (u8At raw 11)) = Lfn.isLfn raw := by
  rw [attrsIsLfn_eq, attrsTruncate_eq]; rfl

theorem deser_volume (raw : List Nat) :
    (deserializeFile raw (attrsTruncate (u8At raw 11))).isVolume = Lfn.isVolume raw := by
  rw [DirFileEntryData.isVolume_eq, deserializeFile, attrsTruncate_eq]; rfl

theorem take11_sfnName (raw : List Nat) (hl : 11 ≤ raw.length) : raw.take 11 = Lfn.sfnName raw := by
  apply List.ext_getElem
  · simp [Lfn.sfnName]; omega
  · intro i h1 h2
    simp only [List.length_take] at h1
    simp [Lfn.sfnName, Lfn.byte, List.getD_eq_getElem?_getD, List.getElem?_eq_getElem (show i < raw.length by omega)]

theorem zero_isEnd : Lfn.isEnd (List.replicate 32 0) = true := by decide

/-! ### one `DirIter::next` on a list of slots -/

/-- one call of `read_dir_entry` on the slots `L` (head at index `i`): the entry found, if any, and the index the
    stream stands at afterwards (`[]`: the read at the end of the region does not advance the stream) -/
def nextEntry (alloc skipVolume : Bool) : List (List Nat) → Nat → Nat → LongNameBuilder → Option LfnEntry × Nat
  | [], i, _, _ => (none, i)
  | s :: rest, i, bi, b =>
    match slotClass s with
    | .endMark => (none, i + 1)
    | .deleted => nextEntry alloc skipVolume rest (i + 1) (i + 1) (b.clear alloc)
    | .lfn => nextEntry alloc skipVolume rest (i + 1) bi (b.process alloc s)
    | .volume =>
      if skipVolume then nextEntry alloc skipVolume rest (i + 1) (i + 1) (b.clear alloc)
      else (some ⟨s, b.finish alloc (Lfn.sfnName s), bi, i + 1⟩, i + 1)
    | .file => (some ⟨s, b.finish alloc (Lfn.sfnName s), bi, i + 1⟩, i + 1)

/-- the index after `nextEntry` lies in `(i, i + |L|]` when an entry was found -/
theorem nextEntry_idx (alloc sv : Bool) : ∀ (L : List (List Nat)) (i bi : Nat) (b : LongNameBuilder),
    i ≤ (nextEntry alloc sv L i bi b).2 ∧ (nextEntry alloc sv L i bi b).2 ≤ i + L.length ∧
    (∀ e, (nextEntry alloc sv L i bi b).1 = some e → e.endIdx = (nextEntry alloc sv L i bi b).2 ∧ i < e.endIdx) := by
  intro L
  induction L with
  | nil => intro i bi b; simp [nextEntry]
  | cons s rest ih =>
    intro i bi b
    -- the slot is skipped: the call goes on behind it
    have skip : ∀ bi' b', i ≤ (nextEntry alloc sv rest (i + 1) bi' b').2 ∧
        (nextEntry alloc sv rest (i + 1) bi' b').2 ≤ i + (s :: rest).length ∧
        (∀ e, (nextEntry alloc sv rest (i + 1) bi' b').1 = some e →
          e.endIdx = (nextEntry alloc sv rest (i + 1) bi' b').2 ∧ i < e.endIdx) := by
      intro bi' b'
      have := ih (i + 1) bi' b'
      simp only [List.length_cons]
      exact ⟨by omega, by omega, fun e he => ⟨(this.2.2 e he).1, by have := (this.2.2 e he).2; omega⟩⟩
    have found : ∀ e : LfnEntry, e.endIdx = i + 1 → i ≤ i + 1 ∧ i + 1 ≤ i + (s :: rest).length ∧
        (∀ e', some e = some e' → e'.endIdx = i + 1 ∧ i < e'.endIdx) := by
      intro e he
      simp only [List.length_cons]
      exact ⟨by omega, by omega, fun e' h => by cases h; exact ⟨he, by omega⟩⟩
    unfold nextEntry
    cases slotClass s with
    | endMark => simp
    | deleted => exact skip _ _
    | lfn => exact skip _ _
    | volume =>
      dsimp only
      split
      · exact skip _ _
      · exact found _ rfl
    | file => exact found _ rfl

/-- the pure reader is the iteration of `nextEntry`, each call starting with a fresh builder at the index where the
    previous one stopped -/
theorem readLoop_eq_next (alloc sv : Bool) : ∀ (L : List (List Nat)) (i bi : Nat) (b : LongNameBuilder),
    Lfn.readLoop alloc sv L i bi b =
      match (nextEntry alloc sv L i bi b).1 with
      | none => []
      | some e => e :: Lfn.readLoop alloc sv (L.drop (e.endIdx - i)) e.endIdx e.endIdx (LongNameBuilder.new alloc) := by
  intro L
  induction L with
  | nil => intro i bi b; simp [nextEntry, Lfn.readLoop]
  | cons s rest ih =>
    intro i bi b
    have skip : ∀ bi' b', Lfn.readLoop alloc sv rest (i + 1) bi' b' =
        match (nextEntry alloc sv rest (i + 1) bi' b').1 with
        | none => []
        | some e => e :: Lfn.readLoop alloc sv ((s :: rest).drop (e.endIdx - i)) e.endIdx e.endIdx
            (LongNameBuilder.new alloc) := by
      intro bi' b'
      rw [ih]
      cases hn : (nextEntry alloc sv rest (i + 1) bi' b').1 with
      | none => rfl
      | some e =>
        have := ((nextEntry_idx alloc sv rest (i + 1) bi' b').2.2 e hn).2
        simp only
        rw [show e.endIdx - i = (e.endIdx - (i + 1)) + 1 by omega, List.drop_succ_cons]
    conv => lhs; unfold Lfn.readLoop
    unfold nextEntry
    cases hc : slotClass s with
    | endMark => simp
    | deleted => exact skip _ _
    | lfn => exact skip _ _
    | volume =>
      simp only
      split
      · exact skip _ _
      · simp only
        rw [show i + 1 - i = 1 by omega]
        rfl
    | file =>
      simp only
      rw [show i + 1 - i = 1 by omega]
      rfl

/-- every entry the pure reader yields: its short slot is one of the slots read; its slot range lies inside them
    (from the builder's start `bi ≤ i` on) and is not empty -/
theorem readLoop_mem (alloc sv : Bool) : ∀ (L : List (List Nat)) (i bi : Nat) (b : LongNameBuilder),
    ∀ e ∈ Lfn.readLoop alloc sv L i bi b,
      e.sfn ∈ L ∧ (bi ≤ i → bi ≤ e.beginIdx ∧ e.beginIdx < e.endIdx ∧ e.endIdx ≤ i + L.length) := by
  intro L
  induction L with
  | nil => intro i bi b e he; simp [Lfn.readLoop] at he
  | cons sl rest ih =>
    intro i bi b e he
    -- the entry comes from the slots behind `sl`, read with the builder started at `bi'` (`bi` or `i + 1`)
    have later : ∀ bi' b', (bi ≤ i → bi ≤ bi' ∧ bi' ≤ i + 1) → e ∈ Lfn.readLoop alloc sv rest (i + 1) bi' b' →
        e.sfn ∈ sl :: rest ∧ (bi ≤ i → bi ≤ e.beginIdx ∧ e.beginIdx < e.endIdx ∧ e.endIdx ≤ i + (sl :: rest).length) := by
      intro bi' b' hbi' h
      obtain ⟨h1, h2⟩ := ih (i + 1) bi' b' e h
      refine ⟨List.mem_cons_of_mem _ h1, fun hbi => ?_⟩
      have := h2 (hbi' hbi).2
      have := (hbi' hbi).1
      simp only [List.length_cons]
      omega
    -- or it is the entry whose short slot is `sl`
    have here : ∀ nm, e = ⟨sl, nm, bi, i + 1⟩ →
        e.sfn ∈ sl :: rest ∧ (bi ≤ i → bi ≤ e.beginIdx ∧ e.beginIdx < e.endIdx ∧ e.endIdx ≤ i + (sl :: rest).length) := by
      rintro nm rfl
      exact ⟨List.mem_cons_self .., fun _ => by simp only [List.length_cons]; omega⟩
    rw [Lfn.readLoop_cons] at he
    cases ha : Lfn.act sv sl <;> rw [ha] at he
    · cases he
    · exact later _ _ (fun _ => by omega) he
    · exact later _ _ (fun _ => by omega) he
    · rcases List.mem_cons.mp he with h | he
      · exact here _ h
      · exact later _ _ (fun _ => by omega) he

theorem readLoop_sfn_mem (alloc sv : Bool) (L : List (List Nat)) (i bi : Nat) (b : LongNameBuilder) (e : LfnEntry)
    (h : e ∈ Lfn.readLoop alloc sv L i bi b) : e.sfn ∈ L :=
  (readLoop_mem alloc sv L i bi b e h).1

/-- the slot range of every entry the pure reader yields lies inside the slots read, and is not empty -/
theorem readLoop_bounds (alloc sv : Bool) (L : List (List Nat)) (i bi : Nat) (b : LongNameBuilder) (hbi : bi ≤ i) :
    ∀ e ∈ Lfn.readLoop alloc sv L i bi b, bi ≤ e.beginIdx ∧ e.beginIdx < e.endIdx ∧ e.endIdx ≤ i + L.length :=
  fun e he => (readLoop_mem alloc sv L i bi b e he).2 hbi

/-! ### the slots of a directory in the image, and the library's entries -/

/-- the 32-byte records of the directory in the image -/
def srcSlots (img : Img) (src : Nat → Nat) (N : Nat) : List (List Nat) :=
  (List.range N).map fun j => img.read (src (32 * j)) 32

theorem srcSlots_length (img : Img) (src : Nat → Nat) (N : Nat) : (srcSlots img src N).length = N := by
  simp [srcSlots]

theorem srcSlots_drop_getD (img : Img) (src : Nat → Nat) (N i j : Nat) (hj : j < ((srcSlots img src N).drop i).length) :
    ((srcSlots img src N).drop i).getD j [] = img.read (src (32 * (i + j))) 32 := by
  simp only [List.length_drop, srcSlots_length] at hj
  simp only [List.getD_eq_getElem?_getD, List.getElem?_drop, srcSlots]
  rw [List.getElem?_map, List.getElem?_range (by omega)]
  rfl

/-- the slots from `i` on: the record at `i`, then the slots from `i + 1` on -/
theorem srcSlots_drop (img : Img) (src : Nat → Nat) {N i : Nat} (hi : i < N) :
    (srcSlots img src N).drop i = img.read (src (32 * i)) 32 :: (srcSlots img src N).drop (i + 1) := by
  rw [List.drop_eq_getElem_cons (by rw [srcSlots_length]; exact hi)]
  simp [srcSlots]

/-- the 32-byte records of the root region of the image -/
def rootSlots (img : Img) (s : DiskSlice) : List (List Nat) :=
  (List.range (s.size / 32)).map fun j => img.read (s.beginOff + 32 * j) 32

theorem rootSlots_length (s : DiskSlice) (img : Img) : (rootSlots img s).length = s.size / 32 := by
  simp [rootSlots]

theorem rootSlots_drop_getD (s : DiskSlice) (N : Nat) (hN : s.size = 32 * N) (img : Img) (i j : Nat)
    (hj : j < ((rootSlots img s).drop i).length) :
    ((rootSlots img s).drop i).getD j [] = img.read (s.beginOff + 32 * (i + j)) 32 := by
  have hl : (rootSlots img s).length = N := by rw [rootSlots_length, hN]; omega
  simp only [List.length_drop, hl] at hj
  simp only [List.getD_eq_getElem?_getD, List.getElem?_drop, rootSlots]
  rw [List.getElem?_map, List.getElem?_range (by rw [hN]; omega)]
  rfl

/-- the `DirEntry` the library builds from a short slot and the long name collected before it, for a directory whose
    stream byte `o` lies at byte `src o` of the device -/
def toDirEntryS (src : Nat → Nat) (e : LfnEntry) : DirEntry :=
  { data := deserializeFile e.sfn (attrsTruncate (u8At e.sfn 11)), lfn := e.units,
    entryPos := src (32 * e.endIdx - 32), rangeBegin := 32 * e.beginIdx, rangeEnd := 32 * e.endIdx }

/-- the same for a directory whose slot `j` lies at byte `B + 32 * j` of the device (the fixed root) -/
def toDirEntry (B : Nat) (e : LfnEntry) : DirEntry :=
  { data := deserializeFile e.sfn (attrsTruncate (u8At e.sfn 11)), lfn := e.units,
    entryPos := B + 32 * e.endIdx - 32, rangeBegin := 32 * e.beginIdx, rangeEnd := 32 * e.endIdx }

theorem toDirEntryS_root (B : Nat) (e : LfnEntry) (h : 0 < e.endIdx) :
    toDirEntryS (fun o => B + o) e = toDirEntry B e := by
  simp only [toDirEntryS, toDirEntry]
  congr 1
  have : 32 ≤ 32 * e.endIdx := by omega
  omega

/-- a slot as read from an image: at least 11 bytes, attribute byte a byte -/
def SlotOK (sl : List Nat) : Prop := 11 ≤ sl.length ∧ sl.getD 11 0 < 256

theorem slotOK_read (img : Img) (p : Nat) : SlotOK (img.read p 32) :=
  ⟨by rw [Img.read_length]; omega, by rw [Img.read_getD _ _ _ _ (by omega)]; exact Img.getByte_lt _ _⟩

/-- every entry the pure reader finds in slots read from an image comes from such a slot -/
theorem srcEntries_slotOK (alloc sv : Bool) (img : Img) (src : Nat → Nat) (N : Nat) (e : LfnEntry)
    (h : e ∈ readDirEntries alloc sv (srcSlots img src N)) : SlotOK e.sfn := by
  obtain ⟨j, _, hj⟩ := List.mem_map.1 (readLoop_sfn_mem alloc sv _ _ _ _ e h)
  rw [← hj]
  exact slotOK_read _ _

theorem toDirEntryS_name (src : Nat → Nat) (e : LfnEntry) (h : SlotOK e.sfn) :
    (toDirEntryS src e).data.name = Lfn.sfnName e.sfn := by
  simp only [toDirEntryS, DirEntryData.deserializeFile, take11_sfnName _ h.1]

theorem toDirEntryS_eqName (env : Env) (src : Nat → Nat) (e : LfnEntry) (h : SlotOK e.sfn) (name : String) :
    (toDirEntryS src e).eqName env name = DirSlots.matchesName env.upper e name.toList := by
  simp only [DirEntry.eqName, DirSlots.matchesName, toDirEntryS_name src e h]
  rfl

theorem toDirEntryS_isDir (src : Nat → Nat) (e : LfnEntry) :
    (toDirEntryS src e).isDir = Lfn.isDir e.sfn := by
  rw [DirEntry.isDir, DirFileEntryData.isDir_eq, toDirEntryS, deserializeFile, attrsTruncate_eq]; rfl

/-! ### `find_entry` on a list of entries -/

/-- `find_entry(name, is_dir, None)` on a list of entries, without the generator -/
def lookupL (upper : Char → List Char) (name : List Char) (isDir : Option Bool) : List LfnEntry → Except Err LfnEntry
  | [] => .error .notFound
  | e :: es =>
    if DirSlots.matchesName upper e name then
      if isDir.isSome && some (Lfn.isDir e.sfn) != isDir then .error .invalidInput else .ok e
    else lookupL upper name isDir es

theorem scan_fst (upper : Char → List Char) (name : List Char) (isDir : Option Bool) :
    ∀ (es : List LfnEntry) (g : Names.Gen), (scan upper name isDir es g).1 = lookupL upper name isDir es := by
  intro es
  induction es with
  | nil => intro g; rfl
  | cons e es ih =>
    intro g
    unfold scan lookupL
    split
    · split <;> rfl
    · exact ih _

theorem lookupL_ok (upper : Char → List Char) (name : List Char) (isDir : Option Bool) :
    ∀ (es : List LfnEntry) (e : LfnEntry), lookupL upper name isDir es = .ok e →
      e ∈ es ∧ DirSlots.matchesName upper e name = true ∧ (∀ b, isDir = some b → Lfn.isDir e.sfn = b) := by
  intro es
  induction es with
  | nil => intro e h; cases h
  | cons x es ih =>
    intro e h
    unfold lookupL at h
    split at h
    · rename_i hm
      split at h
      · cases h
      · rename_i hk
        cases h
        refine ⟨List.mem_cons_self .., hm, ?_⟩
        intro b hb
        subst hb
        simp only [Option.isSome_some, Bool.true_and, bne_iff_ne, ne_eq, Option.some.injEq, Decidable.not_not] at hk
        exact hk
    · obtain ⟨h1, h2⟩ := ih e h
      exact ⟨List.mem_cons_of_mem _ h1, h2⟩

/-- without kind filter: the first entry answering to the name -/
theorem lookupL_none (upper : Char → List Char) (q : List Char) : ∀ es : List LfnEntry,
    lookupL upper q none es =
      match lookupNoGen upper es q with
      | some e => .ok e
      | none => .error .notFound := by
  intro es
  induction es with
  | nil => rfl
  | cons e es ih =>
    unfold lookupL lookupNoGen
    rw [List.find?_cons]
    by_cases hm : DirSlots.matchesName upper e q = true
    · simp [hm]
    · simp only [hm, Bool.false_eq_true, if_false]
      exact ih

theorem scan_wf (upper : Char → List Char) (name : List Char) (isDir : Option Bool) :
    ∀ (es : List LfnEntry) (g : Names.Gen), Names.GenWF g → Names.GenWF (scan upper name isDir es g).2 := by
  intro es
  induction es with
  | nil => intro g h; exact h
  | cons e es ih =>
    intro g h
    unfold scan
    split
    · split <;> exact h
    · exact ih _ (h.addExisting _)

/-! ### the directory source -/

/-- a directory of `N` slots: a byte source of `32 * N` bytes whose streams answer `seek(Current(0))`, `abs_pos` and
    can be dropped -/
structure DirSrc (d : Dev) (S : Nat → DirStream) (N : Nat) (src room : Nat → Nat) : Prop
    extends ByteSrc d S (32 * N) src room where
  seekCur : ∀ d1, SameVol d d1 → ∀ o, o ≤ 32 * N → Reads ((S o).seek (.cur 0)) d1 (o, S o)
  /-- `abs_pos` after a slot: the device offset just behind it -/
  absPos : ∀ d1, SameVol d d1 → ∀ o, o % 32 = 0 → 0 < o → o ≤ 32 * N →
    Reads ((S o).absPos d.fs) d1 (some (src (o - 32) + 32))
  drop : ∀ d1, SameVol d d1 → ∀ o, o ≤ 32 * N → Reads (S o).dropBody d1 ()

/-- `DirSrc` with the relation its calls keep as a parameter -/
structure DirSrcK (K : Dev → Dev → Prop) (d : Dev) (S : Nat → DirStream) (N : Nat) (src room : Nat → Nat) : Prop
    extends ByteSrcK K d S (32 * N) src room where
  seekCur : ∀ d1, SameVol d d1 → ∀ o, o ≤ 32 * N → Runs K ((S o).seek (.cur 0)) d1 (o, S o)
  absPos : ∀ d1, SameVol d d1 → ∀ o, o % 32 = 0 → 0 < o → o ≤ 32 * N →
    Runs K ((S o).absPos d.fs) d1 (some (src (o - 32) + 32))
  drop : ∀ d1, SameVol d d1 → ∀ o, o ≤ 32 * N → Runs K (S o).dropBody d1 ()

section generic
variable {K : Dev → Dev → Prop} {d : Dev} {S : Nat → DirStream} {N : Nat} {src room : Nat → Nat}

theorem DirSrc.toK (D : DirSrc d S N src room) : DirSrcK SameVol d S N src room :=
  { toByteSrcK := D.toByteSrc.toK, seekCur := D.seekCur, absPos := D.absPos, drop := D.drop }

theorem DirSrcK.toSrc (D : DirSrcK SameVol d S N src room) : DirSrc d S N src room :=
  { toByteSrc := D.toByteSrcK.toSrc, seekCur := D.seekCur, absPos := D.absPos, drop := D.drop }

/-- the loop of `read_dir_entry` from slot `i` on, the run of long-name slots in `b` having begun at slot `bi` -/
theorem DirSrcK.loop_sim (D : DirSrcK K d S N src room) (alloc sv : Bool) :
    ∀ (fuel i bi : Nat) (b : LongNameBuilder) (d1 : Dev), SameVol d d1 → i ≤ N → N - i < fuel →
      Runs K (readDirEntryLoop alloc sv fuel (S (32 * i)) (32 * i) (32 * bi) b) d1
        (((nextEntry alloc sv ((srcSlots d.img src N).drop i) i bi b).1).map (toDirEntryS src),
          S (32 * (nextEntry alloc sv ((srcSlots d.img src N).drop i) i bi b).2)) := by
  have hK := D.keeps
  intro fuel
  induction fuel with
  | zero => intros; omega
  | succ k ih =>
    intro i bi b d1 hv hi hf
    unfold readDirEntryLoop
    rcases Nat.lt_or_ge i N with hlt | hge
    · rw [srcSlots_drop _ _ hlt]
      generalize hsl : d.img.read (src (32 * i)) 32 = sl
      obtain ⟨hlen, hlt32⟩ : SlotOK sl := hsl ▸ slotOK_read _ _
      refine Runs.bind hK (D.toByteSrcK.readSlot d1 hv (32 * i) (by omega) (by omega)) (fun d2 hs2 => ?_)
      rw [hsl, show 32 * i + 32 = 32 * (i + 1) by omega]
      dsimp only
      have hv2 := hv.trans (hK.toVol hs2)
      have hrec := fun bi' b' => ih (i + 1) bi' b' d2 hv2 hlt (by omega)
      -- a short entry is yielded: `abs_pos` gives the device offset behind its slot
      have hfound : Runs K (Prog.bind Prog.getFs fun fs => Prog.bind ((S (32 * (i + 1))).absPos fs) fun endAbs =>
            match endAbs with
            | none => Prog.fail .panic
            | some endAbs =>
              if endAbs < 32 then Prog.fail .panic
              else Prog.pure (some { data := deserializeFile sl (attrsTruncate (u8At sl 11)),
                                     lfn := b.finish alloc (deserializeFile sl (attrsTruncate (u8At sl 11))).name,
                                     entryPos := endAbs - 32, rangeBegin := 32 * bi, rangeEnd := 32 * (i + 1) },
                               S (32 * (i + 1)))) d2
          (some (toDirEntryS src ⟨sl, b.finish alloc (Lfn.sfnName sl), bi, i + 1⟩), S (32 * (i + 1))) := by
        refine Runs.bind hK (Runs.getFs hK d2) (fun d3 hs3 => ?_)
        rw [hv2.fs]
        refine Runs.bind hK (D.absPos d3 (hv2.trans (hK.toVol hs3)) (32 * (i + 1)) (by omega) (by omega) (by omega))
          (fun d4 _ => ?_)
        dsimp only
        rw [if_neg (by omega)]
        simp only [toDirEntryS, deserializeFile, take11_sfnName sl hlen, Nat.add_sub_cancel]
        exact Runs.pure hK _ d4
      rw [deser_isEnd, deser_isDeleted]
      unfold nextEntry slotClass
      by_cases hE : Lfn.isEnd sl = true
      · simp only [hE, if_true, Option.map]
        exact Runs.pure hK _ d2
      · simp only [hE, Bool.false_eq_true, if_false]
        by_cases hD : Lfn.isDeleted sl = true
        · simp only [hD, Bool.true_or, if_true]
          exact hrec (i + 1) (b.clear alloc)
        · simp only [hD, Bool.false_or, Bool.false_eq_true, if_false]
          unfold deserialize
          rw [deser_lfn sl]
          by_cases hLf : Lfn.isLfn sl = true
          · simp only [hLf, if_true, Bool.false_eq_true, if_false]
            exact hrec bi (b.process alloc sl)
          · simp only [hLf, Bool.false_eq_true, if_false]
            rw [deser_volume sl]
            by_cases hV : Lfn.isVolume sl = true
            · simp only [hV, Bool.and_true, if_true]
              cases sv with
              | true => simp only [if_true]; exact hrec (i + 1) (b.clear alloc)
              | false =>
                simp only [Bool.false_eq_true, if_false, Option.map]
                exact hfound
            · simp only [hV, Bool.and_false, Bool.false_eq_true, if_false, Option.map]
              exact hfound
    · -- at the end of the directory the read returns the zero slot, an end marker, and does not advance
      obtain rfl : i = N := Nat.le_antisymm hi hge
      rw [List.drop_of_length_le (by rw [srcSlots_length]; exact hi)]
      refine Runs.bind hK (D.toByteSrcK.readSlot_end d1 hv) (fun d2 _ => ?_)
      dsimp only
      rw [deser_isEnd, zero_isEnd, if_pos rfl]
      simp only [nextEntry, Option.map]
      exact Runs.pure hK _ d2

/-- **`read_dir_entry`**: one `DirIter::next` from slot `i` = one `nextEntry` of the pure reader on the remaining
    slots of the image (fresh long-name builder, `begin_offset` = the position) -/
theorem DirSrcK.readDirEntry_sim (D : DirSrcK K d S N src room) (sv : Bool) (i : Nat) (hi : i ≤ N) (d1 : Dev)
    (hv : SameVol d d1) (hfuel : N < dirFuel d.fs) :
    Runs K (readDirEntry sv (S (32 * i))) d1
      (((nextEntry d.fs.lfnAlloc sv ((srcSlots d.img src N).drop i) i i (LongNameBuilder.new d.fs.lfnAlloc)).1).map
          (toDirEntryS src),
       S (32 * (nextEntry d.fs.lfnAlloc sv ((srcSlots d.img src N).drop i) i i
          (LongNameBuilder.new d.fs.lfnAlloc)).2)) := by
  have hK := D.keeps
  unfold readDirEntry
  refine Runs.bind hK (Runs.getFs hK d1) (fun d2 hs2 => ?_)
  rw [hv.fs]
  have hv2 := hv.trans (hK.toVol hs2)
  refine Runs.bind hK (D.seekCur d2 hv2 (32 * i) (by omega)) (fun d3 hs3 => ?_)
  dsimp only
  exact D.loop_sim d.fs.lfnAlloc sv (dirFuel d.fs) i i (LongNameBuilder.new d.fs.lfnAlloc) d3
    (hv2.trans (hK.toVol hs3)) hi (by omega)

/-- one step of a loop over `Dir::iter()` from slot `i`: the iterator is exhausted and so is the pure reader, or it
    yields the next entry `e` of the pure reader and stands behind the slots of `e` -/
theorem DirSrcK.next_sim (D : DirSrcK K d S N src room) (hfuel : N < dirFuel d.fs) (i : Nat) (hi : i ≤ N) (d1 : Dev)
    (hv : SameVol d d1) :
    (Lfn.readLoop d.fs.lfnAlloc true ((srcSlots d.img src N).drop i) i i (LongNameBuilder.new d.fs.lfnAlloc) = [] ∧
      ∃ o, o ≤ 32 * N ∧ Runs K (readDirEntry true (S (32 * i))) d1 (none, S o)) ∨
    (∃ e, Lfn.readLoop d.fs.lfnAlloc true ((srcSlots d.img src N).drop i) i i (LongNameBuilder.new d.fs.lfnAlloc) =
        e :: Lfn.readLoop d.fs.lfnAlloc true ((srcSlots d.img src N).drop e.endIdx) e.endIdx e.endIdx
          (LongNameBuilder.new d.fs.lfnAlloc) ∧
      SlotOK e.sfn ∧ i < e.endIdx ∧ e.endIdx ≤ N ∧
      Runs K (readDirEntry true (S (32 * i))) d1 (some (toDirEntryS src e), S (32 * e.endIdx))) := by
  have hsim := D.readDirEntry_sim true i hi d1 hv hfuel
  have hidx := nextEntry_idx d.fs.lfnAlloc true ((srcSlots d.img src N).drop i) i i (LongNameBuilder.new d.fs.lfnAlloc)
  rw [List.length_drop, srcSlots_length] at hidx
  rw [readLoop_eq_next]
  cases hn : (nextEntry d.fs.lfnAlloc true ((srcSlots d.img src N).drop i) i i (LongNameBuilder.new d.fs.lfnAlloc)).1 with
  | none =>
    rw [hn] at hsim
    exact Or.inl ⟨rfl, _, by have := hidx.2.1; omega, hsim⟩
  | some e =>
    rw [hn] at hsim
    obtain ⟨he1, he2⟩ := hidx.2.2 e hn
    rw [← he1] at hsim
    have hmem : e ∈ Lfn.readLoop d.fs.lfnAlloc true ((srcSlots d.img src N).drop i) i i
        (LongNameBuilder.new d.fs.lfnAlloc) := by rw [readLoop_eq_next, hn]; exact List.mem_cons_self ..
    obtain ⟨j, _, hj⟩ := List.mem_map.1 (List.mem_of_mem_drop (readLoop_sfn_mem _ _ _ _ _ _ e hmem))
    refine Or.inr ⟨e, ?_, hj ▸ slotOK_read _ _, he2, by have := hidx.2.1; omega, hsim⟩
    simp only
    rw [List.drop_drop, show i + (e.endIdx - i) = e.endIdx by omega]

/-- **the listing loop** = the pure reader from slot `i` on -/
theorem DirSrcK.listLoop_sim (D : DirSrcK K d S N src room) (hfuel : N < dirFuel d.fs) :
    ∀ (fuel i : Nat) (acc : List DirEntry) (d1 : Dev), i ≤ N → N - i < fuel → SameVol d d1 →
    ∃ o, o ≤ 32 * N ∧ Runs K (listLoop fuel (S (32 * i)) acc) d1
      (acc.reverse ++ (Lfn.readLoop d.fs.lfnAlloc true ((srcSlots d.img src N).drop i) i i
          (LongNameBuilder.new d.fs.lfnAlloc)).map (toDirEntryS src), S o) := by
  have hK := D.keeps
  intro fuel
  induction fuel with
  | zero => intro i acc d1 hi hf; omega
  | succ k ih =>
    intro i acc d1 hi hf hv
    unfold listLoop
    rcases D.next_sim hfuel i hi d1 hv with ⟨hnil, o, ho, hr⟩ | ⟨e, hcons, _, hlt, hle, d2, hr2, hs2⟩
    · rw [hnil]
      refine ⟨o, ho, Runs.bind hK hr (fun d2 _ => ?_)⟩
      simp only [List.map_nil, List.append_nil]
      exact Runs.pure hK _ d2
    · rw [hcons]
      obtain ⟨o, ho, d3, hr3, hs3⟩ := ih e.endIdx (toDirEntryS src e :: acc) d2 hle (by omega)
        (hv.trans (hK.toVol hs2))
      refine ⟨o, ho, d3, ?_, hK.trans hs2 hs3⟩
      show run (Prog.bind _ _) d1 = _
      simp only [run, hr2]
      rw [hr3]
      simp

/-- **`Dir::iter().collect()`** (`listDir`): the entries the pure reader finds in the slots of the image, in order -/
theorem DirSrcK.listDir_sim (D : DirSrcK K d S N src room) (hfuel : N < dirFuel d.fs) (d1 : Dev) (hv : SameVol d d1) :
    Runs K (listDir (S 0)) d1
      ((readDirEntries d.fs.lfnAlloc true (srcSlots d.img src N)).map (toDirEntryS src)) := by
  have hK := D.keeps
  unfold listDir
  refine Runs.bind hK (Runs.getFs hK d1) (fun d2 hs2 => ?_)
  rw [hv.fs]
  have hv2 := hv.trans (hK.toVol hs2)
  obtain ⟨o, ho, hr⟩ := D.listLoop_sim hfuel (dirFuel d.fs) 0 [] d2 (Nat.zero_le _) (by omega) hv2
  simp only [Nat.mul_zero, List.reverse_nil, List.nil_append, List.drop_zero] at hr
  unfold withStream
  refine Runs.bind hK (Runs.finallyDrop hK hr (fun d3 hs3 => D.drop d3 (hv2.trans hs3) o ho)) (fun d3 _ => ?_)
  exact Runs.pure hK _ d3

/-- the `for r in self.iter()` loop of `find_entry` = the pure lookup over the entries of the pure reader from slot
    `i` on; a generator is fed the short names of the entries passed over, as `DirAlias.scan` does -/
theorem DirSrcK.findEntryLoop_sim (D : DirSrcK K d S N src room) (hfuel : N < dirFuel d.fs) (env : Env) (name : String)
    (isDir : Option Bool) :
    ∀ (fuel i : Nat) (gen : Option Names.Gen) (d1 : Dev), i ≤ N → N - i < fuel → SameVol d d1 →
    ∃ o, o ≤ 32 * N ∧ Runs K (findEntryLoop env name isDir fuel (S (32 * i)) gen) d1
      (((lookupL env.upper name.toList isDir (Lfn.readLoop d.fs.lfnAlloc true ((srcSlots d.img src N).drop i) i i
          (LongNameBuilder.new d.fs.lfnAlloc))).map (toDirEntryS src),
        gen.map fun g => (scan env.upper name.toList isDir (Lfn.readLoop d.fs.lfnAlloc true
          ((srcSlots d.img src N).drop i) i i (LongNameBuilder.new d.fs.lfnAlloc)) g).2), S o) := by
  have hK := D.keeps
  intro fuel
  induction fuel with
  | zero => intro i gen d1 hi hf; omega
  | succ k ih =>
    intro i gen d1 hi hf hv
    unfold findEntryLoop
    rcases D.next_sim hfuel i hi d1 hv with ⟨hnil, o, ho, hr⟩ | ⟨e, hcons, hok, hlt, hle, hr⟩
    · rw [hnil]
      refine ⟨o, ho, Runs.bind hK hr (fun d2 _ => ?_)⟩
      simp only [lookupL, scan, Except.map, Option.map_id']
      exact Runs.pure hK _ d2
    · rw [hcons]
      simp only [lookupL, scan]
      by_cases hm : DirSlots.matchesName env.upper e name.toList = true
      · refine ⟨32 * e.endIdx, by omega, Runs.bind hK hr (fun d2 _ => ?_)⟩
        simp only [toDirEntryS_eqName env src e hok, toDirEntryS_isDir src e, hm, if_true]
        split <;> simp only [Except.map, Option.map_id'] <;> exact Runs.pure hK _ d2
      · simp only [hm, Bool.false_eq_true, if_false]
        obtain ⟨d2, hr2, hs2⟩ := hr
        obtain ⟨o, ho, d3, hr3, hs3⟩ := ih e.endIdx (gen.map fun g => Names.addExisting g (Lfn.sfnName e.sfn))
          d2 hle (by omega) (hv.trans (hK.toVol hs2))
        refine ⟨o, ho, d3, ?_, hK.trans hs2 hs3⟩
        show run (Prog.bind _ _) d1 = _
        simp only [run, hr2, toDirEntryS_eqName env src e hok, toDirEntryS_name src e hok, hm, Bool.false_eq_true,
          if_false]
        rw [hr3, Option.map_map]
        rfl

/-- **`find_entry(name, is_dir, gen)`** (`findEntryG`): the lookup over the entries the pure reader finds in the slots
    of the image; a generator comes back as `DirAlias.scan` leaves it -/
theorem DirSrcK.findEntryG_sim (D : DirSrcK K d S N src room) (hfuel : N < dirFuel d.fs) (env : Env) (name : String)
    (isDir : Option Bool) (gen : Option Names.Gen) (d1 : Dev) (hv : SameVol d d1) :
    Runs K (findEntryG env (S 0) name isDir gen) d1
      ((lookupL env.upper name.toList isDir (readDirEntries d.fs.lfnAlloc true (srcSlots d.img src N))).map
          (toDirEntryS src),
       gen.map fun g =>
         (scan env.upper name.toList isDir (readDirEntries d.fs.lfnAlloc true (srcSlots d.img src N)) g).2) := by
  have hK := D.keeps
  unfold findEntryG
  refine Runs.bind hK (Runs.getFs hK d1) (fun d2 hs2 => ?_)
  rw [hv.fs]
  have hv2 := hv.trans (hK.toVol hs2)
  obtain ⟨o, ho, hr⟩ := D.findEntryLoop_sim hfuel env name isDir (dirFuel d.fs) 0 gen d2 (Nat.zero_le _)
    (by omega) hv2
  simp only [Nat.mul_zero, List.drop_zero] at hr
  unfold withStream
  refine Runs.bind hK (Runs.finallyDrop hK hr (fun d3 hs3 => D.drop d3 (hv2.trans hs3) o ho)) (fun d3 _ => ?_)
  exact Runs.pure hK _ d3

/-- **`find_entry(..)?`** (the step of every path walk): succeeds with the entry the lookup finds … -/
theorem DirSrcK.findEntry_ok (D : DirSrcK K d S N src room) (hfuel : N < dirFuel d.fs) (env : Env) (name : String)
    (isDir : Option Bool) {e : LfnEntry}
    (hl : lookupL env.upper name.toList isDir (readDirEntries d.fs.lfnAlloc true (srcSlots d.img src N)) = .ok e)
    (d1 : Dev) (hv : SameVol d d1) :
    Runs K (findEntry env (S 0) name isDir) d1 (toDirEntryS src e) := by
  unfold findEntry
  have := D.findEntryG_sim hfuel env name isDir none d1 hv
  rw [hl] at this
  exact Runs.bind D.keeps this (fun d2 _ => Runs.pure D.keeps _ d2)

/-- … and fails with its error (`NotFound`, or `InvalidInput` for the wrong kind) otherwise -/
theorem DirSrcK.findEntry_error (D : DirSrcK K d S N src room) (hfuel : N < dirFuel d.fs) (env : Env) (name : String)
    (isDir : Option Bool) {err : Err}
    (hl : lookupL env.upper name.toList isDir (readDirEntries d.fs.lfnAlloc true (srcSlots d.img src N)) = .error err)
    (d1 : Dev) (hv : SameVol d d1) :
    Stops K (findEntry env (S 0) name isDir) d1 err := by
  unfold findEntry
  have := D.findEntryG_sim hfuel env name isDir none d1 hv
  rw [hl] at this
  exact Stops.bind_right D.keeps this (fun d2 _ => ⟨d2, rfl, D.keeps.refl d2⟩)

end generic

/-! ### `check_for_existence` -/

/-- the library's `DirEntryOrShortName` for an outcome of the pure loop -/
def liftEOA (src : Nat → Nat) : EntryOrAlias → EntryOrShort
  | .entry e => .entry (toDirEntryS src e)
  | .alias a => .short a

/-- what `checkForExistenceLoop` (Model/DirOps) computes from a generated candidate (of 11 bytes) is what
    `DirAlias.loop` uses -/
theorem cand_facts {a : List Nat} (hl : a.length = 11) :
    (ShortName.new a).asBytes.all (· < 128) = displayAscii a ∧
    (displayAscii a = true →
      (String.ofList ((ShortName.new a).asBytes.map Char.ofNat)).toList = Names.aliasDisplay a) := by
  rw [← C16dir.shortDisplay_eq_shortName a hl]
  refine ⟨rfl, fun hd => ?_⟩
  rw [String.toList_ofList]
  unfold Names.aliasDisplay
  apply List.map_congr_left
  intro y hy
  unfold displayAscii at hd
  have := List.all_eq_true.1 hd y hy
  simp only [decide_eq_true_eq] at this
  unfold Names.oemDecode
  rw [if_pos (by omega)]

/-- outcome of the pure loop ↦ behaviour of the program -/
def Outcome {α β} (p : Prog β) (d : Dev) (f : α → β) : Except Err α → Prop
  | .ok r => Reads p d (f r)
  | .error e => FailsV p d e

theorem Outcome.bind {α β γ} {p : Prog γ} {k : γ → Prog β} {d : Dev} {b : γ} {f : α → β} {r : Except Err α}
    (h1 : Reads p d b) (h2 : ∀ d1, SameVol d d1 → Outcome (k b) d1 f r) : Outcome (Prog.bind p k) d f r := by
  cases r with
  | ok v => exact Reads.bind h1 h2
  | error e => exact FailsV.bind_right h1 h2

section check
variable {d : Dev} {S : Nat → DirStream} {N : Nat} {src room : Nat → Nat}

/-- **`check_for_existence`, the loop**: on the entries of the pure reader the program does what `DirAlias.loop`
    computes — the existing entry, the chosen alias, or the error (`.hang` = the fuel ran out) -/
theorem DirSrc.checkLoop_sim (D : DirSrc d S N src room) (hfuel : N < dirFuel d.fs) (env : Env) (name : String)
    (isDir : Option Bool) :
    ∀ (fuel : Nat) (g : Names.Gen) (d1 : Dev), Names.GenWF g → SameVol d d1 →
      Outcome (checkForExistenceLoop env (S 0) name isDir fuel g) d1 (liftEOA src)
        (DirAlias.loop env.upper (readDirEntries d.fs.lfnAlloc true (srcSlots d.img src N)) name.toList isDir fuel g) := by
  intro fuel
  induction fuel with
  | zero =>
    intro g d1 _ _
    exact ⟨d1, rfl, SameVol.refl d1⟩
  | succ k ih =>
    intro g d1 hw hv
    have hfe := D.toK.findEntryG_sim hfuel env name isDir (some g) d1 hv
    have hw' := scan_wf env.upper name.toList isDir (readDirEntries d.fs.lfnAlloc true (srcSlots d.img src N)) g hw
    rw [← scan_fst _ _ _ _ g, Option.map_some] at hfe
    unfold checkForExistenceLoop DirAlias.loop
    generalize hsc : DirAlias.scan env.upper name.toList isDir
      (readDirEntries d.fs.lfnAlloc true (srcSlots d.img src N)) g = sc at hfe hw'
    obtain ⟨r, g'⟩ := sc
    simp only at hfe hw'
    cases r with
    | ok e =>
      simp only [Outcome, liftEOA]
      exact Reads.bind hfe (fun d2 _ => Reads.pure _ d2)
    | error er =>
      cases er with
      | notFound =>
        refine Outcome.bind hfe (fun d2 hs2 => ?_)
        have hv2 := hv.trans hs2
        simp only [Except.map, Option.getD]
        cases hgen : Names.generate g' with
        | error ee =>
          simp only
          exact ih (Names.nextIteration g') d2 hw'.nextIteration hv2
        | ok sn =>
          simp only
          have hl := generate_length hw' hgen
          obtain ⟨hc1, hc2⟩ := cand_facts hl
          rw [hc1]
          by_cases hda : displayAscii sn = true
          · rw [if_pos hda, if_pos hda]
            -- the candidate must not be the display form of an existing entry
            have h2 := D.toK.findEntryG_sim hfuel env
              (String.ofList ((ShortName.new sn).asBytes.map Char.ofNat)) none none d2 hv2
            rw [hc2 hda, lookupL_none] at h2
            refine Outcome.bind h2 (fun d3 hs3 => ?_)
            cases hlk : lookupNoGen env.upper (readDirEntries d.fs.lfnAlloc true (srcSlots d.img src N))
                (Names.aliasDisplay sn) with
            | none => exact Reads.pure _ d3
            | some v => exact ih (Names.addExisting g' sn) d3 (hw'.addExisting sn) (hv2.trans hs3)
          · rw [if_neg hda, if_neg hda]
            exact Reads.pure _ d2
      | _ => exact FailsV.bind_right hfe (fun d2 _ => ⟨d2, rfl, SameVol.refl d2⟩)

/-- **`check_for_existence`** (`alloc` feature on: the reader's entries are `DirSlots.listing`): the program does what
    `DirAlias.checkForExistenceL` computes from the slots of the image — returns the existing entry, or the alias the
    C16 theorems are about, or fails with its error -/
theorem DirSrc.checkForExistence_sim (D : DirSrc d S N src room) (hfuel : N < dirFuel d.fs) (ha : d.fs.lfnAlloc = true)
    (env : Env) (name : String) (isDir : Option Bool) (d1 : Dev) (hv : SameVol d d1) :
    Outcome (checkForExistence env (S 0) name isDir) d1 (liftEOA src)
      (DirAlias.checkForExistenceL env.upper (srcSlots d.img src N) name isDir 70000) := by
  unfold checkForExistence DirAlias.checkForExistenceL
  cases hn : Names.new name with
  | error e => exact ⟨d1, rfl, SameVol.refl d1⟩
  | ok g =>
    have hw : Names.GenWF g := Names.newL_wf hn
    have := D.checkLoop_sim hfuel env name isDir 70000 g d1 hw hv
    rw [ha] at this
    exact this

end check

end FatVerif.DirSim
