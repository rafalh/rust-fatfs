import FatVerif.Proofs.AFileInv
/-! `File::extents`: the cs-sized ranges of the chain, clipped to the size, concatenate to the content. -/
namespace FatVerif.Cursor

/-- bytes `[0, left)` of a file laid out on the clusters `l` -/
theorem extentsFrom_bytes (data : Nat → Nat → Nat) (cs : Nat) (hcs : 0 < cs) :
    ∀ (l : List Nat) (left : Nat), left ≤ l.length * cs →
      ((AFile.extentsFrom cs l left).flatMap fun e => (List.range e.2).map fun j => data e.1 (0 + j)) =
      (List.range left).map fun p => data (l.getD (p / cs) 0) (p % cs)
  | [], left, h => by
    have : left = 0 := by simpa using h
    subst this; simp [AFile.extentsFrom]
  | c :: r, left, h => by
    have hlen : left - min cs left ≤ r.length * cs := by
      have : (c :: r).length * cs = r.length * cs + cs := by simp [Nat.succ_mul]
      omega
    have ih := extentsFrom_bytes data cs hcs r (left - min cs left) hlen
    have hsplit : left = min cs left + (left - min cs left) := by omega
    simp only [AFile.extentsFrom, List.flatMap_cons, ih]
    conv => rhs; rw [hsplit, List.range_add, List.map_append, List.map_map]
    congr 1
    · apply List.map_congr_left
      intro j hj
      have hj' : j < min cs left := List.mem_range.mp hj
      have hjc : j < cs := by omega
      simp [Nat.div_eq_of_lt hjc, Nat.mod_eq_of_lt hjc]
    · apply List.map_congr_left
      intro j hj
      have hj' : j < left - min cs left := List.mem_range.mp hj
      have hm : min cs left = cs := by omega
      have hdm := divmod_spec cs j hcs
      have hd : (min cs left + j) / cs = j / cs + 1 :=
        div_eq_of_decomp hcs (j := j % cs) (by rw [hm, Nat.succ_mul]; omega) hdm.2
      have hmo : (min cs left + j) % cs = j % cs :=
        mod_eq_of_decomp hcs (i := j / cs + 1) (by rw [hm, Nat.succ_mul]; omega) hdm.2
      simp only [Function.comp, hd, hmo, List.getD_cons_succ]

section
variable {σ : Type} {isFree : σ → Nat → Prop} {f : AFile} {s : σ}

/-- concatenating the ranges `extents` reports yields the content -/
theorem AFileInv.extents_content (h : AFileInv isFree f s) :
    (f.extents.flatMap fun e => f.clusterBytes e.1 0 e.2) = f.content := by
  unfold AFile.extents
  cases hf : f.firstCluster with
  | none =>
    have hcov := h.cover
    rw [h.chain_nil hf] at hcov
    have : f.size = 0 := by simpa using hcov
    simp [AFile.content, this]
  | some c0 =>
    exact extentsFrom_bytes f.data f.cs h.cs_pos f.chain f.size h.cover

end
end FatVerif.Cursor
