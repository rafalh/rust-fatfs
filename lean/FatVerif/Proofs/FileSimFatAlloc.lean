import FatVerif.Proofs.FileSimFatSet
import FatVerif.Proofs.FileSimRead
import FatVerif.Proofs.FatImgOps
/-!
# FileSim / FAT alloc: `alloc_cluster` on the FAT slice and `FileSystem::alloc_cluster`

`run_allocFind`: the scans of `alloc_cluster` (all three FAT types) = `allocFindV` on the decoded FAT of the image.
`run_allocCluster_fine`: `table.rs::alloc_cluster` finds `allocFindV (tabView …) hint total`, marks it end-of-chain and links
it after `prev`: the decoded FAT afterwards is `allocLinkV`; `NotEnoughSpace` iff there is no free entry.
`run_allocClusterFs_fine`: `FileSystem::alloc_cluster(prev, zero)` on top, with the zero fill and the FS-info bookkeeping.
Both on a volume marked dirty or not (the first FAT write marks it).
-/
namespace FatVerif.FileSim
open FatVerif FatVerif.Fat

theorem nodup_length_le {cs : List Nat} {n : Nat} (hnd : cs.Nodup) (h : ∀ c ∈ cs, c < n) : cs.length ≤ n := by
  have hsub : cs ⊆ List.range n := fun k hk => List.mem_range.mpr (h k hk)
  have := List.Nodup.length_le_of_subset hnd hsub
  simpa using this

/-- outcome of a scan: the cluster found (and a FAT slice), or `NotEnoughSpace` -/
def ScanOut (fs : FsState) (d' : Dev) (found : Option Nat) (r : Except Err (Nat × DiskSlice) × Dev) : Prop :=
  match found with
  | some c => ∃ s', r = (.ok (c, s'), d') ∧ IsFatSlice fs s'
  | none => r = (.error .noSpace, d')

/-- the scan first seeks: where the slice stood does not matter -/
theorem findFree_offset (ft : FatType) (s : DiskSlice) (o start endC : Nat) :
    Table.findFree DiskSlice.strm ft { s with offset := o } start endC = Table.findFree DiskSlice.strm ft s start endC := by
  have hseek : ∀ n, DiskSlice.strm.seek { s with offset := o } (.start n) = DiskSlice.strm.seek s (.start n) := fun _ => rfl
  unfold Table.findFree
  cases ft <;> simp only [hseek]

theorem allocCluster_eq (fs : FsState) (s : DiskSlice) (prev hint : Option Nat) :
    Table.allocCluster DiskSlice.strm fs.fatType s prev hint fs.totalClusters =
      (allocScan fs.fatType s hint fs.totalClusters >>= fun x =>
        Table.set DiskSlice.strm fs.fatType x.2 x.1 .eoc >>= fun s1 =>
          (match prev with
            | some n => Table.set DiskSlice.strm fs.fatType s1 n (.data x.1)
            | none => pure s1) >>= fun s2 => pure (x.1, s2)) :=
  allocCluster_unfold fs.fatType s prev hint fs.totalClusters

/-- **the scans of `alloc_cluster`** inside the table: `allocFindV` on the decoded FAT. From `allocScan_img` (success
    is `Fat.allocFind`'s, and the run errs only where that one does) and `allocFind_sim`; the scans themselves are
    walked once, there. -/
theorem run_allocFind (fs : FsState) (img : Img) (hg : Geo fs img.size) (s : DiskSlice) (hint : Option Nat) (d : Dev)
    (hs : IsFatSlice fs s) (hfa : d.failAt = none) (himg : d.img = img) (hwf : d.img.WF) :
    ∃ d', SameStore d d' ∧ ScanOut fs d' (allocFindV (tabView fs img) hint fs.totalClusters)
      (run (allocScan fs.fatType s hint fs.totalClusters) d) := by
  subst himg
  obtain ⟨hb, hsz, hm, hvf⟩ := hs
  -- every entry up to the end of the table starts inside the FAT, below 4 GiB
  have hoff : ∀ c, c ≤ fs.totalClusters + 2 →
      off fs.fatType c ≤ (fatSliceOf fs).size ∧ off fs.fatType c < u32Lim := by
    intro c hc
    have h1 := hg.ents (fs.totalClusters + 1) (by omega)
    have h2 := hg.small
    rw [entOff_eq, entWidth_eq] at h1
    cases hft : fs.fatType <;> rw [hft] at h1 h2 <;> simp only [off, width, badMark, u32Lim] at h1 h2 ⊢ <;> omega
  generalize hrun : run (allocScan fs.fatType s hint fs.totalClusters) d = rd
  obtain ⟨r, d'⟩ := rd
  have hrun0 : run (allocScan fs.fatType { s with offset := 0 } hint fs.totalClusters) d = (r, d') := by
    unfold allocScan at hrun ⊢
    simp only [findFree_offset]
    exact hrun
  obtain ⟨hok, _, hk⟩ := allocScan_img (s0 := fatSliceOf fs) fs.fatType
    (s := { s with offset := 0 }) ⟨hb, hsz, hm, hvf.trans (fatSliceOf_viaFs fs).symm, Nat.zero_le _⟩ hint
    fs.totalClusters d hwf hg.fat_dev (fun c hc _ => (hoff c hc).2) hrun0
  obtain ⟨hst, herr⟩ := hk hfa fun c hc => (hoff c hc).1
  have hpure : allocFind fs.fatType (imgFatBytes fs d.img) (allocStart hint (fs.totalClusters + 2))
      (fs.totalClusters + 2) = scanRes (allocFindV (tabView fs d.img) hint fs.totalClusters) := by
    rw [allocFind_sim (hg.tableOk d.img)]
    have hle := allocStartV_le hint fs.totalClusters
    unfold allocFindV
    rw [findFreeV_congr _ (tabView fs d.img) _ _ fun i _ _ => (tabView_eq_view hg d.img (by omega)).symm,
      findFreeV_congr _ (tabView fs d.img) (allocStartV hint fs.totalClusters - 2) 2 fun i _ _ =>
        (tabView_eq_view hg d.img (by omega)).symm]
  obtain ⟨h1, h2⟩ := ErrOnly.run_eq hok herr
  refine ⟨d', hst, ?_⟩
  cases hf : allocFindV (tabView fs d.img) hint fs.totalClusters with
  | some c =>
    rw [hf] at hpure
    obtain ⟨s', hr, hi⟩ := h1 c hpure
    exact ⟨s', by rw [hr], hi.beginOff, hi.size, hi.mirrors, hi.viaFs.trans (fatSliceOf_viaFs fs)⟩
  | none =>
    rw [hf] at hpure
    show (r, d') = _
    rw [h2 hpure]

/-- `table.rs::alloc_cluster` on the FAT slice: `NotEnoughSpace` iff no entry is free; otherwise the cluster found is
    marked end-of-chain and linked after `prev` -/
theorem run_allocCluster_fine (fs : FsState) (s : DiskSlice) (hs : IsFatSlice fs s) (prev hint : Option Nat) (d : Dev)
    (hfa : d.failAt = none) (hwf : d.img.WF) (hg : Geo fs d.img.size)
    (hh : ∀ n, hint = some n → 2 ≤ n) (hp : ∀ p, prev = some p → p < fs.totalClusters + 2) :
    (allocFindV (tabView fs d.img) hint fs.totalClusters = none ∧
      ∃ d', run (Table.allocCluster DiskSlice.strm fs.fatType s prev hint fs.totalClusters) d = (.error .noSpace, d') ∧
        SameStore d d') ∨
    (∃ c d' s', allocFindV (tabView fs d.img) hint fs.totalClusters = some c ∧
      run (Table.allocCluster DiskSlice.strm fs.fatType s prev hint fs.totalClusters) d = (.ok (c, s'), d') ∧
      d'.fs = markedFs d.fs ∧ tabView fs d'.img = allocLinkV (tabView fs d.img) prev c ∧
      FatStep fs (fun x => x = c ∨ prev = some x) d d') := by
  obtain ⟨d1, hs1, hout⟩ := run_allocFind fs d.img hg s hint d hs hfa rfl hwf
  rw [allocCluster_eq]
  cases hf : allocFindV (tabView fs d.img) hint fs.totalClusters with
  | none =>
    left
    rw [hf] at hout
    exact ⟨rfl, d1, by rw [run_bind_error hout], hs1⟩
  | some c =>
    right
    rw [hf] at hout
    obtain ⟨s1, hr, hsl1⟩ := hout
    obtain ⟨hc2, hct, _⟩ := allocFindV_some _ _ _ _ hh hf
    rw [run_bind_ok hr]
    simp only
    obtain ⟨d2, s2, hr2, hsl2, hfs2, htv2, hst2⟩ := run_table_set fs s1 hsl1 c .eoc d1 (by rw [hs1.failAt]; exact hfa)
      (by rw [hs1.img]; exact hwf) (by rw [hs1.img]; exact hg) hct (rep_eoc _)
    rw [run_bind_ok hr2]
    rw [hs1.img] at htv2
    rw [hs1.fs] at hfs2
    have hst2' : FatStep fs (fun x => x = c ∨ prev = some x) d d2 :=
      (hst2.after hs1).mono fun x hx => Or.inl hx
    cases hprev : prev with
    | none => exact ⟨c, d2, s2, rfl, rfl, hfs2, by rw [htv2]; rfl, hprev ▸ hst2'⟩
    | some p =>
      simp only
      have hsmall := hg.small
      have hrep : Representable fs.fatType (.data c) := by
        cases hft : fs.fatType <;> rw [hft] at hsmall <;> simp only [badMark] at hsmall <;>
          simp only [Representable] <;> omega
      obtain ⟨d3, s3, hr3, _, hfs3, htv3, hst3⟩ := run_table_set fs s2 hsl2 p (.data c) d2
        (by rw [hst2'.step.failAt]; exact hfa) (hst2'.step.wf hwf) (by rw [hst2'.step.size]; exact hg) (hp p hprev) hrep
      rw [run_bind_ok hr3]
      exact ⟨c, d3, s3, rfl, rfl, by rw [hfs3, hfs2, markedFs_idem], by rw [htv3, htv2]; rfl,
        (hprev ▸ hst2').trans (hst3.mono fun x hx => Or.inr (congrArg some hx).symm)⟩

/-- the FS-info bookkeeping is consistent with the FAT of the image: the next-free hint is a cluster number, the
    cached free count (if any) is the number of free entries -/
structure InfoOk (fs : FsState) (img : Img) : Prop where
  hint : ∀ n, fs.fsInfo.next = some n → 2 ≤ n
  count : ∀ n, fs.fsInfo.free = some n → n = countFreeV (tabView fs img) fs.totalClusters

/-- the standing hypotheses: no scheduled fault, well-formed page table of the image, the layout fits the device,
    the handle is represented, the FS-info bookkeeping (next-free hint, cached free count) matches the FAT -/
structure SimInv (f : FileH) (d : Dev) : Prop where
  nofault : d.failAt = none
  wf : d.img.WF
  geo : Geo d.fs d.img.size
  rep : FileRep d.fs d.img f
  info : InfoOk d.fs d.img

/-- the standing hypotheses after a call that left the store alone -/
theorem SimInv.same {f f' : FileH} {d d' : Dev} (h : SimInv f d) (hs : SameStore d d')
    (hrep : FileRep d.fs d.img f') : SimInv f' d' := by
  refine ⟨hs.failAt.trans h.nofault, ?_, ?_, ?_, ?_⟩ <;> rw [hs.img]
  · exact h.wf
  all_goals rw [hs.fs]
  · exact h.geo
  · exact hrep
  · exact h.info

/-- the standing hypotheses after a call that wrote to the device -/
theorem SimInv.step {f f' : FileH} {d d' : Dev} (h : SimInv f d) (hs : DevStep d d')
    (hrep : FileRep d'.fs d'.img f') (hinfo : InfoOk d'.fs d'.img) : SimInv f' d' :=
  ⟨hs.failAt.trans h.nofault, hs.wf h.wf, hs.size ▸ h.geo.frame hs.geom, hrep, hinfo⟩

theorem mapFree_next (i : FsInfoSt) (f : Nat → Nat) : (i.mapFree f).next = i.next := by
  unfold FsInfoSt.mapFree; split <;> rfl

theorem mapFree_free (i : FsInfoSt) (f : Nat → Nat) : (i.mapFree f).free = i.free.map f := by
  unfold FsInfoSt.mapFree
  split
  · rename_i n h; rw [h]; rfl
  · rename_i h; rw [h]; rfl

/-- `write_zeros` on the raw device, forward: `len` zero bytes from the current position -/
theorem run_writeZerosLoop : ∀ (fuel len : Nat) (d : Dev), d.failAt = none → d.img.WF → len ≤ 512 * fuel →
    d.pos + len ≤ d.img.size →
    ∃ d', run (writeZerosLoop devStrm (fuel + 1) () len) d = (.ok (), d') ∧ DevStep d d' ∧ d'.fs = d.fs ∧
      (∀ q, d'.img.getByte q = if d.pos ≤ q ∧ q < d.pos + len then 0 else d.img.getByte q) := by
  intro fuel
  induction fuel with
  | zero =>
    intro len d _ _ hlen _
    have : len = 0 := by omega
    subst this
    refine ⟨d, ?_, DevStep.refl d, rfl, fun q => by rw [if_neg (by omega)]⟩
    unfold writeZerosLoop
    simp
  | succ k ih =>
    intro len d hfa hwf hlen hfit
    by_cases h0 : len = 0
    · subst h0
      refine ⟨d, ?_, DevStep.refl d, rfl, fun q => by rw [if_neg (by omega)]⟩
      unfold writeZerosLoop
      simp
    · unfold writeZerosLoop
      rw [if_neg h0]
      simp only
      have hne : 0 < (List.replicate (min len 512) 0).length := by simp; omega
      have hfit1 : d.pos + (List.replicate (min len 512) 0).length ≤ d.img.size := by simp; omega
      rw [run_bind_ok (run_writeAll_dev _ d hfa hne hfit1)]
      generalize hd1 : didWrite d (List.replicate (min len 512) 0) = d1
      have himg1 : d1.img = d.img.write d.pos (List.replicate (min len 512) 0) := by
        rw [← hd1, didWrite_img _ _ hfit1]
      have hpos1 : d1.pos = d.pos + min len 512 := by
        rw [← hd1]; show d.pos + min (List.replicate (min len 512) 0).length (d.img.size - d.pos) = _
        simp; omega
      have hstep1 : DevStep d d1 := hd1 ▸ DevStep.didWrite d _
      have hfs1 : d1.fs = d.fs := by rw [← hd1]; exact didWrite_fs _ _
      obtain ⟨d2, h2, hs2, hfs2, hb2⟩ := ih (len - min len 512) d1 (by rw [hstep1.failAt]; exact hfa)
        (hstep1.wf hwf) (by omega) (by rw [hpos1, hstep1.size]; omega)
      refine ⟨d2, h2, hstep1.trans hs2, hfs2.trans hfs1, fun q => ?_⟩
      rw [hb2 q, hpos1, himg1, Img.getByte_write _ hwf]
      simp only [List.length_replicate]
      by_cases ha : d.pos + min len 512 ≤ q ∧ q < d.pos + min len 512 + (len - min len 512)
      · rw [if_pos ha, if_pos (by omega)]
      · rw [if_neg ha]
        by_cases hb : d.pos ≤ q ∧ q < d.pos + min len 512
        · rw [if_pos hb, if_pos (by omega)]
          simp [List.getD_eq_getElem?_getD, List.getElem?_replicate]
          split <;> rfl
        · rw [if_neg hb, if_neg (by omega)]

theorem run_writeZeros (len : Nat) (d : Dev) (hfa : d.failAt = none) (hwf : d.img.WF) (hfit : d.pos + len ≤ d.img.size) :
    ∃ d', run (writeZeros devStrm () len) d = (.ok (), d') ∧ DevStep d d' ∧ d'.fs = d.fs ∧
      (∀ q, d'.img.getByte q = if d.pos ≤ q ∧ q < d.pos + len then 0 else d.img.getByte q) := by
  unfold writeZeros
  exact run_writeZerosLoop (len / 512 + 1) len d hfa hwf (by omega) hfit


theorem clusterOff_end {fs : FsState} {sz : Nat} (g : Geo fs sz) {c : Nat} (h2 : 2 ≤ c) (hc : c < fs.totalClusters + 2) :
    fs.firstDataSector * fs.bps ≤ clusterOff fs c ∧ clusterOff fs c + fs.clusterSize ≤ sz :=
  ⟨dataStart_le_clusterOff fs c, g.cluster_dev h2 hc⟩

/-- the hint stored by `FileSystem::alloc_cluster` after handing out `c` -/
def hintAfter (total c : Nat) : Nat := if c + 1 < total + 2 then c + 1 else 2

/-- **`FileSystem::alloc_cluster(prev, zero)`** on a fault-free device with a well-formed image, the layout `Geo` and
    consistent bookkeeping `InfoOk`.  No free cluster: `NotEnoughSpace`, nothing changes.  Otherwise the call succeeds
    with `c = allocFindV …`: first the FAT update (`d1`: the decoded FAT becomes `allocLinkV g prev c`, the volume is
    marked dirty), then, with `zero`, the bytes of cluster `c` are set to 0; the FS-info cache gets hint `hintAfter`
    and count − 1. -/
theorem run_allocClusterFs_fine (prev : Option Nat) (zero : Bool) (d : Dev) (hfa : d.failAt = none)
    (hwf : d.img.WF) (hg : Geo d.fs d.img.size) (hinfo : InfoOk d.fs d.img)
    (hp : ∀ p, prev = some p → 2 ≤ p ∧ p < d.fs.totalClusters + 2 ∧ tabView d.fs d.img p ≠ .free) :
    (allocFindV (tabView d.fs d.img) d.fs.fsInfo.next d.fs.totalClusters = none ∧
      ∃ d', run (allocClusterFs prev zero) d = (.error .noSpace, d') ∧ SameStore d d') ∨
    (∃ c d1 d', allocFindV (tabView d.fs d.img) d.fs.fsInfo.next d.fs.totalClusters = some c ∧
      run (allocClusterFs prev zero) d = (.ok c, d') ∧
      FatStep d.fs (fun x => x = c ∨ prev = some x) d d1 ∧ DevStep d1 d' ∧
      d'.fs = { markedFs d.fs with fsInfo := ({ d.fs.fsInfo with
        next := some (hintAfter d.fs.totalClusters c), dirty := true }).mapFree (· - 1) } ∧
      tabView d'.fs d'.img = allocLinkV (tabView d.fs d.img) prev c ∧ InfoOk d'.fs d'.img ∧
      (zero = false → d'.img = d1.img ∧ d'.log = d1.log) ∧
      (zero = true → ∀ q, d'.img.getByte q =
        if clusterOff d.fs c ≤ q ∧ q < clusterOff d.fs c + d.fs.clusterSize then 0 else d1.img.getByte q)) := by
  unfold allocClusterFs
  rw [run_bind_ok (run_getFs d)]
  simp only
  rcases run_allocCluster_fine d.fs (fatSliceOf d.fs) (isFatSlice_self _) prev d.fs.fsInfo.next d hfa hwf hg hinfo.hint
      (fun p h => (hp p h).2.1) with ⟨hnone, d1, hr, hs1⟩ | ⟨c, d1, s1, hsome, hr, hfs1, htv, hst⟩
  · left
    exact ⟨hnone, d1, by rw [run_bind_error hr], hs1⟩
  · right
    obtain ⟨hc2, hct, hcf⟩ := allocFindV_some _ _ _ _ hinfo.hint hsome
    rw [run_bind_ok hr]
    simp only
    have hfa1 : d1.failAt = none := by rw [hst.step.failAt]; exact hfa
    have hwf1 : d1.img.WF := hst.step.wf hwf
    obtain ⟨hco1, hco2⟩ := clusterOff_end hg hc2 hct
    have hfat_data := hg.fat_data
    have hcount := countFreeV_allocLink (tabView d.fs d.img) d.fs.totalClusters c prev hc2 hct hcf (fun p h => (hp p h).2.2)
    have hpos := countFreeV_pos (tabView d.fs d.img) d.fs.totalClusters c hc2 hct hcf
    have hne0 : d.fs.fsInfo.free ≠ some 0 := by
      intro h0
      have := hinfo.count 0 h0
      omega
    have hmt : (markedFs d.fs).totalClusters = d.fs.totalClusters := (markedFs_geom d.fs).totalClusters
    generalize hnew : ({ markedFs d.fs with fsInfo := ({ d.fs.fsInfo with
        next := some (hintAfter d.fs.totalClusters c), dirty := true }).mapFree (· - 1) } : FsState) = newFs
    have hnext : newFs.fsInfo.next = some (hintAfter d.fs.totalClusters c) := by
      rw [← hnew]; show (FsInfoSt.mapFree _ _).next = _; rw [mapFree_next]
    have hfree' : newFs.fsInfo.free = d.fs.fsInfo.free.map (· - 1) := by
      rw [← hnew]; show (FsInfoSt.mapFree _ _).free = _; rw [mapFree_free]
    have hgeo : FsGeomEq d.fs newFs := by
      rw [← hnew]
      have := markedFs_geom d.fs
      unfold FsGeomEq at *
      rw [this]
    -- the bookkeeping tail, on any device carrying the marked state
    have hrest : ∀ d2 : Dev, d2.fs = markedFs d.fs → run (do
        let fs ← Prog.getFs
        match fs.fsInfo.free with
          | some 0 => Prog.fail Err.panic
          | _ => do
            Prog.setFs { fs with fsInfo := ({ fs.fsInfo with
              next := some (if c + 1 < fs.totalClusters + 2 then c + 1 else 2), dirty := true }).mapFree (· - 1) }
            (pure c : Prog Nat)) d2 = (.ok c, { d2 with fs := newFs }) := by
      intro d2 hfs2
      have hgf : run Prog.getFs d2 = (.ok (markedFs d.fs), d2) := by rw [← hfs2]; rfl
      rw [run_bind_ok hgf]
      simp only
      have hhint : (if c + 1 < (markedFs d.fs).totalClusters + 2 then c + 1 else 2) = hintAfter d.fs.totalClusters c := by
        unfold hintAfter; rw [hmt]
      rw [markedFs_fsInfo, hhint, ← hnew]
      split
      · rename_i h0; exact absurd h0 hne0
      · rfl
    -- the device `d2` before the bookkeeping tail differs from `d1` at most inside cluster `c`
    have finish : ∀ d2 : Dev, DevStep d1 d2 →
        (∀ q, ¬ (clusterOff d.fs c ≤ q ∧ q < clusterOff d.fs c + d.fs.clusterSize) →
          d2.img.getByte q = d1.img.getByte q) →
        DevStep d1 { d2 with fs := newFs } ∧
        tabView newFs d2.img = allocLinkV (tabView d.fs d.img) prev c ∧ InfoOk newFs d2.img := by
      intro d2 hst2 hbytes2
      have htv2 : tabView d.fs d2.img = tabView d.fs d1.img := by
        apply tabView_congr hg
        intro q h1 h2
        apply hbytes2
        have : (fatSliceOf d.fs).size ≤ (fatSliceOf d.fs).mirrors * (fatSliceOf d.fs).size :=
          Nat.le_mul_of_pos_left _ hg.mirrors_pos
        omega
      refine ⟨⟨hst2.failAt, hst2.size, hst2.wf, ?_, hst2.clock⟩, ?_, ?_, ?_⟩
      · exact hst.step.geom.symm.trans hgeo
      · rw [hgeo.tabView, htv2]; exact htv
      · intro n hn
        rw [hnext] at hn
        have := Option.some.inj hn
        unfold hintAfter at this
        split at this <;> omega
      · intro n hn
        rw [hgeo.tabView, hgeo.totalClusters, htv2, htv]
        rw [hfree'] at hn
        cases hfree : d.fs.fsInfo.free with
        | none => rw [hfree] at hn; cases hn
        | some m =>
          rw [hfree] at hn
          have hm := hinfo.count m hfree
          have : n = m - 1 := (Option.some.inj hn).symm
          omega
    cases zero with
    | false =>
      rw [if_neg (show ¬ (false = true) by decide)]
      obtain ⟨a1, a2, a3⟩ := finish d1 (DevStep.refl _) (fun _ _ => rfl)
      exact ⟨c, d1, { d1 with fs := newFs }, hsome, hrest d1 hfs1, hst, a1, hnew.symm, a2, a3,
        fun _ => ⟨rfl, rfl⟩, fun h => absurd h (by decide)⟩
    | true =>
      rw [if_pos rfl]
      rw [run_bind_ok (run_offsetFromClusterP hg c hc2 hct d1), run_bind_ok (run_seekStart _ d1 hfa1)]
      obtain ⟨d2, h2, hs2, hfs2, hb2⟩ := run_writeZeros d.fs.clusterSize (d1.didSeek (clusterOff d.fs c)) hfa1 hwf1
        (by simp only [didSeek_pos, didSeek_img]; rw [hst.step.size]; exact hco2)
      rw [run_bind_ok h2]
      have hb2' : ∀ q, d2.img.getByte q =
          if clusterOff d.fs c ≤ q ∧ q < clusterOff d.fs c + d.fs.clusterSize then 0 else d1.img.getByte q := hb2
      obtain ⟨a1, a2, a3⟩ := finish d2 ((DevStep.of_sameStore (sameStore_didSeek d1 _)).trans hs2)
        (fun q hq => by rw [hb2' q, if_neg hq])
      exact ⟨c, d1, { d2 with fs := newFs }, hsome, hrest d2 (by rw [hfs2]; exact hfs1), hst, a1, hnew.symm, a2,
        a3, fun h => absurd h (by decide), fun _ => hb2'⟩

/-- the same without the records and the entry-window frame: from byte `0x42` on nothing outside the FAT copies and
    (with `zero`) the new cluster changes -/
theorem run_allocClusterFs_any (prev : Option Nat) (zero : Bool) (d : Dev) (hfa : d.failAt = none)
    (hwf : d.img.WF) (hg : Geo d.fs d.img.size) (hinfo : InfoOk d.fs d.img)
    (hp : ∀ p, prev = some p → 2 ≤ p ∧ p < d.fs.totalClusters + 2 ∧ tabView d.fs d.img p ≠ .free) :
    (allocFindV (tabView d.fs d.img) d.fs.fsInfo.next d.fs.totalClusters = none ∧
      ∃ d', run (allocClusterFs prev zero) d = (.error .noSpace, d') ∧ SameStore d d') ∨
    (∃ c d', allocFindV (tabView d.fs d.img) d.fs.fsInfo.next d.fs.totalClusters = some c ∧
      run (allocClusterFs prev zero) d = (.ok c, d') ∧ DevStep d d' ∧
      d'.fs = { markedFs d.fs with fsInfo := ({ d.fs.fsInfo with
        next := some (hintAfter d.fs.totalClusters c), dirty := true }).mapFree (· - 1) } ∧
      tabView d'.fs d'.img = allocLinkV (tabView d.fs d.img) prev c ∧ InfoOk d'.fs d'.img ∧
      (zero = true → ∀ q, clusterOff d.fs c ≤ q → q < clusterOff d.fs c + d.fs.clusterSize → d'.img.getByte q = 0) ∧
      (∀ q, 0x42 ≤ q → OutsideFat d.fs q →
        (zero = true → ¬ (clusterOff d.fs c ≤ q ∧ q < clusterOff d.fs c + d.fs.clusterSize)) →
        d'.img.getByte q = d.img.getByte q)) := by
  rcases run_allocClusterFs_fine prev zero d hfa hwf hg hinfo hp with h |
    ⟨c, d1, d', hsome, hr, hst, hst', hfs, htv, hinfo', hz0, hz1⟩
  · exact Or.inl h
  · obtain ⟨_, hct, _⟩ := allocFindV_some _ _ _ _ hinfo.hint hsome
    have hout := hst.outside hg (fun x hx => hx.elim (fun h => h ▸ hct) fun h => (hp x h).2.1)
    refine Or.inr ⟨c, d', hsome, hr, hst.step.trans hst', hfs, htv, hinfo',
      fun hz q h1 h2 => by rw [hz1 hz q, if_pos ⟨h1, h2⟩], fun q h42 ho hnz => ?_⟩
    cases zero with
    | false => rw [(hz0 rfl).1]; exact hout q (Or.inl h42) ho
    | true => rw [hz1 rfl q, if_neg (hnz rfl)]; exact hout q (Or.inl h42) ho

/-! ### on a volume already marked dirty, without the entry-window frame -/

theorem run_allocCluster (fs : FsState) (s : DiskSlice) (hs : IsFatSlice fs s) (prev hint : Option Nat) (d : Dev)
    (hfa : d.failAt = none) (hcd : d.fs.curDirty = true) (hwf : d.img.WF) (hg : Geo fs d.img.size)
    (hh : ∀ n, hint = some n → 2 ≤ n) (hp : ∀ p, prev = some p → p < fs.totalClusters + 2) :
    (allocFindV (tabView fs d.img) hint fs.totalClusters = none ∧
      ∃ d', run (Table.allocCluster DiskSlice.strm fs.fatType s prev hint fs.totalClusters) d = (.error .noSpace, d') ∧
        SameStore d d') ∨
    (∃ c d' s', allocFindV (tabView fs d.img) hint fs.totalClusters = some c ∧
      run (Table.allocCluster DiskSlice.strm fs.fatType s prev hint fs.totalClusters) d = (.ok (c, s'), d') ∧
      DevStep d d' ∧ d'.fs = d.fs ∧
      tabView fs d'.img = allocLinkV (tabView fs d.img) prev c ∧
      (∀ q, (q < (fatSliceOf fs).beginOff ∨
          (fatSliceOf fs).beginOff + (fatSliceOf fs).mirrors * (fatSliceOf fs).size ≤ q) →
        d'.img.getByte q = d.img.getByte q)) := by
  rcases run_allocCluster_fine fs s hs prev hint d hfa hwf hg hh hp with h | ⟨c, d', s', h1, h2, hfs, h3, hst⟩
  · exact Or.inl h
  · obtain ⟨_, hct, _⟩ := allocFindV_some _ _ _ _ hh h1
    exact Or.inr ⟨c, d', s', h1, h2, hst.step, by rw [hfs, markedFs_of_dirty hcd], h3,
      fun q hq => hst.outside hg (fun x hx => hx.elim (fun h => h ▸ hct) (hp x)) q (Or.inr hcd) hq⟩

theorem run_allocClusterFs (prev : Option Nat) (d : Dev) (hfa : d.failAt = none) (hcd : d.fs.curDirty = true)
    (hwf : d.img.WF) (hg : Geo d.fs d.img.size) (hinfo : InfoOk d.fs d.img)
    (hp : ∀ p, prev = some p → 2 ≤ p ∧ p < d.fs.totalClusters + 2 ∧ tabView d.fs d.img p ≠ .free) :
    (allocFindV (tabView d.fs d.img) d.fs.fsInfo.next d.fs.totalClusters = none ∧
      ∃ d', run (allocClusterFs prev false) d = (.error .noSpace, d') ∧ SameStore d d') ∨
    (∃ c d', allocFindV (tabView d.fs d.img) d.fs.fsInfo.next d.fs.totalClusters = some c ∧
      run (allocClusterFs prev false) d = (.ok c, d') ∧ DevStep d d' ∧ d'.fs.curDirty = true ∧
      tabView d'.fs d'.img = allocLinkV (tabView d.fs d.img) prev c ∧ InfoOk d'.fs d'.img ∧
      (∀ q, (q < (fatSliceOf d.fs).beginOff ∨
          (fatSliceOf d.fs).beginOff + (fatSliceOf d.fs).mirrors * (fatSliceOf d.fs).size ≤ q) →
        d'.img.getByte q = d.img.getByte q)) := by
  rcases run_allocClusterFs_fine prev false d hfa hwf hg hinfo hp with h |
    ⟨c, d1, d', hsome, hr, hst, hst', hfs, htv, hinfo', hz0, _⟩
  · exact Or.inl h
  · obtain ⟨_, hct, _⟩ := allocFindV_some _ _ _ _ hinfo.hint hsome
    exact Or.inr ⟨c, d', hsome, hr, hst.step.trans hst', by rw [hfs]; exact markedFs_curDirty _, htv, hinfo',
      fun q hq => by
        rw [(hz0 rfl).1]
        exact hst.outside hg (fun x hx => hx.elim (fun h => h ▸ hct) fun h => (hp x h).2.1) q (Or.inr hcd) hq⟩

end FatVerif.FileSim
