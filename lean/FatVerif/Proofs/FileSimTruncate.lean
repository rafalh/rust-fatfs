import FatVerif.Proofs.FileSimFatFree
import FatVerif.Proofs.FileSimWriteAlloc
/-!
# FileSim / truncate: `File::truncate` simulates the cursor machine's `truncate`
-/
namespace FatVerif.FileSim
open FatVerif FatVerif.Fat

theorem mem_take_of_getElem? {l : List Nat} {n : Nat} {y : Nat} (h : y ∈ l.take n) :
    ∃ j, j < n ∧ l[j]? = some y := by
  obtain ⟨j, hj, he⟩ := List.getElem_of_mem h
  rw [List.length_take] at hj
  refine ⟨j, by omega, ?_⟩
  rw [List.getElem_take] at he
  rw [List.getElem?_eq_getElem (by omega), he]

/-- `File::truncate` after the editor has been updated -/
def truncBody (f1 : FileH) : Prog FileH :=
  match f1.currentCluster with
  | some cur => do
    if f1.offset = 0 then .fail .panic
    else do
      truncateClusterChain cur
      pure f1
  | none =>
    if f1.offset ≠ 0 then .fail .panic
    else match f1.firstCluster with
      | some n => do
        freeClusterChain n
        pure { f1 with firstCluster := none }
      | none => pure f1

/-- the editor update of `File::truncate` -/
def truncEditor (f : FileH) (e : DirEntryEditor) (ft : FatType) : DirEntryEditor :=
  if f.offset = 0 then (e.setSize f.offset).setFirstCluster none ft else e.setSize f.offset

theorem truncate_eq (f : FileH) (e : DirEntryEditor) (he : f.entry = some e) :
    f.truncate = (setDirtyFlag true >>= fun _ => Prog.getFs >>= fun fs =>
      truncBody { f with entry := some (truncEditor f e fs.fatType) }) := by
  unfold FileH.truncate truncBody truncEditor
  simp only [he]
  rfl

theorem size?_truncEditor (f : FileH) (e : DirEntryEditor) (ft : FatType) (sz : Nat)
    (h : e.data.size? = some sz) : (truncEditor f e ft).data.size? = some f.offset := by
  unfold truncEditor
  split
  · rw [size?_setFirstCluster]; exact size?_setSize e sz _ h
  · exact size?_setSize e sz _ h

/-- the editor after `truncate`: size, and the first cluster when the file becomes empty -/
theorem truncEditor_edStep {f f' : FileH} {e : DirEntryEditor} (he : f.entry = some e) (ft : FatType)
    (hent : f'.entry = some (truncEditor f e ft)) (hoff : f'.offset = f.offset)
    (hfirst : f'.firstCluster = if f.offset = 0 then none else f.firstCluster) : EdStep ft f f' := by
  refine ⟨fun e0 he0 => ?_⟩
  rw [he] at he0; cases he0
  refine ⟨_, hent, ?_, fun hw ho => ?_, fun h1 _ => ?_⟩
  · unfold truncEditor
    split
    · exact (EdRel.setSize _ _).trans (EdRel.setFirstCluster _ _ _)
    · exact EdRel.setSize _ _
  · rw [hoff] at ho
    unfold truncEditor
    split
    · exact wf_setFirstCluster (wf_setSize hw _ ho) _ _
    · exact wf_setSize hw _ ho
  · rw [hfirst]
    unfold truncEditor
    split
    · exact first_setFirstCluster _ _ _ (firstOk_none _)
    · rw [first_setSize]; exact h1

/-- cutting the chain `l` behind its `i`-th cluster `cur`: the tail is freed, `cur` closes the chain; no other entry
    changes -/
theorem chain_cut {g : Nat → FatValue} {c0 : Nat} {l : List Nat} {i cur : Nat} (hch : Chain g c0 l) (hnd : l.Nodup)
    (hlive : ∀ x ∈ l, g x ≠ .free) (hi : l[i]? = some cur) :
    Chain (freedView (updV g cur .eoc) (l.drop (i + 1))) c0 (l.take (i + 1)) ∧
    (∀ x ∈ l.take (i + 1), freedView (updV g cur .eoc) (l.drop (i + 1)) x ≠ .free) ∧
    (∀ x, (l.take (i + 1)).getLast? = some x → freedView (updV g cur .eoc) (l.drop (i + 1)) x = .eoc) ∧
    ∀ x, x ≠ cur → x ∉ l.drop (i + 1) → freedView (updV g cur .eoc) (l.drop (i + 1)) x = g x := by
  have hilt : i < l.length := (List.getElem?_eq_some_iff.mp hi).1
  have hnotin : ∀ j y, j < i + 1 → l[j]? = some y → y ∉ l.drop (i + 1) := by
    intro j y hj hy hmem
    obtain ⟨k, hk, hke⟩ := List.getElem_of_mem hmem
    rw [List.getElem_drop] at hke
    rw [List.length_drop] at hk
    have h2 : l[i + 1 + k]? = some y := by rw [List.getElem?_eq_getElem (by omega), hke]
    have := Cursor.nodup_getElem?_inj hnd hy h2
    omega
  have hview : ∀ j y, j < i + 1 → l[j]? = some y →
      freedView (updV g cur .eoc) (l.drop (i + 1)) y = if y = cur then .eoc else g y := by
    intro j y hj hy
    unfold freedView
    rw [if_neg (hnotin j y hj hy)]
    rfl
  refine ⟨chain_take hch i cur hi ?_ ?_, fun x hx => ?_, fun x hx => ?_, fun x hxc hx => ?_⟩
  · intro n hn
    rw [hview i cur (by omega) hi, if_pos rfl] at hn; cases hn
  · intro j y hj hy
    rw [hview j y (by omega) hy, if_neg]
    intro e; subst e
    have := Cursor.nodup_getElem?_inj hnd hy hi
    omega
  · obtain ⟨j, hj, hjy⟩ := mem_take_of_getElem? hx
    rw [hview j x hj hjy]
    split
    · exact fun e => by cases e
    · exact hlive x (List.mem_of_mem_take hx)
  · rw [List.getLast?_eq_getElem?, List.length_take, Nat.min_eq_left (by omega), Nat.add_sub_cancel,
      List.getElem?_take, if_pos (by omega), hi] at hx
    cases hx
    rw [hview i cur (by omega) hi, if_pos rfl]
  · unfold freedView
    rw [if_neg hx, updV_ne _ _ _ _ hxc]

/-- **`File::truncate` after the status byte and the editor update**, on a volume marked dirty: the FAT chain is cut
    after the current cluster (`chain_cut`), freed entirely at position 0, or there is none; each time a FAT step to
    the machine's state after `truncate` (`HStep.of_fatStep`) -/
theorem truncBody_sim (f : FileH) (e : DirEntryEditor) (sz : Nat) (d : Dev) (h : SimInv f d)
    (hcd : d.fs.curDirty = true) (he : f.entry = some e) (hesz : e.data.size? = some sz) :
    ∃ f' d', run (truncBody { f with entry := some (truncEditor f e d.fs.fatType) }) d = (.ok f', d') ∧
      HStep f d f' d' ((absFile d.fs d.img f).truncate (fatAllocator d.fs.totalClusters d.fs.fsInfo.next)
        (tabView d.fs d.img)).2.1 := by
  have ⟨hfa, hwf, hg, hrep, hinfo⟩ := h
  have hinv := hrep.inv
  generalize hf1 : ({ f with entry := some (truncEditor f e d.fs.fatType) } : FileH) = f1
  have hf1sz : f1.size? = some f.offset := by
    rw [← hf1]; unfold FileH.size?; exact size?_truncEditor f e _ sz hesz
  have hf1first : f1.firstCluster = f.firstCluster := by rw [← hf1]
  have hf1cur : f1.currentCluster = f.currentCluster := by rw [← hf1]
  have hf1off : f1.offset = f.offset := by rw [← hf1]
  have hf1ent : f1.entry = some (truncEditor f e d.fs.fatType) := by rw [← hf1]
  obtain ⟨_, hiA, _, _⟩ := hinv.truncate_refines (fatAllocator_laws d.fs.totalClusters d.fs.fsInfo.next)
  generalize fatAllocator d.fs.totalClusters d.fs.fsInfo.next = A at hiA ⊢
  have hlive : ∀ x ∈ fileChain d.fs d.img f,
      2 ≤ x ∧ x < d.fs.totalClusters + 2 ∧ tabView d.fs d.img x ≠ .free := fun x hx =>
    ⟨(hrep.inTab x hx).1, (hrep.inTab x hx).2, hinv.live x hx⟩
  cases hcc : f.currentCluster with
  | some cur =>
    obtain ⟨ho, hci, hmem⟩ := hrep.cur_mem hcc
    generalize (f.offset - 1) / d.fs.clusterSize = i at hci
    obtain ⟨c0, hc0⟩ := fileChain_first_of_mem hmem
    have hch := hrep.chain c0 hc0
    have hilt : i < (fileChain d.fs d.img f).length := (List.getElem?_eq_some_iff.mp hci).1
    have hdrop : (fileChain d.fs d.img f).drop i = cur :: (fileChain d.fs d.img f).drop (i + 1) := by
      rw [List.drop_eq_getElem_cons hilt]
      congr 1
      exact Option.some.inj ((List.getElem?_eq_getElem hilt).symm.trans hci)
    obtain ⟨d2, hr2, _, htv2, hinfo2, hfst2⟩ := run_truncateClusterChain_fine cur _ d hfa hwf hg hinfo
      (hdrop ▸ chain_drop hch i cur hci) (hdrop ▸ hinv.nodup.sublist (List.drop_sublist _ _))
      fun x hx => hlive x (List.mem_of_mem_drop (hdrop ▸ hx))
    obtain ⟨hcch, hclive, hceoc, hcother⟩ := chain_cut hch hinv.nodup hinv.live hci
    have hcut : Cursor.cutAfter cur (absFile d.fs d.img f).chain = (fileChain d.fs d.img f).take (i + 1) :=
      (Cursor.cutAfter_of_getElem? _ i cur hinv.nodup hci).1
    rw [Cursor.truncate_some (A := A) (s := tabView d.fs d.img) (show (absFile d.fs d.img f).current = some cur from hcc)
      (show (absFile d.fs d.img f).offset ≠ 0 from ho), hcut] at hiA ⊢
    refine ⟨f1, d2, ?_, HStep.of_fatStep h hcd hfst2 (fun x hx => ?_) (fun x hx => ?_) hinfo2 hiA rfl rfl hf1sz
      hf1first hf1off hf1cur (fun c0' h0 => ?_) (fun x hx => Or.inl (List.mem_of_mem_take hx)) (fun x hx => ?_)
      (by rw [htv2]; exact hceoc) (truncEditor_edStep he _ hf1ent hf1off (by rw [if_neg ho]; exact hf1first))⟩
    · unfold truncBody
      rw [hf1cur, hcc]
      simp only
      rw [hf1off, if_neg ho, run_bind_ok hr2]
      rfl
    · have hx' : x ∈ fileChain d.fs d.img f := List.mem_of_mem_drop (hdrop ▸ hx)
      exact ⟨(hlive x hx').2.1, Or.inl hx'⟩
    · rw [htv2]
      exact hcother x (fun e => hx (e ▸ List.mem_cons_self)) fun hm => hx (List.mem_cons_of_mem _ hm)
    · cases hc0.symm.trans h0
      rw [htv2]; exact hcch
    · have hx' := hlive x (List.mem_of_mem_take hx)
      exact ⟨hx'.1, hx'.2.1, by rw [htv2]; exact hclive x hx⟩
  | none =>
    have ho : f.offset = 0 := hinv.current_eq_none.mp hcc
    have hrunb : ∀ r, run (match f1.firstCluster with
        | some n => do freeClusterChain n; pure { f1 with firstCluster := none }
        | none => pure f1) d = r → run (truncBody f1) d = r := by
      intro r hr
      unfold truncBody
      split
      · rename_i c hc
        cases (hf1cur.trans hcc).symm.trans hc
      · rw [if_neg (fun hne => hne (hf1off.trans ho))]
        exact hr
    cases hfirst : f.firstCluster with
    | some n =>
      obtain ⟨d2, hr2, _, htv2, hinfo2, hfst2⟩ := run_freeClusterChain_fine n _ d hfa hwf hg hinfo
        (hrep.chain n hfirst) hinv.nodup hlive
      rw [Cursor.truncate_none_some (A := A) (s := tabView d.fs d.img) (show (absFile d.fs d.img f).current = none from hcc)
        (show (absFile d.fs d.img f).offset = 0 from ho) (show (absFile d.fs d.img f).firstCluster = some n from hfirst)]
        at hiA ⊢
      refine ⟨{ f1 with firstCluster := none }, d2, hrunb _ ?_, HStep.of_fatStep h hcd hfst2
        (fun x hx => ⟨(hlive x hx).2.1, Or.inl hx⟩) (fun x hx => ?_) hinfo2 hiA rfl rfl hf1sz rfl hf1off hf1cur
        (fun c0 h0 => by cases h0) (fun x hx => by cases hx) (fun x hx => by cases hx) (fun x hx => by cases hx)
        (truncEditor_edStep he _ hf1ent hf1off (by rw [if_pos ho]))⟩
      · rw [hf1first, hfirst]
        simp only
        rw [run_bind_ok hr2]
        rfl
      · rw [htv2]; unfold freedView; rw [if_neg hx]
    | none =>
      rw [Cursor.truncate_none_none (A := A) (s := tabView d.fs d.img) (show (absFile d.fs d.img f).current = none from hcc)
        (show (absFile d.fs d.img f).offset = 0 from ho) (show (absFile d.fs d.img f).firstCluster = none from hfirst)]
        at hiA ⊢
      exact ⟨f1, d, hrunb _ (by rw [hf1first, hfirst]; rfl), HStep.of_fatStep (C := fun _ => False) h hcd
        ⟨DevStep.refl d, hcd, fun _ _ _ => rfl, fun _ E D _ => Trace.refl _ E D d⟩ (fun _ hx => hx.elim)
        (fun _ _ => rfl) hinfo hiA rfl rfl hf1sz hf1first hf1off hf1cur hrep.chain (fun x hx => Or.inl hx) hlive
        hrep.last_eoc (truncEditor_edStep he _ hf1ent hf1off (by rw [if_pos ho, hf1first, hfirst]))⟩

/-- **`truncate_sim`.**  `File::truncate` on a fault-free device: succeeds; the recorded size becomes the cursor
    position; the FAT chain is cut after the current cluster (its tail freed, the current cluster marked end-of-chain) or
    — at position 0 — freed entirely and the first cluster cleared; the new handle on the new image is core-equal to the
    machine's state after `truncate` and represented again; the FS-info bookkeeping stays consistent. -/
theorem truncate_sim (f : FileH) (d : Dev) (h : SimInv f d) :
    ∃ f' d', run f.truncate d = (.ok f', d') ∧
      ((absFile d.fs d.img f).truncate (fatAllocator d.fs.totalClusters d.fs.fsInfo.next)
        (tabView d.fs d.img)).1 = .ok () ∧
      HStep f d f' d' ((absFile d.fs d.img f).truncate
        (fatAllocator d.fs.totalClusters d.fs.fsInfo.next) (tabView d.fs d.img)).2.1 := by
  obtain ⟨sz, hsz, _⟩ := h.rep.size_facts
  obtain ⟨e, he, hesz⟩ : ∃ e, f.entry = some e ∧ e.data.size? = some sz := by
    unfold FileH.size? at hsz
    cases hfe : f.entry with
    | none => rw [hfe] at hsz; cases hsz
    | some e => rw [hfe] at hsz; exact ⟨e, rfl, hsz⟩
  obtain ⟨d1, hr1, h1, hcd1, hgeo1, hinfo1, hab1, htv1, hback⟩ := run_setDirtyFlag_sim h
  obtain ⟨f', d', hr, hst⟩ := truncBody_sim f e sz d1 h1 hcd1 he hesz
  rw [hab1, htv1, hgeo1.totalClusters, hinfo1] at hst
  refine ⟨f', d', ?_, (h.rep.inv.truncate_refines (fatAllocator_laws _ _)).1, hback hst⟩
  rw [truncate_eq f e he, run_bind_ok hr1, run_bind_ok (run_getFs d1)]
  exact hr

end FatVerif.FileSim
