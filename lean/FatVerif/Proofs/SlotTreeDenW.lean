import FatVerif.Proofs.SlotTreeDenWalk
import FatVerif.Proofs.DirCreate
import FatVerif.Proofs.DirRename
import FatVerif.Proofs.DirWriteFail
/-!
# Slot trees on a device image: the CONCRETE bundle `ImgTreeW`, its transport across a step, calls ending in the root

`ImgTree` asks, per directory and denoting stream, for an opaque readable view.  To carry the bundle across a WRITE
the kind of every directory has to be known.  `ImgTreeW d up t cl` (FAT12/16 volumes: the root is the fixed region)
says:

* `Layout d`: not FAT32, image pages well-formed, `alloc` on, `update_accessed_date` off, status byte before the root
  region, all FAT copies before the root region, root region directly before the data region;
* the root: `RootReadable d N`, and the root slots of the image are the root node's slot list followed by end markers
  (slot-level, so that `find_free_entries` / `write_entry` on the image are those on the node's list); the entry of a
  child directory carries the child's cluster;
* every other directory of `t` (path `cur ≠ []`): first cluster `c0 = cl cur`, `ChainReadable d c0 none chain`, the
  listing of the chain's slots = the two dot entries + the node's listing shifted by 2 (`DotsOk`: `.` carries `c0`,
  `..` the parent's cluster), child directories' entries carry the children's clusters.

`ImgTreeW.toImgTree`: the read-only theorems apply.  Transport: a sub-directory survives every step that keeps the
geometry, its chain a chain and its slot bytes (`SubImg.of_step`); the instances are a step on the same volume, a
write into the root slots (`imgTreeW_root_step`: the root node changes), the release of a cluster chain
(`ImgTreeW.of_freed`) and the allocation of a cluster for a new directory (`imgTreeW_newDir`: the cluster map is
extended, `clAdd`).  `root_call`: a mutating call whose directory components lead back to the root, from what its
last component does there.
-/
namespace FatVerif
namespace SlotTreeImg
open Lfn DirSlots DirAlias SlotTree DirSim FatVerif.FileSim FatVerif.Fat

/-! ## slot lists followed by end markers -/

theorem readLoop_append_ends (alloc sv : Bool) (tail : List (List Nat)) (ht : ∀ s ∈ tail, Lfn.isEnd s = true) :
    ∀ (slots : List (List Nat)) (i b : Nat) (bl : LongNameBuilder),
      Lfn.readLoop alloc sv (slots ++ tail) i b bl = Lfn.readLoop alloc sv slots i b bl := by
  intro slots
  induction slots with
  | nil =>
    intro i b bl
    cases tail with
    | nil => rfl
    | cons e r =>
      simp only [List.nil_append, Lfn.readLoop, slotClass, ht e (by simp), if_true]
  | cons s rest ih =>
    intro i b bl
    simp only [List.cons_append, Lfn.readLoop]
    split <;> simp only [ih]

theorem listing_append_ends (slots tail : List (List Nat)) (ht : ∀ s ∈ tail, Lfn.isEnd s = true) :
    listing (slots ++ tail) = listing slots := by
  unfold listing readDirEntries
  exact readLoop_append_ends _ _ tail ht slots _ _ _

theorem check_append_ends (up : Char → List Char) (slots tail : List (List Nat))
    (ht : ∀ s ∈ tail, Lfn.isEnd s = true) (name : String) (k : Option Bool) (fuel : Nat) :
    checkForExistenceL up (slots ++ tail) name k fuel = checkForExistenceL up slots name k fuel := by
  unfold checkForExistenceL
  rw [listing_append_ends slots tail ht]

/-- writing into a slot list followed by end markers = writing into the list, followed by (a suffix of) the markers -/
theorem writeAt_append_tail (slots tail new : List (List Nat)) (i : Nat) (hi : i ≤ slots.length) :
    DirSlots.writeAt (slots ++ tail) i new = DirSlots.writeAt slots i new ++ tail.drop (i + new.length -
      slots.length) := by
  unfold DirSlots.writeAt
  rw [List.take_append_of_le_length hi, List.drop_append]
  simp only [List.append_assoc]

theorem writeEntry_append_ends (slots tail : List (List Nat)) (ht : ∀ s ∈ tail, Lfn.isEnd s = true)
    (units sfn : List Nat) (hle : DirSlots.findFree slots (numParts units.length + 1) ≤ slots.length) :
    ∃ tail', DirSlots.writeEntry (slots ++ tail) units sfn = DirSlots.writeEntry slots units sfn ++ tail' ∧
      ∀ s ∈ tail', Lfn.isEnd s = true := by
  unfold DirSlots.writeEntry
  rw [findFree_append_ends slots tail ht, writeAt_append_tail slots tail _ _ hle]
  exact ⟨_, rfl, fun s hs => ht s (List.mem_of_mem_drop hs)⟩

/-! ## live short slots in front of a slot list -/

theorem readLoop_shift (alloc sv : Bool) (k : Nat) : ∀ (L : List (List Nat)) (i bi : Nat) (b : LongNameBuilder),
    Lfn.readLoop alloc sv L (i + k) (bi + k) b = (Lfn.readLoop alloc sv L i bi b).map (shiftE k) := by
  intro L
  induction L with
  | nil => intro i bi b; rfl
  | cons s rest ih =>
    intro i bi b
    have e2 : i + k + 1 = (i + 1) + k := by omega
    simp only [Lfn.readLoop, e2]
    split
    · rfl
    · exact ih _ _ _
    · exact ih _ _ _
    · split
      · exact ih _ _ _
      · rw [List.map_cons, ih]; rfl
    · rw [List.map_cons, ih]; rfl

/-- a live short slot in front: its own entry (no long name), then the listing moved by one -/
theorem listing_cons_file (s : List Nat) (slots : List (List Nat)) (hc : slotClass s = .file) :
    listing (s :: slots) = ⟨s, [], 0, 1⟩ :: (listing slots).map (shiftE 1) := by
  unfold listing readDirEntries
  simp only [Lfn.readLoop, hc]
  rw [← readLoop_shift true true 1 slots 0 0 (LongNameBuilder.new true)]
  rfl

theorem listing_dots (s1 s2 : List Nat) (hc1 : slotClass s1 = .file) (hc2 : slotClass s2 = .file)
    (slots : List (List Nat)) :
    listing (s1 :: s2 :: slots) = ⟨s1, [], 0, 1⟩ :: ⟨s2, [], 1, 2⟩ :: (listing slots).map (shiftE 2) := by
  rw [listing_cons_file s1 _ hc1, listing_cons_file s2 _ hc2, List.map_cons, List.map_map]
  congr 2

/-! ## directories below a changed root -/

/-- a directory below a root is below every root that has the directory children of that one -/
theorem getAtS_root_mono {up : Char → List Char} {slots slots' : List (List Nat)} {ch ch' : List (LfnEntry × Node)}
    (hd : DirOk up slots ch) (hd' : DirOk up slots' ch') (hsub : ∀ x ∈ ch, x.2.isDir = true → x ∈ ch')
    {q : String} {r : List String} {s : List (List Nat)} {c : List (LfnEntry × Node)}
    (h : getAtS up (.dir slots ch) (q :: r) = some (.dir s c)) :
    getAtS up (.dir slots' ch') (q :: r) = some (.dir s c) := by
  obtain ⟨x, hl, h⟩ := getAtS_cons_dir h
  have hdir : x.2.isDir = true := by
    cases hx : x.2 with
    | dir _ _ => rfl
    | file b => rw [hx] at h; exact absurd (getAtS_file b r _ h).2 (by simp)
  simp only [getAtS, lookupS_mono hd hd' hl (hsub x (lookupS_mem hl) hdir)]
  exact h

/-- the directories of `t` are directories of `t'` -/
def DirsKept (up : Char → List Char) (t t' : Node) : Prop :=
  ∀ p, (∃ s c, getAtS up t p = some (.dir s c)) → ∃ s c, getAtS up t' p = some (.dir s c)

theorem DirsKept.refl (up : Char → List Char) (t : Node) : DirsKept up t t := fun _ h => h

theorem dirsKept_root {up : Char → List Char} {slots slots' : List (List Nat)} {ch ch' : List (LfnEntry × Node)}
    (hd : DirOk up slots ch) (hd' : DirOk up slots' ch') (hsub : ∀ x ∈ ch, x.2.isDir = true → x ∈ ch') :
    DirsKept up (.dir slots ch) (.dir slots' ch') := by
  intro p ⟨s, c, hg⟩
  cases p with
  | nil => exact ⟨_, _, rfl⟩
  | cons q r => exact ⟨s, c, getAtS_root_mono hd hd' hsub hg⟩

/-! ## the concrete bundle -/

structure Layout (d : Dev) : Prop where
  fat16 : d.fs.fatType ≠ .fat32
  wf : d.img.WF
  alloc : d.fs.lfnAlloc = true
  acc : d.fs.accDate = false
  hB : 0x42 ≤ (rootSliceOf d.fs).beginOff
  fatRoot : (fatSliceOf d.fs).beginOff + (fatSliceOf d.fs).size ≤ (rootSliceOf d.fs).beginOff
  /-- all FAT copies lie before the root region -/
  fatAllRoot : (fatSliceOf d.fs).beginOff + (fatSliceOf d.fs).mirrors * (fatSliceOf d.fs).size ≤
    (rootSliceOf d.fs).beginOff
  rootData : d.fs.rootDirSectors ≤ d.fs.firstDataSector

theorem Layout.of_volStep {d d' : Dev} (L : Layout d) (hs : VolStep d d') : Layout d' := by
  have hg := hs.geom
  refine ⟨by rw [hg.fatType]; exact L.fat16, hs.wf L.wf, ?_, by rw [hg.accDate]; exact L.acc,
    by rw [rootSliceOf_geomEq hg]; exact L.hB, by rw [rootSliceOf_geomEq hg, hg.fatSlice]; exact L.fatRoot,
    by rw [rootSliceOf_geomEq hg, hg.fatSlice]; exact L.fatAllRoot, ?_⟩
  · have : d'.fs.lfnAlloc = d.fs.lfnAlloc := by rw [hg]
    rw [this]; exact L.alloc
  · have h1 : d'.fs.rootDirSectors = d.fs.rootDirSectors := by rw [hg]
    have h2 : d'.fs.firstDataSector = d.fs.firstDataSector := by rw [hg]
    rw [h1, h2]; exact L.rootData

def rootSrc (fs : FsState) : Nat → Nat := fun o => (rootSliceOf fs).beginOff + o

/-- the root node `.dir slots ch` in the fixed root region -/
def RootImg (d : Dev) (cl : List String → Option Nat) (slots : List (List Nat)) (ch : List (LfnEntry × Node)) : Prop :=
  ∃ (N : Nat) (tail : List (List Nat)), RootReadable d N ∧ rootDirSlots d.fs d.img = slots ++ tail ∧
    (∀ s ∈ tail, Lfn.isEnd s = true) ∧
    ∀ x ∈ ch, x.2.isDir = true → (toDirEntryS (rootSrc d.fs) x.1).firstCluster d.fs = cl [entryName x.1]

/-- the sub-directory node `.dir slots ch` at the path `cur` in its cluster chain -/
def SubImg (d : Dev) (cl : List String → Option Nat) (cur : List String) (slots : List (List Nat))
    (ch : List (LfnEntry × Node)) : Prop :=
  ∃ (c0 : Nat) (chain : List Nat) (e1 e2 : LfnEntry), cl cur = some c0 ∧ ChainReadable d c0 none chain ∧
    listing (chainSlots d.fs d.img chain) = [e1, e2] ++ (listing slots).map (shiftE 2) ∧
    DotsOk d.fs (chainSrc d.fs chain) cl cur e1 e2 ∧
    ∀ x ∈ ch, x.2.isDir = true →
      (toDirEntryS (chainSrc d.fs chain) (shiftE 2 x.1)).firstCluster d.fs = cl (cur ++ [entryName x.1])

structure ImgTreeW (d : Dev) (up : Char → List Char) (t : Node) (cl : List String → Option Nat) : Prop where
  lay : Layout d
  rootNone : cl [] = none
  rootImg : ∀ slots ch, t = .dir slots ch → RootImg d cl slots ch
  subs : ∀ cur slots ch, cur ≠ [] → getAtS up t cur = some (.dir slots ch) → SubImg d cl cur slots ch

/-- the new cluster map agrees with the old one on the directories of `t` -/
def ClAgree (up : Char → List Char) (t : Node) (cl cl' : List String → Option Nat) : Prop :=
  ∀ p, (∃ s c, getAtS up t p = some (.dir s c)) → cl' p = cl p

theorem ClAgree.refl (up : Char → List Char) (t : Node) (cl : List String → Option Nat) : ClAgree up t cl cl :=
  fun _ _ => rfl

/-! ## streams and the geometry -/

theorem firstCluster_geom {a b : FsState} (h : FsGeomEq a b) (e : DirEntry) :
    e.firstCluster b = e.firstCluster a := by
  unfold DirEntry.firstCluster; rw [h.fatType]

theorem rootDirStream_geom {a b : FsState} (h : FsGeomEq a b) : rootDirStream b = rootDirStream a := by
  rw [h]; rfl

theorem rootSrc_geom {a b : FsState} (h : FsGeomEq a b) : rootSrc b = rootSrc a := by
  unfold rootSrc; rw [rootSliceOf_geomEq h]

theorem dirStream_geom {a b : FsState} (h : FsGeomEq a b) (e : DirEntry) :
    DirEntry.dirStream b e = DirEntry.dirStream a e := by
  cases hc : e.firstCluster a with
  | none =>
    rw [DirEntry.dirStream_of_none a e hc, DirEntry.dirStream_of_none b e (by rw [firstCluster_geom h, hc]),
      rootDirStream_geom h]
  | some c =>
    rw [DirEntry.dirStream_of_cluster a e c hc, DirEntry.dirStream_of_cluster b e c (by rw [firstCluster_geom h, hc])]

theorem streamFor_geom {a b : FsState} (h : FsGeomEq a b) {c : Option Nat} {st : DirStream}
    (hs : StreamFor a c st) : StreamFor b c st := by
  rcases hs with ⟨h1, h2⟩ | ⟨e, h1, h2, h3⟩
  · exact Or.inl ⟨h1, by rw [rootDirStream_geom h]; exact h2⟩
  · exact Or.inr ⟨e, h1, by rw [firstCluster_geom h]; exact h2, by rw [dirStream_geom h]; exact h3⟩

theorem rootDirStream_fixed (fs : FsState) (h : fs.fatType ≠ .fat32) : rootDirStream fs = rootAt fs 0 := by
  unfold rootDirStream
  cases hf : fs.fatType <;> first | rfl | exact absurd hf h

/-- on FAT12/16 every stream of the root is the stream of the fixed region -/
theorem streamFor_root {fs : FsState} (h : fs.fatType ≠ .fat32) {st : DirStream} (hs : StreamFor fs none st) :
    st = rootAt fs 0 := by
  rw [← rootDirStream_fixed fs h]
  rcases hs with ⟨_, h⟩ | ⟨e, _, he, h⟩
  · exact h
  · rw [h]; exact DirEntry.dirStream_of_none _ _ he

theorem den_root_stream {d : Dev} {up : Char → List Char} {t : Node} {cl : List String → Option Nat}
    (W : ImgTreeW d up t cl) {st : DirStream} (hden : Den d up t cl [] st) : st = rootAt d.fs 0 :=
  streamFor_root W.lay.fat16 (W.rootNone ▸ hden.2)

/-! ## … gives the abstract one -/

/-- a cluster-chain directory readable through the entry-less handle is readable through the handle of any clean
    directory entry (`update_accessed_date` off) -/
theorem chainReadable_ent {d : Dev} {c0 : Nat} {chain : List Nat} (h : ChainReadable d c0 none chain)
    (hacc : d.fs.accDate = false) (e : DirEntry) (hd : e.isDir = true) :
    ChainReadable d c0 (some e.editor) chain := by
  obtain ⟨⟨f1, f2, _, f4, f5, _, _, _, f9, f10⟩, hf⟩ := h
  refine ⟨⟨f1, f2, rfl, f4, f5, ?_, Or.inl hacc, ?_, f9, f10⟩, hf⟩
  · show e.data.size? = none
    unfold DirFileEntryData.size? DirFileEntryData.isFile
    have : e.data.isDir = true := hd
    simp [this]
  · intro ed hed
    cases hed
    rfl

theorem map_shiftE_zero (l : List LfnEntry) : l.map (shiftE 0) = l := List.map_id'' (fun _ => rfl) l

theorem ImgTreeW.toImgTree {d : Dev} {up : Char → List Char} {t : Node} {cl : List String → Option Nat}
    (W : ImgTreeW d up t cl) : ImgTree d up t cl := by
  refine ⟨W.rootNone, ?_⟩
  intro cur slots ch hg st hs
  by_cases hc : cur = []
  · subst hc
    have ht : t = .dir slots ch := by simpa [getAtS] using hg
    obtain ⟨N, tail, hR, hsl, htl, hchild⟩ := W.rootImg slots ch ht
    obtain rfl := streamFor_root W.lay.fat16 (W.rootNone ▸ hs)
    refine ⟨DirView.ofRoot hR, [], 0, ?_, fun _ => rfl, fun h => absurd rfl h, hchild⟩
    show readDirEntries d.fs.lfnAlloc true (srcSlots d.img (rootSrc d.fs) N) = _
    rw [W.lay.alloc]
    unfold rootSrc
    rw [srcSlots_root hR, hsl]
    show listing (slots ++ tail) = _
    rw [listing_append_ends slots tail htl, List.nil_append, map_shiftE_zero]
  · obtain ⟨c0, chain, e1, e2, hcl, hC, hlist, hdots, hchild⟩ := W.subs cur slots ch hc hg
    obtain ⟨e, hd, he, rfl⟩ : ∃ e : DirEntry, e.isDir = true ∧ e.firstCluster d.fs = some c0 ∧
        st = .file (FileH.new (some c0) (some e.editor)) := by
      rcases hs with ⟨h, _⟩ | ⟨e, hd, he, h⟩
      · rw [hcl] at h; cases h
      · rw [hcl] at he
        exact ⟨e, hd, he, by rw [h]; exact DirEntry.dirStream_of_cluster _ _ _ he⟩
    have hC' := chainReadable_ent hC W.lay.acc e hd
    refine ⟨DirView.ofChain hC', [e1, e2], 2, ?_, fun h => absurd h hc, fun _ => ⟨e1, e2, rfl, hdots⟩, hchild⟩
    show readDirEntries d.fs.lfnAlloc true
      (srcSlots d.img (chainSrc d.fs chain) (chain.length * (d.fs.clusterSize / 32))) = _
    rw [W.lay.alloc, hC'.slots_eq]
    exact hlist

/-- the handle of a directory of the old tree can be dropped on a device that holds a tree with those directories -/
theorem drop_after {d d' : Dev} {up : Char → List Char} {t t' : Node} {cl cl' : List String → Option Nat}
    (W' : ImgTreeW d' up t' cl') (hA : ClAgree up t cl cl') (hkeep : DirsKept up t t') (hs : VolStep d d')
    {p : List String} {sub : DirStream} (hden : Den d up t cl p sub) : Reads sub.dropBody d' () := by
  have hden' : Den d' up t' cl' p sub :=
    ⟨hkeep p hden.1, by rw [hA p hden.1]; exact streamFor_geom hs.geom hden.2⟩
  obtain ⟨V'⟩ := den_view W'.toImgTree hden'
  exact V'.drop_sim d' (SameVol.refl d')

/-! ## transport across a step -/

theorem DotsOk.of_geom {a b : FsState} (h : FsGeomEq a b) {src : Nat → Nat} {cl : List String → Option Nat}
    {cur : List String} {e1 e2 : LfnEntry} (D : DotsOk a src cl cur e1 e2) : DotsOk b src cl cur e1 e2 :=
  ⟨D.units1, D.raw1, D.dir1, by rw [firstCluster_geom h]; exact D.own, D.units2, D.raw2, D.dir2,
    by rw [firstCluster_geom h]; exact D.parent⟩

/-- a cluster-chain directory stays readable across a step that keeps the geometry and under which its chain is
    still a chain of the FAT -/
theorem _root_.FatVerif.DirSim.ChainReadable.of_link {d d' : Dev} {c0 : Nat} {ent : Option DirEntryEditor} {chain :
  List Nat}
    (h : ChainReadable d c0 ent chain) (hs : VolStep d d') (hl : Chain (tabView d'.fs d'.img) c0 chain) :
    ChainReadable d' c0 ent chain :=
  ⟨⟨by rw [hs.failAt]; exact h.dir.failAt, by rw [hs.size]; exact h.dir.geo.frame hs.geom, h.dir.first, hl,
      by rw [hs.geom.totalClusters]; exact h.dir.inTab, h.dir.nosize, by rw [hs.geom.accDate]; exact h.dir.noacc,
      h.dir.clean, by rw [hs.geom.clusterSize]; exact h.dir.cs32, by rw [hs.geom.clusterSize]; exact h.dir.u32⟩,
    by rw [hs.geom.clusterSize, dirFuel_geom hs.geom]; exact h.fuel⟩

/-- **a sub-directory is carried across a step** that keeps the geometry, under which its chain is still a readable
    chain and the bytes of its slots are kept -/
theorem SubImg.of_step {d d' : Dev} {cl : List String → Option Nat} {cur : List String}
    {slots : List (List Nat)} {ch : List (LfnEntry × Node)} (S : SubImg d cl cur slots ch) (hs : VolStep d d')
    (h : ∀ c0 chain, cl cur = some c0 → ChainReadable d c0 none chain →
      ChainReadable d' c0 none chain ∧
      ∀ i, i < chain.length * (d.fs.clusterSize / 32) → ∀ x, x < 32 →
        d'.img.getByte (chainSrc d.fs chain (32 * i) + x) = d.img.getByte (chainSrc d.fs chain (32 * i) + x)) :
    SubImg d' cl cur slots ch := by
  obtain ⟨c0, chain, e1, e2, hcl, hC, hlist, hdots, hchild⟩ := S
  obtain ⟨hC', hb⟩ := h c0 chain hcl hC
  have hcs : chainSlots d'.fs d'.img chain = chainSlots d.fs d.img chain := by
    rw [← hC'.slots_eq, ← hC.slots_eq, chainSrc_of_volStep hs, hs.geom.clusterSize]
    exact srcSlots_congr hb
  have hsrc := chainSrc_of_volStep hs chain
  refine ⟨c0, chain, e1, e2, hcl, hC', by rw [hcs]; exact hlist, by rw [hsrc]; exact hdots.of_geom hs.geom, ?_⟩
  intro x hx hd
  rw [hsrc, firstCluster_geom hs.geom]
  exact hchild x hx hd

/-- the root node is carried across a step that keeps the geometry and the bytes of the root slots -/
theorem RootImg.of_step {d d' : Dev} {cl : List String → Option Nat} {slots : List (List Nat)}
    {ch : List (LfnEntry × Node)} (R : RootImg d cl slots ch) (hs : VolStep d d')
    (hb : ∀ N, RootReadable d N → ∀ i, i < N → ∀ x, x < 32 →
      d'.img.getByte ((rootSliceOf d.fs).beginOff + 32 * i + x) = d.img.getByte ((rootSliceOf d.fs).beginOff + 32 * i
        + x)) :
    RootImg d' cl slots ch := by
  obtain ⟨N, tail, hR, hsl, htl, hchild⟩ := R
  have hR' := hR.of_volStep hs
  refine ⟨N, tail, hR', ?_, htl, fun x hx hd => by
    rw [rootSrc_geom hs.geom, firstCluster_geom hs.geom]; exact hchild x hx hd⟩
  rw [← srcSlots_root hR', ← hsl, ← srcSlots_root hR, rootSliceOf_geomEq hs.geom]
  exact srcSlots_congr (hb N hR)

theorem SubImg.of_sameVol {d d' : Dev} {cl : List String → Option Nat} {cur : List String}
    {slots : List (List Nat)} {ch : List (LfnEntry × Node)} (hv : SameVol d d') (S : SubImg d cl cur slots ch) :
    SubImg d' cl cur slots ch :=
  S.of_step (VolStep.of_sameVol hv) fun _ _ _ hC =>
    ⟨hC.of_volStep (VolStep.of_sameVol hv) (fun q _ _ => by rw [hv.img]), fun _ _ _ _ => by rw [hv.img]⟩

theorem ImgTreeW.of_sameVol {d d' : Dev} {up : Char → List Char} {t : Node} {cl : List String → Option Nat}
    (W : ImgTreeW d up t cl) (hv : SameVol d d') : ImgTreeW d' up t cl :=
  ⟨W.lay.of_volStep (VolStep.of_sameVol hv), W.rootNone,
    fun s c ht => (W.rootImg s c ht).of_step (VolStep.of_sameVol hv) (fun _ _ _ _ _ _ => by rw [hv.img]),
    fun cur s c hne hg => (W.subs cur s c hne hg).of_sameVol hv⟩

/-- what a call ending in the root starts from, on a device `d4` of the volume of `d`: the bundle holds of `d4`, whose
    root region holds the root node's slot list and end markers; the root handle of `d` is that of `d4` -/
theorem ImgTreeW.root_view {d d4 : Dev} {up : Char → List Char} {cl : List String → Option Nat}
    {slots : List (List Nat)} {ch : List (LfnEntry × Node)} (W : ImgTreeW d up (.dir slots ch) cl)
    (hwf : TreeWf up (.dir slots ch)) (hv : SameVol d d4) :
    ImgTreeW d4 up (.dir slots ch) cl ∧ DirOk up slots ch ∧ rootAt d.fs 0 = rootAt d4.fs 0 ∧
      ∃ (N : Nat) (tail : List (List Nat)), RootReadable d4 N ∧ rootDirSlots d4.fs d4.img = slots ++ tail ∧
        ∀ s ∈ tail, Lfn.isEnd s = true := by
  have W4 := W.of_sameVol hv
  obtain ⟨N, tail, hR, hsl, htl, _⟩ := W4.rootImg slots ch rfl
  exact ⟨W4, ((all_dir _ slots ch).1 hwf).1, by rw [hv.fs], N, tail, hR, hsl, htl⟩

/-- **the bundle after a write into the root directory**: a step that keeps the volume geometry (`VolStep`) and every
    byte from `0x42` on outside the root slots (`FrameOutG`), with new root slots = a new root slot list + end markers
    whose directory children are old ones -/
theorem imgTreeW_root_step {d d' : Dev} {up : Char → List Char} {cl : List String → Option Nat}
    {slots slots' : List (List Nat)} {ch ch' : List (LfnEntry × Node)} (W : ImgTreeW d up (.dir slots ch) cl)
    (hd : DirOk up slots ch) (hd' : DirOk up slots' ch') {N : Nat} (hR : RootReadable d N) (hs : VolStep d d')
    (hfr : FrameOutG N (rootSrc d.fs) d d') (tail' : List (List Nat))
    (hsl' : rootDirSlots d'.fs d'.img = slots' ++ tail') (htl' : ∀ s ∈ tail', Lfn.isEnd s = true)
    (hdirs : ∀ x ∈ ch', x.2.isDir = true → x ∈ ch) : ImgTreeW d' up (.dir slots' ch') cl := by
  refine ⟨W.lay.of_volStep hs, W.rootNone, ?_, ?_⟩
  · intro s c ht
    obtain ⟨rfl, rfl⟩ : slots' = s ∧ ch' = c := by simpa using ht
    obtain ⟨_, _, _, _, _, hchild⟩ := W.rootImg slots ch rfl
    refine ⟨N, tail', hR.of_volStep hs, hsl', htl', fun x hx hdx => ?_⟩
    rw [rootSrc_geom hs.geom, firstCluster_geom hs.geom]
    exact hchild x (hdirs x hx hdx) hdx
  · intro cur s c hne hg
    obtain ⟨q, r, rfl⟩ := List.exists_cons_of_ne_nil hne
    refine (W.subs (q :: r) s c hne (getAtS_root_mono hd' hd hdirs hg)).of_step hs fun c0 chain _ hC => ?_
    have hend := rootSlice_end d.fs W.lay.rootData
    have hrs := hR.slots
    refine ⟨hC.of_volStep hs (fatAgree_of_frame hfr d.fs hC.dir.geo.status_lt (fun j _ => by
      show _ ≤ (rootSliceOf d.fs).beginOff + 32 * j
      have := W.lay.fatRoot; omega)), fun i hi x hx => ?_⟩
    obtain ⟨b1, b2⟩ := hC.dir.slot_behind i
    refine hfr _ (by omega) (fun j hj => ?_)
    show ¬ ((rootSliceOf d.fs).beginOff + 32 * j ≤ _ ∧ _ < (rootSliceOf d.fs).beginOff + 32 * j + 32)
    omega

/-! ## across the release of a chain -/

/-- the freed clusters are on no directory chain of the tree -/
def FreedApart (d : Dev) (up : Char → List Char) (t : Node) (cl : List String → Option Nat) (cs : List Nat) : Prop :=
  ∀ cur s c, cur ≠ [] → getAtS up t cur = some (.dir s c) → ∀ c0 chain, cl cur = some c0 →
    Chain (tabView d.fs d.img) c0 chain → ∀ x ∈ chain, x ∉ cs

theorem FreedApart.of_sameVol {d d1 : Dev} {up : Char → List Char} {t : Node} {cl : List String → Option Nat}
    {cs : List Nat} (h : FreedApart d up t cl cs) (hv : SameVol d d1) : FreedApart d1 up t cl cs := by
  intro cur s c hne hg c0 chain hcl hch
  rw [hv.fs, hv.img] at hch
  exact h cur s c hne hg c0 chain hcl hch

/-- the bundle survives the release of a cluster chain that shares no cluster with any directory of the tree: the FAT
    changes (`freedView`), every directory chain is still a chain (`ChainCore.of_freed`), all slot bytes lie outside the
    FAT copies and are kept -/
theorem ImgTreeW.of_freed {d1 d2 : Dev} {up : Char → List Char} {t : Node} {cl : List String → Option Nat}
    {cs : List Nat} (W : ImgTreeW d1 up t cl) (hf : FreedStep d1 d2 cs) (hapart : FreedApart d1 up t cl cs) :
    ImgTreeW d2 up t cl := by
  have hs : VolStep d1 d2 := VolStep.of_devStep hf.step
  refine ⟨W.lay.of_volStep hs, W.rootNone, fun s c ht => (W.rootImg s c ht).of_step hs fun N _ i _ x _ => ?_,
    fun cur s c hne hg => (W.subs cur s c hne hg).of_step hs fun c0 chain hcl hC => ⟨?_, fun i hi x hx => ?_⟩⟩
  · refine hf.frame _ (by have := W.lay.hB; omega) (Or.inr ?_)
    have := W.lay.fatAllRoot
    omega
  · exact hC.of_link hs (by
      rw [hf.tv]; exact chain_freed_other hC.dir.link (hapart cur s c hne hg c0 chain hcl hC.dir.link))
  · obtain ⟨b1, b2⟩ := hC.dir.slot_behind i
    refine hf.frame _ (by omega) (Or.inr ?_)
    have := hC.dir.geo.fat_data
    omega

/-! ## a new directory in the root -/

/-- the frame of a `create_dir` in the root: bytes behind the status byte, outside the FAT copies, the root slots and
    the new cluster are kept -/
def DirFrame (d d' : Dev) (N c : Nat) : Prop :=
  ∀ q, 0x42 ≤ q → OutsideFat d.fs q →
    (∀ i, i < N → ¬ (rootSrc d.fs (32 * i) ≤ q ∧ q < rootSrc d.fs (32 * i) + 32)) →
    ¬ (clusterOff d.fs c ≤ q ∧ q < clusterOff d.fs c + d.fs.clusterSize) → d'.img.getByte q = d.img.getByte q

/-- every OTHER directory survives a `create_dir` in the root (the FAT entry of the new cluster `c` becomes
    end-of-chain, the cluster is filled): its chain does not contain `c`, its slot bytes lie outside the FAT copies,
    the root region and the cluster `c` -/
theorem SubImg.of_dirStep {d d' : Dev} {cl : List String → Option Nat} {cur : List String}
    {slots : List (List Nat)} {ch : List (LfnEntry × Node)} (L : Layout d) {N : Nat} (hR : RootReadable d N)
    (hs : VolStep d d') (c : Nat) (hc2 : 2 ≤ c) (htv : tabView d'.fs d'.img = updV (tabView d.fs d.img) c .eoc)
    (hfr : DirFrame d d' N c) (S : SubImg d cl cur slots ch)
    (hapart : ∀ c0 chain, cl cur = some c0 → Chain (tabView d.fs d.img) c0 chain → c ∉ chain) :
    SubImg d' cl cur slots ch := by
  refine S.of_step hs fun c0 chain hcl hC => ⟨?_, fun i hi x hx => ?_⟩
  · exact hC.of_link hs (by
      rw [htv]; exact chain_updV_other _ _ _ _ _ hC.dir.link (hapart c0 chain hcl hC.dir.link))
  · have hend := rootSlice_end d.fs L.rootData
    obtain ⟨b1, b2⟩ := hC.dir.slot_behind i
    obtain ⟨k1, _, k2⟩ := chainSrc_clear hC.dir.geo hC.dir.cs32 chain hC.dir.inTab hc2
      (hapart c0 chain hcl hC.dir.link) i hi
    refine hfr _ (by omega) (Or.inr (by omega)) (fun j hj => ?_) (by omega)
    show ¬ ((rootSliceOf d.fs).beginOff + 32 * j ≤ _ ∧ _ < (rootSliceOf d.fs).beginOff + 32 * j + 32)
    have := hR.slots
    omega

/-- a bundle only looks at the cluster map at the path, its parent and its children -/
theorem SubImg.congr_cl {d : Dev} {cl cl' : List String → Option Nat} {cur : List String}
    {slots : List (List Nat)} {ch : List (LfnEntry × Node)} (S : SubImg d cl cur slots ch)
    (h1 : cl' cur = cl cur) (h2 : cl' cur.dropLast = cl cur.dropLast)
    (h3 : ∀ x ∈ ch, x.2.isDir = true → cl' (cur ++ [entryName x.1]) = cl (cur ++ [entryName x.1])) :
    SubImg d cl' cur slots ch := by
  obtain ⟨c0, chain, e1, e2, hcl, hC, hlist, hdots, hchild⟩ := S
  refine ⟨c0, chain, e1, e2, by rw [h1]; exact hcl, hC, hlist,
    ⟨hdots.units1, hdots.raw1, hdots.dir1, by rw [h1]; exact hdots.own, hdots.units2, hdots.raw2, hdots.dir2,
      by rw [h2]; exact hdots.parent⟩, ?_⟩
  intro x hx hd
  rw [h3 x hx hd]; exact hchild x hx hd

/-! ### the fresh directory -/

theorem slotClass_dotlike (raw : List Nat) (stamp : List Nat) (hl : raw.length = 11) (h0 : raw.headD 0 = 46) :
    slotClass (sfnWith raw (16 :: stamp)) = .file := by
  cases raw with
  | nil => simp at hl
  | cons x xs =>
    simp only [List.headD_cons] at h0
    subst h0
    have hb0 : Lfn.byte (sfnWith (46 :: xs) (16 :: stamp)) 0 = 46 := by simp [sfnWith, Lfn.byte]
    have hb11 : Lfn.byte (sfnWith (46 :: xs) (16 :: stamp)) 11 = 16 := by
      unfold sfnWith Lfn.byte
      rw [List.getD_eq_getElem?_getD, List.getElem?_append_right (by omega), hl]
      simp
    unfold slotClass Lfn.isEnd Lfn.isDeleted Lfn.isLfn Lfn.isVolume Lfn.attrs
    rw [hb0, hb11]
    decide

/-- the listing of a fresh directory cluster: the two dot entries -/
theorem listing_fresh (s1 s2 : List Nat) (k : Nat) (h1 : slotClass s1 = .file) (h2 : slotClass s2 = .file) :
    listing (s1 :: s2 :: List.replicate k (List.replicate 32 0)) = [⟨s1, [], 0, 1⟩, ⟨s2, [], 1, 2⟩] := by
  have hz : listing (List.replicate k (List.replicate 32 0)) = [] :=
    listing_append_ends [] _ (fun s hs => by rw [List.eq_of_mem_replicate hs]; decide)
  rw [listing_dots s1 s2 h1 h2, hz]
  rfl

theorem dot_firstCluster (src : Nat → Nat) (fs fs' : FsState) (t : Nat) (a : List Nat) (first : Option Nat)
    (b e : Nat) (ha : a.length = 11) (hab : ∀ x ∈ a, x < 256) (hft : fs'.fatType = fs.fatType)
    (hc : ∀ n, first = some n → 0 < n ∧ n < (if fs.fatType = .fat32 then 4294967296 else 65536)) (units : List Nat) :
    (toDirEntryS src ⟨sfnWith a (16 :: sfnStamp fs t first), units, b, e⟩).firstCluster fs' = first := by
  unfold DirEntry.firstCluster
  rw [toDirEntryS_sfnAt_data src fs t a 16 first units b e ha hab (by decide) (by decide), hft]
  exact sfnAt_firstCluster fs t a 16 first hc

/-- **the fresh directory**: a one-cluster chain whose slots are `.`, `..` and zero slots is the empty node -/
theorem SubImg.fresh {d' : Dev} {cl' : List String → Option Nat} (cur : List String) (c : Nat)
    (ent : Option DirEntryEditor) (hC : ChainDir d' (FileH.new (some c) ent) c [c])
    (hfuel : d'.fs.clusterSize / 32 < dirFuel d'.fs) (fs : FsState) (t : Nat) (par : Option Nat) (k : Nat)
    (hft : d'.fs.fatType = fs.fatType) (hfat : fs.fatType ≠ .fat32) (hc : 0 < c ∧ c < 65536)
    (hpar : ∀ n, par = some n → 0 < n ∧ n < 65536)
    (hsl : chainSlots d'.fs d'.img [c] =
      sfnWith dotRaw (16 :: sfnStamp fs t (some c)) :: sfnWith dotDotRaw (16 :: sfnStamp fs t par) ::
        List.replicate k (List.replicate 32 0))
    (hcl : cl' cur = some c) (hp : cl' cur.dropLast = par) : SubImg d' cl' cur [] [] := by
  have hC0 : ChainReadable d' c none [c] :=
    ⟨⟨hC.failAt, hC.geo, rfl, hC.link, hC.inTab, rfl, Or.inr rfl, (fun e he => by cases he), hC.cs32, hC.u32⟩,
     by rw [List.length_singleton, Nat.one_mul]; exact hfuel⟩
  have hl1 : dotRaw.length = 11 := by decide
  have hl2 : dotDotRaw.length = 11 := by decide
  have hb1 : ∀ x ∈ dotRaw, x < 256 := by decide
  have hb2 : ∀ x ∈ dotDotRaw, x < 256 := by decide
  have hif : (if fs.fatType = .fat32 then 4294967296 else 65536) = 65536 := by rw [if_neg hfat]
  refine ⟨c, [c], ⟨sfnWith dotRaw (16 :: sfnStamp fs t (some c)), [], 0, 1⟩,
    ⟨sfnWith dotDotRaw (16 :: sfnStamp fs t par), [], 1, 2⟩, hcl, hC0, ?_, ?_, fun x hx => by cases hx⟩
  · rw [hsl]
    exact listing_fresh _ _ k (slotClass_dotlike dotRaw _ hl1 rfl) (slotClass_dotlike dotDotRaw _ hl2 rfl)
  · refine ⟨rfl, sfnName_sfnWith _ _ hl1, ?_, ?_, rfl, sfnName_sfnWith _ _ hl2, ?_, ?_⟩
    · rw [isDir_sfnWith _ _ _ hl1]; decide
    · rw [hcl]
      exact dot_firstCluster _ fs d'.fs t dotRaw (some c) 0 1 hl1 hb1 hft
        (fun n hn => by cases hn; rw [hif]; exact hc) []
    · rw [isDir_sfnWith _ _ _ hl2]; decide
    · rw [hp]
      exact dot_firstCluster _ fs d'.fs t dotDotRaw par 1 2 hl2 hb2 hft
        (fun n hn => by rw [hif]; exact hpar n hn) []

/-! ### the cluster map with the new directory -/

/-- `cl` with the one-component paths that hit the entry `k` sent to `c` -/
def clAdd (cl : List String → Option Nat) (up : Char → List Char) (k : LfnEntry) (c : Nat) :
    List String → Option Nat
  | [q] => if matchesName up k q.toList then some c else cl [q]
  | p => cl p

theorem clAdd_nil (cl : List String → Option Nat) (up : Char → List Char) (k : LfnEntry) (c : Nat) :
    clAdd cl up k c [] = cl [] := rfl

theorem clAdd_hit (cl : List String → Option Nat) (up : Char → List Char) (k : LfnEntry) (c : Nat) (q : String)
    (h : matchesName up k q.toList = true) : clAdd cl up k c [q] = some c := by
  show (if matchesName up k q.toList then some c else cl [q]) = some c
  rw [if_pos h]

theorem clAdd_long (cl : List String → Option Nat) (up : Char → List Char) (k : LfnEntry) (c : Nat) (q a : String)
    (r : List String) : clAdd cl up k c (q :: a :: r) = cl (q :: a :: r) := rfl

theorem clAdd_miss (cl : List String → Option Nat) (up : Char → List Char) (k : LfnEntry) (c : Nat) (q : String)
    (r : List String) (h : matchesName up k q.toList = false) : clAdd cl up k c (q :: r) = cl (q :: r) := by
  cases r with
  | nil =>
    show (if matchesName up k q.toList then some c else cl [q]) = cl [q]
    rw [h]; rfl
  | cons a b => rfl

theorem clAdd_dropLast (cl : List String → Option Nat) (up : Char → List Char) (k : LfnEntry) (c : Nat) (q : String)
    (r : List String) (h : matchesName up k q.toList = false) :
    clAdd cl up k c (q :: r).dropLast = cl (q :: r).dropLast := by
  cases r with
  | nil => rfl
  | cons a b =>
    rw [List.dropLast_cons_cons]
    exact clAdd_miss cl up k c q _ h

theorem getAtS_empty (up : Char → List Char) (r : List String) (s : List (List Nat)) (c : List (LfnEntry × Node))
    (h : getAtS up (.dir [] []) r = some (.dir s c)) : r = [] ∧ s = [] ∧ c = [] := by
  cases r with
  | nil =>
    simp only [getAtS, Option.some.injEq, Node.dir.injEq] at h
    exact ⟨rfl, h.1.symm, h.2.symm⟩
  | cons a b =>
    have : lookupS up [] [] a = none := by unfold lookupS; cases DirSlots.findEntry up [] a.toList <;> rfl
    simp only [getAtS, this] at h
    cases h

section newdir
variable {d d' : Dev} {up : Char → List Char} {cl : List String → Option Nat}
  {slots slots' : List (List Nat)} {ch : List (LfnEntry × Node)}

/-- **the bundle after a new (empty) directory in the root**: the root gains the entry `k` of an empty directory in the
    fresh cluster `c`; the bundle holds of the new tree with the cluster map `clAdd cl up k c`, which agrees with
      `cl` on
    every directory of the old tree -/
theorem imgTreeW_newDir (W : ImgTreeW d up (.dir slots ch) cl) (hd : DirOk up slots ch) (k : LfnEntry)
    (hd' : DirOk up slots' (ch ++ [(k, .dir [] [])])) (hsub : ∀ e ∈ listing slots, e ∈ listing slots')
    (hknew : k ∉ listing slots) {N : Nat} (hR : RootReadable d N) (hs : VolStep d d') (c : Nat) (hc2 : 2 ≤ c)
    (htv : tabView d'.fs d'.img = updV (tabView d.fs d.img) c .eoc) (hfr : DirFrame d d' N c)
    (tail' : List (List Nat)) (hsl' : rootDirSlots d'.fs d'.img = slots' ++ tail')
    (htl' : ∀ s ∈ tail', Lfn.isEnd s = true)
    (hkc : (toDirEntryS (rootSrc d'.fs) k).firstCluster d'.fs = some c)
    (hfresh : ∀ q : String, matchesName up k q.toList = true → SubImg d' (clAdd cl up k c) [q] [] [])
    (hapart : ∀ cur s c', cur ≠ [] → getAtS up (.dir slots ch) cur = some (.dir s c') → ∀ c0 chain,
      cl cur = some c0 → Chain (tabView d.fs d.img) c0 chain → c ∉ chain) :
    ImgTreeW d' up (.dir slots' (ch ++ [(k, .dir [] [])])) (clAdd cl up k c) ∧
      ClAgree up (.dir slots ch) cl (clAdd cl up k c) := by
  have hkm : (k, Node.dir [] []) ∈ ch ++ [(k, .dir [] [])] := List.mem_append.2 (Or.inr (List.mem_singleton.2 rfl))
  have hkl : k ∈ listing slots' := hd'.mem_listing hkm
  -- a child of the new root whose entry the query does not hit is an old child
  have hold : ∀ y ∈ ch ++ [(k, Node.dir [] [])], ∀ q : String, matchesName up y.1 q.toList = true →
      matchesName up k q.toList = false → y ∈ ch := by
    intro y hy q hyq hm
    rcases List.mem_append.1 hy with h | h
    · exact h
    · rw [List.mem_singleton.1 h, hm] at hyq; cases hyq
  constructor
  · refine ⟨W.lay.of_volStep hs, W.rootNone, ?_, ?_⟩
    · intro s c' ht
      obtain ⟨rfl, rfl⟩ : slots' = s ∧ ch ++ [(k, .dir [] [])] = c' := by simpa using ht
      obtain ⟨_, _, _, _, _, hchild⟩ := W.rootImg slots ch rfl
      refine ⟨N, tail', hR.of_volStep hs, hsl', htl', fun x hx hdx => ?_⟩
      cases hm : matchesName up k (entryName x.1).toList with
      | true =>
        rw [clAdd_hit _ _ _ _ _ hm]
        rw [← hd'.name_hits_self (hd'.mem_listing hx) hkl (by rw [← entryName_toList]; exact hm)]
        exact hkc
      | false =>
        rw [clAdd_miss _ _ _ _ _ [] hm, rootSrc_geom hs.geom, firstCluster_geom hs.geom]
        exact hchild x (hold x hx _ (by rw [entryName_toList]; exact matches_self up x.1) hm) hdx
    · intro cur s c' hne hg
      obtain ⟨q, r, rfl⟩ := List.exists_cons_of_ne_nil hne
      obtain ⟨y, hl, hg⟩ := getAtS_cons_dir hg
      obtain ⟨hf, hym, _, hyq⟩ := lookupS_some hd' hl
      cases hm : matchesName up k q.toList with
      | true =>
        -- the query hits `k`: the new directory
        rw [DirSlots.findEntry_unique up _ hd'.wf _ _ hkl hm] at hf
        have hyk : y = (k, .dir [] []) := by
          have h1 := hd'.find_key hym
          rw [← Option.some.inj hf, hd'.find_key hkm] at h1
          exact (Option.some.inj h1).symm
        rw [hyk] at hg
        obtain ⟨rfl, rfl, rfl⟩ := getAtS_empty up r s c' hg
        exact hfresh q hm
      | false =>
        have hg0 : getAtS up (.dir slots ch) (q :: r) = some (.dir s c') := by
          simp only [getAtS, lookupS_mono hd' hd hl (hold y hym q hyq hm)]; exact hg
        refine ((W.subs (q :: r) s c' hne hg0).of_dirStep W.lay hR hs c hc2 htv hfr
          (hapart (q :: r) s c' hne hg0)).congr_cl (clAdd_miss _ _ _ _ _ r hm) (clAdd_dropLast _ _ _ _ _ r hm)
          (fun x _ _ => clAdd_miss _ _ _ _ _ _ hm)
  · intro p hp
    cases p with
    | nil => rfl
    | cons q r =>
      cases hm : matchesName up k q.toList with
      | false => exact clAdd_miss _ _ _ _ _ r hm
      | true =>
        exfalso
        obtain ⟨s, c', hg⟩ := hp
        obtain ⟨x, hl, _⟩ := getAtS_cons_dir hg
        obtain ⟨_, hxm, hxl, hxq⟩ := lookupS_some hd hl
        have := match_unique up _ hd'.wf.keys x.1 (hsub _ hxl) k hkl q.toList hxq hm
        exact hknew (this ▸ hxl)

end newdir

/-! ## the root region read and written: its slots are the root node's slot list and end markers -/

section rootview
variable {d : Dev} {N : Nat} {slots tail : List (List Nat)}

/-- the fixed root as a writable directory -/
def rootW (hR : RootReadable d N) (L : Layout d) : WView d (rootAt d.fs 0) :=
  WView.ofRoot (rootSliceOf d.fs) N hR.slots rfl rfl L.hB d hR.noFault hR.inside L.wf hR.fuel

theorem rootW_slots (hR : RootReadable d N) (L : Layout d) (hsl : rootDirSlots d.fs d.img = slots ++ tail) :
    (rootW hR L).slots d.img = slots ++ tail := by
  show srcSlots d.img (fun o => (rootSliceOf d.fs).beginOff + o) N = _
  rw [srcSlots_root hR, hsl]

/-- the root slots after a step, in terms of the view of the device before -/
theorem rootW_slots_step (hR : RootReadable d N) (L : Layout d) {d' : Dev} (hs : VolStep d d') :
    rootDirSlots d'.fs d'.img = (rootW hR L).slots d'.img := by
  show _ = srcSlots d'.img (fun o => (rootSliceOf d.fs).beginOff + o) N
  rw [← rootSliceOf_geomEq hs.geom]
  exact (srcSlots_root (hR.of_volStep hs)).symm

/-- `check_for_existence` on the root region is the model's on the node's slot list -/
theorem root_check (hR : RootReadable d N) (hsl : rootDirSlots d.fs d.img = slots ++ tail)
    (htl : ∀ s ∈ tail, Lfn.isEnd s = true) (env : Env) (name : String) (k : Option Bool) :
    (DirView.ofRoot hR).check env name k = checkForExistenceL env.upper slots name k 70000 := by
  unfold DirView.check
  show checkForExistenceL env.upper (srcSlots d.img (fun o => (rootSliceOf d.fs).beginOff + o) N) _ _ _ = _
  rw [srcSlots_root hR, hsl, check_append_ends _ slots tail htl]

/-- the lookup without kind filter, in terms of the first entry answering to the name -/
theorem lookupL_none_find (up : Char → List Char) (q : List Char) :
    ∀ (l : List LfnEntry), lookupL up q none l =
      match l.find? (fun e => matchesName up e q) with
      | none => .error .notFound
      | some e => .ok e
  | [] => rfl
  | x :: l => by
    simp only [lookupL, List.find?_cons]
    cases hm : matchesName up x q with
    | true => simp
    | false =>
      simp only [Bool.false_eq_true, if_false]
      exact lookupL_none_find up q l

/-- `find_entry(name, None)` on the root region is the model's in the node's slot list -/
theorem root_lookup (hR : RootReadable d N) (halloc : d.fs.lfnAlloc = true)
    (hsl : rootDirSlots d.fs d.img = slots ++ tail) (htl : ∀ s ∈ tail, Lfn.isEnd s = true) (up : Char → List Char)
    (name : String) :
    lookupL up name.toList none
        (readDirEntries d.fs.lfnAlloc true (srcSlots d.img (fun o => (rootSliceOf d.fs).beginOff + o) N)) =
      match DirSlots.findEntry up slots name.toList with
      | none => .error .notFound
      | some e => .ok e := by
  rw [halloc, srcSlots_root hR, hsl]
  show lookupL up _ none (listing (slots ++ tail)) = _
  rw [listing_append_ends slots tail htl, lookupL_none_find]
  rfl

/-- … and through the root view -/
theorem root_lookupV (hR : RootReadable d N) (halloc : d.fs.lfnAlloc = true)
    (hsl : rootDirSlots d.fs d.img = slots ++ tail) (htl : ∀ s ∈ tail, Lfn.isEnd s = true) (env : Env)
    (name : String) :
    (DirView.ofRoot hR).lookup env name none =
      match DirSlots.findEntry env.upper slots name.toList with
      | none => .error .notFound
      | some e => .ok (toDirEntryS (fun o => (rootSliceOf d.fs).beginOff + o) e) := by
  unfold DirView.lookup DirView.lfnEntries
  show (lookupL env.upper _ none (readDirEntries d.fs.lfnAlloc true
    (srcSlots d.img (fun o => (rootSliceOf d.fs).beginOff + o) N))).map _ = _
  rw [root_lookup hR halloc hsl htl]
  cases DirSlots.findEntry env.upper slots name.toList <;> rfl

end rootview

/-- the entry fits into the root region -/
def HasRoomRoot (d : Dev) (slots : List (List Nat)) (name : String) : Prop :=
  ∀ N, RootReadable d N →
    DirSlots.findFree slots (numParts (Names.encodeUtf16 name.toList).length + 1) +
      (numParts (Names.encodeUtf16 name.toList).length + 1) ≤ N

theorem HasRoomRoot.of_sameVol {d d4 : Dev} {slots : List (List Nat)} {name : String} (h : HasRoomRoot d slots name)
    (hv : SameVol d d4) : HasRoomRoot d4 slots name :=
  fun N hN => h N (hN.of_volStep (VolStep.of_sameVol ⟨hv.img.symm, hv.fs.symm, hv.failAt.symm, hv.writesOf.symm⟩))

/-! ## mutating calls whose directory components lead back to the root -/

def outErr (r : Res) : Option Err :=
  match r.out with
  | .ok _ => none
  | .error e => some e

theorem outErr_of_ok {r : Res} {rows} (h : r.out = .ok rows) : outErr r = none := by unfold outErr; rw [h]
theorem outErr_of_err {r : Res} {e} (h : r.out = .error e) : outErr r = some e := by unfold outErr; rw [h]

/-- **a mutating call at byte level, last directory = the fixed root.**  The model's result `S` is the error of the walk
    or what `F` gives in the directory reached (`hS`); the walk, when it succeeds, ends in the root (`hlast`); `hfin`:
    the last component, run through the root handle, ends as `F` says at the root and leaves a device with `Q`, on
    which the handles of the old directories can be dropped (`hQdrop`). -/
theorem root_call {α} {d : Dev} {up : Char → List Char} {t : Node} {cl : List String → Option Nat}
    (W : ImgTreeW d up t cl) (hwf : TreeWf up t) (hup : DotSafe up) (env : Env) (henv : env.upper = up)
    (cwd : List String) (st : DirStream) (hden : Den d up t cl cwd st) (path : String) (fuel : Nat)
    (hfuel : path.toList.length < fuel) (hlast : ∀ p, walkDirsS up t cwd (pathParts path).1 = .ok p → p = [])
    (Wk : Nat → DirStream → String → Prog α)
    (hunf : ∀ f st chars a r, Names.splitPathL chars = (a, some r) →
      Wk (f + 1) st (String.ofList chars) =
        Prog.bind Prog.getFs fun fs =>
          Prog.bind (findEntry env st (String.ofList a) (some true)) fun e =>
            Prog.bind (e.toDir fs) fun sub => thenDrop sub (Wk f sub (String.ofList r)))
    (S : Res) (F : List String → String → Res)
    (hS : S = match walkDirsS up t cwd (pathParts path).1 with
      | .error e => fail t e
      | .ok p => F p (pathParts path).2)
    (Q : Dev → Prop) (hQ : ∀ d1 d2, Q d1 → SameVol d1 d2 → Q d2)
    (hQdrop : ∀ d' p sub, VolStep d d' → Q d' → Den d up t cl p sub → Reads sub.dropBody d' ())
    (hfin : ∀ f p, Names.splitPath p = ((pathParts path).2, none) →
      MWalk d (fun (_ : α) d' => VolStep d d' ∧ Q d') (Wk (f + 1) (rootAt d.fs 0) p) (outErr (F [] (pathParts path).2)))
    (hnh : S.out ≠ .error .hang) :
    (∀ e, S.out = .error e → FailsV (Wk fuel st path) d e) ∧
    (∀ rows, S.out = .ok rows → S = F [] (pathParts path).2 ∧
      ∃ (v : α) (d' : Dev), run (Wk fuel st path) d = (.ok v, d') ∧ VolStep d d' ∧ Q d') := by
  have I := W.toImgTree
  have hverd : walkRes up t some (fun p l => outErr (F p l)) cwd (pathParts path) = outErr S := by
    rw [hS]; unfold walkRes
    cases walkDirsS up t cwd (pathParts path).1 <;> rfl
  have M := path_walk I hwf hup env henv Wk hunf some (fun p l => outErr (F p l))
    (MWalk d (fun (_ : α) d' => VolStep d d' ∧ Q d')) (fun _ _ h d1 hv _ => h d1 hv)
    (fun p sub hden' _ _ _ ho Wr h => h.lift Wr (fun d5 hv => (den_view I hden').elim (·.drop_sim d5 hv))
      (fun _ _ _ hp hv => ⟨hp.1.trans (VolStep.of_sameVol hv), hQ _ _ hp.2 hv⟩)
      (fun _ d' hp => hQdrop d' p sub hp.1 hp.2 hden') ho)
    (fun p l => p = [] ∧ l = (pathParts path).2)
    (fun cur st' hden' f chars a hsp hg => by
      obtain ⟨rfl, hL⟩ := hg
      rw [den_root_stream W hden', hL]
      exact hfin f _ (by rw [splitPath_ofList, hsp, ← hL]; rfl))
    path.toList.length path.toList (Nat.le_refl _) fuel hfuel cwd st hden (fun p hp => ⟨hlast p hp, rfl⟩)
    (by
      show walkRes up t some _ cwd (pathParts path) ≠ some .hang
      rw [hverd]
      intro h
      unfold outErr at h
      split at h
      · cases h
      · next e he => exact hnh (by rw [he, Option.some.inj h]))
    d (SameVol.refl d) rfl
  rw [String.ofList_toList] at M
  have M' : MOut _ (Wk fuel st path) d (outErr S) := hverd ▸ M
  constructor
  · intro e he
    rw [outErr_of_err he] at M'
    exact M'
  · intro rows hr
    rw [outErr_of_ok hr] at M'
    refine ⟨?_, M'⟩
    rw [hS] at hr ⊢
    cases hw : walkDirsS up t cwd (pathParts path).1 with
    | error e => rw [hw] at hr; cases hr
    | ok p => rw [hlast p hw]

end SlotTreeImg
end FatVerif
