import FatVerif.Proofs.AFileInv
import FatVerif.Proofs.AFileByteFile
import FatVerif.Proofs.AFileRead
/-! ONE `File::write` call refines `ByteFile.write` with the documented short write. -/
namespace FatVerif.Cursor

section
variable {σ : Type} {isFree : σ → Nat → Prop} {A : Allocator σ} {f : AFile} {s : σ}

/-- the chain has no duplicates, so position `p` lies in the cluster `chain[q]` iff `p / cs = q` -/
theorem AFileInv.getD_eq_iff (h : AFileInv isFree f s) {p q c : Nat} (hp : p / f.cs < f.chain.length)
    (hc : f.chain[q]? = some c) : f.chain.getD (p / f.cs) 0 = c ↔ p / f.cs = q := by
  have hg : f.chain[p / f.cs]? = some (f.chain.getD (p / f.cs) 0) := by
    rw [List.getD_eq_getElem?_getD, List.getElem?_eq_getElem hp]; rfl
  constructor
  · intro e; rw [e] at hg; exact nodup_getElem?_inj h.nodup hg hc
  · intro e; subst e; rw [hc] at hg; exact (Option.some.inj hg).symm

/-- the bytes of the file after the device write: those of `bs` on `[offset, offset + |bs|)`, the old ones elsewhere -/
theorem AFileInv.put_byteAt (h : AFileInv isFree f s) {c : Nat} (bs : List Nat)
    (hc : f.chain[f.offset / f.cs]? = some c) (hfit : bs.length ≤ f.cs - f.offset % f.cs) {p : Nat}
    (hp : p / f.cs < f.chain.length) :
    (f.put c bs).byteAt p =
      if f.offset ≤ p ∧ p < f.offset + bs.length then bs.toArray.getD (p - f.offset) 0 else f.byteAt p := by
  have hcs := h.cs_pos
  have hdm := divmod_spec f.cs f.offset hcs
  have hpd := divmod_spec f.cs p hcs
  show AFile.putBytes f.data c (f.offset % f.cs) bs.toArray (f.chain.getD (p / f.cs) 0) (p % f.cs) = _
  unfold AFile.putBytes
  simp only [h.getD_eq_iff hp hc, List.size_toArray]
  by_cases hr : f.offset ≤ p ∧ p < f.offset + bs.length
  · have hd : p / f.cs = f.offset / f.cs :=
      div_eq_of_decomp hcs (j := f.offset % f.cs + (p - f.offset)) (by omega) (by omega)
    rw [hd] at hpd
    rw [if_pos hr, if_pos ⟨hd, by omega⟩]
    congr 1; omega
  · rw [if_neg hr, if_neg]
    · rfl
    · rintro ⟨e, _, _⟩
      rw [e] at hpd; omega

/-- the device write + bookkeeping of `File::write`, given the cluster of the cursor -/
theorem AFileInv.put_refines (h : AFileInv isFree f s) {c : Nat} (bs : List Nat)
    (hc : f.chain[f.offset / f.cs]? = some c) (hpos : 0 < bs.length)
    (hfit : bs.length ≤ f.cs - f.offset % f.cs) (hmax : f.offset + bs.length ≤ u32Max) :
    AFileInv isFree (f.put c bs) s ∧ (f.put c bs).abs = (f.abs.write bs).2 ∧ (f.put c bs).cs = f.cs := by
  have hcs := h.cs_pos
  have hoff := h.off_le
  have hcov := h.cover
  have hdm := divmod_spec f.cs f.offset hcs
  have hq : f.offset / f.cs < f.chain.length := by
    rcases Nat.lt_or_ge (f.offset / f.cs) f.chain.length with hl | hl
    · exact hl
    · rw [List.getElem?_eq_none hl] at hc; cases hc
  have hsm : (f.offset / f.cs + 1) * f.cs = f.offset / f.cs * f.cs + f.cs := Nat.succ_mul _ _
  have hLc : (f.offset / f.cs + 1) * f.cs ≤ f.chain.length * f.cs := Nat.mul_le_mul_right f.cs hq
  have hsize : (f.put c bs).size = max f.size (f.offset + bs.length) := by
    show (if f.size < f.offset + bs.length then f.offset + bs.length else f.size) = _
    split <;> omega
  refine ⟨⟨hcs, h.nodup, h.first, ?_, ?_, ?_, ?_, h.live⟩, ?_, rfl⟩
  · rw [hsize]; show _ ≤ f.chain.length * f.cs; omega
  · rw [hsize]; show f.offset + bs.length ≤ _; omega
  · rw [hsize]; have := h.size_le; omega
  · show some c = if f.offset + bs.length = 0 then none else f.chain[(f.offset + bs.length - 1) / f.cs]?
    rw [if_neg (by omega), div_eq_of_decomp hcs (i := f.offset / f.cs) (j := f.offset % f.cs + bs.length - 1)
      (by omega) (by omega), hc]
  · show ByteFile.mk (f.put c bs).content _ = ByteFile.mk (f.abs.write bs).2.content _
    congr 1
    apply List.ext_getElem?
    intro p
    rw [ByteFile.write_content_getElem? _ _ (by simpa using hoff), AFile.content_getElem?, hsize]
    simp only [AFile.abs_pos, AFile.abs_content, AFile.content_getElem?]
    by_cases hps : p < max f.size (f.offset + bs.length)
    · rw [if_pos hps, h.put_byteAt bs hc hfit (div_lt_of_lt_mul' (by omega))]
      by_cases h1 : p < f.offset
      · rw [if_neg (by omega), if_pos h1, if_pos (by omega)]
      · by_cases h2 : p < f.offset + bs.length
        · rw [if_pos ⟨by omega, h2⟩, if_neg h1, if_pos h2]
          simp [show p - f.offset < bs.length by omega]
        · rw [if_neg (by omega), if_neg h1, if_neg h2, if_pos (by omega)]
    · rw [if_neg hps, if_neg (by omega), if_neg (by omega), if_neg (by omega)]

/-- what `alloc_cluster(current_cluster)` + `set_first_cluster` do to the chain when the cursor sits at the end of
    the last cluster: the new cluster is appended -/
theorem AFileInv.linkNew_post (h : AFileInv isFree f s) (c : Nat) (hend : f.offset = f.chain.length * f.cs) :
    (f.linkNew c).chain = f.chain ++ [c] ∧ (f.linkNew c).firstCluster = (f.chain ++ [c]).head? ∧
    (f.linkNew c).cs = f.cs ∧ (f.linkNew c).data = f.data ∧ (f.linkNew c).size = f.size ∧
    (f.linkNew c).offset = f.offset ∧ (f.linkNew c).current = f.current := by
  have hcs := h.cs_pos
  unfold AFile.linkNew
  cases hf : f.firstCluster with
  | none => simp [h.chain_nil hf]
  | some c0 =>
    have hne : f.chain ≠ [] := by
      intro e; have hfi := h.first; rw [hf, e] at hfi; cases hfi
    have hL : 0 < f.chain.length := List.length_pos_iff.mpr hne
    have hm : f.offset % f.cs = 0 := by rw [hend]; exact Nat.mul_mod_left _ _
    have hq : f.offset / f.cs = f.chain.length := div_eq_of_decomp hcs (j := 0) (by omega) hcs
    have hp := pred_div_of_boundary hcs (hend ▸ Nat.mul_pos hL hcs) hm
    have hlast : f.chain.getLast? = f.current := by
      rw [h.cur, if_neg (by rw [hend]; exact Nat.ne_of_gt (Nat.mul_pos hL hcs)), List.getLast?_eq_getElem?]
      congr 1; omega
    rw [if_pos hlast]
    refine ⟨rfl, ?_, rfl, rfl, rfl, rfl, rfl⟩
    show some c0 = _
    rw [List.head?_append, ← h.first, hf]; rfl

theorem AFileInv.writeCluster_post (h : AFileInv isFree f s) (hA : AllocLaws A isFree) :
    (f.writeCluster A s = (.error .noSpace, f, s) ∧ f.offset % f.cs = 0 ∧ f.offset = f.size ∧
      A.alloc s = none) ∨
    ∃ c f1 s1, f.writeCluster A s = (.ok c, f1, s1) ∧ AFileInv isFree f1 s1 ∧
      f1.chain[f.offset / f.cs]? = some c ∧ f1.cs = f.cs ∧ f1.offset = f.offset ∧ f1.abs = f.abs := by
  have hcs := h.cs_pos
  have hoff := h.off_le
  have hdm := divmod_spec f.cs f.offset hcs
  have hrc := h.readCluster_eq
  unfold AFile.readCluster at hrc
  unfold AFile.writeCluster
  by_cases hm : f.offset % f.cs = 0
  · rw [if_pos hm] at hrc ⊢
    rw [hrc]
    cases hbc : f.chain[f.offset / f.cs]? with
    | some n => exact .inr ⟨n, f, s, rfl, h, hbc, rfl, rfl, rfl⟩
    | none =>
      obtain ⟨hsz, hend⟩ := h.readCluster_none (by unfold AFile.readCluster; rw [if_pos hm, hrc, hbc])
      cases halloc : A.alloc s with
      | none => exact .inl ⟨rfl, hm, hsz, rfl⟩
      | some r =>
        obtain ⟨c, s'⟩ := r
        obtain ⟨l1, l2, l3, l4, l5, l6, l7⟩ := h.linkNew_post c hend
        have hcn : c ∉ f.chain := fun hc => h.live c hc (hA.alloc_free halloc)
        have hq : f.offset / f.cs = f.chain.length := div_eq_of_decomp hcs (j := 0) (by omega) hcs
        refine .inr ⟨c, f.linkNew c, s', rfl, ⟨?_, ?_, ?_, ?_, ?_, ?_, ?_, ?_⟩, ?_, l3, l6, ?_⟩
        · rw [l3]; exact hcs
        · rw [l1]
          refine List.nodup_append.mpr ⟨h.nodup, by simp, fun a ha b hb e => ?_⟩
          exact hcn (List.mem_singleton.mp hb ▸ e ▸ ha)
        · rw [l2, l1]
        · rw [l5, l1, l3, List.length_append, List.length_singleton, Nat.succ_mul]
          have := h.cover
          omega
        · rw [l6, l5]; exact hoff
        · rw [l5]; exact h.size_le
        · rw [l7, l6, l3, l1, h.cur]
          by_cases h0 : f.offset = 0
          · rw [if_pos h0, if_pos h0]
          · rw [if_neg h0, if_neg h0, List.getElem?_append_left (h.index_lt (by omega))]
        · intro d hd hfree
          rw [l1] at hd
          obtain ⟨hf1, hf2⟩ := hA.alloc_frame halloc hfree
          rcases List.mem_append.mp hd with hd | hd
          · exact h.live d hd hf1
          · exact hf2 (List.mem_singleton.mp hd)
        · rw [l1, hq]; simp
        · -- content unchanged: bytes below `size` live in clusters of the old chain
          show ByteFile.mk _ _ = ByteFile.mk _ _
          rw [l6, content_eq_of_byteAt l5 fun p hp => ?_]
          unfold AFile.byteAt
          rw [l1, l3, l4, List.getD_eq_getElem?_getD, List.getD_eq_getElem?_getD,
            List.getElem?_append_left (h.index_lt hp)]
  · rw [if_neg hm] at hrc ⊢
    have hq : f.offset / f.cs < f.chain.length := by
      rcases Nat.lt_or_ge (f.offset / f.cs) f.chain.length with hl | hl
      · exact hl
      · have := Nat.mul_le_mul_right f.cs hl
        have := h.cover
        omega
    rw [hrc, List.getElem?_eq_getElem hq]
    exact .inr ⟨_, f, s, rfl, h, List.getElem?_eq_getElem hq, rfl, rfl, rfl⟩

/-- `writeLen` is the short-write length of the specification -/
theorem writeLen_eq_shortWrite (f : AFile) (n : Nat) : f.writeLen n = f.abs.shortWrite f.cs n := by
  simp [AFile.writeLen, ByteFile.shortWrite]

/-- refinement of ONE write call: either `NotEnoughSpace` with the state untouched (only possible on a cluster
    boundary at the end of the file), or the documented short write -/
theorem AFileInv.write_refines (h : AFileInv isFree f s) (hA : AllocLaws A isFree) (bs : List Nat) :
    (f.write A s bs = (.error .noSpace, f, s) ∧ f.offset % f.cs = 0 ∧ f.offset = f.size ∧ A.alloc s = none ∧
      ByteFile.check f.cs (.write bs) (.err .noSpace) f.abs = .ok f.abs) ∨
    ((f.write A s bs).1 = .ok (f.writeLen bs.length) ∧
      AFileInv isFree (f.write A s bs).2.1 (f.write A s bs).2.2 ∧
      (f.write A s bs).2.1.cs = f.cs ∧
      (f.write A s bs).2.1.abs = (f.abs.write (bs.take (f.writeLen bs.length))).2 ∧
      ByteFile.check f.cs (.write bs) (.count (f.writeLen bs.length)) f.abs = .ok (f.write A s bs).2.1.abs) := by
  have hcs := h.cs_pos
  have hoff := h.off_le
  have hdm := divmod_spec f.cs f.offset hcs
  have hchk : ∀ g : AFile, g.abs = (f.abs.write (bs.take (f.writeLen bs.length))).2 →
      ByteFile.check f.cs (.write bs) (.count (f.writeLen bs.length)) f.abs = .ok g.abs := by
    intro g hg
    simp only [ByteFile.check, writeLen_eq_shortWrite, if_true]
    rw [hg, writeLen_eq_shortWrite]
  unfold AFile.write
  by_cases hw : f.writeLen bs.length = 0
  · rw [if_pos hw]
    have habs : f.abs = (f.abs.write (bs.take (f.writeLen bs.length))).2 := by rw [hw]; simp [ByteFile.write_nil]
    exact .inr ⟨congrArg _ hw.symm, h, rfl, habs, hchk f habs⟩
  · rw [if_neg hw]
    rcases h.writeCluster_post hA with ⟨he, hm, hsz, hal⟩ | ⟨c, f1, s1, he, h1, hc, hcs1, ho1, ha1⟩
    · rw [he]
      refine .inl ⟨rfl, hm, hsz, hal, ?_⟩
      have : 0 < f.abs.shortWrite f.cs bs.length := by
        rw [← writeLen_eq_shortWrite]; exact Nat.pos_of_ne_zero hw
      have hm' : f.size % f.cs = 0 := hsz ▸ hm
      simp [ByteFile.check, hm', hsz, this]
    · rw [he]
      have hwl : f.writeLen bs.length ≤ bs.length ∧ f.writeLen bs.length ≤ f.cs - f.offset % f.cs ∧
          f.writeLen bs.length ≤ u32Max - f.offset := by unfold AFile.writeLen; omega
      have hlen : (bs.take (f.writeLen bs.length)).length = f.writeLen bs.length := by
        rw [List.length_take]; omega
      have hc1 : f1.chain[f1.offset / f1.cs]? = some c := by rw [ho1, hcs1]; exact hc
      obtain ⟨hi, hab, hcs2⟩ := h1.put_refines (bs.take (f.writeLen bs.length)) hc1
        (by rw [hlen]; exact Nat.pos_of_ne_zero hw) (by rw [hlen, ho1, hcs1]; exact hwl.2.1)
        (by rw [hlen, ho1]; have := h.size_le; omega)
      rw [ha1] at hab
      exact .inr ⟨rfl, hi, hcs2.trans hcs1, hab, hchk _ hab⟩

end
end FatVerif.Cursor
