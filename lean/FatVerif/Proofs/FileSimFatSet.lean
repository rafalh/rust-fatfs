import FatVerif.Proofs.FileSimFatWrite
/-!
# FileSim / FAT set: `FatTrait::set` on the FAT slice is a point update of the decoded table

`FatStep fs C d d'`: what a sequence of entry updates at clusters in `C` does to the device besides the decoded table.
Its field `fine` is the frame at the granularity of entry windows: in the FAT copies only the windows of clusters in `C`
change.  A theorem named `_fine` concludes a `FatStep`; `_any` concludes only that nothing outside the FAT copies changes;
the unsuffixed variants assume a volume already marked dirty.
-/
namespace FatVerif.FileSim
open FatVerif FatVerif.Fat

theorem rep_free (ft : FatType) : Representable ft .free := by cases ft <;> trivial
theorem rep_eoc (ft : FatType) : Representable ft .eoc := by cases ft <;> trivial

/-- outside the FAT copies -/
def OutsideFat (fs : FsState) (q : Nat) : Prop :=
  q < (fatSliceOf fs).beginOff ∨ (fatSliceOf fs).beginOff + (fatSliceOf fs).mirrors * (fatSliceOf fs).size ≤ q

/-- the entry windows of the table lie inside the FAT copies -/
theorem Geo.fatEntry_in_fat {fs : FsState} {sz : Nat} (g : Geo fs sz) {c q : Nat} (hc : c < fs.totalClusters + 2)
    (h : FatEntryPos fs c q) :
    (fatSliceOf fs).beginOff ≤ q ∧ q < (fatSliceOf fs).beginOff + (fatSliceOf fs).mirrors * (fatSliceOf fs).size := by
  obtain ⟨i, hi, h1, h2⟩ := h
  have hfit := g.ents c hc
  have : (i + 1) * (fatSliceOf fs).size ≤ (fatSliceOf fs).mirrors * (fatSliceOf fs).size :=
    Nat.mul_le_mul_right _ (by omega)
  rw [Nat.succ_mul] at this
  omega

/-- a point update of the first FAT copy is a point update of the decoded table -/
theorem tabView_of_set {fs : FsState} {sz : Nat} (g : Geo fs sz) (img img' : Img) {c : Nat} {v : FatValue}
    (hc : c < fs.totalClusters + 2) (hv : Representable fs.fatType v)
    (h : Fat.set fs.fatType (imgFatBytes fs img) c v = .ok (imgFatBytes fs img')) :
    tabView fs img' = updV (tabView fs img) c v := by
  have hvs := view_set (g.tableOk img).wf hv ((g.tableOk img).plain hc).2 h
  funext i
  by_cases hi : i < fs.totalClusters + 2
  · rw [tabView_eq_view g img' hi, hvs]
    unfold updV
    by_cases hic : i = c
    · rw [if_pos hic, if_pos hic]
    · rw [if_neg hic, if_neg hic, tabView_eq_view g img hi]
  · have hic : i ≠ c := by omega
    unfold updV tabView
    rw [if_neg hi, if_neg hic, if_neg hi]

/-- the records of the later FAT copies do not touch the first one -/
theorem applyRecs_mirrors_below (off size : Nat) (bs : List Nat) : ∀ (k i : Nat) (img : Img), img.WF →
    ∀ q, q < off + i * size → (applyRecs img (mirrorRecs off size bs k i)).getByte q = img.getByte q
  | 0, _, _, _, _, _ => rfl
  | k + 1, i, img, hwf, q, hq => by
    show (applyRecs (img.write (off + i * size) bs) (mirrorRecs off size bs k (i + 1))).getByte q = _
    rw [applyRecs_mirrors_below off size bs k (i + 1) _ (Img.wf_write _ hwf _ _) q (by rw [Nat.succ_mul]; omega),
      Img.getByte_write_of_not_mem _ hwf _ _ _ (by omega)]

/-- what FAT entry updates at clusters in `C` do to the device: the volume is marked dirty; besides the status byte only
    the entry windows of clusters in `C` change; on a volume already marked the write records are entry-window records -/
structure FatStep (fs : FsState) (C : Nat → Prop) (d d' : Dev) : Prop where
  step : DevStep d d'
  dirty : d'.fs.curDirty = true
  fine : ∀ q, 0x42 ≤ q ∨ d.fs.curDirty = true → (∀ x, C x → ¬ FatEntryPos fs x q) →
    d'.img.getByte q = d.img.getByte q
  trace : d.fs.curDirty = true → ∀ E D : Nat → Prop, (∀ x, C x → E x) → Trace fs E D d d'

theorem FatStep.mono {fs : FsState} {C C' : Nat → Prop} {d d' : Dev} (h : FatStep fs C d d')
    (hC : ∀ x, C x → C' x) : FatStep fs C' d d' :=
  ⟨h.step, h.dirty, fun q hq hout => h.fine q hq fun x hx => hout x (hC x hx),
   fun hcd E D hE => h.trace hcd E D fun x hx => hE x (hC x hx)⟩

theorem FatStep.after {fs : FsState} {C : Nat → Prop} {d d1 d' : Dev} (hs : SameStore d d1)
    (h : FatStep fs C d1 d') : FatStep fs C d d' :=
  ⟨(DevStep.of_sameStore hs).trans h.step, h.dirty,
   fun q hq hout => by rw [h.fine q (by rw [hs.fs]; exact hq) hout, hs.img],
   fun hcd E D hE => (Trace.of_sameStore hs).trans (h.trace (by rw [hs.fs]; exact hcd) E D hE)⟩

/-- a FAT step followed by a step that keeps image and log (the FS-info bookkeeping) -/
theorem FatStep.then_same {fs : FsState} {C : Nat → Prop} {d d1 d' : Dev} (h : FatStep fs C d d1) (hs : DevStep d1 d')
    (hi : d'.img = d1.img) (hl : d'.log = d1.log) (hcd : d'.fs.curDirty = true) : FatStep fs C d d' :=
  ⟨h.step.trans hs, hcd, fun q hq ho => by rw [hi]; exact h.fine q hq ho, fun hc E D hE => by
    obtain ⟨r, l, i, cl⟩ := h.trace hc E D hE
    exact ⟨r, hl ▸ l, hi ▸ i, cl⟩⟩

theorem FatStep.trans {fs : FsState} {C : Nat → Prop} {a b c : Dev} (h1 : FatStep fs C a b)
    (h2 : FatStep fs C b c) : FatStep fs C a c :=
  ⟨h1.step.trans h2.step, h2.dirty, fun q hq hout => by rw [h2.fine q (Or.inr h1.dirty) hout, h1.fine q hq hout],
   fun hcd E D hE => (h1.trace hcd E D hE).trans (h2.trace h1.dirty E D hE)⟩

/-- from byte `0x42` on nothing outside the FAT copies changes -/
theorem FatStep.outside {fs : FsState} {C : Nat → Prop} {d d' : Dev} (h : FatStep fs C d d') {sz : Nat}
    (g : Geo fs sz) (hC : ∀ x, C x → x < fs.totalClusters + 2) (q : Nat) (hq : 0x42 ≤ q ∨ d.fs.curDirty = true)
    (ho : OutsideFat fs q) : d'.img.getByte q = d.img.getByte q :=
  h.fine q hq fun x hx hp => by
    have := g.fatEntry_in_fat (hC x hx) hp
    unfold OutsideFat at ho
    omega

/-- a write of the entry window of `c` whose effect on the first FAT copy is `Fat.set c v` -/
theorem FatWrote.fatStep {fs : FsState} {c o : Nat} {v : FatValue} {d d' : Dev} {bs : List Nat}
    (hw : FatWrote fs d d' o bs) (ho : o = entOff fs.fatType c) (hg : Geo fs d.img.size) (hwf : d.img.WF)
    (hc : c < fs.totalClusters + 2) (hv : Representable fs.fatType v) (hl : bs.length = entWidth fs.fatType)
    (hbs : ∀ k, bs.getD k 0 < 256)
    (hset : Fat.set fs.fatType (imgFatBytes fs d.img) c v =
      .ok (writeBytes (imgFatBytes fs d.img) (entOff fs.fatType c) bs)) :
    tabView fs d'.img = updV (tabView fs d.img) c v ∧ FatStep fs (· = c) d d' := by
  subst ho
  have hb : imgFatBytes fs d'.img = writeBytes (imgFatBytes fs d.img) (entOff fs.fatType c) bs :=
    fatBytes_patch _ _ _ _ _ _ hbs (by rw [hl]; exact hg.ents c hc) hw.first
  have htv := tabView_of_set hg d.img d'.img hc hv (by rw [hb]; exact hset)
  refine ⟨htv, hw.step, by rw [hw.fs_eq]; exact markedFs_curDirty _, fun q hq hout => hw.fine q hq fun i hi h => hout c rfl ⟨i, hi, h.1, hl ▸ h.2⟩,
    fun hcd E D hE => ?_⟩
  obtain ⟨hlog, himg⟩ := hw.recs hcd
  refine ⟨_, hlog, himg, ?_⟩
  refine classified_mirrors fs d.img.size hg c hc bs hl E D (hE c rfl) _ 0 d.img hwf rfl (by omega) (fun _ x hx => ?_)
  obtain ⟨m, hm⟩ : ∃ m, (fatSliceOf fs).mirrors = m + 1 := ⟨(fatSliceOf fs).mirrors - 1, by have := hg.mirrors_pos; omega⟩
  rw [hm] at himg
  have hfat : FatAgree fs (d.img.write ((fatSliceOf fs).beginOff + entOff fs.fatType c) bs) d'.img := by
    intro q _ h2
    rw [himg]
    show (applyRecs (d.img.write ((fatSliceOf fs).beginOff + entOff fs.fatType c + 0 * (fatSliceOf fs).size) bs) _).getByte q = _
    rw [Nat.zero_mul, Nat.add_zero]
    exact applyRecs_mirrors_below _ _ _ m 1 _ (Img.wf_write _ hwf _ _) q (by omega)
  have hg1 : Geo fs (d.img.write ((fatSliceOf fs).beginOff + entOff fs.fatType c) bs).size := by
    rw [Img.write_size]; exact hg
  rw [← tabView_congr hg1 hfat, htv]
  unfold updV
  rw [if_neg hx]

/-- **`FatTrait::set` at an entry of the table**: the decoded table gets a point update -/
theorem run_table_set (fs : FsState) (s : DiskSlice) (hs : IsFatSlice fs s) (c : Nat) (v : FatValue) (d : Dev)
    (hfa : d.failAt = none) (hwf : d.img.WF) (hg : Geo fs d.img.size) (hc : c < fs.totalClusters + 2)
    (hv : Representable fs.fatType v) :
    ∃ d' s', run (Table.set DiskSlice.strm fs.fatType s c v) d = (.ok s', d') ∧ IsFatSlice fs s' ∧
      d'.fs = markedFs d.fs ∧ tabView fs d'.img = updV (tabView fs d.img) c v ∧ FatStep fs (· = c) d d' := by
  have hin := hg.inRange d.img hc
  unfold InRange u32Lim at hin
  rw [imgFatBytes_size] at hin
  have hfdev := hg.fat_dev
  obtain ⟨hb, hsz, hm, hvf⟩ := hs
  have hnsp : ¬ special32 c := by
    have := hg.small
    unfold special32
    cases hft : fs.fatType <;> rw [hft] at this <;> simp only [badMark] at this <;> omega
  have hfs : ∀ o, IsFatSlice fs { s with offset := o } := fun _ => ⟨hb, hsz, hm, hvf⟩
  -- per width: evaluate the reads, then ONE `write_all` of the entry window (`run_fat_writeAll`); `FatWrote.fatStep`
  -- makes it a point update of the decoded table once the bytes written are those the pure `Fat.set` stores (its last
  -- argument)
  cases hft : fs.fatType with
  | fat16 =>
    rw [hft] at hin
    simp only [off, width] at hin
    unfold Table.set
    simp only
    rw [run_bind_ok (run_slice_seekStart s (c * 2) d (by rw [hsz]; omega))]
    simp only
    obtain ⟨d1, h1, hw⟩ := run_fat_writeAll fs { s with offset := c * 2 } (hfs _)
      (bytesLe16 (Table.rawOfValue .fat16 v % 65536)) (Nat.zero_lt_succ _)
      (by show c * 2 + 2 ≤ s.size; rw [hsz]; omega) d hfa hwf hg
    obtain ⟨htv, hst⟩ := hw.fatStep (by rw [hft]; rfl) hg hwf hc hv (by rw [hft]; rfl) (bytesLe16_lt _) (by
      rw [hft]
      simp only [Fat.set, setRaw16, u32Lim, imgFatBytes_size, tableRawOfValue_eq]
      rw [if_neg (by omega), if_neg (by omega)]
      rfl)
    exact ⟨d1, _, h1, hfs _, hw.fs_eq, htv, hst⟩
  | fat12 =>
    rw [hft] at hin
    simp only [off, width] at hin
    unfold Table.set
    simp only
    rw [run_bind_ok (run_slice_seekStart s (c + c / 2) d (by rw [hsz]; omega))]
    simp only
    obtain ⟨d1, h1, hs1⟩ := run_slice_readU16 { s with offset := c + c / 2 } d hfa
      (by show c + c / 2 + 2 ≤ s.size; rw [hsz]; omega) (by show s.beginOff + s.size ≤ _; rw [hb, hsz]; exact hfdev)
    rw [run_bind_ok h1]
    simp only
    rw [run_bind_ok (run_slice_seekStart _ (c + c / 2) d1 (by show c + c / 2 ≤ s.size; rw [hsz]; omega))]
    simp only
    obtain ⟨d2, h2, hw2⟩ := run_fat_writeAll fs { s with offset := c + c / 2 } (hfs _)
      (bytesLe16 (if c % 2 = 0 then d.img.le16 (s.beginOff + (c + c / 2)) / 4096 * 4096 |||
          Table.rawOfValue .fat12 v % 65536
        else d.img.le16 (s.beginOff + (c + c / 2)) % 16 ||| Table.rawOfValue .fat12 v % 65536 * 16 % 65536))
      (Nat.zero_lt_succ _) (by show c + c / 2 + 2 ≤ s.size; rw [hsz]; omega) d1
      (by rw [hs1.failAt]; exact hfa) (by rw [hs1.img]; exact hwf) (by rw [hs1.img]; exact hg)
    obtain ⟨htv, hst⟩ := (hw2.of_sameStore hs1).fatStep (by rw [hft]; rfl) hg hwf hc hv (by rw [hft]; rfl)
        (bytesLe16_lt _) (by
      rw [hft]
      simp only [Fat.set, setRaw12, u32Lim, imgFatBytes_size, tableRawOfValue_eq, pack12]
      rw [if_neg (by omega), if_neg (by omega), rd16_imgFatBytes fs d.img _ (by omega), hb]
      rfl)
    exact ⟨d2, _, h2, hfs _, (hw2.of_sameStore hs1).fs_eq, htv, hst⟩
  | fat32 =>
    rw [hft] at hin
    simp only [off, width] at hin
    unfold Table.set
    simp only
    obtain ⟨d1, h1, hs1⟩ := run_getRaw .fat32 s c d hfa (by simp only [entOff, entWidth]; rw [hsz]; omega)
      (by rw [hb, hsz]; exact hfdev)
    rw [run_bind_ok h1]
    simp only
    rw [if_neg (fun h => hnsp ((isSpecial32_iff c).mp h.2)),
      run_bind_ok (run_slice_seekStart _ (c * 4) d1 (by show c * 4 ≤ s.size; rw [hsz]; omega))]
    simp only
    obtain ⟨d2, h2, hw2⟩ := run_fat_writeAll fs { s with offset := c * 4 } (hfs _)
      (bytesLe32 (Table.rawOfValue .fat32 v ||| imgFatRaw .fat32 s.beginOff d.img c / 0x10000000 * 0x10000000))
      (Nat.zero_lt_succ _) (by show c * 4 + 4 ≤ s.size; rw [hsz]; omega) d1
      (by rw [hs1.failAt]; exact hfa) (by rw [hs1.img]; exact hwf) (by rw [hs1.img]; exact hg)
    obtain ⟨htv, hst⟩ := (hw2.of_sameStore hs1).fatStep (by rw [hft]; rfl) hg hwf hc hv (by rw [hft]; rfl)
        (bytesLe32_lt _) (by
      rw [hft]
      simp only [Fat.set, set32, getRaw32, setRaw32, u32Lim, imgFatBytes_size, tableRawOfValue_eq, imgFatRaw]
      rw [if_neg (by omega), if_neg (by omega)]
      simp only
      rw [if_neg (fun h => hnsp h.2), if_neg (by omega), if_neg (by omega), rd32_imgFatBytes fs d.img _ (by omega), hb]
      rfl)
    exact ⟨d2, _, h2, hfs _, (hw2.of_sameStore hs1).fs_eq, htv, hst⟩

end FatVerif.FileSim
