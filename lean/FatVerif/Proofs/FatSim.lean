import FatVerif.Proofs.FatSetLaws
import FatVerif.Proofs.FatViewLemmas
import FatVerif.Model.FatAlgo
/-! Simulation: the byte-level algorithms of `FatAlgo` compute the view-level functions of `FatView`
    on tables whose scanned entries lie inside the bytes. -/
namespace FatVerif.Fat

/-- entry `c` is inside the bytes and (FAT32) `c` is not one of the special cluster numbers -/
def Plain (ft : FatType) (f : Array Nat) (c : Nat) : Prop := InRange ft f c ∧ (ft = .fat32 → ¬ special32 c)

/-- first value that is not a data link: 0x?FF7 -/
def badMark : FatType → Nat
  | .fat12 => 0xFF7
  | .fat16 => 0xFFF7
  | .fat32 => 0x0FFFFFF7

/-- a sane table for `total` clusters: byte-valued, entries `[0,total+2)` inside the bytes, and cluster numbers
    stay below the BAD mark (FAT12/16: implied by `FatType::from_clusters`; FAT32: the specification's limit) -/
structure TableOk (ft : FatType) (f : Array Nat) (total : Nat) : Prop where
  wf : WfBytes f
  covers : ∀ c, c < total + 2 → InRange ft f c
  small : total + 2 ≤ badMark ft

theorem TableOk.lt_u32 {ft : FatType} {f : Array Nat} {total : Nat} (ht : TableOk ft f total) :
    total + 2 < u32Lim := by
  have hsm := ht.small
  cases ft <;> simp only [badMark, u32Lim] at * <;> omega

theorem TableOk.plain {ft : FatType} {f : Array Nat} {total : Nat} (h : TableOk ft f total) {c : Nat}
    (hc : c < total + 2) : Plain ft f c := by
  refine ⟨h.covers c hc, ?_⟩
  intro hft; subst hft
  have := h.small
  simp only [badMark] at this
  unfold special32; omega

theorem Plain.of_size {ft : FatType} {f f' : Array Nat} {c : Nat} (h : Plain ft f c) (hs : f'.size = f.size) :
    Plain ft f' c := by
  obtain ⟨⟨a, b⟩, c'⟩ := h
  exact ⟨⟨by rw [hs]; exact a, b⟩, c'⟩

/-! ### `view c = free` in terms of the bytes the scans look at -/

/-- the value the scans test for entry `c`: the value field of its raw entry -/
def scanVal (ft : FatType) (f : Array Nat) (c : Nat) : Nat :=
  if ft = .fat16 then rd16 f (c * 2)
  else if ft = .fat12 then val12 c (rd16 f (c + c / 2))
  else rd32 f (c * 4) % 268435456

/-- an entry of a plain cluster decodes to `free` exactly when the value the scans test is zero -/
theorem view_free_iff {ft : FatType} {f : Array Nat} {c : Nat} (h : Plain ft f c) :
    view ft f c = .free ↔ scanVal ft f c = 0 := by
  obtain ⟨h, hs⟩ := h
  cases ft <;> simp only [InRange, off, width] at h <;>
    simp only [view, get, getRaw, getRaw12, getRaw16, getRaw32, scanVal, reduceCtorEq, if_true, if_false]
  all_goals
    rw [if_neg (by omega), if_neg (by omega)]
    simp only [classify, classify12, classify16, classify32]
    refine ⟨fun hv => ?_, fun hv => by simp [hv, hs]⟩
    split at hv
    · assumption
    · repeat' split at hv
      all_goals cases hv

/-! ### find_free -/

/-- result of a scan expressed through the view-level scan -/
def scanRes : Option Nat → Except Err Nat
  | some c => .ok c
  | none => .error .noSpace

/-- the FAT16 / FAT32 scan loops as one loop: `w` bytes per entry, `val c` the value the loop tests for entry `c`,
    `size` the number of bytes -/
def findFreeLoopW (w : Nat) (val : Nat → Nat) (size : Nat) : Nat → Nat → Except Err Nat
  | 0, _ => .error .noSpace
  | n + 1, c =>
    if size < c * w + w then .error .eof
    else if val c = 0 then .ok c
    else findFreeLoopW w val size n (c + 1)

/-- bytes per entry in the FAT16 / FAT32 loops -/
def scanW (ft : FatType) : Nat := if ft = .fat16 then 2 else 4

theorem findFreeLoop16_eq (f : Array Nat) : ∀ n c,
    findFreeLoop16 f n c = findFreeLoopW (scanW .fat16) (scanVal .fat16 f) f.size n c
  | 0, _ => rfl
  | n + 1, c => by rw [findFreeLoop16, findFreeLoopW, findFreeLoop16_eq f n]; rfl

theorem findFreeLoop32_eq (f : Array Nat) : ∀ n c,
    findFreeLoop32 f n c = findFreeLoopW (scanW .fat32) (scanVal .fat32 f) f.size n c
  | 0, _ => rfl
  | n + 1, c => by rw [findFreeLoop32, findFreeLoopW, findFreeLoop32_eq f n]; rfl

/-- the loop computes the view-level scan when every entry it looks at lies inside the bytes and `val` tests `free` -/
theorem findFreeLoopW_sim (w : Nat) (val : Nat → Nat) (size : Nat) (g : Nat → FatValue) : ∀ n c,
    (∀ i, c ≤ i → i < c + n → i * w + w ≤ size ∧ (g i = .free ↔ val i = 0)) →
    findFreeLoopW w val size n c = scanRes (findFreeV g c n) := by
  intro n
  induction n with
  | zero => intro c _; rfl
  | succ n ih =>
    intro c h
    obtain ⟨hc, hv⟩ := h c (Nat.le_refl _) (by omega)
    simp only [findFreeLoopW, findFreeV]
    rw [if_neg (by omega)]
    by_cases hz : val c = 0
    · rw [if_pos hz, if_pos (hv.mpr hz)]; rfl
    · rw [if_neg hz, if_neg (fun x => hz (hv.mp x))]
      exact ih (c + 1) (fun i h1 h2 => h i (by omega) (by omega))

/-- FAT12 streaming scan: with the loop invariant `packed = word at off c`, `pos = off c + 2`, enough fuel and a
    non-empty range `c < e` inside the bytes, the stream decoder computes the view-level scan of `[c, e)`. -/
theorem findFreeLoop12_sim (f : Array Nat) (hf : WfBytes f) (e : Nat) : ∀ n c k, c + n = e → 0 < n → n ≤ k →
    (∀ i, c ≤ i → i < e → InRange .fat12 f i) →
    findFreeLoop12 f e k c (rd16 f (c + c / 2)) (c + c / 2 + 2) = scanRes (findFreeV (view .fat12 f) c n) := by
  intro n
  induction n with
  | zero => intro c k _ h; omega
  | succ n ih =>
    intro c k hce _ hk h
    obtain ⟨k, rfl⟩ : ∃ k', k = k' + 1 := ⟨k - 1, by omega⟩
    have hc := h c (Nat.le_refl _) (by omega)
    simp only [findFreeLoop12, findFreeV]
    by_cases hz : val12 c (rd16 f (c + c / 2)) = 0
    · rw [if_pos hz, if_pos ((view_free_iff ⟨hc, nofun⟩).mpr hz)]; rfl
    · rw [if_neg hz, if_neg (fun hv => hz ((view_free_iff ⟨hc, nofun⟩).mp hv))]
      by_cases hend : c + 1 = e
      · rw [if_pos hend]
        have : n = 0 := by omega
        subst this; rfl
      · rw [if_neg hend]
        have hn : 0 < n := by omega
        have hc1 := h (c + 1) (by omega) (by omega)
        simp only [InRange, off, width] at hc1
        have ih' := ih (c + 1) k (by omega) hn (by omega) (fun i h1 h2 => h i (by omega) h2)
        by_cases hp : (c + 1) % 2 = 0
        · rw [if_pos hp, if_neg (by omega)]
          have e1 : c + c / 2 + 2 = c + 1 + (c + 1) / 2 := by omega
          rw [e1]; exact ih'
        · rw [if_neg hp, if_neg (by omega)]
          have e1 : c + c / 2 + 2 + 1 = c + 1 + (c + 1) / 2 + 2 := by omega
          have e2 : rd16 f (c + c / 2) / 256 + 256 * rd f (c + c / 2 + 2) = rd16 f (c + 1 + (c + 1) / 2) := by
            have b0 := hf (c + c / 2)
            have e3 : c + 1 + (c + 1) / 2 = c + c / 2 + 1 := by omega
            rw [e3]; unfold rd16
            have e4 : c + c / 2 + 1 + 1 = c + c / 2 + 2 := by omega
            rw [e4]; omega
          rw [e1, e2]; exact ih'

/-- `find_free_cluster` on a non-empty range `[s, e)` inside a sane table = the view-level scan -/
theorem findFree_sim {ft : FatType} {f : Array Nat} {total : Nat} (ht : TableOk ft f total) {s e : Nat}
    (hse : s < e) (he : e ≤ total + 2) :
    findFree ft f s e = scanRes (findFreeV (view ft f) s (e - s)) := by
  have hs := ht.covers s (by omega)
  cases ft
  · simp only [InRange, off, width] at hs
    simp only [findFree, findFree12]
    rw [if_neg (by omega), if_neg (by omega), if_neg (by omega)]
    have hlast := ht.covers (e - 1) (by omega)
    simp only [InRange, off, width] at hlast
    exact findFreeLoop12_sim f ht.wf e (e - s) s (f.size + 2) (by omega) (by omega) (by omega)
      (fun i h1 h2 => ht.covers i (by omega))
  · simp only [InRange, off, width] at hs
    simp only [findFree, findFree16]
    rw [if_neg (by omega), findFreeLoop16_eq]
    exact findFreeLoopW_sim (scanW .fat16) (scanVal .fat16 f) _ _ _ _ fun i h1 h2 =>
      ⟨(ht.covers i (by omega)).1, view_free_iff (ht.plain (by omega))⟩
  · simp only [InRange, off, width] at hs
    simp only [findFree, findFree32]
    rw [if_neg (by omega), findFreeLoop32_eq]
    exact findFreeLoopW_sim (scanW .fat32) (scanVal .fat32 f) _ _ _ _ fun i h1 h2 =>
      ⟨(ht.covers i (by omega)).1, view_free_iff (ht.plain (by omega))⟩

/-- an empty range is NotEnoughSpace for every width before anything is read: FAT12 by its own test (F21 repair),
    FAT16/32 because the `while cluster < end` loop does not run -/
theorem findFree_empty {ft : FatType} {f : Array Nat} {total s e : Nat} (ht : TableOk ft f total) (h : e ≤ s)
    (hs : s ≤ total + 2) : findFree ft f s e = .error .noSpace := by
  have hsm := ht.small
  cases ft <;> simp only [badMark] at hsm <;> simp only [findFree, findFree12, findFree16, findFree32]
  · rw [if_pos h]
  · rw [if_neg (by unfold u32Lim; omega), show e - s = 0 by omega]; rfl
  · rw [if_neg (by unfold u32Lim; omega), show e - s = 0 by omega]; rfl

/-- `find_free_cluster` on ANY range `[s, e)` with `s ≤ e ≤ total+2` of a sane table = the view-level scan
    (the empty range gives NotEnoughSpace for all three widths) -/
theorem findFree_sim_le {ft : FatType} {f : Array Nat} {total : Nat} (ht : TableOk ft f total) {s e : Nat}
    (hse : s ≤ e) (he : e ≤ total + 2) :
    findFree ft f s e = scanRes (findFreeV (view ft f) s (e - s)) := by
  by_cases hlt : s < e
  · exact findFree_sim ht hlt he
  · rw [show e - s = 0 by omega]
    exact findFree_empty ht (by omega) (by omega)


/-! ### count_free -/

/-- number of free entries in `[c, c+n)`, counted from the front like the loops do -/
def cntFrom (g : Nat → FatValue) : Nat → Nat → Nat
  | _, 0 => 0
  | c, n + 1 => (if g c = .free then 1 else 0) + cntFrom g (c + 1) n

theorem cntFrom_snoc (g : Nat → FatValue) : ∀ n c,
    cntFrom g c (n + 1) = cntFrom g c n + (if g (c + n) = .free then 1 else 0) := by
  intro n
  induction n with
  | zero => intro c; simp [cntFrom]
  | succ n ih =>
    intro c
    rw [cntFrom, ih (c + 1)]
    simp only [cntFrom]
    have : c + 1 + n = c + (n + 1) := by omega
    rw [this]; omega

theorem cntFrom_eq_countFreeV (g : Nat → FatValue) : ∀ total, cntFrom g 2 total = countFreeV g total := by
  intro total
  induction total with
  | zero => rfl
  | succ n ih =>
    rw [cntFrom_snoc, countFreeV_succ, ih]
    have : 2 + n = n + 2 := by omega
    rw [this]

/-- the FAT16 / FAT32 counting loops as one loop -/
def countFreeLoopW (w : Nat) (val : Nat → Nat) (size : Nat) : Nat → Nat → Nat → Except Err Nat
  | 0, _, cnt => .ok cnt
  | n + 1, c, cnt =>
    if size < c * w + w then .error .eof
    else countFreeLoopW w val size n (c + 1) (if val c = 0 then cnt + 1 else cnt)

theorem countFreeLoop16_eq (f : Array Nat) : ∀ n c cnt,
    countFreeLoop16 f n c cnt = countFreeLoopW (scanW .fat16) (scanVal .fat16 f) f.size n c cnt
  | 0, _, _ => rfl
  | n + 1, c, cnt => by rw [countFreeLoop16, countFreeLoopW, countFreeLoop16_eq f n]; rfl

theorem countFreeLoop32_eq (f : Array Nat) : ∀ n c cnt,
    countFreeLoop32 f n c cnt = countFreeLoopW (scanW .fat32) (scanVal .fat32 f) f.size n c cnt
  | 0, _, _ => rfl
  | n + 1, c, cnt => by rw [countFreeLoop32, countFreeLoopW, countFreeLoop32_eq f n]; rfl

theorem countFreeLoopW_sim (w : Nat) (val : Nat → Nat) (size : Nat) (g : Nat → FatValue) : ∀ n c cnt,
    (∀ i, c ≤ i → i < c + n → i * w + w ≤ size ∧ (g i = .free ↔ val i = 0)) →
    countFreeLoopW w val size n c cnt = .ok (cnt + cntFrom g c n) := by
  intro n
  induction n with
  | zero => intro c cnt _; rfl
  | succ n ih =>
    intro c cnt h
    obtain ⟨hc, hv⟩ := h c (Nat.le_refl _) (by omega)
    simp only [countFreeLoopW, cntFrom]
    rw [if_neg (by omega), ih (c + 1) _ (fun i h1 h2 => h i (by omega) (by omega))]
    by_cases hz : val c = 0
    · rw [if_pos hz, if_pos (hv.mpr hz)]; congr 1; omega
    · rw [if_neg hz, if_neg (fun x => hz (hv.mp x))]; congr 1; omega

/-- FAT12 streaming counter. Invariant: the stream is at `off c` for even `c`, one byte further for odd `c`
    (the shared byte was consumed with the previous entry), and then `prev` is the previous entry's word. -/
theorem countFreeLoop12_sim (f : Array Nat) (hf : WfBytes f) : ∀ n c prev cnt,
    (∀ i, c ≤ i → i < c + n → InRange .fat12 f i) →
    (c % 2 = 1 → prev = rd16 f (c - 1 + (c - 1) / 2)) →
    countFreeLoop12 f n c (c + c / 2 + c % 2) prev cnt = .ok (cnt + cntFrom (view .fat12 f) c n) := by
  intro n
  induction n with
  | zero => intro c prev cnt _ _; rfl
  | succ n ih =>
    intro c prev cnt h hprev
    have hc := h c (Nat.le_refl _) (by omega)
    have hc' := hc
    simp only [InRange, off, width] at hc'
    simp only [countFreeLoop12, cntFrom]
    have hv : view .fat12 f c = .free ↔ val12 c (rd16 f (c + c / 2)) = 0 := view_free_iff ⟨hc, nofun⟩
    unfold val12 at hv
    by_cases hp : c % 2 = 0
    · rw [if_pos hp, if_neg (by omega)]
      rw [if_pos hp] at hv
      have epos : c + c / 2 + c % 2 = c + c / 2 := by omega
      have enext : c + c / 2 + c % 2 + 2 = c + 1 + (c + 1) / 2 + (c + 1) % 2 := by omega
      rw [enext, ih (c + 1) _ _ (fun i h1 h2 => h i (by omega) (by omega))
        (by intro _; rw [epos]; congr 1 <;> omega)]
      rw [epos]
      by_cases hz : rd16 f (c + c / 2) % 4096 = 0
      · rw [if_pos hz, if_pos (hv.mpr hz)]; congr 1; omega
      · rw [if_neg hz, if_neg (fun x => hz (hv.mp x))]; congr 1; omega
    · rw [if_neg hp, if_neg (by omega)]
      rw [if_neg hp] at hv
      have hprev' := hprev (by omega)
      have enext : c + c / 2 + c % 2 + 1 = c + 1 + (c + 1) / 2 + (c + 1) % 2 := by omega
      rw [enext, ih (c + 1) _ _ (fun i h1 h2 => h i (by omega) (by omega)) (by intro _; omega)]
      have epos : c + c / 2 + c % 2 = c + c / 2 + 1 := by omega
      rw [epos]
      have ezero : (rd f (c + c / 2 + 1) * 256 + prev / 4096 = 0) ↔ (rd16 f (c + c / 2) / 16 = 0) := by
        rw [hprev']
        unfold rd16
        have e1 : c - 1 + (c - 1) / 2 + 1 = c + c / 2 := by omega
        rw [e1]
        have b0 := hf (c - 1 + (c - 1) / 2)
        have b1 := hf (c + c / 2)
        have b2 := hf (c + c / 2 + 1)
        omega
      by_cases hz : rd16 f (c + c / 2) / 16 = 0
      · rw [if_pos (ezero.mpr hz), if_pos (hv.mpr hz)]; congr 1; omega
      · rw [if_neg (fun x => hz (ezero.mp x)), if_neg (fun x => hz (hv.mp x))]; congr 1; omega

/-- `count_free_clusters` on a sane table = the number of free entries of the view in `[2, total+2)` -/
theorem countFree_sim {ft : FatType} {f : Array Nat} {total : Nat} (ht : TableOk ft f total) :
    countFree ft f total = .ok (countFreeV (view ft f) total) := by
  unfold countFree
  rw [if_neg (Nat.not_le.2 ht.lt_u32)]
  rw [← cntFrom_eq_countFreeV]
  cases ft
  · simp only
    have := countFreeLoop12_sim f ht.wf total 2 0 0 (fun i h1 h2 => ht.covers i (by omega)) (by omega)
    simpa using this
  · simp only
    rw [countFreeLoop16_eq, countFreeLoopW_sim (scanW .fat16) (scanVal .fat16 f) _ (view .fat16 f) _ _ _ fun i h1 h2 =>
      ⟨(ht.covers i (by omega)).1, view_free_iff (ht.plain (by omega))⟩, Nat.zero_add]
  · simp only
    rw [countFreeLoop32_eq, countFreeLoopW_sim (scanW .fat32) (scanVal .fat32 f) _ (view .fat32 f) _ _ _ fun i h1 h2 =>
      ⟨(ht.covers i (by omega)).1, view_free_iff (ht.plain (by omega))⟩, Nat.zero_add]


/-! ### alloc_cluster -/

theorem allocStart_eq (hint : Option Nat) (total : Nat) : allocStart hint (total + 2) = allocStartV hint total := rfl

theorem allocFind_sim {ft : FatType} {f : Array Nat} {total : Nat} (ht : TableOk ft f total) (hint : Option Nat) :
    allocFind ft f (allocStart hint (total + 2)) (total + 2) = scanRes (allocFindV (view ft f) hint total) := by
  have hstart := allocStartV_le hint total
  rw [allocStart_eq]
  unfold allocFind allocFindV
  generalize allocStartV hint total = start at *
  rw [findFree_sim_le ht hstart (Nat.le_refl _)]
  cases h1 : findFreeV (view ft f) start (total + 2 - start) with
  | some c => rfl
  | none =>
    by_cases h2 : start > 2
    · simp only [scanRes, h2, and_self, if_true]
      exact findFree_sim ht h2 (by omega)
    · simp only [scanRes, h2, and_false, if_false]

/-- sanity of a table depends on the bytes only through their number and their being bytes -/
theorem TableOk.of_size {ft : FatType} {f f' : Array Nat} {total : Nat} (ht : TableOk ft f total) (hw : WfBytes f')
    (hs : f'.size = f.size) : TableOk ft f' total :=
  ⟨hw, fun i hi => by have := ht.covers i hi; unfold InRange at *; rw [hs]; exact this, ht.small⟩

theorem tableOk_set {ft : FatType} {f f' : Array Nat} {total c : Nat} {v : FatValue} (ht : TableOk ft f total)
    (h : set ft f c v = .ok f') : TableOk ft f' total :=
  ht.of_size (set_wf ht.wf h) (set_size h)

theorem representable_data {ft : FatType} {c : Nat} (h1 : 0 < c) (h2 : c < badMark ft) :
    Representable ft (.data c) := by
  cases ft <;> simp only [Representable, badMark] at * <;> omega

theorem fits_eoc (ft : FatType) : FitsWidth ft .eoc := by
  cases ft <;> simp [FitsWidth, rawOfValue, valLimit]

theorem fits_free (ft : FatType) : FitsWidth ft .free := by
  cases ft <;> simp [FitsWidth, rawOfValue, valLimit]

theorem allocLink_sim {ft : FatType} {f : Array Nat} {total c : Nat} (ht : TableOk ft f total) (prev : Option Nat)
    (hc1 : 2 ≤ c) (hc2 : c < total + 2) (hp : ∀ p, prev = some p → p < total + 2) :
    ∃ f', allocLink ft f prev c = ⟨.ok c, f'⟩ ∧ view ft f' = allocLinkV (view ft f) prev c ∧
      TableOk ft f' total ∧ f'.size = f.size ∧
      (∀ i, i ≠ c → prev ≠ some i → getRaw ft f' i = getRaw ft f i) := by
  have hpc := ht.plain hc2
  obtain ⟨f1, h1⟩ := set_ok_of_inRange (v := .eoc) hpc.1 (by intro _ h; cases h)
  have hv1 := view_set ht.wf (v := .eoc) (by cases ft <;> trivial) hpc.2 h1
  have ht1 := tableOk_set ht h1
  unfold allocLink allocLinkV
  rw [h1]; simp only
  cases prev with
  | none => exact ⟨f1, rfl, hv1, ht1, set_size h1, fun i hi _ => getRaw_set_other ht.wf (fits_eoc ft) h1 hi⟩
  | some p =>
    have hpp := ht1.plain (hp p rfl)
    obtain ⟨f2, h2⟩ := set_ok_of_inRange (v := .data c) hpp.1 (by intro _ h; cases h)
    have hsm := ht.small
    have hrep : Representable ft (.data c) := representable_data (ft := ft) (by omega) (by omega)
    have hv2 := view_set ht1.wf hrep hpp.2 h2
    simp only [allocLinkPrev]
    rw [h2]; simp only
    refine ⟨f2, rfl, ?_, tableOk_set ht1 h2, ?_, ?_⟩
    · rw [hv2, hv1]
    · rw [set_size h2, set_size h1]
    · intro i hi hip
      have hip' : i ≠ p := by intro e; subst e; exact hip rfl
      rw [getRaw_set_other ht1.wf (representable_fits hrep) h2 hip', getRaw_set_other ht.wf (fits_eoc ft) h1 hi]

/-- `alloc_cluster` succeeds exactly as the view-level allocator does -/
theorem allocCluster_ok {ft : FatType} {f : Array Nat} {total c : Nat} (ht : TableOk ft f total)
    (prev hint : Option Nat)
    (hh : ∀ n, hint = some n → 2 ≤ n) (hp : ∀ p, prev = some p → p < total + 2)
    (h : allocFindV (view ft f) hint total = some c) :
    ∃ f', allocCluster f ft prev hint total = ⟨.ok c, f'⟩ ∧ view ft f' = allocLinkV (view ft f) prev c ∧
      TableOk ft f' total ∧ f'.size = f.size ∧
      (∀ i, i ≠ c → prev ≠ some i → getRaw ft f' i = getRaw ft f i) := by
  obtain ⟨hc1, hc2, _⟩ := allocFindV_some _ _ _ _ hh h
  obtain ⟨f', h1, h2, h3, h4, h5⟩ := allocLink_sim ht prev hc1 hc2 hp
  refine ⟨f', ?_, h2, h3, h4, h5⟩
  unfold allocCluster
  rw [if_neg (Nat.not_le.2 ht.lt_u32)]
  rw [allocFind_sim ht hint, h]
  simp only [scanRes]; exact h1

theorem allocCluster_noSpace {ft : FatType} {f : Array Nat} {total : Nat} (ht : TableOk ft f total)
    (prev hint : Option Nat)
    (h : allocFindV (view ft f) hint total = none) :
    allocCluster f ft prev hint total = ⟨.error .noSpace, f⟩ := by
  unfold allocCluster
  rw [if_neg (Nat.not_le.2 ht.lt_u32)]
  rw [allocFind_sim ht hint, h]
  rfl

/-! ### ClusterIterator -/

theorem chainNext_view {ft : FatType} {f : Array Nat} {c : Nat} (h : InRange ft f c) :
    chainNext ft f c = .ok (nextV (view ft f) c) := by
  obtain ⟨v, hv⟩ := get_ok_of_inRange h
  unfold chainNext nextV view
  rw [hv]
  cases v <;> rfl

theorem view_eq_of_getRaw_eq {ft : FatType} {f f' : Array Nat} {i : Nat} (h : getRaw ft f' i = getRaw ft f i) :
    view ft f' i = view ft f i := by
  unfold view get; rw [h]

theorem freeLoop_none (ft : FatType) (k : Nat) (f : Array Nat) (e : Bool) (cnt : Nat) :
    freeLoop ft k f ⟨none, e⟩ cnt = ⟨.ok cnt, f⟩ := by
  cases k <;> rfl

theorem iterAdvance_view {ft : FatType} {f : Array Nat} {c : Nat} (h : InRange ft f c) :
    iterAdvance ft f (iterNew c) = ⟨nextV (view ft f) c, false⟩ := by
  simp [iterAdvance, iterNew, chainNext_view h]

theorem iterItem_view {ft : FatType} {f : Array Nat} {c : Nat} (h : InRange ft f c) :
    iterItem ft f (iterNew c) = (nextV (view ft f) c).map .ok := by
  simp only [iterItem, iterNew, chainNext_view h]
  cases nextV (view ft f) c <;> rfl

/-- one iteration of the `free` loop on a readable, writable entry -/
theorem freeLoop_step {ft : FatType} {f f1 : Array Nat} {c : Nat} (k cnt : Nat) (h : InRange ft f c)
    (h1 : set ft f c .free = .ok f1) :
    freeLoop ft (k + 1) f (iterNew c) cnt = freeLoop ft k f1 ⟨nextV (view ft f) c, false⟩ (cnt + 1) := by
  have hit := iterItem_view h
  have hadv := iterAdvance_view h
  simp only [iterNew] at hit hadv ⊢
  simp only [freeLoop, hit, hadv, h1]
  cases nextV (view ft f) c <;> rfl

theorem truncateChain_step {ft : FatType} {f f1 : Array Nat} {c : Nat} (fuel : Nat) (h : InRange ft f c)
    (h1 : set ft f c .eoc = .ok f1) :
    truncateChain ft f c fuel = freeLoop ft fuel f1 ⟨nextV (view ft f) c, false⟩ 0 := by
  simp only [truncateChain, iterItem_view h, iterAdvance_view h, h1]
  cases nextV (view ft f) c <;> rfl

end FatVerif.Fat
