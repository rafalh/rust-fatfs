import FatVerif.Props.C10slice
import FatVerif.Proofs.DevRun
import FatVerif.Proofs.ImgReplay
import FatVerif.Model.Fs
/-! Write logs of raw-device steps: replay of the log — tiles (`Pieces`, `Tiled`, `TileAt`) as segments of the log
    (`Seg` of Proofs/ImgReplay), records inside a window (`Within`), skipping records that do not cover a point; what the
    raw-device writes of `format_volume` append; from the log to the bytes of the image (`run_img_replay`); lists of
    bytes (`AllB`). -/
namespace FatVerif

/-- records tiling `bs` from `p` replay to the one record of `bs` at `p` -/
theorem replay_pieces {p : Nat} {bs : List Nat} {items : List LogItem} (h : Pieces p bs items) :
    ∀ g : Nat → Nat, replay g items.reverse = applyRec g (.write p bs) := by
  induction h with
  | nil p =>
    intro g
    funext x
    simp only [List.reverse_nil, replay, applyRec, List.length_nil, Nat.add_zero]
    rw [if_neg (by omega)]
  | cons p c bs' rest hc _ ih =>
    intro g
    rw [List.reverse_cons, replay_append, ih]
    exact applyRec_append g p c bs'

/-- every record of a tiling lies inside `[p, p + |bs|)` -/
theorem Pieces.within {p : Nat} {bs : List Nat} {items : List LogItem} (h : Pieces p bs items) :
    ∀ off b, LogItem.write off b ∈ items → p ≤ off ∧ off + b.length ≤ p + bs.length := by
  induction h with
  | nil p => intro off b hm; cases hm
  | cons p c bs' rest hc _ ih =>
    intro off b hm
    rcases List.mem_cons.mp hm with h | h
    · cases h; simp only [List.length_append]; omega
    · have := ih off b h
      simp only [List.length_append]; omega

/-- records that do not cover `x` can be skipped -/
theorem replay_skip (g : Nat → Nat) (a b : List LogItem) (x : Nat)
    (h : ∀ off bs, LogItem.write off bs ∈ a → ¬ (off ≤ x ∧ x < off + bs.length)) :
    replay g (a ++ b) x = replay g b x := by
  rw [replay_append]; exact replay_outside _ _ _ h

/-- the bytes of the device as far as the log tells: `g` (the bytes before the log started) overlaid with the log -/
def Dev.bytes (g : Nat → Nat) (d : Dev) : Nat → Nat := replay g d.log

theorem Dev.bytes_writesOf (g : Nat → Nat) (d : Dev) : replay g d.writesOf = d.bytes g :=
  replay_filter g d.log


/-- a successful raw-device step: the records appended tile `bs` from the old position, the position advances -/
def Tiled (d d' : Dev) (bs : List Nat) : Prop :=
  ∃ items, d'.log = items.reverse ++ d.log ∧ Pieces d.pos bs items ∧ d'.pos = d.pos + bs.length

theorem Tiled.size {d d' : Dev} {bs : List Nat} {α} {p : Prog α} {r} (_ : Tiled d d' bs) (hr : run p d = (r, d')) :
    d'.img.size = d.img.size := run_img_size _ _ _ _ hr

theorem writeAll_dev_tiled (bs : List Nat) (d : Dev) {u : Unit} {d' : Dev}
    (hr : run (writeAll devStrm () bs) d = (.ok u, d')) : Tiled d d' bs := by
  obtain ⟨items, h1, h2, h3, _⟩ := writeAll_dev_pieces bs d hr
  exact ⟨items, h1, h2, h3⟩

theorem Tiled.append {a b c : Dev} {x y : List Nat} (h1 : Tiled a b x) (h2 : Tiled b c y) : Tiled a c (x ++ y) := by
  obtain ⟨i1, l1, p1, q1⟩ := h1
  obtain ⟨i2, l2, p2, q2⟩ := h2
  refine ⟨i1 ++ i2, by rw [l2, l1]; simp, Pieces.append p1 (by rw [← q1]; exact p2), ?_⟩
  rw [q2, q1, List.length_append]; omega

theorem Tiled.nil (d : Dev) : Tiled d d [] := ⟨[], rfl, Pieces.nil _, rfl⟩

theorem writeChunks_dev_tiled : ∀ (cs : List (List Nat)) (d : Dev) (u : Unit) (d' : Dev),
    run (writeChunks devStrm () cs) d = (.ok u, d') → Tiled d d' cs.flatten := by
  intro cs
  induction cs with
  | nil =>
    intro d u d' hr
    unfold writeChunks at hr
    have : run (Prog.pure ()) d = (.ok u, d') := hr
    simp only [run] at this; cases this
    exact Tiled.nil _
  | cons c rest ih =>
    intro d u d' hr
    unfold writeChunks at hr
    have hr' : run (Prog.bind (writeAll devStrm () c) (fun s' => writeChunks devStrm s' rest)) d = (.ok u, d') := hr
    obtain ⟨u1, d1, h1, h2⟩ := run_bind_ok_inv hr'
    rw [List.flatten_cons]
    exact (writeAll_dev_tiled c d h1).append (ih _ _ _ h2)

theorem writeZerosLoop_dev_tiled : ∀ (fuel len : Nat) (d : Dev) (u : Unit) (d' : Dev),
    run (writeZerosLoop devStrm fuel () len) d = (.ok u, d') → Tiled d d' (List.replicate len 0) := by
  intro fuel
  induction fuel with
  | zero =>
    intro len d u d' hr
    unfold writeZerosLoop at hr
    simp only [run] at hr; cases hr
  | succ k ih =>
    intro len d u d' hr
    unfold writeZerosLoop at hr
    split at hr
    · rename_i h0
      have : run (Prog.pure ()) d = (.ok u, d') := hr
      simp only [run] at this; cases this
      subst h0
      exact Tiled.nil _
    · rename_i hne
      have hr' : run (Prog.bind (writeAll devStrm () (List.replicate (min len 512) 0))
          (fun s' => writeZerosLoop devStrm k s' (len - min len 512))) d = (.ok u, d') := hr
      obtain ⟨u1, d1, h1, h2⟩ := run_bind_ok_inv hr'
      have := (writeAll_dev_tiled _ d h1).append (ih _ _ _ _ h2)
      rw [List.replicate_append_replicate] at this
      rwa [show min len 512 + (len - min len 512) = len by omega] at this

theorem writeZeros_dev_tiled (len : Nat) (d : Dev) {u : Unit} {d' : Dev}
    (hr : run (writeZeros devStrm () len) d = (.ok u, d')) : Tiled d d' (List.replicate len 0) :=
  writeZerosLoop_dev_tiled _ _ _ _ _ hr

theorem count_s (d : Dev) : (d.count .s).log = d.log ∧ (d.count .s).pos = d.pos ∧ (d.count .s).img = d.img := by
  unfold Dev.count; simp

/-- a successful seek does not touch the log; the position is the value returned -/
theorem run_seekStart_ok (n : Nat) (d : Dev) {v : Nat} {d1 : Dev} (hr : run (Prog.seekStart n) d = (.ok v, d1)) :
    d1.log = d.log ∧ d1.pos = n := by
  have := run_seekStart_spec n d hr
  exact ⟨this.2.1, this.2.2 _ rfl⟩

theorem run_seekCur0_ok (d : Dev) {v : Nat} {d1 : Dev} (hr : run (Prog.seek (.cur 0)) d = (.ok v, d1)) :
    d1.log = d.log ∧ d1.pos = d.pos ∧ v = d.pos := by
  have hc := count_s d
  simp only [Prog.seek, run, stepOp, devCall, devCallCore] at hr
  split at hr
  · cases hr
  · split at hr
    · cases hr
    · cases hr
      simp only [hc.2.1, hc.1, Int.add_zero, Int.toNat_natCast, and_self]

theorem run_seekEnd0_ok (d : Dev) {v : Nat} {d1 : Dev} (hr : run (Prog.seek (.fromEnd 0)) d = (.ok v, d1)) :
    d1.log = d.log ∧ v = d.img.size := by
  have hc := count_s d
  simp only [Prog.seek, run, stepOp, devCall, devCallCore] at hr
  split at hr
  · cases hr
  · split at hr
    · cases hr
    · cases hr
      simp only [hc.2.2, hc.1, Int.add_zero, Int.toNat_natCast, and_self]

/-- amount of zero padding `write_zeros_until_end_of_sector` adds at position `pos` (nothing if the position is a
    multiple of `bps` already) -/
def padLen (pos bps : Nat) : Nat := if bps - pos % bps = bps then 0 else bps - pos % bps

/-- `write_zeros_until_end_of_sector`: zeros from the position up to the next multiple of `bps` -/
theorem writeZerosUntilEndOfSector_tiled (bps : Nat) (d : Dev) {u : Unit} {d' : Dev}
    (hr : run (writeZerosUntilEndOfSector bps) d = (.ok u, d')) : Tiled d d' (List.replicate (padLen d.pos bps) 0) := by
  unfold writeZerosUntilEndOfSector at hr
  obtain ⟨v, d1, h1, h2⟩ := run_bind_ok_inv hr
  obtain ⟨hl, hp, hv⟩ := run_seekCur0_ok d h1
  subst hv
  -- the seek moved nothing: what is tiled from `d1` is tiled from `d`
  have back : ∀ {bs : List Nat}, Tiled d1 d' bs → Tiled d d' bs :=
    fun ⟨items, a, b, c⟩ => ⟨items, by rw [a, hl], by rw [← hp]; exact b, by rw [c, hp]⟩
  unfold padLen
  dsimp only at h2
  split at h2
  · rename_i hn
    rw [if_neg hn]
    obtain ⟨u1, d2, h3, h4⟩ := run_bind_ok_inv h2
    obtain ⟨_, rfl⟩ := run_pure_ok_inv h4
    exact back (writeZeros_dev_tiled _ d1 h3)
  · rename_i hn
    have hn' : bps - d.pos % bps = bps := by simpa using hn
    rw [if_pos hn']
    obtain ⟨_, rfl⟩ := run_pure_ok_inv h2
    exact back (Tiled.nil _)


theorem Tiled.seg {d d' : Dev} {bs : List Nat} (h : Tiled d d' bs) :
    ∃ items, Pieces d.pos bs items ∧ Seg d d' items.reverse := by
  obtain ⟨items, hl, hp, _⟩ := h
  refine ⟨items, hp, ?_⟩
  unfold Seg Dev.writesOf
  rw [hl, List.filter_append]
  congr 1
  apply List.filter_eq_self.mpr
  intro it hit
  exact hp.all_write it (List.mem_reverse.mp hit)

/-- all records of `L` lie inside `[lo, hi)` -/
def Within (lo hi : Nat) (L : List LogItem) : Prop :=
  ∀ off bs, LogItem.write off bs ∈ L → lo ≤ off ∧ off + bs.length ≤ hi

theorem Within.nil (lo hi : Nat) : Within lo hi [] := by intro _ _ h; cases h

theorem Within.append {lo hi : Nat} {a b : List LogItem} (h1 : Within lo hi a) (h2 : Within lo hi b) :
    Within lo hi (a ++ b) := by
  intro off bs hm
  rcases List.mem_append.mp hm with h | h
  · exact h1 _ _ h
  · exact h2 _ _ h

theorem Within.mono {lo hi lo' hi' : Nat} {L : List LogItem} (h : Within lo hi L) (h1 : lo' ≤ lo) (h2 : hi ≤ hi') :
    Within lo' hi' L := by
  intro off bs hm
  have := h _ _ hm
  omega

theorem Within.of_pieces {p : Nat} {bs : List Nat} {items : List LogItem} (h : Pieces p bs items) :
    Within p (p + bs.length) items.reverse := by
  intro off b hm
  exact h.within off b (List.mem_reverse.mp hm)

/-- records inside `[lo, hi)` do not cover a point outside -/
theorem Within.skip {lo hi : Nat} {L : List LogItem} (h : Within lo hi L) (g : Nat → Nat) (rest : List LogItem) (x : Nat)
    (hx : x < lo ∨ hi ≤ x) : replay g (L ++ rest) x = replay g rest x := by
  apply replay_skip
  intro off bs hm hc
  have := h _ _ hm
  omega

/-- a `MirroredSeq` over a slice on the raw device appends only records inside the window of the copies -/
theorem MirroredSeq.within {s0 : DiskSlice} {d d' : Dev} (h : MirroredSeq s0 d d') (hv : s0.viaFs = false) :
    ∃ L, Seg d d' L ∧ Within s0.beginOff (s0.beginOff + s0.mirrors * s0.size) L := by
  induction h with
  | refl d => exact ⟨[], Seg.refl _, Within.nil _ _⟩
  | quiet hq _ ih =>
    obtain ⟨L, h1, h2⟩ := ih
    refine ⟨L, ?_, h2⟩
    unfold Seg at *; rw [h1, hq.1]
  | write hw _ ih =>
    obtain ⟨L, h1, h2⟩ := ih
    obtain ⟨_, L1, hL, hin⟩ := hw.seg
    rw [show statusExtra s0.viaFs _ = [] by unfold statusExtra; rw [hv]; simp] at hL
    exact ⟨L ++ L1, by unfold Seg at *; rw [h1, hL]; simp, h2.append hin⟩

/-! ### tiles at an offset -/

/-- `L` (newest first) tiles `bs` from offset `p` -/
def TileAt (p : Nat) (bs : List Nat) (L : List LogItem) : Prop := ∃ items, Pieces p bs items ∧ L = items.reverse

theorem TileAt.within {p : Nat} {bs : List Nat} {L : List LogItem} (h : TileAt p bs L) : Within p (p + bs.length) L := by
  obtain ⟨items, hp, rfl⟩ := h; exact Within.of_pieces hp

theorem TileAt.replay {p : Nat} {bs : List Nat} {L : List LogItem} (h : TileAt p bs L) (g : Nat → Nat)
    (rest : List LogItem) (x : Nat) :
    replay g (L ++ rest) x = if p ≤ x ∧ x < p + bs.length then bs.getD (x - p) 0 else replay g rest x := by
  obtain ⟨items, hp, rfl⟩ := h
  rw [replay_append, replay_pieces hp]
  rfl

theorem Tiled.tileAt {d d' : Dev} {bs : List Nat} (h : Tiled d d' bs) : ∃ L, TileAt d.pos bs L ∧ Seg d d' L := by
  obtain ⟨items, hp, hs⟩ := h.seg
  exact ⟨_, ⟨items, hp, rfl⟩, hs⟩

theorem Tiled.pos {d d' : Dev} {bs : List Nat} (h : Tiled d d' bs) : d'.pos = d.pos + bs.length := by
  obtain ⟨_, _, _, hp⟩ := h; exact hp

theorem Tiled.of_start {d0 d d' : Dev} {bs : List Nat} (h : Tiled d d' bs) (hl : d.log = d0.log) :
    ∃ L, TileAt d.pos bs L ∧ Seg d0 d' L := by
  obtain ⟨L, h1, h2⟩ := h.tileAt
  exact ⟨L, h1, by have := (Seg.of_log_eq hl).trans h2; simpa using this⟩

theorem run_seg {α} (p : Prog α) (d : Dev) {r d'} (hr : run p d = (r, d')) : ∃ L, Seg d d' L := by
  obtain ⟨items, h⟩ := run_logExtends _ _ _ _ hr
  refine ⟨items.filter LogItem.isWrite, ?_⟩
  unfold Seg Dev.writesOf; rw [h, List.filter_append]

/-! ### from the write log to the image (on top of `run_img_eq_replay`) -/

/-- from a well-formed image with an empty log: the resulting image is well-formed and its bytes are the replay of
    the final log over the initial bytes, modulo 256 -/
theorem run_img_replay {α} (p : Prog α) (d : Dev) (r : Except Err α) (d' : Dev) (hr : run p d = (r, d'))
    (hwf : d.img.WF) (hlog : d.log = []) :
    d'.img.WF ∧ ∀ k, d'.img.getByte k = d'.bytes d.img.getByte k % 256 := by
  obtain ⟨h1, items, hl, hv⟩ := run_img_eq_replay p d r d' hr hwf
  refine ⟨h1, fun k => ?_⟩
  rw [hv k, replay_norm _ (Img.getByte_lt _) items k]
  unfold Dev.bytes
  rw [hl, hlog, List.append_nil]

/-- all elements are bytes -/
def AllB (l : List Nat) : Prop := ∀ b ∈ l, b < 256

theorem allB_append (a b : List Nat) : AllB (a ++ b) ↔ AllB a ∧ AllB b := by
  unfold AllB; simp only [List.mem_append]
  exact ⟨fun h => ⟨fun x hx => h x (Or.inl hx), fun x hx => h x (Or.inr hx)⟩,
    fun h x hx => hx.elim (h.1 x) (h.2 x)⟩

theorem allB_cons (x : Nat) (l : List Nat) : AllB (x :: l) ↔ x < 256 ∧ AllB l := by
  unfold AllB; simp only [List.mem_cons]
  exact ⟨fun h => ⟨h x (Or.inl rfl), fun y hy => h y (Or.inr hy)⟩, fun h y hy => hy.elim (fun e => e ▸ h.1) (h.2 y)⟩

theorem allB_nil : AllB [] := by intro b hb; cases hb

theorem allB_le16 (v : Nat) : AllB (bytesLe16 v) := by
  intro b hb; simp only [bytesLe16, List.mem_cons, List.mem_nil_iff, or_false] at hb
  rcases hb with rfl | rfl <;> omega

theorem allB_le32 (v : Nat) : AllB (bytesLe32 v) := by
  intro b hb; simp only [bytesLe32, List.mem_cons, List.mem_nil_iff, or_false] at hb
  rcases hb with rfl | rfl | rfl | rfl <;> omega

theorem allB_replicate0 (n : Nat) : AllB (List.replicate n 0) := by
  intro b hb; have := (List.mem_replicate.mp hb).2; omega

theorem allB_take {l : List Nat} (h : AllB l) (n : Nat) : AllB (l.take n) := fun b hb => h b (List.mem_of_mem_take hb)

theorem getD_lt_allB {l : List Nat} (h : AllB l) (k : Nat) : l.getD k 0 < 256 := by
  rw [List.getD_eq_getElem?_getD]
  by_cases hk : k < l.length
  · rw [List.getElem?_eq_getElem hk]; exact h _ (List.getElem_mem hk)
  · rw [List.getElem?_eq_none (by omega)]; simp

end FatVerif
