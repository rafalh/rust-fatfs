import FatVerif.Proofs.FileSimFlush
/-!
# FileSim / frame: where the mutating file operations write, and what they leave alone (C11 at byte level)

`MayTouch fs img f e q`: position `q` is one the operations of handle `f` may modify, in C11's vocabulary —
the status byte; a byte of a cluster of `f`'s chain; a byte of a cluster that is FREE in the decoded FAT; the window of
the FAT entry (any copy) of such a cluster; `f`'s own 32-byte slot.
`OpSummary`: for each operation of a history on `f` — device step, which FAT entries keep their decoded value, where
the new chain comes from, the classified write records; where the image may differ follows from the records
(`OpSummary.diff`).  `Frame S`: the same without the records and with the footprint `MayTouchData ∪ S`, so that `flush`
(`S` the slot) is a step like the others.  `execH_lift` carries a property of the single calls to the loops `read_exact` /
`write_all`.  `Frame.other_file`: a represented file `g` whose chain is disjoint from `f`'s keeps its representation and
its abstraction (all three FAT types: stated on decoded entries, so the nibble FAT12 neighbours share does not matter).
-/
namespace FatVerif.FileSim
open FatVerif FatVerif.Fat

/-- inside cluster `c` -/
def InCluster (fs : FsState) (c q : Nat) : Prop := clusterOff fs c ≤ q ∧ q < clusterOff fs c + fs.clusterSize

/-- a cluster of the volume that is free in the decoded FAT of the image -/
def FreeCluster (fs : FsState) (img : Img) (c : Nat) : Prop :=
  2 ≤ c ∧ c < fs.totalClusters + 2 ∧ tabView fs img c = .free

/-- the positions `write` / `truncate` of handle `f` may modify -/
def MayTouchData (fs : FsState) (img : Img) (f : FileH) (q : Nat) : Prop :=
  q = statusOff fs ∨
  (∃ c ∈ fileChain fs img f, InCluster fs c q) ∨
  (∃ c, FreeCluster fs img c ∧ InCluster fs c q) ∨
  (∃ c, (c ∈ fileChain fs img f ∨ FreeCluster fs img c) ∧ FatEntryPos fs c q)

/-- … plus the handle's own slot (`flush` / drop) -/
def MayTouch (fs : FsState) (img : Img) (f : FileH) (e : DirEntryEditor) (q : Nat) : Prop :=
  MayTouchData fs img f q ∨ (e.pos ≤ q ∧ q < e.pos + 32)

/-- the mutating operations -/
inductive MOp where
  | write (bs : List Nat)
  | truncate
  | flush
  | drop

/-- the device after the operation -/
def MOp.devAfter (op : MOp) (f : FileH) (d : Dev) : Dev :=
  match op with
  | .write bs => (run (f.write bs) d).2
  | .truncate => (run f.truncate d).2
  | .flush => (run f.flush d).2
  | .drop => (run f.drop d).2

/-- a cluster of the handle's chain, or a free cluster of the volume -/
def OwnOrFree (fs : FsState) (img : Img) (f : FileH) (c : Nat) : Prop :=
  c ∈ fileChain fs img f ∨ FreeCluster fs img c

theorem OwnOrFree.inTab {fs : FsState} {img : Img} {f : FileH} {c : Nat} (hrep : FileRep fs img f)
    (hc : OwnOrFree fs img f c) : 2 ≤ c ∧ c < fs.totalClusters + 2 :=
  hc.elim (hrep.inTab c) fun h => ⟨h.1, h.2.1⟩

/-- `MayTouchData` by clusters: the status byte, or a byte of the data or of the FAT entry (any copy) of a cluster the
    handle owns or may take -/
theorem mayTouchData_iff {fs : FsState} {img : Img} {f : FileH} {q : Nat} : MayTouchData fs img f q ↔
    q = statusOff fs ∨ ∃ c, OwnOrFree fs img f c ∧ (InCluster fs c q ∨ FatEntryPos fs c q) := by
  constructor
  · rintro (h | ⟨c, hc, h⟩ | ⟨c, hc, h⟩ | ⟨c, hc, h⟩)
    · exact Or.inl h
    · exact Or.inr ⟨c, Or.inl hc, Or.inl h⟩
    · exact Or.inr ⟨c, Or.inr hc, Or.inl h⟩
    · exact Or.inr ⟨c, hc, Or.inr h⟩
  · rintro (h | ⟨c, hc, h | h⟩)
    · exact Or.inl h
    · exact hc.elim (fun hc => Or.inr (Or.inl ⟨c, hc, h⟩)) fun hc => Or.inr (Or.inr (Or.inl ⟨c, hc, h⟩))
    · exact Or.inr (Or.inr (Or.inr ⟨c, hc, h⟩))

/-- what a handle may write after a step, from the clusters it then owns or may take: if each was `f`'s or `g`'s to own
    or take before, the position was `f`'s or `g`'s to write -/
theorem mayTouchData_of_own {fs fs' : FsState} {img img' : Img} {f f' g : FileH} (hgeo : FsGeomEq fs fs')
    (hown : ∀ c, OwnOrFree fs' img' f' c → OwnOrFree fs img f c ∨ OwnOrFree fs img g c) {q : Nat}
    (h : MayTouchData fs' img' f' q) : MayTouchData fs img f q ∨ MayTouchData fs img g q := by
  rcases mayTouchData_iff.mp h with hs | ⟨c, hc, hq⟩
  · exact Or.inl (Or.inl (by rw [hs]; unfold statusOff; rw [hgeo.fatType]))
  · have hq' : InCluster fs c q ∨ FatEntryPos fs c q := by
      unfold InCluster FatEntryPos at hq ⊢
      rw [hgeo.clusterOff, hgeo.clusterSize, hgeo.fatSlice, hgeo.fatType] at hq
      exact hq
    exact (hown c hc).imp (fun h1 => mayTouchData_iff.mpr (Or.inr ⟨c, h1, hq'⟩))
      fun h1 => mayTouchData_iff.mpr (Or.inr ⟨c, h1, hq'⟩)

/-- a cluster that is free after a step which keeps the decoded entries of clusters that are neither `f`'s nor free was
    `f`'s or free before -/
theorem FreeCluster.of_view {fs fs' : FsState} {img img' : Img} {f : FileH} {c : Nat} (hgeo : FsGeomEq fs fs')
    (hview : ∀ x, x ∉ fileChain fs img f → tabView fs img x ≠ .free → tabView fs' img' x = tabView fs img x)
    (h : FreeCluster fs' img' c) : OwnOrFree fs img f c := by
  obtain ⟨h2, ht, hfr⟩ := h
  by_cases hcf : c ∈ fileChain fs img f
  · exact Or.inl hcf
  · by_cases hf0 : tabView fs img c = .free
    · rw [hgeo.totalClusters] at ht; exact Or.inr ⟨h2, ht, hf0⟩
    · rw [hview c hcf hf0] at hfr; exact absurd hfr hf0

/-- everything in `MayTouch` lies inside the device -/
theorem mayTouch_in_device {fs : FsState} {img : Img} {f : FileH} {e : DirEntryEditor} (g : Geo fs img.size)
    (hrep : FileRep fs img f) (hpos : e.pos + 32 ≤ img.size) {q : Nat} (h : MayTouch fs img f e q) : q < img.size := by
  have hfd := g.fat_dev
  have hdata := g.data_dev
  have hfatdata := g.fat_data
  have hfirst := dataStart_le_clusterOff fs (fs.totalClusters + 2)
  rcases h with h | ⟨_, h2⟩
  · rcases mayTouchData_iff.mp h with hs | ⟨c, hc, ⟨h1, h2⟩ | hp⟩
    · have := statusOff_lt fs
      have := g.status_lt
      omega
    · have := g.cluster_dev (hc.inTab hrep).1 (hc.inTab hrep).2
      omega
    · have := g.fatEntry_in_fat (hc.inTab hrep).2 hp
      omega
  · omega

/-- a handle is represented in another image as soon as the decoded FAT entries of its chain and the bytes of its
    clusters are the same -/
theorem FileRep.of_sem_agree {fs fs' : FsState} {img img' : Img} {g : FileH} (hrep : FileRep fs img g)
    (hgeo : FsGeomEq fs fs')
    (htv : ∀ c ∈ fileChain fs img g, tabView fs' img' c = tabView fs img c)
    (hdata : ∀ c ∈ fileChain fs img g, ∀ j, j < fs.clusterSize →
      img'.getByte (clusterOff fs c + j) = img.getByte (clusterOff fs c + j)) :
    FileRep fs' img' g ∧ CoreEq (absFile fs' img' g) (absFile fs img g) ∧
    fileChain fs' img' g = fileChain fs img g := by
  have hch : fileChain fs' img' g = fileChain fs img g := by
    unfold fileChain
    cases hf : g.firstCluster with
    | none => rfl
    | some c0 =>
      simp only
      rw [hgeo.totalClusters]
      apply chainFrom_congr
      intro c hc
      apply htv
      unfold fileChain; rw [hf]; exact hc
  have hcore : CoreEq (absFile fs' img' g) (absFile fs img g) := by
    refine ⟨hgeo.clusterSize, hch, ?_, rfl, rfl, rfl, rfl⟩
    intro c hc j hj
    show img'.getByte (clusterOff fs' c + j) = _
    rw [hgeo.clusterOff]
    exact hdata c hc j hj
  have hinv := hrep.inv
  refine ⟨⟨hrep.file, ?_, ?_, ?_, ?_⟩, hcore, hch⟩
  · have hbase := AFileInv.of_coreEq hcore hinv
    refine ⟨hbase.cs_pos, hbase.nodup, hbase.first, hbase.cover, hbase.off_le, hbase.size_le, hbase.cur, ?_⟩
    intro c hc
    have hc' : c ∈ fileChain fs' img' g := hc
    rw [hch] at hc'
    show tabView fs' img' c ≠ .free
    rw [htv c hc']; exact hinv.live c hc'
  · intro c hc
    rw [hch]
    exact chain_congr (hrep.chain c hc) htv
  · intro c hc; rw [hgeo.totalClusters]; exact hrep.inTab c (hch ▸ hc)
  · intro c hc
    rw [hch] at hc
    rw [htv c (List.mem_of_getLast? hc)]; exact hrep.last_eoc c hc

/-- what one operation of a history on `f` does, as far as other objects are concerned -/
structure OpSummary (f : FileH) (d : Dev) (f' : FileH) (d' : Dev) : Prop where
  step : DevStep d d'
  /-- decoded FAT entries of clusters that are neither `f`'s nor free are unchanged -/
  view : ∀ x, x ∉ fileChain d.fs d.img f → tabView d.fs d.img x ≠ .free →
    tabView d'.fs d'.img x = tabView d.fs d.img x
  /-- the new chain consists of old clusters of `f` and clusters that were free -/
  chain : ∀ x ∈ fileChain d'.fs d'.img f', x ∈ fileChain d.fs d.img f ∨ tabView d.fs d.img x = .free
  /-- the write records, classified: status byte, pieces of clusters of `f` / free clusters, read-modify-write entry
      windows of such clusters -/
  trace : Trace d.fs (OwnOrFree d.fs d.img f) (OwnOrFree d.fs d.img f) d d'

theorem OpSummary.of_sameStore {f f' : FileH} {d d' : Dev} (hs : SameStore d d')
    (hch : fileChain d.fs d.img f' = fileChain d.fs d.img f) : OpSummary f d f' d' :=
  ⟨DevStep.of_sameStore hs, fun x _ _ => by rw [hs.fs, hs.img],
   fun x hx => by rw [hs.fs, hs.img, hch] at hx; exact Or.inl hx, Trace.of_sameStore hs⟩

theorem OpSummary.refl (f : FileH) (d : Dev) : OpSummary f d f d :=
  OpSummary.of_sameStore (SameStore.refl d) rfl

/-- the positions of classified records lie where the handle may write -/
theorem classified_positions {fs : FsState} {img0 : Img} {f : FileH} :
    ∀ (recs : List Rec) (img : Img), Classified fs (OwnOrFree fs img0 f) (OwnOrFree fs img0 f) img recs →
      ∀ r ∈ recs, ∀ q, r.1 ≤ q → q < r.1 + r.2.length → MayTouchData fs img0 f q
  | [], _, _, r, hr, _, _, _ => by cases hr
  | r0 :: rs, img, hc, r, hr, q, h1, h2 => by
    rcases List.mem_cons.mp hr with rfl | hr'
    · rcases hc.1 with ⟨e1, e2⟩ | ⟨c, hcc, c2, ct, a1, a2⟩ | ⟨c, i, hcc, ct, hi, e1, e2, _⟩
      · exact Or.inl (by omega)
      · exact mayTouchData_iff.mpr (Or.inr ⟨c, hcc, Or.inl ⟨by omega, by omega⟩⟩)
      · exact Or.inr (Or.inr (Or.inr ⟨c, hcc, i, hi, by omega, by omega⟩))
    · exact classified_positions rs _ hc.2 r hr' q h1 h2

/-- the image differs only where `f` may write: a position outside `MayTouchData` is in no record -/
theorem OpSummary.diff {f f' : FileH} {d d' : Dev} (h : OpSummary f d f' d') (hwf : d.img.WF) (q : Nat)
    (hne : d'.img.getByte q ≠ d.img.getByte q) : MayTouchData d.fs d.img f q := by
  obtain ⟨recs, _, hi, hc⟩ := h.trace
  apply Classical.byContradiction
  intro hno
  rw [hi] at hne
  exact hne ((applyRecs_frame recs d.img hwf).2.2 q fun r hr hin =>
    hno (classified_positions recs d.img hc r hr q hin.1 hin.2))

/-- what one step on `f` does, as far as other objects are concerned; `S`: the positions it may write besides
    `MayTouchData` -/
structure Frame (S : Nat → Prop) (f : FileH) (d : Dev) (f' : FileH) (d' : Dev) : Prop where
  step : DevStep d d'
  view : ∀ x, x ∉ fileChain d.fs d.img f → tabView d.fs d.img x ≠ .free →
    tabView d'.fs d'.img x = tabView d.fs d.img x
  chain : ∀ x ∈ fileChain d'.fs d'.img f', x ∈ fileChain d.fs d.img f ∨ tabView d.fs d.img x = .free
  diff : ∀ q, d'.img.getByte q ≠ d.img.getByte q → MayTouchData d.fs d.img f q ∨ S q

theorem OpSummary.frame {f f' : FileH} {d d' : Dev} (h : OpSummary f d f' d') (hwf : d.img.WF) (S : Nat → Prop) :
    Frame S f d f' d' :=
  ⟨h.step, h.view, h.chain, fun q hq => Or.inl (h.diff hwf q hq)⟩

theorem HStep.summary {f f' : FileH} {d d' : Dev} {b' : Cursor.AFile} (h : HStep f d f' d' b') : OpSummary f d f' d' :=
  ⟨h.step, h.view, h.chain, h.trace _ _ (fun _ hx => ⟨Or.inl hx, Or.inl hx⟩)
    fun _ h2 ht hf => ⟨Or.inr ⟨h2, ht, hf⟩, Or.inr ⟨h2, ht, hf⟩⟩⟩

/-- ONE `File::write` call: device step, which FAT entries keep their decoded value, where the new chain comes from,
    the classified write records -/
theorem write_summary (f : FileH) (bs : List Nat) (d : Dev) (h : SimInv f d) (hbytes : ∀ b ∈ bs, b < 256) :
    OpSummary f d (execH (.write bs) f d).2.1 (execH (.write bs) f d).2.2 ∧
    EdStep d.fs.fatType f (execH (.write bs) f d).2.1 := by
  rcases write_sim f bs d h hbytes with ⟨d', hr, _, hs⟩ | ⟨k, f', d', hr, _, hs⟩
  · simp only [execH, hr]
    exact ⟨hs.summary, hs.ed⟩
  · simp only [execH, hr]
    exact ⟨hs.summary, hs.ed⟩

/-- `File::truncate`: the status byte and FAT entries of clusters of the chain -/
theorem truncate_summary (f : FileH) (d : Dev) (h : SimInv f d) :
    OpSummary f d (execH .truncate f d).2.1 (execH .truncate f d).2.2 ∧
    EdStep d.fs.fatType f (execH .truncate f d).2.1 := by
  obtain ⟨f', d', hr, _, hs⟩ := truncate_sim f d h
  simp only [execH, hr]
  exact ⟨hs.summary, hs.ed⟩

/-- the device after one operation of `execH` is the device after the call -/
theorem execH_dev_write (bs : List Nat) (f : FileH) (d : Dev) : (execH (.write bs) f d).2.2 = (run (f.write bs) d).2 := by
  simp only [execH]; split <;> rename_i h <;> rw [h]

theorem execH_dev_truncate (f : FileH) (d : Dev) : (execH .truncate f d).2.2 = (run f.truncate d).2 := by
  simp only [execH]; split <;> rename_i h <;> rw [h]

/-- `File::write`: where the image may differ afterwards -/
theorem write_footprint (f : FileH) (bs : List Nat) (d : Dev) (h : SimInv f d) (hbytes : ∀ b ∈ bs, b < 256) :
    ∀ q, (run (f.write bs) d).2.img.getByte q ≠ d.img.getByte q → MayTouchData d.fs d.img f q := by
  rw [← execH_dev_write]; exact (write_summary f bs d h hbytes).1.diff h.wf

theorem truncate_footprint (f : FileH) (d : Dev) (h : SimInv f d) :
    ∀ q, (run f.truncate d).2.img.getByte q ≠ d.img.getByte q → MayTouchData d.fs d.img f q := by
  rw [← execH_dev_truncate]; exact (truncate_summary f d h).1.diff h.wf

/-- one single call: the summary, and what it does to the editor -/
theorem execH_prim (op : HOp) (hp : op.isPrim) (f : FileH) (d : Dev) (h : SimInv f d) (hok : op.BytesOk) :
    OpSummary f d (execH op f d).2.1 (execH op f d).2.2 ∧ EdStep d.fs.fatType f (execH op f d).2.1 := by
  cases op with
  | read n =>
    obtain ⟨bs, f', d', hr, hs, _, hab, _, hed⟩ := read_sim f n d h.nofault h.geo h.rep
    simp only [execH, hr]
    exact ⟨OpSummary.of_sameStore hs (by
      show (absFile d.fs d.img f').chain = (absFile d.fs d.img f).chain
      rw [hab]
      exact (h.rep.inv.read_post n).1.chain), hed⟩
  | seek p =>
    rcases seek_sim f p d h.nofault h.geo h.rep with ⟨pos, f', d', hr, hs, _, hab, _, hed⟩ | ⟨hr, _⟩
    · simp only [execH, hr]
      refine ⟨OpSummary.of_sameStore hs ?_, hed⟩
      show (absFile d.fs d.img f').chain = (absFile d.fs d.img f).chain
      rw [hab]
      exact (Cursor.seek_chain_data _ _).1
    · simp only [execH, hr]
      exact ⟨OpSummary.refl f d, EdStep.refl _ f⟩
  | readExact n => exact hp.elim
  | writeAll bs => exact hp.elim
  | write bs => exact write_summary f bs d h (hok bs (Or.inl rfl))
  | truncate => exact truncate_summary f d h

theorem execH_summary_prim (op : HOp) (hp : op.isPrim) (f : FileH) (d : Dev) (h : SimInv f d)
    (hok : op.BytesOk) : OpSummary f d (execH op f d).2.1 (execH op f d).2.2 :=
  (execH_prim op hp f d h hok).1

theorem inCluster_disjoint (fs : FsState) {c c' q : Nat} (hc : 2 ≤ c) (hc' : 2 ≤ c') (hne : c ≠ c')
    (h1 : InCluster fs c q) (h2 : InCluster fs c' q) : False := by
  obtain ⟨a1, a2⟩ := h1
  obtain ⟨b1, b2⟩ := h2
  rcases Nat.lt_or_gt_of_ne hne with hlt | hgt
  · have := clusterOff_mono fs (show c + 1 ≤ c' by omega)
    rw [clusterOff_succ fs c hc] at this
    omega
  · have := clusterOff_mono fs (show c' + 1 ≤ c by omega)
    rw [clusterOff_succ fs c' hc'] at this
    omega

/-- a byte of a cluster that is neither `f`'s nor free is not a position `f` may write -/
theorem not_mayTouchData_of_cluster {fs : FsState} {img : Img} {f : FileH} (hg : Geo fs img.size)
    (hrepf : FileRep fs img f) {c q : Nat} (hc2 : 2 ≤ c) (hcf : c ∉ fileChain fs img f)
    (hnf : tabView fs img c ≠ .free) (hq : InCluster fs c q) : ¬ MayTouchData fs img f q := by
  have hfirst := dataStart_le_clusterOff fs c
  have hfd := hg.fat_data
  have hst := hg.status_lt
  intro hm
  rcases mayTouchData_iff.mp hm with hs | ⟨c', hc', h' | hp⟩
  · have := statusOff_lt fs
    have := hq.1
    omega
  · refine inCluster_disjoint fs hc2 (hc'.inTab hrepf).1 (fun e => ?_) hq h'
    exact hc'.elim (fun h => hcf (e ▸ h)) fun h => hnf (e ▸ h.2.2)
  · have := hg.fatEntry_in_fat (hc'.inTab hrepf).2 hp
    have := hq.1
    omega

/-- a step on `f` leaves a represented file `g` with a disjoint chain and no cluster under `S` exactly as it was: same
    chain, same abstraction, still represented; and the chains stay disjoint -/
theorem Frame.other_file {S : Nat → Prop} {f f' g : FileH} {d d' : Dev} (hfr : Frame S f d f' d')
    (hg : Geo d.fs d.img.size) (hrepf : FileRep d.fs d.img f) (hrepg : FileRep d.fs d.img g)
    (hap : ∀ c ∈ fileChain d.fs d.img f, c ∉ fileChain d.fs d.img g)
    (hS : ∀ q, S q → ∀ c ∈ fileChain d.fs d.img g, ¬ InCluster d.fs c q) :
    FileRep d'.fs d'.img g ∧ CoreEq (absFile d'.fs d'.img g) (absFile d.fs d.img g) ∧
    fileChain d'.fs d'.img g = fileChain d.fs d.img g ∧
    (∀ c ∈ fileChain d'.fs d'.img f', c ∉ fileChain d'.fs d'.img g) := by
  have hnotf : ∀ c ∈ fileChain d.fs d.img g, c ∉ fileChain d.fs d.img f := fun c hc hcf => hap c hcf hc
  have hlive : ∀ c ∈ fileChain d.fs d.img g, tabView d.fs d.img c ≠ .free := hrepg.inv.live
  obtain ⟨hrep', hcore, hch⟩ := hrepg.of_sem_agree hfr.step.geom
    (fun c hc => hfr.view c (hnotf c hc) (hlive c hc))
    (fun c hc j hj => by
      apply Classical.byContradiction
      intro hne
      have hin : InCluster d.fs c (clusterOff d.fs c + j) := ⟨Nat.le_add_right _ _, by omega⟩
      rcases hfr.diff _ hne with hm | hs
      · exact not_mayTouchData_of_cluster hg hrepf (hrepg.inTab c hc).1 (hnotf c hc) (hlive c hc) hin hm
      · exact hS _ hs c hc hin)
  refine ⟨hrep', hcore, hch, ?_⟩
  intro c hc hcg
  rw [hch] at hcg
  rcases hfr.chain c hc with h | h
  · exact hap c h hcg
  · exact hlive c hcg h

/-- … and the slot of `g` keeps its relation to `g`, provided it is not a position the step may write -/
theorem Frame.other_entry {S : Nat → Prop} {f f' g : FileH} {d d' : Dev} {eg : DirEntryEditor}
    (hfr : Frame S f d f' d') (heg : EntryRep d.fs d.img g eg)
    (hch : fileChain d'.fs d'.img g = fileChain d.fs d.img g)
    (hslot : ∀ q, eg.pos ≤ q → q < eg.pos + 32 → ¬ MayTouchData d.fs d.img f q ∧ ¬ S q) :
    EntryRep d'.fs d'.img g eg := by
  have hgeo := hfr.step.geom
  refine ⟨heg.entry, heg.wf, heg.notLfn, by rw [hfr.step.size]; exact heg.inDev, by rw [hgeo.fatSlice]; exact heg.offFat,
    ?_, by rw [hgeo.fatType]; exact heg.first, ?_⟩
  · intro c hc
    rw [hch] at hc
    rw [hgeo.clusterOff, hgeo.clusterSize]
    exact heg.offData c hc
  · refine heg.sync_of_slot fun q h1 h2 => Classical.byContradiction fun hne => ?_
    obtain ⟨a1, a2⟩ := hslot q h1 h2
    exact (hfr.diff _ hne).elim a1 a2

/-- what another handle may write after a step on `f`: what it might before, or what `f` might -/
theorem Frame.mayTouch_other {S : Nat → Prop} {f f' g : FileH} {d d' : Dev} (hfr : Frame S f d f' d')
    (hchg : fileChain d'.fs d'.img g = fileChain d.fs d.img g) {q : Nat} (h : MayTouchData d'.fs d'.img g q) :
    MayTouchData d.fs d.img g q ∨ MayTouchData d.fs d.img f q :=
  mayTouchData_of_own hfr.step.geom (fun _ hc => hc.elim (fun h1 => Or.inl (Or.inl (hchg ▸ h1))) fun h1 =>
    (h1.of_view hfr.step.geom hfr.view).elim (fun h2 => Or.inr (Or.inl h2)) fun h2 => Or.inl (Or.inr h2)) h

/-- the slot at `pos` -/
def Slot (pos q : Nat) : Prop := pos ≤ q ∧ q < pos + 32

/-- **`flush` as a step**: `flush_sim`, with what other objects see of it: nothing but the slot changes -/
theorem flush_frame (g : FileH) (eg : DirEntryEditor) (d : Dev) (h : SimInv g d) (he : EntryRep d.fs d.img g eg) :
    ∃ d', run g.flush d = (.ok { g with entry := some { eg with dirty := false } }, d') ∧ d'.fs = d.fs ∧
      Frame (Slot eg.pos) g d { g with entry := some { eg with dirty := false } } d' ∧
      tabView d'.fs d'.img = tabView d.fs d.img ∧
      SimInv { g with entry := some { eg with dirty := false } } d' ∧
      EntryRep d'.fs d'.img { g with entry := some { eg with dirty := false } } { eg with dirty := false } ∧
      CoreEq (absFile d'.fs d'.img { g with entry := some { eg with dirty := false } }) (absFile d.fs d.img g) := by
  obtain ⟨d', hr, hst, hfs, hout, _, _, _, hsim, hent, hcore⟩ := flush_sim g eg d h he
  have hfat : FatAgree d.fs d.img d'.img := fun q h1 h2 =>
    hout q (by rcases he.offFat with h | h <;> omega)
  have htv : tabView d'.fs d'.img = tabView d.fs d.img := by rw [hfs]; exact tabView_congr h.geo hfat
  have hch : fileChain d'.fs d'.img { g with entry := some { eg with dirty := false } } = fileChain d.fs d.img g :=
    hcore.chain
  exact ⟨d', hr, hfs, ⟨hst, fun x _ _ => by rw [htv], fun x hx => Or.inl (hch ▸ hx),
    fun q hne => Or.inr (Classical.byContradiction fun hn => hne (hout q hn))⟩, htv, hsim, hent, hcore⟩

/-- the clusters `f` owns or may take only shrink along a history -/
theorem ownOrFree_mono {f f' : FileH} {d d' : Dev} (hsum : OpSummary f d f' d')
    (hrepf' : FileRep d'.fs d'.img f') {c : Nat} (hc : OwnOrFree d'.fs d'.img f' c) : OwnOrFree d.fs d.img f c := by
  have hgeo := hsum.step.geom
  rcases hc with hc | hc
  · rcases hsum.chain c hc with h | h
    · exact Or.inl h
    · obtain ⟨a, b⟩ := hrepf'.inTab c hc
      rw [hgeo.totalClusters] at b
      exact Or.inr ⟨a, b, h⟩
  · exact hc.of_view hgeo hsum.view

/-- positions `f` may write only shrink along a history -/
theorem mayTouchData_mono {f f' : FileH} {d d' : Dev} (hsum : OpSummary f d f' d')
    (hrepf' : FileRep d'.fs d'.img f') {q : Nat} (h : MayTouchData d'.fs d'.img f' q) :
    MayTouchData d.fs d.img f q :=
  (mayTouchData_of_own (g := f) hsum.step.geom (fun _ hc => Or.inl (ownOrFree_mono hsum hrepf' hc)) h).elim id id

/-- two consecutive operations on the same handle: what the second may touch, the first might have touched already -/
theorem OpSummary.trans {f f1 f2 : FileH} {d d1 d2 : Dev} (h1 : OpSummary f d f1 d1) (h2 : OpSummary f1 d1 f2 d2)
    (hrep1 : FileRep d1.fs d1.img f1) : OpSummary f d f2 d2 := by
  have hnot : ∀ x, x ∉ fileChain d.fs d.img f → tabView d.fs d.img x ≠ .free → x ∉ fileChain d1.fs d1.img f1 :=
    fun x hx hfree hc => by
      rcases h1.chain x hc with h | h
      · exact hx h
      · exact hfree h
  refine ⟨h1.step.trans h2.step, ?_, ?_, ?_⟩
  · intro x hx hfree
    have e1 := h1.view x hx hfree
    rw [h2.view x (hnot x hx hfree) (by rw [e1]; exact hfree), e1]
  · intro x hx
    rcases h2.chain x hx with h | h
    · exact h1.chain x h
    · by_cases hc : x ∈ fileChain d.fs d.img f
      · exact Or.inl hc
      · by_cases hfree : tabView d.fs d.img x = .free
        · exact Or.inr hfree
        · rw [h1.view x hc hfree] at h
          exact absurd h hfree
  · exact h1.trace.trans ((h2.trace.mono (fun c hc => ownOrFree_mono h1 hrep1 hc)
      (fun c hc => ownOrFree_mono h1 hrep1 hc)).frame h1.step.geom.symm)

/-- **from single calls to every operation of a history**: a relation between (handle, device) pairs that holds for
    the single calls `read` / `seek` / `write` / `truncate` and is reflexive and transitive along states satisfying
    `SimInv` also holds for the loops `read_exact` / `write_all` -/
theorem execH_lift (R : FileH → Dev → FileH → Dev → Prop) (hrefl : ∀ f d, R f d f d)
    (htrans : ∀ {f d f1 d1 f2 d2}, SimInv f d → SimInv f1 d1 → R f d f1 d1 → R f1 d1 f2 d2 → R f d f2 d2)
    (hprim : ∀ (op : HOp), op.isPrim → ∀ f d, SimInv f d → op.BytesOk → R f d (execH op f d).2.1 (execH op f d).2.2)
    (op : HOp) (f : FileH) (d : Dev) (h : SimInv f d) (hok : op.BytesOk) :
    R f d (execH op f d).2.1 (execH op f d).2.2 := by
  have hrd : ∀ (fuel : Nat) (h : FileH) (d : Dev) (need : Nat) (acc : List Nat), SimInv h d →
      R h d (readxH fuel h d need acc).2.1 (readxH fuel h d need acc).2.2 := by
    intro fuel
    induction fuel with
    | zero => intro h d _ _ _; exact hrefl h d
    | succ fuel ih =>
      intro h d need acc hinv
      by_cases hn : need = 0
      · simp only [readxH, hn, if_true]
        exact hrefl h d
      · have hb : (HOp.read need).BytesOk := fun bs e => by rcases e with e | e <;> cases e
        have hr := hprim (.read need) True.intro h d hinv hb
        have hstep := (execH_refines_prim (.read need) True.intro h d hinv hb).1
        rw [readxH]
        simp only [hn, if_false]
        simp only [execH] at hr hstep
        generalize run (h.read need) d = r at hr hstep ⊢
        obtain ⟨(e | ⟨bs, h'⟩), d'⟩ := r
        · exact hr
        · simp only at hr hstep ⊢
          by_cases hl : bs.length = 0
          · simp only [hl, if_true]; exact hr
          · simp only [hl, if_false]
            exact htrans hinv hstep hr (ih h' d' (need - bs.length) (acc ++ bs) hstep)
  have hwr : ∀ (fuel : Nat) (h : FileH) (d : Dev) (bs : List Nat), SimInv h d → (∀ x ∈ bs, x < 256) →
      R h d (writeallH fuel h d bs).2.1 (writeallH fuel h d bs).2.2 := by
    intro fuel
    induction fuel with
    | zero => intro h d _ _ _; exact hrefl h d
    | succ fuel ih =>
      intro h d bs hinv hbytes
      by_cases hn : bs.length = 0
      · simp only [writeallH, hn, if_true]
        exact hrefl h d
      · have hb : (HOp.write bs).BytesOk := fun bs' e => by rcases e with e | e <;> cases e; exact hbytes
        have hr := hprim (.write bs) True.intro h d hinv hb
        have hstep := (execH_refines_prim (.write bs) True.intro h d hinv hb).1
        rw [writeallH]
        simp only [hn, if_false]
        simp only [execH] at hr hstep
        generalize run (h.write bs) d = r at hr hstep ⊢
        obtain ⟨(e | ⟨k, h'⟩), d'⟩ := r
        · exact hr
        · simp only at hr hstep ⊢
          by_cases hk : k = 0
          · simp only [hk, if_true]; exact hr
          · simp only [hk, if_false]
            exact htrans hinv hstep hr (ih h' d' (bs.drop k) hstep (fun x hx => hbytes x (List.mem_of_mem_drop hx)))
  cases op with
  | read n => exact hprim (.read n) True.intro f d h hok
  | seek p => exact hprim (.seek p) True.intro f d h hok
  | write bs => exact hprim (.write bs) True.intro f d h hok
  | truncate => exact hprim .truncate True.intro f d h hok
  | readExact n => exact hrd (n + 1) f d n [] h
  | writeAll bs => exact hwr (bs.length + 1) f d bs h (hok bs (Or.inr rfl))

/-- every operation of a history on `f` (single call or loop): device step, which FAT entries keep their decoded value,
    where the new chain comes from, where the image may differ -/
theorem execH_summary (op : HOp) (f : FileH) (d : Dev) (h : SimInv f d) (hok : op.BytesOk) :
    OpSummary f d (execH op f d).2.1 (execH op f d).2.2 :=
  execH_lift (fun f d f' d' => OpSummary f d f' d') OpSummary.refl
    (fun _ h1 r1 r2 => r1.trans r2 h1.rep) execH_summary_prim op f d h hok

end FatVerif.FileSim
