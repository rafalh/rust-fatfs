import FatVerif.Proofs.FatImgRead
/-! The read-only table programs over a `DiskSlice` (`get`, `find_free`, `count_free`) compute the pure byte-level
    functions of `Model/FatAlgo.lean` on the window's bytes. -/
namespace FatVerif
open FatVerif.Fat

/-- a seek into the window does not fail -/
theorem slice_seek_err {s0 s : DiskSlice} (hs : SliceInv s0 s) (d : Dev) (n : Nat) (e : Err) (d1 : Dev)
    (hn : n ≤ s0.size) (h1 : run (DiskSlice.strm.seek s (.start n)) d = (.error e, d1)) : False := by
  rw [FileSim.run_slice_seekStart s n d (by rw [hs.size]; exact hn)] at h1; cases h1

/-- `r` is an error only where the pure function's result `x` is one, and `NotEnoughSpace` only for `NotEnoughSpace`:
    what the scans add, on a fault-free device, to "success is the pure function's success". With it the run is
    determined by `x` whenever `x` is a success or `NotEnoughSpace` (`ErrOnly.run_eq`), which is how the forward
    evaluation of a scan follows from its `_img` theorem without a second walk. -/
def ErrOnly {α β} (r : Except Err α) (x : Except Err β) : Prop :=
  ∀ e, r = .error e → ∃ e', x = .error e' ∧ (e' = .noSpace → e = .noSpace)

theorem ErrOnly.ok {α β} (a : α) (x : Except Err β) : ErrOnly (.ok a) x := fun _ h => by cases h

theorem ErrOnly.eof {α β} (e : Err) : ErrOnly (.error e : Except Err α) (.error .eof : Except Err β) :=
  fun _ _ => ⟨_, rfl, fun h => by cases h⟩

theorem ErrOnly.noSpace {α β} : ErrOnly (.error .noSpace : Except Err α) (.error .noSpace : Except Err β) :=
  fun _ h => ⟨_, rfl, fun _ => by cases h; rfl⟩

/-- a scan whose success is the pure function's and which errs only where that one does -/
theorem ErrOnly.run_eq {σ : Type} {P : σ → Prop} {r : Except Err (Nat × σ)} {x : Except Err Nat}
    (hok : ∀ v s', r = .ok (v, s') → x = .ok v ∧ P s') (herr : ErrOnly r x) :
    (∀ v, x = .ok v → ∃ s', r = .ok (v, s') ∧ P s') ∧ (x = .error .noSpace → r = .error .noSpace) := by
  constructor
  · intro v hx
    cases r with
    | ok a =>
      obtain ⟨h1, h2⟩ := hok a.1 a.2 rfl
      rw [hx] at h1; cases h1
      exact ⟨a.2, rfl, h2⟩
    | error e => obtain ⟨e', h1, _⟩ := herr e rfl; rw [hx] at h1; cases h1
  · intro hx
    cases r with
    | ok a => rw [(hok a.1 a.2 rfl).1] at hx; cases hx
    | error e =>
      obtain ⟨e', h1, h2⟩ := herr e rfl
      rw [hx] at h1; cases h1
      rw [h2 rfl]

/-! ### a scan against the pure scan

The five scanning loops of `table.rs` and the pure loops of `FatAlgo` are built from the same three steps: return a
value, give up with `NotEnoughSpace`, read the next few bytes and go on (`if size < pos + w then eof else …` on the
pure side). `Scanned` is the relation between the two outcomes that all of them keep, with one rule per step; each loop
is then an induction whose step applies the rules along the loop's body. -/

/-- outcome `r` of a scanning program run from `d` to `d'` against the result `x` of the pure scan: success and
    `NotEnoughSpace` are those of `x`; on a fault-free device the whole store is kept and, under `B` (the first seek stays
    inside the window), `r` errs only where `x` does -/
def Scanned (s0 : DiskSlice) (B : Prop) (d d' : Dev) (r : Except Err (Nat × DiskSlice)) (x : Except Err Nat) : Prop :=
  (∀ v s', r = .ok (v, s') → x = .ok v ∧ SliceInv s0 s') ∧ (r = .error .noSpace → x = .error .noSpace) ∧
  (d.failAt = none → SameStore d d' ∧ (B → ErrOnly r x))

/-- a scan in progress: the slice is a position in the window `s0`, which lies inside the well-formed image -/
structure ScanAt (s0 s : DiskSlice) (d : Dev) : Prop where
  inv : SliceInv s0 s
  wf : d.img.WF
  dev : s0.beginOff + s0.size ≤ d.img.size

theorem ScanAt.le {s0 s : DiskSlice} {d : Dev} (h : ScanAt s0 s d) : s.offset ≤ s0.size := by
  rw [← h.inv.size]; exact h.inv.le

/-- `p` reads the `w` bytes at the slice's position as the number `v`: it does not end with `NotEnoughSpace`; a success
    returns `v`, the slice `w` bytes on, every byte as it was; on a fault-free device it keeps the store and fails only
    when the `w` bytes do not lie inside the window -/
def SliceReads (s0 s : DiskSlice) (d : Dev) (w v : Nat) (p : Prog (Nat × DiskSlice)) : Prop :=
  ∀ r d', run p d = (r, d') → r ≠ .error .noSpace ∧
    (∀ v' s', r = .ok (v', s') → s.offset + w ≤ s0.size ∧ v' = v ∧ s'.offset = s.offset + w ∧ ScanAt s0 s' d' ∧
      fatBytes s0.beginOff s0.size d'.img = fatBytes s0.beginOff s0.size d.img) ∧
    (d.failAt = none → SameStore d d' ∧ ∀ e, r = .error e → s0.size < s.offset + w)

section window
variable {s0 : DiskSlice}
local notation "F[" d "]" => fatBytes s0.beginOff s0.size (Dev.img d)

theorem Scanned.pure {B : Prop} {v : Nat} {s : DiskSlice} {d : Dev} {r d'} (hr : run (Prog.pure (v, s)) d = (r, d'))
    (hs : SliceInv s0 s) : Scanned s0 B d d' r (.ok v) := by
  cases hr
  exact ⟨fun _ _ h => (by cases h; exact ⟨rfl, hs⟩), fun h => (by cases h), fun _ => ⟨.refl d, fun _ => ErrOnly.ok _ _⟩⟩

theorem Scanned.fail {B : Prop} {d : Dev} {r d'} (hr : run (Prog.fail (α := Nat × DiskSlice) .noSpace) d = (r, d')) :
    Scanned s0 B d d' r (.error .noSpace) := by
  cases hr
  exact ⟨fun _ _ h => (by cases h), fun _ => rfl, fun _ => ⟨.refl d, fun _ => ErrOnly.noSpace⟩⟩

/-- `seek(Start n)` and go on -/
theorem Scanned.seek {s : DiskSlice} {d : Dev} (hs : ScanAt s0 s d) {n : Nat}
    {k : Nat × DiskSlice → Prog (Nat × DiskSlice)} {r d' x}
    (hr : run (Prog.bind (DiskSlice.strm.seek s (.start n)) k) d = (r, d'))
    (hk : ∀ t, n ≤ s0.size → ScanAt s0 { s with offset := n } d → run (k (t, { s with offset := n })) d = (r, d') →
      Scanned s0 True d d' r x) : Scanned s0 (n ≤ s0.size) d d' r x := by
  rcases run_bind_cases hr with ⟨⟨t, s1⟩, d1, h1, h2⟩ | ⟨e, h1, rfl⟩
  · obtain ⟨rfl, rfl, hn, hi⟩ := slice_seek_at hs.inv n d h1
    have := hk t hn ⟨hi, hs.wf, hs.dev⟩ h2
    exact ⟨this.1, this.2.1, fun hfa => ⟨(this.2.2 hfa).1, fun _ => (this.2.2 hfa).2 trivial⟩⟩
  · exact ⟨fun _ _ h => (by cases h), fun h => absurd h ((DiskSlice.strm_reads.seek _ _).ne_noSpace h1),
      fun hfa => ⟨(DiskSlice.strm_reads.seek _ _).sameStore d hfa h1, fun hn => (slice_seek_err hs.inv d n e d' hn h1).elim⟩⟩

/-- from the two lemmas about a reader: what a success returns, and that it succeeds when the bytes are there -/
theorem SliceReads.of {s : DiskSlice} {d : Dev} (hs : ScanAt s0 s d) {w v : Nat} {p : Prog (Nat × DiskSlice)}
    (hp : ReadOps (· ≠ .noSpace) p)
    (hok : ∀ {v' s' d'}, run p d = (.ok (v', s'), d') → s.offset + w ≤ s0.size ∧ v' = v ∧
      s' = { s with offset := s.offset + w } ∧ SliceInv s0 s' ∧ SameBytes d d')
    (hrun : d.failAt = none → s.offset + w ≤ s.size → s.beginOff + s.size ≤ d.img.size →
      ∃ x d', run p d = (.ok x, d')) : SliceReads s0 s d w v p := by
  intro r d' hr
  refine ⟨hp.ne_noSpace hr, fun v' s' h => ?_,
    fun hfa => ⟨hp.sameStore d hfa hr, fun e he => Classical.byContradiction fun hfit => ?_⟩⟩
  · subst h
    obtain ⟨a, b, c, e, f⟩ := hok hr
    exact ⟨a, b, by rw [c], ⟨e, f.2.2.1, by rw [f.2.2.2]; exact hs.dev⟩, f.bytes _ _⟩
  · obtain ⟨x, d1, h1⟩ := hrun hfa (by rw [hs.inv.size]; omega) (by rw [hs.inv.beginOff, hs.inv.size]; exact hs.dev)
    rw [h1, he] at hr; cases hr

theorem readU8_sliceReads {s : DiskSlice} {d : Dev} (hs : ScanAt s0 s d) :
    SliceReads s0 s d 1 (rd F[d] s.offset) (readU8 DiskSlice.strm s) :=
  .of hs (readU8_reads DiskSlice.strm_reads s) (slice_readU8_at hs.inv d hs.wf hs.dev) fun a b c =>
    have ⟨d', h, _⟩ := FileSim.run_slice_readU8 s d a b c
    ⟨_, d', h⟩

theorem readU16_sliceReads {s : DiskSlice} {d : Dev} (hs : ScanAt s0 s d) :
    SliceReads s0 s d 2 (rd16 F[d] s.offset) (readU16 DiskSlice.strm s) :=
  .of hs (readU16_reads DiskSlice.strm_reads s) (slice_readU16_at hs.inv d hs.wf hs.dev) fun a b c =>
    have ⟨d', h, _⟩ := FileSim.run_slice_readU16 s d a b c
    ⟨_, d', h⟩

theorem readU32_sliceReads {s : DiskSlice} {d : Dev} (hs : ScanAt s0 s d) :
    SliceReads s0 s d 4 (rd32 F[d] s.offset) (readU32 DiskSlice.strm s) :=
  .of hs (readU32_reads DiskSlice.strm_reads s) (slice_readU32_at hs.inv d hs.wf hs.dev) fun a b c =>
    have ⟨d', h, _⟩ := FileSim.run_slice_readU32 s d a b c
    ⟨_, d', h⟩

/-- what the FAT16 / FAT32 loops read for entry `c`, the slice standing at its offset -/
theorem scanRead_sliceReads {ft : FatType} (hft : ft ≠ .fat12) {s : DiskSlice} {d : Dev} (hs : ScanAt s0 s d) {c : Nat}
    (hoff : s.offset = c * scanW ft) :
    SliceReads s0 s d (scanW ft) (scanVal ft F[d] c) (if ft = FatType.fat16 then readU16 DiskSlice.strm s else do
      let (r, s) ← readU32 DiskSlice.strm s
      pure (r % 0x10000000, s)) := by
  unfold scanW scanVal at *
  by_cases h16 : ft = .fat16
  · simp only [h16, if_true] at hoff ⊢
    rw [← hoff]; exact readU16_sliceReads hs
  · simp only [h16, hft, if_false] at hoff ⊢
    rw [← hoff]
    refine .of hs (.bind _ _ (readU32_reads DiskSlice.strm_reads s) fun _ => .pure _) (fun hr => ?_) fun a b c => ?_
    · obtain ⟨⟨raw, s2⟩, d2, h3, h4⟩ := run_bind_ok_inv hr
      obtain ⟨a, b, cs, e, f⟩ := slice_readU32_at hs.inv d hs.wf hs.dev h3
      obtain ⟨h5, rfl⟩ := run_pure_ok_inv h4
      cases h5
      exact ⟨a, by rw [b], cs, e, f⟩
    · obtain ⟨d1, h1, _⟩ := FileSim.run_slice_readU32 s d a b c
      exact ⟨_, d1, by rw [run_bind_ok h1]; rfl⟩

/-- read and go on -/
theorem SliceReads.bind {s : DiskSlice} {d : Dev} {w v : Nat} {p : Prog (Nat × DiskSlice)} (hp : SliceReads s0 s d w v p)
    {k : Nat × DiskSlice → Prog (Nat × DiskSlice)} {r d' x} (hr : run (Prog.bind p k) d = (r, d'))
    (hk : ∀ s1 d1, ScanAt s0 s1 d1 → s1.offset = s.offset + w → F[d1] = F[d] → run (k (v, s1)) d1 = (r, d') →
      Scanned s0 True d1 d' r x) :
    Scanned s0 True d d' r (if s0.size < s.offset + w then .error .eof else x) := by
  rcases run_bind_cases hr with ⟨⟨v', s1⟩, d1, h1, h2⟩ | ⟨e, h1, rfl⟩
  · obtain ⟨_, hok, hst⟩ := hp _ _ h1
    obtain ⟨a, rfl, cs, hat, hb⟩ := hok _ _ rfl
    rw [if_neg (by omega)]
    have := hk s1 d1 hat cs hb h2
    exact ⟨this.1, this.2.1, fun hfa =>
      have s1 := (hst hfa).1
      have := this.2.2 (s1.failAt.trans hfa)
      ⟨s1.trans this.1, this.2⟩⟩
  · obtain ⟨hne, _, herr⟩ := hp _ _ h1
    refine ⟨fun _ _ h => (by cases h), fun h => absurd h hne, fun hfa => ⟨(herr hfa).1, fun _ => ?_⟩⟩
    rw [if_pos ((herr hfa).2 e rfl)]
    exact ErrOnly.eof e

/-- read and return -/
theorem SliceReads.ret {s : DiskSlice} {d : Dev} {w v : Nat} {p : Prog (Nat × DiskSlice)} (hp : SliceReads s0 s d w v p)
    {r d'} (hr : run p d = (r, d')) :
    Scanned s0 True d d' r (if s0.size < s.offset + w then .error .eof else .ok v) :=
  hp.bind (k := Prog.pure) (by simp only [run, hr]; cases r <;> rfl) fun _ _ hs1 _ _ h => .pure h hs1.inv

/-! ### get_raw / get -/

theorem getRaw_img (ft : FatType) {s : DiskSlice} (hs : SliceInv s0 s) (c : Nat) (d : Dev) (hw : d.img.WF)
    (hdev : s0.beginOff + s0.size ≤ d.img.size) (hZ : s0.size < u32Lim) {v : Nat} {s' : DiskSlice} {d' : Dev}
    (hr : run (Table.getRaw DiskSlice.strm ft s c) d = (.ok (v, s'), d')) :
    Fat.getRaw ft F[d] c = .ok v ∧ SliceInv s0 s' ∧ SameBytes d d' := by
  have hsame := quiet_sameBytes (Table.getRaw_quiet DiskSlice.strm DiskSlice.strm_quiet ft s c) hw hr
  suffices h : Scanned s0 (off ft c ≤ s0.size) d d' (.ok (v, s')) (Fat.getRaw ft F[d] c) from
    ⟨(h.1 v s' rfl).1, (h.1 v s' rfl).2, hsame⟩
  have hat : ScanAt s0 s d := ⟨hs, hw, hdev⟩
  unfold Table.getRaw at hr
  cases ft with
  | fat12 =>
    refine Scanned.seek hat hr fun t (hn : c + c / 2 ≤ s0.size) hs1 h2 => ?_
    simp only [Fat.getRaw, getRaw12, fatBytes_size]
    rw [if_neg (by omega)]
    exact (readU16_sliceReads hs1).bind h2 fun s2 d2 hs2 _ _ h4 => .pure h4 hs2.inv
  | fat16 =>
    refine Scanned.seek hat hr fun t (hn : c * 2 ≤ s0.size) hs1 h2 => ?_
    simp only [Fat.getRaw, getRaw16, fatBytes_size]
    rw [if_neg (by omega)]
    exact (readU16_sliceReads hs1).ret h2
  | fat32 =>
    refine Scanned.seek hat hr fun t (hn : c * 4 ≤ s0.size) hs1 h2 => ?_
    simp only [Fat.getRaw, getRaw32, fatBytes_size]
    rw [if_neg (by omega)]
    exact (readU32_sliceReads hs1).ret h2

/-- **`Table.get` at image level**: a successful read of entry `c` returns `Fat.get` of the window's bytes, i.e. the
    decoded entry `view c` (= `imgFatView … c`), and changes no byte and no mounted state -/
theorem get_img (ft : FatType) {s : DiskSlice} (hs : SliceInv s0 s) (c : Nat) (d : Dev) (hw : d.img.WF)
    (hdev : s0.beginOff + s0.size ≤ d.img.size) (hZ : s0.size < u32Lim) {v : FatValue} {s' : DiskSlice} {d' : Dev}
    (hr : run (Table.get DiskSlice.strm ft s c) d = (.ok (v, s'), d')) :
    Fat.get ft F[d] c = .ok v ∧ view ft F[d] c = v ∧ SliceInv s0 s' ∧ SameBytes d d' := by
  unfold Table.get at hr
  obtain ⟨⟨raw, s1⟩, d1, h1, h2⟩ := run_bind_ok_inv hr
  obtain ⟨a, b, c'⟩ := getRaw_img ft hs c d hw hdev hZ h1
  obtain ⟨h3, rfl⟩ := run_pure_ok_inv h2
  cases h3
  have hg : Fat.get ft F[d] c = .ok (Table.classify ft c raw) := by
    unfold Fat.get; rw [a, tableClassify_eq]
  exact ⟨hg, by unfold view; rw [hg], b, c'⟩

/-! ### count_free -/

theorem countFreeLoop_img {ft : FatType} (hft : ft ≠ .fat12) : ∀ (fuel : Nat) (s : DiskSlice) (c endC count : Nat)
    (d : Dev) (r : Except Err (Nat × DiskSlice)) (d' : Dev), ScanAt s0 s d → s.offset = c * scanW ft → endC - c < fuel →
    run (Table.countFreeLoop DiskSlice.strm ft fuel s c endC count) d = (r, d') →
    Scanned s0 True d d' r (countFreeLoopW (scanW ft) (scanVal ft F[d]) s0.size (endC - c) c count) := by
  intro fuel
  induction fuel with
  | zero => intros; omega
  | succ k ih =>
    intro s c endC count d r d' hs hoff hf hr
    unfold Table.countFreeLoop at hr
    split at hr
    · obtain ⟨m, hm⟩ : ∃ m, endC - c = m + 1 := ⟨endC - c - 1, by omega⟩
      rw [hm, countFreeLoopW, ← hoff]
      refine (scanRead_sliceReads hft hs hoff).bind hr fun s1 d1 hs1 ho hb h2 => ?_
      have := ih s1 (c + 1) endC _ d1 r d' hs1 (by rw [ho, hoff, Nat.succ_mul]) (by omega) h2
      rwa [hb, show endC - (c + 1) = m by omega] at this
    · rw [show endC - c = 0 by omega]
      exact .pure hr hs.inv

theorem or_eq_zero_iff' (a b : Nat) : a ||| b = 0 ↔ a = 0 ∧ b = 0 := by
  constructor
  · intro h
    constructor
    · apply Nat.eq_of_testBit_eq; intro i
      have := congrArg (fun x => Nat.testBit x i) h
      simp only [Nat.testBit_or, Nat.zero_testBit, Bool.or_eq_false_iff] at this
      simp [this.1]
    · apply Nat.eq_of_testBit_eq; intro i
      have := congrArg (fun x => Nat.testBit x i) h
      simp only [Nat.testBit_or, Nat.zero_testBit, Bool.or_eq_false_iff] at this
      simp [this.2]
  · rintro ⟨rfl, rfl⟩; rfl

theorem countFree12Loop_img : ∀ (fuel : Nat) (s : DiskSlice) (c endC prev count : Nat) (d : Dev)
    (r : Except Err (Nat × DiskSlice)) (d' : Dev), ScanAt s0 s d → endC - c < fuel →
    run (Table.countFree12Loop DiskSlice.strm fuel s c endC prev count) d = (r, d') →
    Scanned s0 True d d' r (countFreeLoop12 F[d] (endC - c) c s.offset prev count) := by
  intro fuel
  induction fuel with
  | zero => intros; omega
  | succ k ih =>
    intro s c endC prev count d r d' hs hf hr
    unfold Table.countFree12Loop at hr
    split at hr
    · obtain ⟨m, hm⟩ : ∃ m, endC - c = m + 1 := ⟨endC - c - 1, by omega⟩
      have hm' : endC - (c + 1) = m := by omega
      rw [hm]
      simp only [countFreeLoop12, fatBytes_size]
      by_cases hp : c % 2 = 0
      · rw [if_pos hp] at hr ⊢
        refine (readU16_sliceReads hs).bind hr fun s1 d1 hs1 ho hb h2 => ?_
        have := ih s1 (c + 1) endC _ _ d1 r d' hs1 (by omega) h2
        rw [hb, hm', ho] at this
        simpa only [if_pos hp] using this
      · rw [if_neg hp] at hr ⊢
        refine (readU8_sliceReads hs).bind hr fun s1 d1 hs1 ho hb h2 => ?_
        have := ih s1 (c + 1) endC _ _ d1 r d' hs1 (by omega) h2
        -- the byte is shifted by 8 in u16, but only whether the sum is zero matters
        have hz : (rd F[d] s.offset * 256 % 65536 ||| prev / 4096) = 0 ↔ rd F[d] s.offset * 256 + prev / 4096 = 0 := by
          have := wf_fatBytes s0.beginOff s0.size d.img s.offset
          rw [or_eq_zero_iff']; omega
        rw [hb, hm', ho] at this
        simpa only [if_neg hp, hz] using this
    · rw [show endC - c = 0 by omega]
      exact .pure hr hs.inv

/-- **`Table.countFree` at image level**: a successful `count_free_clusters` over the FAT slice returns what the pure
    byte-level `Fat.countFree` computes on the window's bytes; whatever the outcome, nothing is changed; on a fault-free
    device the whole store is kept and, entry 2 inside the window, the run errs only where `Fat.countFree` does -/
theorem countFree_img (ft : FatType) {s : DiskSlice} (hs : SliceInv s0 s) (total : Nat) (d : Dev) (hw : d.img.WF)
    (hdev : s0.beginOff + s0.size ≤ d.img.size) (htot : total + 2 < u32Lim) {r : Except Err (Nat × DiskSlice)}
    {d' : Dev} (hr : run (Table.countFree DiskSlice.strm ft s total) d = (r, d')) :
    (∀ n s', r = .ok (n, s') → Fat.countFree ft F[d] total = .ok n) ∧ SameBytes d d' ∧
    (d.failAt = none → SameStore d d' ∧ (off ft 2 ≤ s0.size → ErrOnly r (Fat.countFree ft F[d] total))) := by
  have hsame := quiet_sameBytes (Table.countFree_quiet DiskSlice.strm DiskSlice.strm_quiet ft s total) hw hr
  have hsz := fatBytes_size s0.beginOff s0.size d.img
  have hat : ScanAt s0 s d := ⟨hs, hw, hdev⟩
  suffices h : Scanned s0 (off ft 2 ≤ s0.size) d d' r (Fat.countFree ft F[d] total) from
    ⟨fun n s' e => (h.1 n s' e).1, hsame, h.2.2⟩
  unfold Fat.countFree
  rw [if_neg (by omega)]
  unfold Table.countFree at hr
  cases ft with
  | fat12 =>
    refine Scanned.seek hat hr fun t _ hs1 h2 => ?_
    exact countFree12Loop_img _ _ 2 (total + 2) 0 0 d r d' hs1 (by omega) h2
  | fat16 =>
    refine Scanned.seek hat hr fun t _ hs1 h2 => ?_
    simp only [countFreeLoop16_eq, hsz]
    simpa using countFreeLoop_img (ft := .fat16) (by decide) _ _ 2 (total + 2) 0 d r d' hs1 rfl (by omega) h2
  | fat32 =>
    refine Scanned.seek hat hr fun t _ hs1 h2 => ?_
    simp only [countFreeLoop32_eq, hsz]
    simpa using countFreeLoop_img (ft := .fat32) (by decide) _ _ 2 (total + 2) 0 d r d' hs1 rfl (by omega) h2

/-! ### find_free -/

theorem findFreeLoop_img {ft : FatType} (hft : ft ≠ .fat12) : ∀ (fuel : Nat) (s : DiskSlice) (c endC : Nat) (d : Dev)
    (r : Except Err (Nat × DiskSlice)) (d' : Dev), ScanAt s0 s d → s.offset = c * scanW ft → endC - c < fuel →
    run (Table.findFreeLoop DiskSlice.strm ft fuel s c endC) d = (r, d') →
    Scanned s0 True d d' r (findFreeLoopW (scanW ft) (scanVal ft F[d]) s0.size (endC - c) c) := by
  intro fuel
  induction fuel with
  | zero => intros; omega
  | succ k ih =>
    intro s c endC d r d' hs hoff hf hr
    unfold Table.findFreeLoop at hr
    split at hr
    · obtain ⟨m, hm⟩ : ∃ m, endC - c = m + 1 := ⟨endC - c - 1, by omega⟩
      rw [hm, findFreeLoopW, ← hoff]
      refine (scanRead_sliceReads hft hs hoff).bind hr fun s1 d1 hs1 ho hb h2 => ?_
      dsimp only at h2
      by_cases hv : scanVal ft F[d] c = 0
      · rw [if_pos hv] at h2 ⊢
        exact .pure h2 hs1.inv
      · rw [if_neg hv] at h2 ⊢
        have := ih s1 (c + 1) endC d1 r d' hs1 (by rw [ho, hoff, Nat.succ_mul]) (by omega) h2
        rwa [hb, show endC - (c + 1) = m by omega] at this
    · rw [show endC - c = 0 by omega]
      exact .fail hr

theorem or_shift8 (a b : Nat) (ha : a < 256) : a ||| b * 256 = a + 256 * b := by
  have := Nat.two_pow_add_eq_or_of_lt (i := 8) (b := a) (by simpa using ha) b
  rw [show (2:Nat) ^ 8 = 256 from rfl] at this
  rw [Nat.or_comm, Nat.mul_comm b 256, ← this]; omega

/-- `k` bounds the bytes left in the window, which is what the pure loop recurses on -/
theorem findFree12Loop_img : ∀ (fuel : Nat) (s : DiskSlice) (c endC packed : Nat) (d : Dev)
    (r : Except Err (Nat × DiskSlice)) (d' : Dev) (k : Nat), ScanAt s0 s d → packed < 65536 →
    s0.size - s.offset + 1 ≤ k → c < endC → endC - c ≤ fuel →
    run (Table.findFree12Loop DiskSlice.strm fuel s c endC packed) d = (r, d') →
    Scanned s0 True d d' r (findFreeLoop12 F[d] endC k c packed s.offset) := by
  intro fuel
  induction fuel with
  | zero => intros; omega
  | succ fu ih =>
    intro s c endC packed d r d' k hs hp hk hc hf hr
    obtain ⟨k, rfl⟩ : ∃ k', k = k' + 1 := ⟨k - 1, by omega⟩
    unfold Table.findFree12Loop at hr
    dsimp only at hr
    simp only [findFreeLoop12, val12, fatBytes_size]
    by_cases hv : (if c % 2 = 0 then packed % 4096 else packed / 16) = 0
    · rw [if_pos hv] at hr ⊢
      exact .pure hr hs.inv
    · rw [if_neg hv] at hr ⊢
      by_cases hend : c + 1 = endC
      · rw [if_pos hend] at hr ⊢
        exact .fail hr
      · rw [if_neg hend] at hr ⊢
        by_cases hpar : (c + 1) % 2 = 0
        · rw [if_pos hpar] at hr ⊢
          refine (readU16_sliceReads hs).bind hr fun s1 d1 hs1 ho hb h2 => ?_
          have := ih s1 (c + 1) endC _ d1 r d' k hs1 (rd16_lt _ (wf_fatBytes _ _ _) _) (by have := hs1.le; omega)
            (by omega) (by omega) h2
          rwa [hb, ho] at this
        · rw [if_neg hpar] at hr ⊢
          refine (readU8_sliceReads hs).bind hr fun s1 d1 hs1 ho hb h2 => ?_
          have hb8 := wf_fatBytes s0.beginOff s0.size d.img s.offset
          dsimp only at h2
          rw [or_shift8 _ _ (by omega)] at h2
          have := ih s1 (c + 1) endC _ d1 r d' k hs1 (by omega) (by have := hs1.le; omega) (by omega) (by omega) h2
          rwa [hb, ho] at this

/-- **`find_free_cluster` at image level**: success and `NotEnoughSpace` are those of the pure byte-level `Fat.findFree`
    on the window's bytes; on a fault-free device the whole store is kept and, the first entry inside the window, the run
    errs only where `Fat.findFree` does; no byte is changed, whatever the outcome -/
theorem findFree_img (ft : FatType) {s : DiskSlice} (hs : SliceInv s0 s) (start endC : Nat) (d : Dev) (hw : d.img.WF)
    (hdev : s0.beginOff + s0.size ≤ d.img.size) (hZ : off ft start ≤ s0.size → off ft start < u32Lim)
    {r : Except Err (Nat × DiskSlice)} {d' : Dev}
    (hr : run (Table.findFree DiskSlice.strm ft s start endC) d = (r, d')) :
    Scanned s0 (off ft start ≤ s0.size) d d' r (Fat.findFree ft F[d] start endC) ∧ SameBytes d d' := by
  refine ⟨?_, quiet_sameBytes (Table.findFree_quiet DiskSlice.strm DiskSlice.strm_quiet ft s start endC) hw hr⟩
  have hsz := fatBytes_size s0.beginOff s0.size d.img
  have hat : ScanAt s0 s d := ⟨hs, hw, hdev⟩
  unfold Table.findFree at hr
  cases ft with
  | fat12 =>
    dsimp only at hr
    simp only [Fat.findFree, findFree12, hsz]
    by_cases hge : start ≥ endC
    · rw [if_pos hge] at hr
      rw [if_pos (by omega)]
      exact .fail hr
    · rw [if_neg hge] at hr
      rw [if_neg (by omega)]
      refine Scanned.seek hat hr fun t hn hs1 h2 => ?_
      have hZ' : start + start / 2 < u32Lim := hZ hn
      rw [if_neg (by omega)]
      refine (readU16_sliceReads hs1).bind h2 fun s2 d2 hs2 ho hb h4 => ?_
      have := findFree12Loop_img _ s2 start endC _ d2 r d' (s0.size + 2) hs2 (rd16_lt _ (wf_fatBytes _ _ _) _)
        (by omega) (by omega) (by omega) h4
      rwa [hb, ho] at this
  | fat16 =>
    simp only [Fat.findFree, findFree16]
    refine Scanned.seek hat hr fun t hn hs1 h2 => ?_
    have hZ' : start * 2 < u32Lim := hZ hn
    rw [if_neg (by omega), findFreeLoop16_eq, hsz]
    exact findFreeLoop_img (ft := .fat16) (by decide) _ _ start endC d r d' hs1 rfl (by omega) h2
  | fat32 =>
    simp only [Fat.findFree, findFree32]
    refine Scanned.seek hat hr fun t hn hs1 h2 => ?_
    have hZ' : start * 4 < u32Lim := hZ hn
    rw [if_neg (by omega), findFreeLoop32_eq, hsz]
    exact findFreeLoop_img (ft := .fat32) (by decide) _ _ start endC d r d' hs1 rfl (by omega) h2

end window
end FatVerif
