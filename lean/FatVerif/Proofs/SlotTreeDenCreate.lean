import FatVerif.Proofs.SlotTreeDenW
/-!
# Slot trees on a device image: `create_file` and `create_dir` whose last directory is the fixed root

`createFile_root_final` / `createDir_root_final`: the last component in the root directory, on a device whose image
holds the slot tree (`ImgTreeW`), ends as `createS` says at the root — `InvalidInput` for a dot name or an entry of the
other kind, the existing entry, the error of `validate_long_name`, or the new entry — and in the last case the image
afterwards holds the new slot tree (`imgTreeW_root_step`; for a directory `imgTreeW_newDir`: the cluster `c` the
allocator finds is end-of-chain and holds `.`, `..` and zero slots, the cluster map is extended by `c`).
`C01img.create_file_img_partial` / `create_dir_img_partial` (Props/C01img.lean) extend them by `root_call` to paths of
any depth that lead back to the root.
-/
namespace FatVerif
namespace SlotTreeImg
open Lfn DirSlots DirAlias SlotTree DirSim FatVerif.FileSim FatVerif.Fat

/-! ## the programs -/

theorem createFile_unfold_step (env : Env) (f : Nat) (st : DirStream) (chars a r : List Char)
    (h : Names.splitPathL chars = (a, some r)) :
    createFile env (f + 1) st (String.ofList chars) =
      Prog.bind Prog.getFs fun fs =>
        Prog.bind (findEntry env st (String.ofList a) (some true)) fun e =>
          Prog.bind (e.toDir fs) fun sub => thenDrop sub (createFile env f sub (String.ofList r)) := by
  conv => lhs; unfold createFile
  rw [splitPath_ofList, h]
  rfl

theorem createDir_unfold_step (env : Env) (f : Nat) (st : DirStream) (chars a r : List Char)
    (h : Names.splitPathL chars = (a, some r)) :
    createDir env (f + 1) st (String.ofList chars) =
      Prog.bind Prog.getFs fun fs =>
        Prog.bind (findEntry env st (String.ofList a) (some true)) fun e =>
          Prog.bind (e.toDir fs) fun sub => thenDrop sub (createDir env f sub (String.ofList r)) := by
  conv => lhs; unfold createDir
  rw [splitPath_ofList, h]
  rfl

/-! ## `create_file(name)` through ANY writable directory, against the slot model on the slot list it holds -/

/-- the result of `check_for_existence` moved by `k` slots -/
def shiftR (k : Nat) : EntryOrAlias → EntryOrAlias
  | .entry e => .entry (shiftE k e)
  | .alias a => .alias a

/-- the slots `pre` that the image has in front of a directory's slot list (none in the root, the two dot slots in a
    sub-directory) do not show in the slot model for the name `name`: its functions on `pre ++ slots` are those on
    `slots`, moved by `pre.length` -/
structure Pre (up : Char → List Char) (name : String) (pre : List (List Nat)) : Prop where
  check : ∀ slots kd, checkForExistenceL up (pre ++ slots) name kd 70000 =
    (checkForExistenceL up slots name kd 70000).map (shiftR pre.length)
  findFree : ∀ slots n, DirSlots.findFree (pre ++ slots) n = DirSlots.findFree slots n + pre.length
  write : ∀ slots units sfn,
    DirSlots.writeEntry (pre ++ slots) units sfn = pre ++ DirSlots.writeEntry slots units sfn

theorem Pre.nil (up : Char → List Char) (name : String) : Pre up name [] := by
  refine ⟨fun slots kd => ?_, fun _ _ => rfl, fun _ _ _ => rfl⟩
  show checkForExistenceL up slots name kd 70000 = _
  cases checkForExistenceL up slots name kd 70000 with
  | error e => rfl
  | ok r => cases r <;> rfl

/-- **`create_file(name)` at slot level**: the view's slots are `pre`, the model's slot list `slots`, end markers; the
    program ends as the slot model says ON `slots`, and after the write the view holds `pre`, `write_entry` of the
    model on `slots`, end markers -/
theorem createFile_slots {d : Dev} {st : DirStream} {up : Char → List Char} (V : WView d st) (env : Env)
    (henv : env.upper = up) (halloc : d.fs.lfnAlloc = true) {pre slots tail : List (List Nat)} {name : String}
    (P : Pre up name pre) (hVs : V.slots d.img = pre ++ slots ++ tail) (htl : ∀ s ∈ tail, Lfn.isEnd s = true)
    (path : String) (hsp : Names.splitPath path = (name, none)) (hdot : isDotName name = false)
    (hroom : DirSlots.findFree slots (numParts (Names.encodeUtf16 name.toList).length + 1) +
      (numParts (Names.encodeUtf16 name.toList).length + 1) + pre.length ≤ V.N) (f : Nat) :
    match checkForExistenceL up slots name (some false) 70000 with
    | .error e => FailsV (createFile env (f + 1) st path) d e
    | .ok (.entry _) => ∃ h, Reads (createFile env (f + 1) st path) d h
    | .ok (.alias a) =>
      match Names.validateLongName name with
      | .error e => FailsV (createFile env (f + 1) st path) d e
      | .ok () =>
        ∃ (h : FileH) (d' : Dev) (tail' : List (List Nat)),
          run (createFile env (f + 1) st path) d = (.ok h, d') ∧ VolStep d d' ∧
          V.slots d'.img = pre ++ DirSlots.writeEntry slots (Names.encodeUtf16 name.toList)
            (sfnWith a (0 :: sfnStamp d.fs d.clock none)) ++ tail' ∧
          (∀ s ∈ tail', Lfn.isEnd s = true) ∧ FrameOutE V.N V.src V.Extra d d' := by
  subst henv
  have hdot' : (name = "." || name = "..") = false := by rw [isDotName_eq]; exact hdot
  have hchk : ∀ k, V.toDirView.check env name k =
      (checkForExistenceL env.upper slots name k 70000).map (shiftR pre.length) := by
    intro k
    show checkForExistenceL env.upper (V.slots d.img) name k 70000 = _
    rw [hVs, check_append_ends _ _ tail htl, P.check]
  -- the reading part of the program branches on the answer of `check_for_existence` as the slot model does
  have key := V.toDirView.createFile_head halloc env path name hsp f d (SameVol.refl d)
  rw [hdot', hchk] at key
  cases hc : checkForExistenceL env.upper slots name (some false) 70000 with
  | error e => rw [hc] at key; exact key
  | ok r =>
    rw [hc] at key
    cases r with
    | entry le => exact ⟨_, key⟩
    | alias a =>
      simp only
      cases hval : Names.validateLongName name with
      | error e => rw [hval] at key; exact key
      | ok u =>
        cases u
        simp only
        have hchkV : checkForExistenceL env.upper (V.slots d.img) name (some false) 70000 = .ok (.alias a) := by
          have := hchk (some false)
          rw [hc] at this
          exact this
        obtain ⟨d', e, hr, _, _, hs, _, _, (hslots' : V.slots d'.img = _), hfr, _⟩ := V.createFile_sim env path name hsp hdot'
          hval halloc a
          hchkV (by rw [hVs, findFree_append_ends _ tail htl, P.findFree]; omega) f
        have hfl := DirSlots.findFree_le slots (numParts (Names.encodeUtf16 name.toList).length + 1)
        obtain ⟨tail', htw, htl'⟩ := writeEntry_append_ends (pre ++ slots) tail htl (Names.encodeUtf16 name.toList)
          (sfnWith a (0 :: sfnStamp d.fs d.clock none)) (by rw [P.findFree, List.length_append]; omega)
        exact ⟨_, d', tail', hr, hs, by rw [hslots', hVs, sfnAt_serialize, htw, P.write], htl', hfr⟩

/-! ## the slot tree's verdict at the last directory -/

/-- what `createS` does once the walk has reached the directory at `p` -/
def crFinal (up : Char → List Char) (t : Node) (p : List String) (name : String) (w : Bool) (stamp : List Nat) : Res :=
  match getAtS up t p with
  | some (.dir slots _) =>
    if isDotName name && !w then fail t .invalidInput
    else if isDotName name && !p.isEmpty then done t
    else createFinal up 70000 t p slots name w stamp
  | _ => fail t .notFound

theorem createS_eq (up : Char → List Char) (t : Node) (cwd : List String) (path : String) (w : Bool)
    (stamp : List Nat) :
    createS up 70000 t cwd path w stamp =
      match walkDirsS up t cwd (pathParts path).1 with
      | .error e => fail t e
      | .ok p => crFinal up t p (pathParts path).2 w stamp := by
  unfold createS crFinal
  cases walkDirsS up t cwd (pathParts path).1 with
  | error e => rfl
  | ok p =>
    simp only
    cases getAtS up t p with
    | none => rfl
    | some n => cases n <;> rfl

/-- the directory node after `write_entry` of a new name under the alias `check_for_existence` chose -/
theorem create_dirOk {up : Char → List Char} {slots : List (List Nat)} {ch : List (LfnEntry × Node)}
    (hd : DirOk up slots ch) (name : String) (w : Bool) (stamp al : List Nat)
    (hal : checkForExistenceL up slots name (some w) 70000 = .ok (.alias al))
    (hval : Names.validateLongName name = .ok ()) :
    addEntry (Names.encodeUtf16 name.toList) (sfnWith al (newBody w stamp)) (freshNode w) (.dir slots ch) =
      .dir (DirSlots.writeEntry slots (Names.encodeUtf16 name.toList) (sfnWith al (newBody w stamp)))
        (ch ++ [(newEntry slots (Names.encodeUtf16 name.toList) (sfnWith al (newBody w stamp)), freshNode w)]) ∧
    DirOk up (DirSlots.writeEntry slots (Names.encodeUtf16 name.toList) (sfnWith al (newBody w stamp)))
      (ch ++ [(newEntry slots (Names.encodeUtf16 name.toList) (sfnWith al (newBody w stamp)), freshNode w)]) ∧
    (∀ e ∈ listing slots,
      e ∈ listing (DirSlots.writeEntry slots (Names.encodeUtf16 name.toList) (sfnWith al (newBody w stamp)))) ∧
    newEntry slots (Names.encodeUtf16 name.toList) (sfnWith al (newBody w stamp)) ∉ listing slots := by
  have hU := UnitsOk.of_valid hval
  obtain ⟨_, _, _, _, _, c5, _, _, _⟩ :=
    C16dir.dir_create_hyps up slots name (some w) 70000 al (if w then 16 else 0) stamp hval (newBody_attr w) hal
  obtain ⟨hd', hsub, _, hknew⟩ := addEntry_dirOk hd (Names.encodeUtf16 name.toList) (sfnWith al (newBody w stamp))
    (freshNode w)
    (C16dir.dir_create_wf up slots name (some w) 70000 al (if w then 16 else 0) stamp hd.wf hval (newBody_attr w) hal)
    hU c5 (by rw [isDir_newBody al w _ (C16dir.dir_alias_length _ _ _ _ _ _ hal), fresh_isDir])
  exact ⟨addEntry_dir hd.wf.shape _ _ _ ch hU c5, hd', hsub, hknew⟩

section final
variable {d : Dev} {up : Char → List Char} {cl : List String → Option Nat} {slots : List (List Nat)}
  {ch : List (LfnEntry × Node)}

/-- **the last component of `create_file` in the root directory** -/
theorem createFile_root_final (W : ImgTreeW d up (.dir slots ch) cl) (hwf : TreeWf up (.dir slots ch)) (env : Env)
    (henv : env.upper = up) (f : Nat) (path name : String) (hsp : Names.splitPath path = (name, none))
    (hroom : HasRoomRoot d slots name) :
    MWalk d (fun (_ : FileH) d' => VolStep d d' ∧
        ImgTreeW d' up (crFinal up (.dir slots ch) [] name false (sfnStamp d.fs d.clock none)).tree cl ∧
        DirsKept up (.dir slots ch) (crFinal up (.dir slots ch) [] name false (sfnStamp d.fs d.clock none)).tree)
      (createFile env (f + 1) (rootAt d.fs 0) path)
      (outErr (crFinal up (.dir slots ch) [] name false (sfnStamp d.fs d.clock none))) := by
  intro d4 hv hck
  subst henv
  obtain ⟨W4, hd, hst, N, tail, hR, hsl, htl⟩ := W.root_view hwf hv
  rw [hst]
  unfold crFinal
  simp only [getAtS, Bool.not_false, Bool.and_true]
  cases hdn : isDotName name with
  | true =>
    simp only [if_true]
    have key := (DirView.ofRoot hR).createFile_head W4.lay.alloc env path name hsp f d4 (SameVol.refl d4)
    rw [isDotName_eq, hdn] at key
    exact key
  | false =>
    simp only [Bool.false_eq_true, if_false]
    -- the root region holds the node's slot list with nothing in front
    have key := createFile_slots (rootW hR W4.lay) env rfl W4.lay.alloc (Pre.nil _ name)
      (rootW_slots hR W4.lay hsl) htl path hsp hdn (hroom.of_sameVol hv N hR) f
    unfold createFinal
    cases hc : checkForExistenceL env.upper slots name (some false) 70000 with
    | error e => rw [hc] at key; exact key
    | ok r =>
      rw [hc] at key
      cases r with
      | entry le =>
        obtain ⟨h, d', hr, hs⟩ := key
        exact ⟨h, d', hr, VolStep.of_sameVol (hv.trans hs), W.of_sameVol (hv.trans hs), DirsKept.refl _ _⟩
      | alias al =>
        simp only [hdn, Bool.false_eq_true, if_false] at key ⊢
        cases hval : Names.validateLongName name with
        | error x => rw [hval] at key; exact key
        | ok u =>
          cases u
          rw [hval] at key
          obtain ⟨h, d', tail', hr, hs, hslots', htl', hfr⟩ := key
          have hstamp : sfnStamp d4.fs d4.clock none = sfnStamp d.fs d.clock none := by rw [← hv.fs, hck]
          rw [hstamp] at hslots'
          obtain ⟨htree, hd', _, _⟩ := create_dirOk hd name false (sfnStamp d.fs d.clock none) al hc hval
          refine ⟨h, d', hr, (VolStep.of_sameVol hv).trans hs, ?_⟩
          show ImgTreeW d' env.upper (addEntry _ _ _ (.dir slots ch)) cl ∧ DirsKept env.upper _ (addEntry _ _ _ (.dir
            slots ch))
          rw [htree]
          refine ⟨imgTreeW_root_step W4 hd hd' hR hs hfr.toG tail'
              ((rootW_slots_step hR W4.lay hs).trans hslots') htl' (fun x hx hdx => ?_),
            dirsKept_root hd hd' (fun x hx _ => List.mem_append.2 (Or.inl hx))⟩
          rcases List.mem_append.1 hx with h | h
          · exact h
          · rw [List.mem_singleton.1 h] at hdx; cases hdx

end final


/-! ## `create_dir` -/

/-- the resources of a `create_dir` of `name` in the root: volume facts of the allocation, the allocator finds `c`,
    the entry fits into the root region, `c` is on no directory chain of the tree -/
structure DirRes (d : Dev) (up : Char → List Char) (t : Node) (cl : List String → Option Nat)
    (slots : List (List Nat)) (name : String) (c : Nat) : Prop where
  geo : Geo d.fs d.img.size
  info : InfoOk d.fs d.img
  cs32 : d.fs.clusterSize % 32 = 0
  cs64 : 64 ≤ d.fs.clusterSize
  u32 : d.fs.clusterSize < 4294967296
  fuel : d.fs.clusterSize / 32 < dirFuel d.fs
  find : allocFindV (tabView d.fs d.img) d.fs.fsInfo.next d.fs.totalClusters = some c
  small : d.fs.totalClusters + 2 ≤ 65536
  room : HasRoomRoot d slots name
  apart : ∀ cur s ch, cur ≠ [] → getAtS up t cur = some (.dir s ch) → ∀ c0 chain, cl cur = some c0 →
    Chain (tabView d.fs d.img) c0 chain → c ∉ chain

section final
variable {d : Dev} {up : Char → List Char} {cl : List String → Option Nat} {slots : List (List Nat)}
  {ch : List (LfnEntry × Node)}

/-- **the last component of `create_dir` in the root directory** -/
theorem createDir_root_final (W : ImgTreeW d up (.dir slots ch) cl) (hwf : TreeWf up (.dir slots ch)) (env : Env)
    (henv : env.upper = up) (f : Nat) (path name : String) (hsp : Names.splitPath path = (name, none)) (c : Nat)
    (hres : DirRes d up (.dir slots ch) cl slots name c) :
    MWalk d (fun (_ : DirStream) d' => VolStep d d' ∧ ∃ cl',
        ImgTreeW d' up (crFinal up (.dir slots ch) [] name true (sfnStamp d.fs d.clock (some c))).tree cl' ∧
        ClAgree up (.dir slots ch) cl cl' ∧
        DirsKept up (.dir slots ch) (crFinal up (.dir slots ch) [] name true (sfnStamp d.fs d.clock (some c))).tree)
      (createDir env (f + 1) (rootAt d.fs 0) path)
      (outErr (crFinal up (.dir slots ch) [] name true (sfnStamp d.fs d.clock (some c)))) := by
  intro d4 hv hc
  subst henv
  obtain ⟨W4, hd, hst, N, tail, hR, hsl, htl⟩ := W.root_view hwf hv
  rw [hst]
  have halloc := W4.lay.alloc
  have key := (DirView.ofRoot hR).createDir_head halloc env path name hsp f d4 (SameVol.refl d4)
  rw [root_check hR hsl htl env name, isDotName_eq] at key
  unfold crFinal
  simp only [getAtS, List.isEmpty_nil, Bool.not_true, Bool.and_false, Bool.false_eq_true, if_false]
  unfold createFinal
  -- the reading part of the program branches on the answer of `check_for_existence` as the model does
  cases hal : checkForExistenceL env.upper slots name (some true) 70000 with
  | error e => rw [hal] at key; exact key
  | ok r =>
  rw [hal] at key
  cases r with
  | entry le =>
    obtain ⟨d', hr, hs⟩ := key
    exact ⟨_, d', hr, VolStep.of_sameVol (hv.trans hs), cl, W.of_sameVol (hv.trans hs), ClAgree.refl _ _ _,
      DirsKept.refl _ _⟩
  | alias al =>
    dsimp only at key ⊢
    cases hdn : isDotName name with
    | true => rw [hdn] at key; exact key
    | false =>
      rw [hdn] at key
      simp only [Bool.false_eq_true, if_false] at key ⊢
      cases hval : Names.validateLongName name with
      | error x => rw [hval] at key; exact key
      | ok u =>
        cases u
        -- the resources on `d4`
        have hinfo4 : InfoOk d4.fs d4.img := by rw [hv.fs, hv.img]; exact hres.info
        have hfind4 : allocFindV (tabView d4.fs d4.img) d4.fs.fsInfo.next d4.fs.totalClusters = some c := by
          rw [hv.fs, hv.img]; exact hres.find
        obtain ⟨hc2, hclt, _⟩ := allocFindV_some _ _ _ _ hinfo4.hint hfind4
        have hstamp : sfnStamp d4.fs d4.clock (some c) = sfnStamp d.fs d.clock (some c) := by rw [hv.fs, hc]
        obtain ⟨htree, hd', hsub, hknew⟩ := create_dirOk hd name true (sfnStamp d.fs d.clock (some c)) al hal hval
        have hVs := rootW_slots hR W4.lay hsl
        have hsz := hR.slots
        have hin := hR.inside
        have hend := rootSlice_end d4.fs W4.lay.rootData
        have hfatAll := W4.lay.fatAllRoot
        obtain ⟨d', hr, hs, _, _, hslots', htv, hnew, hC, hfr⟩ := (rootW hR W4.lay).createDir_sim
          ⟨hsp, hdn, hval, halloc, by rw [hv.fs, hv.img]; exact hres.geo, hinfo4, W4.lay.acc,
            by rw [hv.fs]; exact hres.cs32, by rw [hv.fs]; exact hres.cs64, by rw [hv.fs]; exact hres.u32,
            by rw [hv.fs]; exact hres.fuel, by rw [hVs, check_append_ends _ slots tail htl]; exact hal, hfind4⟩
          (by rw [hVs, findFree_append_ends slots tail htl]; exact hres.room.of_sameVol hv N hR)
          (fun d1 d2 hv1 _ hal1 => RootInv.of_alloc ⟨hR.noFault, hR.inside, W4.lay.wf, FsGeomEq.refl _, hR.fuel⟩ hv1
            hal1)
          (fun d1 d2 hi hs1 _ _ => RootInv.of_volStep hi hs1)
          ⟨fun i hi => by
            have hi : i < N := hi
            have := FileSim.dataStart_le_clusterOff d4.fs c
            exact ⟨by show _ ≤ _ + 32 * i; omega, by show _ + 32 * i + 32 ≤ _; omega,
              Or.inl (by show _ + 32 * i + 32 ≤ _; omega)⟩,
          fun q hq => hq.elim⟩ f
        refine ⟨_, d', hr, (VolStep.of_sameVol hv).trans hs, ?_⟩
        -- the new root slots
        obtain ⟨tail', htw, htl'⟩ := writeEntry_append_ends slots tail htl (Names.encodeUtf16 name.toList)
          (sfnWith al (newBody true (sfnStamp d.fs d.clock (some c)))) (DirSlots.findFree_le slots _)
        have hroot' : rootDirSlots d'.fs d'.img =
            DirSlots.writeEntry slots (Names.encodeUtf16 name.toList)
              (sfnWith al (newBody true (sfnStamp d.fs d.clock (some c)))) ++ tail' := by
          rw [rootW_slots_step hR W4.lay hs, hslots', hVs, hstamp]
          exact htw
        have hft : d'.fs.fatType = d4.fs.fatType := hs.geom.fatType
        have hif : (if d4.fs.fatType = .fat32 then 4294967296 else 65536) = 65536 := by rw [if_neg W4.lay.fat16]
        have hc16 : 0 < c ∧ c < 65536 := by
          have : d4.fs.totalClusters + 2 ≤ 65536 := by rw [hv.fs]; exact hres.small
          omega
        have hslC : chainSlots d'.fs d'.img [c] =
            sfnWith dotRaw (16 :: sfnStamp d4.fs d4.clock (some c)) ::
              sfnWith dotDotRaw (16 :: sfnStamp d4.fs d4.clock none) ::
              List.replicate (d4.fs.clusterSize / 32 - 2) (List.replicate 32 0) := by
          rw [← srcSlots_chain d'.fs d'.img hC.geo.cs_pos hC.cs32 [c], chainSrc_geom hs.geom, hs.geom.clusterSize,
            List.length_singleton, Nat.one_mul]
          exact hnew
        show ∃ cl', ImgTreeW d' env.upper (addEntry _ _ _ (.dir slots ch)) cl' ∧ _ ∧
          DirsKept env.upper _ (addEntry _ _ _ (.dir slots ch))
        rw [htree]
        obtain ⟨hW', hA⟩ := imgTreeW_newDir W4 hd _ hd' hsub hknew hR hs c hc2 htv
          (fun q h1 h2 h3 h4 => hfr q h1 h2 h3 id h4) tail' hroot' htl'
          (by
            show (toDirEntryS _ ⟨sfnWith al (16 :: sfnStamp d.fs d.clock (some c)), _, _, _⟩).firstCluster d'.fs =
              some c
            rw [← hstamp]
            exact dot_firstCluster _ d4.fs d'.fs d4.clock al (some c) _ _ (C16dir.dir_alias_length _ _ _ _ _ _ hal)
              (canon_lt (C16dir.dir_alias_canon env.upper slots name (some true) 70000 al hal).1) hft
              (fun n hn => by cases hn; rw [hif]; exact hc16) _)
          (fun q hm => SubImg.fresh [q] c _ hC
            (by rw [hs.geom.clusterSize, dirFuel_geom hs.geom, hv.fs]; exact hres.fuel)
            d4.fs d4.clock none _ hft W4.lay.fat16 hc16 (fun n hn => by cases hn) hslC (clAdd_hit _ _ _ _ _ hm)
              W.rootNone)
          (fun cur s c' hne hg c0 chain hcl hch => by
            rw [hv.fs, hv.img] at hch
            exact hres.apart cur s c' hne hg c0 chain hcl hch)
        exact ⟨_, hW', hA, dirsKept_root hd hd' (fun x hx _ => List.mem_append.2 (Or.inl hx))⟩

end final

end SlotTreeImg
end FatVerif
