import FatVerif.Proofs.BpbValidate
import FatVerif.Proofs.FormatSectorBytes
import FatVerif.Props.C06
import FatVerif.Proofs.FormatBytes
/-! The write log of a successful `format_volume`: the program cut into named phases (definitionally the same program),
    what each phase appends (`FormatLog`), the geometry facts of the boot sector it wrote (`FmtGeom`), where each phase
    writes (`FmtRegions`), and everything together (`FormatRun.facts`). -/
namespace FatVerif
open Format

/-- last phase: the volume-label entry at the start of the root directory, then rewind -/
def fmtLabel (o : FormatOpts) (rootPos : Nat) : Prog Unit :=
  match o.label with
  | some lbl =>
    Prog.bind (Prog.seekStart rootPos) fun _ =>
    Prog.bind (writeChunks devStrm () (chunksOf (DirFileEntryData.new lbl ATTR_VOLUME_ID).serialize FileH.entryChunkSizes))
      fun _ =>
    Prog.bind (Prog.seekStart 0) fun _ => Prog.pure ()
  | none => Prog.bind (Prog.seekStart 0) fun _ => Prog.pure ()

/-- FAT32 only: allocate the root cluster, zero it, write the FS-info sector -/
def fmtFat32 (o : FormatOpts) (b : FBpb) (ft : FatType) (totalClusters rootPos : Nat) : Prog Unit :=
  if ft = .fat32 then
    Prog.bind (Table.allocCluster DiskSlice.strm ft (fatSliceOf (formatFsState b ft) false) none none 1) fun x =>
    if x.1 ≠ b.rootCluster then Prog.bind (Prog.fail .panic) fun (_ : Unit) => fmtLabel o rootPos
    else
      Prog.bind (Prog.seekStart
        ((b.reserved + b.fats * b.sectorsPerFat + b.rootDirSectors + (x.1 - 2) * b.spc) * b.bps)) fun _ =>
      Prog.bind (writeZeros devStrm () (b.spc * b.bps)) fun _ =>
      Prog.bind (Prog.seekStart (b.fsInfoSector * b.bps)) fun _ =>
      Prog.bind (writeChunks devStrm ()
        (chunksOf (fsInfoBytes { free := some (totalClusters - 1), next := some (x.1 + 1), dirty := false })
          fsInfoChunks)) fun _ =>
      Prog.bind (writeZerosUntilEndOfSector b.bps) fun _ => fmtLabel o rootPos
  else fmtLabel o rootPos

/-- FAT area and root region -/
def fmtFatRoot (o : FormatOpts) (b : FBpb) (ft : FatType) : Prog Unit :=
  Prog.bind (Prog.seekStart (b.reserved * b.bps)) fun _ =>
  Prog.bind (writeZeros devStrm () (b.fats * b.sectorsPerFat * b.bps)) fun _ =>
  Prog.bind (liftE b.totalClusters) fun totalClusters =>
  Prog.bind (Table.formatFat DiskSlice.strm ft (fatSliceOf (formatFsState b ft) false) b.media
    (b.sectorsPerFat * b.bps) totalClusters) fun _ =>
  Prog.bind (Prog.seekStart ((b.reserved + b.fats * b.sectorsPerFat) * b.bps)) fun _ =>
  Prog.bind (writeZeros devStrm () (b.rootDirSectors * b.bps)) fun _ =>
  fmtFat32 o b ft totalClusters ((b.reserved + b.fats * b.sectorsPerFat) * b.bps)

/-- boot sector (and its FAT32 backup), each padded to the end of its sector -/
def fmtBoot (o : FormatOpts) (boot : FBoot) (ft : FatType) : Prog Unit :=
  Prog.bind (writeBootSector boot) fun _ =>
  Prog.bind (writeZerosUntilEndOfSector boot.bpb.bps) fun _ =>
  if boot.bpb.isFat32 = true then
    Prog.bind (Prog.seekStart (boot.bpb.backupBoot * boot.bpb.bps)) fun _ =>
    Prog.bind (writeBootSector boot) fun _ =>
    Prog.bind (writeZerosUntilEndOfSector boot.bpb.bps) fun _ => fmtFatRoot o boot.bpb ft
  else fmtFatRoot o boot.bpb ft

/-- the sector count `format_volume` uses -/
def fmtTotalProg (o : FormatOpts) : Prog Nat :=
  match o.totalSectors with
  | some t => Prog.pure t
  | none =>
    Prog.bind (Prog.seek (.fromEnd 0)) fun bytes =>
    Prog.bind (Prog.seekStart 0) fun _ =>
    if bytes / o.bps > 4294967295 then Prog.fail .invalidInput else Prog.pure (bytes / o.bps)

def fmtProg (o : FormatOpts) : Prog Unit :=
  Prog.bind (Prog.seek (.cur 0)) fun pos =>
  if pos ≠ 0 then Prog.fail .panic else
  Prog.bind (fmtTotalProg o) fun total =>
  Prog.bind (liftE (formatChecked o total)) fun x => fmtBoot o x.1 x.2

theorem formatVolume_eq (o : FormatOpts) : formatVolume o = fmtProg o := by
  unfold formatVolume fmtProg fmtTotalProg fmtBoot fmtFatRoot fmtFat32 fmtLabel
  rfl



/-- seek to `p`, write the chunks of `bs`, pad to the end of the sector: one tile -/
theorem seek_chunks_pad {p : Nat} {bs : List Nat} {ns : List Nat} {bps : Nat} {d d' : Dev} {v : Nat} {d1 d2 : Dev} {u u' : Unit}
    (h1 : run (Prog.seekStart p) d = (.ok v, d1))
    (h2 : run (writeChunks devStrm () (chunksOf bs ns)) d1 = (.ok u, d2))
    (h3 : run (writeZerosUntilEndOfSector bps) d2 = (.ok u', d')) :
    ∃ L, TileAt p (bs.take ns.sum ++ List.replicate (padLen (p + (bs.take ns.sum).length) bps) 0) L ∧ Seg d d' L ∧
      d'.pos = p + (bs.take ns.sum).length + padLen (p + (bs.take ns.sum).length) bps := by
  obtain ⟨hl1, hp1⟩ := run_seekStart_ok p d h1
  have t2 := writeChunks_dev_tiled _ _ _ _ h2
  rw [flatten_chunksOf] at t2
  have t3 := writeZerosUntilEndOfSector_tiled bps d2 h3
  rw [t2.pos, hp1] at t3
  have t := t2.append t3
  obtain ⟨L, hL, hs⟩ := t.of_start hl1
  rw [hp1] at hL
  refine ⟨L, hL, hs, ?_⟩
  rw [t.pos, hp1, List.length_append, List.length_replicate]; omega

/-- what the label phase appends: the volume-label entry at the start of the root directory, if a label was asked for -/
def labelSpec (o : FormatOpts) (rootPos : Nat) (L : List LogItem) : Prop :=
  match o.label with
  | some lbl => TileAt rootPos ((DirFileEntryData.new lbl ATTR_VOLUME_ID).serialize.take 32) L
  | none => L = []

/-- the label phase -/
theorem fmtLabel_trace (o : FormatOpts) (rootPos : Nat) (d d' : Dev) (u : Unit)
    (hr : run (fmtLabel o rootPos) d = (.ok u, d')) : d'.pos = 0 ∧ ∃ L, Seg d d' L ∧ labelSpec o rootPos L := by
  unfold fmtLabel at hr
  split at hr
  · rename_i lbl hlbl
    obtain ⟨v, d1, h1, h2⟩ := run_bind_ok_inv hr
    obtain ⟨u2, d2, h3, h4⟩ := run_bind_ok_inv h2
    obtain ⟨v3, d3, h5, h6⟩ := run_bind_ok_inv h4
    simp only [run] at h6; cases h6
    obtain ⟨hl1, hp1⟩ := run_seekStart_ok _ _ h1
    obtain ⟨hl3, hp3⟩ := run_seekStart_ok _ _ h5
    have t2 := writeChunks_dev_tiled _ _ _ _ h3
    rw [flatten_chunksOf, entryChunks_sum] at t2
    obtain ⟨L, hL, hs⟩ := t2.of_start hl1
    rw [hp1] at hL
    refine ⟨hp3, L, by have := hs.trans (Seg.of_log_eq hl3); simpa using this, ?_⟩
    simp only [labelSpec, hlbl]; exact hL
  · rename_i hlbl
    obtain ⟨v, d1, h1, h2⟩ := run_bind_ok_inv hr
    simp only [run] at h2; cases h2
    obtain ⟨hl1, hp1⟩ := run_seekStart_ok _ _ h1
    refine ⟨hp1, [], Seg.of_log_eq hl1, ?_⟩
    simp only [labelSpec, hlbl]

/-- the FS-info sector `format_volume` writes -/
def fmtInfo (totalClusters rootCluster : Nat) : FsInfoSt :=
  { free := some (totalClusters - 1), next := some (rootCluster + 1), dirty := false }

/-- what the FAT32-only phase appended -/
structure Fat32Part (o : FormatOpts) (b : FBpb) (tc rootPos : Nat) (d d' : Dev)
    (La Lc Li Ll : List LogItem) : Prop where
  seg : Seg d d' (Ll ++ (Li ++ (Lc ++ La)))
  alloc : ∃ s dB, run (Table.allocCluster DiskSlice.strm .fat32 (fatSliceOf (formatFsState b .fat32) false) none none 1) d =
      (.ok (b.rootCluster, s), dB) ∧ Seg d dB La
  clus : TileAt ((b.reserved + b.fats * b.sectorsPerFat + b.rootDirSectors + (b.rootCluster - 2) * b.spc) * b.bps)
      (List.replicate (b.spc * b.bps) 0) Lc
  info : TileAt (b.fsInfoSector * b.bps)
      ((fsInfoBytes (fmtInfo tc b.rootCluster)).take 512 ++
        List.replicate (padLen (b.fsInfoSector * b.bps + ((fsInfoBytes (fmtInfo tc b.rootCluster)).take 512).length) b.bps) 0) Li
  label : labelSpec o rootPos Ll

theorem fmtFat32_trace (o : FormatOpts) (b : FBpb) (ft : FatType) (tc rootPos : Nat) (d d' : Dev) (u : Unit)
    (hr : run (fmtFat32 o b ft tc rootPos) d = (.ok u, d')) :
    d'.pos = 0 ∧
    ((ft = .fat32 ∧ ∃ La Lc Li Ll, Fat32Part o b tc rootPos d d' La Lc Li Ll) ∨
     (ft ≠ .fat32 ∧ ∃ Ll, Seg d d' Ll ∧ labelSpec o rootPos Ll)) := by
  unfold fmtFat32 at hr
  split at hr
  · rename_i h32
    subst h32
    obtain ⟨⟨rc, s⟩, dB, h1, h2⟩ := run_bind_ok_inv hr
    dsimp only at h2
    split at h2
    · rcases run_bind_cases h2 with ⟨_, _, h3, _⟩ | ⟨e, h3, he⟩
      · simp only [run] at h3; cases h3
      · cases he
    · rename_i hrc
      have hrc' : rc = b.rootCluster := by simpa using hrc
      subst hrc'
      obtain ⟨La, hLa⟩ := run_seg _ _ h1
      obtain ⟨v1, d1, h3, h4⟩ := run_bind_ok_inv h2
      obtain ⟨u2, d2, h5, h6⟩ := run_bind_ok_inv h4
      obtain ⟨v3, d3, h7, h8⟩ := run_bind_ok_inv h6
      obtain ⟨u4, d4, h9, h10⟩ := run_bind_ok_inv h8
      obtain ⟨u5, d5, h11, h12⟩ := run_bind_ok_inv h10
      obtain ⟨hl1, hp1⟩ := run_seekStart_ok _ _ h3
      have t2 := writeZeros_dev_tiled _ _ h5
      obtain ⟨Lc, hLc, hsc⟩ := t2.of_start hl1
      rw [hp1] at hLc
      obtain ⟨Li, hLi, hsi, _⟩ := seek_chunks_pad h7 h9 h11
      obtain ⟨hpos, Ll, hsl, hll⟩ := fmtLabel_trace o rootPos d5 d' u h12
      rw [fsInfoChunks_sum] at hLi
      refine ⟨hpos, Or.inl ⟨rfl, La, Lc, Li, Ll, ?_, ⟨s, dB, h1, hLa⟩, hLc, hLi, hll⟩⟩
      exact ((hLa.trans hsc).trans hsi).trans hsl
  · rename_i h32
    obtain ⟨hpos, Ll, hsl, hll⟩ := fmtLabel_trace o rootPos d d' u hr
    exact ⟨hpos, Or.inr ⟨h32, Ll, hsl, hll⟩⟩

/-- the tail after the FAT and the fixed root region: FAT32 part and label -/
def TailSpec (o : FormatOpts) (b : FBpb) (ft : FatType) (tc rootPos : Nat) (d d' : Dev) (Lt : List LogItem) : Prop :=
  (ft = .fat32 ∧ ∃ La Lc Li Ll, Lt = Ll ++ (Li ++ (Lc ++ La)) ∧ Fat32Part o b tc rootPos d d' La Lc Li Ll) ∨
  (ft ≠ .fat32 ∧ Seg d d' Lt ∧ labelSpec o rootPos Lt)

/-- what the FAT/root phase appended: zeros over all FAT copies, `format_fat`, zeros over the root region, the tail -/
structure FatRootPart (o : FormatOpts) (b : FBpb) (ft : FatType) (d d' : Dev) (Lz Lf Lr Lt : List LogItem) : Prop where
  seg : Seg d d' (Lt ++ (Lr ++ (Lf ++ Lz)))
  fatZero : TileAt (b.reserved * b.bps) (List.replicate (b.fats * b.sectorsPerFat * b.bps) 0) Lz
  fmt : ∃ tc s dA dB dC, b.totalClusters = .ok tc ∧ Seg d dA Lz ∧ ImgRel d dA ∧ dA.img.size = d.img.size ∧
      run (Table.formatFat DiskSlice.strm ft (fatSliceOf (formatFsState b ft) false) b.media
        (b.sectorsPerFat * b.bps) tc) dA = (.ok s, dB) ∧ Seg dA dB Lf ∧
      Seg dB dC Lr ∧ dC.img.size = d.img.size ∧
      TailSpec o b ft tc ((b.reserved + b.fats * b.sectorsPerFat) * b.bps) dC d' Lt
  rootZero : TileAt ((b.reserved + b.fats * b.sectorsPerFat) * b.bps) (List.replicate (b.rootDirSectors * b.bps) 0) Lr

theorem run_liftE_ok {α} (e : Except Err α) (d : Dev) {a : α} {d' : Dev} (hr : run (liftE e) d = (.ok a, d')) :
    e = .ok a ∧ d' = d := by
  cases e with
  | ok v =>
    have : run (Prog.pure v) d = (.ok a, d') := hr
    simp only [run] at this; cases this; exact ⟨rfl, rfl⟩
  | error x =>
    have : run (Prog.fail x) d = (.ok a, d') := hr
    simp only [run] at this; cases this

/-- the phases of `fmtFatRoot` with their devices: zeros over all FAT copies (→ `dA`), `format_fat` (→ `dB`), zeros over
    the root region (→ `dC`), the tail -/
theorem fmtFatRoot_phases (o : FormatOpts) (b : FBpb) (ft : FatType) (d d' : Dev) (u : Unit)
    (hr : run (fmtFatRoot o b ft) d = (.ok u, d')) :
    ∃ tc s dA dB dC Lz Lr, b.totalClusters = .ok tc ∧
      TileAt (b.reserved * b.bps) (List.replicate (b.fats * b.sectorsPerFat * b.bps) 0) Lz ∧ Seg d dA Lz ∧
      ImgRel d dA ∧ dA.img.size = d.img.size ∧
      run (Table.formatFat DiskSlice.strm ft (fatSliceOf (formatFsState b ft) false) b.media
        (b.sectorsPerFat * b.bps) tc) dA = (.ok s, dB) ∧
      TileAt ((b.reserved + b.fats * b.sectorsPerFat) * b.bps) (List.replicate (b.rootDirSectors * b.bps) 0) Lr ∧
      Seg dB dC Lr ∧ ImgRel dB dC ∧ dC.img.size = d.img.size ∧
      run (fmtFat32 o b ft tc ((b.reserved + b.fats * b.sectorsPerFat) * b.bps)) dC = (.ok u, d') := by
  unfold fmtFatRoot at hr
  obtain ⟨v1, d1, h1, h2⟩ := run_bind_ok_inv hr
  obtain ⟨u2, d2, h3, h4⟩ := run_bind_ok_inv h2
  obtain ⟨tc, d3, h5, h6⟩ := run_bind_ok_inv h4
  obtain ⟨s, d4, h7, h8⟩ := run_bind_ok_inv h6
  obtain ⟨v5, d5, h9, h10⟩ := run_bind_ok_inv h8
  obtain ⟨u6, d6, h11, h12⟩ := run_bind_ok_inv h10
  obtain ⟨hl1, hp1⟩ := run_seekStart_ok _ _ h1
  obtain ⟨Lz, hLz, hsz⟩ := (writeZeros_dev_tiled _ _ h3).of_start hl1
  rw [hp1] at hLz
  obtain ⟨htc, hd3⟩ := run_liftE_ok _ _ h5
  rw [hd3] at h7
  obtain ⟨hl5, hp5⟩ := run_seekStart_ok _ _ h9
  obtain ⟨Lr, hLr, hsr⟩ := (writeZeros_dev_tiled _ _ h11).of_start hl5
  rw [hp5] at hLr
  have stepI : ∀ {α} (p : Prog α) (a : Dev) r b, run p a = (r, b) → ImgRel a b :=
    fun p a r b h => (steps_of_ops imgRel_ok stepOp_imgRel p).out a r b h
  have hsize2 : d2.img.size = d.img.size :=
    (run_img_size _ _ _ _ h3).trans (run_img_size _ _ _ _ h1)
  exact ⟨tc, s, d2, d4, d6, Lz, Lr, htc, hLz, hsz, imgRel_ok.trans _ _ _ (stepI _ _ _ _ h1) (stepI _ _ _ _ h3), hsize2,
    h7, hLr, hsr, imgRel_ok.trans _ _ _ (stepI _ _ _ _ h9) (stepI _ _ _ _ h11),
    (run_img_size _ _ _ _ h11).trans ((run_img_size _ _ _ _ h9).trans ((run_img_size _ _ _ _ h7).trans hsize2)), h12⟩

theorem fmtFatRoot_trace (o : FormatOpts) (b : FBpb) (ft : FatType) (d d' : Dev) (u : Unit)
    (hr : run (fmtFatRoot o b ft) d = (.ok u, d')) :
    d'.pos = 0 ∧ ∃ Lz Lf Lr Lt, FatRootPart o b ft d d' Lz Lf Lr Lt := by
  obtain ⟨tc, s, dA, dB, dC, Lz, Lr, htc, hLz, hsz, himgA, hsizeA, h7, hLr, hsr, _, hsizeC, h12⟩ :=
    fmtFatRoot_phases o b ft d d' u hr
  obtain ⟨Lf, hLf⟩ := run_seg _ _ h7
  obtain ⟨hpos, htail⟩ := fmtFat32_trace o b ft tc _ dC d' u h12
  rcases htail with ⟨h32, La, Lc, Li, Ll, hp⟩ | ⟨h32, Ll, hsl, hll⟩
  · refine ⟨hpos, Lz, Lf, Lr, Ll ++ (Li ++ (Lc ++ La)), ?_, hLz,
      ⟨tc, s, dA, dB, dC, htc, hsz, himgA, hsizeA, h7, hLf, hsr, hsizeC, Or.inl ⟨h32, La, Lc, Li, Ll, rfl, hp⟩⟩, hLr⟩
    exact ((hsz.trans hLf).trans hsr).trans hp.seg
  · refine ⟨hpos, Lz, Lf, Lr, Ll, ?_, hLz,
      ⟨tc, s, dA, dB, dC, htc, hsz, himgA, hsizeA, h7, hLf, hsr, hsizeC, Or.inr ⟨h32, hsl, hll⟩⟩, hLr⟩
    exact ((hsz.trans hLf).trans hsr).trans hsl

theorem bootChunks_sum (f : Bool) : (bootChunks f).sum = 512 := by cases f <;> decide

/-- boot sector image followed by the padding up to the end of its sector, written at `p` -/
def bootTile (boot : FBoot) (p : Nat) : List Nat :=
  boot.serialize.take 512 ++ List.replicate (padLen (p + (boot.serialize.take 512).length) boot.bpb.bps) 0

/-- the whole log of a successful `format_volume` -/
structure FormatLog (o : FormatOpts) (boot : FBoot) (ft : FatType) (d d' : Dev)
    (Lb Lk Lz Lf Lr Lt : List LogItem) : Prop where
  seg : Seg d d' (Lt ++ (Lr ++ (Lf ++ (Lz ++ (Lk ++ Lb)))))
  pos : d'.pos = 0
  bootT : TileAt 0 (bootTile boot 0) Lb
  backup : (boot.bpb.isFat32 = true ∧ TileAt (boot.bpb.backupBoot * boot.bpb.bps)
      (bootTile boot (boot.bpb.backupBoot * boot.bpb.bps)) Lk) ∨ (boot.bpb.isFat32 = false ∧ Lk = [])
  rest : ∃ dK, Seg d dK (Lk ++ Lb) ∧ ImgRel d dK ∧ dK.img.size = d.img.size ∧ FatRootPart o boot.bpb ft dK d' Lz Lf Lr Lt

/-- the boot-sector phases of `fmtBoot` (→ `dK`), then `fmtFatRoot` -/
theorem fmtBoot_phases (o : FormatOpts) (boot : FBoot) (ft : FatType) (d d' : Dev) (u : Unit) (hpos : d.pos = 0)
    (hr : run (fmtBoot o boot ft) d = (.ok u, d')) :
    ∃ Lb Lk dK, TileAt 0 (bootTile boot 0) Lb ∧
      ((boot.bpb.isFat32 = true ∧ TileAt (boot.bpb.backupBoot * boot.bpb.bps)
        (bootTile boot (boot.bpb.backupBoot * boot.bpb.bps)) Lk) ∨ (boot.bpb.isFat32 = false ∧ Lk = [])) ∧
      Seg d dK (Lk ++ Lb) ∧ ImgRel d dK ∧ dK.img.size = d.img.size ∧
      run (fmtFatRoot o boot.bpb ft) dK = (.ok u, d') := by
  unfold fmtBoot writeBootSector at hr
  obtain ⟨u1, d1, h1, h2⟩ := run_bind_ok_inv hr
  obtain ⟨u0, d0, h0, h0'⟩ := run_bind_ok_inv h1
  obtain ⟨rfl, rfl⟩ := run_pure_ok_inv h0'
  obtain ⟨u2, d2, h3, h4⟩ := run_bind_ok_inv h2
  -- first copy: no seek, the position is 0
  have t0 := writeChunks_dev_tiled _ _ _ _ h0
  rw [flatten_chunksOf, bootChunks_sum] at t0
  have t3 := writeZerosUntilEndOfSector_tiled _ _ h3
  rw [t0.pos, hpos] at t3
  obtain ⟨Lb, hLb, hsb⟩ := (t0.append t3).tileAt
  rw [hpos] at hLb
  have hsize2 : d2.img.size = d.img.size := (run_img_size _ _ _ _ h3).trans (run_img_size _ _ _ _ h0)
  have stepI : ∀ {α} (p : Prog α) (a : Dev) r b, run p a = (r, b) → ImgRel a b :=
    fun p a r b h => (steps_of_ops imgRel_ok stepOp_imgRel p).out a r b h
  have himg2 : ImgRel d d2 := imgRel_ok.trans _ _ _ (stepI _ _ _ _ h0) (stepI _ _ _ _ h3)
  split at h4
  · rename_i h32
    obtain ⟨v5, d5, h5, h6⟩ := run_bind_ok_inv h4
    obtain ⟨u6, d6, h7, h8⟩ := run_bind_ok_inv h6
    obtain ⟨u7, d7, h9, h9'⟩ := run_bind_ok_inv h7
    obtain ⟨rfl, rfl⟩ := run_pure_ok_inv h9'
    obtain ⟨u8, d8, h10, h11⟩ := run_bind_ok_inv h8
    obtain ⟨Lk, hLk, hsk, _⟩ := seek_chunks_pad h5 h9 h10
    rw [bootChunks_sum] at hLk
    exact ⟨Lb, Lk, d8, hLb, Or.inl ⟨h32, hLk⟩, hsb.trans hsk,
      imgRel_ok.trans _ _ _ himg2 (imgRel_ok.trans _ _ _ (stepI _ _ _ _ h5)
        (imgRel_ok.trans _ _ _ (stepI _ _ _ _ h9) (stepI _ _ _ _ h10))),
      (run_img_size _ _ _ _ h10).trans ((run_img_size _ _ _ _ h9).trans ((run_img_size _ _ _ _ h5).trans hsize2)), h11⟩
  · rename_i h32
    exact ⟨Lb, [], d2, hLb, Or.inr ⟨by simpa using h32, rfl⟩, by simpa using hsb, himg2, hsize2, h4⟩

theorem fmtBoot_trace (o : FormatOpts) (boot : FBoot) (ft : FatType) (d d' : Dev) (u : Unit) (hpos : d.pos = 0)
    (hr : run (fmtBoot o boot ft) d = (.ok u, d')) :
    ∃ Lb Lk Lz Lf Lr Lt, FormatLog o boot ft d d' Lb Lk Lz Lf Lr Lt := by
  obtain ⟨Lb, Lk, dK, hLb, hbk, hsK, himgK, hsizeK, hK⟩ := fmtBoot_phases o boot ft d d' u hpos hr
  obtain ⟨hp, Lz, Lf, Lr, Lt, hfr⟩ := fmtFatRoot_trace o boot.bpb ft dK d' u hK
  refine ⟨Lb, Lk, Lz, Lf, Lr, Lt, ?_, hp, hLb, hbk, dK, hsK, himgK, hsizeK, hfr⟩
  have := hsK.trans hfr.seg
  simpa [List.append_assoc] using this

/-- the sector count `format_volume` computes on device `d` -/
def fmtTotal (o : FormatOpts) (d : Dev) : Nat :=
  match o.totalSectors with
  | some t => t
  | none => d.img.size / o.bps

/-- a successful `format_volume` up to its first write: the boot sector is computed from `fmtTotal`, and the rest of
    the run is `fmtBoot` on a device with the same log and image size, positioned at 0 -/
theorem formatVolume_boot_run (o : FormatOpts) (d d' : Dev) (hr : run (formatVolume o) d = (.ok (), d')) :
    ∃ boot ft d3, formatChecked o (fmtTotal o d) = .ok (boot, ft) ∧ d3.log = d.log ∧ d3.pos = 0 ∧
      d3.img.size = d.img.size ∧ ImgRel d d3 ∧ run (fmtBoot o boot ft) d3 = (.ok (), d') := by
  rw [formatVolume_eq] at hr
  unfold fmtProg at hr
  obtain ⟨pos, d1, h1, h2⟩ := run_bind_ok_inv hr
  obtain ⟨hl1, hp1, hv1⟩ := run_seekCur0_ok d h1
  split at h2
  · simp only [run] at h2; cases h2
  · rename_i hpos
    have hpos0 : d.pos = 0 := by rw [← hv1]; simpa using hpos
    obtain ⟨total, d2, h3, h4⟩ := run_bind_ok_inv h2
    have hd2 : d2.log = d.log ∧ d2.pos = 0 ∧ d2.img.size = d.img.size ∧ total = fmtTotal o d := by
      unfold fmtTotalProg at h3
      split at h3
      · rename_i t ht
        simp only [run] at h3; cases h3
        exact ⟨hl1, by rw [hp1]; exact hpos0, run_img_size _ _ _ _ h1, by simp only [fmtTotal, ht]⟩
      · rename_i ht
        obtain ⟨bytes, d3, h5, h6⟩ := run_bind_ok_inv h3
        obtain ⟨v4, d4, h7, h8⟩ := run_bind_ok_inv h6
        obtain ⟨hl3, hb⟩ := run_seekEnd0_ok _ h5
        obtain ⟨hl4, hp4⟩ := run_seekStart_ok _ _ h7
        split at h8
        · simp only [run] at h8; cases h8
        · simp only [run] at h8; cases h8
          refine ⟨by rw [hl4, hl3, hl1], hp4, ?_, ?_⟩
          · exact (run_img_size _ _ _ _ h7).trans ((run_img_size _ _ _ _ h5).trans (run_img_size _ _ _ _ h1))
          · simp only [fmtTotal, ht, hb, run_img_size _ _ _ _ h1]
    obtain ⟨hl2, hp2, hs2, htot⟩ := hd2
    subst htot
    obtain ⟨⟨boot, ft⟩, d3, h5, h6⟩ := run_bind_ok_inv h4
    obtain ⟨hfc, hd3⟩ := run_liftE_ok _ _ h5
    subst hd3
    have himg : ImgRel d d3 := imgRel_ok.trans _ _ _
      ((steps_of_ops imgRel_ok stepOp_imgRel _).out _ _ _ h1)
      ((steps_of_ops imgRel_ok stepOp_imgRel _).out _ _ _ h3)
    exact ⟨boot, ft, d3, hfc, hl2, hp2, hs2, himg, h6⟩

/-- **the write log of a successful `format_volume`** -/
theorem formatVolume_trace (o : FormatOpts) (d d' : Dev) (hr : run (formatVolume o) d = (.ok (), d')) :
    ∃ boot ft, formatChecked o (fmtTotal o d) = .ok (boot, ft) ∧
      ∃ Lb Lk Lz Lf Lr Lt d0, d0.log = d.log ∧ d0.img.size = d.img.size ∧ ImgRel d d0 ∧
        FormatLog o boot ft d0 d' Lb Lk Lz Lf Lr Lt := by
  obtain ⟨boot, ft, d3, hfc, hl, hp, hs, himg, h6⟩ := formatVolume_boot_run o d d' hr
  obtain ⟨Lb, Lk, Lz, Lf, Lr, Lt, hlog⟩ := fmtBoot_trace o boot ft d3 d' () hp h6
  exact ⟨boot, ft, hfc, Lb, Lk, Lz, Lf, Lr, Lt, d3, hl, hs, himg, hlog⟩


/-- everything the image theorems need to know about the BPB `format_boot_sector` produced -/
structure FmtGeom (o : FormatOpts) (t : Nat) (boot : FBoot) (ft : FatType) : Prop where
  bps_mem : boot.bpb.bps ∈ [512, 1024, 2048, 4096]
  spc_mem : boot.bpb.spc ∈ [1, 2, 4, 8, 16, 32, 64, 128]
  isFat32 : boot.bpb.isFat32 = decide (ft = .fat32)
  reserved : boot.bpb.reserved = reservedFor ft
  fats : boot.bpb.fats = 1 ∨ boot.bpb.fats = 2
  spf1 : 1 ≤ boot.bpb.sectorsPerFat
  spf32 : boot.bpb.sectorsPerFat < 4294967296
  spf16 : ft ≠ .fat32 → boot.bpb.sectorsPerFat ≤ 65535
  fit : boot.bpb.reserved + boot.bpb.fats * boot.bpb.sectorsPerFat + boot.bpb.rootDirSectors < t
  rds32 : ft = .fat32 → boot.bpb.rootDirSectors = 0
  rds1 : ft ≠ .fat32 → 1 ≤ boot.bpb.rootDirSectors
  f32 : ft = .fat32 → boot.bpb.backupBoot = 6 ∧ boot.bpb.fsInfoSector = 1 ∧ boot.bpb.rootCluster = 2
  tc : boot.bpb.totalClusters = .ok ((t - (boot.bpb.reserved + boot.bpb.fats * boot.bpb.sectorsPerFat +
      boot.bpb.rootDirSectors)) / boot.bpb.spc)
  ftc : ft = FatType.fromClusters ((t - (boot.bpb.reserved + boot.bpb.fats * boot.bpb.sectorsPerFat +
      boot.bpb.rootDirSectors)) / boot.bpb.spc)
  tcmax : (t - (boot.bpb.reserved + boot.bpb.fats * boot.bpb.sectorsPerFat + boot.bpb.rootDirSectors)) / boot.bpb.spc
      ≤ maxClusters ft
  cap : (t - (boot.bpb.reserved + boot.bpb.fats * boot.bpb.sectorsPerFat + boot.bpb.rootDirSectors)) / boot.bpb.spc + 2
      ≤ boot.bpb.sectorsPerFat * boot.bpb.bps * 8 / ft.bits
  extFlags : boot.bpb.extFlags = 0
  media : boot.bpb.media = o.media

theorem fmtGeom_of_ok {o : FormatOpts} {t : Nat} {boot : FBoot} {ft : FatType} (hacc : Accepted o)
    (ht : t < 4294967296) (h : formatChecked o t = .ok (boot, ft)) : FmtGeom o t boot ft := by
  obtain ⟨S, spc, rfl, hl⟩ := formatChecked_sized hacc ht h
  have hbps := hl.bps_mem
  have hb0 : 0 < o.bps := by simp only [List.mem_cons, List.mem_nil_iff, or_false] at hbps; omega
  have hs0 : spc ≠ 0 := by have := spc_bounds hl.spc_mem; omega
  have e5 : (bootOf o t ft S spc).bpb.sectorsPerFat = S := bpbOf_sectorsPerFat ..
  have e6 : (bootOf o t ft S spc).bpb.rootDirSectors = determineRootDirSectors o.rootEntries o.bps ft :=
    bpbOf_rootDirSectors _ _ _ _ _ hb0
  have e3 : (bootOf o t ft S spc).bpb.reserved = reservedFor ft := rfl
  have e4 : (bootOf o t ft S spc).bpb.fats = o.fats := rfl
  have e2 : (bootOf o t ft S spc).bpb.spc = spc := rfl
  have e1 : (bootOf o t ft S spc).bpb.bps = o.bps := rfl
  refine ⟨hbps, hl.spc_mem, bpbOf_isFat32 _ _ _ _ _ hl.spf1, rfl, hacc.fats, by rw [e5]; exact hl.spf1,
    by rw [e5]; exact hl.spf32, by rw [e5]; exact hl.spf16, by rw [e3, e4, e5, e6]; exact hl.fit, ?_, ?_, ?_, ?_,
    by rw [e3, e4, e5, e6, e2]; exact hl.width, by rw [e3, e4, e5, e6, e2]; exact hl.max,
    by rw [e3, e4, e5, e6, e2, e1]; exact hl.cap, rfl, rfl⟩
  · intro h32; subst h32; rw [e6]; rfl
  · intro h32
    rw [e6]
    unfold determineRootDirSectors
    rw [if_neg h32]
    have := hl.root h32
    simp only [List.mem_cons, List.mem_nil_iff, or_false] at hbps
    rcases hbps with hb | hb | hb | hb <;> rw [hb] <;> omega
  · intro h32; subst h32; exact ⟨rfl, rfl, rfl⟩
  · rw [e3, e4, e5, e6, e2]; exact bpbOf_totalClusters o t ft _ _ hb0 hl.fit ht hs0


theorem padLen_sector (B : Nat) (hB : B ∈ [512, 1024, 2048, 4096]) (k : Nat) : padLen (k * B + 512) B = B - 512 := by
  unfold padLen
  rw [Nat.add_comm, Nat.add_mul_mod_self_right]
  simp only [List.mem_cons, List.mem_nil_iff, or_false] at hB
  rcases hB with rfl | rfl | rfl | rfl <;> decide

/-- the FAT slice `format_volume` hands to `format_fat` / `alloc_cluster` -/
def fmtSlice (b : FBpb) : DiskSlice :=
  { beginOff := b.reserved * b.bps, size := b.sectorsPerFat * b.bps, mirrors := b.fats, viaFs := false }

theorem fmtSlice_eq (b : FBpb) (ft : FatType) (h : b.extFlags = 0) :
    fatSliceOf (formatFsState b ft) false = fmtSlice b := by
  unfold fatSliceOf formatFsState fmtSlice
  simp [h]

section regions
variable {o : FormatOpts} {t : Nat} {boot : FBoot} {ft : FatType} (hg : FmtGeom o t boot ft)
include hg

theorem FmtGeom.bps_pos : 0 < boot.bpb.bps := by
  have := hg.bps_mem
  simp only [List.mem_cons, List.mem_nil_iff, or_false] at this; omega

theorem FmtGeom.bps_ge : 512 ≤ boot.bpb.bps := by
  have := hg.bps_mem
  simp only [List.mem_cons, List.mem_nil_iff, or_false] at this; omega

theorem FmtGeom.bps_le : boot.bpb.bps ≤ 4096 := by
  have := hg.bps_mem
  simp only [List.mem_cons, List.mem_nil_iff, or_false] at this; omega

theorem FmtGeom.spc_pos : 1 ≤ boot.bpb.spc := by
  have := hg.spc_mem
  simp only [List.mem_cons, List.mem_nil_iff, or_false] at this; omega

theorem FmtGeom.spc_le : boot.bpb.spc ≤ 128 := by
  have := hg.spc_mem
  simp only [List.mem_cons, List.mem_nil_iff, or_false] at this; omega

/-- the cluster count `total_clusters()` returns is the one the other fields speak of -/
theorem FmtGeom.tc_eq {tc : Nat} (htc : boot.bpb.totalClusters = .ok tc) :
    (t - (boot.bpb.reserved + boot.bpb.fats * boot.bpb.sectorsPerFat + boot.bpb.rootDirSectors)) / boot.bpb.spc = tc := by
  have e := hg.tc
  rw [htc] at e
  exact (Except.ok.inj e).symm

theorem FmtGeom.cap_tc {tc : Nat} (htc : boot.bpb.totalClusters = .ok tc) :
    tc + 2 ≤ boot.bpb.sectorsPerFat * boot.bpb.bps * 8 / ft.bits := by
  rw [← hg.tc_eq htc]; exact hg.cap

theorem FmtGeom.tc_le {tc : Nat} (htc : boot.bpb.totalClusters = .ok tc) : tc ≤ maxClusters ft := by
  rw [← hg.tc_eq htc]; exact hg.tcmax

/-- FAT32 is chosen for at least 65525 clusters -/
theorem FmtGeom.tc32 (h32 : ft = .fat32) {tc : Nat} (htc : boot.bpb.totalClusters = .ok tc) : 65525 ≤ tc := by
  have h := hg.ftc
  rw [hg.tc_eq htc, h32] at h
  exact Bpb.fromClusters_fat32.mp h.symm

omit hg in
/-- end of the FAT area = start of the root region, in bytes -/
theorem FmtGeom.fatEnd_eq :
    (boot.bpb.reserved + boot.bpb.fats * boot.bpb.sectorsPerFat) * boot.bpb.bps =
      boot.bpb.reserved * boot.bpb.bps + boot.bpb.fats * (boot.bpb.sectorsPerFat * boot.bpb.bps) := by
  rw [Nat.add_mul, Nat.mul_assoc]

/-- the FAT window lies inside `total_sectors * bps` -/
theorem FmtGeom.window_le :
    (fmtSlice boot.bpb).beginOff + (fmtSlice boot.bpb).mirrors * (fmtSlice boot.bpb).size ≤ t * boot.bpb.bps := by
  show boot.bpb.reserved * boot.bpb.bps + boot.bpb.fats * (boot.bpb.sectorsPerFat * boot.bpb.bps) ≤ _
  rw [← FmtGeom.fatEnd_eq]
  exact Nat.mul_le_mul_right _ (by have := hg.fit; omega)

theorem FmtGeom.bootTile_len (hlen : boot.serialize.length = 512) (k : Nat) :
    (bootTile boot (k * boot.bpb.bps)).length = boot.bpb.bps := by
  unfold bootTile
  have h512 : (boot.serialize.take 512).length = 512 := by rw [List.length_take, hlen]; rfl
  rw [List.length_append, List.length_replicate, h512, padLen_sector _ hg.bps_mem]
  have := hg.bps_ge; omega

end regions

theorem Seg.unique {d d' : Dev} {L1 L2 : List LogItem} (h1 : Seg d d' L1) (h2 : Seg d d' L2) : L1 = L2 := by
  unfold Seg at *
  rw [h1] at h2
  exact List.append_cancel_right h2

/-- the regions of a formatted volume, in bytes -/
structure FmtRegions (o : FormatOpts) (boot : FBoot) (ft : FatType) (Lb Lk Lz Lf Lr Lt : List LogItem) : Prop where
  bootW : Within 0 boot.bpb.bps Lb
  backup : Within (6 * boot.bpb.bps) (7 * boot.bpb.bps) Lk
  backup_nil : ft ≠ .fat32 → Lk = []
  fatZero : Within (boot.bpb.reserved * boot.bpb.bps)
    ((boot.bpb.reserved + boot.bpb.fats * boot.bpb.sectorsPerFat) * boot.bpb.bps) Lz
  fmt : Within (boot.bpb.reserved * boot.bpb.bps)
    ((boot.bpb.reserved + boot.bpb.fats * boot.bpb.sectorsPerFat) * boot.bpb.bps) Lf
  rootZero : Within ((boot.bpb.reserved + boot.bpb.fats * boot.bpb.sectorsPerFat) * boot.bpb.bps)
    ((boot.bpb.reserved + boot.bpb.fats * boot.bpb.sectorsPerFat) * boot.bpb.bps +
      boot.bpb.rootDirSectors * boot.bpb.bps) Lr
  tail : (ft = .fat32 ∧ ∃ La Lc Li Ll, Lt = Ll ++ (Li ++ (Lc ++ La)) ∧
      Within (boot.bpb.reserved * boot.bpb.bps)
        ((boot.bpb.reserved + boot.bpb.fats * boot.bpb.sectorsPerFat) * boot.bpb.bps) La ∧
      TileAt ((boot.bpb.reserved + boot.bpb.fats * boot.bpb.sectorsPerFat) * boot.bpb.bps)
        (List.replicate (boot.bpb.spc * boot.bpb.bps) 0) Lc ∧
      (∃ tc, boot.bpb.totalClusters = .ok tc ∧
        TileAt boot.bpb.bps ((fsInfoBytes (fmtInfo tc 2)).take 512 ++ List.replicate (boot.bpb.bps - 512) 0) Li) ∧
      labelSpec o ((boot.bpb.reserved + boot.bpb.fats * boot.bpb.sectorsPerFat) * boot.bpb.bps) Ll ∧
      (∃ s dA dB, (fmtSlice boot.bpb).beginOff + (fmtSlice boot.bpb).mirrors * (fmtSlice boot.bpb).size ≤ dA.img.size ∧
        run (Table.allocCluster DiskSlice.strm .fat32 (fmtSlice boot.bpb) none none 1) dA = (.ok (2, s), dB) ∧
        Seg dA dB La)) ∨
    (ft ≠ .fat32 ∧ labelSpec o ((boot.bpb.reserved + boot.bpb.fats * boot.bpb.sectorsPerFat) * boot.bpb.bps) Lt)

theorem FormatLog.regions {o : FormatOpts} {t : Nat} {boot : FBoot} {ft : FatType} {d0 d' : Dev}
    {Lb Lk Lz Lf Lr Lt : List LogItem} (hlog : FormatLog o boot ft d0 d' Lb Lk Lz Lf Lr Lt)
    (hg : FmtGeom o t boot ft) (hlen : boot.serialize.length = 512) (hsz : t * boot.bpb.bps ≤ d0.img.size) :
    FmtRegions o boot ft Lb Lk Lz Lf Lr Lt := by
  obtain ⟨dK, hsK, himgK, hsizeK, hfr⟩ := hlog.rest
  obtain ⟨tc, s, dA, dB, dC, htc, hsA, himgA, hsizeA, hrun, hsf, hsr, hsizeC, htail⟩ := hfr.fmt
  have hslice := fmtSlice_eq boot.bpb ft hg.extFlags
  rw [hslice] at hrun
  have hmir : 0 < (fmtSlice boot.bpb).mirrors := by
    show 0 < boot.bpb.fats
    have := hg.fats; omega
  have hwin := hg.window_le
  have hinv : SliceInv (fmtSlice boot.bpb) (fmtSlice boot.bpb) := SliceInv.self (Nat.zero_le _)
  have hwindow : (fmtSlice boot.bpb).beginOff + (fmtSlice boot.bpb).mirrors * (fmtSlice boot.bpb).size =
      (boot.bpb.reserved + boot.bpb.fats * boot.bpb.sectorsPerFat) * boot.bpb.bps := by
    rw [FmtGeom.fatEnd_eq]; rfl
  -- format_fat stays inside the FAT window
  have hWf : Within (boot.bpb.reserved * boot.bpb.bps)
      ((boot.bpb.reserved + boot.bpb.fats * boot.bpb.sectorsPerFat) * boot.bpb.bps) Lf := by
    have hms := ((fat_ops_mirrored (sz := d0.img.size) hmir (by omega) ft hinv).2.2.2 boot.bpb.media
      (boot.bpb.sectorsPerFat * boot.bpb.bps) tc).out dA s dB (hsizeA.trans hsizeK) hrun
    obtain ⟨L, hL, hW⟩ := hms.1.within rfl
    rw [hwindow] at hW
    rw [← Seg.unique hL hsf]; exact hW
  refine ⟨?_, ?_, ?_, ?_, hWf, ?_, ?_⟩
  · have := hlog.bootT.within
    have hl := hg.bootTile_len hlen 0
    rw [Nat.zero_mul] at hl
    rw [hl, Nat.zero_add] at this; exact this
  · rcases hlog.backup with ⟨h32, hk⟩ | ⟨_, hk⟩
    · have hft : ft = .fat32 := by
        have := hg.isFat32; rw [h32] at this; simpa using this.symm
      have hb6 := (hg.f32 hft).1
      rw [hb6] at hk
      have := hk.within
      rw [hg.bootTile_len hlen 6] at this
      exact this.mono (Nat.le_refl _) (by omega)
    · rw [hk]; exact Within.nil _ _
  · intro hne
    rcases hlog.backup with ⟨h32, _⟩ | ⟨_, hk⟩
    · have := hg.isFat32; rw [h32] at this
      exact absurd (by simpa using this.symm) hne
    · exact hk
  · have := hfr.fatZero.within
    rw [List.length_replicate] at this
    rw [FmtGeom.fatEnd_eq, ← Nat.mul_assoc]; exact this
  · have := hfr.rootZero.within
    rw [List.length_replicate] at this; exact this
  · rcases htail with ⟨h32, La, Lc, Li, Ll, hLt, hp⟩ | ⟨h32, _, hll⟩
    · left
      subst h32
      obtain ⟨s2, dB2, hrun2, hsa⟩ := hp.alloc
      rw [hslice] at hrun2
      obtain ⟨hb6, hfi, hrc⟩ := hg.f32 rfl
      have hWa : Within (boot.bpb.reserved * boot.bpb.bps)
          ((boot.bpb.reserved + boot.bpb.fats * boot.bpb.sectorsPerFat) * boot.bpb.bps) La := by
        have hms := ((fat_ops_mirrored (sz := d0.img.size) hmir (by omega) .fat32 hinv).1 none none 1).out dC _ dB2
          (hsizeC.trans hsizeK) hrun2
        obtain ⟨L, hL, hW⟩ := hms.1.within rfl
        rw [hwindow] at hW
        rw [← Seg.unique hL hsa]; exact hW
      refine ⟨rfl, La, Lc, Li, Ll, hLt, hWa, ?_, ⟨tc, htc, ?_⟩, hp.label,
        ⟨s2, dC, dB2, by rw [hsizeC, hsizeK]; omega, by rw [← hrc]; exact hrun2, hsa⟩⟩
      · have := hp.clus
        rw [hrc, hg.rds32 rfl] at this
        simpa using this
      · have := hp.info
        rw [hrc, hfi, List.length_take, fsInfoBytes_len, Nat.min_self] at this
        have hpad := padLen_sector _ hg.bps_mem 1
        rw [hpad] at this
        simpa using this
    · exact Or.inr ⟨h32, hll⟩


/-- the hypotheses of the image theorems: an accepted request, a successful run, a device of at least
    `total_sectors * bytes_per_sector` bytes -/
structure FormatRun (o : FormatOpts) (d d' : Dev) : Prop where
  acc : Accepted o
  rng : InRange o
  ok : run (formatVolume o) d = (.ok (), d')
  tot : fmtTotal o d < 4294967296
  size : fmtTotal o d * o.bps ≤ d.img.size

/-- everything known about a successful `format_volume` -/
structure FormatFacts (o : FormatOpts) (d d' : Dev) (boot : FBoot) (ft : FatType)
    (Lb Lk Lz Lf Lr Lt : List LogItem) : Prop where
  checked : formatChecked o (fmtTotal o d) = .ok (boot, ft)
  geom : FmtGeom o (fmtTotal o d) boot ft
  len : boot.serialize.length = 512
  writes : d'.writesOf = Lt ++ (Lr ++ (Lf ++ (Lz ++ (Lk ++ (Lb ++ d.writesOf)))))
  pos : d'.pos = 0
  regions : FmtRegions o boot ft Lb Lk Lz Lf Lr Lt
  log : ∃ d0, d0.log = d.log ∧ d0.img.size = d.img.size ∧ ImgRel d d0 ∧ FormatLog o boot ft d0 d' Lb Lk Lz Lf Lr Lt
  bootT : TileAt 0 (bootTile boot 0) Lb
  backupT : ft = .fat32 → TileAt (6 * boot.bpb.bps) (bootTile boot (6 * boot.bpb.bps)) Lk
  fatZeroT : TileAt (boot.bpb.reserved * boot.bpb.bps)
    (List.replicate (boot.bpb.fats * boot.bpb.sectorsPerFat * boot.bpb.bps) 0) Lz
  rootZeroT : TileAt ((boot.bpb.reserved + boot.bpb.fats * boot.bpb.sectorsPerFat) * boot.bpb.bps)
    (List.replicate (boot.bpb.rootDirSectors * boot.bpb.bps) 0) Lr

theorem FormatRun.facts {o : FormatOpts} {d d' : Dev} (h : FormatRun o d d') :
    ∃ boot ft Lb Lk Lz Lf Lr Lt, FormatFacts o d d' boot ft Lb Lk Lz Lf Lr Lt := by
  obtain ⟨boot, ft, hfc, Lb, Lk, Lz, Lf, Lr, Lt, d0, hl0, hs0, himg0, hlog⟩ := formatVolume_trace o d d' h.ok
  have hg := fmtGeom_of_ok h.acc h.tot hfc
  have hlen := (decode_of_ok h.acc h.rng h.tot hfc).2
  have hbps : boot.bpb.bps = o.bps := formatChecked_bps h.acc h.tot hfc
  have hreg := hlog.regions hg hlen (by rw [hbps, hs0]; exact h.size)
  obtain ⟨dK, _, _, _, hfr⟩ := hlog.rest
  refine ⟨boot, ft, Lb, Lk, Lz, Lf, Lr, Lt, hfc, hg, hlen, ?_, hlog.pos, hreg, ⟨d0, hl0, hs0, himg0, hlog⟩, hlog.bootT, ?_,
    hfr.fatZero, hfr.rootZero⟩
  · have := hlog.seg
    unfold Seg at this
    have hw : d0.writesOf = d.writesOf := by unfold Dev.writesOf; rw [hl0]
    rw [this, hw]; simp [List.append_assoc]
  · intro h32
    rcases hlog.backup with ⟨_, hk⟩ | ⟨hf, _⟩
    · rw [(hg.f32 h32).1] at hk; exact hk
    · have := hg.isFat32; rw [hf, h32] at this; simp at this

end FatVerif
