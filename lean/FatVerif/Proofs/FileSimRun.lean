import FatVerif.Model.File
import FatVerif.Proofs.DevRun
import FatVerif.Proofs.WriteClassCluster
/-!
# FileSim / run: forward evaluation of the FAT reads on a fault-free device

`run` of `DiskSlice.read`, `read_exact`, `read_u8/u16/u32_le` and `FatTrait::get_raw` on a device without a scheduled
fault (`failAt = none`), for a slice that lies inside the device: the result is computed from the image, the device
changes only its position and call counters (`SameStore`).
-/
namespace FatVerif.FileSim
open FatVerif

theorem run_inner_seek (s : DiskSlice) (off : Nat) (d : Dev) (h : d.failAt = none) :
    run (s.inner.seek () (.start off)) d = (.ok (off, ()), d.didSeek off) := by
  have : run (Prog.seek (.start off) >>= fun n => (pure (n, ()) : Prog (Nat × Unit))) d = (.ok (off, ()), d.didSeek off) := by
    have hs : run (Prog.seek (.start off)) d = (.ok off, d.didSeek off) := run_seekStart off d h
    rw [run_bind_ok hs]; rfl
  unfold DiskSlice.inner
  split <;> exact this

theorem run_inner_read (s : DiskSlice) (n : Nat) (d : Dev) (h : d.failAt = none) :
    run (s.inner.read () n) d =
      (.ok (d.img.read d.pos (min n (d.img.size - d.pos)), ()), d.didRead (min n (d.img.size - d.pos))) := by
  unfold DiskSlice.inner
  split <;> exact run_devStrm_read n d h

/-- ONE `DiskSlice::read` on a slice inside the device -/
theorem run_slice_read (s : DiskSlice) (n : Nat) (d : Dev) (h : d.failAt = none) (hle : s.offset ≤ s.size)
    (hdev : s.beginOff + s.size ≤ d.img.size) :
    ∃ d', run (s.read n) d =
      (.ok (d.img.read (s.beginOff + s.offset) (min n (s.size - s.offset)),
            { s with offset := s.offset + min n (s.size - s.offset) }), d') ∧ SameStore d d' := by
  have hmin : min (min n (s.size - s.offset)) ((d.didSeek (s.beginOff + s.offset)).img.size -
      (d.didSeek (s.beginOff + s.offset)).pos) = min n (s.size - s.offset) := by
    simp only [didSeek_img, didSeek_pos]; omega
  refine ⟨(d.didSeek (s.beginOff + s.offset)).didRead (min n (s.size - s.offset)), ?_,
    (sameStore_didSeek _ _).trans (sameStore_didRead _ _)⟩
  unfold DiskSlice.read
  show run (s.inner.seek () (.start (s.beginOff + s.offset)) >>= fun _ => _) d = _
  rw [run_bind_ok (run_inner_seek s _ d h)]
  show run (s.inner.read () (min n (s.size - s.offset)) >>= fun x => _) _ = _
  rw [run_bind_ok (run_inner_read s _ _ (by simpa using h)), hmin]
  simp only [didSeek_img, didSeek_pos, run_pure, Img.read_length]

/-- `read_exact(n)` on a slice with the `n` bytes inside it: the bytes of the image -/
theorem run_slice_readExact (s : DiskSlice) (n : Nat) (d : Dev) (h : d.failAt = none)
    (hfit : s.offset + n ≤ s.size) (hdev : s.beginOff + s.size ≤ d.img.size) :
    ∃ d', run (readExact DiskSlice.strm s n) d =
      (.ok (d.img.read (s.beginOff + s.offset) n, { s with offset := s.offset + n }), d') ∧ SameStore d d' := by
  cases n with
  | zero => exact ⟨d, rfl, SameStore.refl d⟩
  | succ k =>
    obtain ⟨d1, h1, hs1⟩ := run_slice_read s (k + 1) d h (by omega) hdev
    rw [show min (k + 1) (s.size - s.offset) = k + 1 by omega] at h1
    exact ⟨d1, run_readExact_of_read DiskSlice.strm (Nat.succ_pos k) h1 (Img.read_length ..), hs1⟩

theorem run_slice_readU16 (s : DiskSlice) (d : Dev) (h : d.failAt = none)
    (hfit : s.offset + 2 ≤ s.size) (hdev : s.beginOff + s.size ≤ d.img.size) :
    ∃ d', run (readU16 DiskSlice.strm s) d =
      (.ok (d.img.le16 (s.beginOff + s.offset), { s with offset := s.offset + 2 }), d') ∧ SameStore d d' := by
  obtain ⟨d1, h1, hs1⟩ := run_slice_readExact s 2 d h hfit hdev
  refine ⟨d1, ?_, hs1⟩
  unfold readU16
  rw [run_bind_ok h1]
  simp only [run_pure, Img.read_getD _ _ _ _ (show 0 < 2 by omega), Img.read_getD _ _ _ _ (show 1 < 2 by omega)]
  simp [Img.le16, le16]

theorem run_slice_readU32 (s : DiskSlice) (d : Dev) (h : d.failAt = none)
    (hfit : s.offset + 4 ≤ s.size) (hdev : s.beginOff + s.size ≤ d.img.size) :
    ∃ d', run (readU32 DiskSlice.strm s) d =
      (.ok (d.img.le32 (s.beginOff + s.offset), { s with offset := s.offset + 4 }), d') ∧ SameStore d d' := by
  obtain ⟨d1, h1, hs1⟩ := run_slice_readExact s 4 d h hfit hdev
  refine ⟨d1, ?_, hs1⟩
  unfold readU32
  rw [run_bind_ok h1]
  simp only [run_pure, Img.read_getD _ _ _ _ (show 0 < 4 by omega), Img.read_getD _ _ _ _ (show 1 < 4 by omega),
    Img.read_getD _ _ _ _ (show 2 < 4 by omega), Img.read_getD _ _ _ _ (show 3 < 4 by omega)]
  simp [Img.le32, le32]

theorem run_slice_readU8 (s : DiskSlice) (d : Dev) (h : d.failAt = none)
    (hfit : s.offset + 1 ≤ s.size) (hdev : s.beginOff + s.size ≤ d.img.size) :
    ∃ d', run (readU8 DiskSlice.strm s) d =
      (.ok (d.img.getByte (s.beginOff + s.offset), { s with offset := s.offset + 1 }), d') ∧ SameStore d d' := by
  obtain ⟨d1, h1, hs1⟩ := run_slice_readExact s 1 d h hfit hdev
  refine ⟨d1, ?_, hs1⟩
  unfold readU8
  rw [run_bind_ok h1]
  simp only [run_pure, Img.read_getD _ _ _ _ (show 0 < 1 by omega)]
  rfl

theorem run_slice_seekStart (s : DiskSlice) (n : Nat) (d : Dev) (hn : n ≤ s.size) :
    run (DiskSlice.strm.seek s (.start n)) d = (.ok (n, { s with offset := n }), d) := by
  show run (s.seek (.start n)) d = _
  unfold DiskSlice.seek
  simp only
  rw [if_neg (by omega)]
  rfl

/-- byte offset of entry `c` and the number of bytes read for it -/
def entOff : FatType → Nat → Nat
  | .fat12, c => c + c / 2
  | .fat16, c => c * 2
  | .fat32, c => c * 4

def entWidth : FatType → Nat
  | .fat12 => 2
  | .fat16 => 2
  | .fat32 => 4

/-- `get_raw` for an entry inside the FAT slice: the raw entry of the image -/
theorem run_getRaw (ft : FatType) (s : DiskSlice) (c : Nat) (d : Dev) (h : d.failAt = none)
    (hfit : entOff ft c + entWidth ft ≤ s.size) (hdev : s.beginOff + s.size ≤ d.img.size) :
    ∃ d', run (Table.getRaw DiskSlice.strm ft s c) d =
      (.ok (imgFatRaw ft s.beginOff d.img c, { s with offset := entOff ft c + entWidth ft }), d') ∧
      SameStore d d' := by
  cases ft with
  | fat12 =>
    simp only [entOff, entWidth] at hfit
    obtain ⟨d1, h1, hs1⟩ := run_slice_readU16 { s with offset := c + c / 2 } d h hfit hdev
    refine ⟨d1, ?_, hs1⟩
    unfold Table.getRaw
    simp only
    rw [run_bind_ok (run_slice_seekStart s _ d (by omega))]
    simp only
    rw [run_bind_ok h1]
    simp [imgFatRaw, entOff, entWidth]
  | fat16 =>
    simp only [entOff, entWidth] at hfit
    obtain ⟨d1, h1, hs1⟩ := run_slice_readU16 { s with offset := c * 2 } d h hfit hdev
    refine ⟨d1, ?_, hs1⟩
    unfold Table.getRaw
    simp only
    rw [run_bind_ok (run_slice_seekStart s _ d (by omega))]
    simp only
    rw [h1]
    simp [imgFatRaw, entOff, entWidth]
  | fat32 =>
    simp only [entOff, entWidth] at hfit
    obtain ⟨d1, h1, hs1⟩ := run_slice_readU32 { s with offset := c * 4 } d h hfit hdev
    refine ⟨d1, ?_, hs1⟩
    unfold Table.getRaw
    simp only
    rw [run_bind_ok (run_slice_seekStart s _ d (by omega))]
    simp only
    rw [h1]
    simp [imgFatRaw, entOff, entWidth]

end FatVerif.FileSim
