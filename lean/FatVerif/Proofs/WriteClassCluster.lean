import FatVerif.Proofs.WriteClassFile
/-! The decoded FAT of the image (`imgFatRaw`, `imgFatView`), and the bridge to it from the programs: a successful read
    through a slice inside the device returns the bytes of the image, so what a successful `get_next_cluster` returns is
    the decoded FAT entry (`nextCluster_ok`). That the cluster a `File::write` goes to lies in `[2, total_clusters + 2)`
    follows from this in Props/C11 (`file_write_in_data_region`). -/
namespace FatVerif

/-! ### successful reads return the bytes of the image -/

theorem run_progRead_ok (n : Nat) (d : Dev) {bs : List Nat} {d1 : Dev} (hr : run (Prog.read n) d = (.ok bs, d1)) :
    bs = d.img.read d.pos (min n (d.img.size - d.pos)) ∧ d1.img = d.img ∧ d1.fs = d.fs := by
  have hc : (d.count .r).img = d.img ∧ (d.count .r).pos = d.pos ∧ (d.count .r).fs = d.fs := by unfold Dev.count; simp
  simp only [Prog.read, run, stepOp, devCall, devCallCore] at hr
  split at hr
  · cases hr
  · cases hr
    refine ⟨?_, ?_, ?_⟩
    · simp only [hc.1, hc.2.1]
    · exact hc.1
    · exact hc.2.2

theorem run_seekStart_img (n : Nat) (d : Dev) {r d1} (hr : run (Prog.seekStart n) d = (r, d1)) : d1.img = d.img :=
  (stepOp_facts _ d hr).img rfl

/-- a successful `DiskSlice::read` of a slice lying inside the device: the bytes of the image at the slice position -/
theorem slice_read_ok (s : DiskSlice) (n : Nat) (d : Dev) (hle : s.offset ≤ s.size)
    (hdev : s.beginOff + s.size ≤ d.img.size) {bs : List Nat} {s' : DiskSlice} {d' : Dev}
    (hr : run (s.read n) d = (.ok (bs, s'), d')) :
    bs = d.img.read (s.beginOff + s.offset) (min n (s.size - s.offset)) ∧
    s' = { s with offset := s.offset + min n (s.size - s.offset) } ∧ d'.img = d.img ∧ d'.fs = d.fs := by
  unfold DiskSlice.read at hr
  obtain ⟨v1, d1, h1, h2⟩ := run_bind_ok_inv hr
  have hs := run_inner_seek s _ d h1
  have hpos := hs.2.2 _ rfl
  have himg1 : d1.img = d.img := by
    have h1' : run (Prog.bind (Prog.seekStart (s.beginOff + s.offset)) (fun m => Prog.pure (m, ()))) d = (.ok v1, d1) := by
      unfold DiskSlice.inner at h1
      split at h1 <;> exact h1
    rcases run_bind_cases h1' with ⟨m, d2, h3, h4⟩ | ⟨e, _, he⟩
    · simp only [run] at h4; cases h4; exact run_seekStart_img _ d h3
    · cases he
  rcases run_bind_cases h2 with ⟨⟨got, u⟩, d2, h3, h4⟩ | ⟨e, _, he⟩
  · have h3' : run (Prog.bind (Prog.read (min n (s.size - s.offset))) (fun bs => Prog.pure (bs, ()))) d1 = (.ok (got, u), d2) := by
      unfold DiskSlice.inner at h3
      split at h3 <;> exact h3
    rcases run_bind_cases h3' with ⟨b, d3, h5, h6⟩ | ⟨e, _, he⟩
    · simp only [run] at h6; cases h6
      obtain ⟨hb, hi, hf⟩ := run_progRead_ok _ d1 h5
      cases run_pure_cases h4
      have hmin : min (min n (s.size - s.offset)) (d1.img.size - d1.pos) = min n (s.size - s.offset) := by
        rw [himg1, hpos]; omega
      rw [hmin, hpos, himg1] at hb
      refine ⟨hb, ?_, hi.trans himg1, hf.trans hs.1⟩
      rw [hb, Img.read_length]
    · cases he
  · cases he

/-- a successful `read_exact` on a slice inside the device is ONE slice read of the whole length -/
theorem slice_readExact_ok (s : DiskSlice) (n : Nat) (d : Dev) (hle : s.offset ≤ s.size)
    (hdev : s.beginOff + s.size ≤ d.img.size) {bs : List Nat} {s' : DiskSlice} {d' : Dev}
    (hr : run (readExact DiskSlice.strm s n) d = (.ok (bs, s'), d')) :
    s.offset + n ≤ s.size ∧ bs = d.img.read (s.beginOff + s.offset) n ∧
    s' = { s with offset := s.offset + n } ∧ d'.img = d.img ∧ d'.fs = d.fs := by
  unfold readExact at hr
  unfold readExactLoop at hr
  split at hr
  · rename_i h0
    cases run_pure_cases hr
    subst h0
    exact ⟨by omega, rfl, rfl, rfl, rfl⟩
  · rename_i hn
    obtain ⟨⟨got, s1⟩, d1, h1, h2⟩ := run_bind_ok_inv hr
    have h1' : run (s.read n) d = (.ok (got, s1), d1) := h1
    obtain ⟨hg, hs1, hi1, hf1⟩ := slice_read_ok s n d hle hdev h1'
    have hlen : got.length = min n (s.size - s.offset) := by rw [hg, Img.read_length]
    dsimp only at h2
    split at h2
    · simp only [run] at h2; cases h2
    · rename_i hgl
      by_cases hfull : got.length = n
      · rw [hfull, Nat.sub_self] at h2
        obtain ⟨k, hk⟩ : ∃ k, n = k + 1 := ⟨n - 1, by omega⟩
        rw [hk] at h2
        unfold readExactLoop at h2
        simp only [if_true] at h2
        cases run_pure_cases h2
        have hmn : min n (s.size - s.offset) = n := by omega
        refine ⟨by omega, by rw [List.nil_append, hg, hmn], by rw [hs1, hmn], hi1, hf1⟩
      · exfalso
        have hshort : got.length = s.size - s.offset := by omega
        obtain ⟨k, hk⟩ : ∃ k, n = k + 1 := ⟨n - 1, by omega⟩
        rw [hk] at h2
        unfold readExactLoop at h2
        rw [if_neg (by omega)] at h2
        rcases run_bind_cases h2 with ⟨⟨got2, s2⟩, d2, h3, h4⟩ | ⟨e, _, he⟩
        · have h3' : run (s1.read (k + 1 - got.length)) d1 = (.ok (got2, s2), d2) := h3
          have hs1le : s1.offset ≤ s1.size := by rw [hs1]; show s.offset + _ ≤ s.size; omega
          obtain ⟨hg2, _, _, _⟩ := slice_read_ok s1 _ d1 hs1le (by rw [hs1, hi1]; exact hdev) h3'
          have hl2 : got2.length = 0 := by
            rw [hg2, Img.read_length, hs1]
            show min _ (s.size - (s.offset + min n (s.size - s.offset))) = 0
            omega
          dsimp only at h4
          rw [if_pos hl2] at h4
          simp only [run] at h4; cases h4
        · cases he

/-! ### the decoded FAT of the image -/

/-- the raw FAT entry of cluster `c` in the image, for a FAT starting at byte `B` (what `FatTrait::get_raw` reads) -/
def imgFatRaw (ft : FatType) (B : Nat) (img : Img) (c : Nat) : Nat :=
  match ft with
  | .fat12 => if c % 2 = 0 then img.le16 (B + (c + c / 2)) % 4096 else img.le16 (B + (c + c / 2)) / 16
  | .fat16 => img.le16 (B + c * 2)
  | .fat32 => img.le32 (B + c * 4)

/-- the decoded FAT (first copy of the FAT slice) of the image of a mounted volume -/
def imgFatView (fs : FsState) (img : Img) : Nat → FatValue :=
  fun c => Table.classify fs.fatType c (imgFatRaw fs.fatType (fatSliceOf fs).beginOff img c)

theorem slice_readU16_ok (s : DiskSlice) (d : Dev) (hle : s.offset ≤ s.size) (hdev : s.beginOff + s.size ≤ d.img.size)
    {v : Nat} {s' : DiskSlice} {d' : Dev} (hr : run (readU16 DiskSlice.strm s) d = (.ok (v, s'), d')) :
    v = d.img.le16 (s.beginOff + s.offset) ∧ d'.img = d.img ∧ d'.fs = d.fs := by
  unfold readU16 at hr
  obtain ⟨⟨bs, s1⟩, d1, h1, h2⟩ := run_bind_ok_inv hr
  obtain ⟨_, hb, _, hi, hf⟩ := slice_readExact_ok s 2 d hle hdev h1
  cases run_pure_cases h2
  refine ⟨?_, hi, hf⟩
  rw [hb, Img.read_getD _ _ _ _ (by omega), Img.read_getD _ _ _ _ (by omega)]
  simp [Img.le16, le16]

theorem slice_readU32_ok (s : DiskSlice) (d : Dev) (hle : s.offset ≤ s.size) (hdev : s.beginOff + s.size ≤ d.img.size)
    {v : Nat} {s' : DiskSlice} {d' : Dev} (hr : run (readU32 DiskSlice.strm s) d = (.ok (v, s'), d')) :
    v = d.img.le32 (s.beginOff + s.offset) ∧ d'.img = d.img ∧ d'.fs = d.fs := by
  unfold readU32 at hr
  obtain ⟨⟨bs, s1⟩, d1, h1, h2⟩ := run_bind_ok_inv hr
  obtain ⟨_, hb, _, hi, hf⟩ := slice_readExact_ok s 4 d hle hdev h1
  cases run_pure_cases h2
  refine ⟨?_, hi, hf⟩
  rw [hb, Img.read_getD _ _ _ _ (by omega), Img.read_getD _ _ _ _ (by omega), Img.read_getD _ _ _ _ (by omega),
    Img.read_getD _ _ _ _ (by omega)]
  simp [Img.le32, le32]

/-- what a successful `get_raw` on a FAT slice inside the device returns: the raw entry of the image -/
theorem slice_getRaw_ok (ft : FatType) (s : DiskSlice) (c : Nat) (d : Dev) (hdev : s.beginOff + s.size ≤ d.img.size)
    {v : Nat} {s' : DiskSlice} {d' : Dev} (hr : run (Table.getRaw DiskSlice.strm ft s c) d = (.ok (v, s'), d')) :
    v = imgFatRaw ft s.beginOff d.img c ∧ d'.img = d.img ∧ d'.fs = d.fs := by
  cases ft with
  | fat16 =>
    unfold Table.getRaw at hr
    dsimp only at hr
    obtain ⟨⟨t, s1⟩, d1, h1, h2⟩ := run_bind_ok_inv hr
    obtain ⟨hd1, _, hs1, hle⟩ := run_slice_seek_start s _ d h1
    subst hd1
    dsimp only at h2
    have := slice_readU16_ok s1 d1 (by rw [hs1]; exact hle) (by rw [hs1]; exact hdev) h2
    rw [hs1] at this
    exact this
  | fat32 =>
    unfold Table.getRaw at hr
    dsimp only at hr
    obtain ⟨⟨t, s1⟩, d1, h1, h2⟩ := run_bind_ok_inv hr
    obtain ⟨hd1, _, hs1, hle⟩ := run_slice_seek_start s _ d h1
    subst hd1
    dsimp only at h2
    have := slice_readU32_ok s1 d1 (by rw [hs1]; exact hle) (by rw [hs1]; exact hdev) h2
    rw [hs1] at this
    exact this
  | fat12 =>
    unfold Table.getRaw at hr
    dsimp only at hr
    obtain ⟨⟨t, s1⟩, d1, h1, h2⟩ := run_bind_ok_inv hr
    obtain ⟨hd1, _, hs1, hle⟩ := run_slice_seek_start s _ d h1
    subst hd1
    dsimp only at h2
    rcases run_bind_cases h2 with ⟨⟨packed, s2⟩, d2, h3, h4⟩ | ⟨e, _, he⟩
    · have h5 := slice_readU16_ok s1 d1 (by rw [hs1]; exact hle) (by rw [hs1]; exact hdev) h3
      rw [hs1] at h5
      cases run_pure_cases h4
      refine ⟨?_, h5.2.1, h5.2.2⟩
      simp only [imgFatRaw, h5.1]
    · cases he

/-- a successful `get_next_cluster` returns the link of the decoded FAT entry of the image -/
theorem nextCluster_ok (c : Nat) (d : Dev)
    (hdev : (fatSliceOf d.fs).beginOff + (fatSliceOf d.fs).size ≤ d.img.size) {n : Nat} {d' : Dev}
    (hr : run (nextCluster c) d = (.ok (some n), d')) :
    imgFatView d.fs d.img c = .data n ∧ d'.img = d.img ∧ d'.fs = d.fs := by
  unfold nextCluster at hr
  obtain ⟨fs, d0, h0, hr⟩ := run_bind_ok_inv hr
  simp only [Prog.getFs, run, stepOp] at h0
  cases h0
  dsimp only at hr
  obtain ⟨⟨r, it'⟩, d1, h1, h2⟩ := run_bind_ok_inv hr
  unfold Table.CIter.next at h1
  simp only [Bool.false_eq_true, if_false] at h1
  obtain ⟨⟨v, fat⟩, d2, h3, h4⟩ := run_bind_ok_inv h1
  unfold Table.get at h3
  obtain ⟨⟨raw, s2⟩, d3, h5, h6⟩ := run_bind_ok_inv h3
  obtain ⟨hraw, hi, hf⟩ := slice_getRaw_ok _ _ c d hdev h5
  cases run_pure_cases h6
  dsimp only at h4
  have h4' : run (Prog.pure _) d2 = ((.ok (r, it') : Except Err _), d1) := h4
  simp only [run] at h4'
  cases h4'
  dsimp only at h2
  have hview : imgFatView d.fs d.img c = Table.classify d.fs.fatType c raw := by
    simp only [imgFatView, hraw]
  rw [hview]
  cases hcl : Table.classify d.fs.fatType c raw with
  | data m =>
    rw [hcl] at h2
    simp only [Option.map] at h2
    cases h2
    exact ⟨rfl, hi, hf⟩
  | free => rw [hcl] at h2; simp only [Option.map] at h2; cases h2
  | bad => rw [hcl] at h2; simp only [Option.map] at h2; cases h2
  | eoc => rw [hcl] at h2; simp only [Option.map] at h2; cases h2

end FatVerif
