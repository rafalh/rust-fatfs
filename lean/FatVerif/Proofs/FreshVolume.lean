import FatVerif.Props.C06fat
import FatVerif.Props.C05img
import FatVerif.Proofs.GeoLayout
/-!
# C06 — the freshly formatted and mounted volume

On a volume that `format_volume` wrote (`C06image.Formatted`) and `mount` accepted (`Fresh`, Props/C06mount):

* `Fresh.geo`: the layout facts `FileSim.Geo` that the FAT / cluster-chain simulations (Proofs/FileSim*) assume hold;
* `Fresh.table`: the decoded FAT of the image (`C03img.imgTable`, first copy) has entries `[2, total+2)` free — except
  entry 2 = end-of-chain on FAT32 (the root directory cluster).
-/
namespace FatVerif.C06vol
open FatVerif FatVerif.Format FatVerif.FormatSpec FatVerif.C06image FatVerif.C06mount
open FatVerif.FileSim

/-- the largest cluster count of a width keeps every cluster number below its BAD mark -/
theorem maxClusters_small (ft : FatType) {tc : Nat} (h : tc ≤ maxClusters ft) : tc + 2 ≤ Fat.badMark ft := by
  cases ft <;> simp only [maxClusters, Fat.badMark] at * <;> omega

section fresh
variable {o : FormatOpts} {d0 d1 : Dev} {strict accDate lfnAlloc unicode : Bool}
  {boot : FBoot} {ft : FatType} {fs : FsState} {d2 : Dev}

theorem Fresh.fatSlice (F : Fresh o d0 d1 strict accDate lfnAlloc unicode boot ft fs d2) :
    (fatSliceOf fs).beginOff = boot.bpb.reserved * boot.bpb.bps ∧
    (fatSliceOf fs).size = boot.bpb.sectorsPerFat * boot.bpb.bps ∧
    (fatSliceOf fs).mirrors = boot.bpb.fats := by
  unfold fatSliceOf
  rw [if_pos F.extra.mirroring]
  simp only [F.reserved, F.bps, F.spf, F.fats, and_self]

/-- the number of clusters, as format computed it -/
theorem Fresh.tcEq (h : Formatted o d0 d1 boot ft) (F : Fresh o d0 d1 strict accDate lfnAlloc unicode boot ft fs d2) :
    fs.totalClusters = (fmtTotal o d0 - (boot.bpb.reserved + boot.bpb.fats * boot.bpb.sectorsPerFat +
      boot.bpb.rootDirSectors)) / boot.bpb.spc :=
  (h.geom.tc_eq F.tc).symm

/-- **the layout facts hold on a freshly formatted and mounted volume** (FAT32: for volumes whose FAT has no room for
    the BAD markers, as in `C06fat.formatted_fat`; this bounds one FAT copy by 4 GiB) -/
theorem Fresh.geo (h : Formatted o d0 d1 boot ft) (F : Fresh o d0 d1 strict accDate lfnAlloc unicode boot ft fs d2)
    (hcap : ft = .fat32 → boot.bpb.sectorsPerFat * boot.bpb.bps * 8 / 32 ≤ 0x0FFFFFF0) :
    Geo fs d2.img.size := by
  have hg := h.geom
  have hbps := hg.bps_ge
  have hfds := F.extra.firstDataSector
  have hfit := hg.fit
  have hmul : fs.totalClusters * boot.bpb.spc ≤ fmtTotal o d0 - fs.firstDataSector := by
    rw [F.tcEq h, hfds]; exact Nat.div_mul_le_self _ _
  refine Geo.of_layout (by rw [F.bps]; exact hbps) (by rw [F.spc]; exact hg.spc_pos)
    (by rw [F.reserved, hg.reserved]; unfold reservedFor; split <;> omega)
    (by rw [F.fats]; rcases hg.fats with h1 | h1 <;> omega) (fun hm => by rw [F.extra.mirroring] at hm; cases hm)
    (by rw [hfds, F.reserved, F.fats, F.spf]; omega) (by rw [F.spc, F.totalSectors]; omega)
    (by rw [F.totalSectors]; exact h.pre.tot) ?_ (by rw [F.spf, F.bps, F.fatType]; exact hg.cap_tc F.tc) ?_
    (by rw [F.fatType]; exact maxClusters_small ft (hg.tc_le F.tc))
  · rw [F.totalSectors, F.bps, F.img, h.size, h.bps]; exact h.pre.size
  · -- one FAT copy is below 4 GiB: FAT12/16 by the 16-bit field, FAT32 by `hcap`
    rw [F.spf, F.bps]
    by_cases h32 : ft = .fat32
    · have := hcap h32; omega
    · have := Nat.mul_le_mul (hg.spf16 h32) hg.bps_le
      omega

/-! ### the decoded FAT of the image -/

/-- **the table of a freshly formatted and mounted volume**: every entry `[2, total+2)` of the decoded FAT of the
    image is free — except, on FAT32, entry 2 (the root directory cluster), which is end-of-chain -/
theorem Fresh.table (h : Formatted o d0 d1 boot ft) (F : Fresh o d0 d1 strict accDate lfnAlloc unicode boot ft fs d2)
    (hcap : ft = .fat32 → boot.bpb.sectorsPerFat * boot.bpb.bps * 8 / 32 ≤ 0x0FFFFFF0) :
    (∀ c, 2 ≤ c → c < fs.totalClusters + 2 → (ft = .fat32 → c ≠ 2) → C03img.imgTable fs d2.img c = .free) ∧
    (ft = .fat32 → C03img.imgTable fs d2.img 2 = .eoc) := by
  obtain ⟨tc, htc, _, _, hv⟩ := C06fat.formatted_fat h hcap
  rw [F.tc] at htc
  simp only [Except.ok.injEq] at htc
  subst htc
  obtain ⟨hB, hZ, _⟩ := F.fatSlice
  have hcapc := h.geom.cap_tc F.tc
  unfold C03img.imgTable imgFatBytes
  rw [F.fatType, hB, hZ, F.img]
  refine ⟨fun c h2 hlt hne => ?_, fun h32 => ?_⟩
  · rw [hv c h2 (by omega), if_neg (fun hh => hh.elim (fun a => hne a.1 a.2) (by omega))]
  · have := h.geom.tc32 h32 F.tc
    rw [hv 2 (Nat.le_refl _) (by omega), if_pos (Or.inl ⟨h32, rfl⟩)]

end fresh

/-! ### counting -/

/-- a table whose first `k` entries are in use and whose other entries are free has `total - k` free entries -/
theorem countFreeV_tail_free (g : Nat → FatValue) (k : Nat) : ∀ total,
    (∀ c, 2 + k ≤ c → c < total + 2 → g c = .free) → (∀ c, 2 ≤ c → c < 2 + k → g c ≠ .free) →
    Fat.countFreeV g total = total - k := by
  intro total
  induction total with
  | zero => intro _ _; simp [Fat.countFreeV]
  | succ n ih =>
    intro h1 h2
    rw [Fat.countFreeV_succ, ih (fun c a b => h1 c a (by omega)) h2]
    by_cases hk : k ≤ n
    · rw [if_pos (h1 (n + 2) (by omega) (by omega))]; omega
    · rw [if_neg (h2 (n + 2) (by omega) (by omega))]; omega

end FatVerif.C06vol
