import FatVerif.Model.DirAlias
import FatVerif.Proofs.NamesTerm
import FatVerif.Proofs.NamesValidate
/-! The directory-level alias loop over the listing: a hit is `DirSlots.findEntryKind`'s answer; an alias is what
    `Names.generate` returns in a state reachable from `new`, fed with all listed raw short names. -/
namespace FatVerif
namespace DirAlias
open Lfn DirSlots

/-- the kind check of `find_entry` on the first hit -/
def kindResult (isDir : Option Bool) : Option LfnEntry → Except Err LfnEntry
  | none => .error .notFound
  | some e =>
    match isDir with
    | some d => if Lfn.isDir e.sfn == d then .ok e else .error .invalidInput
    | none => .ok e

/-- the only error of the kind check on a hit -/
theorem kindResult_error {isDir : Option Bool} {e : LfnEntry} {x : Err} (h : kindResult isDir (some e) = .error x) :
    x = .invalidInput := by
  unfold kindResult at h
  cases isDir with
  | none => simp at h
  | some d => by_cases hd : Lfn.isDir e.sfn = d <;> simp [hd] at h; exact h.symm

theorem findEntryKind_eq (upper : Char → List Char) (slots : List (List Nat)) (name : List Char)
    (isDir : Option Bool) : findEntryKind upper slots name isDir = kindResult isDir (findEntry upper slots name) := by
  unfold findEntryKind kindResult
  cases findEntry upper slots name <;> rfl

theorem kind_cond (b : Bool) (isDir : Option Bool) :
    (isDir.isSome && some b != isDir) = match isDir with | some d => !(b == d) | none => false := by
  cases isDir with
  | none => rfl
  | some d => cases b <;> cases d <;> rfl

/-- the lookup outcome of a scan is `find_entry`'s: first hit + kind check -/
theorem scan_fst (upper : Char → List Char) (name : List Char) (isDir : Option Bool) (L : List LfnEntry)
    (g : Names.Gen) :
    (scan upper name isDir L g).1 = kindResult isDir (L.find? fun e => matchesName upper e name) := by
  induction L generalizing g with
  | nil => rfl
  | cons e es ih =>
    unfold scan
    by_cases hm : matchesName upper e name = true
    · simp only [hm, if_true, List.find?_cons_of_pos]
      rw [kind_cond]
      unfold kindResult
      cases isDir with
      | none => simp
      | some d => by_cases hd : Lfn.isDir e.sfn = d <;> simp [hd]
    · simp only [hm, Bool.false_eq_true, if_false]
      rw [List.find?_cons_of_neg (by simpa using hm)]
      exact ih _

/-- when nothing matches, the scan fed every listed raw short name, in order -/
theorem scan_snd (upper : Char → List Char) (name : List Char) (isDir : Option Bool) (L : List LfnEntry)
    (g : Names.Gen) (h : (L.find? fun e => matchesName upper e name) = none) :
    (scan upper name isDir L g).2 = Names.addAll g (L.map fun e => sfnName e.sfn) := by
  induction L generalizing g with
  | nil => rfl
  | cons e es ih =>
    have hm : matchesName upper e name = false := by
      have := List.find?_eq_none.1 h e (by simp)
      simpa using this
    have hes : (es.find? fun e => matchesName upper e name) = none := by
      rw [List.find?_cons_of_neg (by simp [hm])] at h; exact h
    unfold scan
    simp only [hm, Bool.false_eq_true, if_false, List.map_cons, Names.addAll, List.foldl_cons]
    exact ih _ hes

/-- an entry matches: the first round returns it (or the kind error); no alias is generated -/
theorem loop_found (upper : Char → List Char) (L : List LfnEntry) (name : List Char) (isDir : Option Bool)
    (fuel : Nat) (g : Names.Gen) (e : LfnEntry) (h : (L.find? fun e => matchesName upper e name) = some e) :
    loop upper L name isDir (fuel + 1) g =
      match kindResult isDir (some e) with
      | .ok e => .ok (.entry e)
      | .error x => .error x := by
  have h1 := scan_fst upper name isDir L g
  rw [h] at h1
  unfold loop
  generalize scan upper name isDir L g = r at h1
  obtain ⟨r1, r2⟩ := r
  simp only at h1
  subst h1
  unfold kindResult
  cases isDir with
  | none => rfl
  | some d => by_cases hd : Lfn.isDir e.sfn = d <;> simp [hd]

/-- one round when nothing matches the name: the scan feeds the whole population, then the three outcomes -/
theorem loop_succ_notfound (upper : Char → List Char) (L : List LfnEntry) (name : List Char) (isDir : Option Bool)
    (h : (L.find? fun e => matchesName upper e name) = none) (fuel : Nat) (g : Names.Gen) :
    loop upper L name isDir (fuel + 1) g =
      match Names.generate (Names.addAll g (L.map fun e => sfnName e.sfn)) with
      | .ok a =>
        if displayAscii a then
          match lookupNoGen upper L (Names.aliasDisplay a) with
          | none => .ok (.alias a)
          | some _ => loop upper L name isDir fuel
              (Names.addExisting (Names.addAll g (L.map fun e => sfnName e.sfn)) a)
        else .ok (.alias a)
      | .error _ => loop upper L name isDir fuel
          (Names.nextIteration (Names.addAll g (L.map fun e => sfnName e.sfn))) := by
  have h1 := scan_fst upper name isDir L g
  have h2 := scan_snd upper name isDir L g h
  rw [h] at h1
  conv => lhs; unfold loop
  generalize scan upper name isDir L g = r at h1 h2
  obtain ⟨r1, r2⟩ := r
  simp only [kindResult] at h1 h2
  subst h1 h2
  rfl

/-- nothing matches the name: whatever alias the loop returns was produced by `generate` in a reachable state that
    had just been fed the whole population, and its display form (when it is ASCII, i.e. always) is answered by no
    listed entry -/
theorem loop_alias_inv (upper : Char → List Char) (L : List LfnEntry) (name : List Char) (isDir : Option Bool)
    (h : (L.find? fun e => matchesName upper e name) = none) (g0 : Names.Gen) (a : List Nat) :
    ∀ (fuel : Nat) (g : Names.Gen), Names.Reach g0 g → loop upper L name isDir fuel g = .ok (.alias a) →
      ∃ g', Names.Reach g0 g' ∧ Names.generate (Names.addAll g' (L.map fun e => sfnName e.sfn)) = .ok a ∧
        (displayAscii a = true → lookupNoGen upper L (Names.aliasDisplay a) = none) := by
  intro fuel
  induction fuel with
  | zero => intro g _ hl; simp [loop] at hl
  | succ fuel ih =>
    intro g r hl
    rw [loop_succ_notfound upper L name isDir h] at hl
    cases hg : Names.generate (Names.addAll g (L.map fun e => sfnName e.sfn)) with
    | ok a' =>
      rw [hg] at hl
      simp only at hl
      by_cases hd : displayAscii a' = true
      · rw [if_pos hd] at hl
        cases hk : lookupNoGen upper L (Names.aliasDisplay a') with
        | none =>
          rw [hk] at hl
          simp only [Except.ok.injEq, EntryOrAlias.alias.injEq] at hl
          subst hl
          exact ⟨g, r, hg, fun _ => hk⟩
        | some e =>
          rw [hk] at hl
          exact ih _ (Names.Reach.add a' (r.addAll _)) hl
      · rw [if_neg hd] at hl
        simp only [Except.ok.injEq, EntryOrAlias.alias.injEq] at hl
        subst hl
        exact ⟨g, r, hg, fun h' => absurd h' hd⟩
    | error x =>
      rw [hg] at hl
      exact ih _ (Names.Reach.next (r.addAll _)) hl

/-- nothing matches the name: the loop ends with an alias or runs out of fuel, nothing else -/
theorem loop_none_cases (upper : Char → List Char) (L : List LfnEntry) (name : List Char) (isDir : Option Bool)
    (h : (L.find? fun e => matchesName upper e name) = none) :
    ∀ (fuel : Nat) (g : Names.Gen),
      (∃ a, loop upper L name isDir fuel g = .ok (.alias a)) ∨ loop upper L name isDir fuel g = .error .hang := by
  intro fuel
  induction fuel with
  | zero => intro g; right; rfl
  | succ fuel ih =>
    intro g
    rw [loop_succ_notfound upper L name isDir h]
    cases hg : Names.generate (Names.addAll g (L.map fun e => sfnName e.sfn)) with
    | ok a' =>
      simp only
      by_cases hd : displayAscii a' = true
      · rw [if_pos hd]
        cases hk : lookupNoGen upper L (Names.aliasDisplay a') with
        | none => exact Or.inl ⟨a', rfl⟩
        | some e => exact ih _
      · rw [if_neg hd]; exact Or.inl ⟨a', rfl⟩
    | error x => exact ih _

/-! ## facts about valid names, generated aliases and the short slot built from an alias -/

theorem length_le_utf8Len : ∀ cs : List Char, cs.length ≤ Names.utf8Len cs
  | [] => by simp [Names.utf8Len]
  | c :: cs => by
    have := c.utf8Size_pos
    have := length_le_utf8Len cs
    simp only [List.length_cons, Names.utf8Len]; omega

theorem encode_bmp : ∀ cs : List Char, (∀ c ∈ cs, c.toNat < 0x10000) → Names.encodeUtf16 cs = cs.map Char.toNat
  | [], _ => rfl
  | c :: cs, h => by
    have hc : c.toNat < 0x10000 := h c (by simp)
    unfold Names.encodeUtf16
    simp only [hc, if_true, List.map_cons]
    rw [encode_bmp cs (fun x hx => h x (by simp [hx]))]

/-- the UTF-16 units of a name `validate_long_name` accepts: one unit per character, 1 … 255 of them, none zero -/
theorem valid_units {cs : List Char} (hv : Names.validateLongNameL cs = .ok ()) :
    cs ≠ [] ∧ Names.encodeUtf16 cs = cs.map Char.toNat ∧
    1 ≤ (Names.encodeUtf16 cs).length ∧ (Names.encodeUtf16 cs).length ≤ 255 ∧
    (∀ x ∈ Names.encodeUtf16 cs, x < 65536) ∧ (∀ x ∈ Names.encodeUtf16 cs, x ≠ 0) := by
  obtain ⟨h1, h255, hc⟩ := (Names.validateL_ok_iff cs).1 hv
  have hne : cs ≠ [] := by
    intro h0; rw [h0] at h1; simp [Names.utf8Len] at h1
  have hb : ∀ c ∈ cs, c.toNat < 0x10000 := fun c hcm => by have := (hc c hcm).2.1; omega
  have he := encode_bmp cs hb
  have hl := length_le_utf8Len cs
  have hpos : 1 ≤ cs.length := by
    cases cs with
    | nil => exact absurd rfl hne
    | cons _ _ => simp
  refine ⟨hne, he, by rw [he]; simpa using hpos, by rw [he]; simp; omega, ?_, ?_⟩
  · intro x hx
    rw [he] at hx
    obtain ⟨c, hcm, rfl⟩ := List.mem_map.1 hx
    exact hb c hcm
  · intro x hx
    rw [he] at hx
    obtain ⟨c, hcm, rfl⟩ := List.mem_map.1 hx
    have := (hc c hcm).1; omega

/-- every name `generate` returns has 11 bytes (any name, the empty one included) -/
theorem generate_length {g : Names.Gen} (h : Names.GenWF g) {a : List Nat} (hg : Names.generate g = .ok a) :
    a.length = 11 := by
  by_cases hx : a = g.shortName
  · rw [hx]; exact Names.shortName_length h
  · exact (Names.generate_legal_prefixed h hg hx).1

theorem sfnName_sfnWith (a body : List Nat) (ha : a.length = 11) : sfnName (sfnWith a body) = a := by
  unfold sfnName sfnWith Lfn.byte
  apply List.ext_getElem
  · simp [ha]
  · intro i h1 h2
    simp only [List.getElem_map, List.getElem_range, List.getD_eq_getElem?_getD]
    rw [List.getElem?_append_left h2]
    simp [h2]

/-- a short slot whose name is a legal alias and whose attribute byte has no VOLUME_ID bit is a file-class slot -/
theorem slotClass_sfnWith (a : List Nat) (attr : Nat) (rest : List Nat) (ha : Names.LegalAlias a)
    (hattr : attr % 64 / 8 % 2 = 0) : slotClass (sfnWith a (attr :: rest)) = .file := by
  obtain ⟨hl, _, _, h0, _, hE5, _⟩ := ha
  cases a with
  | nil => simp at hl
  | cons x xs =>
    have hx0 : x ≠ 0 := by simpa using h0
    have hxE : x ≠ 0xE5 := by simpa using hE5
    have hb0 : Lfn.byte (sfnWith (x :: xs) (attr :: rest)) 0 = x := by simp [sfnWith, Lfn.byte]
    have hb11 : Lfn.byte (sfnWith (x :: xs) (attr :: rest)) 11 = attr := by
      unfold sfnWith Lfn.byte
      rw [List.getD_eq_getElem?_getD, List.getElem?_append_right (by omega), hl]
      simp
    have h3 : ¬ attr % 64 % 16 = 15 := by omega
    have h4 : ¬ attr % 64 / 8 % 2 = 1 := by omega
    unfold slotClass Lfn.isEnd Lfn.isDeleted Lfn.isLfn Lfn.isVolume Lfn.attrs
    rw [hb0, hb11]
    rw [if_neg (by simpa using hx0), if_neg (by simpa using hxE), if_neg (by simpa using h3),
      if_neg (by simpa using h4)]

theorem check_found (upper : Char → List Char) (slots : List (List Nat)) (name : String) (isDir : Option Bool)
    (fuel : Nat) (e : LfnEntry) (h : findEntry upper slots name.toList = some e) :
    checkForExistenceL upper slots name isDir (fuel + 1) =
      match kindResult isDir (some e) with
      | .ok e => .ok (.entry e)
      | .error x => .error x := by
  obtain ⟨g, hg⟩ := Names.newL_total name.toList
  unfold checkForExistenceL Names.new
  rw [hg]
  exact loop_found upper _ _ isDir fuel g e h

/-- in any directory the call is the loop on the generator `new` builds; the not-found branches start from here -/
theorem check_notfound (upper : Char → List Char) (slots : List (List Nat)) (name : String) (isDir : Option Bool)
    (fuel : Nat) :
    ∃ g, Names.new name = .ok g ∧
      checkForExistenceL upper slots name isDir fuel = loop upper (listing slots) name.toList isDir fuel g := by
  obtain ⟨g, hg⟩ := Names.newL_total name.toList
  refine ⟨g, hg, ?_⟩
  unfold checkForExistenceL Names.new
  rw [hg]

/-- if the result is an alias: nothing matched the name; the alias is what `generate` returns in a reachable state
    fed with ALL listed raw short names; and no listed entry answers to its display form -/
theorem check_alias (upper : Char → List Char) (slots : List (List Nat)) (name : String) (isDir : Option Bool)
    (fuel : Nat) (a : List Nat) (h : checkForExistenceL upper slots name isDir fuel = .ok (.alias a)) :
    findEntry upper slots name.toList = none ∧
    ∃ g g', Names.new name = .ok g ∧ Names.Reach g g' ∧
      Names.generate (Names.addAll g' (population slots)) = .ok a ∧
      (displayAscii a = true → findEntry upper slots (Names.aliasDisplay a) = none) := by
  cases hf : findEntry upper slots name.toList with
  | some e =>
    exfalso
    cases fuel with
    | zero =>
      obtain ⟨g, hg⟩ := Names.newL_total name.toList
      unfold checkForExistenceL Names.new at h
      rw [hg] at h
      simp [loop] at h
    | succ fuel =>
      rw [check_found upper slots name isDir fuel e hf] at h
      cases hk : kindResult isDir (some e) <;> rw [hk] at h <;> simp at h
  | none =>
    obtain ⟨g, hg, hc⟩ := check_notfound upper slots name isDir fuel
    rw [hc] at h
    obtain ⟨g', r, h1, h2⟩ := loop_alias_inv upper _ _ isDir hf g a fuel g Names.Reach.refl h
    exact ⟨rfl, g, g', hg, r, h1, h2⟩

end DirAlias
end FatVerif
