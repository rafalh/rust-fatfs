import FatVerif.Proofs.FileSimDirty
/-!
# FileSim / FAT write: writes through the mirrored FAT slice

Forward evaluation of `FsIoAdapter::write`, `write_all`, `DiskSlice::write` with its mirrors on the FAT slice of a
fault-free device.  The adapter marks the volume dirty before the first modifying write (`markDirtyBeforeWrite`: the
status byte, below `0x42`); after that the bytes land in every FAT copy, the first copy gets exactly the bytes
written, and nothing else changes.  On a volume that is marked already the write records are exactly the mirror
records.
-/
namespace FatVerif.FileSim
open FatVerif FatVerif.Fat

theorem run_markDirty_noop (d : Dev) (hcd : d.fs.curDirty = true) : run markDirtyBeforeWrite d = (.ok (), d) := by
  unfold markDirtyBeforeWrite
  rw [run_bind_ok (run_getFs d)]
  simp only [hcd, if_true]
  rfl

/-- the device after `markDirtyBeforeWrite` -/
structure Marked (d dm : Dev) : Prop where
  step : DevStep d dm
  fs_eq : dm.fs = markedFs d.fs
  pos : dm.pos = d.pos
  bytes : d.img.WF → ∀ q, 0x42 ≤ q → dm.img.getByte q = d.img.getByte q
  same : d.fs.curDirty = true → dm = d

/-- `markDirtyBeforeWrite` succeeds; the position is the one before, only the status byte may have changed -/
theorem run_markDirty (d : Dev) (hfa : d.failAt = none) (hsz : 0x42 ≤ d.img.size) :
    ∃ dm, run markDirtyBeforeWrite d = (.ok (), dm) ∧ Marked d dm := by
  by_cases hcd : d.fs.curDirty = true
  · exact ⟨d, run_markDirty_noop d hcd, DevStep.refl d, (markedFs_of_dirty hcd).symm, rfl, fun _ _ _ => rfl,
      fun _ => rfl⟩
  · have hcl : d.fs.curDirty = false := by cases h : d.fs.curDirty <;> simp_all
    unfold markDirtyBeforeWrite
    rw [run_bind_ok (run_getFs d)]
    simp only [hcl, Bool.false_eq_true, if_false]
    rw [run_bind_ok (run_seekCur0 d hfa)]
    obtain ⟨d1, h1, hs1, _, _, hb1, _, hfs1⟩ := run_setDirtyFlag (d.didSeek d.pos) hfa hsz
    rw [run_bind_ok h1, run_bind_ok (run_seekStart d.pos d1 (by rw [hs1.failAt]; exact hfa))]
    have hlt := statusOff_lt d.fs
    exact ⟨d1.didSeek d.pos, rfl,
      ((DevStep.of_sameStore (sameStore_didSeek d d.pos)).trans hs1).trans
        (DevStep.of_sameStore (sameStore_didSeek d1 d.pos)),
      hfs1 hcl, rfl, fun hwf q hq => hb1 hwf q (by show q ≠ statusOff d.fs; omega), fun h => absurd h hcd⟩

/-- one write through the inner stream of a FAT slice: the mark (if due), then the write -/
theorem run_inner_write (s : DiskSlice) (hv : s.viaFs = true) (bs : List Nat) (hne : 0 < bs.length) (d : Dev)
    (hfa : d.failAt = none) (hsz : 0x42 ≤ d.img.size) :
    ∃ dm, Marked d dm ∧
      run (s.inner.write () bs) d = (.ok (min bs.length (dm.img.size - dm.pos), ()), didWrite dm bs) := by
  obtain ⟨dm, hr, hm⟩ := run_markDirty d hfa hsz
  refine ⟨dm, hm, ?_⟩
  unfold DiskSlice.inner
  rw [if_pos hv]
  unfold adapterStrm
  dsimp only
  rw [if_pos hne, run_bind_ok hr, run_bind_ok (run_write bs dm (by rw [hm.step.failAt]; exact hfa))]
  rfl

/-- the records of the mirror loop: the same bytes at `off + i * size` for `k` copies from copy `i` on -/
def mirrorRecs (off size : Nat) (bs : List Nat) : Nat → Nat → List Rec
  | 0, _ => []
  | k + 1, i => (off + i * size, bs) :: mirrorRecs off size bs k (i + 1)

theorem recItems_cons (r : Rec) (rs : List Rec) : recItems (r :: rs) = recItems rs ++ [LogItem.write r.1 r.2] := by
  simp [recItems]

/-- the mirror loop of `DiskSlice::write`: the volume is marked, the copies `i … i + k − 1` get the bytes -/
theorem run_writeMirrors (s : DiskSlice) (hv : s.viaFs = true) (off : Nat) (bs : List Nat) (hne : 0 < bs.length)
    (hle : bs.length ≤ s.size) (hoff : 0x42 ≤ off) :
    ∀ (k i : Nat) (d : Dev), d.failAt = none → d.img.WF →
      (∀ i', i ≤ i' → i' < i + k → off + i' * s.size + bs.length ≤ d.img.size) →
      ∃ d', run (s.writeMirrors off bs k i) d = (.ok (), d') ∧ DevStep d d' ∧ (0 < k → d'.fs = markedFs d.fs) ∧
        (∀ q, 0x42 ≤ q ∨ d.fs.curDirty = true →
          (∀ i', i ≤ i' → i' < i + k → ¬ (off + i' * s.size ≤ q ∧ q < off + i' * s.size + bs.length)) →
          d'.img.getByte q = d.img.getByte q) ∧
        (0 < k → ∀ q, off + i * s.size ≤ q → q < off + i * s.size + bs.length →
          d'.img.getByte q = bs.getD (q - (off + i * s.size)) 0 % 256) ∧
        (d.fs.curDirty = true → d'.fs = d.fs ∧ d'.log = recItems (mirrorRecs off s.size bs k i) ++ d.log ∧
          d'.img = applyRecs d.img (mirrorRecs off s.size bs k i)) := by
  intro k
  induction k with
  | zero =>
    intro i d _ _ _
    exact ⟨d, rfl, DevStep.refl d, fun h => absurd h (by omega), fun _ _ _ => rfl, fun h => absurd h (by omega),
      fun _ => ⟨rfl, rfl, rfl⟩⟩
  | succ k ih =>
    intro i d hfa hwf hroom
    have hfit := hroom i (Nat.le_refl _) (by omega)
    unfold DiskSlice.writeMirrors
    rw [run_bind_ok (run_inner_seek s _ d hfa)]
    obtain ⟨dm, hm, hw⟩ := run_inner_write s hv bs hne (d.didSeek (off + i * s.size)) hfa
      (by simp only [didSeek_img]; omega)
    have hfitm : dm.pos + bs.length ≤ dm.img.size := by rw [hm.pos, hm.step.size]; exact hfit
    rw [show min bs.length (dm.img.size - dm.pos) = bs.length by omega] at hw
    rw [run_bind_ok (run_writeAll_of_write _ (List.ne_nil_of_length_pos hne) hw)]
    have hwfm : dm.img.WF := hm.step.wf hwf
    generalize hd1 : didWrite dm bs = d1
    have himg1 : d1.img = dm.img.write (off + i * s.size) bs := by
      rw [← hd1, didWrite_img _ _ hfitm, hm.pos]; rfl
    have hstep1 : DevStep dm d1 := hd1 ▸ DevStep.didWrite dm bs
    have hfs1 : d1.fs = markedFs d.fs := by rw [← hd1]; exact hm.fs_eq
    have hcd1 : d1.fs.curDirty = true := by rw [hfs1]; exact markedFs_curDirty _
    obtain ⟨d2, h2, hs2, _, hfr2, _, hrec2⟩ := ih (i + 1) d1 (by rw [hstep1.failAt, hm.step.failAt]; exact hfa)
      (hstep1.wf hwfm) (fun i' h1 h2 => by
        rw [hstep1.size, hm.step.size]; exact hroom i' (by omega) (by omega))
    obtain ⟨hfs2, hlog2, himg2⟩ := hrec2 hcd1
    refine ⟨d2, h2, (((DevStep.of_sameStore (sameStore_didSeek d _)).trans hm.step).trans hstep1).trans hs2, fun _ => hfs2.trans hfs1, fun q hq hout => ?_,
      fun _ q h1 h2 => ?_, fun hcd => ?_⟩
    · rw [hfr2 q (Or.inr hcd1) (fun i' h1 h2 => hout i' (by omega) (by omega)), himg1,
        Img.getByte_write_of_not_mem _ hwfm _ _ _ (hout i (Nat.le_refl _) (by omega))]
      rcases hq with hq | hq
      · exact hm.bytes hwf q hq
      · rw [hm.same hq]; rfl
    · have hnot : ∀ i', i + 1 ≤ i' → i' < i + 1 + k → ¬ (off + i' * s.size ≤ q ∧ q < off + i' * s.size + bs.length) := by
        intro i' hi _ ⟨h3, _⟩
        have : (i + 1) * s.size ≤ i' * s.size := Nat.mul_le_mul_right _ hi
        rw [Nat.succ_mul] at this
        omega
      rw [hfr2 q (Or.inr hcd1) hnot, himg1, Img.getByte_write _ hwfm, if_pos ⟨h1, h2⟩]
    · have hdm := hm.same hcd
      rw [hdm] at hd1 himg1
      have hlog1 : d1.log = .write (off + i * s.size) bs :: d.log := by
        rw [← hd1, didWrite_log _ _ (by rw [← hdm]; exact hfitm)]; rfl
      refine ⟨by rw [hfs2, hfs1, markedFs_of_dirty hcd], ?_, by rw [himg2, himg1]; rfl⟩
      rw [hlog2, hlog1]
      show _ = recItems ((off + i * s.size, bs) :: mirrorRecs off s.size bs k (i + 1)) ++ d.log
      rw [recItems_cons]
      simp

/-- the effect of a write into the FAT slice on the image: the volume is marked; the first FAT copy gets the bytes at
    slice offset `o`; besides the status byte only the windows `[o, o + |bs|)` of the FAT copies change -/
structure FatWrote (fs : FsState) (d d' : Dev) (o : Nat) (bs : List Nat) : Prop where
  step : DevStep d d'
  fs_eq : d'.fs = markedFs d.fs
  first : ∀ i, i < (fatSliceOf fs).size → d'.img.getByte ((fatSliceOf fs).beginOff + i) =
    if o ≤ i ∧ i < o + bs.length then bs.getD (i - o) 0 % 256 else d.img.getByte ((fatSliceOf fs).beginOff + i)
  fine : ∀ q, 0x42 ≤ q ∨ d.fs.curDirty = true → (∀ i, i < (fatSliceOf fs).mirrors →
      ¬ ((fatSliceOf fs).beginOff + o + i * (fatSliceOf fs).size ≤ q ∧
         q < (fatSliceOf fs).beginOff + o + i * (fatSliceOf fs).size + bs.length)) →
    d'.img.getByte q = d.img.getByte q
  /-- on a volume already marked the device write records are the bytes, once per FAT copy, first copy first -/
  recs : d.fs.curDirty = true →
    d'.log = recItems (mirrorRecs ((fatSliceOf fs).beginOff + o) (fatSliceOf fs).size bs (fatSliceOf fs).mirrors 0) ++
      d.log ∧
    d'.img = applyRecs d.img
      (mirrorRecs ((fatSliceOf fs).beginOff + o) (fatSliceOf fs).size bs (fatSliceOf fs).mirrors 0)

theorem FatWrote.of_sameStore {fs : FsState} {d d1 d' : Dev} {o : Nat} {bs : List Nat} (hs : SameStore d d1)
    (h : FatWrote fs d1 d' o bs) : FatWrote fs d d' o bs :=
  ⟨(DevStep.of_sameStore hs).trans h.step, by rw [h.fs_eq, hs.fs], fun i hi => by rw [h.first i hi, hs.img],
   fun q hq hout => by rw [h.fine q (by rw [hs.fs]; exact hq) hout, hs.img],
   fun hcd => by rw [← hs.log, ← hs.img]; exact h.recs (by rw [hs.fs]; exact hcd)⟩

/-- `q` lies in the byte window of the FAT entry of cluster `c` in one of the FAT copies -/
def FatEntryPos (fs : FsState) (c q : Nat) : Prop :=
  ∃ i, i < (fatSliceOf fs).mirrors ∧
    (fatSliceOf fs).beginOff + entOff fs.fatType c + i * (fatSliceOf fs).size ≤ q ∧
    q < (fatSliceOf fs).beginOff + entOff fs.fatType c + i * (fatSliceOf fs).size + entWidth fs.fatType

/-- `write_all` on the FAT slice of a non-empty buffer that fits the slice -/
theorem run_fat_writeAll (fs : FsState) (s : DiskSlice) (hs : IsFatSlice fs s) (bs : List Nat) (hne : 0 < bs.length)
    (hfit : s.offset + bs.length ≤ s.size) (d : Dev) (hfa : d.failAt = none) (hwf : d.img.WF)
    (hg : Geo fs d.img.size) :
    ∃ d', run (writeAll DiskSlice.strm s bs) d = (.ok { s with offset := s.offset + bs.length }, d') ∧
      FatWrote fs d d' s.offset bs := by
  obtain ⟨hb, hsz, hm, hvf⟩ := hs
  have hmpos := hg.mirrors_pos
  have hst := hg.status_lt
  have hroom : ∀ i', 0 ≤ i' → i' < 0 + s.mirrors →
      s.beginOff + s.offset + i' * s.size + bs.length ≤ d.img.size := by
    intro i' _ h2
    have h1 := hg.fats_dev
    have : (i' + 1) * s.size ≤ s.mirrors * s.size := Nat.mul_le_mul_right _ (by omega)
    rw [Nat.succ_mul] at this
    rw [← hb, ← hsz, ← hm] at h1
    omega
  obtain ⟨d1, h1, hs1, hfs1, hfr1, hv1, hrec1⟩ := run_writeMirrors s hvf (s.beginOff + s.offset) bs hne (by omega)
    (by omega) s.mirrors 0 d hfa hwf hroom
  have hwin : ∀ q i', (s.beginOff + s.offset + i' * s.size ≤ q ∧ q < s.beginOff + s.offset + i' * s.size + bs.length) ↔
      ((fatSliceOf fs).beginOff + s.offset + i' * (fatSliceOf fs).size ≤ q ∧
        q < (fatSliceOf fs).beginOff + s.offset + i' * (fatSliceOf fs).size + bs.length) := by
    intro q i'; rw [hb, hsz]
  refine ⟨d1, ?_, hs1, hfs1 (by omega), fun i hi => ?_, fun q hq hout => ?_, fun hcd => ?_⟩
  · apply run_writeAll_of_write _ (List.ne_nil_of_length_pos hne)
    show run (s.write bs) d = _
    unfold DiskSlice.write
    simp only [show min bs.length (s.size - s.offset) = bs.length by omega]
    rw [if_neg (by omega), List.take_length, run_bind_ok h1]
    rfl
  · by_cases hin : s.offset ≤ i ∧ i < s.offset + bs.length
    · rw [if_pos hin, hv1 (by omega) ((fatSliceOf fs).beginOff + i) (by rw [hb]; omega) (by rw [hb]; omega)]
      congr 2
      rw [hb]; omega
    · rw [if_neg hin]
      apply hfr1 _ (Or.inl (by omega))
      intro i' _ _ ⟨h3, h4⟩
      rcases Nat.eq_zero_or_pos i' with h0 | h0
      · subst h0; rw [hb] at h3 h4; omega
      · have : 1 * s.size ≤ i' * s.size := Nat.mul_le_mul_right _ h0
        rw [hb, hsz] at h3
        rw [hsz] at this
        omega
  · exact hfr1 q hq fun i' _ h2 h34 => hout i' (by omega) ((hwin q i').mp h34)
  · obtain ⟨_, hl, hi⟩ := hrec1 hcd
    rw [hb, hsz, hm] at hl hi
    exact ⟨hl, hi⟩

/-- the records of one FAT update are entry-window records of `c`: the first-copy record changes the decoded value of
    `c` only (hypothesis `hkeep`, the read-modify-write), the others do not touch the first copy -/
theorem classified_mirrors (fs : FsState) (sz : Nat) (hg : Geo fs sz) (c : Nat) (hc : c < fs.totalClusters + 2)
    (bs : List Nat) (hlen : bs.length = entWidth fs.fatType) (E D : Nat → Prop) (hE : E c) :
    ∀ (k i : Nat) (img : Img), img.WF → img.size = sz → i + k ≤ (fatSliceOf fs).mirrors →
      (i = 0 → ∀ x, x ≠ c →
        tabView fs (img.write ((fatSliceOf fs).beginOff + entOff fs.fatType c) bs) x = tabView fs img x) →
      Classified fs E D img
        (mirrorRecs ((fatSliceOf fs).beginOff + entOff fs.fatType c) (fatSliceOf fs).size bs k i) := by
  intro k
  induction k with
  | zero => intro i img _ _ _ _; exact trivial
  | succ k ih =>
    intro i img hwf hsz hik hkeep
    refine ⟨Or.inr (Or.inr ⟨c, i, hE, hc, by omega, by simp only [Nat.add_assoc], hlen, ?_⟩), ?_⟩
    · intro x hx
      by_cases hi : i = 0
      · subst hi
        simp only [Nat.zero_mul, Nat.add_zero]
        exact hkeep rfl x hx
      · have hfat : FatAgree fs img (img.write ((fatSliceOf fs).beginOff + entOff fs.fatType c + i * (fatSliceOf fs).size) bs) := by
          intro q h1 h2
          apply Img.getByte_write_of_not_mem _ hwf
          rintro ⟨h3, _⟩
          have : 1 * (fatSliceOf fs).size ≤ i * (fatSliceOf fs).size := Nat.mul_le_mul_right _ (by omega)
          omega
        have hg' : Geo fs img.size := by rw [hsz]; exact hg
        rw [tabView_congr hg' hfat]
    · exact ih (i + 1) _ (Img.wf_write _ hwf _ _) (by rw [Img.write_size]; exact hsz) (by omega)
        (fun h => absurd h (by omega))

end FatVerif.FileSim
