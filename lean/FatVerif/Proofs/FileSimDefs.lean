import FatVerif.Proofs.FileSimIter
import FatVerif.Props.C02
/-!
# FileSim / definitions: the abstraction `absFile`, the representation invariant `FileRep`

`absFile fs img f` maps a byte-level handle `f : FileH` on the image `img` of a volume mounted as `fs` to a state of the
cursor machine `Cursor.AFile` (Model/AFile.lean):

* `cs` = `fs.clusterSize`;
* `chain` = the clusters reached from `f.firstCluster` by following the `data` links of the decoded FAT of the image
  (`chainFrom (tabView fs img)`, fuel `total + 2`);
* `data c j` = the byte of the image at offset `j` of cluster `c` (`clusterOff fs c + j`);
* `size` = the size recorded in the handle's directory-entry editor; `firstCluster`, `offset`, `current` from the handle;
* the bookkeeping fields `dirty`, `mtime`, `now` of the machine (which no result and no byte depends on) are not
  represented: they are fixed to `false, 0, 0`, and states are compared with `CoreEq`, which ignores them.

`FileRep fs img f`: `f` is a regular file (its editor records a size) and `absFile fs img f` satisfies the cursor
machine's invariant `Cursor.AFileInv` (current cluster = cluster of the byte before the cursor, `⌈size/cs⌉ ≤` chain
length, …) with "free" read off the decoded FAT; the chain is the FAT chain of the first cluster, lies inside the table
`[2, total + 2)`, and ends with an end-of-chain mark.
-/
namespace FatVerif.FileSim
open FatVerif FatVerif.Fat

/-- follow `data` links from `c`, at most `fuel` of them -/
def chainFrom (g : Nat → FatValue) : Nat → Nat → List Nat
  | 0, c => [c]
  | fuel + 1, c =>
    match g c with
    | .data n => c :: chainFrom g fuel n
    | _ => [c]

/-- the chain of the file in the image -/
def fileChain (fs : FsState) (img : Img) (f : FileH) : List Nat :=
  match f.firstCluster with
  | none => []
  | some c => chainFrom (tabView fs img) (fs.totalClusters + 2) c

/-- the abstraction function: byte-level handle + image ↦ cursor-machine state -/
def absFile (fs : FsState) (img : Img) (f : FileH) : Cursor.AFile :=
  { cs := fs.clusterSize
    chain := fileChain fs img f
    data := fun c j => img.getByte (clusterOff fs c + j)
    size := f.size?.getD 0
    firstCluster := f.firstCluster
    offset := f.offset
    current := f.currentCluster
    dirty := false, mtime := 0, now := 0 }

/-- "cluster `c` is free in allocator state `g`" when the allocator state is the decoded FAT -/
def viewFree (g : Nat → FatValue) (c : Nat) : Prop := g c = .free

/-- the representation invariant -/
structure FileRep (fs : FsState) (img : Img) (f : FileH) : Prop where
  /-- a regular file: the editor records a size -/
  file : ∃ sz, f.size? = some sz
  /-- the cursor machine's invariant -/
  inv : Cursor.AFileInv viewFree (absFile fs img f) (tabView fs img)
  /-- the chain is the FAT chain of the first cluster -/
  chain : ∀ c, f.firstCluster = some c → Chain (tabView fs img) c (fileChain fs img f)
  /-- inside the table -/
  inTab : ∀ c ∈ fileChain fs img f, 2 ≤ c ∧ c < fs.totalClusters + 2
  /-- terminated by an end-of-chain mark -/
  last_eoc : ∀ c, (fileChain fs img f).getLast? = some c → tabView fs img c = .eoc

/-- equality of cursor-machine states up to the bookkeeping fields; `data` is compared on the clusters of the chain -/
structure CoreEq (a b : Cursor.AFile) : Prop where
  cs : a.cs = b.cs
  chain : a.chain = b.chain
  data : ∀ c ∈ b.chain, ∀ j, j < b.cs → a.data c j = b.data c j
  size : a.size = b.size
  first : a.firstCluster = b.firstCluster
  offset : a.offset = b.offset
  current : a.current = b.current

theorem CoreEq.refl (a : Cursor.AFile) : CoreEq a a := ⟨rfl, rfl, fun _ _ _ _ => rfl, rfl, rfl, rfl, rfl⟩

theorem CoreEq.of_eq {a b : Cursor.AFile} (h : a = b) : CoreEq a b := h ▸ CoreEq.refl a

theorem CoreEq.trans {a b c : Cursor.AFile} (h1 : CoreEq a b) (h2 : CoreEq b c) : CoreEq a c :=
  ⟨h1.cs.trans h2.cs, h1.chain.trans h2.chain,
    fun x hx j hj => (h1.data x (h2.chain ▸ hx) j (h2.cs ▸ hj)).trans (h2.data x hx j hj),
    h1.size.trans h2.size, h1.first.trans h2.first, h1.offset.trans h2.offset, h1.current.trans h2.current⟩

/-- core-equal states have the same byte-array abstraction, given that the chain covers the size -/
theorem CoreEq.abs_eq {a b : Cursor.AFile} (h : CoreEq a b) (hcs : 0 < b.cs) (hcov : b.size ≤ b.chain.length * b.cs) :
    a.abs = b.abs := by
  unfold Cursor.AFile.abs
  rw [h.offset]
  congr 1
  unfold Cursor.AFile.content
  rw [h.size]
  apply List.map_congr_left
  intro p hp
  have hp' : p < b.size := List.mem_range.mp hp
  have hpi : p / b.cs < b.chain.length := Cursor.div_lt_of_lt_mul' (Nat.lt_of_lt_of_le hp' hcov)
  unfold Cursor.AFile.byteAt
  rw [h.cs, h.chain]
  have hmem : b.chain.getD (p / b.cs) 0 ∈ b.chain := by
    rw [List.getD_eq_getElem?_getD, List.getElem?_eq_getElem hpi]
    exact List.getElem_mem hpi
  exact h.data _ hmem _ (Nat.mod_lt _ hcs)

/-! ### chains of the view as lists -/

theorem chain_nextV_getElem? {g : Nat → FatValue} {c : Nat} {cs : List Nat} (h : Chain g c cs) :
    ∀ i a, cs[i]? = some a → nextV g a = cs[i + 1]? := by
  induction h with
  | last m hl =>
    intro i a hi
    cases i with
    | zero => simp at hi; subst hi; simp [nextV_last hl]
    | succ i => simp at hi
  | cons m k ms hd hc ih =>
    intro i a hi
    cases i with
    | zero =>
      simp at hi; subst hi
      obtain ⟨t, rfl⟩ := chain_head hc
      simp [nextV_data hd]
    | succ i =>
      have : ms[i]? = some a := by simpa using hi
      rw [ih i a this]; simp

theorem chainFrom_of_chain {g : Nat → FatValue} {c : Nat} {cs : List Nat} (h : Chain g c cs) :
    ∀ fuel, cs.length ≤ fuel + 1 → chainFrom g fuel c = cs := by
  induction h with
  | last m hl =>
    intro fuel _
    cases fuel with
    | zero => rfl
    | succ k =>
      unfold chainFrom
      cases hg : g m with
      | data n => exact absurd hg (hl n)
      | _ => rfl
  | cons m k ms hd hc ih =>
    intro fuel hlen
    cases fuel with
    | zero =>
      have := chain_ne_nil hc
      cases ms with
      | nil => exact absurd rfl this
      | cons _ _ => simp at hlen
    | succ j =>
      unfold chainFrom
      rw [hd]
      simp only
      rw [ih j (by simp at hlen; omega)]

/-! ### `nextCluster` -/

theorem run_getFs (d : Dev) : run Prog.getFs d = (.ok d.fs, d) := rfl

/-- `fs.cluster_iter(c).next()` at a cluster of the table: the link of the decoded FAT -/
theorem run_nextCluster (c : Nat) (d : Dev) (h : d.failAt = none) (hg : Geo d.fs d.img.size)
    (hin : c < d.fs.totalClusters + 2) :
    ∃ d', run (nextCluster c) d = (.ok (nextV (tabView d.fs d.img) c), d') ∧ SameStore d d' := by
  obtain ⟨d1, s1, h1, hs1, _⟩ := run_citer_next d.fs { fat := fatSliceOf d.fs, cluster := some c } c d h hg
    (isFatSlice_self _) rfl rfl hin
  refine ⟨d1, ?_, hs1⟩
  unfold nextCluster
  rw [run_bind_ok (run_getFs d)]
  simp only
  rw [run_bind_ok h1]
  simp only
  cases nextV (tabView d.fs d.img) c <;> rfl

end FatVerif.FileSim
