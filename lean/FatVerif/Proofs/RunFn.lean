import FatVerif.Model.Prog
import FatVerif.Proofs.ImgLemmas
/-!
# `run` on a device whose image is a byte function

The kernel evaluates a `ByteArray` page cell by cell: reading one byte at in-page offset `o` through `L` earlier
`set!`s costs about `o * L` reduction steps, so `run p d` on a concrete device is dear to evaluate, and dearer with every
write of the history.  `runS` is `run` on a state `SDev` that keeps the image as the function `get : Nat → Nat` it reads as
(a write adds one `if`) and every other field in a `Dev` whose own image is empty and only says how large the device
is (`Dev.strip`, whence the `S`).  `run_runS`: on states that agree, `run` and `runS` return the same result and leave
states that agree.  So a statement about `run p d` on a concrete device is rewritten to one about `runS p s`, and that
one is closed by `decide +kernel`: the example histories of Props/C02sim, C02multi, C11img, C14sim and C14hist, and
the runs on the example devices of Props/C03img, C05img and C09wview.
-/
namespace FatVerif

/-- `d` without the contents of its image -/
def Dev.strip (d : Dev) : Dev := { d with img := Img.empty d.img.size }

structure SDev where
  /-- the image, as the bytes it reads as -/
  get : Nat → Nat
  /-- everything else; `dev.img` is empty and stands for the size of the device -/
  dev : Dev

/-- the image reads as `s.get` and has well-formed pages; all other fields are those of `s.dev` -/
structure SDev.Agree (s : SDev) (d : Dev) : Prop where
  wf : d.img.WF
  get : d.img.getByte = s.get
  dev : s.dev = d.strip

/-- `devCall` -/
def devCallS {α : Type} (k : CallKind) (s : SDev) (act : SDev → Except Err α × SDev) : Except Err α × SDev :=
  let d := s.dev.count k
  if d.failAt = some d.calls then
    (.error (.io d.calls), { s with dev := { d with failAt := none, fault := some ⟨d.calls, k, d.dropDepth > 0⟩ } })
  else act { s with dev := d }

/-- `stepOp`, clause by clause: a clause added to `stepOp` (or to `run`, for `runS`) must be added here, and
`run_runS` fails until it is -/
def stepS : (o : Op) → SDev → Except Err (Resp o) × SDev
  | .read n, s => devCallS .r s fun s =>
      let m := min n (s.dev.img.size - s.dev.pos)
      (.ok ((List.range m).map fun k => s.get (s.dev.pos + k)), { s with dev := { s.dev with pos := s.dev.pos + m } })
  | .write bs, s => devCallS .w s fun s =>
      let m := min bs.length (s.dev.img.size - s.dev.pos)
      let bs' := bs.take m
      (.ok m, { get := DirSim.putBytes s.get s.dev.pos bs',
                dev := { s.dev with pos := s.dev.pos + m, log := .write s.dev.pos bs' :: s.dev.log } })
  | .seek p, s => devCallS .s s fun s =>
      match p with
      | .start n => (.ok n, { s with dev := { s.dev with pos := n } })
      | .cur x =>
        let t : Int := (s.dev.pos : Int) + x
        if t < 0 then (.error (.io negSeekErr), s) else (.ok t.toNat, { s with dev := { s.dev with pos := t.toNat } })
      | .fromEnd x =>
        let t : Int := (s.dev.img.size : Int) + x
        if t < 0 then (.error (.io negSeekErr), s) else (.ok t.toNat, { s with dev := { s.dev with pos := t.toNat } })
  | .flush, s => devCallS .f s fun s => (.ok (), { s with dev := { s.dev with log := .flush :: s.dev.log } })
  | .now, s => (.ok s.dev.clock, s)
  | .today, s => (.ok s.dev.clock, s)
  | .getFs, s => (.ok s.dev.fs, s)
  | .setFs fs, s => (.ok (), { s with dev := { s.dev with fs := fs } })

/-- entering / leaving a destructor -/
def SDev.enter (s : SDev) : SDev := { s with dev := { s.dev with dropDepth := s.dev.dropDepth + 1 } }
def SDev.leave (s : SDev) : SDev := { s with dev := { s.dev with dropDepth := s.dev.dropDepth - 1 } }

/-- `run`, clause by clause, on `SDev` -/
def runS {α : Type} : Prog α → SDev → Except Err α × SDev
  | .pure a, s => (.ok a, s)
  | .fail e, s => (.error e, s)
  | .op o, s => stepS o s
  | .bind p k, s =>
    match runS p s with
    | (.ok b, s') => runS (k b) s'
    | (.error e, s') => (.error e, s')
  | .tryCatch p h, s =>
    match runS p s with
    | (.ok a, s') => (.ok a, s')
    | (.error e, s') => if e.isFatal then (.error e, s') else runS (h e) s'
  | .finallyDrop p c, s =>
    match runS p s with
    | (.error e, s') =>
      if e = .hang then (.error e, s') else
      match runS (c none) s'.enter with
      | (.error e', s'') => if e'.isFatal then (.error e', s''.leave) else (.error e, s''.leave)
      | (.ok _, s'') => (.error e, s''.leave)
    | (.ok a, s') =>
      match runS (c (some a)) s'.enter with
      | (.error e', s'') => if e'.isFatal then (.error e', s''.leave) else (.ok a, s''.leave)
      | (.ok _, s'') => (.ok a, s''.leave)

theorem SDev.Agree.enter {s : SDev} {d : Dev} (h : s.Agree d) :
    s.enter.Agree { d with dropDepth := d.dropDepth + 1 } :=
  ⟨h.wf, h.get, by show ({ s.dev with dropDepth := _ } : Dev) = _; rw [h.dev]; rfl⟩

theorem SDev.Agree.leave {s : SDev} {d : Dev} (h : s.Agree d) :
    s.leave.Agree { d with dropDepth := d.dropDepth - 1 } :=
  ⟨h.wf, h.get, by show ({ s.dev with dropDepth := _ } : Dev) = _; rw [h.dev]; rfl⟩

theorem devCallS_agree {α : Type} (k : CallKind) {s : SDev} {d : Dev} (h : s.Agree d)
    {act : Dev → Except Err α × Dev} {actS : SDev → Except Err α × SDev}
    (hact : ∀ s' d', s'.Agree d' → (actS s').1 = (act d').1 ∧ (actS s').2.Agree (act d').2) :
    (devCallS k s actS).1 = (devCall k d act).1 ∧ (devCallS k s actS).2.Agree (devCall k d act).2 := by
  have hc : s.dev.count k = (d.count k).strip := by rw [h.dev]; cases k <;> rfl
  have hi : (d.count k).img = d.img := by cases k <;> rfl
  have hk : SDev.Agree { s with dev := s.dev.count k } (d.count k) := ⟨hi ▸ h.wf, hi ▸ h.get, hc⟩
  unfold devCallS devCall devCallCore
  simp only [hc]
  by_cases hf : (d.count k).failAt = some (d.count k).calls
  · rw [if_pos hf, if_pos (show (d.count k).strip.failAt = some (d.count k).strip.calls from hf)]
    exact ⟨rfl, hk.wf, hk.get, rfl⟩
  · rw [if_neg hf, if_neg (show ¬ (d.count k).strip.failAt = some (d.count k).strip.calls from hf)]
    exact hc ▸ hact _ _ hk

theorem stepS_agree (o : Op) {s : SDev} {d : Dev} (h : s.Agree d) :
    (stepS o s).1 = (stepOp o d).1 ∧ (stepS o s).2.Agree (stepOp o d).2 := by
  cases o with
  | read n =>
    refine devCallS_agree .r h fun s' d' h' => ?_
    obtain ⟨g, sd⟩ := s'
    obtain ⟨hwf, rfl, rfl⟩ := h'
    exact ⟨rfl, hwf, rfl, rfl⟩
  | write bs =>
    refine devCallS_agree .w h fun s' d' h' => ?_
    obtain ⟨g, sd⟩ := s'
    obtain ⟨hwf, rfl, rfl⟩ := h'
    refine ⟨rfl, Img.wf_write _ hwf _ _, funext (Img.getByte_write _ hwf _ _), ?_⟩
    simp only [Dev.strip, Img.write_eq]
    rfl
  | seek p =>
    refine devCallS_agree .s h fun s' d' h' => ?_
    obtain ⟨g, sd⟩ := s'
    obtain ⟨hwf, rfl, rfl⟩ := h'
    cases p with
    | start n => exact ⟨rfl, hwf, rfl, rfl⟩
    | cur x =>
      dsimp only [Dev.strip]
      by_cases ht : (d'.pos : Int) + x < 0
      · simp only [if_pos ht]; exact ⟨trivial, hwf, rfl, rfl⟩
      · simp only [if_neg ht]; exact ⟨trivial, hwf, rfl, rfl⟩
    | fromEnd x =>
      dsimp only [Dev.strip, Img.empty]
      by_cases ht : (d'.img.size : Int) + x < 0
      · simp only [if_pos ht]; exact ⟨trivial, hwf, rfl, rfl⟩
      · simp only [if_neg ht]; exact ⟨trivial, hwf, rfl, rfl⟩
  | flush =>
    refine devCallS_agree .f h fun s' d' h' => ?_
    obtain ⟨g, sd⟩ := s'
    obtain ⟨hwf, rfl, rfl⟩ := h'
    exact ⟨rfl, hwf, rfl, rfl⟩
  | now => exact ⟨by show Except.ok s.dev.clock = _; rw [h.dev]; rfl, h⟩
  | today => exact ⟨by show Except.ok s.dev.clock = _; rw [h.dev]; rfl, h⟩
  | getFs => exact ⟨by show Except.ok s.dev.fs = _; rw [h.dev]; rfl, h⟩
  | setFs fs => exact ⟨rfl, h.wf, h.get, by show ({ s.dev with fs := fs } : Dev) = _; rw [h.dev]; rfl⟩

/-- **`run_runS`.**  On states that agree, `runS` computes what `run` computes, and leaves states that agree. -/
theorem run_runS {α : Type} (p : Prog α) : ∀ {s : SDev} {d : Dev}, s.Agree d →
    ∃ r s' d', runS p s = (r, s') ∧ run p d = (r, d') ∧ s'.Agree d' := by
  induction p with
  | pure a => exact fun h => ⟨_, _, _, rfl, rfl, h⟩
  | fail e => exact fun h => ⟨_, _, _, rfl, rfl, h⟩
  | op o => exact fun h => ⟨_, _, _, rfl, Prod.ext (stepS_agree o h).1.symm rfl, (stepS_agree o h).2⟩
  | bind p k ihp ihk =>
    intro s d h
    -- with the two first runs named by one result, the `match`es of `run` and `runS` reduce together
    obtain ⟨r, s', d', e1, e2, h2⟩ := ihp h
    simp only [run, runS, e1, e2]
    cases r with
    | ok b => exact ihk b h2
    | error e => exact ⟨_, _, _, rfl, rfl, h2⟩
  | tryCatch p hd ihp ihh =>
    intro s d h
    obtain ⟨r, s', d', e1, e2, h2⟩ := ihp h
    simp only [run, runS, e1, e2]
    cases r with
    | ok b => exact ⟨_, _, _, rfl, rfl, h2⟩
    | error e =>
      dsimp only
      split
      · exact ⟨_, _, _, rfl, rfl, h2⟩
      · exact ihh e h2
  | finallyDrop p c ihp ihc =>
    intro s d h
    obtain ⟨r, s', d', e1, e2, h2⟩ := ihp h
    simp only [run, runS, e1, e2]
    cases r with
    | error e =>
      dsimp only
      split
      · exact ⟨_, _, _, rfl, rfl, h2⟩
      · obtain ⟨r, s'', d'', k1, k2, h3⟩ := ihc none h2.enter
        simp only [k1, k2]
        cases r with
        | ok _ => exact ⟨_, _, _, rfl, rfl, h3.leave⟩
        | error e' => dsimp only; split <;> exact ⟨_, _, _, rfl, rfl, h3.leave⟩
    | ok a =>
      obtain ⟨r, s'', d'', k1, k2, h3⟩ := ihc (some a) h2.enter
      simp only [k1, k2]
      cases r with
      | ok _ => exact ⟨_, _, _, rfl, rfl, h3.leave⟩
      | error e' => dsimp only; split <;> exact ⟨_, _, _, rfl, rfl, h3.leave⟩

/-! ### what else agrees -/

theorem SDev.Agree.fs {s : SDev} {d : Dev} (h : s.Agree d) : d.fs = s.dev.fs := by rw [h.dev]; rfl

theorem SDev.Agree.log {s : SDev} {d : Dev} (h : s.Agree d) : d.log = s.dev.log := by rw [h.dev]; rfl

theorem SDev.Agree.size {s : SDev} {d : Dev} (h : s.Agree d) : d.img.size = s.dev.img.size := by rw [h.dev]; rfl

theorem SDev.Agree.read {s : SDev} {d : Dev} (h : s.Agree d) (off n : Nat) :
    d.img.read off n = (List.range n).map fun k => s.get (off + k) := by
  unfold Img.read; rw [h.get]

/-- a write to the image alone: a surviving record of a log (`SDev.Agree.applyRecs`, Props/C02sim) -/
theorem SDev.Agree.write {s : SDev} {d : Dev} (h : s.Agree d) (off : Nat) (bs : List Nat) :
    SDev.Agree ⟨DirSim.putBytes s.get off bs, s.dev⟩ { d with img := d.img.write off bs } :=
  ⟨Img.wf_write _ h.wf _ _, h.get ▸ funext (Img.getByte_write _ h.wf _ _), by
    rw [h.dev]; simp only [Dev.strip, Img.write_eq]⟩

/-- a device with an empty image: all bytes read 0 (the start of a device built by `Img.write`s, see `Agree.write`) -/
theorem SDev.Agree.empty (n : Nat) (d : Dev) (hd : d.img = Img.empty n) : SDev.Agree ⟨fun _ => 0, d.strip⟩ d :=
  ⟨hd ▸ Img.wf_empty n, by rw [hd]; funext q; simp [Img.getByte, Img.empty], rfl⟩

/-- the form in which an example uses it: `run` rewritten to the evaluated `runS` -/
theorem run_eq_runS {α : Type} (p : Prog α) {s : SDev} {d : Dev} (h : s.Agree d) :
    ∃ d', run p d = ((runS p s).1, d') ∧ (runS p s).2.Agree d' := by
  obtain ⟨r, s', d', e1, e2, h2⟩ := run_runS p h
  exact ⟨d', by rw [e1, e2], by rw [e1]; exact h2⟩

end FatVerif
