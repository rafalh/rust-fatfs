import FatVerif.Proofs.DirAliasTerm
/-! Counting argument for the termination bound.  Under a case folding that fixes the characters of short names the
    display forms of candidates are fixed by it and pairwise different, so a listed entry answers to at most two
    candidate display forms (one by its long name, one by its alias) and carries one raw name: three tokens per entry,
    nine distinct tokens per failed epoch. -/
namespace FatVerif
namespace DirAlias
open Lfn DirSlots

/-! ## display forms of candidates: fixed by the case folding, injective -/

/-- the case folding leaves the characters of short names alone (true of `to_ascii_uppercase` and of
    `char::to_uppercase`: upper-case ASCII letters, digits and punctuation are their own upper case) -/
def UpperFixes (upper : Char → List Char) : Prop :=
  ∀ y, (y ∈ Names.legalSfnBytes ∨ y = 46) → upper (Char.ofNat y) = [Char.ofNat y]

theorem upperAscii_fixes : UpperFixes Names.upperAscii := by
  intro y hy
  have key : ∀ y < 128, (y ∈ Names.legalSfnBytes ∨ y = 46) → Names.upperAscii (Char.ofNat y) = [Char.ofNat y] := by
    rw [Names.legalSfnBytes_eq]; decide +kernel
  have hy128 : y < 128 := by
    rcases hy with h | h
    · exact legal_lt_128 y h
    · omega
  exact key y hy128 hy

/-- `.ext`, nothing for an empty extension -/
def dotExt (e : List Nat) : List Nat := if e = [] then [] else 46 :: e

theorem legal_ne_46 {l : List Nat} (h : Names.AllLegal l) : ∀ x ∈ l, x ≠ 46 := by
  intro x hx
  have key : ∀ x ∈ Names.legalSfnBytes, x ≠ 46 := by rw [Names.legalSfnBytes_eq]; decide
  exact key x (h x hx)

theorem aliasDisplay_canon {b e : List Nat} (hb : b.length ≤ 8) (he : e.length ≤ 3)
    (lb : Names.AllLegal b) (le : Names.AllLegal e) :
    Names.aliasDisplay (Names.padTo 8 b ++ Names.padTo 3 e) = (b ++ dotExt e).map Char.ofNat := by
  unfold Names.aliasDisplay
  rw [shortDisplay_canon hb he lb le]
  apply List.map_congr_left
  intro y hy
  have hy128 : y < 128 := by
    rcases List.mem_append.1 hy with h | h
    · exact legal_lt_128 y (lb y h)
    · by_cases hee : e = []
      · simp [hee] at h
      · simp only [hee, if_false, List.mem_cons] at h
        rcases h with rfl | h
        · omega
        · exact legal_lt_128 y (le y h)
  unfold Names.oemDecode
  rw [if_pos (by omega)]

theorem fold_fix (upper : Char → List Char) (hup : UpperFixes upper) (l : List Nat)
    (hl : ∀ y ∈ l, y ∈ Names.legalSfnBytes ∨ y = 46) :
    Names.fold upper (l.map Char.ofNat) = l.map Char.ofNat := by
  induction l with
  | nil => rfl
  | cons y ys ih =>
    simp only [Names.fold, List.map_cons, List.flatMap_cons, hup y (hl y (by simp)), List.singleton_append]
    have := ih (fun z hz => hl z (by simp [hz]))
    simp only [Names.fold] at this
    rw [this]

theorem canon_body_mem {b e : List Nat} (lb : Names.AllLegal b) (le : Names.AllLegal e) :
    ∀ y ∈ b ++ dotExt e, y ∈ Names.legalSfnBytes ∨ y = 46 := by
  intro y hy
  rcases List.mem_append.1 hy with h | h
  · exact Or.inl (lb y h)
  · unfold dotExt at h
    by_cases hee : e = []
    · simp [hee] at h
    · simp only [hee, if_false, List.mem_cons] at h
      rcases h with rfl | h
      · exact Or.inr rfl
      · exact Or.inl (le y h)

/-- the display form of a candidate is its own case folding -/
theorem fold_display_canon (upper : Char → List Char) (hup : UpperFixes upper) {x : List Nat} (h : Canon x) :
    Names.fold upper (Names.aliasDisplay x) = Names.aliasDisplay x := by
  obtain ⟨b, e, rfl, hb, he, lb, le⟩ := h
  rw [aliasDisplay_canon hb he lb le]
  exact fold_fix upper hup _ (canon_body_mem lb le)

/-- below the surrogate range every number is a scalar value, so `Char.ofNat` keeps it -/
theorem toNat_ofNat_small {y : Nat} (h : y < 128) : (Char.ofNat y).toNat = y := by
  have hv : y.isValidChar := Or.inl (by omega)
  simp [Char.ofNat, hv, Char.toNat, Char.ofNatAux]

theorem ofNat_inj_small (y : Nat) (hy : y < 128) (z : Nat) (hz : z < 128) (h : Char.ofNat y = Char.ofNat z) :
    y = z := by
  have := congrArg Char.toNat h
  rwa [toNat_ofNat_small hy, toNat_ofNat_small hz] at this

theorem map_ofNat_inj : ∀ (l l' : List Nat), (∀ y ∈ l, y < 128) → (∀ y ∈ l', y < 128) →
    l.map Char.ofNat = l'.map Char.ofNat → l = l'
  | [], [], _, _, _ => rfl
  | [], _ :: _, _, _, h => by simp at h
  | _ :: _, [], _, _, h => by simp at h
  | y :: ys, z :: zs, h1, h2, h => by
    simp only [List.map_cons, List.cons.injEq] at h
    rw [ofNat_inj_small y (h1 y (by simp)) z (h2 z (by simp)) h.1,
      map_ofNat_inj ys zs (fun w hw => h1 w (by simp [hw])) (fun w hw => h2 w (by simp [hw])) h.2]

theorem body_inj : ∀ (b b' e e' : List Nat), (∀ x ∈ b, x ≠ 46) → (∀ x ∈ b', x ≠ 46) →
    b ++ dotExt e = b' ++ dotExt e' → b = b' ∧ e = e'
  | [], [], e, e', _, _, h => by
    refine ⟨rfl, ?_⟩
    unfold dotExt at h
    by_cases h1 : e = [] <;> by_cases h2 : e' = [] <;> simp_all
  | [], y :: ys, e, e', _, hb', h => by
    exfalso
    unfold dotExt at h
    by_cases h1 : e = []
    · simp [h1] at h
    · simp only [h1, if_false, List.nil_append, List.cons_append, List.cons.injEq] at h
      exact hb' y (by simp) h.1.symm
  | y :: ys, [], e, e', hb, _, h => by
    exfalso
    unfold dotExt at h
    by_cases h2 : e' = []
    · simp [h2] at h
    · simp only [h2, if_false, List.nil_append, List.cons_append, List.cons.injEq] at h
      exact hb y (by simp) h.1
  | y :: ys, z :: zs, e, e', hb, hb', h => by
    simp only [List.cons_append, List.cons.injEq] at h
    obtain ⟨r1, r2⟩ := body_inj ys zs e e' (fun x hx => hb x (by simp [hx])) (fun x hx => hb' x (by simp [hx])) h.2
    exact ⟨by rw [h.1, r1], r2⟩

/-- different candidates have different display forms -/
theorem display_inj {x x' : List Nat} (h : Canon x) (h' : Canon x')
    (hd : Names.aliasDisplay x = Names.aliasDisplay x') : x = x' := by
  obtain ⟨b, e, rfl, hb, he, lb, le⟩ := h
  obtain ⟨b', e', rfl, hb', he', lb', le'⟩ := h'
  rw [aliasDisplay_canon hb he lb le, aliasDisplay_canon hb' he' lb' le'] at hd
  have h128 : ∀ {b e : List Nat}, Names.AllLegal b → Names.AllLegal e → ∀ y ∈ b ++ dotExt e, y < 128 := by
    intro b e lb le y hy
    rcases canon_body_mem lb le y hy with h | h
    · exact legal_lt_128 y h
    · omega
  have := map_ofNat_inj _ _ (h128 lb le) (h128 lb' le') hd
  obtain ⟨r1, r2⟩ := body_inj b b' e e' (legal_ne_46 lb) (legal_ne_46 lb') this
  rw [r1, r2]

/-! ## tokens: three per listed entry -/

def tokens (L : List LfnEntry) : List (LfnEntry × Nat) := L.flatMap fun e => [(e, 0), (e, 1), (e, 2)]

theorem tokens_length (L : List LfnEntry) : (tokens L).length = 3 * L.length := by
  induction L with
  | nil => rfl
  | cons e es ih => simp only [tokens, List.flatMap_cons, List.length_append, List.length_cons] at ih ⊢; simp at ih ⊢; omega

theorem mem_tokens {L : List LfnEntry} {e : LfnEntry} (he : e ∈ L) (k : Nat) (hk : k ≤ 2) : (e, k) ∈ tokens L := by
  unfold tokens
  rw [List.mem_flatMap]
  refine ⟨e, he, ?_⟩
  have : k = 0 ∨ k = 1 ∨ k = 2 := by omega
  rcases this with rfl | rfl | rfl <;> simp

/-- the long name of `e` answers to `q` -/
def LongHit (upper : Char → List Char) (e : LfnEntry) (q : List Char) : Prop :=
  e.units ≠ [] ∧ ∃ long : List Char, Names.decodeUtf16 e.units = long.map some ∧
    Names.fold upper q = Names.fold upper long

/-- the pair (checksum, digit) is charged to the token: 0 = the entry's raw short name parses to it; 1 / 2 = the entry's
    long name / alias answers to the display form of a candidate that sets it -/
def TokR (upper : Char → List Char) (g0 : Names.Gen) (p : Nat × Nat) (t : LfnEntry × Nat) : Prop :=
  (t.2 = 0 ∧ Names.shortKey g0 p.1 (sfnName t.1.sfn) = some p.2) ∨
  (t.2 = 1 ∧ ∃ x, Canon x ∧ Names.shortKey g0 p.1 x = some p.2 ∧ LongHit upper t.1 (Names.aliasDisplay x)) ∨
  (t.2 = 2 ∧ ∃ x, Canon x ∧ Names.shortKey g0 p.1 x = some p.2 ∧
    Names.fold upper (Names.aliasDisplay x) = Names.fold upper (Names.aliasDisplay (sfnName t.1.sfn)))

theorem charged_token (upper : Char → List Char) (L : List LfnEntry) (g0 : Names.Gen) (c i : Nat)
    (h : Charged upper L g0 c i) : ∃ t ∈ tokens L, TokR upper g0 (c, i) t := by
  obtain ⟨x, hx, hk⟩ := h
  rcases hx with hx | ⟨hc, e, he, hm⟩
  · obtain ⟨e, he, rfl⟩ := List.mem_map.1 hx
    exact ⟨(e, 0), mem_tokens he 0 (by omega), Or.inl ⟨rfl, hk⟩⟩
  · unfold matchesName Names.eqName at hm
    rw [Bool.or_eq_true, Names.eqNameLfn_iff, Names.eqIgnoreCase_iff] at hm
    rcases hm with hm | hm
    · exact ⟨(e, 1), mem_tokens he 1 (by omega), Or.inr (Or.inl ⟨rfl, x, hc, hk, hm⟩)⟩
    · exact ⟨(e, 2), mem_tokens he 2 (by omega), Or.inr (Or.inr ⟨rfl, x, hc, hk, hm⟩)⟩

theorem tokR_inj (upper : Char → List Char) (hup : UpperFixes upper) (g0 : Names.Gen) (p p' : Nat × Nat)
    (t : LfnEntry × Nat) (h : TokR upper g0 p t) (h' : TokR upper g0 p' t) : p = p' := by
  have fin : ∀ {x x' : List Nat}, Canon x → Canon x' →
      Names.fold upper (Names.aliasDisplay x) = Names.fold upper (Names.aliasDisplay x') →
      Names.shortKey g0 p.1 x = some p.2 → Names.shortKey g0 p'.1 x' = some p'.2 → p = p' := by
    intro x x' hc hc' hf hk hk'
    rw [fold_display_canon upper hup hc, fold_display_canon upper hup hc'] at hf
    have := display_inj hc hc' hf
    subst this
    obtain ⟨a, b⟩ := Names.shortKey_fun hk hk'
    exact Prod.ext a b
  rcases h with ⟨k, hk⟩ | ⟨k, x, hc, hk, hl⟩ | ⟨k, x, hc, hk, hf⟩ <;>
    rcases h' with ⟨k', hk'⟩ | ⟨k', x', hc', hk', hl'⟩ | ⟨k', x', hc', hk', hf'⟩
  all_goals first
    | (rw [k] at k'; omega)
    | skip
  · obtain ⟨a, b⟩ := Names.shortKey_fun hk hk'
    exact Prod.ext a b
  · obtain ⟨_, long, d1, f1⟩ := hl
    obtain ⟨_, long', d1', f1'⟩ := hl'
    rw [d1] at d1'
    have := Names.map_some_inj d1'
    subst this
    exact fin hc hc' (f1.trans f1'.symm) hk hk'
  · exact fin hc hc' (hf.trans hf'.symm) hk hk'

/-- nine tokens per failed epoch: `m` epochs with pairwise different checksums need `9·m ≤ 3·n` -/
theorem epochs_le (upper : Char → List Char) (hup : UpperFixes upper) (L : List LfnEntry) (g0 : Names.Gen)
    (cs : List Nat) (hcs : cs.Nodup)
    (h : ∀ c ∈ cs, ∀ i, 1 ≤ i → i ≤ 9 → Charged upper L g0 c i) : 9 * cs.length ≤ 3 * L.length := by
  rw [← tokens_length]
  exact Names.blocked_rounds_le (TokR upper g0) (fun a a' b => tokR_inj upper hup g0 a a' b) cs hcs (tokens L)
    (fun c h1 i h2 h3 => charged_token upper L g0 c i (h c h1 i h2 h3))

/-- **the loop does not run out of fuel** when nothing matches the name, the directory lists `n < 3·65536` entries and
    the fuel is at least `15·(n/3) + 15`.  15 rounds per epoch: each of its ≤ 14 candidates (`free_le`) costs one
    `continue`, then the round that fails; more than `n/3` epochs cannot fail (`epochs_le`), and `n < 3·65536` keeps the
    checksums of `n/3 + 1` consecutive epochs pairwise different (`chkSeq_nodup`). -/
theorem loop_no_hang (upper : Char → List Char) (hup : UpperFixes upper) (L : List LfnEntry) (name : List Char)
    (isDir : Option Bool) (hnone : (L.find? fun e => matchesName upper e name) = none)
    (g0 : Names.Gen) (hw0 : Names.GenWF g0) (hz : g0.prefixChksumBitmap = 0)
    (hn : L.length < 3 * 65536) (fuel : Nat) (hfuel : 15 * (L.length / 3) + 15 ≤ fuel) :
    loop upper L name isDir fuel g0 ≠ .error .hang := by
  intro hh
  have inv0 : EpochInv upper L g0 g0 := by
    intro i hi; rw [hz] at hi; simp at hi
  obtain ⟨m, hm1, hm2⟩ := loop_hang upper L name isDir hnone g0 hw0 fuel g0 Names.Reach.refl inv0 hh
  have hf := free_le g0
  have hc := hw0.chk
  have hm : L.length / 3 + 1 ≤ m := by omega
  have hnd := Names.chkSeq_nodup (c := g0.chksum) (m := L.length / 3 + 1) hc (by omega)
  have := epochs_le upper hup L g0 (Names.chkSeq g0.chksum (L.length / 3 + 1)) hnd
    (fun c hcm i h1 h9 => hm2 c (Names.chkSeq_prefix hc hm hcm) i h1 h9)
  rw [Names.chkSeq_length] at this
  omega

end DirAlias
end FatVerif
