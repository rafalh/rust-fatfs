import FatVerif.Proofs.DirSlotsItems
/-! Well-formedness of a directory (`Shape`, `KeysDisjoint`, `DirWf`) and of a name's units (`UnitsOk`); `write_entry` and
    the delete loop on a well-formed directory, in terms of items. -/
namespace FatVerif
namespace DirSlots
open Lfn LongNameBuilder

/-- the directory has the shape: items, then the end region -/
def Shape (slots : List (List Nat)) : Prop :=
  ∃ items tail, slots = flatten items ++ tail ∧ (∀ it ∈ items, it.Ok) ∧ ∀ t ∈ tail, isEnd t = true

/-- two entries can never be hit by the same query (long name or alias, up to case) -/
def KeysDisjoint (upper : Char → List Char) (e1 e2 : LfnEntry) : Prop :=
  ∀ q, ¬ (matchesName upper e1 q = true ∧ matchesName upper e2 q = true)

/-- **well-formed directory**: nothing but end markers after the first end marker; every long-name slot belongs to a
    complete run directly before its short entry (`Shape`); no two entries with the same raw short name; no two entries
    reachable by the same name up to case -/
structure DirWf (upper : Char → List Char) (slots : List (List Nat)) : Prop where
  shape : Shape slots
  rawNodup : ((listing slots).map fun e => sfnName e.sfn).Nodup
  keys : (listing slots).Pairwise (KeysDisjoint upper)

theorem listing_shape (alloc : Bool) (items : List Item) (tail : List (List Nat)) (hok : ∀ it ∈ items, it.Ok)
    (ht : ∀ t ∈ tail, isEnd t = true) : readDirEntries alloc true (flatten items ++ tail) = listOf items 0 :=
  readLoop_items alloc items 0 _ tail hok ht (WF_new alloc) rfl

/-! ### writing -/

theorem writeAt_mid (A X new : List (List Nat)) : writeAt (A ++ X) A.length new = A ++ new ++ X.drop new.length := by
  unfold writeAt
  rw [List.take_left' rfl, List.drop_length_add_append]

theorem writeAt_getD_before (slots new : List (List Nat)) (p i : Nat) (hp : p ≤ slots.length) (hi : i < p) :
    (writeAt slots p new).getD i [] = slots.getD i [] := by
  unfold writeAt
  rw [List.append_assoc, getD_append_left' _ _ _ (by simp; omega)]
  simp [List.getD_eq_getElem?_getD, hi]

theorem writeAt_getD_after (slots new : List (List Nat)) (p i : Nat) (hp : p ≤ slots.length)
    (hi : p + new.length ≤ i) : (writeAt slots p new).getD i [] = slots.getD i [] := by
  unfold writeAt
  have hl : (List.take p slots ++ new).length = p + new.length := by simp; omega
  simp only [List.getD_eq_getElem?_getD]
  rw [List.getElem?_append_right (by omega), hl, List.getElem?_drop]
  congr 2; omega

theorem entrySlots_length (units sfn : List Nat) : (entrySlots units sfn).length = numParts units.length + 1 := by
  simp [entrySlots, lfnGenerate, genFrom_length]

/-- the item a successful `write_entry` adds -/
def newItem (units sfn : List Nat) : Item := .entry (lfnGenerate units (lfnChecksum (sfnName sfn))) sfn

theorem newItem_ok (units sfn : List Nat) (h1 : 1 ≤ units.length) (h255 : units.length ≤ 255)
    (hu : ∀ x ∈ units, x < 65536) (hsfn : slotClass sfn = .file) : (newItem units sfn).Ok := by
  obtain ⟨g1, _, g3, _⟩ := generate_complete units (lfnChecksum (sfnName sfn)) h1 (by omega) hu
  exact ⟨Or.inr g1, g3, hsfn⟩

/-- the UTF-16 units of a name that `write_entry` stores: 1 to 255 of them, each a 16-bit value other than 0 (what
    `validate_long_name` leaves: `DirAlias.valid_units`) -/
structure UnitsOk (units : List Nat) : Prop where
  pos : 1 ≤ units.length
  le : units.length ≤ 255
  lt : ∀ x ∈ units, x < 65536
  nz : ∀ x ∈ units, x ≠ 0

theorem newItem_name (units sfn : List Nat) (hU : UnitsOk units) :
    nameOf (lfnGenerate units (lfnChecksum (sfnName sfn))) = units := by
  have h255 := hU.le
  obtain ⟨_, g2, _, _⟩ := generate_complete units (lfnChecksum (sfnName sfn)) hU.pos (by omega) hU.lt
  rw [nameOf, g2, cutAtNul_padded _ hU.nz, capName,
    if_neg (by omega)]

/-- **`write_entry` on a well-formed directory, in terms of items**: either `num` deleted items are replaced by the new
    entry item (reclaimed run), or the new item goes after the last item, swallowing fewer than `num` trailing deleted
    items and the first `num − d` slots of the end region (end marker; incl. the trailing-deleted-run quirk) -/
theorem writeEntry_items (items : List Item) (tail : List (List Nat)) (units sfn : List Nat)
    (hok : ∀ it ∈ items, it.Ok) (ht : ∀ t ∈ tail, isEnd t = true) :
    ∃ I1 Dd I2, items = I1 ++ Dd ++ I2 ∧ (∀ it ∈ Dd, it.IsDeleted) ∧
      findFree (flatten items ++ tail) (numParts units.length + 1) = (flatten I1).length ∧
      ((Dd.length = numParts units.length + 1 ∧
          writeEntry (flatten items ++ tail) units sfn = flatten (I1 ++ [newItem units sfn] ++ I2) ++ tail) ∨
        (Dd.length < numParts units.length + 1 ∧ I2 = [] ∧
          writeEntry (flatten items ++ tail) units sfn =
            flatten (I1 ++ [newItem units sfn]) ++ tail.drop (numParts units.length + 1 - Dd.length))) := by
  obtain ⟨I1, Dd, I2, e1, e2, e3, e4⟩ := findFree_items (numParts units.length + 1) (by omega) items tail hok ht
  have hlen := entrySlots_length units sfn
  have hDlen := (listOf_deleted Dd 0 e2).2
  refine ⟨I1, Dd, I2, e1, e2, e3, ?_⟩
  have hw : writeEntry (flatten items ++ tail) units sfn =
      flatten I1 ++ entrySlots units sfn ++ (flatten Dd ++ flatten I2 ++ tail).drop (numParts units.length + 1) := by
    unfold writeEntry
    rw [e3, e1]
    simp only [flatten_append, List.append_assoc]
    rw [← hlen]
    have := writeAt_mid (flatten I1) (flatten Dd ++ (flatten I2 ++ tail)) (entrySlots units sfn)
    simpa [List.append_assoc] using this
  rcases e4 with e4 | ⟨e4, rfl⟩
  · left
    refine ⟨e4, ?_⟩
    rw [hw, List.append_assoc (flatten Dd), List.drop_left' (by omega)]
    simp [newItem, Item.slots, entrySlots]
  · right
    refine ⟨e4, rfl, ?_⟩
    rw [hw]
    simp only [flatten_nil, List.append_nil, flatten_append, flatten_cons, newItem, Item.slots, entrySlots]
    rw [List.drop_append, List.drop_of_length_le (by omega), hDlen]
    simp

/-! ### deleting -/

theorem markDeleted_class (s : List Nat) (h : isEnd s = false) : slotClass (markDeleted s) = .deleted := by
  cases s with
  | nil => simp [isEnd, byte] at h
  | cons a t =>
    have h0 : byte (markDeleted (a :: t)) 0 = 0xE5 := by
      simp [markDeleted, byte]
    simp [slotClass, isEnd, isDeleted, h0]

/-- **the delete loop in closed form**: a map over the slots with their positions -/
theorem deleteFrom_eq_mapIdx : ∀ (X : List (List Nat)) (i b e : Nat),
    deleteFrom X i b e = X.mapIdx fun k s => if b ≤ i + k ∧ i + k < e then markDeleted s else s
  | [], _, _, _ => rfl
  | s :: X, i, b, e => by
    rw [deleteFrom, deleteFrom_eq_mapIdx X, List.mapIdx_cons]
    simp only [Nat.add_zero, Nat.add_assoc, Nat.add_comm 1]

theorem deleteRange_eq_mapIdx (slots : List (List Nat)) (b e : Nat) :
    deleteRange slots b e = slots.mapIdx fun k s => if b ≤ k ∧ k < e then markDeleted s else s := by
  rw [deleteRange, deleteFrom_eq_mapIdx]; simp only [Nat.zero_add]

theorem deleteRange_getElem? (slots : List (List Nat)) (b e k : Nat) :
    (deleteRange slots b e)[k]? = slots[k]?.map fun s => if b ≤ k ∧ k < e then markDeleted s else s := by
  rw [deleteRange_eq_mapIdx, List.getElem?_mapIdx]

theorem deleteRange_length (slots : List (List Nat)) (b e : Nat) : (deleteRange slots b e).length = slots.length := by
  rw [deleteRange_eq_mapIdx, List.length_mapIdx]

/-- a positional map that acts as `g` on every position of the list is `map g` -/
theorem mapIdx_eq_map {α β : Type} {f : Nat → α → β} {g : α → β} {l : List α}
    (h : ∀ k, k < l.length → ∀ a, f k a = g a) : l.mapIdx f = l.map g := by
  apply List.ext_getElem?
  intro k
  rw [List.getElem?_mapIdx, List.getElem?_map]
  by_cases hk : k < l.length
  · simp [List.getElem?_eq_getElem hk, h k hk]
  · simp [List.getElem?_eq_none (Nat.le_of_not_lt hk)]

theorem deleteRange_mid (A B C : List (List Nat)) :
    deleteRange (A ++ B ++ C) A.length (A.length + B.length) = A ++ B.map markDeleted ++ C := by
  rw [deleteRange_eq_mapIdx, List.mapIdx_append, List.mapIdx_append,
    mapIdx_eq_map (g := id) (fun k hk a => by rw [if_neg (by omega)]; rfl),
    mapIdx_eq_map (g := markDeleted) (fun k hk a => if_pos (by omega)),
    mapIdx_eq_map (g := id) (fun k hk a => by rw [if_neg (by simp)]; rfl)]
  simp

/-- slots from `e` on are not looked at -/
theorem deleteRange_append (slots tail : List (List Nat)) (b e : Nat) (he : e ≤ slots.length) :
    deleteRange (slots ++ tail) b e = deleteRange slots b e ++ tail := by
  rw [deleteRange_eq_mapIdx, deleteRange_eq_mapIdx, List.mapIdx_append,
    mapIdx_eq_map (l := tail) (g := id) (fun k hk a => by rw [if_neg (by omega)]; rfl), List.map_id]

theorem deleteRange_bytes (slots : List (List Nat)) (b e i : Nat) :
    (deleteRange slots b e).getD i [] =
      if b ≤ i ∧ i < e ∧ i < slots.length then markDeleted (slots.getD i []) else slots.getD i [] := by
  rw [List.getD_eq_getElem?_getD, deleteRange_getElem?, List.getD_eq_getElem?_getD]
  by_cases hi : i < slots.length
  · simp only [List.getElem?_eq_getElem hi, Option.map_some, Option.getD_some, hi, and_true]
  · simp [hi]
/-- every listed entry is an entry item, at the position its range says -/
theorem mem_listOf : ∀ (items : List Item) (i : Nat) (e : LfnEntry), e ∈ listOf items i →
    ∃ I1 R sfn I2, items = I1 ++ [.entry R sfn] ++ I2 ∧
      e = ⟨sfn, nameOf R, i + (flatten I1).length, i + (flatten I1).length + R.length + 1⟩
  | [], i, e, he => by simp [listOf] at he
  | it :: items, i, e, he => by
    rcases List.mem_append.1 he with he | he
    · cases it <;> simp only [Item.listed, List.mem_singleton, List.not_mem_nil] at he
      exact ⟨[], _, _, items, rfl, by simpa using he⟩
    · obtain ⟨I1, R, sfn, I2, e1, e2⟩ := mem_listOf items _ e he
      exact ⟨it :: I1, R, sfn, I2, by simp [e1], by rw [e2]; simp [Nat.add_assoc]⟩

/-- the items that replace an entry item when its range is deleted -/
def deletedItems (R : List (List Nat)) (sfn : List Nat) : List Item :=
  (R ++ [sfn]).map fun s => .deleted (markDeleted s)

theorem deletedItems_ok (R : List (List Nat)) (sfn : List Nat) (hok : (Item.entry R sfn).Ok) :
    (∀ it ∈ deletedItems R sfn, it.Ok) ∧ (∀ it ∈ deletedItems R sfn, it.IsDeleted) ∧
      flatten (deletedItems R sfn) = (R ++ [sfn]).map markDeleted := by
  obtain ⟨hu, _⟩ := item_slots_used _ hok (by simp [Item.IsDeleted])
  refine ⟨?_, ?_, ?_⟩
  · intro it hit
    obtain ⟨s, hs, rfl⟩ := List.mem_map.1 hit
    exact markDeleted_class s (hu s hs).1
  · intro it hit
    obtain ⟨s, _, rfl⟩ := List.mem_map.1 hit
    trivial
  · unfold deletedItems flatten
    generalize R ++ [sfn] = L
    induction L with
    | nil => rfl
    | cons a L ih => simp [Item.slots, ih]

/-- the delete loop over an entry's range, in terms of items -/
theorem deleteRange_items (I1 I2 : List Item) (R : List (List Nat)) (sfn : List Nat) (tail : List (List Nat))
    (hok : (Item.entry R sfn).Ok) :
    deleteRange (flatten (I1 ++ [.entry R sfn] ++ I2) ++ tail) (flatten I1).length
        ((flatten I1).length + R.length + 1) =
      flatten (I1 ++ deletedItems R sfn ++ I2) ++ tail := by
  have hd := (deletedItems_ok R sfn hok).2.2
  simp only [flatten_append, flatten_cons, flatten_nil, List.append_nil, Item.slots, hd]
  have := deleteRange_mid (flatten I1) (R ++ [sfn]) (flatten I2 ++ tail)
  simp only [List.length_append, List.length_cons, List.length_nil] at this
  simp only [List.append_assoc] at this ⊢
  rw [← this]
  congr 1

end DirSlots
end FatVerif
