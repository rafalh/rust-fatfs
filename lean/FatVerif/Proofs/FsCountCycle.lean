import FatVerif.Proofs.FsCountOps
/-! Allocating `k` clusters into one chain: what `allocMany` builds (the fill half of `C05count.fill_delete_cycle`). -/
namespace FatVerif.FsCount
open FatVerif.Fat

/-- extend a chain by `k` clusters, as `File::write` does: the first allocation hangs the new cluster on `prev`
    (or starts a chain), every further one on the cluster just allocated. Returns the clusters in chain order. -/
def allocMany : Nat → FsCountState → Option Nat → Except Err (FsCountState × List Nat)
  | 0, s, _ => .ok (s, [])
  | k + 1, s, prev =>
    match allocOp s prev with
    | .error e => .error e
    | .ok (s1, c) =>
      match allocMany k s1 (some c) with
      | .error e => .error e
      | .ok (s2, cs) => .ok (s2, c :: cs)

theorem allocMany_spec : ∀ (k : Nat) (s : FsCountState) (prev : Option Nat) (s2 : FsCountState) (cs : List Nat),
    (∀ n, s.info.next = some n → 2 ≤ n) → (∀ p, prev = some p → s.fat p = .eoc) →
    allocMany k s prev = .ok (s2, cs) →
    cs.length = k ∧ cs.Nodup ∧ (∀ i, i ∈ cs → 2 ≤ i ∧ i < s.total + 2 ∧ s.fat i = .free) ∧
    (∀ i, i ∉ cs → prev ≠ some i → s2.fat i = s.fat i) ∧ (cs ≠ [] → Seg s2.fat cs) ∧
    (∀ p c r, prev = some p → cs = c :: r → s2.fat p = .data c) ∧ s2.total = s.total ∧ s2.fat32 = s.fat32 ∧
    (∀ n, s2.info.next = some n → 2 ≤ n) ∧ (CountOk s → CountOk s2) ∧
    s2.info.free.isSome = s.info.free.isSome := by
  intro k
  induction k with
  | zero =>
    intro s prev s2 cs hh _ h
    simp only [allocMany] at h; cases h
    exact ⟨rfl, List.nodup_nil, fun i hi => by simp at hi, fun _ _ _ => rfl, fun h => absurd rfl h,
      fun p c r _ e => (by cases e), rfl, rfl, hh, id, rfl⟩
  | succ k ih =>
    intro s prev s2 cs hh hp h
    simp only [allocMany] at h
    cases ha : allocOp s prev with
    | error e => rw [ha] at h; cases h
    | ok r1 =>
      obtain ⟨s1, c⟩ := r1
      rw [ha] at h
      simp only at h
      cases hm : allocMany k s1 (some c) with
      | error e => rw [hm] at h; cases h
      | ok r2 =>
        obtain ⟨s2', rest⟩ := r2
        rw [hm] at h; cases h
        obtain ⟨hf, hfat, htot, h32, _⟩ := allocOp_ok ha
        obtain ⟨hstrict, hc1, hc2, hc3⟩ := allocOp_hintStrict hh ha
        have hpc : ∀ p, prev = some p → p ≠ c := by
          intro p hpp e; subst e; rw [hp p hpp] at hc3; cases hc3
        obtain ⟨l1, l2, l3⟩ := allocLinkV_spec s.fat prev c hpc
        rw [← hfat] at l1 l2 l3
        have hh1 : ∀ n, s1.info.next = some n → 2 ≤ n := fun n hn => (hstrict n hn).1
        obtain ⟨i1, i2, i3, i4, i5, i6, i7, i8, i9, i10, i11⟩ :=
          ih s1 (some c) s2 rest hh1 (fun p e => by cases e; exact l1) hm
        have hcrest : c ∉ rest := by
          intro hmem; have := (i3 c hmem).2.2; rw [l1] at this; cases this
        have hprest : ∀ p, prev = some p → p ∉ rest := by
          intro p hpp hmem; have := (i3 p hmem).2.2; rw [l2 p hpp] at this; cases this
        refine ⟨by simp [i1], List.nodup_cons.mpr ⟨hcrest, i2⟩, ?_, ?_, ?_, ?_, by rw [i7, htot], by rw [i8, h32],
          i9, ?_, by rw [i11, (allocOp_ok ha).2.2.2.2.2.1]; cases s.info.free <;> rfl⟩
        · intro i hi
          rcases List.mem_cons.mp hi with e | hir
          · rw [e]; exact ⟨hc1, hc2, hc3⟩
          · obtain ⟨a, b, cf⟩ := i3 i hir
            have hic : i ≠ c := fun e => hcrest (e ▸ hir)
            have hip : ∀ p, prev = some p → i ≠ p := fun p hpp e => hprest p hpp (e ▸ hir)
            rw [l3 i hic hip] at cf
            exact ⟨a, by rw [← htot]; exact b, cf⟩
        · intro i hi hip
          have hic : i ≠ c := by intro e; subst e; simp at hi
          have hir : i ∉ rest := fun hm => hi (List.mem_cons_of_mem _ hm)
          rw [i4 i hir (fun e => hic (Option.some.inj e).symm)]
          exact l3 i hic (fun p hpp e => by subst e; exact hip hpp)
        · intro _
          cases rest with
          | nil =>
            have hk : k = 0 := by simpa using i1.symm
            subst hk
            simp only [allocMany] at hm; cases hm
            simp only [Seg]; exact l1
          | cons d r =>
            simp only [Seg]
            exact ⟨i6 c d r rfl rfl, i5 (by simp)⟩
        · intro p c' r hpp e
          cases e
          rw [i4 p (hprest p hpp) (fun e => hpc p hpp (Option.some.inj e).symm)]
          exact l2 p hpp
        · intro hcnt
          have hp' : ∀ p, prev = some p → s.fat p ≠ .free := fun p hpp => by rw [hp p hpp]; intro e; cases e
          exact i10 (allocOp_countOk hcnt hh hp' ha).1

end FatVerif.FsCount
