import FatVerif.Proofs.FileSimFatAlloc
/-!
# FileSim / FAT free: `ClusterIterator::free` / `truncate` on the FAT slice, `free/truncate_cluster_chain`

Along an acyclic chain inside the table the loops free exactly the clusters they visit: the decoded FAT afterwards is the
old one with those entries `free` (and, for `truncate`, the first one `eoc`).  The volume may or may not be marked
dirty: the first FAT write marks it.
-/
namespace FatVerif.FileSim
open FatVerif FatVerif.Fat

/-- a device on which FAT updates of the volume `fs` can run: no fault, marked dirty, well-formed image, layout -/
structure FatDev (fs : FsState) (d : Dev) : Prop where
  nofault : d.failAt = none
  dirty : d.fs.curDirty = true
  wf : d.img.WF
  geo : Geo fs d.img.size

/-- the view after freeing the clusters `cs` -/
def freedView (g : Nat → FatValue) (cs : List Nat) : Nat → FatValue :=
  fun x => if x ∈ cs then .free else g x

theorem freedView_nil (g : Nat → FatValue) : freedView g [] = g := by
  funext x; simp [freedView]

theorem freedView_cons (g : Nat → FatValue) (m : Nat) (ms : List Nat) :
    freedView (updV g m .free) ms = freedView g (m :: ms) := by
  funext x
  unfold freedView updV
  by_cases h1 : x ∈ ms
  · simp [h1]
  · by_cases h2 : x = m
    · simp [h2]
    · simp [h1, h2]

/-- the loop of `ClusterIterator::free` along a chain -/
theorem run_freeLoop_fine (fs : FsState) : ∀ (cs : List Nat) (n : Nat) (fuel : Nat) (it : Table.CIter DiskSlice)
    (num : Nat) (d : Dev), d.failAt = none → d.img.WF → Geo fs d.img.size → Chain (tabView fs d.img) n cs →
    cs.Nodup → (∀ x ∈ cs, x < fs.totalClusters + 2) → cs.length + 1 ≤ fuel →
    it.cluster = some n → it.err = false → IsFatSlice fs it.fat →
    ∃ d' it', run (Table.CIter.freeLoop DiskSlice.strm fs.fatType fuel it num) d = (.ok (num + cs.length, it'), d') ∧
      d'.fs = markedFs d.fs ∧ tabView fs d'.img = freedView (tabView fs d.img) cs ∧ FatStep fs (· ∈ cs) d d' := by
  intro cs
  induction cs with
  | nil => intro n fuel it num d _ _ _ hch; exact absurd rfl (chain_ne_nil hch)
  | cons m ms ih =>
    intro n fuel it num d hfa hwf hg hch hnd hin hfuel hc herr hsl
    obtain ⟨t, ht⟩ := chain_head hch
    have hmn : m = n := by cases ht; rfl
    subst hmn
    obtain ⟨k, hk⟩ : ∃ k, fuel = k + 1 := ⟨fuel - 1, by simp at hfuel; omega⟩
    subst hk
    have hmt : m < fs.totalClusters + 2 := hin m (by simp)
    unfold Table.CIter.freeLoop
    rw [hc]
    simp only
    obtain ⟨d1, s1, h1, hs1, hsl1⟩ := run_citer_next fs it m d hfa hg hsl herr hc hmt
    rw [run_bind_ok h1]
    obtain ⟨d2, s2, h2, hsl2, hfs2, htv2, hst2⟩ := run_table_set fs s1 hsl1 m .free d1 (by rw [hs1.failAt]; exact hfa)
      (by rw [hs1.img]; exact hwf) (by rw [hs1.img]; exact hg) hmt (rep_free _)
    rw [hs1.img] at htv2
    rw [hs1.fs] at hfs2
    have hst2' : FatStep fs (· ∈ m :: ms) d d2 := (hst2.after hs1).mono fun x hx => by simp [hx]
    have hfuel' : ms.length + 1 ≤ k := by simp at hfuel; omega
    cases hch with
    | last _ hl =>
      rw [nextV_last hl]
      simp only [Option.map]
      rw [run_bind_ok h2]
      obtain ⟨k', hk'⟩ : ∃ k', k = k' + 1 := ⟨k - 1, by omega⟩
      subst hk'
      unfold Table.CIter.freeLoop
      simp only
      refine ⟨d2, _, rfl, hfs2, ?_, hst2'⟩
      rw [htv2, ← freedView_cons, freedView_nil]
    | cons _ k' _ hdk hch' =>
      rw [nextV_data hdk]
      simp only [Option.map]
      rw [run_bind_ok h2]
      have hmms : m ∉ ms := (List.nodup_cons.mp hnd).1
      have hch2 : Chain (tabView fs d2.img) k' ms := by
        rw [htv2]; exact chain_updV_other _ m .free _ _ hch' hmms
      obtain ⟨d3, it3, h3, hfs3, htv3, hst3⟩ := ih k' k { it with fat := s2, cluster := some k' } (num + 1) d2
        (by rw [hst2'.step.failAt]; exact hfa) (hst2'.step.wf hwf) (by rw [hst2'.step.size]; exact hg) hch2
        (List.nodup_cons.mp hnd).2 (fun x hx => hin x (List.mem_cons_of_mem _ hx)) hfuel' rfl herr hsl2
      refine ⟨d3, it3, ?_, by rw [hfs3, hfs2, markedFs_idem], by rw [htv3, htv2, freedView_cons],
        hst2'.trans (hst3.mono fun x hx => List.mem_cons_of_mem _ hx)⟩
      rw [h3, show num + 1 + ms.length = num + (m :: ms).length by simp only [List.length_cons]; omega]

/-- `ClusterIterator::free` from the head of a chain -/
theorem run_citer_free_fine (fs : FsState) (cs : List Nat) (n fuel : Nat) (s : DiskSlice) (d : Dev)
    (hfa : d.failAt = none) (hwf : d.img.WF) (hg : Geo fs d.img.size)
    (hch : Chain (tabView fs d.img) n cs) (hnd : cs.Nodup) (hin : ∀ x ∈ cs, x < fs.totalClusters + 2)
    (hfuel : cs.length + 1 ≤ fuel) (hsl : IsFatSlice fs s) :
    ∃ d' it', run (Table.CIter.free DiskSlice.strm fs.fatType fuel { fat := s, cluster := some n }) d =
        (.ok (cs.length, it'), d') ∧
      d'.fs = markedFs d.fs ∧ tabView fs d'.img = freedView (tabView fs d.img) cs ∧ FatStep fs (· ∈ cs) d d' := by
  obtain ⟨d1, it1, h1, r⟩ := run_freeLoop_fine fs cs n fuel { fat := s, cluster := some n } 0 d hfa hwf hg hch hnd hin
    hfuel rfl rfl hsl
  refine ⟨d1, it1, ?_, r⟩
  unfold Table.CIter.free
  rw [h1, Nat.zero_add]

/-- `ClusterIterator::truncate` at the head `n` of a chain `n :: t`: `n` becomes the end of the chain, `t` is freed -/
theorem run_citer_truncate_fine (fs : FsState) (t : List Nat) (n fuel : Nat) (s : DiskSlice) (d : Dev)
    (hfa : d.failAt = none) (hwf : d.img.WF) (hg : Geo fs d.img.size)
    (hch : Chain (tabView fs d.img) n (n :: t)) (hnd : (n :: t).Nodup)
    (hin : ∀ x ∈ n :: t, x < fs.totalClusters + 2) (hfuel : t.length + 2 ≤ fuel) (hsl : IsFatSlice fs s) :
    ∃ d' it', run (Table.CIter.truncate DiskSlice.strm fs.fatType fuel { fat := s, cluster := some n }) d =
        (.ok (t.length, it'), d') ∧
      d'.fs = markedFs d.fs ∧ tabView fs d'.img = freedView (updV (tabView fs d.img) n .eoc) t ∧
      FatStep fs (· ∈ n :: t) d d' := by
  have hnt : n < fs.totalClusters + 2 := hin n (by simp)
  unfold Table.CIter.truncate
  simp only
  obtain ⟨d1, s1, h1, hs1, hsl1⟩ := run_citer_next fs { fat := s, cluster := some n } n d hfa hg hsl rfl rfl hnt
  rw [run_bind_ok h1]
  obtain ⟨d2, s2, h2, hsl2, hfs2, htv2, hst2⟩ := run_table_set fs s1 hsl1 n .eoc d1 (by rw [hs1.failAt]; exact hfa)
    (by rw [hs1.img]; exact hwf) (by rw [hs1.img]; exact hg) hnt (rep_eoc _)
  rw [hs1.img] at htv2
  rw [hs1.fs] at hfs2
  have hst2' : FatStep fs (· ∈ n :: t) d d2 := (hst2.after hs1).mono fun x hx => by simp [hx]
  cases hch with
  | last _ hl =>
    rw [nextV_last hl]
    simp only [Option.map]
    rw [run_bind_ok h2]
    obtain ⟨k, hk⟩ : ∃ k, fuel = k + 1 := ⟨fuel - 1, by omega⟩
    subst hk
    refine ⟨d2, { fat := s2, cluster := none }, ?_, hfs2, by rw [htv2, freedView_nil], hst2'⟩
    unfold Table.CIter.free Table.CIter.freeLoop
    rfl
  | cons _ k' _ hdk hch' =>
    rw [nextV_data hdk]
    simp only [Option.map]
    rw [run_bind_ok h2]
    have hch2 : Chain (tabView fs d2.img) k' t := by
      rw [htv2]; exact chain_updV_other _ n .eoc _ _ hch' (List.nodup_cons.mp hnd).1
    obtain ⟨d3, it3, h3, hfs3, htv3, hst3⟩ := run_citer_free_fine fs t k' fuel s2 d2 (by rw [hst2'.step.failAt]; exact hfa)
      (hst2'.step.wf hwf) (by rw [hst2'.step.size]; exact hg) hch2 (List.nodup_cons.mp hnd).2
      (fun x hx => hin x (List.mem_cons_of_mem _ hx)) (by omega) hsl2
    exact ⟨d3, it3, h3, by rw [hfs3, hfs2, markedFs_idem], by rw [htv3, htv2], hst2'.trans (hst3.mono fun x hx => List.mem_cons_of_mem _ hx)⟩

/-- the bookkeeping after freeing the clusters `cs`: the volume marked, `map_free_clusters(|n| n + num)` -/
theorem infoOk_after_free {fs : FsState} {img img' : Img} (hinfo : InfoOk fs img) (cs : List Nat)
    (g' : Nat → FatValue) (htv : tabView fs img' = g') (hnd : cs.Nodup)
    (hin : ∀ i ∈ cs, 2 ≤ i ∧ i < fs.totalClusters + 2 ∧ tabView fs img i ≠ .free)
    (hfree : ∀ i ∈ cs, g' i = .free) (hother : ∀ i, i ∉ cs → (g' i = .free ↔ tabView fs img i = .free)) :
    InfoOk { markedFs fs with fsInfo := fs.fsInfo.mapFree (· + cs.length) } img' := by
  have hcount := countFreeV_free_list cs (tabView fs img) g' fs.totalClusters hnd hin hfree hother
  have hgeo : FsGeomEq fs { markedFs fs with fsInfo := fs.fsInfo.mapFree (· + cs.length) } := by
    have := markedFs_geom fs
    unfold FsGeomEq at *
    rw [this]
  refine ⟨fun n hn => ?_, fun n hn => ?_⟩
  · have : (fs.fsInfo.mapFree (· + cs.length)).next = some n := hn
    rw [mapFree_next] at this
    exact hinfo.hint n this
  · have h1 : (fs.fsInfo.mapFree (· + cs.length)).free = some n := hn
    rw [mapFree_free] at h1
    rw [hgeo.tabView, hgeo.totalClusters, htv, hcount]
    cases hf : fs.fsInfo.free with
    | none => rw [hf] at h1; cases h1
    | some m =>
      rw [hf] at h1
      have := hinfo.count m hf
      have : n = m + cs.length := (Option.some.inj h1).symm
      omega

theorem chain_fuel_ok {fs : FsState} {cs : List Nat} (hnd : cs.Nodup) (hin : ∀ x ∈ cs, x < fs.totalClusters + 2) :
    cs.length + 1 ≤ chainFuel fs := by
  have := nodup_length_le hnd hin
  unfold chainFuel; omega

/-- a FAT update followed by a change of the FS-info cache -/
theorem FatStep.withInfo {fs : FsState} {C : Nat → Prop} {d d1 : Dev} (h : FatStep fs C d d1)
    (hfs : d1.fs = markedFs d.fs) (info : FsInfoSt) :
    FatStep fs C d { d1 with fs := { d1.fs with fsInfo := info } } ∧
    FsGeomEq d.fs { d1.fs with fsInfo := info } := by
  have hgeo : FsGeomEq d.fs { d1.fs with fsInfo := info } := by
    rw [hfs]
    have := markedFs_geom d.fs
    unfold FsGeomEq at *
    rw [this]
  exact ⟨⟨⟨h.step.failAt, h.step.size, h.step.wf, hgeo, h.step.clock⟩, h.dirty, h.fine,
    fun hcd E D hE => by obtain ⟨r, l, i, cl⟩ := h.trace hcd E D hE; exact ⟨r, l, i, cl⟩⟩, hgeo⟩

/-- `FileSystem::truncate_cluster_chain(cur)` -/
theorem run_truncateClusterChain_fine (cur : Nat) (t : List Nat) (d : Dev) (hfa : d.failAt = none) (hwf : d.img.WF)
    (hg : Geo d.fs d.img.size) (hinfo : InfoOk d.fs d.img)
    (hch : Chain (tabView d.fs d.img) cur (cur :: t)) (hnd : (cur :: t).Nodup)
    (hin : ∀ x ∈ cur :: t, 2 ≤ x ∧ x < d.fs.totalClusters + 2 ∧ tabView d.fs d.img x ≠ .free) :
    ∃ d', run (truncateClusterChain cur) d = (.ok (), d') ∧
      d'.fs = { markedFs d.fs with fsInfo := d.fs.fsInfo.mapFree (· + t.length) } ∧
      tabView d'.fs d'.img = freedView (updV (tabView d.fs d.img) cur .eoc) t ∧ InfoOk d'.fs d'.img ∧
      FatStep d.fs (· ∈ cur :: t) d d' := by
  have hfuel := chain_fuel_ok hnd (fun x hx => (hin x hx).2.1)
  obtain ⟨d1, it1, h1, hfs1, htv1, hst1⟩ := run_citer_truncate_fine d.fs t cur (chainFuel d.fs) (fatSliceOf d.fs) d hfa
    hwf hg hch hnd (fun x hx => (hin x hx).2.1) (by simp at hfuel ⊢; omega) (isFatSlice_self _)
  obtain ⟨hst, hgeo⟩ := hst1.withInfo hfs1 (d1.fs.fsInfo.mapFree (· + t.length))
  have hfs : ({ d1.fs with fsInfo := d1.fs.fsInfo.mapFree (· + t.length) } : FsState) =
      { markedFs d.fs with fsInfo := d.fs.fsInfo.mapFree (· + t.length) } := by rw [hfs1, markedFs_fsInfo]
  refine ⟨_, ?_, hfs, by rw [hgeo.tabView]; exact htv1, ?_, hst⟩
  · unfold truncateClusterChain
    rw [run_bind_ok (run_getFs d)]
    simp only
    rw [run_bind_ok h1, run_modifyFs]
  · show InfoOk { d1.fs with fsInfo := d1.fs.fsInfo.mapFree (· + t.length) } d1.img
    rw [hfs]
    refine infoOk_after_free hinfo t _ htv1 (List.nodup_cons.mp hnd).2
      (fun i hi => hin i (List.mem_cons_of_mem _ hi)) (fun i hi => by unfold freedView; rw [if_pos hi]) fun i hi => ?_
    unfold freedView
    rw [if_neg hi]
    by_cases hic : i = cur
    · subst hic
      rw [updV_same]
      exact ⟨fun h => FatValue.noConfusion h, fun h => absurd h (hin i (by simp)).2.2⟩
    · rw [updV_ne _ _ _ _ hic]

/-- `FileSystem::free_cluster_chain(n)` -/
theorem run_freeClusterChain_fine (n : Nat) (cs : List Nat) (d : Dev) (hfa : d.failAt = none) (hwf : d.img.WF)
    (hg : Geo d.fs d.img.size) (hinfo : InfoOk d.fs d.img)
    (hch : Chain (tabView d.fs d.img) n cs) (hnd : cs.Nodup)
    (hin : ∀ x ∈ cs, 2 ≤ x ∧ x < d.fs.totalClusters + 2 ∧ tabView d.fs d.img x ≠ .free) :
    ∃ d', run (freeClusterChain n) d = (.ok (), d') ∧
      d'.fs = { markedFs d.fs with fsInfo := d.fs.fsInfo.mapFree (· + cs.length) } ∧
      tabView d'.fs d'.img = freedView (tabView d.fs d.img) cs ∧ InfoOk d'.fs d'.img ∧
      FatStep d.fs (· ∈ cs) d d' := by
  obtain ⟨d1, it1, h1, hfs1, htv1, hst1⟩ := run_citer_free_fine d.fs cs n (chainFuel d.fs) (fatSliceOf d.fs) d hfa hwf hg
    hch hnd (fun x hx => (hin x hx).2.1) (chain_fuel_ok hnd (fun x hx => (hin x hx).2.1)) (isFatSlice_self _)
  obtain ⟨hst, hgeo⟩ := hst1.withInfo hfs1 (d1.fs.fsInfo.mapFree (· + cs.length))
  have hfs : ({ d1.fs with fsInfo := d1.fs.fsInfo.mapFree (· + cs.length) } : FsState) =
      { markedFs d.fs with fsInfo := d.fs.fsInfo.mapFree (· + cs.length) } := by rw [hfs1, markedFs_fsInfo]
  refine ⟨_, ?_, hfs, by rw [hgeo.tabView]; exact htv1, ?_, hst⟩
  · unfold freeClusterChain
    rw [run_bind_ok (run_getFs d)]
    simp only
    rw [run_bind_ok h1, run_modifyFs]
  · show InfoOk { d1.fs with fsInfo := d1.fs.fsInfo.mapFree (· + cs.length) } d1.img
    rw [hfs]
    exact infoOk_after_free hinfo cs _ htv1 hnd hin (fun i hi => by unfold freedView; rw [if_pos hi])
      (fun i hi => by unfold freedView; rw [if_neg hi])

/-! ### on a volume already marked dirty, without the records and the entry-window frame -/

theorem run_table_set_view (fs : FsState) (s : DiskSlice) (hs : IsFatSlice fs s) (c : Nat) (v : FatValue) (d : Dev)
    (hd : FatDev fs d) (hc : c < fs.totalClusters + 2) (hv : Representable fs.fatType v) :
    ∃ d' s', run (Table.set DiskSlice.strm fs.fatType s c v) d = (.ok s', d') ∧ IsFatSlice fs s' ∧
      DevStep d d' ∧ d'.fs = d.fs ∧ tabView fs d'.img = updV (tabView fs d.img) c v ∧
      (∀ q, OutsideFat fs q → d'.img.getByte q = d.img.getByte q) := by
  obtain ⟨d', s', h1, h2, hfs, h3, hst⟩ := run_table_set fs s hs c v d hd.nofault hd.wf hd.geo hc hv
  exact ⟨d', s', h1, h2, hst.step, by rw [hfs, markedFs_of_dirty hd.dirty], h3,
    fun q => hst.outside hd.geo (fun x hx => hx ▸ hc) q (Or.inr hd.dirty)⟩

theorem run_citer_truncate (fs : FsState) (t : List Nat) (n fuel : Nat) (s : DiskSlice) (d : Dev) (hd : FatDev fs d)
    (hch : Chain (tabView fs d.img) n (n :: t)) (hnd : (n :: t).Nodup)
    (hin : ∀ x ∈ n :: t, x < fs.totalClusters + 2) (hfuel : t.length + 2 ≤ fuel) (hsl : IsFatSlice fs s) :
    ∃ d' it', run (Table.CIter.truncate DiskSlice.strm fs.fatType fuel { fat := s, cluster := some n }) d =
        (.ok (t.length, it'), d') ∧
      DevStep d d' ∧ d'.fs = d.fs ∧
      tabView fs d'.img = freedView (updV (tabView fs d.img) n .eoc) t ∧
      (∀ q, OutsideFat fs q → d'.img.getByte q = d.img.getByte q) := by
  obtain ⟨d', it', h1, hfs, h2, hst⟩ := run_citer_truncate_fine fs t n fuel s d hd.nofault hd.wf hd.geo hch hnd hin
    hfuel hsl
  exact ⟨d', it', h1, hst.step, by rw [hfs, markedFs_of_dirty hd.dirty], h2,
    fun q => hst.outside hd.geo hin q (Or.inr hd.dirty)⟩

theorem run_truncateClusterChain (cur : Nat) (t : List Nat) (d : Dev) (hd : FatDev d.fs d) (hinfo : InfoOk d.fs d.img)
    (hch : Chain (tabView d.fs d.img) cur (cur :: t)) (hnd : (cur :: t).Nodup)
    (hin : ∀ x ∈ cur :: t, 2 ≤ x ∧ x < d.fs.totalClusters + 2 ∧ tabView d.fs d.img x ≠ .free) :
    ∃ d', run (truncateClusterChain cur) d = (.ok (), d') ∧ DevStep d d' ∧
      tabView d'.fs d'.img = freedView (updV (tabView d.fs d.img) cur .eoc) t ∧ InfoOk d'.fs d'.img ∧
      (∀ q, OutsideFat d.fs q → d'.img.getByte q = d.img.getByte q) := by
  obtain ⟨d', hr, _, htv, hi, hst⟩ := run_truncateClusterChain_fine cur t d hd.nofault hd.wf hd.geo hinfo hch hnd hin
  exact ⟨d', hr, hst.step, htv, hi, fun q => hst.outside hd.geo (fun x hx => (hin x hx).2.1) q (Or.inr hd.dirty)⟩

theorem run_freeClusterChain (n : Nat) (cs : List Nat) (d : Dev) (hd : FatDev d.fs d) (hinfo : InfoOk d.fs d.img)
    (hch : Chain (tabView d.fs d.img) n cs) (hnd : cs.Nodup)
    (hin : ∀ x ∈ cs, 2 ≤ x ∧ x < d.fs.totalClusters + 2 ∧ tabView d.fs d.img x ≠ .free) :
    ∃ d', run (freeClusterChain n) d = (.ok (), d') ∧ DevStep d d' ∧
      tabView d'.fs d'.img = freedView (tabView d.fs d.img) cs ∧ InfoOk d'.fs d'.img ∧
      (∀ q, OutsideFat d.fs q → d'.img.getByte q = d.img.getByte q) := by
  obtain ⟨d', hr, _, htv, hi, hst⟩ := run_freeClusterChain_fine n cs d hd.nofault hd.wf hd.geo hinfo hch hnd hin
  exact ⟨d', hr, hst.step, htv, hi, fun q => hst.outside hd.geo (fun x hx => (hin x hx).2.1) q (Or.inr hd.dirty)⟩

end FatVerif.FileSim
