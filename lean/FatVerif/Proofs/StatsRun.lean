import FatVerif.Proofs.FileSimDirty
import FatVerif.Proofs.FatImgScan
/-!
# C06 — `stats` succeeds on a fault-free mounted volume

On a device without a scheduled fault whose layout satisfies `FileSim.Geo` the recount reads every entry
`[2, total+2)` inside the FAT window, so it cannot fail (`run_countFree`, from `countFree_img`); hence `stats` returns a
value (`run_stats_ok`).
-/
namespace FatVerif.C06vol
open FatVerif FatVerif.FileSim

/-- **`count_free_clusters`** on a fault-free device with layout `Geo`: the number of free entries of the decoded
    table. `countFree_img` (success is `Fat.countFree`'s, and the run errs only where that one does) and
    `countFree_sim`; the recount itself is walked once, there. -/
theorem run_countFree (fs : FsState) (d : Dev) (hfa : d.failAt = none) (hwf : d.img.WF) (hg : Geo fs d.img.size) :
    ∃ s' d', run (Table.countFree DiskSlice.strm fs.fatType (fatSliceOf fs) fs.totalClusters) d =
        (.ok (Fat.countFreeV (Fat.view fs.fatType (imgFatBytes fs d.img)) fs.totalClusters, s'), d') ∧
      SameStore d d' := by
  generalize hrun : run (Table.countFree DiskSlice.strm fs.fatType (fatSliceOf fs) fs.totalClusters) d = rd
  obtain ⟨r, d'⟩ := rd
  have hsmall := hg.small
  obtain ⟨hok, _, herr⟩ := countFree_img (s0 := fatSliceOf fs) fs.fatType
    ⟨rfl, rfl, rfl, rfl, by unfold fatSliceOf; split <;> exact Nat.zero_le _⟩ fs.totalClusters d hwf hg.fat_dev
    (by cases hft : fs.fatType <;> rw [hft] at hsmall <;> simp only [Fat.badMark, Fat.u32Lim] at * <;> omega) hrun
  have hpure := Fat.countFree_sim (hg.tableOk d.img)
  obtain ⟨hst, herr⟩ := herr hfa
  cases r with
  | ok a =>
    have := hpure.symm.trans (hok a.1 a.2 rfl)
    exact ⟨a.2, d', by rw [Except.ok.inj this], hst⟩
  | error e =>
    have h1 := hg.ents 1 (by omega)
    rw [entOff_eq, entWidth_eq] at h1
    obtain ⟨e', h, _⟩ := herr
      (by cases hft : fs.fatType <;> rw [hft] at h1 <;> simp only [Fat.off, Fat.width] at h1 ⊢ <;> omega) e rfl
    cases hpure.symm.trans h

theorem run_bind_exists {α β} {p : Prog β} {k : β → Prog α} {d : Dev} (h : ∃ b d1, run p d = (.ok b, d1))
    (hk : ∀ b d1, ∃ a d2, run (k b) d1 = (.ok a, d2)) : ∃ a d2, run (p >>= k) d = (.ok a, d2) := by
  obtain ⟨b, d1, h1⟩ := h
  obtain ⟨a, d2, h2⟩ := hk b d1
  exact ⟨a, d2, by rw [run_bind_ok h1]; exact h2⟩

/-- **`stats` succeeds** on a fault-free mounted volume with layout `Geo` -/
theorem run_stats_ok (d : Dev) (hfail : d.failAt = none) (hwf : d.img.WF) (hg : Geo d.fs d.img.size) :
    ∃ a b n d', run stats d = (.ok (a, b, n), d') := by
  suffices h : ∃ r d', run stats d = (.ok r, d') by
    obtain ⟨⟨a, b, n⟩, d', h⟩ := h
    exact ⟨a, b, n, d', h⟩
  unfold stats
  have h0 : run Prog.getFs d = (.ok d.fs, d) := rfl
  rw [run_bind_ok h0]
  cases hfree : d.fs.fsInfo.free with
  | some m => exact ⟨_, d, rfl⟩
  | none =>
    dsimp only
    obtain ⟨s', d1, h1, _⟩ := run_countFree d.fs d hfail hwf hg
    apply run_bind_exists
    · apply run_bind_exists ⟨_, _, h1⟩
      intro b d2
      apply run_bind_exists ⟨(), _, run_modifyFs _ _⟩
      intro _ d3
      exact ⟨_, _, rfl⟩
    · intro b d2
      exact ⟨_, _, rfl⟩

end FatVerif.C06vol
