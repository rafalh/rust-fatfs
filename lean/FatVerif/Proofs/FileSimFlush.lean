import FatVerif.Props.C02sim
import FatVerif.Props.C14
import FatVerif.Proofs.DirEntry
import FatVerif.Proofs.DirWriteBytes
/-!
# FileSim / flush: `File::flush` and `drop` on a fault-free device; re-opening a file from its slot

`EntryRep fs img f e`: where the handle's 32-byte directory record (editor `e`) lives and how it relates to the image
— the slot lies inside the device, outside the first FAT copy and outside the clusters of the file; the record is well
formed and not LFN-patterned; its first-cluster field is the handle's first cluster; a clean editor means the slot
already holds the record.  `flush_sim`: `File::flush` succeeds, writes the record into the slot (nothing if the editor is clean), then
flushes the device; the abstraction of the handle is unchanged.

* `readExact_sim`: `read_exact(n)` on a represented handle with at least `n` bytes left returns exactly the next `n` bytes
  of the content `(absFile …).content`.
* `reopen fs img pos`: the handle `open_file` builds from the 32-byte record at `pos` (`DirEntry::to_file`:
  `File::new(entry.first_cluster(), Some(entry.editor()))`).
-/
namespace FatVerif.FileSim
open FatVerif FatVerif.Fat

/-- the device after a successful `flush` call -/
def didFlush (d : Dev) : Dev := { d.count .f with log := .flush :: d.log }

theorem run_flush (d : Dev) (h : d.failAt = none) : run Prog.flush d = (.ok (), didFlush d) := by
  show stepOp .flush d = _
  simp only [stepOp]
  rw [devCall_nofault _ _ _ h]
  rfl

/-- the handle's directory record and its slot -/
structure EntryRep (fs : FsState) (img : Img) (f : FileH) (e : DirEntryEditor) : Prop where
  entry : f.entry = some e
  /-- every field of the record fits its width -/
  wf : e.data.WF
  /-- a short entry, not an LFN slot -/
  notLfn : attrsIsLfn e.data.attrs = false
  /-- the slot lies inside the device -/
  inDev : e.pos + 32 ≤ img.size
  /-- … outside the first FAT copy -/
  offFat : e.pos + 32 ≤ (fatSliceOf fs).beginOff ∨ (fatSliceOf fs).beginOff + (fatSliceOf fs).size ≤ e.pos
  /-- … and outside the clusters of the file itself -/
  offData : ∀ c ∈ fileChain fs img f, e.pos + 32 ≤ clusterOff fs c ∨ clusterOff fs c + fs.clusterSize ≤ e.pos
  /-- the record's first cluster is the handle's -/
  first : e.data.firstCluster fs.fatType = f.firstCluster
  /-- a clean editor: the slot holds the record -/
  sync : e.dirty = false → img.read e.pos 32 = e.data.serialize

/-- a clean record is still in its slot on an image that shows the 32 bytes of the slot as `img` does -/
theorem EntryRep.sync_of_slot {fs : FsState} {img img' : Img} {f : FileH} {e : DirEntryEditor}
    (he : EntryRep fs img f e) (hslot : ∀ q, e.pos ≤ q → q < e.pos + 32 → img'.getByte q = img.getByte q)
    (hcl : e.dirty = false) : img'.read e.pos 32 = e.data.serialize := by
  rw [← he.sync hcl]
  unfold Img.read
  apply List.map_congr_left
  intro k hk
  have := List.mem_range.mp hk
  exact hslot _ (by omega) (by omega)

/-- two images that agree on the first FAT copy and on the clusters of the file give the same representation -/
theorem FileRep.of_agree {fs : FsState} {sz : Nat} (hg : Geo fs sz) {img img' : Img} {f f' : FileH}
    (hrep : FileRep fs img f) (hfat : FatAgree fs img img')
    (hdata : ∀ c ∈ fileChain fs img f, ∀ j, j < fs.clusterSize →
      img'.getByte (clusterOff fs c + j) = img.getByte (clusterOff fs c + j))
    (hfirst : f'.firstCluster = f.firstCluster) (hcur : f'.currentCluster = f.currentCluster)
    (hoff : f'.offset = f.offset) (hsize : f'.size? = f.size?) :
    FileRep fs img' f' ∧ CoreEq (absFile fs img' f') (absFile fs img f) ∧
    fileChain fs img' f' = fileChain fs img f ∧ tabView fs img' = tabView fs img := by
  have htv : tabView fs img' = tabView fs img := tabView_congr hg hfat
  have hch : fileChain fs img' f' = fileChain fs img f := by unfold fileChain; rw [hfirst, htv]
  have hcore : CoreEq (absFile fs img' f') (absFile fs img f) :=
    ⟨rfl, hch, fun c hc j hj => hdata c hc j hj, by show f'.size?.getD 0 = f.size?.getD 0; rw [hsize], hfirst,
      hoff, hcur⟩
  obtain ⟨szv, hsz⟩ := hrep.file
  refine ⟨⟨⟨szv, hsize.trans hsz⟩, by rw [htv]; exact AFileInv.of_coreEq hcore hrep.inv, ?_, ?_, ?_⟩, hcore, hch, htv⟩
  · intro c hc; rw [hch, htv]; exact hrep.chain c (hfirst ▸ hc)
  · intro c hc; exact hrep.inTab c (hch ▸ hc)
  · intro c hc; rw [htv]; exact hrep.last_eoc c (hch ▸ hc)

/-- **`flush_sim`.**  `File::flush` on a fault-free device, for a represented handle whose record lives in a slot
    satisfying `EntryRep`: the call succeeds; the new handle is the old one with a clean editor; the image changes only
    inside the 32-byte slot (not at all if the editor was clean) and the slot now holds the serialised record (size,
    first cluster, time stamps); the device log is `flush :: (slot pieces) ++ old log`, i.e. the device flush mark
    comes after the slot write and after everything written before the call; mounted state, representation and
    abstraction are unchanged. -/
theorem flush_sim (f : FileH) (e : DirEntryEditor) (d : Dev) (h : SimInv f d) (he : EntryRep d.fs d.img f e) :
    ∃ d', run f.flush d = (.ok { f with entry := some { e with dirty := false } }, d') ∧
      DevStep d d' ∧ d'.fs = d.fs ∧
      (∀ q, ¬ (e.pos ≤ q ∧ q < e.pos + 32) → d'.img.getByte q = d.img.getByte q) ∧
      (e.dirty = false → d'.img = d.img) ∧
      d'.img.read e.pos 32 = e.data.serialize ∧
      (∃ items, d'.log = .flush :: (items.reverse ++ d.log) ∧
        (e.dirty = true → Pieces e.pos (e.data.serialize.take 32) items) ∧ (e.dirty = false → items = [])) ∧
      SimInv { f with entry := some { e with dirty := false } } d' ∧
      EntryRep d'.fs d'.img { f with entry := some { e with dirty := false } } { e with dirty := false } ∧
      CoreEq (absFile d'.fs d'.img { f with entry := some { e with dirty := false } }) (absFile d.fs d.img f) := by
  obtain ⟨hfa, hwf, hg, hrep, hinfo⟩ := h
  have hlen : e.data.serialize.length = 32 := DirFileEntryData.serialize_length _ he.wf.name_len
  have hlt := DirFileEntryData.serialize_lt _ he.wf
  -- the program, evaluated
  have hrun : ∃ d1, run f.flushDirEntry d = (.ok { f with entry := some { e with dirty := false } }, d1) ∧
      DevStep d d1 ∧ d1.fs = d.fs ∧
      (∀ q, d1.img.getByte q = if e.dirty = true ∧ e.pos ≤ q ∧ q < e.pos + 32 then
        e.data.serialize.getD (q - e.pos) 0 else d.img.getByte q) ∧
      (e.dirty = false → d1 = d) := by
    unfold FileH.flushDirEntry
    rw [he.entry]
    simp only
    cases hd : e.dirty with
    | false =>
      refine ⟨d, ?_, DevStep.refl d, rfl, fun q => by simp, fun _ => rfl⟩
      simp only [Bool.false_eq_true, if_false]
      have : ({ e with dirty := false } : DirEntryEditor) = e := by cases e; simp_all
      rw [this, ← he.entry]
      rfl
    | true =>
      simp only [if_true]
      obtain ⟨d1, hk, hs1, hfs1, hb1⟩ := DirSim.run_writeRecord e.data he.wf.name_len e.pos d hfa he.inDev
      refine ⟨d1, (hk _).trans rfl, hs1, hfs1, fun q => ?_, fun h => by cases h⟩
      rw [hb1 hwf q]
      unfold DirSim.putBytes
      rw [hlen]
      by_cases hq : e.pos ≤ q ∧ q < e.pos + 32
      · rw [if_pos hq, if_pos ⟨trivial, hq⟩]
        have hi : q - e.pos < e.data.serialize.length := by omega
        have : e.data.serialize.getD (q - e.pos) 0 < 256 := by
          rw [List.getD_eq_getElem?_getD, List.getElem?_eq_getElem hi]
          exact hlt _ (List.getElem_mem hi)
        rw [Nat.mod_eq_of_lt this]
      · rw [if_neg hq, if_neg (fun h => hq h.2)]
  obtain ⟨d1, hr1, hs1, hfs1, hb1, hclean1⟩ := hrun
  have hfa1' : d1.failAt = none := hs1.failAt.trans hfa
  have hrunf : run f.flush d = (.ok { f with entry := some { e with dirty := false } }, didFlush d1) := by
    unfold FileH.flush
    rw [run_bind_ok hr1, run_bind_ok (run_flush d1 hfa1')]
    rfl
  -- what the image looks like
  have hout : ∀ q, ¬ (e.pos ≤ q ∧ q < e.pos + 32) → (didFlush d1).img.getByte q = d.img.getByte q := by
    intro q hq
    show d1.img.getByte q = _
    rw [hb1 q, if_neg (fun h => hq h.2)]
  have hslot : (didFlush d1).img.read e.pos 32 = e.data.serialize := by
    show d1.img.read e.pos 32 = _
    cases hd : e.dirty with
    | false => rw [hclean1 hd]; exact he.sync hd
    | true =>
      apply List.ext_getElem
      · rw [Img.read_length, hlen]
      · intro i h1 h2
        rw [Img.read_length] at h1
        have := Img.read_getD d1.img e.pos 32 i h1
        rw [List.getD_eq_getElem?_getD, List.getElem?_eq_getElem (by rw [Img.read_length]; exact h1)] at this
        simp only [Option.getD_some] at this
        rw [this, hb1, if_pos ⟨hd, by omega, by omega⟩, Nat.add_sub_cancel_left,
          List.getD_eq_getElem?_getD, List.getElem?_eq_getElem h2]
        rfl
  have hfat : FatAgree d.fs d.img (didFlush d1).img := by
    intro q h1 h2
    exact hout q (by rcases he.offFat with h | h <;> omega)
  have hdata : ∀ c ∈ fileChain d.fs d.img f, ∀ j, j < d.fs.clusterSize →
      (didFlush d1).img.getByte (clusterOff d.fs c + j) = d.img.getByte (clusterOff d.fs c + j) := by
    intro c hc j hj
    exact hout _ (by rcases he.offData c hc with h | h <;> omega)
  have hsize? : ({ f with entry := some { e with dirty := false } } : FileH).size? = f.size? := by
    unfold FileH.size?; rw [he.entry]
  obtain ⟨hrep', hcore, hch', htv'⟩ := hrep.of_agree hg hfat hdata (f' := { f with entry := some { e with dirty := false } })
    rfl rfl rfl hsize?
  have hfsF : (didFlush d1).fs = d.fs := hfs1
  have hstep : DevStep d (didFlush d1) := ⟨hs1.failAt, hs1.size, hs1.wf, hs1.geom, hs1.clock⟩
  obtain ⟨_, _, hdirty, hcl⟩ := flush_persists f d hrunf
  refine ⟨didFlush d1, hrunf, hstep, hfsF, hout, ?_, hslot, ?_, ?_, ?_, ?_⟩
  · intro hd; show d1.img = d.img; rw [hclean1 hd]
  · cases hd : e.dirty with
    | true =>
      obtain ⟨_, items, hl, hp⟩ := hdirty e he.entry hd
      exact ⟨items, hl, fun _ => hp, fun h => (by cases h)⟩
    | false =>
      obtain ⟨_, hl⟩ := hcl (fun e0 he0 => by rw [he.entry] at he0; cases he0; exact hd)
      exact ⟨[], by simpa using hl, fun h => (by cases h), fun _ => rfl⟩
  · refine ⟨hfa1', hs1.wf hwf, ?_, ?_, ?_⟩
    · show Geo (didFlush d1).fs (didFlush d1).img.size
      rw [hfsF, show (didFlush d1).img.size = d.img.size from hs1.size]; exact hg
    · show FileRep (didFlush d1).fs _ _
      rw [hfsF]; exact hrep'
    · show InfoOk (didFlush d1).fs _
      rw [hfsF]; exact ⟨hinfo.hint, by rw [htv']; exact hinfo.count⟩
  · show EntryRep (didFlush d1).fs _ _ _
    rw [hfsF]
    exact ⟨rfl, he.wf, he.notLfn, by rw [show (didFlush d1).img.size = d.img.size from hs1.size]; exact he.inDev, he.offFat,
      fun c hc => he.offData c (hch' ▸ hc), he.first, fun _ => hslot⟩
  · show CoreEq (absFile (didFlush d1).fs _ _) _
    rw [hfsF]; exact hcore

/-- **`drop_sim`.**  `impl Drop for File` (`FileH.drop`: the flush runs inside the destructor): same effect on image
    and log as `flush_sim`; the handle is gone afterwards, the conclusions are stated for the value it had. -/
theorem drop_sim (f : FileH) (e : DirEntryEditor) (d : Dev) (h : SimInv f d) (he : EntryRep d.fs d.img f e) :
    ∃ d', run f.drop d = (.ok (), d') ∧
      DevStep d d' ∧ d'.fs = d.fs ∧
      (∀ q, ¬ (e.pos ≤ q ∧ q < e.pos + 32) → d'.img.getByte q = d.img.getByte q) ∧
      d'.img.read e.pos 32 = e.data.serialize ∧
      (∃ items, d'.log = .flush :: (items.reverse ++ d.log) ∧
        (e.dirty = true → Pieces e.pos (e.data.serialize.take 32) items) ∧ (e.dirty = false → items = [])) ∧
      SimInv { f with entry := some { e with dirty := false } } d' ∧
      EntryRep d'.fs d'.img { f with entry := some { e with dirty := false } } { e with dirty := false } ∧
      CoreEq (absFile d'.fs d'.img { f with entry := some { e with dirty := false } }) (absFile d.fs d.img f) := by
  have h0 : SimInv f { d with dropDepth := d.dropDepth + 1 } := ⟨h.nofault, h.wf, h.geo, h.rep, h.info⟩
  obtain ⟨d1, hr, hst, hfs, hout, _, hslot, hlog, hsim, hent, hcore⟩ :=
    flush_sim f e { d with dropDepth := d.dropDepth + 1 } h0 he
  have hrun : run f.drop d = (.ok (), { d1 with dropDepth := d1.dropDepth - 1 }) := by
    unfold FileH.drop Prog.inDrop
    have hc : run (do let _ ← f.flush; (pure () : Prog Unit)) { d with dropDepth := d.dropDepth + 1 } =
        (.ok (), d1) := by
      rw [run_bind_ok hr]; rfl
    simp only [run, hc]
  refine ⟨{ d1 with dropDepth := d1.dropDepth - 1 }, hrun, ?_, hfs, hout, hslot, hlog, ?_, hent, hcore⟩
  · exact ⟨hst.failAt, hst.size, hst.wf, hst.geom, hst.clock⟩
  · exact ⟨hsim.nofault, hsim.wf, hsim.geo, hsim.rep, hsim.info⟩

/-- `Read::read_exact` of io.rs on the handle, run on a device, is `ByteFile.readLoop` over `readStep` -/
theorem run_readExactLoop : ∀ (fuel : Nat) (f : FileH) (d : Dev) (n : Nat) (acc : List Nat), n < fuel →
    ∀ r, Cursor.ByteFile.readLoop (R := Except Err (List Nat)) readStep .ok (fun _ => .error .eof) .error fuel (f, d) n
      acc = r → run (readExactLoop FileH.strm fuel f n acc) d = (r.1.map (·, r.2.1), r.2.2)
  | 0, _, _, _, _, hf, _, _ => by omega
  | fuel + 1, f, d, n, acc, hf, r, hr => by
    subst hr
    simp only [readExactLoop, Cursor.ByteFile.readLoop, readStep]
    split
    · rfl
    · generalize hr : run (f.read n) d = r
      obtain ⟨(e | ⟨bs, h'⟩), d'⟩ := r
      · exact run_bind_error (p := FileH.strm.read f n) hr
      · rw [run_bind_ok (p := FileH.strm.read f n) hr]
        simp only
        split
        · rfl
        · exact run_readExactLoop fuel h' d' (n - bs.length) (acc ++ bs) (by omega) _ rfl

/-- `read_exact(n)` on the byte-level handle (the loop of io.rs over `File::read`) with `n` bytes left: the next `n`
    bytes of the content -/
theorem readExact_sim (f : FileH) (n : Nat) (d : Dev) (hfa : d.failAt = none) (hg : Geo d.fs d.img.size)
    (hrep : FileRep d.fs d.img f) (hn : n ≤ (absFile d.fs d.img f).size - f.offset) :
    ∃ f' d', run (readExact FileH.strm f n) d =
        (.ok (((absFile d.fs d.img f).content.drop f.offset).take n, f'), d') ∧ SameStore d d' := by
  obtain ⟨⟨i1, _⟩, i3, _⟩ := Cursor.ByteFile.readLoop_spec (R := Except Err (List Nat)) (step := readStep) (ok := .ok)
    (eof := fun _ => .error .eof) (err := .error) (cs := d.fs.clusterSize)
    (I := fun x => SameStore d x.2 ∧ FileRep d.fs d.img x.1) (ab := fun x => (absFile d.fs d.img x.1).abs) hg.cs_pos
    (fun x n hx => by
      obtain ⟨bs, f', d', hr, hs, hres, hab, hrep', _⟩ := read_sim x.1 n x.2 (hx.1.failAt.trans hfa)
        (by rw [hx.1.fs, hx.1.img]; exact hg) (by rw [hx.1.fs, hx.1.img]; exact hx.2)
      rw [hx.1.fs, hx.1.img] at hres hab hrep'
      obtain ⟨l, hl, hchk⟩ := hx.2.inv.read_refines n
      rw [hres] at hl; cases hl
      exact ⟨bs, (f', d'), by unfold readStep; rw [hr], ⟨hx.1.trans hs, hrep'⟩, by rw [hab]; exact hchk⟩)
    (fun x hx => by simpa using hx.2.inv.off_le) (n + 1) (f, d) n [] ⟨SameStore.refl d, hrep⟩ (Nat.le_succ n)
  obtain ⟨j1, _⟩ := i3 (show n ≤ (absFile d.fs d.img f).abs.content.length - f.offset by
    rw [Cursor.AFile.abs_content, Cursor.AFile.content_length]; exact hn)
  exact ⟨_, _, by unfold readExact; rw [run_readExactLoop (n + 1) f d n [] (Nat.lt_succ_self n) _ rfl, j1]; rfl, i1⟩

/-! ### re-opening a file from its slot -/

/-- the short entry decoded from the 32 bytes at `pos` -/
def slotData (img : Img) (pos : Nat) : DirFileEntryData :=
  match DirEntryData.deserialize (img.read pos 32) with
  | .file data => data
  | .lfn _ => {}

/-- the handle `open_file` builds from the record at `pos`: `File::new(entry.first_cluster(), Some(entry.editor()))` -/
def reopen (fs : FsState) (img : Img) (pos : Nat) : FileH :=
  FileH.new ((slotData img pos).firstCluster fs.fatType) (some (DirEntryEditor.new (slotData img pos) pos))

/-- … which is what `DirEntry::to_file` returns for the directory entry read from that slot -/
theorem toFile_eq_reopen (fs : FsState) (img : Img) (de : DirEntry) (hdata : de.data = slotData img de.entryPos)
    (hfile : de.isDir = false) (d : Dev) :
    run (de.toFile fs) d = (.ok (reopen fs img de.entryPos), d) := by
  unfold DirEntry.toFile
  rw [hfile]
  simp only [Bool.false_eq_true, if_false]
  unfold reopen DirEntry.firstCluster DirEntry.editor
  rw [hdata]
  rfl

theorem slotData_of_serialize (img : Img) (pos : Nat) (data : DirFileEntryData) (hwf : data.WF)
    (hl : attrsIsLfn data.attrs = false) (h : img.read pos 32 = data.serialize) : slotData img pos = data := by
  unfold slotData
  rw [h, DirEntryData.deserialize_serialize_file data hwf hl]

/-! ### the footprint of a file on the image -/

/-- the byte positions that determine what a fresh `open_file` + read-to-end returns: the 32-byte slot, the FAT
    entries (first copy) of the clusters of the chain, the bytes of the chain's clusters up to the recorded size -/
def Footprint (fs : FsState) (img : Img) (f : FileH) (e : DirEntryEditor) (q : Nat) : Prop :=
  (e.pos ≤ q ∧ q < e.pos + 32) ∨
  (∃ c ∈ fileChain fs img f, (fatSliceOf fs).beginOff + entOff fs.fatType c ≤ q ∧
    q < (fatSliceOf fs).beginOff + entOff fs.fatType c + entWidth fs.fatType) ∨
  (∃ p, p < f.size?.getD 0 ∧
    q = clusterOff fs ((fileChain fs img f).getD (p / fs.clusterSize) 0) + p % fs.clusterSize)

/-- the decoded entry of `c` only depends on the bytes of that entry in the first FAT copy -/
theorem tabView_congr_at {fs : FsState} {img img' : Img} {c : Nat}
    (h : ∀ k, k < entWidth fs.fatType → img'.getByte ((fatSliceOf fs).beginOff + entOff fs.fatType c + k) =
      img.getByte ((fatSliceOf fs).beginOff + entOff fs.fatType c + k)) :
    tabView fs img' c = tabView fs img c := by
  unfold tabView
  split
  · unfold imgFatView
    congr 1
    cases hft : fs.fatType with
    | fat12 =>
      rw [hft] at h
      have h0 := h 0 (by decide); have h1 := h 1 (by decide)
      simp only [entOff, Nat.add_zero] at h0 h1
      simp only [imgFatRaw, Img.le16, h0, h1]
    | fat16 =>
      rw [hft] at h
      have h0 := h 0 (by decide); have h1 := h 1 (by decide)
      simp only [entOff, Nat.add_zero] at h0 h1
      simp only [imgFatRaw, Img.le16, h0, h1]
    | fat32 =>
      rw [hft] at h
      have h0 := h 0 (by decide); have h1 := h 1 (by decide)
      have h2 := h 2 (by decide); have h3 := h 3 (by decide)
      simp only [entOff, Nat.add_zero] at h0 h1 h2 h3
      simp only [imgFatRaw, Img.le32, h0, h1, h2, h3]
  · rfl

theorem chainFrom_congr {g g' : Nat → FatValue} : ∀ (fuel c0 : Nat),
    (∀ c ∈ chainFrom g fuel c0, g' c = g c) → chainFrom g' fuel c0 = chainFrom g fuel c0 := by
  intro fuel
  induction fuel with
  | zero => intro c0 _; rfl
  | succ k ih =>
    intro c0 h
    have hc0 : g' c0 = g c0 := h c0 (by
      unfold chainFrom
      cases g c0 <;> simp)
    unfold chainFrom
    rw [hc0]
    cases hg : g c0 with
    | data n =>
      simp only
      rw [ih n (fun c hc => h c (by unfold chainFrom; rw [hg]; exact List.mem_cons_of_mem _ hc))]
    | _ => rfl

/-- **`read_footprint`.**  `f` is a represented handle whose record is in its slot (clean editor).  If an image
    `img'` agrees with `img` on the footprint of `f`, then re-opening the file from its slot in `img'` gives
    the handle a fresh `open_file` would give on `img`; it is represented in `img'`, and its content in `img'` is the
    content of `f` in `img`. -/
theorem read_footprint {fs : FsState} {img img' : Img} {f : FileH} {e : DirEntryEditor}
    (hrep : FileRep fs img f) (he : EntryRep fs img f e) (hclean : e.dirty = false)
    (hagree : ∀ q, Footprint fs img f e q → img'.getByte q = img.getByte q) :
    reopen fs img' e.pos = FileH.new f.firstCluster (some (DirEntryEditor.new e.data e.pos)) ∧
    FileRep fs img' (reopen fs img' e.pos) ∧
    (absFile fs img' (reopen fs img' e.pos)).content = (absFile fs img f).content ∧
    (absFile fs img' (reopen fs img' e.pos)).size = (absFile fs img f).size := by
  -- the slot
  have hslot : img'.read e.pos 32 = e.data.serialize :=
    he.sync_of_slot (fun q h1 h2 => hagree q (Or.inl ⟨h1, h2⟩)) hclean
  have hsd : slotData img' e.pos = e.data := slotData_of_serialize img' e.pos e.data he.wf he.notLfn hslot
  have hre : reopen fs img' e.pos = FileH.new f.firstCluster (some (DirEntryEditor.new e.data e.pos)) := by
    unfold reopen; rw [hsd, he.first]
  rw [hre]
  generalize hgdef : FileH.new f.firstCluster (some (DirEntryEditor.new e.data e.pos)) = g
  have hgfirst : g.firstCluster = f.firstCluster := by rw [← hgdef]; rfl
  have hgsize : g.size? = f.size? := by
    rw [← hgdef]; unfold FileH.size? FileH.new; rw [he.entry]; rfl
  have hgoff : g.offset = 0 := by rw [← hgdef]; rfl
  have hgcur : g.currentCluster = none := by rw [← hgdef]; rfl
  -- the FAT entries of the chain
  have htv : ∀ c ∈ fileChain fs img f, tabView fs img' c = tabView fs img c := by
    intro c hc
    apply tabView_congr_at
    intro k hk
    exact hagree _ (Or.inr (Or.inl ⟨c, hc, by omega, by omega⟩))
  have hch : fileChain fs img' g = fileChain fs img f := by
    unfold fileChain
    rw [hgfirst]
    cases hf : f.firstCluster with
    | none => rfl
    | some c0 =>
      simp only
      apply chainFrom_congr
      intro c hc
      apply htv
      unfold fileChain; rw [hf]; exact hc
  obtain ⟨szv, hsz⟩ := hrep.file
  have hinv := hrep.inv
  have hasz : (absFile fs img' g).size = (absFile fs img f).size := by
    show g.size?.getD 0 = f.size?.getD 0; rw [hgsize]
  have hrep' : FileRep fs img' g := by
    refine ⟨⟨szv, hgsize.trans hsz⟩, ⟨hinv.cs_pos, ?_, ?_, ?_, ?_, ?_, ?_, ?_⟩, ?_, ?_, ?_⟩
    · show (fileChain fs img' g).Nodup; rw [hch]; exact hinv.nodup
    · show g.firstCluster = (fileChain fs img' g).head?; rw [hch, hgfirst]; exact hinv.first
    · show (absFile fs img' g).size ≤ (fileChain fs img' g).length * fs.clusterSize
      rw [hasz, hch]; exact hinv.cover
    · show g.offset ≤ _; rw [hgoff]; exact Nat.zero_le _
    · rw [hasz]; exact hinv.size_le
    · show g.currentCluster = if g.offset = 0 then none else _
      rw [hgoff, hgcur]; rfl
    · intro c hc
      have hc' : c ∈ fileChain fs img' g := hc
      rw [hch] at hc'
      show tabView fs img' c ≠ .free
      rw [htv c hc']; exact hinv.live c hc'
    · intro c hc
      rw [hch]
      exact chain_congr (hrep.chain c (hgfirst ▸ hc)) htv
    · intro c hc; exact hrep.inTab c (hch ▸ hc)
    · intro c hc
      rw [hch] at hc
      have hmem : c ∈ fileChain fs img f := List.mem_of_getLast? hc
      rw [htv c hmem]; exact hrep.last_eoc c hc
  refine ⟨rfl, hrep', ?_, hasz⟩
  unfold Cursor.AFile.content
  rw [hasz]
  apply List.map_congr_left
  intro p hp
  have hp' : p < (absFile fs img f).size := List.mem_range.mp hp
  unfold Cursor.AFile.byteAt
  show img'.getByte (clusterOff fs ((fileChain fs img' g).getD (p / fs.clusterSize) 0) + p % fs.clusterSize) =
    img.getByte (clusterOff fs ((fileChain fs img f).getD (p / fs.clusterSize) 0) + p % fs.clusterSize)
  rw [hch]
  exact hagree _ (Or.inr (Or.inr ⟨p, hp', rfl⟩))

/-- on a fault-free device whose image agrees with `img` on the footprint of a represented file with a clean record,
    re-opening the file from its slot and reading to the end returns its content -/
theorem reopen_reads_of_agree {fs : FsState} {img : Img} {f : FileH} {e : DirEntryEditor} (hg : Geo fs img.size)
    (hrep : FileRep fs img f) (he : EntryRep fs img f e) (hcl : e.dirty = false) (dk : Dev)
    (hsz : dk.img.size = img.size) (hagree : ∀ q, Footprint fs img f e q → dk.img.getByte q = img.getByte q)
    (hfs : dk.fs = fs) (hfa : dk.failAt = none) :
    ∃ g' d', run (readExact FileH.strm (reopen dk.fs dk.img e.pos) (absFile fs img f).size) dk =
      (.ok ((absFile fs img f).content, g'), d') := by
  obtain ⟨_, hrepk, hcont, hsize⟩ := read_footprint (img' := dk.img) hrep he hcl hagree
  subst hfs
  have hoff0 : (reopen dk.fs dk.img e.pos).offset = 0 := rfl
  obtain ⟨g', d', hrd, _⟩ := readExact_sim (reopen dk.fs dk.img e.pos) (absFile dk.fs img f).size dk hfa
    (by rw [hsz]; exact hg) hrepk (by rw [hoff0, hsize]; omega)
  refine ⟨g', d', ?_⟩
  rw [hrd, hoff0, List.drop_zero, hcont,
    List.take_of_length_le (by rw [Cursor.AFile.content_length]; exact Nat.le_refl _)]

end FatVerif.FileSim
