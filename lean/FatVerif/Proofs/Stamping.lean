import FatVerif.Proofs.StampingClock
import FatVerif.Proofs.AfterWrite
import FatVerif.Proofs.DirEntry
import FatVerif.Model.DirOps
/-! C18.4 (stamping rules), part 2: what the clock-reading programs store. -/
namespace FatVerif

/-! ### the model clock always yields values `Date::new` / `Time::new` accept -/

theorem clockDate_inRange (ms : Nat) :
    Date.inRange (clockDate ms).year (clockDate ms).month (clockDate ms).day := by
  simp only [Date.inRange, clockDate]; omega

theorem clockTime_inRange (ms : Nat) :
    Time.inRange (clockTime ms).hour (clockTime ms).min (clockTime ms).sec (clockTime ms).millis := by
  simp only [Time.inRange, clockTime]; omega

/-- a decoded time is a fixed point of the rounding its field applies -/
theorem Time.round10_decode (raw hi : Nat) : (Time.decode raw hi).round10 = Time.decode raw hi := by
  simp only [Time.decode, Time.round10, Time.mk.injEq]
  refine ⟨trivial, trivial, trivial, ?_⟩; omega

theorem Time.round2s_decode_zero (raw : Nat) : (Time.decode raw 0).round2s = Time.decode raw 0 := by
  simp only [Time.decode, Time.round2s, Time.mk.injEq]
  refine ⟨trivial, trivial, ?_, ?_⟩ <;> first | omega | trivial

/-! ### the time fields of a record -/

/-- the raw time fields: byte 13, bytes 14–15, 16–17 (created), 18–19 (accessed), 22–23, 24–25 (modified) -/
def DirFileEntryData.timeFields (e : DirFileEntryData) : Nat × Nat × Nat × Nat × Nat × Nat :=
  (e.createTime0, e.createTime1, e.createDate, e.accessDate, e.modifyTime, e.modifyDate)

/-- the three getters read nothing but the time fields -/
theorem DirFileEntryData.getters_of_timeFields {a b : DirFileEntryData} (h : a.timeFields = b.timeFields) :
    a.created = b.created ∧ a.accessed = b.accessed ∧ a.modified = b.modified := by
  simp only [timeFields, Prod.mk.injEq] at h
  obtain ⟨h1, h2, h3, h4, h5, h6⟩ := h
  simp only [created, accessed, modified, h1, h2, h3, h4, h5, h6, and_self]

theorem DirFileEntryData.timeFields_setFirstCluster (e : DirFileEntryData) (c : Option Nat) (ft : FatType) :
    (e.setFirstCluster c ft).timeFields = e.timeFields := rfl
theorem DirFileEntryData.timeFields_setSize (e : DirFileEntryData) (n : Nat) :
    (e.setSize n).timeFields = e.timeFields := rfl
theorem DirFileEntryData.timeFields_renamed (e : DirFileEntryData) (sn : List Nat) :
    (e.renamed sn).timeFields = e.timeFields := rfl
theorem DirFileEntryData.timeFields_setDeleted (e : DirFileEntryData) : e.setDeleted.timeFields = e.timeFields := rfl

theorem DirEntryEditor.timeFields_setFirstCluster (ed : DirEntryEditor) (c : Option Nat) (ft : FatType) :
    (ed.setFirstCluster c ft).data.timeFields = ed.data.timeFields ∧ (ed.setFirstCluster c ft).pos = ed.pos := by
  unfold DirEntryEditor.setFirstCluster; split <;> exact ⟨rfl, rfl⟩

theorem DirEntryEditor.timeFields_setSize (ed : DirEntryEditor) (n : Nat) :
    (ed.setSize n).data.timeFields = ed.data.timeFields ∧ (ed.setSize n).pos = ed.pos := by
  unfold DirEntryEditor.setSize
  split
  · split <;> exact ⟨rfl, rfl⟩
  · exact ⟨rfl, rfl⟩

/-! ### what the editor's setters leave in the record -/

/-- `DirEntryEditor::set_modified`: whether or not the latch fires, the record afterwards reads back the 2 s rounding
    of the argument; the other two stamps and the position are untouched -/
theorem DirEntryEditor.setModified_reads (ed : DirEntryEditor) (dt : DateTime)
    (hd : Date.inRange dt.date.year dt.date.month dt.date.day)
    (ht : Time.inRange dt.time.hour dt.time.min dt.time.sec dt.time.millis) :
    (ed.setModified dt).data.modified = ⟨dt.date, dt.time.round2s⟩ ∧
    (ed.setModified dt).data.created = ed.data.created ∧ (ed.setModified dt).data.accessed = ed.data.accessed ∧
    (ed.setModified dt).pos = ed.pos := by
  unfold DirEntryEditor.setModified
  split
  · exact ⟨DirFileEntryData.modified_setModified _ _ hd ht, rfl, rfl, rfl⟩
  · rename_i h
    have h' : dt = ed.data.modified := Classical.not_not.mp h
    refine ⟨?_, rfl, rfl, rfl⟩
    rw [h']
    simp only [DirFileEntryData.modified, DateTime.decode, Time.round2s_decode_zero]

theorem DirEntryEditor.setCreated_reads (ed : DirEntryEditor) (dt : DateTime)
    (hd : Date.inRange dt.date.year dt.date.month dt.date.day)
    (ht : Time.inRange dt.time.hour dt.time.min dt.time.sec dt.time.millis) :
    (ed.setCreated dt).data.created = ⟨dt.date, dt.time.round10⟩ ∧
    (ed.setCreated dt).data.accessed = ed.data.accessed ∧ (ed.setCreated dt).data.modified = ed.data.modified ∧
    (ed.setCreated dt).pos = ed.pos := by
  unfold DirEntryEditor.setCreated
  split
  · exact ⟨DirFileEntryData.created_setCreated _ _ hd ht, rfl, rfl, rfl⟩
  · rename_i h
    have h' : dt = ed.data.created := Classical.not_not.mp h
    refine ⟨?_, rfl, rfl, rfl⟩
    rw [h']
    simp only [DirFileEntryData.created, DateTime.decode, Time.round10_decode]

theorem DirEntryEditor.setAccessed_reads (ed : DirEntryEditor) (d : Date)
    (hd : Date.inRange d.year d.month d.day) :
    (ed.setAccessed d).data.accessed = d ∧
    (ed.setAccessed d).data.created = ed.data.created ∧ (ed.setAccessed d).data.modified = ed.data.modified ∧
    (ed.setAccessed d).pos = ed.pos := by
  unfold DirEntryEditor.setAccessed
  split
  · exact ⟨DirFileEntryData.accessed_setAccessed _ _ hd, rfl, rfl, rfl⟩
  · rename_i h
    exact ⟨(Classical.not_not.mp h).symm, rfl, rfl, rfl⟩

/-- `set_accessed` changes no field other than `access_date` -/
theorem DirEntryEditor.setAccessed_data (ed : DirEntryEditor) (d : Date) :
    (ed.setAccessed d).data = { ed.data with accessDate := (ed.setAccessed d).data.accessDate } := by
  unfold DirEntryEditor.setAccessed
  split <;> rfl

/-! ### `create_sfn_entry` -/

/-- the whole run: clock reads only, no device call, cannot fail, the device is left exactly as it was -/
theorem createSfnEntry_run (sn : List Nat) (attrs : Nat) (first : Option Nat) (d : Dev) :
    run (createSfnEntry sn attrs first) d =
      (.ok (((((DirFileEntryData.new sn attrs).setFirstCluster first d.fs.fatType).setCreated
          (clockDateTime d.clock)).setAccessed (clockDateTime d.clock).date).setModified (clockDateTime d.clock)),
       d) := by
  simp only [createSfnEntry, bind, pure, Prog.getFs, Prog.now, run, stepOp]

/-! ### `update_dir_entry_after_write` -/

theorem DirEntryEditor.afterWrite_reads (e : DirEntryEditor) (off t : Nat) :
    (e.afterWrite off t).data.modified = ⟨(clockDateTime t).date, (clockDateTime t).time.round2s⟩ ∧
    (e.afterWrite off t).data.created = e.data.created ∧ (e.afterWrite off t).data.accessed = e.data.accessed ∧
    (e.afterWrite off t).pos = e.pos := by
  have hm := DirEntryEditor.setModified_reads e (clockDateTime t) (clockDate_inRange _) (clockTime_inRange _)
  unfold DirEntryEditor.afterWrite
  split
  · split
    · obtain ⟨g1, g2, g3⟩ := DirFileEntryData.getters_of_timeFields
        (DirEntryEditor.timeFields_setSize (e.setModified (clockDateTime t)) off).1
      exact ⟨g3.trans hm.1, g1.trans hm.2.1, g2.trans hm.2.2.1,
        (DirEntryEditor.timeFields_setSize _ _).2.trans hm.2.2.2⟩
    · exact hm
  · exact hm

/-! ### `File::write` -/

/-- two optional editors carry the same time fields at the same position (or are both absent) -/
def SameStamps (a b : Option DirEntryEditor) : Prop :=
  match a, b with
  | none, none => True
  | some x, some y => y.data.timeFields = x.data.timeFields ∧ y.pos = x.pos
  | _, _ => False

theorem SameStamps.refl (a : Option DirEntryEditor) : SameStamps a a := by
  cases a <;> simp [SameStamps]

theorem SameStamps.of_timeFields {a b : DirEntryEditor}
    (h : b.data.timeFields = a.data.timeFields ∧ b.pos = a.pos) : SameStamps (some a) (some b) := h

theorem SameStamps.map {g : DirEntryEditor → DirEntryEditor} (h : ∀ e, SameStamps (some e) (some (g e))) :
    ∀ a : Option DirEntryEditor, SameStamps a (a.map g)
  | none => trivial
  | some e => h e

-- through `of_timeFields`: checking the conjunction directly against `SameStamps _ (Option.map _ _)` makes the
-- kernel unfold the setter
theorem SameStamps.setFirstCluster (fs : FsState) (f : FileH) (c : Nat) :
    SameStamps f.entry (FileH.setFirstCluster fs f c).entry :=
  SameStamps.map (fun e => .of_timeFields (DirEntryEditor.timeFields_setFirstCluster e (some c) fs.fatType)) f.entry

theorem SameStamps.some_inv {e : DirEntryEditor} {b : Option DirEntryEditor} (h : SameStamps (some e) b) :
    ∃ e', b = some e' ∧ e'.data.timeFields = e.data.timeFields ∧ e'.pos = e.pos := by
  cases b with
  | none => simp [SameStamps] at h
  | some y => exact ⟨y, rfl, h⟩

theorem SameStamps.none_inv {b : Option DirEntryEditor} (h : SameStamps none b) : b = none := by
  cases b with
  | none => rfl
  | some y => simp [SameStamps] at h

/-- `File::write`, successful.  The clock is never changed.  Returning 0: the handle's time fields are as before.
    Returning `n > 0` on a handle with a directory entry: the entry's modified stamp reads back the operation's clock
    value `d.clock` at 2 s resolution, created / accessed and the entry position are untouched. -/
theorem write_stamps (f : FileH) (buf : List Nat) (d : Dev) {n : Nat} {f' : FileH} {d' : Dev}
    (hr : run (f.write buf) d = (.ok (n, f'), d')) :
    SameClock d d' ∧
    (n = 0 → SameStamps f.entry f'.entry) ∧
    (0 < n →
      (f.entry = none → f'.entry = none) ∧
      (∀ e, f.entry = some e →
        ∃ e', f'.entry = some e' ∧
          e'.data.modified = ⟨(clockDateTime d.clock).date, (clockDateTime d.clock).time.round2s⟩ ∧
          e'.data.created = e.data.created ∧ e'.data.accessed = e.data.accessed ∧ e'.pos = e.pos)) := by
  have hck : SameClock d d' := run_sameClock hr
  refine ⟨hck, ?_⟩
  unfold FileH.write at hr
  obtain ⟨fs, d0, h0, hr⟩ := run_bind_ok_inv hr
  dsimp only at hr
  split at hr
  · obtain ⟨⟨⟩, ⟨⟩⟩ := run_pure_ok_inv hr
    exact ⟨fun _ => SameStamps.refl _, fun h => by omega⟩
  · obtain ⟨_, d1, h1, hr⟩ := run_bind_ok_inv hr
    obtain ⟨⟨cur, f1⟩, d2, hsel, hr⟩ := run_bind_ok_inv hr
    have hst : SameStamps f.entry f1.entry := by
      split at hsel
      · obtain ⟨nxt, dA, _, hB⟩ := run_bind_ok_inv hsel
        split at hB
        · obtain ⟨⟨⟩, ⟨⟩⟩ := run_pure_ok_inv hB
          exact SameStamps.refl _
        · obtain ⟨c, dB, _, hC⟩ := run_bind_ok_inv hB
          obtain ⟨⟨⟩, ⟨⟩⟩ := run_pure_ok_inv hC
          split
          · exact SameStamps.setFirstCluster fs f _
          · exact SameStamps.refl _
      · split at hsel
        · obtain ⟨⟨⟩, ⟨⟩⟩ := run_pure_ok_inv hsel
          exact SameStamps.refl _
        · have hB' : run (Prog.fail .panic) d1 = (.ok (cur, f1), d2) := hsel
          simp only [run] at hB'; cases hB'
    dsimp only at hr
    obtain ⟨off, d3, h3, hr⟩ := run_bind_ok_inv hr
    obtain ⟨_, d4, h4, hr⟩ := run_bind_ok_inv hr
    obtain ⟨m, d5, hw, hr⟩ := run_bind_ok_inv hr
    split at hr
    · obtain ⟨⟨⟩, ⟨⟩⟩ := run_pure_ok_inv hr
      exact ⟨fun _ => hst, fun h => by omega⟩
    · rename_i hm
      obtain ⟨f2, d6, hu, hr⟩ := run_bind_ok_inv hr
      obtain ⟨⟨⟩, ⟨⟩⟩ := run_pure_ok_inv hr
      -- `update_dir_entry_after_write` runs in the final state and only edits the handle's entry
      rw [FileH.run_updateAfterWrite] at hu
      cases hu
      refine ⟨fun h => absurd h hm, fun _ => ⟨fun hnone => ?_, fun e he => ?_⟩⟩
      · rw [hnone] at hst
        show Option.map _ f1.entry = none
        rw [hst.none_inv]; rfl
      · rw [he] at hst
        obtain ⟨e1, he1, htf, hpos⟩ := hst.some_inv
        obtain ⟨hmod, hcr, hac, hp⟩ := e1.afterWrite_reads (f1.offset + n) d'.clock
        obtain ⟨g1, g2, _⟩ := DirFileEntryData.getters_of_timeFields htf
        refine ⟨_, show Option.map _ f1.entry = _ by rw [he1]; rfl, ?_, hcr.trans g1, hac.trans g2, hp.trans hpos⟩
        rw [hmod, hck.1]

/-! ### `File::read` -/

/-- `File::read`, successful: the clock is never changed; either the handle's editor is untouched, or — only with
    the `update_accessed_date` option on, only when data was returned, only on a handle with a directory entry — the
    editor went through `set_accessed(date of the operation's clock value)`. -/
theorem read_stamps (f : FileH) (n : Nat) (d : Dev) {bs : List Nat} {f' : FileH} {d' : Dev}
    (hr : run (f.read n) d = (.ok (bs, f'), d')) :
    SameClock d d' ∧
    (f'.entry = f.entry ∨
     (d.fs.accDate = true ∧ bs ≠ [] ∧ ∃ e, f.entry = some e ∧
       f'.entry = some (e.setAccessed (clockDate d.clock)))) := by
  have hck : SameClock d d' := run_sameClock hr
  refine ⟨hck, ?_⟩
  unfold FileH.read at hr
  obtain ⟨fs, d0, h0, hr⟩ := run_bind_ok_inv hr
  simp only [Prog.getFs, run, stepOp] at h0
  cases h0
  dsimp only at hr
  obtain ⟨curOpt, d1, hcur, hr⟩ := run_bind_ok_inv hr
  split at hr
  · obtain ⟨⟨⟩, ⟨⟩⟩ := run_pure_ok_inv hr
    exact Or.inl rfl
  · rename_i cur
    split at hr
    · have hr' : run (Prog.fail .panic) d1 = (.ok (bs, f'), d') := hr
      simp only [run] at hr'; cases hr'
    · split at hr
      · obtain ⟨⟨⟩, ⟨⟩⟩ := run_pure_ok_inv hr
        exact Or.inl rfl
      · obtain ⟨off, d2, h2, hr⟩ := run_bind_ok_inv hr
        obtain ⟨_, d3, h3, hr⟩ := run_bind_ok_inv hr
        obtain ⟨bs1, d4, h4, hr⟩ := run_bind_ok_inv hr
        split at hr
        · obtain ⟨⟨⟩, ⟨⟩⟩ := run_pure_ok_inv hr
          exact Or.inl rfl
        · rename_i hlen
          split at hr
          · rename_i e he
            split at hr
            · rename_i hacc
              rcases run_bind_cases hr with ⟨t, d5, h5, hr⟩ | ⟨e', h5, _⟩
              rotate_left
              · rw [run_today] at h5; cases h5
              rw [run_today] at h5
              cases h5
              obtain ⟨⟨⟩, ⟨⟩⟩ := run_pure_ok_inv hr
              refine Or.inr ⟨hacc, ?_, e, he, ?_⟩
              · intro hb; rw [hb] at hlen; exact hlen rfl
              · rw [hck.1]
            · obtain ⟨⟨⟩, ⟨⟩⟩ := run_pure_ok_inv hr
              exact Or.inl rfl
          · obtain ⟨⟨⟩, ⟨⟩⟩ := run_pure_ok_inv hr
            exact Or.inl rfl

/-! ### rename -/

/-- `write_entry` returns a `DirEntry` whose record is the one it was asked to write -/
theorem writeEntry_data (st : DirStream) (name : String) (raw : DirFileEntryData) (d : Dev) {de : DirEntry} {d' : Dev}
    (hr : run (writeEntry st name raw) d = (.ok de, d')) : de.data = raw := by
  unfold writeEntry at hr
  split at hr
  · have hr' : run (Prog.fail _) d = (.ok de, d') := hr
    simp only [run] at hr'; cases hr'
  · obtain ⟨fs, d0, _, hr⟩ := run_bind_ok_inv hr
    dsimp only at hr
    obtain ⟨st0, d1, _, hr⟩ := run_bind_ok_inv hr
    obtain ⟨⟨startPos, st1⟩, d2, _, hr⟩ := run_bind_ok_inv hr
    dsimp only at hr
    obtain ⟨⟨err, st2⟩, d3, _, hr⟩ := run_bind_ok_inv hr
    dsimp only at hr
    split at hr
    · -- roll-back branch: the body ends in `fail`
      obtain ⟨d4, _, _, hb, _⟩ := run_finallyDrop_ok_inv (hr : run (Prog.finallyDrop _ _) d3 = (.ok de, d'))
      rcases run_bind_cases hb with ⟨_, d5, _, hb⟩ | ⟨e, _, he⟩
      · have hb' : run (Prog.fail _) d5 = (.ok de, d4) := hb
        simp only [run] at hb'; cases hb'
      · cases he
    · obtain ⟨d4, _, _, hb, _⟩ := run_finallyDrop_ok_inv (hr : run (Prog.finallyDrop _ _) d3 = (.ok de, d'))
      obtain ⟨⟨endPos, st3⟩, d5, _, hb⟩ := run_bind_ok_inv hb
      dsimp only at hb
      obtain ⟨endAbs, d6, _, hb⟩ := run_bind_ok_inv hb
      split at hb
      · have hb' : run (Prog.fail _) d6 = (.ok de, d4) := hb
        simp only [run] at hb'; cases hb'
      · obtain ⟨⟨⟩, ⟨⟩⟩ := run_pure_ok_inv hb
        rfl

/- the part of `rename_internal` after the ancestor check (the join point of `if e.isDir`): `check_for_existence`,
    then either the same-entry no-op or `write_entry` of the renamed record -/
set_option hygiene false in
local macro "rename_tail" : tactic => `(tactic| (
    obtain ⟨r, d4, hce, hr⟩ := run_bind_ok_inv hr
    split at hr
    · rename_i dstE
      split at hr
      · rename_i hpos; exact Or.inl ⟨dstE, hpos⟩
      · have hr' : run (Prog.fail _) d4 = (.ok (), d') := hr
        simp only [run] at hr'; cases hr'
    · rename_i sn
      obtain ⟨newEntry, d5, hw, hr⟩ := run_bind_ok_inv hr
      exact Or.inr ⟨sn, _, newEntry, d5, hw, writeEntry_data _ _ _ _ hw⟩))

/-- `rename_internal`, successful: the source entry `e` is the one `find_entry` returned; either the destination
    name already denotes that same entry (nothing is written) or the entry written at the destination is
    `write_entry dst dstName (e.data.renamed sn)` for the generated short name `sn`, and the `DirEntry` it returns
    carries exactly that record -/
theorem renameInternal_record (env : Env) (st : DirStream) (srcName : String) (dst : DirStream) (dstName : String)
    (d : Dev) {d' : Dev} (hr : run (renameInternal env st srcName dst dstName) d = (.ok (), d')) :
    ∃ e dA, run (findEntry env st srcName none) d = (.ok e, dA) ∧
      ((∃ dstE : DirEntry, e.entryPos = dstE.entryPos) ∨
       (∃ sn dB newEntry dC, run (writeEntry dst dstName (e.data.renamed sn)) dB = (.ok newEntry, dC) ∧
          newEntry.data = e.data.renamed sn)) := by
  unfold renameInternal at hr
  split at hr
  · have hr' : run (Prog.fail .invalidInput) d = (.ok (), d') := hr
    simp only [run] at hr'; cases hr'
  obtain ⟨fs, d0, h0, hr⟩ := run_bind_ok_inv hr
  simp only [Prog.getFs, run, stepOp] at h0
  cases h0
  obtain ⟨e, dA, hfind, hr⟩ := run_bind_ok_inv hr
  refine ⟨e, dA, hfind, ?_⟩
  obtain ⟨_, d2, _, hr⟩ := run_bind_ok_inv hr
  dsimp only at hr
  split at hr
  · obtain ⟨_, d3, _, hr⟩ := run_bind_ok_inv hr
    rename_tail
  · rename_tail

end FatVerif
