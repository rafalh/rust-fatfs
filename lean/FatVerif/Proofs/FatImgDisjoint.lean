import FatVerif.Proofs.FileSimFatFree
import FatVerif.Proofs.FileSimWriteAlloc
import FatVerif.Proofs.FileSimDefs
import FatVerif.Proofs.FsCountOps
/-! FAT-level FRAME facts under `FatWf`, on any decoded view `g` (`tabView fs img`, `imgTable fs img`): a free cluster
    lies on no other chain, chains none of whose heads lies on the other are disjoint, and what `alloc`, `free` and
    `truncate` do to the other chains and to `FatWf`. Two vocabularies: the predicate `Chain g a cs` (Model/FatView) and
    the list `chainFrom g (total + 2) a` (Proofs/FileSimDefs), bridged by `chainFrom_chain`, `chainFrom_eq`. -/
namespace FatVerif.FatDisjoint
open FatVerif FatVerif.Fat FatVerif.FileSim

variable {g : Nat → FatValue} {total : Nat}

theorem chain_cons_inv {g : Nat → FatValue} {a m x : Nat} {rest : List Nat} (h : Chain g a (m :: x :: rest)) :
    a = m ∧ g m = .data x ∧ Chain g x (x :: rest) := by
  cases h with
  | cons _ k _ hd hc =>
    obtain ⟨t, ht⟩ := chain_head hc
    cases ht
    exact ⟨rfl, hd, hc⟩

/-! ## the two vocabularies -/

/-- every member of a chain but its head is the target of a link, hence a cluster number of the table -/
theorem chain_tail_range (hw : FatWf g total) {a : Nat} {cs : List Nat} (h : Chain g a cs) :
    ∀ x, x ∈ cs → x ≠ a → 2 ≤ x ∧ x < total + 2 := by
  intro x hx hne
  rcases chain_pred h x hx with rfl | ⟨b, _, hb⟩
  · exact absurd rfl hne
  · exact hw.link_range b x hb

/-- a chain of a well-formed table has at most `total + 1` members -/
theorem chain_length_le (hw : FatWf g total) {a : Nat} {cs : List Nat} (h : Chain g a cs) : cs.length ≤ total + 1 := by
  have hnd := chain_nodup' h
  obtain ⟨t, rfl⟩ := chain_head h
  have hat : a ∉ t := (List.nodup_cons.mp hnd).1
  have hr : ∀ x ∈ t, 2 ≤ x ∧ x < total + 2 := fun x hx =>
    chain_tail_range hw h x (List.mem_cons_of_mem _ hx) (by intro e; subst e; exact hat hx)
  have hnd' : (0 :: 1 :: t).Nodup := by
    refine List.nodup_cons.mpr ⟨?_, List.nodup_cons.mpr ⟨?_, (List.nodup_cons.mp hnd).2⟩⟩
    · intro h0
      rcases List.mem_cons.mp h0 with h0 | h0
      · cases h0
      · have := hr 0 h0; omega
    · intro h1; have := hr 1 h1; omega
  have := nodup_length_le hnd' (n := total + 2) (by
    intro c hc
    rcases List.mem_cons.mp hc with rfl | hc
    · omega
    · rcases List.mem_cons.mp hc with rfl | hc
      · omega
      · exact (hr c hc).2)
  simp only [List.length_cons] at this ⊢
  omega

/-- `chainFrom` with the fuel the library uses IS the chain -/
theorem chainFrom_eq (hw : FatWf g total) {a : Nat} {cs : List Nat} (h : Chain g a cs) :
    chainFrom g (total + 2) a = cs :=
  chainFrom_of_chain h (total + 2) (by have := chain_length_le hw h; omega)

theorem chainFrom_chain (hw : FatWf g total) (a : Nat) : Chain g a (chainFrom g (total + 2) a) := by
  obtain ⟨cs, h, _⟩ := chain_exists hw a
  rw [chainFrom_eq hw h]; exact h

theorem chainFrom_nodup (hw : FatWf g total) (a : Nat) : (chainFrom g (total + 2) a).Nodup :=
  chain_nodup' (chainFrom_chain hw a)

/-! ## a free cluster is on no chain -/

/-- A free cluster lies on no chain of another head (its own chain is the singleton). -/
theorem free_not_in_any_chain (hw : FatWf g total) {a x : Nat} {cs : List Nat} (h : Chain g a cs)
    (hf : g x = .free) (hne : x ≠ a) : x ∉ cs := by
  intro hx
  rcases chain_pred h x hx with rfl | ⟨b, _, hb⟩
  · exact hne rfl
  · exact (hw.link_alloc b x hb).1 hf

theorem free_chain_singleton {x : Nat} (hf : g x = .free) : Chain g x [x] :=
  Chain.last x (by intro n h; rw [hf] at h; cases h)

theorem chainFrom_free_not_mem (hw : FatWf g total) {a x : Nat} (hf : g x = .free) (hne : x ≠ a) :
    x ∉ chainFrom g (total + 2) a :=
  free_not_in_any_chain hw (chainFrom_chain hw a) hf hne

/-- a chain whose head is allocated contains no free cluster -/
theorem chain_no_free (hw : FatWf g total) {a : Nat} {cs : List Nat} (h : Chain g a cs) (ha : g a ≠ .free) :
    ∀ x ∈ cs, g x ≠ .free := by
  intro x hx hf
  exact free_not_in_any_chain hw h hf (by intro e; subst e; exact ha hf) hx

/-! ## distinct chains are disjoint -/

/-- two chains that meet: one head lies on the other chain (only `no_cross` is needed) -/
theorem chains_meet (hx : ∀ a b n, g a = .data n → g b = .data n → a = b) {a b : Nat} {ca cb : List Nat}
    (ha : Chain g a ca) (hb : Chain g b cb) : ∀ x, x ∈ ca → x ∈ cb → a ∈ cb ∨ b ∈ ca := by
  induction ha with
  | last m _ => intro x h1 h2; simp at h1; subst h1; exact Or.inl h2
  | cons m k ms hd hc ih =>
    intro x h1 h2
    rcases List.mem_cons.mp h1 with rfl | h1
    · exact Or.inl h2
    · rcases ih x h1 h2 with hk | hbm
      · rcases chain_pred hb k hk with rfl | ⟨q, hq, hgq⟩
        · obtain ⟨t, rfl⟩ := chain_head hc
          exact Or.inr (by simp)
        · have := hx q m k hgq hd
          subst this
          exact Or.inl hq
      · exact Or.inr (List.mem_cons_of_mem _ hbm)

/-- Two chains neither of whose heads lies on the other share no cluster. -/
theorem chains_disjoint (hw : FatWf g total) {a b : Nat} {ca cb : List Nat} (ha : Chain g a ca) (hb : Chain g b cb)
    (hab : a ∉ cb) (hba : b ∉ ca) : ∀ x, x ∈ ca → x ∉ cb := by
  intro x h1 h2
  rcases chains_meet hw.no_cross ha hb x h1 h2 with h | h
  · exact hab h
  · exact hba h

/-- two distinct HEADS (entries no link points to) have disjoint chains -/
theorem head_chains_disjoint (hw : FatWf g total) {a b : Nat} {ca cb : List Nat} (ha : Chain g a ca) (hb : Chain g b cb)
    (hne : a ≠ b) (hha : ∀ q, g q ≠ .data a) (hhb : ∀ q, g q ≠ .data b) : ∀ x, x ∈ ca → x ∉ cb := by
  apply chains_disjoint hw ha hb
  · intro h
    rcases chain_pred hb a h with rfl | ⟨q, _, hq⟩
    · exact hne rfl
    · exact hha q hq
  · intro h
    rcases chain_pred ha b h with rfl | ⟨q, _, hq⟩
    · exact hne rfl
    · exact hhb q hq

theorem chainFrom_disjoint (hw : FatWf g total) {a b : Nat}
    (hab : a ∉ chainFrom g (total + 2) b) (hba : b ∉ chainFrom g (total + 2) a) :
    ∀ x, x ∈ chainFrom g (total + 2) a → x ∉ chainFrom g (total + 2) b :=
  chains_disjoint hw (chainFrom_chain hw a) (chainFrom_chain hw b) hab hba

/-! ## chains after an allocation -/

/-- After `allocLinkV g prev c` (`c := EOC`, then `prev := Data c`) every chain that
    contains neither `c` nor `prev` is the same list. -/
theorem alloc_keeps_other_chains {prev : Option Nat} {c a : Nat} {cs : List Nat} (h : Chain g a cs)
    (hc : c ∉ cs) (hp : ∀ p, prev = some p → p ∉ cs) : Chain (allocLinkV g prev c) a cs := by
  apply chain_congr h
  intro x hx
  have hxc : x ≠ c := by intro e; subst e; exact hc hx
  cases prev with
  | none => simp only [allocLinkV]; exact updV_ne _ _ _ _ hxc
  | some p =>
    have hxp : x ≠ p := by intro e; subst e; exact hp x rfl hx
    simp only [allocLinkV]
    rw [updV_ne _ _ _ _ hxp, updV_ne _ _ _ _ hxc]

/-- … under `FatWf`, `c` free: it suffices that the head is not `c` -/
theorem alloc_keeps_other_chains' (hw : FatWf g total) {prev : Option Nat} {c a : Nat} {cs : List Nat}
    (h : Chain g a cs) (hf : g c = .free) (hac : a ≠ c) (hp : ∀ p, prev = some p → p ∉ cs) :
    Chain (allocLinkV g prev c) a cs :=
  alloc_keeps_other_chains h (free_not_in_any_chain hw h hf (Ne.symm hac)) hp

/-- … and a chain that ends in `prev` is extended by `c`. -/
theorem alloc_extends_chain (hw : FatWf g total) {p c a : Nat} {cs : List Nat} (h : Chain g a cs)
    (hf : g c = .free) (hac : a ≠ c) (hlast : cs.getLast? = some p) :
    Chain (allocLinkV g (some p) c) a (cs ++ [c]) :=
  chain_snoc h c p hlast (free_not_in_any_chain hw h hf (Ne.symm hac))

/-- the new cluster alone (`prev = none`) starts the singleton chain -/
theorem alloc_new_chain {c : Nat} : Chain (allocLinkV g none c) c [c] :=
  Chain.last c (by intro n h; simp only [allocLinkV, updV_same] at h; cases h)

theorem chainFrom_alloc_other (hw : FatWf g total) {prev : Option Nat} {c a : Nat}
    (hf : g c = .free) (hac : a ≠ c) (hp : ∀ p, prev = some p → p ∉ chainFrom g (total + 2) a) :
    chainFrom (allocLinkV g prev c) (total + 2) a = chainFrom g (total + 2) a := by
  have h := chainFrom_chain hw a
  exact chainFrom_of_chain (alloc_keeps_other_chains' hw h hf hac hp) (total + 2)
    (by have := chain_length_le hw h; omega)

theorem chainFrom_alloc_extend (hw : FatWf g total) {p c a : Nat} (hf : g c = .free) (hc1 : 2 ≤ c)
    (hc2 : c < total + 2) (hpe : g p = .eoc) (hac : a ≠ c) (hlast : (chainFrom g (total + 2) a).getLast? = some p) :
    chainFrom (allocLinkV g (some p) c) (total + 2) a = chainFrom g (total + 2) a ++ [c] := by
  have h := chainFrom_chain hw a
  have h' := alloc_extends_chain hw h hf hac hlast
  have hw' : FatWf (allocLinkV g (some p) c) total :=
    fatWf_alloc hw (some p) c hf hc1 hc2 (fun q hq => by cases hq; exact hpe)
  exact chainFrom_eq hw' h'

/-! ## chains after free / truncate -/

/-- After the clusters `cs` are freed every chain disjoint from `cs` is the same list. -/
theorem free_keeps_other_chains {a : Nat} {ca cs : List Nat} (h : Chain g a ca) (hd : ∀ x ∈ ca, x ∉ cs) :
    Chain (freedView g cs) a ca := by
  apply chain_congr h
  intro x hx
  unfold freedView
  rw [if_neg (hd x hx)]

/-- … under `FatWf`, `cs` the chain of `n`: it suffices that neither head lies on the other chain -/
theorem free_keeps_other_chains' (hw : FatWf g total) {a n : Nat} {ca cs : List Nat} (h : Chain g a ca)
    (hn : Chain g n cs) (han : a ∉ cs) (hna : n ∉ ca) : Chain (freedView g cs) a ca :=
  free_keeps_other_chains h (chains_disjoint hw h hn han hna)

/-- the freed clusters are singletons afterwards -/
theorem free_freed_chain {cs : List Nat} {x : Nat} (hx : x ∈ cs) : Chain (freedView g cs) x [x] :=
  free_chain_singleton (by unfold freedView; rw [if_pos hx])

/-- After `truncate` at `cur` (`cur := EOC`, its tail `t` freed) every chain disjoint
    from `cur :: t` is the same list. -/
theorem truncate_keeps_other_chains {a cur : Nat} {ca t : List Nat} (h : Chain g a ca)
    (hd : ∀ x ∈ ca, x ∉ cur :: t) : Chain (freedView (updV g cur .eoc) t) a ca := by
  apply chain_congr h
  intro x hx
  have := hd x hx
  simp only [List.mem_cons, not_or] at this
  unfold freedView
  rw [if_neg this.2, updV_ne _ _ _ _ this.1]

theorem truncate_keeps_other_chains' (hw : FatWf g total) {a cur : Nat} {ca t : List Nat} (h : Chain g a ca)
    (hn : Chain g cur (cur :: t)) (han : a ∉ cur :: t) (hna : cur ∉ ca) :
    Chain (freedView (updV g cur .eoc) t) a ca :=
  truncate_keeps_other_chains h (chains_disjoint hw h hn han hna)

/-- … and the chain through `cur` is cut after `cur`. -/
theorem truncate_cuts_chain {cur : Nat} {t : List Nat} : ∀ {pre : List Nat} {a : Nat},
    Chain g a (pre ++ cur :: t) → (pre ++ cur :: t).Nodup → Chain (freedView (updV g cur .eoc) t) a (pre ++ [cur]) := by
  intro pre
  induction pre with
  | nil =>
    intro a h hnd
    obtain ⟨t', ht⟩ := chain_head h
    simp only [List.nil_append, List.cons.injEq] at ht
    obtain ⟨rfl, _⟩ := ht
    have hct : cur ∉ t := (List.nodup_cons.mp hnd).1
    refine Chain.last cur ?_
    intro n hn
    unfold freedView at hn
    rw [if_neg hct, updV_same] at hn
    cases hn
  | cons m ms ih =>
    intro a h hnd
    have hnd' := (List.nodup_cons.mp hnd)
    have hm : m ∉ ms ++ cur :: t := hnd'.1
    have hmc : m ≠ cur := by intro e; subst e; exact hm (by simp)
    have hmt : m ∉ t := by intro e; exact hm (by simp [e])
    obtain ⟨x, rest, hx⟩ : ∃ x rest, ms ++ cur :: t = x :: rest := by
      cases ms with
      | nil => exact ⟨cur, t, rfl⟩
      | cons y ys => exact ⟨y, ys ++ cur :: t, rfl⟩
    have h' : Chain g a (m :: x :: rest) := by rw [← hx]; exact h
    obtain ⟨rfl, hd, hc⟩ := chain_cons_inv h'
    rw [← hx] at hc
    have hxx : ∃ rest', ms ++ [cur] = x :: rest' := by
      cases ms with
      | nil => simp only [List.nil_append, List.cons.injEq] at hx; exact ⟨[], by rw [hx.1]; rfl⟩
      | cons y ys => simp only [List.cons_append, List.cons.injEq] at hx; exact ⟨ys ++ [cur], by rw [hx.1]; rfl⟩
    have ih' := ih hc hnd'.2
    show Chain _ a (a :: (ms ++ [cur]))
    refine Chain.cons a x (ms ++ [cur]) ?_ ih'
    unfold freedView
    rw [if_neg hmt, updV_ne _ _ _ _ hmc]; exact hd

theorem chainFrom_free_other (hw : FatWf g total) {a : Nat} {cs : List Nat}
    (hd : ∀ x ∈ chainFrom g (total + 2) a, x ∉ cs) :
    chainFrom (freedView g cs) (total + 2) a = chainFrom g (total + 2) a := by
  have h := chainFrom_chain hw a
  exact chainFrom_of_chain (free_keeps_other_chains h hd) (total + 2) (by have := chain_length_le hw h; omega)

theorem chainFrom_truncate_other (hw : FatWf g total) {a cur : Nat} {t : List Nat}
    (hd : ∀ x ∈ chainFrom g (total + 2) a, x ∉ cur :: t) :
    chainFrom (freedView (updV g cur .eoc) t) (total + 2) a = chainFrom g (total + 2) a := by
  have h := chainFrom_chain hw a
  exact chainFrom_of_chain (truncate_keeps_other_chains h hd) (total + 2) (by have := chain_length_le hw h; omega)

theorem chainFrom_truncate_cut (hw : FatWf g total) {a cur : Nat} {pre t : List Nat}
    (he : chainFrom g (total + 2) a = pre ++ cur :: t) :
    chainFrom (freedView (updV g cur .eoc) t) (total + 2) a = pre ++ [cur] := by
  have h := chainFrom_chain hw a
  have hnd := chainFrom_nodup hw a
  have hl := chain_length_le hw h
  rw [he] at h hnd hl
  refine chainFrom_of_chain (truncate_cuts_chain h hnd) (total + 2) ?_
  simp only [List.length_append, List.length_cons, List.length_nil] at hl ⊢
  omega

/-! ## `FatWf` re-established -/

/-- freeing the whole chain of a head -/
theorem fatWf_freedView (hw : FatWf g total) {c : Nat} {cs : List Nat} (hch : Chain g c cs)
    (hhead : ∀ a, g a ≠ .data c) : FatWf (freedView g cs) total :=
  fatWf_free hw hch hhead (fun i hi => by unfold freedView; rw [if_pos hi])
    (fun i hi => by unfold freedView; rw [if_neg hi])

theorem fatWf_truncView (hw : FatWf g total) {c : Nat} {t : List Nat} (hch : Chain g c (c :: t)) :
    FatWf (freedView (updV g c .eoc) t) total := by
  have hct : c ∉ t := (List.nodup_cons.mp (chain_nodup' hch)).1
  refine fatWf_truncate hw hch ?_ ?_ ?_
  · unfold freedView; rw [if_neg hct, updV_same]
  · intro i hi; unfold freedView; rw [if_pos hi]
  · intro i hic hit; unfold freedView; rw [if_neg hit, updV_ne _ _ _ _ hic]

/-! ## not vacuous: chains 2→3→4 and 5→6, cluster 7 free, `total = 8` -/

namespace Ex
def tbl : Nat → FatValue := fun c =>
  if c = 2 then .data 3 else if c = 3 then .data 4 else if c = 4 then .eoc else if c = 5 then .data 6
  else if c = 6 then .eoc else if c = 7 then .free else .bad

theorem wf : FatWf tbl 8 := by
  have key : ∀ c n, tbl c = .data n → (c = 2 ∧ n = 3) ∨ (c = 3 ∧ n = 4) ∨ (c = 5 ∧ n = 6) := by
    intro c n h
    unfold tbl at h
    repeat' split at h
    all_goals first | (cases h; omega) | cases h
  refine ⟨?_, ?_, ?_, ⟨fun c => 10 - c, ?_⟩⟩
  · intro c n h; rcases key c n h with ⟨_, rfl⟩ | ⟨_, rfl⟩ | ⟨_, rfl⟩ <;> omega
  · intro c n h; rcases key c n h with ⟨_, rfl⟩ | ⟨_, rfl⟩ | ⟨_, rfl⟩ <;> decide
  · intro a b n ha hb
    rcases key a n ha with ⟨rfl, rfl⟩ | ⟨rfl, rfl⟩ | ⟨rfl, rfl⟩ <;>
      rcases key b _ hb with ⟨rfl, h⟩ | ⟨rfl, h⟩ | ⟨rfl, h⟩ <;> first | rfl | omega
  · intro c n h; rcases key c n h with ⟨rfl, rfl⟩ | ⟨rfl, rfl⟩ | ⟨rfl, rfl⟩ <;> (dsimp only; omega)

example : chainFrom tbl 10 2 = [2, 3, 4] ∧ chainFrom tbl 10 5 = [5, 6] := by decide
example : ∀ x, x ∈ chainFrom tbl 10 2 → x ∉ chainFrom tbl 10 5 :=
  chainFrom_disjoint wf (a := 2) (b := 5) (by decide) (by decide)
example : chainFrom (allocLinkV tbl (some 6) 7) 10 2 = [2, 3, 4] :=
  (chainFrom_alloc_other wf (by decide) (by decide) (fun p h => by cases h; decide)).trans (by decide)
example : chainFrom (allocLinkV tbl (some 6) 7) 10 5 = [5, 6, 7] :=
  (chainFrom_alloc_extend wf (by decide) (by decide) (by decide) (by decide) (by decide) (by decide)).trans (by decide)
example : chainFrom (freedView tbl [5, 6]) 10 2 = [2, 3, 4] :=
  (chainFrom_free_other wf (by decide)).trans (by decide)
example : chainFrom (freedView (updV tbl 3 .eoc) [4]) 10 2 = [2, 3] :=
  chainFrom_truncate_cut (pre := [2]) wf (by decide)
end Ex

end FatVerif.FatDisjoint
