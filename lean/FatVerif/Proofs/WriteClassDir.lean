import FatVerif.Proofs.WriteEntryGS
import FatVerif.Proofs.RemoveUnfold
/-! WHERE the model writes (C11): `dir.rs` and `fs.rs`. -/
namespace FatVerif

/-- a fixed-root stream keeps the window of the root slice; cluster-chain directories carry no constraint -/
def DirOK (fs0 : FsState) : DirStream → Prop
  | .file _ => True
  | .root s => SliceInv (rootSliceOf fs0) s

theorem rootSliceOf_geom {a b : FsState} (h : SameGeom a b) : rootSliceOf b = rootSliceOf a := by
  simp only [rootSliceOf, h.proj FsState.firstDataSector, h.proj FsState.rootDirSectors, h.proj FsState.bps]

theorem dirOK_root {fs0 fs : FsState} (h : SameGeom fs0 fs) : DirOK fs0 (rootDirStream fs) := by
  unfold rootDirStream
  split
  · trivial
  · show SliceInv _ _
    rw [rootSliceOf_geom h]
    exact SliceInv.self (Nat.zero_le _)

section dir
variable {fs0 : FsState} {sz : Nat} (hfit : DevFits fs0 sz)
include hfit

namespace DirStream

theorem read_gs {st : DirStream} (hst : DirOK fs0 st) (n : Nat) :
    GS fs0 sz (WClass fs0) (st.read n) (fun r => DirOK fs0 r.2) := by
  cases st with
  | file f =>
    simp only [read]
    exact GS.bind (GS.of_quiet (f.read_quiet n)) (fun _ _ => GS.pure trivial)
  | root s =>
    simp only [read]
    exact GS.bind ((rootStrm_gs hfit).read s n hst) (fun b hb => GS.pure hb)

theorem write_gs {st : DirStream} (hst : DirOK fs0 st) (bs : List Nat) :
    GS fs0 sz (WClass fs0) (st.write bs) (fun r => DirOK fs0 r.2) := by
  cases st with
  | file f =>
    simp only [write]
    exact GS.bind (FileH.write_gs hfit f bs) (fun _ _ => GS.pure trivial)
  | root s =>
    simp only [write]
    exact GS.bind ((rootStrm_gs hfit).write s bs hst) (fun b hb => GS.pure hb)

theorem seek_gs {st : DirStream} (hst : DirOK fs0 st) (p : SeekFrom) :
    GS fs0 sz (WClass fs0) (st.seek p) (fun r => DirOK fs0 r.2) := by
  cases st with
  | file f =>
    simp only [seek]
    exact GS.bind (GS.of_quiet (f.seek_quiet p)) (fun _ _ => GS.pure trivial)
  | root s =>
    simp only [seek]
    exact GS.bind ((rootStrm_gs hfit).seek s p hst) (fun b hb => GS.pure hb)

theorem strm_gs : StrmGS fs0 sz (WClass fs0) DirStream.strm (DirOK fs0) :=
  ⟨fun _ n h => read_gs hfit h n, fun _ bs h => write_gs hfit h bs, fun _ p h => seek_gs hfit h p⟩

end DirStream
end dir

section dir2
variable {fs0 : FsState} {sz : Nat}

theorem DirStream.dropBody_gs (st : DirStream) : GS fs0 sz (WClass fs0) st.dropBody (fun _ => True) := by
  unfold DirStream.dropBody
  split
  · exact FileH.dropBody_gs _
  · exact GS.pure trivial

theorem DirStream.drop_gs (st : DirStream) : GS fs0 sz (WClass fs0) st.drop (fun _ => True) :=
  inDrop_gs st.dropBody_gs

theorem withStream_gs {α} (st0 : DirStream) {body : Prog (α × DirStream)} {Q : α × DirStream → Prop}
    (hb : GS fs0 sz (WClass fs0) body Q) : GS fs0 sz (WClass fs0) (withStream st0 body) (fun _ => True) :=
  gs_iff_tri.2 (withStream_tri (Inv := fun _ => True) (gsFrame fs0 sz)
    (fun st _ => gs_iff_tri.1 (DirStream.dropBody_gs st)) trivial
    ((gs_iff_tri.1 hb).conseq (fun _ h => h) (fun _ _ _ => trivial)))

theorem thenDrop_gs {α} (st : DirStream) {body : Prog α} {Post : α → Prop}
    (hb : GS fs0 sz (WClass fs0) body Post) : GS fs0 sz (WClass fs0) (thenDrop st body) Post := by
  unfold thenDrop
  exact GS.finallyDrop hb (fun _ _ => DirStream.dropBody_gs _) (DirStream.dropBody_gs _)

theorem liftE_gs {α} (r : Except Err α) : GS fs0 sz (WClass fs0) (liftE r) (fun _ => True) :=
  GS.of_quiet (liftE_quiet r)

theorem DirEntry.toDir_gs {fs : FsState} (hfs : SameGeom fs0 fs) (e : DirEntry) :
    GS fs0 sz (WClass fs0) (e.toDir fs) (DirOK fs0) := by
  unfold DirEntry.toDir
  split
  · exact GS.fail _
  · split
    · exact GS.pure trivial
    · exact GS.pure (dirOK_root hfs)

theorem DirEntry.toFile_gs (fs : FsState) (e : DirEntry) : GS fs0 sz (WClass fs0) (e.toFile fs) (fun _ => True) :=
  GS.of_quiet (DirEntry.toFile_quiet fs e)

end dir2

section dir3
variable {fs0 : FsState} {sz : Nat} (hfit : DevFits fs0 sz)
include hfit

theorem readSlot_gs {st : DirStream} (hst : DirOK fs0 st) :
    GS fs0 sz (WClass fs0) (readSlot st) (fun r => DirOK fs0 r.2) := readSlot_gsC (DirStream.strm_gs hfit) hst

theorem writeSlot_gs {st : DirStream} (hst : DirOK fs0 st) (e : DirEntryData) :
    GS fs0 sz (WClass fs0) (writeSlot st e) (DirOK fs0) := writeSlot_gsC (DirStream.strm_gs hfit) hst e

theorem gsDir : DirFrame (GSRel (WClass fs0)) (GSPre fs0 sz) (DirOK fs0) :=
  ⟨gsFrame fs0 sz, quietRel_gsRel, (DirStream.strm_gs hfit).tri, fun st _ => gs_iff_tri.1 (DirStream.dropBody_gs st)⟩

theorem readDirEntry_gs (skipVolume : Bool) {st : DirStream} (hst : DirOK fs0 st) :
    GS fs0 sz (WClass fs0) (readDirEntry skipVolume st) (fun r => DirOK fs0 r.2) :=
  gs_iff_tri.2 (readDirEntry_tri (gsDir hfit) skipVolume hst)

theorem findEntryG_gs (env) {d : DirStream} (hd : DirOK fs0 d) (name isDir gen) :
    GS fs0 sz (WClass fs0) (findEntryG env d name isDir gen) (fun _ => True) :=
  gs_iff_tri.2 (findEntryG_tri (gsDir hfit) env hd name isDir gen)

theorem findEntry_gs (env) {d : DirStream} (hd : DirOK fs0 d) (name isDir) :
    GS fs0 sz (WClass fs0) (findEntry env d name isDir) (fun _ => True) :=
  gs_iff_tri.2 (findEntry_tri (gsDir hfit) env hd name isDir)

theorem checkForExistenceLoop_gs (env) {d : DirStream} (hd : DirOK fs0 d) (name isDir) :
    ∀ fuel gen, GS fs0 sz (WClass fs0) (checkForExistenceLoop env d name isDir fuel gen) (fun _ => True) := by
  intro fuel
  induction fuel with
  | zero => intros; unfold checkForExistenceLoop; exact GS.fail _
  | succ k ih =>
    intro gen
    unfold checkForExistenceLoop
    refine GS.bind (findEntryG_gs hfit env hd name isDir _) ?_
    rintro ⟨r, gen'⟩ _
    dsimp only
    split
    · exact GS.pure trivial
    · split
      · split
        · refine GS.bind (findEntryG_gs hfit env hd _ none none) ?_
          rintro ⟨r2, g2⟩ _
          dsimp only
          split
          · exact GS.pure trivial
          · exact GS.fail _
          · exact ih _
        · exact GS.pure trivial
      · exact ih _
    · exact GS.fail _

theorem checkForExistence_gs (env) {d : DirStream} (hd : DirOK fs0 d) (name isDir) :
    GS fs0 sz (WClass fs0) (checkForExistence env d name isDir) (fun _ => True) := by
  unfold checkForExistence
  split
  · exact GS.fail _
  · exact checkForExistenceLoop_gs hfit env hd _ _ _ _

omit hfit in
theorem createSfnEntry_gs (sn attrs first) : GS fs0 sz (WClass fs0) (createSfnEntry sn attrs first) (fun _ => True) := by
  refine GS.of_quiet ?_
  unfold createSfnEntry; quiet

theorem writeEntry_gs {d : DirStream} (hd : DirOK fs0 d) (name : String) (raw : DirFileEntryData) :
    GS fs0 sz (WClass fs0) (writeEntry d name raw) (fun _ => True) :=
  writeEntry_gsC (DirStream.strm_gs hfit) (fun st _ => st.dropBody_gs) hd name raw

theorem deleteSlots_gs : ∀ k st, DirOK fs0 st → GS fs0 sz (WClass fs0) (deleteSlots k st) (DirOK fs0) := by
  intro k
  induction k with
  | zero => intro st hst; unfold deleteSlots; exact GS.pure hst
  | succ k ih =>
    intro st hst
    unfold deleteSlots
    refine GS.bind (readSlot_gs hfit hst) ?_
    rintro ⟨raw, st1⟩ hst1
    dsimp only
    refine GS.bind (DirStream.seek_gs hfit hst1 _) ?_
    rintro ⟨_, st2⟩ hst2
    dsimp only
    exact GS.bind (writeSlot_gs hfit hst2 _) (fun st3 hst3 => ih _ hst3)

theorem deleteEntry_gs {d : DirStream} (hd : DirOK fs0 d) (e : DirEntry) :
    GS fs0 sz (WClass fs0) (deleteEntry d e) (fun _ => True) := by
  unfold deleteEntry
  refine withStream_gs d (Q := fun _ => True) ?_
  refine GS.bind (DirStream.seek_gs hfit hd _) ?_
  rintro ⟨_, st⟩ hst
  dsimp only
  exact GS.bind (deleteSlots_gs hfit _ _ hst) (fun _ _ => GS.pure trivial)

end dir3

/-! ### public operations -/

section ops
variable {fs0 : FsState} {sz : Nat} (hfit : DevFits fs0 sz)
include hfit

theorem openDir_gs (env) : ∀ fuel d path, DirOK fs0 d →
    GS fs0 sz (WClass fs0) (openDir env fuel d path) (DirOK fs0) := by
  intro fuel
  induction fuel with
  | zero => intros; unfold openDir; exact GS.fail _
  | succ k ih =>
    intro d path hd
    unfold openDir
    refine GS.bind GS.getFs (fun fs hfs => ?_)
    split
    refine GS.bind (findEntry_gs hfit env hd _ _) (fun e _ => ?_)
    refine GS.bind (DirEntry.toDir_gs hfs e) (fun sub hsub => ?_)
    split
    · exact thenDrop_gs _ (ih _ _ hsub)
    · exact GS.pure hsub

theorem openFile_gs (env) : ∀ fuel d path, DirOK fs0 d →
    GS fs0 sz (WClass fs0) (openFile env fuel d path) (fun _ => True) := by
  intro fuel
  induction fuel with
  | zero => intros; unfold openFile; exact GS.fail _
  | succ k ih =>
    intro d path hd
    unfold openFile
    refine GS.bind GS.getFs (fun fs hfs => ?_)
    split
    split
    · refine GS.bind (findEntry_gs hfit env hd _ _) (fun e _ => ?_)
      refine GS.bind (DirEntry.toDir_gs hfs e) (fun sub hsub => ?_)
      exact thenDrop_gs _ (ih _ _ hsub)
    · refine GS.bind (findEntry_gs hfit env hd _ _) (fun e _ => ?_)
      exact DirEntry.toFile_gs _ _

theorem createFile_gs (env) : ∀ fuel d path, DirOK fs0 d →
    GS fs0 sz (WClass fs0) (createFile env fuel d path) (fun _ => True) := by
  intro fuel
  induction fuel with
  | zero => intros; unfold createFile; exact GS.fail _
  | succ k ih =>
    intro d path hd
    unfold createFile
    refine GS.bind GS.getFs (fun fs hfs => ?_)
    split
    split
    · refine GS.bind (findEntry_gs hfit env hd _ _) (fun e _ => ?_)
      refine GS.bind (DirEntry.toDir_gs hfs e) (fun sub hsub => ?_)
      exact thenDrop_gs _ (ih _ _ hsub)
    · split
      · exact GS.fail _
      refine GS.bind (checkForExistence_gs hfit env hd _ _) (fun r _ => ?_)
      split
      · refine GS.bind (createSfnEntry_gs _ _ _) (fun sfn _ => ?_)
        refine GS.bind (writeEntry_gs hfit hd _ _) (fun e _ => ?_)
        exact DirEntry.toFile_gs _ _
      · exact DirEntry.toFile_gs _ _

theorem createDir_gs (env) : ∀ fuel d path, DirOK fs0 d →
    GS fs0 sz (WClass fs0) (createDir env fuel d path) (DirOK fs0) := by
  intro fuel
  induction fuel with
  | zero => intros; unfold createDir; exact GS.fail _
  | succ k ih =>
    intro d path hd
    unfold createDir
    refine GS.bind GS.getFs (fun fs hfs => ?_)
    split
    split
    · refine GS.bind (findEntry_gs hfit env hd _ _) (fun e _ => ?_)
      refine GS.bind (DirEntry.toDir_gs hfs e) (fun sub hsub => ?_)
      exact thenDrop_gs _ (ih _ _ hsub)
    · refine GS.bind (checkForExistence_gs hfit env hd _ _) (fun r _ => ?_)
      split
      · split
        · exact GS.fail _
        refine GS.bind (liftE_gs _) (fun _ _ => ?_)
        refine GS.bind (allocClusterFs_gs hfit _ _) (fun cluster _ => ?_)
        refine GS.bind (createSfnEntry_gs _ _ _) (fun sfn _ => ?_)
        refine GS.bind (Q := fun _ => True) ?_ (fun r _ => ?_)
        · unfold Prog.attempt
          exact GS.tryCatch (GS.bind (writeEntry_gs hfit hd _ _) (fun _ _ => GS.pure trivial)) (fun _ => GS.pure trivial)
        refine GS.bind (Q := fun _ => True) ?_ (fun entry _ => ?_)
        · split
          · exact GS.pure trivial
          · exact GS.bind (freeClusterChain_gs hfit _) (fun _ _ => GS.fail _)
        refine GS.bind (DirEntry.toDir_gs hfs entry) (fun dir hdir => ?_)
        refine GS.finallyDrop ?_ (fun _ _ => GS.pure trivial) (DirStream.dropBody_gs _)
        refine GS.bind (createSfnEntry_gs _ _ _) (fun dot _ => ?_)
        refine GS.bind (writeEntry_gs hfit hdir _ _) (fun _ _ => ?_)
        dsimp only
        refine GS.bind (createSfnEntry_gs _ _ _) (fun dotdot _ => ?_)
        exact GS.bind (writeEntry_gs hfit hdir _ _) (fun _ _ => GS.pure hdir)
      · exact DirEntry.toDir_gs hfs _

theorem isEmptyLoop_gs : ∀ fuel st, DirOK fs0 st →
    GS fs0 sz (WClass fs0) (isEmptyLoop fuel st) (fun r => DirOK fs0 r.2) := by
  intro fuel
  induction fuel with
  | zero => intros; unfold isEmptyLoop; exact GS.fail _
  | succ k ih =>
    intro st hst
    unfold isEmptyLoop
    refine GS.bind (readDirEntry_gs hfit true hst) ?_
    rintro ⟨r, st'⟩ hst'
    gs

theorem isEmpty_gs {d : DirStream} (hd : DirOK fs0 d) : GS fs0 sz (WClass fs0) (isEmpty d) (fun _ => True) := by
  unfold isEmpty
  exact GS.bind GS.getFs (fun fs _ => withStream_gs d (isEmptyLoop_gs hfit _ _ hd))

theorem remove_gs (env) : ∀ fuel d path, DirOK fs0 d →
    GS fs0 sz (WClass fs0) (remove env fuel d path) (fun _ => True) := by
  intro fuel
  induction fuel with
  | zero => intros; exact GS.fail _
  | succ k ih =>
    intro d path hd
    rw [remove_succ]
    refine GS.bind GS.getFs (fun fs hfs => ?_)
    split
    split
    · refine GS.bind (findEntry_gs hfit env hd _ _) (fun e _ => ?_)
      refine GS.bind (DirEntry.toDir_gs hfs e) (fun sub hsub => ?_)
      exact thenDrop_gs _ (ih _ _ hsub)
    · split
      · exact GS.fail _
      refine GS.bind (findEntry_gs hfit env hd _ _) (fun e _ => ?_)
      refine GS.bind (Q := fun _ => True) ?_ (fun nonEmpty _ => ?_)
      · split
        · refine GS.bind (DirEntry.toDir_gs hfs e) (fun sub hsub => ?_)
          exact GS.bind (thenDrop_gs _ (isEmpty_gs hfit hsub)) (fun _ _ => GS.pure trivial)
        · exact GS.pure trivial
      split
      · exact GS.fail _
      · split
        · exact GS.bind (freeClusterChain_gs hfit _) (fun _ _ => deleteEntry_gs hfit hd e)
        · exact deleteEntry_gs hfit hd e

theorem ancestorWalk_gs (env target) : ∀ fuel anc depth, DirOK fs0 anc →
    GS fs0 sz (WClass fs0) (ancestorWalk env target fuel anc depth) (fun _ => True) := by
  intro fuel
  induction fuel with
  | zero => intro anc depth _; unfold ancestorWalk; exact thenDrop_gs _ (GS.fail _)
  | succ k ih =>
    intro anc depth hanc
    unfold ancestorWalk
    refine GS.bind GS.getFs (fun fs hfs => ?_)
    split
    · exact thenDrop_gs _ (GS.fail _)
    · split
      · exact DirStream.drop_gs _
      · split
        · exact thenDrop_gs _ (GS.fail _)
        · refine GS.bind (Q := DirOK fs0) ?_ (fun up hup => ?_)
          · exact GS.finallyDrop (openDir_gs hfit env _ _ _ hanc) (fun _ _ => GS.pure trivial) (DirStream.dropBody_gs _)
          · exact GS.bind (DirStream.drop_gs _) (fun _ _ => ih _ _ hup)

theorem ancestorWalkTop_gs (env target) {dst : DirStream} (hdst : DirOK fs0 dst) :
    GS fs0 sz (WClass fs0) (ancestorWalkTop env target dst) (fun _ => True) := by
  unfold ancestorWalkTop
  exact GS.bind GS.getFs (fun fs _ => ancestorWalk_gs hfit env target _ _ _ hdst)

theorem renameInternal_gs (env) {d dst : DirStream} (hd : DirOK fs0 d) (hdst : DirOK fs0 dst) (srcName dstName) :
    GS fs0 sz (WClass fs0) (renameInternal env d srcName dst dstName) (fun _ => True) := by
  unfold renameInternal
  split
  · exact GS.fail _
  refine GS.bind GS.getFs (fun fs hfs => ?_)
  refine GS.bind (findEntry_gs hfit env hd _ _) (fun e _ => ?_)
  refine GS.bind (liftE_gs _) (fun _ _ => ?_)
  extract_lets pc rest
  have hrest : ∀ u, GS fs0 sz (WClass fs0) (rest u) (fun _ => True) := by
    intro u
    refine GS.bind (checkForExistence_gs hfit env hdst _ _) (fun r _ => ?_)
    split
    · split
      · exact GS.pure trivial
      · exact GS.fail _
    · refine GS.bind (writeEntry_gs hfit hdst _ _) (fun newEntry _ => ?_)
      refine GS.bind (deleteEntry_gs hfit hd e) (fun _ _ => ?_)
      split
      · refine GS.bind (DirEntry.toDir_gs hfs newEntry) (fun moved hmoved => ?_)
        refine GS.bind (thenDrop_gs _ (findEntry_gs hfit env hmoved _ _)) (fun dotdot _ => ?_)
        have h32 : FileH.entryChunkSizes.sum = 32 := by decide
        dsimp only
        split
        · refine GS.seek_unit (len := 32) ((PU.writeChunks _ _).mono ?_) (fun o b h1 h2 => .slot _ ⟨h1, h2⟩)
            (fun _ => GS.pure (Post := fun _ => True) trivial)
          exact Nat.le_trans (totalLen_chunksOf_le FileH.entryChunkSizes _) (Nat.le_of_eq h32)
        · exact GS.pure (Post := fun _ => True) trivial
      · exact GS.pure (Post := fun _ => True) trivial
  split
  · exact GS.bind (ancestorWalkTop_gs hfit env _ hdst) (fun u _ => hrest u)
  · exact hrest ()

theorem rename_gs (env) : ∀ fuel d srcPath dst dstPath, DirOK fs0 d → DirOK fs0 dst →
    GS fs0 sz (WClass fs0) (rename env fuel d srcPath dst dstPath) (fun _ => True) := by
  intro fuel
  induction fuel with
  | zero => intros; unfold rename; exact GS.fail _
  | succ k ih =>
    intro d srcPath dst dstPath hd hdst
    unfold rename
    refine GS.bind GS.getFs (fun fs hfs => ?_)
    split
    split
    · refine GS.bind (findEntry_gs hfit env hd _ _) (fun e _ => ?_)
      refine GS.bind (DirEntry.toDir_gs hfs e) (fun sub hsub => ?_)
      exact thenDrop_gs _ (ih _ _ _ _ hsub hdst)
    · split
      split
      · refine GS.bind (findEntry_gs hfit env hdst _ _) (fun e _ => ?_)
        refine GS.bind (DirEntry.toDir_gs hfs e) (fun sub hsub => ?_)
        exact thenDrop_gs _ (ih _ _ _ _ hd hsub)
      · exact renameInternal_gs hfit env hd hdst _ _

theorem listDir_gs {d : DirStream} (hd : DirOK fs0 d) : GS fs0 sz (WClass fs0) (listDir d) (fun _ => True) :=
  gs_iff_tri.2 (listDir_tri (gsDir hfit) hd)

theorem findVolumeEntry_gs {d : DirStream} (hd : DirOK fs0 d) :
    GS fs0 sz (WClass fs0) (findVolumeEntry d) (fun _ => True) :=
  gs_iff_tri.2 (findVolumeEntry_tri (gsDir hfit) hd)

theorem readVolumeLabelFromRootDir_gs : GS fs0 sz (WClass fs0) readVolumeLabelFromRootDir (fun _ => True) := by
  unfold readVolumeLabelFromRootDir
  refine GS.bind GS.getFs (fun fs hfs => ?_)
  dsimp only
  exact GS.bind (thenDrop_gs _ (findVolumeEntry_gs hfit (dirOK_root hfs))) (fun _ _ => GS.pure trivial)

end ops

/-! ### `fs.rs` -/

section fsops
variable {fs0 : FsState} {sz : Nat}

theorem fsInfoLo_geom {a b : FsState} (h : SameGeom a b) : fsInfoLo b = fsInfoLo a := by
  simp only [fsInfoLo, h.proj FsState.fsInfoSector, h.proj FsState.bps]

theorem flushFsInfo_gs : GS fs0 sz (WClass fs0) flushFsInfo (fun _ => True) :=
  ⟨fun d r d' hg _ hr => by
    obtain ⟨⟨i, hi⟩, hw⟩ := ((flushFsInfo_tri d.fs).out d r d' rfl hr).1
    rw [fsInfoLo_geom hg] at hw
    exact ⟨by rw [hi]; exact hg.setInfo i, LogAll.of_within hw (fun _ _ h1 h2 => .fsInfo ⟨h1, h2⟩), fun _ _ => trivial⟩⟩

theorem unmountInternal_gs : GS fs0 sz (WClass fs0) unmountInternal (fun _ => True) := by
  unfold unmountInternal
  exact GS.bind flushFsInfo_gs (fun _ _ => setDirtyFlag_gs false)

theorem unmount_gs : GS fs0 sz (WClass fs0) unmount (fun _ => True) := by
  unfold unmount
  exact GS.finallyDrop unmountInternal_gs (fun _ _ => unmountInternal_gs) unmountInternal_gs

theorem dropFs_gs : GS fs0 sz (WClass fs0) dropFs (fun _ => True) := inDrop_gs unmountInternal_gs

theorem stats_gs : GS fs0 sz (WClass fs0) stats (fun _ => True) := by
  unfold stats
  refine GS.bind GS.getFs (fun fs hfs => ?_)
  refine GS.bind (Q := fun _ => True) ?_ (fun _ _ => GS.pure trivial)
  split
  · exact GS.pure trivial
  · refine GS.bind (GS.of_quiet (Table.countFree_quiet _ DiskSlice.strm_quiet _ _ _)) ?_
    rintro ⟨n, _⟩ _
    exact GS.bind (GS.modifyFs (fun fs h => h)) (fun _ _ => GS.pure trivial)

end fsops

end FatVerif
