import FatVerif.Proofs.FatMore
/-! Termination and outcome analysis of the repaired `ClusterIterator::free` / `truncate` on ARBITRARY tables
    (cyclic chains, links out of range, links into padding, any start cluster).

    Measure: the number of entries whose view is a `data` link. Every iteration that continues found `view n = data m`
    and turns entry `n` into `Free`; an iteration on a non-link entry is the last one. A cycle therefore ends when it
    comes back to an entry it has already freed. -/
namespace FatVerif.Fat

def isData : FatValue → Bool
  | .data _ => true
  | _ => false

/-- number of `data` links among entries `0 … N-1` -/
def dataCount (g : Nat → FatValue) : Nat → Nat
  | 0 => 0
  | N + 1 => dataCount g N + (if isData (g N) then 1 else 0)

theorem dataCount_le (g : Nat → FatValue) : ∀ N, dataCount g N ≤ N := by
  intro N
  induction N with
  | zero => exact Nat.le_refl _
  | succ N ih => simp only [dataCount]; split <;> omega

theorem dataCount_congr (g g' : Nat → FatValue) : ∀ N, (∀ i, i < N → g i = g' i) → dataCount g N = dataCount g' N := by
  intro N
  induction N with
  | zero => intro _; rfl
  | succ N ih =>
    intro h
    simp only [dataCount]
    rw [ih (fun i hi => h i (by omega)), h N (by omega)]

/-- overwriting a link with a non-link removes exactly one link … -/
theorem dataCount_updV_lt (g : Nat → FatValue) (c : Nat) (v : FatValue) (hv : isData v = false)
    (hc : isData (g c) = true) : ∀ N, c < N → dataCount (updV g c v) N + 1 = dataCount g N := by
  intro N
  induction N with
  | zero => intro h; omega
  | succ N ih =>
    intro h
    simp only [dataCount]
    by_cases e : c = N
    · subst e
      rw [dataCount_congr (updV g c v) g c (fun i hi => updV_ne _ _ _ _ (by omega)), updV_same, hv, hc]
      simp
    · rw [updV_ne _ _ _ _ (Ne.symm e)]
      have := ih (by omega)
      omega

/-- … and overwriting anything with a non-link never adds one -/
theorem dataCount_updV_le (g : Nat → FatValue) (c : Nat) (v : FatValue) (hv : isData v = false) :
    ∀ N, dataCount (updV g c v) N ≤ dataCount g N := by
  intro N
  induction N with
  | zero => exact Nat.le_refl _
  | succ N ih =>
    simp only [dataCount]
    by_cases e : N = c
    · subst e; rw [updV_same, hv]; simp; omega
    · rw [updV_ne _ _ _ _ e]; omega

/-- a link can only be read from an entry inside the bytes, and never from a special FAT32 cluster number -/
theorem view_data_plain {ft : FatType} {f : Array Nat} {c m : Nat} (h : view ft f c = .data m) : Plain ft f c := by
  unfold view at h
  cases hg : get ft f c with
  | error e => rw [hg] at h; cases h
  | ok v =>
    refine ⟨get_inRange hg, ?_⟩
    intro hft hs; subst hft
    rw [hg] at h; simp only at h; subst h
    unfold get at hg
    cases hr : getRaw .fat32 f c with
    | error e => rw [hr] at hg; cases hg
    | ok r =>
      rw [hr] at hg
      simp only [classify, classify32] at hg
      split at hg
      · cases hg
      · split at hg
        · cases hg
        · split at hg
          · cases hg
          · cases hg

theorem inRange_lt_size {ft : FatType} {f : Array Nat} {c : Nat} (h : InRange ft f c) : c < f.size := by
  cases ft <;> simp only [InRange, off, width] at h <;> omega

/-- the possible results of the chain operations: a count, or one of the three errors a fault-free stream can
    produce (`panic` = u32 offset overflow resp. `Free` on a special FAT32 cluster number) -/
def ChainOutcome (o : Except Err Nat) : Prop :=
  (∃ n, o = .ok n) ∨ o = .error .panic ∨ o = .error .eof ∨ o = .error .writeZero

theorem chainNext_err {ft : FatType} {f : Array Nat} {c : Nat} {e : Err} (h : chainNext ft f c = .error e) :
    e = .panic ∨ e = .eof := by
  unfold chainNext get at h
  cases hr : getRaw ft f c with
  | error e' =>
    rw [hr] at h; simp only at h; cases h
    exact getRaw_err ft f c _ hr
  | ok r =>
    rw [hr] at h; simp only at h
    cases hc : classify ft c r <;> rw [hc] at h <;> cases h

/-! ### The byte-level chain operations compute the view-level ones

`freeLoop` on the bytes is `freeChainV` on the decoded table unless the stream fails (`ChainErr`): one induction,
`freeLoop_refines`. What the loop does on acyclic chains (`C03fat.free_spec`, `truncate_spec`) and that it ends on
arbitrary tables (`freeLoop_terminates`) are then facts about `freeChainV` alone. -/

/-- the result is one of the errors a fault-free stream can produce -/
def ChainErr (o : Except Err Nat) : Prop := ∃ e, o = .error e ∧ (e = .panic ∨ e = .eof ∨ e = .writeZero)

theorem ChainErr.outcome {o : Except Err Nat} (h : ChainErr o) : ChainOutcome o := by
  obtain ⟨e, rfl, rfl | rfl | rfl⟩ := h
  · exact Or.inr (Or.inl rfl)
  · exact Or.inr (Or.inr (Or.inl rfl))
  · exact Or.inr (Or.inr (Or.inr rfl))

theorem inRange_of_chainNext {ft : FatType} {f : Array Nat} {c : Nat} {nx : Option Nat}
    (h : chainNext ft f c = .ok nx) : InRange ft f c := by
  unfold chainNext at h
  cases hg : get ft f c with
  | error e => rw [hg] at h; cases h
  | ok v => exact get_inRange hg

theorem plain_of_set_free {ft : FatType} {f f1 : Array Nat} {c : Nat} (h : set ft f c .free = .ok f1) :
    Plain ft f c := by
  refine ⟨set_inRange h, ?_⟩
  intro hft hs; subst hft
  simp only [set, set32] at h
  split at h
  · cases h
  · split at h
    · cases h
    · rename_i hn; exact hn ⟨by trivial, hs⟩

/-- everything one iteration of the `free` loop can do: fail because the entry cannot be read or written (then it is
    not a plain entry), or free it and go on with the successor read from the view -/
theorem freeLoop_cases {ft : FatType} (k : Nat) (f : Array Nat) (c cnt : Nat) :
    (ChainErr (freeLoop ft (k + 1) f ⟨some c, false⟩ cnt).out ∧ ¬ Plain ft f c) ∨
    ∃ f1, set ft f c .free = .ok f1 ∧ Plain ft f c ∧
      freeLoop ft (k + 1) f ⟨some c, false⟩ cnt = freeLoop ft k f1 ⟨nextV (view ft f) c, false⟩ (cnt + 1) := by
  cases hcn : chainNext ft f c with
  | error e =>
    have : (freeLoop ft (k + 1) f ⟨some c, false⟩ cnt).out = .error e := by simp [freeLoop, iterItem, hcn]
    exact Or.inl ⟨⟨e, this, (chainNext_err hcn).imp id Or.inl⟩,
      fun hp => by rw [chainNext_view hp.1] at hcn; cases hcn⟩
  | ok nx =>
    have hin := inRange_of_chainNext hcn
    cases hs : set ft f c .free with
    | error e =>
      have : (freeLoop ft (k + 1) f ⟨some c, false⟩ cnt).out = .error e := by
        have hit := iterItem_view hin
        simp only [iterNew] at hit
        simp only [freeLoop, hit, hs]
        cases nextV (view ft f) c <;> rfl
      refine Or.inl ⟨⟨e, this, set_err _ _ _ _ _ hs⟩, fun hp => ?_⟩
      obtain ⟨f1, h1⟩ := set_ok_of_inRange (v := .free) hp.1 (fun hft _ => hp.2 hft)
      rw [h1] at hs; cases hs
    | ok f1 => exact Or.inr ⟨f1, rfl, plain_of_set_free hs, freeLoop_step k cnt hin hs⟩

/-- `r` is what the view-level chain operation answers on the table `f` (`none`: out of fuel, `some (n, g')`: count and new
    view), and only entries in `vis` were written -/
def Refines (ft : FatType) (f : Array Nat) (vis : List Nat) (r : Res Nat) : Option (Nat × (Nat → FatValue)) → Prop
  | none => r.out = .error .hang
  | some (n, g') => r.out = .ok n ∧ view ft r.fat = g' ∧ WfBytes r.fat ∧ r.fat.size = f.size ∧
      ∀ i, i ∉ vis → getRaw ft r.fat i = getRaw ft f i

theorem Refines.after_set {ft : FatType} {f f1 : Array Nat} {c : Nat} {v : FatValue} {vis : List Nat} {r : Res Nat}
    {o : Option (Nat × (Nat → FatValue))} (hf : WfBytes f) (hv : FitsWidth ft v) (h1 : set ft f c v = .ok f1)
    (h : Refines ft f1 vis r o) : Refines ft f (c :: vis) r o := by
  cases o with
  | none => exact h
  | some p =>
    obtain ⟨a, b, c', d, e⟩ := h
    refine ⟨a, b, c', by rw [d, set_size h1], fun i hi => ?_⟩
    rw [e i (fun hm => hi (List.mem_cons_of_mem _ hm)), getRaw_set_other hf hv h1 (fun hc => hi (hc ▸ List.mem_cons_self ..))]

/-- **the `free` loop refines `freeChainV`**, on any byte-valued table: it fails with a stream error at an entry that
    is not plain, or computes what the view-level loop computes on the decoded table (`hang` when that runs out of fuel) -/
theorem freeLoop_refines {ft : FatType} : ∀ (fuel : Nat) (f : Array Nat) (oc : Option Nat) (cnt : Nat), WfBytes f →
    (ChainErr (freeLoop ft fuel f ⟨oc, false⟩ cnt).out ∧ ∃ c, c ∈ walkV (view ft f) oc fuel ∧ ¬ Plain ft f c) ∨
    Refines ft f (walkV (view ft f) oc fuel) (freeLoop ft fuel f ⟨oc, false⟩ cnt)
      (freeChainV (view ft f) oc fuel cnt) := by
  intro fuel
  induction fuel with
  | zero =>
    intro f oc cnt hf
    cases oc with
    | none => exact Or.inr ⟨rfl, rfl, hf, rfl, fun _ _ => rfl⟩
    | some c => exact Or.inr rfl
  | succ k ih =>
    intro f oc cnt hf
    cases oc with
    | none => exact Or.inr ⟨rfl, rfl, hf, rfl, fun _ _ => rfl⟩
    | some c =>
      rcases freeLoop_cases k f c cnt with ⟨he, hp⟩ | ⟨f1, h1, hp, heq⟩
      · exact Or.inl ⟨he, c, List.mem_cons_self .., hp⟩
      · rw [heq, walkV, freeChainV, ← view_set hf (v := .free) (by cases ft <;> trivial) hp.2 h1]
        rcases ih f1 (nextV (view ft f) c) (cnt + 1) (set_wf hf h1) with ⟨he, d, hd, hpd⟩ | hr
        · exact Or.inl ⟨he, d, List.mem_cons_of_mem _ hd, fun h => hpd (h.of_size (set_size h1))⟩
        · exact Or.inr (hr.after_set hf (fits_free ft) h1)

/-- the view-level loop ends when its fuel exceeds the number of links: every step but the last turns a link into `free` -/
theorem freeChainV_terminates (N : Nat) : ∀ (fuel : Nat) (g : Nat → FatValue) (oc : Option Nat) (cnt : Nat),
    (∀ i, N ≤ i → isData (g i) = false) → dataCount g N + 1 ≤ fuel → (freeChainV g oc fuel cnt).isSome := by
  intro fuel
  induction fuel with
  | zero => intro g oc cnt _ h; omega
  | succ k ih =>
    intro g oc cnt hN hfuel
    cases oc with
    | none => rfl
    | some c =>
      rw [freeChainV]
      cases hv : g c with
      | data m =>
        have hcN : c < N := Nat.lt_of_not_le fun hge => by have := hN c hge; rw [hv] at this; cases this
        have hcount := dataCount_updV_lt g c .free rfl (by rw [hv]; rfl) N hcN
        refine ih _ _ _ (fun i hi => ?_) (by omega)
        by_cases e : i = c
        · subst e; rw [updV_same]; rfl
        · rw [updV_ne _ _ _ _ e]; exact hN i hi
      | _ => rw [nextV_last (by rw [hv]; intro n h; cases h), freeChainV_none]; rfl

/-- a refined result of a view-level operation that ends is a `ChainOutcome` -/
theorem Refines.outcome {ft : FatType} {f : Array Nat} {vis : List Nat} {r : Res Nat}
    {o : Option (Nat × (Nat → FatValue))} (h : Refines ft f vis r o) (ho : o.isSome) : ChainOutcome r.out := by
  cases o with
  | none => cases ho
  | some p => exact Or.inl ⟨p.1, h.1⟩

/-- **termination on arbitrary tables.** If no entry `≥ N` holds a link and the fuel exceeds the number of links
    below `N`, the `free` loop ends with a count or a genuine error — never `hang`. -/
theorem freeLoop_terminates {ft : FatType} (N : Nat) (fuel : Nat) (f : Array Nat) (c cnt : Nat) (hf : WfBytes f)
    (hN : ∀ i, N ≤ i → isData (view ft f i) = false) (hfuel : dataCount (view ft f) N + 1 ≤ fuel) :
    ChainOutcome (freeLoop ft fuel f (iterNew c) cnt).out := by
  rcases freeLoop_refines fuel f (some c) cnt hf with ⟨he, _⟩ | hr
  · exact he.outcome
  · exact hr.outcome (freeChainV_terminates N fuel _ _ cnt hN hfuel)

/-- no link can be read from an entry at or beyond the byte length -/
theorem no_data_beyond_size (ft : FatType) (f : Array Nat) (i : Nat) (hi : f.size ≤ i) :
    isData (view ft f i) = false := by
  cases hv : view ft f i with
  | data m => have := inRange_lt_size (view_data_plain hv).1; omega
  | _ => rfl

/-- everything `truncate` does before its loop: fail on an entry outside the bytes, or write `EOC` and free from the
    successor on -/
theorem truncateChain_cases {ft : FatType} (f : Array Nat) (c fuel : Nat) :
    (ChainErr (truncateChain ft f c fuel).out ∧ ¬ InRange ft f c) ∨
    ∃ f1, set ft f c .eoc = .ok f1 ∧ InRange ft f c ∧
      truncateChain ft f c fuel = freeLoop ft fuel f1 ⟨nextV (view ft f) c, false⟩ 0 := by
  cases hcn : chainNext ft f c with
  | error e =>
    have : (truncateChain ft f c fuel).out = .error e := by simp [truncateChain, iterNew, iterItem, hcn]
    exact Or.inl ⟨⟨e, this, (chainNext_err hcn).imp id Or.inl⟩,
      fun hin => by rw [chainNext_view hin] at hcn; cases hcn⟩
  | ok nx =>
    have hin := inRange_of_chainNext hcn
    obtain ⟨f1, h1⟩ := set_ok_of_inRange (v := .eoc) hin (by intro _ h; cases h)
    exact Or.inr ⟨f1, h1, hin, truncateChain_step fuel hin h1⟩

theorem truncateChain_terminates_gen (ft : FatType) (N : Nat) (f : Array Nat) (c fuel : Nat) (hf : WfBytes f)
    (hN : ∀ i, N ≤ i → isData (view ft f i) = false) (hfuel : dataCount (view ft f) N + 1 ≤ fuel) :
    ChainOutcome (truncateChain ft f c fuel).out := by
  rcases truncateChain_cases f c fuel with ⟨he, _⟩ | ⟨f1, h1, hin, heq⟩
  · exact he.outcome
  · rw [heq]
    cases hv : view ft f c with
    | data m =>
      -- `c` held a link, so it is a plain entry and the view law applies
      have hv1 := view_set hf (v := .eoc) (by cases ft <;> trivial) (view_data_plain hv).2 h1
      rw [nextV_data hv]
      apply freeLoop_terminates N fuel f1 m 0 (set_wf hf h1) <;> rw [hv1]
      · intro i hi
        by_cases e : i = c
        · subst e; rw [updV_same]; rfl
        · rw [updV_ne _ _ _ _ e]; exact hN i hi
      · have := dataCount_updV_le (view ft f) c .eoc rfl N
        omega
    | _ => rw [nextV_last (by rw [hv]; intro n h; cases h), freeLoop_none]; exact Or.inl ⟨_, rfl⟩

/-- after `c := EOC` the loop visits the rest of the chain -/
theorem walkV_tail {g : Nat → FatValue} {c : Nat} {t : List Nat} (v : FatValue) (h : Chain g c (c :: t))
    (hnd : (c :: t).Nodup) (fuel : Nat) (hfuel : t.length ≤ fuel) : walkV (updV g c v) (nextV g c) fuel = t := by
  cases h with
  | last _ hl => rw [nextV_last hl, walkV_none]
  | cons _ n _ hd hc =>
    rw [nextV_data hd]
    exact (freeChainV_chain t _ n (chain_updV_other g c v n t hc (List.nodup_cons.mp hnd).1) (List.nodup_cons.mp hnd).2
      fuel 0 hfuel).1

end FatVerif.Fat
