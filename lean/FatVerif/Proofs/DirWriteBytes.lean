import FatVerif.Proofs.DirReadKinds
import FatVerif.Proofs.DirReadPath
import FatVerif.Proofs.FileSimFatFree
/-! Directory WRITES, the device level: what a write of a byte list does to the image (`putBytes`, `WritesTo`), one
    write through a `DiskSlice` behind `FsIoAdapter`, raw `writeChunks` on the storage, the small facts about `run`
    the write simulations share, and `VolStep`, what every directory write keeps of the device. The effect on the image
    is stated on the bytes from `0x42` on (everything behind the status byte). -/
namespace FatVerif.DirSim
open FatVerif.FileSim FatVerif.Fat

/-- `d'` is `d` after `bs` was written at device offset `p` (through the adapter): fault schedule, size, geometry kept;
    the bytes behind the status byte are those of `d` with `bs` put at `p` -/
structure WritesTo (d d' : Dev) (p : Nat) (bs : List Nat) : Prop where
  step : DevStep d d'
  dirty : bs ≠ [] → d'.fs.curDirty = true
  keep : d.fs.curDirty = true → d'.fs.curDirty = true
  bytes : d.img.WF → ∀ q, 0x42 ≤ q → d'.img.getByte q = putBytes d.img.getByte p bs q
  /-- the FS-info cache of the mounted state is not touched -/
  info : d'.fs.fsInfo = d.fs.fsInfo

theorem WritesTo.refl (d : Dev) (p : Nat) : WritesTo d d p [] :=
  ⟨DevStep.refl d, fun h => absurd rfl h, id, fun _ q _ => by rw [putBytes_nil], rfl⟩

theorem WritesTo.of_sameStore {d d1 d2 : Dev} {p : Nat} {bs : List Nat} (h : WritesTo d d1 p bs) (hs : SameStore d1 d2) :
    WritesTo d d2 p bs :=
  ⟨h.step.trans (DevStep.of_sameStore hs), fun hn => by rw [hs.fs]; exact h.dirty hn,
   fun hk => by rw [hs.fs]; exact h.keep hk, fun hw q hq => by rw [hs.img]; exact h.bytes hw q hq,
   by rw [hs.fs]; exact h.info⟩

theorem WritesTo.of_sameStore_left {d d1 d2 : Dev} {p : Nat} {bs : List Nat} (hs : SameStore d d1)
    (h : WritesTo d1 d2 p bs) : WritesTo d d2 p bs :=
  ⟨(DevStep.of_sameStore hs).trans h.step, h.dirty, fun hk => h.keep (by rw [hs.fs]; exact hk),
   fun hw q hq => by rw [h.bytes (by rw [hs.img]; exact hw) q hq, hs.img], by rw [h.info, hs.fs]⟩

theorem WritesTo.append {d d1 d2 : Dev} {p : Nat} {a b : List Nat} (h1 : WritesTo d d1 p a)
    (h2 : WritesTo d1 d2 (p + a.length) b) : WritesTo d d2 p (a ++ b) := by
  have hkeep := h2.keep
  refine ⟨h1.step.trans h2.step, fun hn => ?_, fun hk => h2.keep (h1.keep hk), fun hw q hq => ?_, h2.info.trans h1.info⟩
  · by_cases hb : b = []
    · subst hb
      simp only [List.append_nil] at hn
      exact hkeep (h1.dirty hn)
    · exact h2.dirty hb
  · rw [h2.bytes (h1.step.wf hw) q hq, ← putBytes_append]
    unfold putBytes
    split
    · rfl
    · rw [h1.bytes hw q hq]; rfl

/-- bytes behind the status byte that the write does not cover are kept -/
theorem WritesTo.outside {d d' : Dev} {p : Nat} {bs : List Nat} (hw : WritesTo d d' p bs) (hwf : d.img.WF) (q : Nat)
    (hq : 0x42 ≤ q) (h : ¬ (p ≤ q ∧ q < p + bs.length)) : d'.img.getByte q = d.img.getByte q := by
  rw [hw.bytes hwf q hq, putBytes_outside _ _ _ _ h]

/-- the data region lies behind the status byte and the FAT copies -/
theorem _root_.FatVerif.FileSim.Geo.fat_before_data {fs : FsState} {sz : Nat} (hgeo : Geo fs sz) :
    0x42 ≤ (fatSliceOf fs).beginOff ∧ (fatSliceOf fs).beginOff + (fatSliceOf fs).size ≤ fs.firstDataSector * fs.bps := by
  have := hgeo.status_lt
  have := hgeo.fat_data
  have : (fatSliceOf fs).size ≤ (fatSliceOf fs).mirrors * (fatSliceOf fs).size :=
    Nat.le_mul_of_pos_left _ hgeo.mirrors_pos
  omega

/-- a write into the data region keeps the first FAT copy, hence the decoded FAT -/
theorem WritesTo.fatAgree {d d' : Dev} {p : Nat} {bs : List Nat} (hw : WritesTo d d' p bs) (hwf : d.img.WF)
    (hgeo : Geo d.fs d.img.size) (hp : d.fs.firstDataSector * d.fs.bps ≤ p) : FatAgree d.fs d.img d'.img := by
  intro q h1 h2
  have := hgeo.fat_before_data
  exact hw.outside hwf q (by omega) (by omega)

theorem WritesTo.tabView {d d' : Dev} {p : Nat} {bs : List Nat} (hw : WritesTo d d' p bs) (hwf : d.img.WF)
    (hgeo : Geo d.fs d.img.size) (hp : d.fs.firstDataSector * d.fs.bps ≤ p) :
    tabView d'.fs d'.img = tabView d.fs d.img := by
  rw [hw.step.geom.tabView, tabView_congr hgeo (hw.fatAgree hwf hgeo hp)]

theorem infoOk_congr {fs fs' : FsState} {img img' : Img} (h : InfoOk fs img) (hi : fs'.fsInfo = fs.fsInfo)
    (ht : fs'.totalClusters = fs.totalClusters) (hv : tabView fs' img' = tabView fs img) : InfoOk fs' img' :=
  ⟨fun n hn => h.hint n (by rw [← hi]; exact hn), fun n hn => by rw [hv, ht]; exact h.count n (by rw [← hi]; exact hn)⟩

theorem infoOk_of_writesTo {d d' : Dev} {p : Nat} {bs : List Nat} (hw : WritesTo d d' p bs) (hwf : d.img.WF)
    (hgeo : Geo d.fs d.img.size) (hp : d.fs.firstDataSector * d.fs.bps ≤ p) (h : InfoOk d.fs d.img) :
    InfoOk d'.fs d'.img :=
  infoOk_congr h hw.info hw.step.geom.totalClusters (hw.tabView hwf hgeo hp)

/-! ### `run` -/

theorem run_bind_ok' {α β} {p : Prog β} {k : β → Prog α} {d d1 : Dev} {b : β} (h : run p d = (.ok b, d1)) :
    run (Prog.bind p k) d = run (k b) d1 := by
  simp only [run, h]

theorem run_bind_assoc {α β γ} (p : Prog β) (f : β → Prog γ) (k : γ → Prog α) (d : Dev) :
    run ((p >>= f) >>= k) d = run (p >>= fun b => f b >>= k) d := by
  show run (Prog.bind (Prog.bind p f) k) d = run (Prog.bind p fun b => Prog.bind (f b) k) d
  simp only [run]
  rcases run p d with ⟨r, d1⟩
  cases r <;> rfl

/-- scope exit with a destructor that does nothing: the device is the one the body left -/
theorem run_finallyDrop_noop {α} {p : Prog α} {c : Option α → Prog Unit} {d d1 : Dev} {a : α}
    (h : run p d = (.ok a, d1)) (hc : ∀ dd : Dev, run (c (some a)) dd = (.ok (), dd)) :
    run (Prog.finallyDrop p c) d = (.ok a, d1) := by
  simp only [run, h, hc]
  congr 1

theorem run_bind_finallyDrop_noop {α β} {p : Prog α} {c : Option α → Prog Unit} {k : α → Prog β} {d d1 : Dev} {a : α}
    (h : run p d = (.ok a, d1)) (hc : ∀ dd : Dev, run (c (some a)) dd = (.ok (), dd)) :
    run (Prog.finallyDrop p c >>= k) d = run (k a) d1 :=
  run_bind_ok (run_finallyDrop_noop h hc)

/-- scope exit when body and destructor both succeed -/
theorem run_finallyDrop_ok {α} {p : Prog α} {c : Option α → Prog Unit} {d d1 d2 : Dev} {a : α}
    (h : run p d = (.ok a, d1)) (hc : run (c (some a)) { d1 with dropDepth := d1.dropDepth + 1 } = (.ok (), d2)) :
    run (Prog.finallyDrop p c) d = (.ok a, { d2 with dropDepth := d2.dropDepth - 1 }) := by
  simp only [run, h, hc]

theorem sameVol_depth (d : Dev) (n : Nat) : SameVol d { d with dropDepth := n } := ⟨rfl, rfl, rfl, rfl⟩

/-- no program changes the clock of the device (it advances between API operations) -/
theorem run_clock {α} (p : Prog α) (d : Dev) (r : Except Err α) (d' : Dev) (hr : run p d = (r, d')) :
    d'.clock = d.clock :=
  (steps_of_ops (R := fun a b => b.clock = a.clock) ⟨fun _ => rfl, fun _ _ _ h1 h2 => h2.trans h1, fun _ _ => rfl⟩
    (fun o d _ _ h => (stepOp_facts o d h).clock) p).out d r d' hr

/-- what a directory write keeps of the device: fault schedule, size, well-formedness of the image, geometry -/
structure VolStep (d d' : Dev) : Prop where
  failAt : d'.failAt = d.failAt
  size : d'.img.size = d.img.size
  wf : d.img.WF → d'.img.WF
  geom : FsGeomEq d.fs d'.fs

theorem VolStep.of_devStep {d d' : Dev} (h : DevStep d d') : VolStep d d' := ⟨h.failAt, h.size, h.wf, h.geom⟩

theorem VolStep.of_sameVol {d d' : Dev} (h : SameVol d d') : VolStep d d' :=
  ⟨h.failAt, by rw [h.img], fun hw => by rw [h.img]; exact hw, by rw [h.fs]; exact FsGeomEq.refl _⟩

theorem VolStep.trans {a b c : Dev} (h1 : VolStep a b) (h2 : VolStep b c) : VolStep a c :=
  ⟨h2.failAt.trans h1.failAt, h2.size.trans h1.size, fun h => h2.wf (h1.wf h), h1.geom.trans h2.geom⟩

/-! ### `write_all` and `writeChunks` -/

theorem chunksOf_flatten (ns : List Nat) (bs : List Nat) (h : ns.sum = bs.length) : (chunksOf bs ns).flatten = bs := by
  rw [flatten_chunksOf, h, List.take_length]

theorem chunksOf_ne_nil : ∀ (ns : List Nat) (bs : List Nat), (∀ n ∈ ns, 0 < n) → ns.sum ≤ bs.length →
    ∀ c ∈ chunksOf bs ns, c ≠ [] := by
  intro ns
  induction ns with
  | nil => intro bs _ _ c hc; simp [chunksOf] at hc
  | cons n rest ih =>
    intro bs hpos hsum c hc
    simp only [List.sum_cons] at hsum
    simp only [chunksOf, List.mem_cons] at hc
    rcases hc with rfl | hc
    · intro h0
      have := congrArg List.length h0
      have hn := hpos n (List.mem_cons_self ..)
      simp only [List.length_take, List.length_nil] at this
      omega
    · exact ih (bs.drop n) (fun m hm' => hpos m (List.mem_cons_of_mem _ hm')) (by rw [List.length_drop]; omega) c hc

theorem lfnChunks_sum : lfnChunkSizes.sum = 32 := by decide

/-- `DirEntryData::serialize` writes the 32 bytes of a record in chunks (12 resp. 18 `write_all` calls), the first
    shorter than the record -/
theorem writeSlot_chunks (st : DirStream) (e : DirEntryData) :
    ∃ ns : List Nat, ns.sum = 32 ∧ (∀ n ∈ ns, 0 < n) ∧ ns ≠ [] ∧ ns.headD 0 < 32 ∧
      writeSlot st e = writeChunks DirStream.strm st (chunksOf e.serialize ns) := by
  cases e with
  | file f => exact ⟨_, entryChunks_sum, by decide, by decide, by decide, rfl⟩
  | lfn l => exact ⟨_, lfnChunks_sum, by decide, by decide, by decide, rfl⟩

/-- raw chunks written one after the other from the device position on -/
theorem dev_writeChunks : ∀ (cs : List (List Nat)) (d : Dev), (∀ c ∈ cs, c ≠ []) → d.failAt = none →
    d.pos + cs.flatten.length ≤ d.img.size →
    ∃ d', run (writeChunks devStrm () cs) d = (.ok (), d') ∧ DevStep d d' ∧ d'.fs = d.fs ∧
      (d.img.WF → ∀ q, d'.img.getByte q = putBytes d.img.getByte d.pos cs.flatten q) := by
  intro cs
  induction cs with
  | nil =>
    intro d _ _ _
    exact ⟨d, rfl, DevStep.refl d, rfl, fun _ q => by rw [List.flatten_nil, putBytes_nil]⟩
  | cons c rest ih =>
    intro d hne hfa hfit
    simp only [List.flatten_cons, List.length_append] at hfit
    have hmin : min c.length (d.img.size - d.pos) = c.length := by omega
    have h1 : run (writeAll devStrm () c) d = (.ok (), didWrite d c) := by
      refine run_writeAll_of_write devStrm (hne c (List.mem_cons_self ..)) ?_
      show run (Prog.write c >>= fun n => (pure (n, ()) : Prog (Nat × Unit))) d = _
      rw [run_bind_ok (run_write _ d hfa), hmin]
      rfl
    have hpos1 : (didWrite d c).pos = d.pos + c.length := by
      show d.pos + min c.length (d.img.size - d.pos) = _; rw [hmin]
    have himg1 : (didWrite d c).img = d.img.write d.pos c := didWrite_img d c (by omega)
    obtain ⟨d2, h2, hs2, hfs2, hb2⟩ := ih (didWrite d c) (fun c' hc' => hne c' (List.mem_cons_of_mem _ hc')) hfa
      (by rw [hpos1, didWrite_img_size]; omega)
    have hs1 := DevStep.didWrite d c
    refine ⟨d2, ?_, hs1.trans hs2, hfs2, fun hw q => ?_⟩
    · unfold writeChunks
      rw [run_bind_ok h1, h2]
    · rw [hb2 (hs1.wf hw) q, hpos1, List.flatten_cons, ← putBytes_append]
      unfold putBytes
      split
      · rfl
      · rw [himg1, Img.getByte_write _ hw]

/-- `DirEntryEditor::flush`'s write: seek to `pos`, then the 32 bytes of the record in its 12 chunks, raw on the device -/
theorem run_writeRecord (data : DirFileEntryData) (hname : data.name.length = 11) (pos : Nat) (d : Dev) (hfa : d.failAt = none)
    (hin : pos + 32 ≤ d.img.size) :
    ∃ d', (∀ {α} (k : Unit → Prog α), run (Prog.seekStart pos >>= fun _ =>
        writeChunks devStrm () (chunksOf data.serialize FileH.entryChunkSizes) >>= k) d = run (k ()) d') ∧
      DevStep d d' ∧ d'.fs = d.fs ∧
      (d.img.WF → ∀ q, d'.img.getByte q = putBytes d.img.getByte pos data.serialize q) := by
  have hser := DirFileEntryData.serialize_length _ hname
  have hfl := chunksOf_flatten FileH.entryChunkSizes data.serialize (by rw [entryChunks_sum, hser])
  obtain ⟨d', h, hs, hfs, hb⟩ := dev_writeChunks (chunksOf data.serialize FileH.entryChunkSizes) (d.didSeek pos)
    (chunksOf_ne_nil _ _ (by decide) (by rw [entryChunks_sum, hser]; exact Nat.le_refl _)) hfa (by rw [hfl, hser]; exact hin)
  rw [hfl] at hb
  exact ⟨d', fun k => by rw [run_bind_ok (run_seekStart pos d hfa), run_bind_ok h],
    (DevStep.of_sameStore (sameStore_didSeek d pos)).trans hs, hfs, hb⟩

/-- seek to `p` and write `bs`, which fit into the device, on a volume already marked dirty -/
theorem writesTo_seek_write (dX : Dev) (p : Nat) (bs : List Nat) (hfit : p + bs.length ≤ dX.img.size)
    (hd : dX.fs.curDirty = true) : WritesTo dX (didWrite (dX.didSeek p) bs) p bs := by
  obtain ⟨_, himg, hs⟩ := devStep_seek_write dX p bs hfit
  exact ⟨hs, fun _ => hd, fun _ => hd, fun hw q _ => by rw [himg]; exact Img.getByte_write _ hw _ _ _, rfl⟩

/-- `set_dirty_flag(true)` as a write of no bytes: only the status byte, below `0x42`, may change -/
theorem run_setDirty_writesTo (d : Dev) (hfa : d.failAt = none) (h42 : 0x42 ≤ d.img.size) (p : Nat) :
    ∃ d1, run (setDirtyFlag true) d = (.ok (), d1) ∧ WritesTo d d1 p [] ∧ d1.fs.curDirty = true := by
  obtain ⟨d1, h1, hs1, hd1, hi1, hb1⟩ := run_setDirtyFlag_true d hfa h42
  exact ⟨d1, h1, ⟨hs1, fun _ => hd1, fun _ => hd1, fun hw q hq => by rw [putBytes_nil]; exact hb1 hw q hq, hi1⟩, hd1⟩

/-! ### `DiskSlice::write` on a slice with one copy behind the adapter (the fixed root region) -/

/-- **`DiskSlice::write`, forward** (one copy, through the adapter, the bytes fit in the slice): the volume is marked
    dirty first (if it is not), then all bytes are taken -/
theorem run_slice_write (s : DiskSlice) (hv : s.viaFs = true) (hm : s.mirrors = 1) (bs : List Nat) (hne : bs ≠ [])
    (d : Dev) (hfa : d.failAt = none) (hsz : 0x42 ≤ d.img.size) (hroom : s.offset + bs.length ≤ s.size)
    (hdev : s.beginOff + s.size ≤ d.img.size) :
    ∃ d', run (s.write bs) d = (.ok (bs.length, { s with offset := s.offset + bs.length }), d') ∧
      WritesTo d d' (s.beginOff + s.offset) bs := by
  have hlen := List.length_pos_iff.mpr hne
  have hmin : min bs.length (s.size - s.offset) = bs.length := by omega
  obtain ⟨d1, h1, hs1, hp1⟩ := inner_seek_evals s (s.beginOff + s.offset + 0 * s.size) d hfa
  rw [Nat.zero_mul, Nat.add_zero] at hp1
  have hfa1 : d1.failAt = none := by rw [hs1.failAt]; exact hfa
  -- the write through the adapter: the mark, then the device write
  obtain ⟨dm, ⟨hst, hfs, hpm, hbm, _⟩, h2⟩ := run_inner_write s hv bs hlen d1 hfa1 (by rw [hs1.img]; exact hsz)
  have hfit : dm.pos + bs.length ≤ dm.img.size := by rw [hpm, hp1, hst.size, hs1.img]; omega
  rw [show min bs.length (dm.img.size - dm.pos) = bs.length by omega] at h2
  have himg : (didWrite dm bs).img = dm.img.write dm.pos bs := didWrite_img _ _ hfit
  have hd : (didWrite dm bs).fs.curDirty = true := by
    show dm.fs.curDirty = true; rw [hfs]; exact markedFs_curDirty _
  have hw : WritesTo d1 (didWrite dm bs) (s.beginOff + s.offset) bs := by
    refine ⟨hst.trans (DevStep.didWrite dm bs), fun _ => hd, fun _ => hd, fun hw q hq => ?_,
      by show dm.fs.fsInfo = _; rw [hfs, markedFs_fsInfo]⟩
    rw [himg, Img.getByte_write _ (hst.wf hw), hpm, hp1]
    unfold putBytes
    split
    · rfl
    · exact hbm hw q hq
  refine ⟨didWrite dm bs, ?_, WritesTo.of_sameStore_left hs1 hw⟩
  unfold DiskSlice.write
  simp only [hmin, Nat.ne_of_gt hlen, if_false, List.take_length, hm]
  have hwm : run (s.writeMirrors (s.beginOff + s.offset) bs 1 0) d = (.ok (), didWrite dm bs) := by
    unfold DiskSlice.writeMirrors
    rw [run_bind_ok h1, run_bind_ok (run_writeAll_of_write s.inner hne h2)]
    unfold DiskSlice.writeMirrors
    rfl
  rw [run_bind_ok hwm]
  rfl

end FatVerif.DirSim
