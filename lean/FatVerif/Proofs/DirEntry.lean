import FatVerif.Model.DirEntry
import FatVerif.Model.Names
import FatVerif.Proofs.Time
/-! Lemmas about the 32-byte directory-entry codec: the short-name decoder, codec round trips, the byte frame of the
    time-stamp setters, getters after setters, the editor's dirty latch. -/
namespace FatVerif

/-! ### bit masks as arithmetic -/

theorem land63 (x : Nat) : x &&& 63 = x % 64 := Nat.and_two_pow_sub_one_eq_mod x 6
theorem land15 (x : Nat) : x &&& 15 = x % 16 := Nat.and_two_pow_sub_one_eq_mod x 4

theorem land8 (x : Nat) : x &&& 8 = x / 8 % 2 * 8 := by
  have h1 : x &&& 8 = (x % 16) &&& 8 := by
    rw [← land15, Nat.and_assoc]; rfl
  have h2 : ∀ r, r < 16 → r &&& 8 = r / 8 % 2 * 8 := by decide
  rw [h1, h2 _ (Nat.mod_lt _ (by decide))]; omega

theorem land16 (x : Nat) : x &&& 16 = x / 16 % 2 * 16 := by
  have h1 : x &&& 16 = (x % 32) &&& 16 := by
    rw [← Nat.and_two_pow_sub_one_eq_mod x 5, Nat.and_assoc]; rfl
  have h2 : ∀ r, r < 32 → r &&& 16 = r / 16 % 2 * 16 := by decide
  rw [h1, h2 _ (Nat.mod_lt _ (by decide))]; omega

/-- the case flags, the directory and the volume bit as arithmetic -/
theorem DirFileEntryData.lowercaseBasename_eq (e : DirFileEntryData) :
    e.lowercaseBasename = decide (e.reserved0 / 8 % 2 = 1) := by
  unfold DirFileEntryData.lowercaseBasename
  rw [land8]
  rcases Nat.mod_two_eq_zero_or_one (e.reserved0 / 8) with h | h <;> simp [h]

theorem DirFileEntryData.lowercaseExt_eq (e : DirFileEntryData) :
    e.lowercaseExt = decide (e.reserved0 / 16 % 2 = 1) := by
  unfold DirFileEntryData.lowercaseExt
  rw [land16]
  rcases Nat.mod_two_eq_zero_or_one (e.reserved0 / 16) with h | h <;> simp [h]

theorem DirFileEntryData.isDir_eq (e : DirFileEntryData) : e.isDir = decide (e.attrs / 16 % 2 = 1) := by
  unfold DirFileEntryData.isDir attrContains ATTR_DIRECTORY
  rw [show (0x10 : Nat) = 16 from rfl, land16]
  rcases Nat.mod_two_eq_zero_or_one (e.attrs / 16) with h | h <;> simp [h]

theorem DirFileEntryData.isVolume_eq (e : DirFileEntryData) : e.isVolume = decide (e.attrs / 8 % 2 = 1) := by
  unfold DirFileEntryData.isVolume attrContains ATTR_VOLUME_ID
  rw [show (0x08 : Nat) = 8 from rfl, land8]
  rcases Nat.mod_two_eq_zero_or_one (e.attrs / 8) with h | h <;> simp [h]

theorem attrsTruncate_eq (b : Nat) : attrsTruncate b = b % 64 := land63 b

theorem attrsTruncate_lt (b : Nat) : attrsTruncate b < 64 := by
  rw [attrsTruncate_eq]; omega

theorem attrsTruncate_of_lt {b : Nat} (h : b < 64) : attrsTruncate b = b := by
  rw [attrsTruncate_eq]; omega

theorem attrsIsLfn_eq (a : Nat) : attrsIsLfn a = decide (a % 16 = 15) := by
  unfold attrsIsLfn
  rw [show (0x0F : Nat) = 15 from rfl, land15]
  by_cases h : a % 16 = 15 <;> simp [h]

/-! ### fixed-length lists as literals -/

theorem list_length_11 {l : List Nat} (h : l.length = 11) :
    ∃ a0 a1 a2 a3 a4 a5 a6 a7 a8 a9 a10, l = [a0, a1, a2, a3, a4, a5, a6, a7, a8, a9, a10] := by
  iterate 11 (rcases l with _ | ⟨_, l⟩; · simp at h)
  cases l with
  | nil => exact ⟨_, _, _, _, _, _, _, _, _, _, _, rfl⟩
  | cons _ _ => simp at h

theorem list_length_13 {l : List Nat} (h : l.length = 13) :
    ∃ a0 a1 a2 a3 a4 a5 a6 a7 a8 a9 a10 a11 a12, l = [a0, a1, a2, a3, a4, a5, a6, a7, a8, a9, a10, a11, a12] := by
  iterate 13 (rcases l with _ | ⟨_, l⟩; · simp at h)
  cases l with
  | nil => exact ⟨_, _, _, _, _, _, _, _, _, _, _, _, _, rfl⟩
  | cons _ _ => simp at h

theorem list_length_32 {l : List Nat} (h : l.length = 32) :
    ∃ a0 a1 a2 a3 a4 a5 a6 a7 a8 a9 a10 a11 a12 a13 a14 a15 a16 a17 a18 a19 a20 a21 a22 a23 a24 a25 a26 a27 a28 a29
      a30 a31, l = [a0, a1, a2, a3, a4, a5, a6, a7, a8, a9, a10, a11, a12, a13, a14, a15, a16, a17, a18, a19, a20, a21,
      a22, a23, a24, a25, a26, a27, a28, a29, a30, a31] := by
  iterate 32 (rcases l with _ | ⟨_, l⟩; · simp at h)
  cases l with
  | nil => exact ⟨_, _, _, _, _, _, _, _, _, _, _, _, _, _, _, _, _, _, _, _, _, _, _, _, _, _, _, _, _, _, _, _, rfl⟩
  | cons _ _ => simp at h

/-- replacing the segment `[a, b)` of a list leaves every index outside the segment alone -/
theorem splice_getD (A X : List Nat) (a b i : Nat) (hX : a + X.length = b) (hb : b ≤ A.length)
    (hi : i < a ∨ b ≤ i) : (A.take a ++ X ++ A.drop b).getD i 0 = A.getD i 0 := by
  simp only [List.getD_eq_getElem?_getD]
  congr 1
  rcases hi with hi | hi
  · rw [List.append_assoc, List.getElem?_append_left (by simp; omega)]
    simp [hi]
  · rw [List.getElem?_append_right (by simp; omega)]
    simp only [List.length_append, List.length_take, List.getElem?_drop]
    congr 1; omega

/-! ### little-endian words and their bytes -/

theorem bytesLe16_le16 {a b : Nat} (ha : a < 256) (hb : b < 256) : bytesLe16 (le16 a b) = [a, b] := by
  simp only [bytesLe16, le16, List.cons.injEq, and_true]; omega

theorem bytesLe32_le32 {a b c d : Nat} (ha : a < 256) (hb : b < 256) (hc : c < 256) (hd : d < 256) :
    bytesLe32 (le32 a b c d) = [a, b, c, d] := by
  simp only [bytesLe32, le32, List.cons.injEq, and_true]; omega

theorem le16_bytes {v : Nat} (h : v < 65536) : le16 (v % 256) (v / 256 % 256) = v := by
  unfold le16; omega

theorem le32_bytes {v : Nat} (h : v < 4294967296) :
    le32 (v % 256) (v / 256 % 256) (v / 65536 % 256) (v / 16777216 % 256) = v := by
  unfold le32; omega

/-! ### `ShortName` -/

namespace ShortName

theorem trimLen_le (l : List Nat) (n : Nat) : trimLen l n ≤ n := by
  induction n with
  | zero => simp [trimLen]
  | succ n ih => unfold trimLen; split <;> omega

/-- everything at or after the cut (and before `n`) is padding -/
theorem trimLen_pad (l : List Nat) (n i : Nat) (h1 : trimLen l n ≤ i) (h2 : i < n) : l.getD i 32 = 32 := by
  induction n with
  | zero => omega
  | succ n ih =>
    unfold trimLen at h1
    split at h1
    · omega
    · rename_i hne
      by_cases hi : i = n
      · subst hi; simpa using hne
      · exact ih h1 (by omega)

/-- the byte just before the cut is not padding -/
theorem trimLen_last (l : List Nat) (n : Nat) (h : 0 < trimLen l n) : l.getD (trimLen l n - 1) 32 ≠ 32 := by
  induction n with
  | zero => simp [trimLen] at h
  | succ n ih =>
    unfold trimLen at h ⊢
    split
    · rename_i hne; simpa using hne
    · rename_i hne; rw [if_neg hne] at h; exact ih h

/-- `rposition`-based trimming is "drop the trailing spaces" -/
theorem take_trimLen (l : List Nat) (n : Nat) (hn : n ≤ l.length) :
    l.take (trimLen l n) = ((l.take n).reverse.dropWhile (· == 32)).reverse := by
  induction n with
  | zero => simp [trimLen]
  | succ n ih =>
    have hlt : n < l.length := by omega
    have hget : l.getD n 32 = l[n] := by simp [List.getD, hlt]
    rw [List.take_succ_eq_append_getElem hlt, List.reverse_append]
    unfold trimLen
    by_cases h : l[n] = 32
    · rw [hget, if_neg (by simp [h])]
      simp only [List.reverse_cons, List.reverse_nil, List.nil_append, List.singleton_append]
      rw [List.dropWhile_cons_of_pos (by simp [h])]
      exact ih (by omega)
    · rw [hget, if_pos h]
      simp only [List.reverse_cons, List.reverse_nil, List.nil_append, List.singleton_append]
      rw [List.dropWhile_cons_of_neg (by simp [h])]
      rw [List.take_succ_eq_append_getElem hlt]; simp

/-- on the assembled name the 0x05 rule is the one of the alias generator's model -/
theorem take_fixE5_pad12 (b : List Nat) : (fixE5 (pad12 b)).take b.length = Names.fixE5 b := by
  cases b with
  | nil => simp [Names.fixE5]
  | cons x t =>
    unfold fixE5 pad12
    by_cases hx : x = 5
    · subst hx
      simp [Names.fixE5]
    · have : Names.fixE5 (x :: t) = x :: t := by
        unfold Names.fixE5
        split
        · rename_i heq; cases heq; exact absurd rfl hx
        · rfl
      simp [hx, this]

/-- the display bytes: assemble `base[.ext]`, then the 0x05 rule on the first assembled byte -/
theorem asBytes_new (raw : List Nat) :
    (ShortName.new raw).asBytes = Names.fixE5 (body raw (trimLen raw 8) (trimLen (raw.drop 8) 3)) := by
  simp only [ShortName.new, asBytes]
  exact take_fixE5_pad12 _

theorem body_length_le (raw : List Nat) (a b : Nat) (ha : a ≤ 8) (hb : b ≤ 3) : (body raw a b).length ≤ 12 := by
  unfold body
  split <;> simp <;> omega

end ShortName

/-! ### codec: lengths and round trips -/

namespace DirFileEntryData

theorem serializeTail_length (e : DirFileEntryData) : e.serializeTail.length = 21 := by
  simp [serializeTail, bytesLe16, bytesLe32]

theorem serialize_length (e : DirFileEntryData) (h : e.name.length = 11) : e.serialize.length = 32 := by
  simp [serialize, serializeTail_length, h]

theorem serialize_lt (e : DirFileEntryData) (h : e.WF) : ∀ b ∈ e.serialize, b < 256 := by
  intro b hb
  simp only [serialize, List.mem_append] at hb
  rcases hb with hb | hb
  · exact h.name_lt b hb
  · have := h.attrs_lt; have := h.reserved0_lt; have := h.createTime0_lt
    simp [serializeTail, bytesLe16, bytesLe32] at hb
    omega

theorem WF.default : ({} : DirFileEntryData).WF := by
  constructor <;> simp

theorem WF.setCreated {e : DirFileEntryData} (h : e.WF) (dt : DateTime) (hd : dt.date.day < 65536)
    (hs : dt.time.sec < 131072) : (e.setCreated dt).WF :=
  { h with
    createDate_lt := Date.encode_lt _ hd
    createTime1_lt := Time.encodeLo_lt _ hs
    createTime0_lt := Time.encodeHi_lt _ }

theorem WF.setAccessed {e : DirFileEntryData} (h : e.WF) (d : Date) (hd : d.day < 65536) : (e.setAccessed d).WF :=
  { h with accessDate_lt := Date.encode_lt _ hd }

theorem WF.setModified {e : DirFileEntryData} (h : e.WF) (dt : DateTime) (hd : dt.date.day < 65536)
    (hs : dt.time.sec < 131072) : (e.setModified dt).WF :=
  { h with
    modifyDate_lt := Date.encode_lt _ hd
    modifyTime_lt := Time.encodeLo_lt _ hs }

theorem WF.setSize {e : DirFileEntryData} (h : e.WF) (n : Nat) (hn : n < 4294967296) : (e.setSize n).WF :=
  { h with size_lt := hn }

theorem WF.setFirstCluster {e : DirFileEntryData} (h : e.WF) (c : Option Nat) (ft : FatType) :
    (e.setFirstCluster c ft).WF :=
  { h with
    firstClusterHi_lt := by
      simp only [DirFileEntryData.setFirstCluster]
      split
      · omega
      · exact h.firstClusterHi_lt
    firstClusterLo_lt := by simp only [DirFileEntryData.setFirstCluster]; omega }

theorem WF.renamed {e : DirFileEntryData} (h : e.WF) (n : List Nat) (hl : n.length = 11) (hb : ∀ b ∈ n, b < 256) :
    (e.renamed n).WF :=
  { h with name_len := hl, name_lt := hb }

theorem WF.setDeleted {e : DirFileEntryData} (h : e.WF) : e.setDeleted.WF :=
  { h with
    name_len := by simp [DirFileEntryData.setDeleted, h.name_len]
    name_lt := by
      intro b hb
      simp only [DirFileEntryData.setDeleted] at hb
      rcases List.mem_or_eq_of_mem_set hb with hb | hb
      · exact h.name_lt b hb
      · omega }

end DirFileEntryData

namespace DirLfnEntryData

theorem serialize_length (l : DirLfnEntryData) (h : l.units.length = 13) : l.serialize.length = 32 := by
  obtain ⟨a0, a1, a2, a3, a4, a5, a6, a7, a8, a9, a10, a11, a12, hu⟩ := list_length_13 h
  simp [serialize, name0, name1, name2, hu, bytesLe16]

end DirLfnEntryData

namespace DirEntryData

/-- reading back what `serialize` wrote gives the same short entry (attrs within the defined bits, not LFN-patterned) -/
theorem deserialize_serialize_file (e : DirFileEntryData) (h : e.WF) (hl : attrsIsLfn e.attrs = false) :
    deserialize e.serialize = .file e := by
  obtain ⟨a0, a1, a2, a3, a4, a5, a6, a7, a8, a9, a10, hn⟩ := list_length_11 h.name_len
  have h1 := h.attrs_lt; have h2 := h.reserved0_lt; have h3 := h.createTime0_lt; have h4 := h.createTime1_lt
  have h5 := h.createDate_lt; have h6 := h.accessDate_lt; have h7 := h.firstClusterHi_lt
  have h8 := h.modifyTime_lt; have h9 := h.modifyDate_lt; have h10 := h.firstClusterLo_lt; have h11 := h.size_lt
  cases e with
  | mk name attrs r0 ct0 ct1 cd ad fch mt md fcl sz =>
    simp only at hn h1 h2 h3 h4 h5 h6 h7 h8 h9 h10 h11 hl
    subst hn
    simp only [deserialize, DirFileEntryData.serialize, DirFileEntryData.serializeTail, u8At, bytesLe16, bytesLe32,
      List.cons_append, List.nil_append, List.getD_cons_succ, List.getD_cons_zero, attrsTruncate_of_lt h1, hl,
      Bool.false_eq_true, if_false, deserializeFile, u16At, u32At, List.take_succ_cons, List.take_zero,
      le16_bytes, le32_bytes, h4, h5, h6, h7, h8, h9, h10, h11, Nat.reduceAdd]

theorem deserialize_serialize_lfn (l : DirLfnEntryData) (h : l.WF) (hl : attrsIsLfn l.attrs = true) :
    deserialize l.serialize = .lfn l := by
  obtain ⟨a0, a1, a2, a3, a4, a5, a6, a7, a8, a9, a10, a11, a12, hu⟩ := list_length_13 h.units_len
  have h1 := h.attrs_lt; have h2 := h.order_lt; have h3 := h.entryType_lt; have h4 := h.checksum_lt
  have h5 := h.reserved0_lt
  have hu' := h.units_lt
  cases l with
  | mk order units attrs et ck r0 =>
    simp only at hu h1 h2 h3 h4 h5 hl hu'
    subst hu
    simp only [List.mem_cons, List.not_mem_nil, or_false, forall_eq_or_imp, forall_eq] at hu'
    simp only [deserialize, DirLfnEntryData.serialize, DirLfnEntryData.name0, DirLfnEntryData.name1,
      DirLfnEntryData.name2, u8At, bytesLe16, List.take_succ_cons, List.take_zero, List.drop_succ_cons, List.drop_zero,
      List.flatMap_cons, List.flatMap_nil, List.cons_append, List.nil_append, List.append_nil,
      List.getD_cons_succ, List.getD_cons_zero, attrsTruncate_of_lt h1, hl, if_true, deserializeLfn, u16At,
      le16_bytes, hu', h5, Nat.reduceAdd]

/-- writing back what `deserialize` read reproduces the slot except for the two undefined attribute bits -/
theorem serialize_deserialize (bs : List Nat) (hlen : bs.length = 32) (hb : ∀ b ∈ bs, b < 256) :
    (deserialize bs).serialize = bs.set 11 (bs.getD 11 0 % 64) := by
  obtain ⟨a0, a1, a2, a3, a4, a5, a6, a7, a8, a9, a10, a11, a12, a13, a14, a15, a16, a17, a18, a19, a20, a21, a22,
    a23, a24, a25, a26, a27, a28, a29, a30, a31, rfl⟩ := list_length_32 hlen
  simp only [List.mem_cons, List.not_mem_nil, or_false, forall_eq_or_imp, forall_eq] at hb
  unfold deserialize
  split
  · simp only [serialize, DirLfnEntryData.serialize, DirLfnEntryData.name0, DirLfnEntryData.name1,
      DirLfnEntryData.name2, deserializeLfn, u8At, u16At, bytesLe16_le16, hb, attrsTruncate_eq,
      List.take_succ_cons, List.take_zero, List.drop_succ_cons, List.drop_zero,
      List.flatMap_cons, List.flatMap_nil, List.cons_append, List.nil_append, List.append_nil,
      List.getD_cons_succ, List.getD_cons_zero, List.set_cons_succ, List.set_cons_zero, Nat.reduceAdd]
  · simp only [serialize, DirFileEntryData.serialize, DirFileEntryData.serializeTail, deserializeFile, u8At, u16At,
      u32At, bytesLe16_le16, bytesLe32_le32, hb, attrsTruncate_eq,
      List.take_succ_cons, List.take_zero, List.cons_append, List.nil_append,
      List.getD_cons_succ, List.getD_cons_zero, List.set_cons_succ, List.set_cons_zero, Nat.reduceAdd]

end DirEntryData

/-! ### time-stamp setters: byte frame -/

namespace DirFileEntryData

/-- `set_created` rewrites bytes 13 (hi-res), 14–15 (time), 16–17 (date) and nothing else -/
theorem serialize_setCreated (e : DirFileEntryData) (dt : DateTime) (h : e.name.length = 11) :
    (e.setCreated dt).serialize =
      e.serialize.take 13 ++ ([dt.time.encodeHi] ++ bytesLe16 dt.time.encodeLo ++ bytesLe16 dt.date.encode) ++
      e.serialize.drop 18 := by
  obtain ⟨a0, a1, a2, a3, a4, a5, a6, a7, a8, a9, a10, hn⟩ := list_length_11 h
  simp [serialize, serializeTail, setCreated, hn, bytesLe16, bytesLe32]

/-- `set_accessed` rewrites bytes 18–19 and nothing else -/
theorem serialize_setAccessed (e : DirFileEntryData) (d : Date) (h : e.name.length = 11) :
    (e.setAccessed d).serialize = e.serialize.take 18 ++ bytesLe16 d.encode ++ e.serialize.drop 20 := by
  obtain ⟨a0, a1, a2, a3, a4, a5, a6, a7, a8, a9, a10, hn⟩ := list_length_11 h
  simp [serialize, serializeTail, setAccessed, hn, bytesLe16, bytesLe32]

/-- `set_modified` rewrites bytes 22–23 (time), 24–25 (date) and nothing else -/
theorem serialize_setModified (e : DirFileEntryData) (dt : DateTime) (h : e.name.length = 11) :
    (e.setModified dt).serialize =
      e.serialize.take 22 ++ (bytesLe16 dt.time.encodeLo ++ bytesLe16 dt.date.encode) ++ e.serialize.drop 26 := by
  obtain ⟨a0, a1, a2, a3, a4, a5, a6, a7, a8, a9, a10, hn⟩ := list_length_11 h
  simp [serialize, serializeTail, setModified, hn, bytesLe16, bytesLe32]

/-! ### getters after setters -/

theorem created_setCreated (e : DirFileEntryData) (dt : DateTime)
    (hd : Date.inRange dt.date.year dt.date.month dt.date.day)
    (ht : Time.inRange dt.time.hour dt.time.min dt.time.sec dt.time.millis) :
    (e.setCreated dt).created = ⟨dt.date, dt.time.round10⟩ := by
  unfold Date.inRange at hd
  simp only [created, setCreated, DateTime.decode]
  rw [Date.decode_encode _ (by omega) (by omega) (by omega) (by omega), Time.decode_encode _ ht]

theorem accessed_setAccessed (e : DirFileEntryData) (d : Date) (hd : Date.inRange d.year d.month d.day) :
    (e.setAccessed d).accessed = d := by
  unfold Date.inRange at hd
  simp only [accessed, setAccessed]
  exact Date.decode_encode _ (by omega) (by omega) (by omega) (by omega)

theorem modified_setModified (e : DirFileEntryData) (dt : DateTime)
    (hd : Date.inRange dt.date.year dt.date.month dt.date.day)
    (ht : Time.inRange dt.time.hour dt.time.min dt.time.sec dt.time.millis) :
    (e.setModified dt).modified = ⟨dt.date, dt.time.round2s⟩ := by
  unfold Date.inRange at hd
  simp only [modified, setModified, DateTime.decode]
  rw [Date.decode_encode _ (by omega) (by omega) (by omega) (by omega), Time.decode_encode_mod _ ht]

/-- the three stamps are independent fields -/
theorem getters_setCreated (e : DirFileEntryData) (dt : DateTime) :
    (e.setCreated dt).accessed = e.accessed ∧ (e.setCreated dt).modified = e.modified := ⟨rfl, rfl⟩

theorem getters_setAccessed (e : DirFileEntryData) (d : Date) :
    (e.setAccessed d).created = e.created ∧ (e.setAccessed d).modified = e.modified := ⟨rfl, rfl⟩

theorem getters_setModified (e : DirFileEntryData) (dt : DateTime) :
    (e.setModified dt).created = e.created ∧ (e.setModified dt).accessed = e.accessed := ⟨rfl, rfl⟩

/-- storing what was read changes nothing (the stamps the library itself decodes re-encode to the same bytes) -/
theorem setAccessed_accessed (e : DirFileEntryData) (h : e.accessDate < 65536) : e.setAccessed e.accessed = e := by
  simp only [setAccessed, accessed, Date.encode_decode _ h]

theorem setModified_modified (e : DirFileEntryData) (h1 : e.modifyDate < 65536) (h2 : e.modifyTime < 65536) :
    e.setModified e.modified = e := by
  simp only [setModified, modified, DateTime.decode, Date.encode_decode _ h1, Time.encodeLo_decode_zero _ h2]

theorem setCreated_created (e : DirFileEntryData) (h1 : e.createDate < 65536) (h2 : e.createTime1 < 65536)
    (h3 : e.createTime0 < 200) : e.setCreated e.created = e := by
  have := Time.encode_decode e.createTime1 e.createTime0 h2 h3
  simp only [Time.encode, Prod.mk.injEq] at this
  simp only [setCreated, created, DateTime.decode, Date.encode_decode _ h1, this.1, this.2]

/-! ### first cluster / size -/

theorem firstCluster_setFirstCluster_fat32 (e : DirFileEntryData) (c : Option Nat)
    (hc : ∀ n, c = some n → 0 < n ∧ n < 4294967296) :
    (e.setFirstCluster c .fat32).firstCluster .fat32 = c := by
  cases c with
  | none => simp [firstCluster, firstClusterRaw, setFirstCluster]
  | some n =>
    have := hc n rfl
    simp only [firstCluster, firstClusterRaw, setFirstCluster, if_true, Option.getD_some]
    rw [if_neg (by omega)]
    congr 1; omega

/-- on FAT12/16 only the low word is stored and read -/
theorem firstCluster_setFirstCluster_small (e : DirFileEntryData) (c : Option Nat) (ft : FatType) (hft : ft ≠ .fat32)
    (hc : ∀ n, c = some n → 0 < n ∧ n < 65536) :
    (e.setFirstCluster c ft).firstCluster ft = c := by
  cases c with
  | none => simp [firstCluster, firstClusterRaw, setFirstCluster, hft]
  | some n =>
    have := hc n rfl
    simp only [firstCluster, firstClusterRaw, setFirstCluster, if_neg hft, Option.getD_some]
    rw [if_neg (by omega)]
    congr 1; omega

theorem size?_setSize (e : DirFileEntryData) (n : Nat) :
    (e.setSize n).size? = if e.isFile then some n else none := by
  simp [size?, setSize, isFile, isDir]

end DirFileEntryData

/-! ### the editor's dirty latch -/

namespace DirEntryEditor

theorem setCreated_dirty (ed : DirEntryEditor) (dt : DateTime) :
    (ed.setCreated dt).dirty = (ed.dirty || decide (dt ≠ ed.data.created)) := by
  unfold setCreated; split <;> simp_all

theorem setAccessed_dirty (ed : DirEntryEditor) (d : Date) :
    (ed.setAccessed d).dirty = (ed.dirty || decide (d ≠ ed.data.accessed)) := by
  unfold setAccessed; split <;> simp_all

theorem setModified_dirty (ed : DirEntryEditor) (dt : DateTime) :
    (ed.setModified dt).dirty = (ed.dirty || decide (dt ≠ ed.data.modified)) := by
  unfold setModified; split <;> simp_all

theorem setFirstCluster_dirty (ed : DirEntryEditor) (c : Option Nat) (ft : FatType) :
    (ed.setFirstCluster c ft).dirty = (ed.dirty || decide (c ≠ ed.data.firstCluster ft)) := by
  unfold setFirstCluster; split <;> simp_all

/-- a setter whose argument equals the current getter is the identity (no write on flush) -/
theorem setCreated_same (ed : DirEntryEditor) : ed.setCreated ed.data.created = ed := by simp [setCreated]
theorem setAccessed_same (ed : DirEntryEditor) : ed.setAccessed ed.data.accessed = ed := by simp [setAccessed]
theorem setModified_same (ed : DirEntryEditor) : ed.setModified ed.data.modified = ed := by simp [setModified]

/-- the setters never move the entry and never clear `dirty` -/
theorem setCreated_pos (ed : DirEntryEditor) (dt : DateTime) : (ed.setCreated dt).pos = ed.pos := by
  unfold setCreated; split <;> rfl
theorem setAccessed_pos (ed : DirEntryEditor) (d : Date) : (ed.setAccessed d).pos = ed.pos := by
  unfold setAccessed; split <;> rfl
theorem setModified_pos (ed : DirEntryEditor) (dt : DateTime) : (ed.setModified dt).pos = ed.pos := by
  unfold setModified; split <;> rfl

/-- `set_size` is a no-op on a directory entry -/
theorem setSize_dir (ed : DirEntryEditor) (n : Nat) (h : ed.data.isDir = true) : ed.setSize n = ed := by
  simp [setSize, DirFileEntryData.size?, DirFileEntryData.isFile, h]

theorem setSize_file (ed : DirEntryEditor) (n : Nat) (h : ed.data.isDir = false) :
    (ed.setSize n).data.size = n ∧ (ed.setSize n).dirty = (ed.dirty || decide (n ≠ ed.data.size)) := by
  simp only [setSize, DirFileEntryData.size?, DirFileEntryData.isFile, h, Bool.not_false, if_true]
  split <;> simp_all [DirFileEntryData.setSize]

end DirEntryEditor

end FatVerif
