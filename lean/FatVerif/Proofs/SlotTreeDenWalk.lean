import FatVerif.Proofs.SlotTreeDen
/-!
# Slot trees on a device image: the path walk of a call

All calls that take a path walk it the same way: `find_entry(name, Some(true))?.to_dir()` per directory component, the
rest of the call running inside `thenDrop sub`.  `path_walk` does the induction along `split_path` once, for a program
family `Wk fuel st path` that unfolds like that (`hunf`), against the slot tree's walk (`walkRes`: the error of
`walkDirsS`, or what the last component gives in the directory reached).  A call supplies what its last component does
in a directory the image holds (`hlast`) and how its outcomes pass through the handle of an intermediate directory
(`hlift`, from `Wraps`).

Instances here: the calls that open an entry (`OpenRel`, `open_walk`, `open_last`, `open_out`: `open_dir` / `open_file`
end exactly as `walkDirsS` + `stepCompS` say; the volume — image, write records, mounted state, fault schedule — is
untouched: `Reads` / `FailsV`), `listDir_den` (`Dir::iter()` on a stream that denotes a directory of the tree), and
`MWalk.lift` for the mutating calls (`MOut`: the destructors of the intermediate handles run on the device AFTER the
write).
-/
namespace FatVerif
namespace SlotTreeImg
open Lfn DirSlots DirAlias SlotTree DirSim

/-! ## `split_path` -/

theorem trimSlashes_length (cs : List Char) : (Names.trimSlashes cs).length ≤ cs.length := by
  unfold Names.trimSlashes
  rw [List.length_reverse]
  exact Nat.le_trans (List.dropWhile_sublist _).length_le
    (by rw [List.length_reverse]; exact (List.dropWhile_sublist _).length_le)

theorem span_loop_snd_length {α} (p : α → Bool) : ∀ (as acc : List α), (List.span.loop p as acc).2.length ≤ as.length
  | [], _ => by simp [List.span.loop]
  | a :: as, acc => by
    unfold List.span.loop
    cases p a with
    | true => exact Nat.le_trans (span_loop_snd_length p as (a :: acc)) (by simp)
    | false => simp

theorem splitPathL_rest_length (p a r : List Char) (h : Names.splitPathL p = (a, some r)) : r.length < p.length := by
  unfold Names.splitPathL at h
  have hl := trimSlashes_length p
  have hsl := span_loop_snd_length (fun c => c != '/') (Names.trimSlashes p) []
  unfold List.span at h
  cases hd : List.span.loop (fun c => c != '/') (Names.trimSlashes p) [] with
  | mk x y =>
    rw [hd] at h hsl
    cases y with
    | nil => simp at h
    | cons c b =>
      simp only [Prod.mk.injEq, Option.some.injEq] at h
      rw [← h.2]
      simp only [List.length_cons] at hsl
      omega

theorem splitPathL_nil : Names.splitPathL [] = ([], none) := by decide

theorem splitPath_ofList (chars : List Char) :
    Names.splitPath (String.ofList chars) =
      (String.ofList (Names.splitPathL chars).1, (Names.splitPathL chars).2.map String.ofList) := by
  unfold Names.splitPath
  rw [String.toList_ofList]

theorem splitAll_last (n : Nat) (chars a : List Char) (h : Names.splitPathL chars = (a, none)) :
    splitAll n chars = ([], String.ofList a) := by
  cases n with
  | zero => simp only [splitAll, h]
  | succ m => simp only [splitAll, h]

theorem splitAll_step (m : Nat) (chars a r : List Char) (h : Names.splitPathL chars = (a, some r)) :
    splitAll (m + 1) chars = (String.ofList a :: (splitAll m r).1, (splitAll m r).2) := by
  simp only [splitAll, h]

/-! ## the slot tree's walk as one function -/

/-- the verdict of a call on the slot tree: the error of the walk through the directory components, or what the last
    component gives (`fin`) in the directory reached -/
def walkRes {β} (up : Char → List Char) (t : Node) (err : Err → β) (fin : List String → String → β)
    (cur : List String) (parts : List String × String) : β :=
  match walkDirsS up t cur parts.1 with
  | .error e => err e
  | .ok p => fin p parts.2

theorem walkRes_nil {β} {up : Char → List Char} {t : Node} (err : Err → β) (fin : List String → String → β)
    {cur : List String} {s : List (List Nat)} {ch : List (LfnEntry × Node)}
    (hg : getAtS up t cur = some (.dir s ch)) (l : String) : walkRes up t err fin cur ([], l) = fin cur l := by
  unfold walkRes; simp only [walkDirsS_nil hg]

theorem walkRes_cons {β} (up : Char → List Char) (t : Node) (err : Err → β) (fin : List String → String → β)
    (cur : List String) (c : String) (ds : List String) (l : String) :
    walkRes up t err fin cur (c :: ds, l) =
      match stepCompS up t cur c with
      | .error e => err e
      | .ok (p, .dir _ _) => walkRes up t err fin p (ds, l)
      | .ok (_, .file _) => err .invalidInput := by
  unfold walkRes
  simp only [walkDirsS]
  cases stepCompS up t cur c with
  | error e => rfl
  | ok pn =>
    obtain ⟨p, n⟩ := pn
    cases n <;> rfl

/-- what `open_dir` / `open_file` find on the slot tree: `walkRes` with `stepCompS` for the last component -/
def openRes (up : Char → List Char) (t : Node) (cur : List String) (parts : List String × String) :
    Except Err (List String × Node) :=
  match walkDirsS up t cur parts.1 with
  | .error e => .error e
  | .ok p => stepCompS up t p parts.2

theorem openS_eq (up : Char → List Char) (t : Node) (cwd : List String) (path : String) (w : Bool) :
    openS up t cwd path w =
      match openRes up t cwd (pathParts path) with
      | .error e => fail t e
      | .ok (_, n) => if n.isDir == w then done t else fail t .invalidInput := by
  unfold openS openRes
  cases walkDirsS up t cwd (pathParts path).1 with
  | error e => rfl
  | ok p =>
    simp only
    cases stepCompS up t p (pathParts path).2 with
    | error e => rfl
    | ok pn => rfl

theorem openRes_err {up : Char → List Char} {t : Node} {cur : List String} {parts : List String × String} {e : Err}
    (h : openRes up t cur parts = .error e) : e ≠ .hang := by
  unfold openRes at h
  cases hw : walkDirsS up t cur parts.1 with
  | error e' =>
    rw [hw] at h
    simp only [Except.error.injEq] at h
    rw [← h]; exact err_ne_hang_of_walk hw
  | ok p =>
    rw [hw] at h
    rw [stepCompS_err h]; simp

section walk
variable {d : Dev} {up : Char → List Char} {t : Node} {cl : List String → Option Nat}

/-! ## through the handle of an intermediate directory -/

/-- on every device with the volume of `d`, `B` does what `A` does inside the handle `sub` (which is dropped
    afterwards), after reads that keep volume and clock -/
def Wraps {α} (d : Dev) (sub : DirStream) (A B : Prog α) : Prop :=
  ∀ d1, SameVol d d1 → ∃ d4, SameVol d1 d4 ∧ d4.clock = d1.clock ∧ run B d1 = run (thenDrop sub A) d4

/-- a directory component: the rest of the call runs inside `thenDrop sub` -/
theorem walk_step {α} {st : DirStream} (V : DirView d st) (env : Env) (name : String) (de : DirEntry)
    (hl : V.lookup env name (some true) = .ok de) (hdir : de.isDir = true) (rest : DirStream → Prog α) :
    Wraps d (DirEntry.dirStream d.fs de) (rest (DirEntry.dirStream d.fs de))
      (Prog.bind Prog.getFs fun fs => Prog.bind (findEntry env st name (some true)) fun e =>
        Prog.bind (e.toDir fs) fun sub => thenDrop sub (rest sub)) := by
  intro d1 hv
  have h1 := V.findEntry_sim env name (some true) d1 hv
  rw [hl] at h1
  obtain ⟨d3, hr3, hs3⟩ : Reads (findEntry env st name (some true)) d1 de := h1
  obtain ⟨d4, hr4, hs4⟩ := toDir_sim d.fs de hdir d3
  refine ⟨d4, hs3.trans hs4, by rw [run_clock _ _ _ _ hr4, run_clock _ _ _ _ hr3], ?_⟩
  rw [run_bind_ok' (rfl : run Prog.getFs d1 = (.ok d1.fs, d1)), run_bind_ok' hr3, hv.fs, run_bind_ok' hr4]

theorem Wraps.reads {α} {sub : DirStream} {A B : Prog α} (W : Wraps d sub A B)
    (hdrop : ∀ d5, SameVol d d5 → Reads sub.dropBody d5 ()) {v : α} (h : ∀ d4, SameVol d d4 → Reads A d4 v) :
    ∀ d1, SameVol d d1 → Reads B d1 v := by
  intro d1 hv
  obtain ⟨d4, hs4, _, hrun⟩ := W d1 hv
  obtain ⟨d6, hr6, hs6⟩ := Reads.thenDrop (st := sub) (h d4 (hv.trans hs4))
    (fun d5 hs5 => hdrop d5 ((hv.trans hs4).trans hs5))
  exact ⟨d6, hrun.trans hr6, hs4.trans hs6⟩

theorem Wraps.fails {α} {sub : DirStream} {A B : Prog α} (W : Wraps d sub A B)
    (hdrop : ∀ d5, SameVol d d5 → Reads sub.dropBody d5 ()) {e : Err} (hne : e ≠ .hang)
    (h : ∀ d4, SameVol d d4 → FailsV A d4 e) : ∀ d1, SameVol d d1 → FailsV B d1 e := by
  intro d1 hv
  obtain ⟨d4, hs4, _, hrun⟩ := W d1 hv
  obtain ⟨d6, hr6, hs6⟩ := FailsV.thenDrop (st := sub) (h d4 (hv.trans hs4)) hne
    (fun d5 hs5 => hdrop d5 ((hv.trans hs4).trans hs5))
  exact ⟨d6, hrun.trans hr6, hs4.trans hs6⟩

/-- the lookup of a component fails: the whole call fails with that error -/
theorem walk_fail {α} {st : DirStream} (V : DirView d st) (env : Env) (name : String) (k : Bool) (e : Err)
    (hl : V.lookup env name (some k) = .error e) (K : FsState → DirEntry → Prog α) :
    ∀ d1, SameVol d d1 →
      FailsV (Prog.bind Prog.getFs fun fs => Prog.bind (findEntry env st name (some k)) (K fs)) d1 e := by
  intro d1 hv
  refine FailsV.bind_right (Reads.getFs d1) (fun d2 hs2 => ?_)
  have := V.findEntry_sim env name (some k) d2 (hv.trans hs2)
  rw [hl] at this
  exact FailsV.bind_left this

/-- the lookup of the last component succeeds: the call returns what the continuation `K` returns -/
theorem walk_ok {α} {st : DirStream} (V : DirView d st) (env : Env) (name : String) (k : Bool) (de : DirEntry)
    (hl : V.lookup env name (some k) = .ok de) (K : FsState → DirEntry → Prog α) (v : α)
    (hK : ∀ d3, Reads (K d.fs de) d3 v) :
    ∀ d1, SameVol d d1 →
      Reads (Prog.bind Prog.getFs fun fs => Prog.bind (findEntry env st name (some k)) (K fs)) d1 v := by
  intro d1 hv
  refine Reads.bind (Reads.getFs d1) (fun d2 hs2 => ?_)
  have := V.findEntry_sim env name (some k) d2 (hv.trans hs2)
  rw [hl] at this
  rw [hv.fs]
  exact Reads.bind this (fun d3 _ => hK d3)

/-! ## the walk -/

/-- **the path walk of a call** (see the header). `R A r`: the program `A` ends as the verdict `r` of the slot tree says
    (the caller's relation: `OpenRel`, `MWalk`); `Good`: what the caller knows of the last component in the directory
    the walk reaches, handed on to `hlast`. `n` is the fuel of `splitAll` (`pathParts` takes the length of the path),
    `fuelD` that of the program, which spends one unit per component. The verdict must not be `.hang`, since `hlift`
    passes only such verdicts through a handle -/
theorem path_walk {α β} (I : ImgTree d up t cl) (hwf : TreeWf up t) (hup : DotSafe up) (env : Env)
    (henv : env.upper = up) (Wk : Nat → DirStream → String → Prog α)
    (hunf : ∀ f st chars a r, Names.splitPathL chars = (a, some r) →
      Wk (f + 1) st (String.ofList chars) =
        Prog.bind Prog.getFs fun fs =>
          Prog.bind (findEntry env st (String.ofList a) (some true)) fun e =>
            Prog.bind (e.toDir fs) fun sub => thenDrop sub (Wk f sub (String.ofList r)))
    (err : Err → β) (fin : List String → String → β) (R : Prog α → β → Prop)
    (hfail : ∀ A e, (∀ d1, SameVol d d1 → FailsV A d1 e) → R A (err e))
    (hlift : ∀ p sub, Den d up t cl p sub → ∀ A B r, r ≠ err .hang → Wraps d sub A B → R A r → R B r)
    (Good : List String → String → Prop)
    (hlast : ∀ cur st, Den d up t cl cur st → ∀ f chars a, Names.splitPathL chars = (a, none) →
      Good cur (String.ofList a) → R (Wk (f + 1) st (String.ofList chars)) (fin cur (String.ofList a))) :
    ∀ (n : Nat) (chars : List Char), chars.length ≤ n → ∀ fuelD, n < fuelD →
    ∀ (cur : List String) (st : DirStream), Den d up t cl cur st →
    (∀ p, walkDirsS up t cur (splitAll n chars).1 = .ok p → Good p (splitAll n chars).2) →
    walkRes up t err fin cur (splitAll n chars) ≠ err .hang →
    R (Wk fuelD st (String.ofList chars)) (walkRes up t err fin cur (splitAll n chars)) := by
  have last : ∀ (m : Nat) (chars a : List Char), Names.splitPathL chars = (a, none) → ∀ f,
      ∀ (cur : List String) (st : DirStream), Den d up t cl cur st →
      (∀ p, walkDirsS up t cur (splitAll m chars).1 = .ok p → Good p (splitAll m chars).2) →
      R (Wk (f + 1) st (String.ofList chars)) (walkRes up t err fin cur (splitAll m chars)) := by
    intro m chars a hsp f cur st hden hgood
    obtain ⟨s, c, hg⟩ := hden.1
    rw [splitAll_last m chars a hsp] at hgood ⊢
    rw [walkRes_nil err fin hg]
    exact hlast cur st hden f chars a hsp (hgood cur (walkDirsS_nil hg))
  intro n
  induction n with
  | zero =>
    intro chars hlen fuelD hf cur st hden hgood _
    obtain rfl : chars = [] := List.eq_nil_of_length_eq_zero (by omega)
    obtain ⟨f, rfl⟩ : ∃ f, fuelD = f + 1 := ⟨fuelD - 1, by omega⟩
    exact last 0 [] [] splitPathL_nil f cur st hden hgood
  | succ m ih =>
    intro chars hlen fuelD hf cur st hden hgood hnh
    obtain ⟨f, rfl⟩ : ∃ f, fuelD = f + 1 := ⟨fuelD - 1, by omega⟩
    cases hsp : Names.splitPathL chars with
    | mk a ro =>
    cases ro with
    | none => exact last (m + 1) chars a hsp f cur st hden hgood
    | some r =>
      have hrl := splitPathL_rest_length chars a r hsp
      rw [splitAll_step m chars a r hsp] at hgood hnh ⊢
      rw [hunf f st chars a r hsp]
      rw [walkRes_cons] at hnh ⊢
      simp only [walkDirsS] at hgood
      obtain ⟨V, hrel⟩ := step_img I hwf hup env henv cur st hden (String.ofList a) true
      cases hr : stepCompS up t cur (String.ofList a) with
      | error e =>
        rw [hr] at hrel
        rw [stepCompS_err hr]
        exact hfail _ _ (walk_fail V env _ true _ hrel.2 _)
      | ok pn =>
        obtain ⟨p, nd⟩ := pn
        rw [hr] at hrel hgood hnh
        unfold StepRel at hrel
        cases nd with
        | file fc => exact hfail _ _ (walk_fail V env _ true _ hrel _)
        | dir s' c' =>
          obtain ⟨de, hl, hdir, hgp, hsf⟩ := hrel
          have hden' : Den d up t cl p (DirEntry.dirStream d.fs de) := ⟨⟨s', c', hgp⟩, hsf rfl⟩
          exact hlift p _ hden' _ _ _ hnh
            (walk_step V env (String.ofList a) de hl hdir (fun sub => Wk f sub (String.ofList r)))
            (ih r (by omega) f (by omega) p _ hden' hgood hnh)

/-! ## `open_dir` and `open_file` -/

/-- what a call that opens an entry of kind `w` does on the image (on every device with the same volume), for the slot
    tree's verdict; `Q p n v`: what is known of the value returned when the node `n` at `p` is of that kind -/
def OpenRel {α} (d : Dev) (w : Bool) (Q : List String → Node → α → Prop) (prog : Prog α) :
    Except Err (List String × Node) → Prop
  | .error e => ∀ d1, SameVol d d1 → FailsV prog d1 e
  | .ok (p, n) =>
    if n.isDir = w then ∃ v, (∀ d1, SameVol d d1 → Reads prog d1 v) ∧ Q p n v
    else ∀ d1, SameVol d d1 → FailsV prog d1 .invalidInput

theorem OpenRel.lift {α} {w : Bool} {Q : List String → Node → α → Prop} {sub : DirStream} {A B : Prog α}
    (W : Wraps d sub A B) (hdrop : ∀ d5, SameVol d d5 → Reads sub.dropBody d5 ())
    {r : Except Err (List String × Node)} (hr : r ≠ .error .hang) (h : OpenRel d w Q A r) : OpenRel d w Q B r := by
  match r, hr, h with
  | .error e, hr, h => exact W.fails hdrop (fun he => hr (he ▸ rfl)) h
  | .ok (p, n), _, h =>
    unfold OpenRel at h ⊢
    dsimp only at h ⊢
    by_cases hk : n.isDir = w
    · rw [if_pos hk] at h ⊢
      obtain ⟨v, hrd, hq⟩ := h
      exact ⟨v, W.reads hdrop hrd, hq⟩
    · rw [if_neg hk] at h ⊢
      exact W.fails hdrop (by simp) h

/-- the walk of a call that opens an entry, from its last component -/
theorem open_walk {α} {w : Bool} {Q : List String → Node → α → Prop} (I : ImgTree d up t cl) (hwf : TreeWf up t)
    (hup : DotSafe up) (env : Env) (henv : env.upper = up) (Wk : Nat → DirStream → String → Prog α)
    (hunf : ∀ f st chars a r, Names.splitPathL chars = (a, some r) →
      Wk (f + 1) st (String.ofList chars) =
        Prog.bind Prog.getFs fun fs =>
          Prog.bind (findEntry env st (String.ofList a) (some true)) fun e =>
            Prog.bind (e.toDir fs) fun sub => thenDrop sub (Wk f sub (String.ofList r)))
    (hlast : ∀ cur st, Den d up t cl cur st → ∀ f chars a, Names.splitPathL chars = (a, none) →
      OpenRel d w Q (Wk (f + 1) st (String.ofList chars)) (stepCompS up t cur (String.ofList a)))
    (path : String) (fuel : Nat) (hfuel : path.toList.length < fuel) {cwd : List String} {st : DirStream}
    (hden : Den d up t cl cwd st) : OpenRel d w Q (Wk fuel st path) (openRes up t cwd (pathParts path)) := by
  have W := path_walk I hwf hup env henv Wk hunf Except.error (stepCompS up t) (OpenRel d w Q) (fun _ _ h => h)
    (fun _ _ hden' _ _ _ hr W h => h.lift W (fun d5 hv => (den_view I hden').elim (·.drop_sim d5 hv)) hr)
    (fun _ _ => True) (fun cur st hden f chars a hsp _ => hlast cur st hden f chars a hsp)
    path.toList.length path.toList (Nat.le_refl _) fuel hfuel cwd st hden (fun _ _ => trivial)
    (fun h => openRes_err h rfl)
  rwa [String.ofList_toList] at W

/-- the outcome of `openS` from that of the path resolution `openRes`: the resolution's error, the node of the wanted
    kind, or `InvalidInput` for a node of the other kind -/
theorem open_out {α} {w : Bool} {Q : List String → Node → α → Prop} {prog : Prog α} {cwd : List String}
    {path : String} (W : OpenRel d w Q prog (openRes up t cwd (pathParts path))) :
    (∀ rows, (openS up t cwd path w).out = .ok rows →
      ∃ p n v, (∀ d1, SameVol d d1 → Reads prog d1 v) ∧ openRes up t cwd (pathParts path) = .ok (p, n) ∧
        n.isDir = w ∧ Q p n v) ∧
    (∀ e, (openS up t cwd path w).out = .error e → ∀ d1, SameVol d d1 → FailsV prog d1 e) := by
  rw [openS_eq]
  cases hres : openRes up t cwd (pathParts path) with
  | error e =>
    rw [hres] at W
    exact ⟨fun _ h => (by cases h), fun e' h => Except.error.inj h ▸ W⟩
  | ok pn =>
    obtain ⟨p, n⟩ := pn
    rw [hres] at W
    unfold OpenRel at W
    dsimp only at W ⊢
    by_cases hk : n.isDir = w
    · rw [if_pos hk] at W
      obtain ⟨v, hr, hq⟩ := W
      simp only [beq_iff_eq.2 hk, if_true]
      exact ⟨fun _ _ => ⟨p, n, v, hr, rfl, hk, hq⟩, fun _ h => (by cases h)⟩
    · rw [if_neg hk] at W
      simp only [beq_eq_false_iff_ne.2 hk, Bool.false_eq_true, if_false]
      exact ⟨fun _ h => (by cases h), fun e' h => Except.error.inj h ▸ W⟩

theorem openDir_unfold_last (env : Env) (f : Nat) (st : DirStream) (chars a : List Char)
    (h : Names.splitPathL chars = (a, none)) :
    openDir env (f + 1) st (String.ofList chars) =
      Prog.bind Prog.getFs fun fs =>
        Prog.bind (findEntry env st (String.ofList a) (some true)) fun e =>
          Prog.bind (e.toDir fs) fun sub => Prog.pure sub := by
  conv => lhs; unfold openDir
  rw [splitPath_ofList, h]
  rfl

theorem openDir_unfold_step (env : Env) (f : Nat) (st : DirStream) (chars a r : List Char)
    (h : Names.splitPathL chars = (a, some r)) :
    openDir env (f + 1) st (String.ofList chars) =
      Prog.bind Prog.getFs fun fs =>
        Prog.bind (findEntry env st (String.ofList a) (some true)) fun e =>
          Prog.bind (e.toDir fs) fun sub => thenDrop sub (openDir env f sub (String.ofList r)) := by
  conv => lhs; unfold openDir
  rw [splitPath_ofList, h]
  rfl

theorem openFile_unfold_last (env : Env) (f : Nat) (st : DirStream) (chars a : List Char)
    (h : Names.splitPathL chars = (a, none)) :
    openFile env (f + 1) st (String.ofList chars) =
      Prog.bind Prog.getFs fun fs =>
        Prog.bind (findEntry env st (String.ofList a) (some false)) fun e => e.toFile fs := by
  conv => lhs; unfold openFile
  rw [splitPath_ofList, h]
  rfl

theorem openFile_unfold_step (env : Env) (f : Nat) (st : DirStream) (chars a r : List Char)
    (h : Names.splitPathL chars = (a, some r)) :
    openFile env (f + 1) st (String.ofList chars) =
      Prog.bind Prog.getFs fun fs =>
        Prog.bind (findEntry env st (String.ofList a) (some true)) fun e =>
          Prog.bind (e.toDir fs) fun sub => thenDrop sub (openFile env f sub (String.ofList r)) := by
  conv => lhs; unfold openFile
  rw [splitPath_ofList, h]
  rfl

/-- the last component of a call that opens an entry of kind `w`: `K` = what follows `find_entry`, returning `val de`
    for the entry `de` found -/
theorem open_last {α} (I : ImgTree d up t cl) (hwf : TreeWf up t) (hup : DotSafe up) (env : Env)
    (henv : env.upper = up) (w : Bool) (K : FsState → DirEntry → Prog α) (val : DirEntry → α)
    (hK : ∀ de, de.isDir = w → ∀ d3, Reads (K d.fs de) d3 (val de)) (name : String) (cur : List String)
    (st : DirStream) (hden : Den d up t cl cur st) :
    OpenRel d w (fun p n v => ∃ de, v = val de ∧ de.isDir = w ∧ getAtS up t p = some n ∧
        (w = true → StreamFor d.fs (cl p) (DirEntry.dirStream d.fs de)))
      (Prog.bind Prog.getFs fun fs => Prog.bind (findEntry env st name (some w)) (K fs)) (stepCompS up t cur name) := by
  obtain ⟨V, hrel⟩ := step_img I hwf hup env henv cur st hden name w
  cases hr : stepCompS up t cur name with
  | error e =>
    rw [hr] at hrel
    rw [stepCompS_err hr]
    exact walk_fail V env _ w _ hrel.2 _
  | ok pn =>
    obtain ⟨p, nd⟩ := pn
    rw [hr] at hrel
    unfold StepRel at hrel
    unfold OpenRel
    dsimp only at hrel ⊢
    by_cases hk : nd.isDir = w
    · rw [if_pos hk] at hrel ⊢
      obtain ⟨de, hl, hdir, hgp, hsf⟩ := hrel
      exact ⟨_, walk_ok V env _ w de hl _ _ (hK de hdir), de, rfl, hdir, hgp, hsf⟩
    · rw [if_neg hk] at hrel ⊢
      exact walk_fail V env _ w _ hrel _

/-! ## the listing -/

/-- `Dir::iter()` on a stream denoting a directory of the slot tree: the dot entries (none in the root), then exactly
    the listed entries of the node's slot list, as the library's `DirEntry` records of the image -/
theorem listDir_den (I : ImgTree d up t cl) (cur : List String) (st : DirStream) (slots : List (List Nat))
    (ch : List (LfnEntry × Node)) (hg : getAtS up t cur = some (.dir slots ch))
    (hs : StreamFor d.fs (cl cur) st) :
    ∃ (V : DirView d st) (dots : List LfnEntry) (k : Nat), DirImgV d cl cur slots ch V dots k ∧
      ∀ d1, SameVol d d1 →
        Reads (listDir st) d1 ((dots ++ (listing slots).map (shiftE k)).map (toDirEntryS V.src)) := by
  obtain ⟨V, dots, k, hI⟩ := I.dirs cur slots ch hg st hs
  refine ⟨V, dots, k, hI, fun d1 hv => ?_⟩
  have := V.dir.toK.listDir_sim V.fuel d1 hv
  rw [← V.start] at this
  rw [← hI.entries]
  exact this

/-! ## mutating calls -/

/-- outcome of a mutating program: fails with `e` keeping the volume, or succeeds reaching a device with `P` -/
def MOut {α} (P : α → Dev → Prop) (prog : Prog α) (d1 : Dev) : Option Err → Prop
  | some e => FailsV prog d1 e
  | none => ∃ v d', run prog d1 = (.ok v, d') ∧ P v d'

theorem sameVol_clock_run {α} {p : Prog α} {d d' : Dev} {v : α} (h : run p d = (.ok v, d')) : d'.clock = d.clock :=
  run_clock p d _ d' h

/-- the outcome of a mutating call on every device with the volume and the clock of `d` -/
def MWalk {α} (d : Dev) (P : α → Dev → Prop) (prog : Prog α) (o : Option Err) : Prop :=
  ∀ d1, SameVol d d1 → d1.clock = d.clock → MOut P prog d1 o

/-- a mutating rest inside the handle `sub`: `sub` is dropped on the device the rest leaves (`hdropP`) -/
theorem MWalk.lift {α} {sub : DirStream} {A B : Prog α} (W : Wraps d sub A B)
    (hdrop : ∀ d5, SameVol d d5 → Reads sub.dropBody d5 ()) {P : α → Dev → Prop}
    (hP : ∀ v d1 d2, P v d1 → SameVol d1 d2 → P v d2) (hdropP : ∀ v d', P v d' → Reads sub.dropBody d' ())
    {o : Option Err} (hne : o ≠ some .hang) (h : MWalk d P A o) : MWalk d P B o := by
  intro d1 hv hc
  obtain ⟨d4, hs4, hc4, hrun⟩ := W d1 hv
  have hm := h d4 (hv.trans hs4) (hc4.trans hc)
  match o, hne, hm with
  | some e, hne, hm =>
    obtain ⟨d7, hr7, hs7⟩ := FailsV.thenDrop (st := sub) hm (fun he => hne (he ▸ rfl))
      (fun d5 hs5 => hdrop d5 ((hv.trans hs4).trans hs5))
    exact ⟨d7, hrun.trans hr7, hs4.trans hs7⟩
  | none, _, ⟨v, d5, hr5, hp5⟩ =>
    have hp5' : P v { d5 with dropDepth := d5.dropDepth + 1 } := hP v _ _ hp5 (sameVol_depth d5 _)
    obtain ⟨d6, hr6, hs6⟩ := hdropP v _ hp5'
    exact ⟨v, { d6 with dropDepth := d6.dropDepth - 1 }, hrun.trans (run_finallyDrop_ok hr5 hr6),
      hP v _ _ (hP v _ _ hp5' hs6) (sameVol_depth d6 _)⟩

end walk

end SlotTreeImg
end FatVerif
