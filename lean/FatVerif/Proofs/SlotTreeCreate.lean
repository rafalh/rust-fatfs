import FatVerif.Proofs.SlotTreeOps
/-!
# Slot trees: `create_file` / `create_dir` and `remove` against `Spec.evalCreate` / `Spec.evalRemove`
-/
namespace FatVerif
namespace SlotTree
open Lfn DirSlots DirAlias

variable (u : Char → List Char)

/-! ## writing an entry at a path -/

theorem add_success (t : Node) (hwf : TreeWf (upOf u) t) (p : List String) (hlp : Lock (upOf u) t p)
    (s : List (List Nat)) (ch : List (LfnEntry × Node)) (hg : getAtS (upOf u) t p = some (.dir s ch))
    (name : String) (sfn : List Nat) (child : Node) (hv : Names.validateLongName name = .ok ())
    (hwf' : DirWf (upOf u) (writeEntry s (Names.encodeUtf16 name.toList) sfn))
    (hsfn : slotClass sfn = .file) (hkind : Lfn.isDir sfn = child.isDir) (hchild : TreeWf (upOf u) child) :
    TreeWf (upOf u) (updS (upOf u) (addEntry (Names.encodeUtf16 name.toList) sfn child) p t) ∧
    abs (updS (upOf u) (addEntry (Names.encodeUtf16 name.toList) sfn child) p t) =
      Spec.updateAt (cfgOf u) (Spec.insertChild name (abs child)) p (abs t) ∧
    (isDotName name = false → TNamesOk (abs child) → TNamesOk (abs t) →
      TNamesOk (abs (updS (upOf u) (addEntry (Names.encodeUtf16 name.toList) sfn child) p t))) := by
  have hU := UnitsOk.of_valid hv
  suffices h : _ ∧ _ from ⟨h.1, h.2, fun hdot hc hn => h.2 ▸
    tnames_updateAt _ _ (fun n hn' => tnames_insert name _ n ⟨hv, hdot⟩ hc hn') _ _ hn⟩
  constructor
  · apply wf_updS _ p t hwf
    intro n hn
    rw [hg] at hn
    cases hn
    obtain ⟨hd, hch⟩ := (all_dir _ s ch).1 (all_getAtS _ p t _ hwf hg)
    refine ⟨?_, rfl⟩
    rw [addEntry_dir hd.wf.shape _ sfn child ch hU hsfn]
    refine (all_dir _ _ _).2 ⟨(addEntry_dirOk hd _ sfn child hwf' hU hsfn hkind).1, ?_⟩
    intro x hx
    rcases List.mem_append.1 hx with hx | hx
    · exact hch x hx
    · simp only [List.mem_singleton] at hx
      rw [hx]; exact hchild
  · apply abs_updS u _ _ p t hwf hlp
    intro n hn
    rw [hg] at hn
    cases hn
    have hd : DirOk (upOf u) s ch := ((all_dir _ s ch).1 (all_getAtS _ p t _ hwf hg)).1
    exact abs_addEntry hd.wf.shape _ sfn child ch name hU hsfn (entryName_new name sfn _ _ hv)

/-! ## deleting an entry at a path -/

theorem del_success (t : Node) (hwf : TreeWf (upOf u) t) (p : List String) (hlp : Lock (upOf u) t p)
    (s : List (List Nat)) (ch : List (LfnEntry × Node)) (hg : getAtS (upOf u) t p = some (.dir s ch))
    (e : LfnEntry) (he : e ∈ listing s) :
    TreeWf (upOf u) (updS (upOf u) (delEntry e) p t) ∧
    abs (updS (upOf u) (delEntry e) p t) =
      Spec.updateAt (cfgOf u) (Spec.eraseChild (cfgOf u) (entryName e)) p (abs t) ∧
    (TNamesOk (abs t) → TNamesOk (abs (updS (upOf u) (delEntry e) p t))) := by
  obtain ⟨hd, hch⟩ := (all_dir _ s ch).1 (all_getAtS _ p t _ hwf hg)
  suffices h : _ ∧ _ from ⟨h.1, h.2, fun hn => h.2 ▸
    tnames_updateAt _ _ (fun n hn' => tnames_erase _ _ n hn') _ _ hn⟩
  constructor
  · apply wf_updS _ p t hwf
    intro n hn
    rw [hg] at hn
    cases hn
    refine ⟨?_, rfl⟩
    rw [delEntry_dir]
    exact (all_dir _ _ _).2 ⟨delEntry_dirOk hd e he, fun x hx => hch x (List.mem_filter.1 hx).1⟩
  · apply abs_updS u _ _ p t hwf hlp
    intro n hn
    rw [hg] at hn
    cases hn
    exact abs_delEntry u hd e he

/-! ## the short slot of a new entry -/

theorem isDir_sfnWith (a : List Nat) (attr : Nat) (rest : List Nat) (ha : a.length = 11) :
    Lfn.isDir (sfnWith a (attr :: rest)) = (attr % 64 / 16 % 2 == 1) := by
  have hb11 : Lfn.byte (sfnWith a (attr :: rest)) 11 = attr := by
    unfold sfnWith Lfn.byte
    rw [List.getD_eq_getElem?_getD, List.getElem?_append_right (by omega), ha]
    simp
  unfold Lfn.isDir Lfn.attrs
  rw [hb11]

theorem isDir_newBody (a : List Nat) (wantDir : Bool) (stamp : List Nat) (ha : a.length = 11) :
    Lfn.isDir (sfnWith a (newBody wantDir stamp)) = wantDir := by
  unfold newBody
  rw [isDir_sfnWith a _ stamp ha]
  cases wantDir <;> decide

theorem newBody_attr (wantDir : Bool) : (if wantDir then 16 else 0) % 64 / 8 % 2 = 0 := by
  cases wantDir <;> decide

theorem abs_children_empty {up : Char → List Char} (c : Node) (hwf : TreeWf up c) :
    (abs c).children.isEmpty = nodeEmpty c := by
  cases c with
  | file b => simp [abs, Spec.TNode.children, nodeEmpty]
  | dir s ch =>
    obtain ⟨hd, _⟩ := (all_dir _ s ch).1 hwf
    rw [abs_dir]
    simp only [Spec.TNode.children, nodeEmpty]
    have hlen := hd.perm.length_eq
    rw [List.length_map] at hlen
    cases ch with
    | nil =>
      cases hl : listing s with
      | nil => rfl
      | cons _ _ => rw [hl] at hlen; simp at hlen
    | cons x r =>
      cases hl : listing s with
      | nil => rw [hl] at hlen; simp at hlen
      | cons _ _ => rfl

theorem nameErr_empty : Spec.nameErr (cfgOf u) "" = [.nameLen] := by
  unfold Spec.nameErr cfgOf validNameS
  simp only [validate_empty]

theorem validName_eq (name : String) :
    (cfgOf u).validName name = match Names.validateLongName name with | .ok _ => none | .error e => some e := rfl

/-- the specification's judgement on a new name (`evalCreate`, the destination of `evalRename`: the empty name by
    `nameErr`, any other by `validName`) is `validate_long_name`'s -/
theorem validName_ok {name : String} (hv : Names.validateLongName name = .ok ()) :
    (name == "") = false ∧ (cfgOf u).validName name = none := by
  refine ⟨beq_eq_false_iff_ne.2 fun h0 => ?_, by rw [validName_eq, hv]⟩
  rw [h0, validate_empty] at hv
  cases hv

theorem validName_err {name : String} {e : Err} (hv : Names.validateLongName name = .error e) :
    (name = "" ∧ Spec.nameErr (cfgOf u) "" = [e]) ∨ ((name == "") = false ∧ (cfgOf u).validName name = some e) := by
  by_cases he : name = ""
  · subst he
    rw [validate_empty] at hv
    cases hv
    exact Or.inl ⟨rfl, nameErr_empty u⟩
  · exact Or.inr ⟨beq_eq_false_iff_ne.2 he, by rw [validName_eq, hv]⟩

/-! ## `create_file` / `create_dir` -/

theorem create_refines (fuel : Nat) (t : Node) (hwf : TreeWf (upOf u) t) (cwd : List String)
    (hc : CwdOk (upOf u) t cwd) (path : String) (hp : PathOk (upOf u) t path) (wantDir : Bool) (stamp : List Nat) :
    Refines u t (Spec.evalCreate (cfgOf u) (abs t) cwd path wantDir)
      (createS (upOf u) fuel t cwd path wantDir stamp) := by
  obtain ⟨rp1, rp2⟩ := resolveParent_corr u t hwf cwd hc path hp
  have hq2 := hp.2.2
  unfold createS Spec.evalCreate
  cases hw : walkDirsS (upOf u) t cwd (pathParts path).1 with
  | error e =>
    obtain ⟨es, h1, h2⟩ := rp1 e hw
    rw [h1]
    exact Refines.fail hwf (Or.inr h2)
  | ok p =>
    obtain ⟨s, ch, hg, hlp, hdot, hnd⟩ := rp2 p hw
    have hd := dirOk_at u hwf hg
    dsimp only
    rw [hg]
    dsimp only
    cases hdn : isDotName (pathParts path).2 with
    | true =>
      obtain ⟨o, ho, d0, d1⟩ := hdot hdn
      rw [ho]
      cases wantDir with
      | false =>
        simp only [Bool.not_false, Bool.and_self, if_true]
        exact Refines.fail hwf (Or.inr (by cases o <;> simp [Spec.failWith]))
      | true =>
        simp only [Bool.not_true, Bool.and_false, Bool.false_eq_true, if_false, Bool.true_and]
        by_cases hp0 : p = []
        · subst hp0
          rw [d0 rfl]
          simp only [List.isEmpty_nil, Bool.not_true, Bool.false_eq_true, if_false]
          have hf := (lookup_none_of_bad (qall_at u hq2 hg) (Or.inl hdn)).1
          unfold createFinal
          rcases check_cases (upOf u) s (pathParts path).2 (some true) fuel with h | ⟨e, he, _⟩ | ⟨e, he, _⟩ | ⟨_, a, ha⟩
          · rw [h]
            exact Refines.fail hwf (Or.inl rfl)
          · rw [hf] at he; cases he
          · rw [hf] at he; cases he
          · rw [ha]
            simp only [hdn, if_true]
            exact Refines.fail hwf (Or.inr (by simp [Spec.failWith]))
        · obtain ⟨r, hr⟩ := d1 hp0
          rw [hr]
          have hce : p.isEmpty = false := by simpa using hp0
          simp only [hce, Bool.not_false, if_true]
          exact Refines.same hwf rfl rfl
    | false =>
      rw [hnd hdn]
      simp only [Bool.false_and, Bool.false_eq_true, if_false]
      unfold createFinal
      rcases check_cases (upOf u) s (pathParts path).2 (some wantDir) fuel with
        h | ⟨e, he, hk, hchk⟩ | ⟨e, he, hk, hchk⟩ | ⟨hf, a, ha⟩
      · rw [h]
        exact Refines.fail hwf (Or.inl rfl)
      · rw [hchk]
        obtain ⟨c, hl, hmem⟩ := lookupS_of_find hd he
        rw [hl]
        simp only [Option.map, abs_isDir]
        have hkd : c.isDir = wantDir := by
          rw [← hd.kind _ hmem]; exact (kind_ok_iff wantDir e).1 hk
        simp only [hkd, beq_self_eq_true, if_true]
        exact Refines.same hwf rfl rfl
      · rw [hchk]
        obtain ⟨c, hl, hmem⟩ := lookupS_of_find hd he
        rw [hl]
        simp only [Option.map, abs_isDir]
        have hkd : (c.isDir == wantDir) = false := by
          have := (kind_err_iff wantDir e).1 hk
          rw [hd.kind _ hmem] at this
          simpa using this
        simp only [hkd, Bool.false_eq_true, if_false]
        exact Refines.fail hwf (Or.inr (by simp [Spec.failWith]))
      · rw [ha]
        have hln : lookupS (upOf u) s ch (pathParts path).2 = none := by unfold lookupS; rw [hf]
        rw [hln]
        simp only [Option.map, hdn, Bool.false_eq_true, if_false]
        cases hv : Names.validateLongName (pathParts path).2 with
        | error x =>
          simp only
          refine Refines.fail hwf (Or.inr ?_)
          rcases validName_err u hv with ⟨h0, hn⟩ | ⟨hb, hn⟩
          · simp [h0, hn, Spec.failWith]
          · simp [hb, hn, Spec.failWith]
        | ok x =>
          cases x
          obtain ⟨hb, hn⟩ := validName_ok u hv
          simp only [hb, hn, Bool.false_eq_true, if_false]
          have hlen := C16dir.dir_alias_length _ _ _ _ _ _ ha
          obtain ⟨_, _, _, _, _, hcls, _, _, _⟩ :=
            C16dir.dir_create_hyps (upOf u) s (pathParts path).2 (some wantDir) fuel a (if wantDir then 16 else 0) stamp hv
              (newBody_attr wantDir) ha
          obtain ⟨w1, w2, w3⟩ := add_success u t hwf p hlp s ch hg (pathParts path).2
            (sfnWith a (newBody wantDir stamp)) (freshNode wantDir) hv
            (C16dir.dir_create_wf (upOf u) s (pathParts path).2 (some wantDir) fuel a (if wantDir then 16 else 0) stamp
              hd.wf hv (newBody_attr wantDir) ha)
            hcls (by rw [isDir_newBody a wantDir stamp hlen, fresh_isDir]) (treeWf_fresh _ wantDir)
          refine ⟨w1, w3 hdn (by cases wantDir <;> simp [freshNode, abs, absCh, TNamesOk, tChOk]),
            accepts_done _ _ rfl ?_⟩
          rw [w2, abs_fresh]

/-! ## `remove` -/

theorem remove_refines (t : Node) (hwf : TreeWf (upOf u) t) (cwd : List String)
    (hc : CwdOk (upOf u) t cwd) (path : String) (hp : PathOk (upOf u) t path) :
    Refines u t (Spec.evalRemove (cfgOf u) (abs t) cwd path) (removeS (upOf u) t cwd path) := by
  obtain ⟨rp1, rp2⟩ := resolveParent_corr u t hwf cwd hc path hp
  unfold removeS Spec.evalRemove
  cases hw : walkDirsS (upOf u) t cwd (pathParts path).1 with
  | error e =>
    obtain ⟨es, h1, h2⟩ := rp1 e hw
    rw [h1]
    exact Refines.fail hwf (Or.inr h2)
  | ok p =>
    obtain ⟨s, ch, hg, hlp, hdot, hnd⟩ := rp2 p hw
    have hd := dirOk_at u hwf hg
    have hchw := ((all_dir _ s ch).1 (all_getAtS _ p t _ hwf hg)).2
    dsimp only
    rw [hg]
    dsimp only
    cases hdn : isDotName (pathParts path).2 with
    | true =>
      obtain ⟨o, ho, _⟩ := hdot hdn
      simp only [if_true]
      rw [ho]
      exact Refines.fail hwf (Or.inr (by cases o <;> simp [Spec.failWith]))
    | false =>
      rw [hnd hdn]
      simp only [Bool.false_eq_true, if_false]
      cases hl : lookupS (upOf u) s ch (pathParts path).2 with
      | none =>
        simp only [Option.map]
        exact Refines.fail hwf (Or.inr (by simp [Spec.failWith]))
      | some x =>
        obtain ⟨_, hmem, hlist, _⟩ := lookupS_some hd hl
        simp only [Option.map, abs_isDir]
        rw [abs_children_empty x.2 (hchw x hmem), hd.kind x hmem]
        cases hcond : (x.2.isDir && !nodeEmpty x.2) with
        | true =>
          simp only [if_true]
          exact Refines.fail hwf (Or.inr (by simp [Spec.failWith]))
        | false =>
          simp only [Bool.false_eq_true, if_false]
          obtain ⟨w1, w2, w3⟩ := del_success u t hwf p hlp s ch hg x.1 hlist
          exact ⟨w1, w3, accepts_done _ _ rfl w2.symm⟩

end SlotTree
end FatVerif
