import FatVerif.Model.Image
/-! Get/set and frame lemmas for the sparse page image `Img` (Model/Image.lean): `Img.write` changes exactly the bytes
    it is given (stored modulo 256), on images whose pages all have `pageSize` bytes (`Img.WF`; true of `Img.empty` and
    preserved by `Img.write`). -/
namespace FatVerif.Img

/-- byte `j` of a page -/
def pageByte (p : ByteArray) (j : Nat) : Nat := (p.get! j).toNat

theorem size_set! (p : ByteArray) (i : Nat) (v : UInt8) : (p.set! i v).size = p.size := by
  cases p with
  | mk data => simp [ByteArray.set!, ByteArray.size, Array.set!_eq_setIfInBounds]

theorem pageByte_set! (p : ByteArray) (i j : Nat) (v : UInt8) (hi : i < p.size) :
    pageByte (p.set! i v) j = if i = j then v.toNat else pageByte p j := by
  cases p with
  | mk data =>
    have hi' : i < data.size := hi
    simp only [pageByte, ByteArray.get!, ByteArray.set!, Array.set!_eq_setIfInBounds, Array.getElem!_eq_getD,
      Array.getD_eq_getD_getElem?, Array.getElem?_setIfInBounds]
    split
    · simp
    · rfl

theorem zeroPage_size : zeroPage.size = pageSize := by
  simp [zeroPage, ByteArray.size]

theorem pageByte_zeroPage (j : Nat) : pageByte zeroPage j = 0 := by
  simp only [pageByte, zeroPage, ByteArray.get!, Array.getElem!_eq_getD, Array.getD_eq_getD_getElem?]
  by_cases h : j < pageSize
  · simp [h]
  · simp [h]; rfl

theorem getByte_eq (i : Img) (q : Nat) :
    i.getByte q = match i.pages[q / pageSize]? with
      | some p => pageByte p (q % pageSize)
      | none => 0 := rfl

/-- every stored page has `pageSize` bytes -/
def WF (i : Img) : Prop := ∀ (k : Nat) (p : ByteArray), i.pages[k]? = some p → p.size = pageSize

theorem wf_empty (n : Nat) : (Img.empty n).WF := by
  intro k p h
  simp [Img.empty] at h

/-! ### the loop of `Img.write` -/

abbrev WState := Std.HashMap Nat ByteArray × Nat × Nat × ByteArray

/-- one iteration of the loop: (pages without the page in hand, cursor, index of the page in hand, page in hand) -/
def wstep (b : Nat) (s : WState) : WState :=
  if s.2.1 / pageSize = s.2.2.1 then
    (s.1, s.2.1 + 1, s.2.2.1, s.2.2.2.set! (s.2.1 % pageSize) (UInt8.ofNat b))
  else
    ((s.1.insert s.2.2.1 s.2.2.2).erase (s.2.1 / pageSize), s.2.1 + 1, s.2.1 / pageSize,
      (((s.1.insert s.2.2.1 s.2.2.2)[s.2.1 / pageSize]?).getD zeroPage).set! (s.2.1 % pageSize) (UInt8.ofNat b))

theorem forIn_wstep (bs : List Nat) : ∀ (s : WState),
    (forIn (m := Id) bs s fun b __s =>
      if __s.snd.fst / pageSize = __s.snd.snd.fst then
        pure (ForInStep.yield (__s.fst, __s.snd.fst + 1, __s.snd.snd.fst,
          __s.snd.snd.snd.set! (__s.snd.fst % pageSize) (UInt8.ofNat b)))
      else
        pure (ForInStep.yield ((__s.fst.insert __s.snd.snd.fst __s.snd.snd.snd).erase (__s.snd.fst / pageSize),
          __s.snd.fst + 1, __s.snd.fst / pageSize,
          ((__s.fst.insert __s.snd.snd.fst __s.snd.snd.snd)[__s.snd.fst / pageSize]?.getD zeroPage).set!
            (__s.snd.fst % pageSize) (UInt8.ofNat b)))) = bs.foldl (fun s b => wstep b s) s := by
  induction bs with
  | nil => intro s; rfl
  | cons b bs ih =>
    intro s
    rw [List.forIn_cons, List.foldl_cons]
    by_cases h : s.2.1 / pageSize = s.2.2.1
    · simp only [h, if_true, wstep]
      exact ih _
    · simp only [h, if_false, wstep]
      exact ih _

/-- the final state of the loop of `write i off bs` -/
def writeLoop (i : Img) (off : Nat) (bs : List Nat) : WState :=
  bs.foldl (fun s b => wstep b s)
    (i.pages.erase (off / pageSize), off, off / pageSize, (i.pages[off / pageSize]?).getD zeroPage)

theorem write_eq (i : Img) (off : Nat) (bs : List Nat) :
    i.write off bs =
      { i with pages := (writeLoop i off bs).fst.insert (writeLoop i off bs).snd.snd.fst (writeLoop i off bs).snd.snd.snd } := by
  unfold Img.write writeLoop
  simp only [Id.run]
  have := forIn_wstep bs (i.pages.erase (off / pageSize), off, off / pageSize, (i.pages[off / pageSize]?).getD zeroPage)
  simp only [ne_eq, ite_not] at this ⊢
  rw [← this]
  rfl

/-- the byte function a loop state stands for (the page in hand put back) -/
def view (s : WState) (q : Nat) : Nat :=
  match (s.1.insert s.2.2.1 s.2.2.2)[q / pageSize]? with
  | some p => pageByte p (q % pageSize)
  | none => 0

/-- all pages of a loop state have `pageSize` bytes -/
def StateWF (s : WState) : Prop :=
  (∀ (k : Nat) (p : ByteArray), s.1[k]? = some p → p.size = pageSize) ∧ s.2.2.2.size = pageSize

theorem pageSize_pos : 0 < pageSize := by decide

theorem divmod_eq {q c : Nat} : (q / pageSize = c / pageSize ∧ q % pageSize = c % pageSize) ↔ q = c := by
  constructor
  · rintro ⟨h1, h2⟩
    rw [← Nat.div_add_mod q pageSize, ← Nat.div_add_mod c pageSize, h1, h2]
  · rintro rfl; exact ⟨rfl, rfl⟩

/-- re-focusing on another page does not change the bytes -/
theorem view_refocus (pages : Std.HashMap Nat ByteArray) (c pg n : Nat) (p : ByteArray) (q : Nat) :
    view ((pages.insert pg p).erase n, c, n, ((pages.insert pg p)[n]?).getD zeroPage) q = view (pages, c, pg, p) q := by
  simp only [view, Std.HashMap.getElem?_insert, Std.HashMap.getElem?_erase, beq_iff_eq]
  by_cases h1 : n = q / pageSize
  · subst h1
    simp only [if_true]
    by_cases h2 : pg = q / pageSize
    · simp [h2]
    · simp only [h2, if_false]
      cases pages[q / pageSize]? with
      | none => simp [pageByte_zeroPage]
      | some p' => simp
  · simp only [h1, if_false]

theorem stateWF_refocus (pages : Std.HashMap Nat ByteArray) (c pg n : Nat) (p : ByteArray)
    (h : StateWF (pages, c, pg, p)) :
    StateWF ((pages.insert pg p).erase n, c, n, ((pages.insert pg p)[n]?).getD zeroPage) := by
  have hall : ∀ (k : Nat) (p' : ByteArray), (pages.insert pg p)[k]? = some p' → p'.size = pageSize := by
    intro k p' hk
    simp only [Std.HashMap.getElem?_insert, beq_iff_eq] at hk
    split at hk
    · cases hk; exact h.2
    · exact h.1 k p' hk
  refine ⟨?_, ?_⟩
  · intro k p' hk
    simp only [Std.HashMap.getElem?_erase, beq_iff_eq] at hk
    split at hk
    · cases hk
    · exact hall k p' hk
  · show (((pages.insert pg p)[n]?).getD zeroPage).size = pageSize
    cases hx : (pages.insert pg p)[n]? with
    | none => simp [zeroPage_size]
    | some p' => simp; exact hall n p' hx

/-- writing into the page in hand -/
theorem view_setHand (pages : Std.HashMap Nat ByteArray) (c pg : Nat) (p : ByteArray) (b : Nat) (q : Nat)
    (hpg : c / pageSize = pg) (hp : p.size = pageSize) :
    view (pages, c + 1, pg, p.set! (c % pageSize) (UInt8.ofNat b)) q =
      if q = c then b % 256 else view (pages, c, pg, p) q := by
  simp only [view, Std.HashMap.getElem?_insert, beq_iff_eq]
  by_cases h1 : pg = q / pageSize
  · simp only [h1, if_true]
    rw [pageByte_set! _ _ _ _ (by rw [hp]; exact Nat.mod_lt _ pageSize_pos)]
    by_cases h2 : c % pageSize = q % pageSize
    · have : q = c := divmod_eq.mp ⟨by rw [hpg, h1], h2.symm⟩
      simp [h2, this]
    · have : ¬ q = c := fun hq => h2 (by rw [hq])
      simp [h2, this]
  · have : ¬ q = c := fun hq => h1 (by rw [hq, hpg])
    simp only [h1, if_false, this]

theorem wstep_spec (b : Nat) (s : WState) (h : StateWF s) :
    StateWF (wstep b s) ∧ (wstep b s).2.1 = s.2.1 + 1 ∧
    ∀ q, view (wstep b s) q = if q = s.2.1 then b % 256 else view s q := by
  obtain ⟨pages, c, pg, p⟩ := s
  unfold wstep
  dsimp only
  split
  · rename_i hpg
    refine ⟨⟨h.1, by show (p.set! _ _).size = _; rw [size_set!]; exact h.2⟩, rfl, fun q => ?_⟩
    exact view_setHand pages c pg p b q hpg h.2
  · have hw := stateWF_refocus pages c pg (c / pageSize) p h
    refine ⟨⟨hw.1, by show (ByteArray.set! _ _ _).size = _; rw [size_set!]; exact hw.2⟩, rfl, fun q => ?_⟩
    rw [view_setHand _ c (c / pageSize) _ b q rfl hw.2, view_refocus]

theorem foldl_wstep_spec : ∀ (bs : List Nat) (s : WState), StateWF s →
    StateWF (bs.foldl (fun s b => wstep b s) s) ∧
    ∀ q, view (bs.foldl (fun s b => wstep b s) s) q =
      if s.2.1 ≤ q ∧ q < s.2.1 + bs.length then bs.getD (q - s.2.1) 0 % 256 else view s q := by
  intro bs
  induction bs with
  | nil =>
    intro s h
    refine ⟨h, fun q => ?_⟩
    rw [if_neg (by simp only [List.length_nil]; omega)]
    rfl
  | cons b bs ih =>
    intro s h
    obtain ⟨h1, h2, h3⟩ := wstep_spec b s h
    obtain ⟨i1, i2⟩ := ih (wstep b s) h1
    refine ⟨i1, fun q => ?_⟩
    rw [List.foldl_cons, i2 q, h2, h3 q]
    simp only [List.length_cons]
    by_cases hq : q = s.2.1
    · subst hq
      rw [if_neg (by omega), if_pos rfl, if_pos (by omega), Nat.sub_self]
      rfl
    · by_cases hr : s.2.1 + 1 ≤ q ∧ q < s.2.1 + 1 + bs.length
      · have hr' : s.2.1 ≤ q ∧ q < s.2.1 + (bs.length + 1) := by omega
        rw [if_pos hr, if_pos hr']
        have : q - s.2.1 = (q - (s.2.1 + 1)) + 1 := by omega
        rw [this, List.getD_cons_succ]
      · have hr' : ¬ (s.2.1 ≤ q ∧ q < s.2.1 + (bs.length + 1)) := by omega
        rw [if_neg hr, if_neg hr', if_neg hq]

/-- **get-after-write**: `Img.write` stores the given bytes modulo 256 at `[off, off + len)` and leaves every other
    byte alone -/
theorem getByte_write (i : Img) (h : i.WF) (off : Nat) (bs : List Nat) (q : Nat) :
    (i.write off bs).getByte q =
      if off ≤ q ∧ q < off + bs.length then bs.getD (q - off) 0 % 256 else i.getByte q := by
  have h0 : StateWF (i.pages.erase (off / pageSize), off, off / pageSize, (i.pages[off / pageSize]?).getD zeroPage) := by
    refine ⟨?_, ?_⟩
    · intro k p hk
      simp only [Std.HashMap.getElem?_erase, beq_iff_eq] at hk
      split at hk
      · cases hk
      · exact h k p hk
    · show ((i.pages[off / pageSize]?).getD zeroPage).size = pageSize
      cases hx : i.pages[off / pageSize]? with
      | none => simp [zeroPage_size]
      | some p => simp; exact h _ p hx
  have hsp := (foldl_wstep_spec bs _ h0).2 q
  have hv0 : view (i.pages.erase (off / pageSize), off, off / pageSize, (i.pages[off / pageSize]?).getD zeroPage) q =
      i.getByte q := by
    rw [getByte_eq]
    simp only [view, Std.HashMap.getElem?_insert, Std.HashMap.getElem?_erase, beq_iff_eq]
    by_cases h1 : off / pageSize = q / pageSize
    · simp only [h1, if_true]
      cases i.pages[q / pageSize]? with
      | none => simp [pageByte_zeroPage]
      | some p => simp
    · simp only [h1, if_false]
  rw [write_eq, getByte_eq]
  change view (writeLoop i off bs) q = _
  unfold writeLoop
  rw [hsp, hv0]

theorem wf_write (i : Img) (h : i.WF) (off : Nat) (bs : List Nat) : (i.write off bs).WF := by
  have h0 : StateWF (i.pages.erase (off / pageSize), off, off / pageSize, (i.pages[off / pageSize]?).getD zeroPage) := by
    refine ⟨?_, ?_⟩
    · intro k p hk
      simp only [Std.HashMap.getElem?_erase, beq_iff_eq] at hk
      split at hk
      · cases hk
      · exact h k p hk
    · show ((i.pages[off / pageSize]?).getD zeroPage).size = pageSize
      cases hx : i.pages[off / pageSize]? with
      | none => simp [zeroPage_size]
      | some p => simp; exact h _ p hx
  have hsp := (foldl_wstep_spec bs _ h0).1
  rw [write_eq]
  intro k p hk
  change ((writeLoop i off bs).fst.insert (writeLoop i off bs).snd.snd.fst (writeLoop i off bs).snd.snd.snd)[k]? = some p at hk
  simp only [Std.HashMap.getElem?_insert, beq_iff_eq] at hk
  split at hk
  · cases hk; exact hsp.2
  · exact hsp.1 k p hk

/-- frame: bytes outside the written range are untouched -/
theorem getByte_write_of_not_mem (i : Img) (h : i.WF) (off : Nat) (bs : List Nat) (q : Nat)
    (hq : ¬ (off ≤ q ∧ q < off + bs.length)) : (i.write off bs).getByte q = i.getByte q := by
  rw [getByte_write i h, if_neg hq]

theorem read_getD (i : Img) (off len k : Nat) (h : k < len) : (i.read off len).getD k 0 = i.getByte (off + k) := by
  simp [Img.read, List.getD_eq_getElem?_getD, h]

theorem getByte_lt (i : Img) (q : Nat) : i.getByte q < 256 := by
  unfold Img.getByte
  split
  · exact UInt8.toNat_lt _
  · decide

theorem getByte_empty (n q : Nat) : (Img.empty n).getByte q = 0 := by
  simp [Img.getByte_eq, Img.empty]

end FatVerif.Img

namespace FatVerif.DirSim

/-- the bytes of an image after `bs` was stored at `p` (a page cell holds a byte, hence `% 256`: `Img.getByte_write`) -/
def putBytes (g : Nat → Nat) (p : Nat) (bs : List Nat) : Nat → Nat :=
  fun q => if p ≤ q ∧ q < p + bs.length then bs.getD (q - p) 0 % 256 else g q

theorem putBytes_nil (g : Nat → Nat) (p : Nat) : putBytes g p [] = g := by
  funext q; simp [putBytes]; omega

theorem putBytes_outside (g : Nat → Nat) (p : Nat) (bs : List Nat) (q : Nat) (h : ¬ (p ≤ q ∧ q < p + bs.length)) :
    putBytes g p bs q = g q := if_neg h

end FatVerif.DirSim
