import FatVerif.Proofs.NamesLegal
/-! Freshness of generated aliases (C16.2): a name that was fed to `add_existing` is never returned. -/
namespace FatVerif.Names

/-! ## bitmaps -/

theorem bitClear_eq (bm i : Nat) : bitClear bm i = !bm.testBit i := by
  unfold bitClear
  rw [Nat.one_shiftLeft]
  cases h : bm.testBit i
  · have : bm &&& 2 ^ i = 0 := by
      apply Nat.eq_of_testBit_eq
      intro j
      rw [Nat.testBit_and, Nat.testBit_two_pow, Nat.zero_testBit]
      by_cases hj : i = j
      · subst hj; simp [h]
      · simp [hj]
    simp [this]
  · have : bm &&& 2 ^ i ≠ 0 := by
      intro h0
      have := Nat.testBit_and bm (2 ^ i) i
      rw [h0, Nat.zero_testBit, h, Nat.testBit_two_pow_self] at this
      cases this
    simp [this]

/-- what the population has recorded after `add_existing` ran over all of it -/
theorem addAll_exactMatch (g : Gen) (ex : List (List Nat)) :
    (addAll g ex).exactMatch = (g.exactMatch || ex.any fun sn => decide (sn = g.shortName)) := by rw [addAll_eq]

theorem addAll_long_testBit (g : Gen) (ex : List (List Nat)) (i : Nat) :
    (addAll g ex).longPrefixBitmap.testBit i =
      (g.longPrefixBitmap.testBit i || ex.any fun sn => decide (longKey g sn = some i)) := by
  rw [addAll_eq]; exact testBit_foldl_mark _ i ex _

theorem addAll_short_testBit (g : Gen) (ex : List (List Nat)) (i : Nat) :
    (addAll g ex).prefixChksumBitmap.testBit i =
      (g.prefixChksumBitmap.testBit i || ex.any fun sn => decide (shortKey g g.chksum sn = some i)) := by
  rw [addAll_eq]; exact testBit_foldl_mark _ i ex _

/-! ## monotonicity of the collision record -/

/-- whatever `g` has recorded, `g'` has recorded too -/
def Mono (g g' : Gen) : Prop :=
  (∀ i, g.longPrefixBitmap.testBit i = true → g'.longPrefixBitmap.testBit i = true) ∧
  (∀ i, g.prefixChksumBitmap.testBit i = true → g'.prefixChksumBitmap.testBit i = true) ∧
  (g.exactMatch = true → g'.exactMatch = true)

theorem Mono.refl (g : Gen) : Mono g g := ⟨fun _ h => h, fun _ h => h, fun h => h⟩

theorem Mono.trans {a b c : Gen} (h1 : Mono a b) (h2 : Mono b c) : Mono a c :=
  ⟨fun i h => h2.1 i (h1.1 i h), fun i h => h2.2.1 i (h1.2.1 i h), fun h => h2.2.2 (h1.2.2 h)⟩

theorem addExisting_mono (g : Gen) (sn : List Nat) : Mono g (addExisting g sn) := by
  rw [addExisting_eq]
  exact ⟨fun i h => by simp [testBit_mark, h], fun i h => by simp [testBit_mark, h], fun h => by simp [h]⟩

theorem addAll_mono (g : Gen) (ex : List (List Nat)) : Mono g (addAll g ex) :=
  ⟨fun i h => by rw [addAll_long_testBit, h]; rfl, fun i h => by rw [addAll_short_testBit, h]; rfl,
    fun h => by rw [addAll_exactMatch, h]; rfl⟩


/-! ## a generated name, fed back, records its own collision -/

theorem byteAt_append_right (l r : List Nat) (k : Nat) : byteAt (l ++ r) (l.length + k) = byteAt r k := by
  simp [byteAt, List.getD_eq_getElem?_getD, List.getElem?_append_right]

theorem digit10_digit {i : Nat} (h : i ≤ 9) : digit10 (48 + i) = some i := by
  unfold digit10
  have : 48 ≤ 48 + i ∧ 48 + i ≤ 57 := by omega
  simp [this]

theorem digit16_hexUp : ∀ d < 16, digit16 (hexUp d) = some d ∧ hexUp d ≠ 43 := by decide

theorem fromStrRadix16_cons (b c : Nat) (bs : List Nat) (h : b ≠ 43) :
    fromStrRadix16 (b :: c :: bs) = parseHexDigits (b :: c :: bs) 0 := by
  unfold fromStrRadix16
  split <;> simp_all

/-- one step of the digit loop on a digit written by `hexUp` -/
theorem parseHexDigits_hexUp {d acc : Nat} (hd : d < 16) (h : acc * 16 + d < 65536) (bs : List Nat) :
    parseHexDigits (hexUp d :: bs) acc = parseHexDigits bs (acc * 16 + d) := by
  rw [parseHexDigits, (digit16_hexUp d hd).1]
  simp only [h, if_true]

theorem fromStrRadix16_hex4 {a b c d : Nat} (ha : a < 16) (hb : b < 16) (hc : c < 16) (hd : d < 16) :
    fromStrRadix16 [hexUp a, hexUp b, hexUp c, hexUp d] = some (((a * 16 + b) * 16 + c) * 16 + d) := by
  rw [fromStrRadix16_cons _ _ _ (digit16_hexUp a ha).2, parseHexDigits_hexUp ha (by omega),
    parseHexDigits_hexUp hb (by omega), parseHexDigits_hexUp hc (by omega), parseHexDigits_hexUp hd (by omega),
    parseHexDigits, Nat.zero_mul, Nat.zero_add]

/-- the four characters `u16_to_hex` writes parse back to the same checksum -/
theorem hexRoundTrip (x : Nat) (hx : x < 65536) : fromStrRadix16 (u16ToHex x) = some x := by
  unfold u16ToHex
  rw [fromStrRadix16_hex4 (by omega) (by omega) (by omega) (by omega)]
  congr 1; omega

/-- shape of `build_prefixed_name`: prefix, `~`, digit, then the rest; the extension field is copied -/
theorem build_shape {g : Gen} (h : GenWF g) (i : Nat) (w : Bool) :
    (∃ tail, buildPrefixedName g i w = prefixPart g w ++ 126 :: (48 + i) :: tail) ∧
    (buildPrefixedName g i w).drop 8 = g.shortName.drop 8 := by
  obtain ⟨_, hp⟩ := prefixPart_spec h w
  unfold buildPrefixedName
  constructor
  · exact ⟨List.replicate (8 - (prefixPart g w ++ [126, 48 + i]).length) 32 ++ g.shortName.drop 8, by simp [padTo]⟩
  · rw [List.drop_left']
    exact padTo_length (by simp; omega)

theorem shortName_length {g : Gen} (h : GenWF g) : g.shortName.length = 11 := by
  obtain ⟨b, e, hs, hb, he, _⟩ := h
  exact (shortName_shape hs hb he).1

theorem longKey_build {g : Gen} (h : GenWF g) {i : Nat} (hi : i ≤ 9) :
    longKey g (buildPrefixedName g i false) = some i := by
  obtain ⟨⟨tail, ht⟩, hd⟩ := build_shape h i false
  have hl := shortName_length h
  have hp : (prefixPart g false).length = longPrefixLen g := by
    simp [prefixPart, List.length_take]; unfold longPrefixLen; omega
  have e0 : byteAt (buildPrefixedName g i false) (longPrefixLen g) = 126 := by
    rw [ht, ← hp]; exact byteAt_append_right _ _ 0
  have e1 : byteAt (buildPrefixedName g i false) (longPrefixLen g + 1) = 48 + i := by
    rw [ht, ← hp]; exact byteAt_append_right _ _ 1
  have e2 : prefixExtMatch g (buildPrefixedName g i false) (longPrefixLen g) = true := by
    unfold prefixExtMatch
    rw [hd, ht, List.take_left' hp]
    simp [prefixPart]
  simp [longKey, e0, e1, e2, digit10_digit hi]

theorem shortKey_build {g : Gen} (h : GenWF g) {i : Nat} (hi : i ≤ 9) :
    shortKey g g.chksum (buildPrefixedName g i true) = some i := by
  obtain ⟨⟨tail, ht⟩, hd⟩ := build_shape h i true
  have hl := shortName_length h
  have hc := h.chk
  have hq : (g.shortName.take (shortPrefixLen g)).length = shortPrefixLen g := by
    simp [List.length_take]; unfold shortPrefixLen; omega
  have hp : (prefixPart g true).length = shortPrefixLen g + 4 := by
    simp only [prefixPart, if_true, List.length_append, hq, u16ToHex_length]
  have e0 : byteAt (buildPrefixedName g i true) (shortPrefixLen g + 4) = 126 := by
    rw [ht, ← hp]; exact byteAt_append_right _ _ 0
  have e1 : byteAt (buildPrefixedName g i true) (shortPrefixLen g + 4 + 1) = 48 + i := by
    rw [ht, ← hp]; exact byteAt_append_right _ _ 1
  have e2 : prefixExtMatch g (buildPrefixedName g i true) (shortPrefixLen g) = true := by
    unfold prefixExtMatch
    rw [hd, ht]
    simp only [prefixPart, if_true, List.append_assoc]
    rw [List.take_left' hq]
    simp
  have e3 : ((buildPrefixedName g i true).drop (shortPrefixLen g)).take 4 = u16ToHex g.chksum := by
    rw [ht]
    simp only [prefixPart, if_true, List.append_assoc]
    rw [List.drop_left' hq, List.take_left' (u16ToHex_length _)]
  simp [shortKey, hashKey, e0, e1, e2, e3, hexRoundTrip _ hc, digit10_digit hi]

theorem Same.build {g g' : Gen} (h : Same g g') (i : Nat) (w : Bool) :
    buildPrefixedName g' i w = buildPrefixedName g i w := by
  obtain ⟨⟨h1, h2, _, _⟩, h3⟩ := h
  simp [buildPrefixedName, prefixPart, shortPrefixLen, longPrefixLen, h1, h2, h3]

theorem addExisting_long_hit {g : Gen} (h : GenWF g) {i : Nat} (hi : i ≤ 9) :
    (addExisting g (buildPrefixedName g i false)).longPrefixBitmap.testBit i = true := by
  rw [addExisting_eq]; simp [testBit_mark, longKey_build h hi]

theorem addExisting_short_hit {g : Gen} (h : GenWF g) {i : Nat} (hi : i ≤ 9) :
    (addExisting g (buildPrefixedName g i true)).prefixChksumBitmap.testBit i = true := by
  rw [addExisting_eq]; simp [testBit_mark, shortKey_build h hi]

theorem addExisting_exact_hit (g : Gen) : (addExisting g g.shortName).exactMatch = true := by
  rw [addExisting_eq]; simp

/-- C16.2 for one round: the name returned after the population was fed is not in the population, because the
    population has recorded it -/
theorem generate_fresh {g : Gen} (hw : GenWF g) (ex : List (List Nat)) {a : List Nat}
    (hg : generate (addAll g ex) = .ok a) : a ∉ ex := by
  intro ha
  have hs := addAll_same g ex
  rcases generate_cases hg with ⟨_, _, hx, rfl⟩ | ⟨i, _, hi, hb, rfl⟩ | ⟨i, _, hi, hb, rfl⟩
  · rw [hs.1.1] at ha
    rw [addAll_exactMatch, List.any_eq_true.2 ⟨_, ha, by simp⟩, Bool.or_true] at hx; cases hx
  · rw [Same.build hs] at ha
    rw [bitClear_eq, addAll_long_testBit,
      List.any_eq_true.2 ⟨_, ha, by simp [longKey_build hw (show i ≤ 9 by omega)]⟩, Bool.or_true] at hb; cases hb
  · rw [Same.build hs] at ha
    rw [bitClear_eq, addAll_short_testBit,
      List.any_eq_true.2 ⟨_, ha, by simp [shortKey_build hw (show i ≤ 9 by omega)]⟩, Bool.or_true] at hb; cases hb

end FatVerif.Names
