import FatVerif.Proofs.BpbParse
/-! `probe` (= `fatfs::verif::bpb_probe`, the boot-sector part of `FileSystem::new`) and `mountGeometry`. -/
namespace FatVerif
open Bpb

theorem BootSector.validate_checks {b : List Nat} (hb : IsSector b) (strict : Bool) :
    Checks ((BootSector.deserialize b).validate strict)
      ((strict = true → (BootSector.deserialize b).bootSig = [0x55, 0xAA]) ∧ (Bpb.deserialize b).Valid) := by
  unfold BootSector.validate
  split
  · next h => exact .fail fun c => h.2 (c.1 h.1)
  · next h =>
    exact (Bpb.validate_checks (deserialize_inRange hb)).congr
      ⟨fun hv => ⟨fun hs => Decidable.byContradiction fun hn => h ⟨hs, hn⟩, hv⟩, fun c => c.2⟩

/-- the geometry derivation cannot fail after a successful validation: `probe` is the validation, then `geoOf` -/
theorem probe_eq {b : List Nat} (hb : IsSector b) (strict : Bool) :
    probe b strict = ((BootSector.deserialize b).validate strict >>= fun _ => .ok (Bpb.deserialize b).geoOf) := by
  unfold probe probeBoot
  cases h : (BootSector.deserialize b).validate strict with
  | error e => rfl
  | ok u => exact geometry_eq (deserialize_inRange hb) ((BootSector.validate_checks hb strict).ok_iff.1 h).2

theorem probe_ok {b : List Nat} {strict : Bool} {g : Geometry} (hb : IsSector b)
    (h : probe b strict = .ok g) : (Bpb.deserialize b).Valid ∧ g = (Bpb.deserialize b).geoOf := by
  rw [probe_eq hb, ebind_eq_ok] at h
  obtain ⟨_, hv, hg⟩ := h
  exact ⟨((BootSector.validate_checks hb strict).ok_iff.1 hv).2, (Except.ok.inj hg).symm⟩

/-- after the repairs every failure of `probe` is `CorruptedFileSystem` -/
theorem probe_error {b : List Nat} {strict : Bool} {e : Err} (hb : IsSector b)
    (h : probe b strict = .error e) : e = .corrupted := by
  rw [probe_eq hb, ebind_eq_error] at h
  rcases h with h | ⟨_, _, h⟩
  · exact (BootSector.validate_checks hb strict).error h
  · cases h

/-- `probe` succeeds, with the geometry `geoOf`, on a sector whose BPB is valid and whose signature is present -/
theorem probe_of_valid {b : List Nat} (strict : Bool) (hb : IsSector b) (hv : (Bpb.deserialize b).Valid)
    (hsig : (BootSector.deserialize b).bootSig = [0x55, 0xAA]) :
    probe b strict = .ok (Bpb.deserialize b).geoOf := by
  rw [probe_eq hb, (BootSector.validate_checks hb strict).ok_iff.2 ⟨fun _ => hsig, hv⟩]
  rfl

/-! ### FS-info -/

theorem FsInfo.fixFree_le {total : Nat} {o : Option Nat} {n : Nat} (h : FsInfo.fixFree total o = some n) :
    n ≤ total ∧ o = some n := by
  cases o with
  | none => cases h
  | some m =>
    simp only [FsInfo.fixFree] at h
    split at h
    · cases h
    · cases h; exact ⟨by omega, rfl⟩

theorem FsInfo.fixNext_le {mx : Nat} {o : Option Nat} {n : Nat} (h : FsInfo.fixNext mx o = some n) :
    n ≤ mx ∧ o = some n :=
  FsInfo.fixFree_le (total := mx) (by cases o <;> exact h)

theorem FsInfo.decodeNext_ge {v n : Nat} (h : FsInfo.decodeNext v = some n) : 2 ≤ n ∧ n < 0xFFFFFFFF ∨ 0xFFFFFFFF < n := by
  unfold FsInfo.decodeNext at h
  split at h
  · cases h
  · cases h; omega

theorem FsInfo.deserialize_next_ge {b : List Nat} {f : FsInfo} (h : FsInfo.deserialize b = .ok f) {n : Nat}
    (hn : f.nextFreeCluster = some n) : 2 ≤ n := by
  unfold FsInfo.deserialize at h
  split at h
  · cases h
  · split at h
    · cases h
    · split at h
      · cases h
      · cases h
        have := FsInfo.decodeNext_ge hn
        omega

/-- byte offset of the FS-info sector named by boot sector `bs` (`fs_info_sector * bytes_per_sector`; 0 on FAT12/16) -/
def fsInfoOffset (bs : List Nat) : Nat :=
  (BootSector.deserialize bs).bpb.fsInfoSector * (BootSector.deserialize bs).bpb.bytesPerSector

/-- the FS-info values `FileSystem::new` keeps of those it read: no free count on a dirty volume, and each value only
    if it is in range -/
def FsInfo.kept (g : Geometry) (f : FsInfo) : FsInfo :=
  { forgetIfDirty g.statusDirty f with
    freeClusterCount := FsInfo.fixFree g.totalClusters (forgetIfDirty g.statusDirty f).freeClusterCount
    nextFreeCluster := FsInfo.fixNext (g.totalClusters + 2) (forgetIfDirty g.statusDirty f).nextFreeCluster }

theorem FsInfo.kept_free {g : Geometry} {f : FsInfo} {n : Nat} (h : (f.kept g).freeClusterCount = some n) :
    n ≤ g.totalClusters ∧ g.statusDirty = false ∧ f.freeClusterCount = some n := by
  obtain ⟨h1, h2⟩ := FsInfo.fixFree_le h
  unfold forgetIfDirty at h2
  cases hd : g.statusDirty
  · rw [hd] at h2; exact ⟨h1, rfl, h2⟩
  · rw [hd] at h2; cases h2

theorem FsInfo.kept_next {g : Geometry} {f : FsInfo} {n : Nat} (h : (f.kept g).nextFreeCluster = some n) :
    n ≤ g.totalClusters + 2 ∧ f.nextFreeCluster = some n := by
  obtain ⟨h1, h2⟩ := FsInfo.fixNext_le h
  unfold forgetIfDirty at h2
  exact ⟨h1, by split at h2 <;> exact h2⟩

theorem FsInfo.kept_empty (g : Geometry) : ({} : FsInfo).kept g = {} := by
  unfold FsInfo.kept forgetIfDirty; cases g.statusDirty <;> rfl

/-- values in range on a clean volume are kept as they are -/
theorem FsInfo.kept_inRange {g : Geometry} {a n : Nat} (hd : g.statusDirty = false) (ha : a ≤ g.totalClusters)
    (hn : n ≤ g.totalClusters + 2) :
    FsInfo.kept g ⟨some a, some n, false⟩ = ⟨some a, some n, false⟩ := by
  unfold FsInfo.kept forgetIfDirty FsInfo.fixFree FsInfo.fixNext
  rw [hd]
  simp only [Bool.false_eq_true, if_false]
  rw [if_neg (by omega), if_neg (by omega)]

/-- `validate_and_fix` after `forgetIfDirty`, when `total_clusters + 2` fits, is `FsInfo.kept` -/
theorem FsInfo.validateAndFix_kept {g : Geometry} {f f' : FsInfo}
    (h : (forgetIfDirty g.statusDirty f).validateAndFix g.totalClusters = .ok f') : f' = f.kept g := by
  unfold FsInfo.validateAndFix at h
  rw [ebind_eq_ok] at h
  obtain ⟨mx, hmx, h⟩ := h
  rw [u32Add_ok] at hmx
  cases h
  rw [hmx.2]; rfl

/-- **the pure mount in normal form**: `probe`, then (FAT32 only) the parse of the FS-info sector — sector 0 itself
    when the field is 0 —, then `FsInfo.kept`. The offset product and `total_clusters + 2` cannot overflow. -/
theorem mountGeometry_eq {bs : List Nat} (hb : IsSector bs) (fi : List Nat) (strict : Bool) :
    mountGeometry bs fi strict = probe bs strict >>= fun g =>
      (if g.fatType = .fat32 then FsInfo.deserialize (if fsInfoOffset bs = 0 then bs else fi) else .ok {}) >>= fun f =>
      .ok ⟨(BootSector.deserialize bs).bpb, g, f.kept g⟩ := by
  unfold mountGeometry
  cases hp : probe bs strict with
  | error e => simp only [ebind_error]
  | ok g =>
    obtain ⟨hv, hg⟩ := probe_ok hb hp
    have hr := Bpb.deserialize_inRange hb
    have hlim : g.totalClusters + 2 < 4294967296 := by
      rw [hg]; show (Bpb.deserialize bs).tcNat + 2 < _; have := hv.limit; omega
    have hfi := hr.fsInfo
    simp only [ebind_ok]
    unfold readFsInfo FsInfo.validateAndFix fsInfoOffset
    rw [show (BootSector.deserialize bs).bpb = Bpb.deserialize bs from rfl, bytesFromSectors_total hr (by omega),
      u32Add_of_lt hlim]
    -- `rfl` on the whole would compare the continuations before it evaluates the binds
    split
    · simp only [ebind_ok]
      cases FsInfo.deserialize (if (Bpb.deserialize bs).fsInfoSector * (Bpb.deserialize bs).bytesPerSector = 0 then bs
        else fi) <;> rfl
    · rfl

/-- a successful pure mount, read backwards -/
theorem mountGeometry_ok {bs fi : List Nat} (hb : IsSector bs) {strict : Bool} {m : Mounted}
    (h : mountGeometry bs fi strict = .ok m) :
    ∃ f, probe bs strict = .ok m.geo ∧ m.bpb = (BootSector.deserialize bs).bpb ∧ m.fsInfo = f.kept m.geo ∧
      (if m.geo.fatType = .fat32 then FsInfo.deserialize (if fsInfoOffset bs = 0 then bs else fi) else .ok {}) = .ok f := by
  rw [mountGeometry_eq hb] at h
  simp only [ebind_eq_ok] at h
  obtain ⟨g, hg, f, hf, h⟩ := h
  cases h
  exact ⟨f, hg, rfl, rfl, hf⟩

/-- every failure of the pure mount is `CorruptedFileSystem`: that of `probe`, or a signature check of the FS-info
    sector -/
theorem mountGeometry_error {bs fi : List Nat} (hb : IsSector bs) {strict : Bool} {e : Err}
    (h : mountGeometry bs fi strict = .error e) : e = .corrupted := by
  rw [mountGeometry_eq hb, ebind_eq_error] at h
  rcases h with h | ⟨g, _, h⟩
  · exact probe_error hb h
  rw [ebind_eq_error] at h
  rcases h with h | ⟨_, _, h⟩
  · split at h
    · unfold FsInfo.deserialize at h
      repeat' split at h
      all_goals cases h
      all_goals rfl
    · cases h
  · cases h

end FatVerif
