import FatVerif.Proofs.SlotTreeRename2
/-!
# Slot trees: the hypothesis `QAll` from an invariant

`QAll t q` (every entry answering to `q` answers by its name, and `q` is then an ordinary valid name) bundles two
things.  This file separates them:

* `NoAliasHit up t q` — the inherent part: `q` answers to no 8.3 alias anywhere in `t`;
* "then valid, not `.`/`..`" — follows from an INVARIANT of the tree (`TNamesOk (abs t)`: every stored name passes
  `validate_long_name` and is not a dot name; true of the empty volume and preserved by every call: it is part of
  `Refines`, Proofs/SlotTreeOps.lean)
  and a hypothesis on the build's case folding (`UpperSafe`: names with equal folding are equally valid, and only
  `.`/`..` fold like `.`/`..`).
-/
namespace FatVerif
namespace SlotTree
open Lfn DirSlots DirAlias

/-- hypothesis on the build's case folding -/
structure UpperSafe (up : Char → List Char) : Prop where
  valid : ∀ a b : List Char, Names.fold up a = Names.fold up b → Names.validateLongNameL a = .ok () →
    Names.validateLongNameL b = .ok ()
  dot : ∀ a : List Char, Names.fold up a = Names.fold up ['.'] → a = ['.']
  dotdot : ∀ a : List Char, Names.fold up a = Names.fold up ['.', '.'] → a = ['.', '.']

/-! ## from the specification tree back to the slot tree -/

/-- every listed entry of every directory has an ordinary valid name -/
def NamesOk (slots : List (List Nat)) (_ : List (LfnEntry × Node)) : Prop :=
  ∀ e ∈ listing slots, GoodName (entryName e)

mutual
theorem namesOk_of_abs (up : Char → List Char) : ∀ t : Node, TreeWf up t → TNamesOk (abs t) → t.All NamesOk
  | .file _, _, _ => by simp [Node.All]
  | .dir s ch, hwf, hn => by
    have hd : DirOk up s ch := by
      unfold TreeWf Node.All at hwf; exact hwf.1
    have hwc : allCh (DirOk up) ch := by
      unfold TreeWf Node.All at hwf; exact hwf.2
    have hnc : tChOk (absCh ch) := by
      unfold abs TNamesOk at hn; exact hn
    unfold Node.All
    refine ⟨?_, namesOkCh_of_abs up ch hwc hnc⟩
    intro e he
    obtain ⟨c, hc⟩ := hd.child_exists he
    have := (tChOk_iff _).1 hnc (entryName e, abs c) (by
      rw [absCh_eq_map]; exact List.mem_map.2 ⟨(e, c), hc, rfl⟩)
    exact this.1
theorem namesOkCh_of_abs (up : Char → List Char) : ∀ ch : List (LfnEntry × Node), allCh (DirOk up) ch →
    tChOk (absCh ch) → allCh NamesOk ch
  | [], _, _ => by simp [allCh]
  | (e, c) :: r, hwf, hn => by
    unfold allCh at hwf ⊢
    unfold absCh tChOk at hn
    exact ⟨namesOk_of_abs up c hwf.1 hn.2.1, namesOkCh_of_abs up r hwf.2 hn.2.2⟩
end

mutual
theorem all_mp2 {P Q R : List (List Nat) → List (LfnEntry × Node) → Prop}
    (h : ∀ s ch, P s ch → Q s ch → R s ch) : ∀ t : Node, t.All P → t.All Q → t.All R
  | .file _, _, _ => by simp [Node.All]
  | .dir s ch, hp, hq => by
    unfold Node.All at hp hq ⊢
    exact ⟨h s ch hp.1 hq.1, allCh_mp2 h ch hp.2 hq.2⟩
theorem allCh_mp2 {P Q R : List (List Nat) → List (LfnEntry × Node) → Prop}
    (h : ∀ s ch, P s ch → Q s ch → R s ch) : ∀ ch : List (LfnEntry × Node), allCh P ch → allCh Q ch → allCh R ch
  | [], _, _ => by simp [allCh]
  | (e, c) :: r, hp, hq => by
    unfold allCh at hp hq ⊢
    exact ⟨all_mp2 h c hp.1 hq.1, allCh_mp2 h r hp.2 hq.2⟩
end

/-- `q` answers to no alias anywhere in the tree -/
def NoAliasHit (up : Char → List Char) (t : Node) (q : String) : Prop := t.All fun s _ => NameHitOnly up s q

theorem isDotName_toList (q : String) (h : isDotName q = true) : q.toList = ['.'] ∨ q.toList = ['.', '.'] := by
  rcases (isDotName_iff q).1 h with h | h <;> rw [h]
  · left; rfl
  · right; rfl

/-- **`QAll` from the invariant**: alias-freeness is the only hypothesis on the query itself -/
theorem qall_of (up : Char → List Char) (hup : UpperSafe up) (t : Node) (hwf : TreeWf up t)
    (hn : TNamesOk (abs t)) (q : String) (hq : NoAliasHit up t q) : QAll up t q := by
  refine all_mp2 ?_ t (namesOk_of_abs up t hwf hn) hq
  intro s ch hnames hhit e he hm
  have hf := hhit e he hm
  obtain ⟨g1, g2⟩ := hnames e he
  refine ⟨hf, ?_, ?_⟩
  · have := hup.valid (entryNameL e) q.toList hf (by rw [← entryName_toList]; exact g1)
    exact this
  · cases hd : isDotName q with
    | false => rfl
    | true =>
      exfalso
      have hne : isDotName (entryName e) = true := by
        rcases isDotName_toList q hd with h | h
        · rw [h] at hf
          have := hup.dot _ hf
          unfold entryName; rw [this]; rfl
        · rw [h] at hf
          have := hup.dotdot _ hf
          unfold entryName; rw [this]; rfl
      rw [g2] at hne; cases hne

/-! ## the ASCII build's case folding is `UpperSafe` -/

/-- ASCII upper-casing of one character: what the ASCII build's case folding does (`up0_eq`) -/
def gA (c : Char) : Char := if 97 ≤ c.toNat ∧ c.toNat ≤ 122 then Char.ofNat (c.toNat - 32) else c

theorem toUpper_of_not_lower (c : Char) (h : ¬ (97 ≤ c.toNat ∧ c.toNat ≤ 122)) : c.toUpper = c := by
  unfold Char.toUpper
  split
  · rename_i h'
    exfalso
    apply h
    have h1 := UInt32.le_iff_toNat_le.1 h'.1
    have h2 := UInt32.le_iff_toNat_le.1 h'.2
    exact ⟨h1, h2⟩
  · rfl

theorem up0_lower : ∀ n, n < 123 → 97 ≤ n →
    upOf Names.upperAscii (Char.ofNat n) = [gA (Char.ofNat n)] := by decide +kernel

theorem up0_eq (c : Char) : upOf Names.upperAscii c = [gA c] := by
  by_cases h : 97 ≤ c.toNat ∧ c.toNat ≤ 122
  · have := up0_lower c.toNat (by omega) h.1
    rwa [Char.ofNat_toNat] at this
  · unfold upOf Names.upperAscii Names.asciiUpper gA
    simp only [h, if_false, Char.ofNat_toNat, List.map_cons, List.map_nil]
    rw [toUpper_of_not_lower c h]

def Letter (n : Nat) : Prop := (65 ≤ n ∧ n ≤ 90) ∨ (97 ≤ n ∧ n ≤ 122)

theorem gA_lower_fin : ∀ n, n < 123 → 97 ≤ n → (gA (Char.ofNat n)).toNat = n - 32 := by decide +kernel

theorem gA_toNat (c : Char) :
    (gA c).toNat = if 97 ≤ c.toNat ∧ c.toNat ≤ 122 then c.toNat - 32 else c.toNat := by
  by_cases h : 97 ≤ c.toNat ∧ c.toNat ≤ 122
  · have := gA_lower_fin c.toNat (by omega) h.1
    rw [Char.ofNat_toNat] at this
    rw [this, if_pos h]
  · unfold gA; rw [if_neg h, if_neg h]

theorem char_eq_of_toNat {c d : Char} (h : c.toNat = d.toNat) : c = d := by
  rw [← Char.ofNat_toNat c, ← Char.ofNat_toNat d, h]

theorem gA_eq_imp (c d : Char) (h : gA c = gA d) : c = d ∨ (Letter c.toNat ∧ Letter d.toNat) := by
  have := congrArg Char.toNat h
  rw [gA_toNat, gA_toNat] at this
  unfold Letter
  by_cases hc : 97 ≤ c.toNat ∧ c.toNat ≤ 122 <;> by_cases hd : 97 ≤ d.toNat ∧ d.toNat ≤ 122
  · rw [if_pos hc, if_pos hd] at this
    exact Or.inl (char_eq_of_toNat (by omega))
  · rw [if_pos hc, if_neg hd] at this
    exact Or.inr ⟨Or.inr hc, Or.inl (by omega)⟩
  · rw [if_neg hc, if_pos hd] at this
    exact Or.inr ⟨Or.inl (by omega), Or.inr hd⟩
  · rw [if_neg hc, if_neg hd] at this
    exact Or.inl (char_eq_of_toNat this)

theorem ascii_size : ∀ n, n < 128 → (Char.ofNat n).utf8Size = 1 := by decide +kernel

theorem letter_facts (c : Char) (h : Letter c.toNat) : c.utf8Size = 1 ∧ Names.InCharset c := by
  constructor
  · have := ascii_size c.toNat (by unfold Letter at h; omega)
    rwa [Char.ofNat_toNat] at this
  · unfold Names.InCharset Names.forbiddenLong
    unfold Letter at h
    refine ⟨by omega, by omega, by omega, ?_⟩
    simp only [List.mem_cons, List.not_mem_nil, or_false, not_or]
    omega

theorem fold_up0 (a : List Char) : Names.fold (upOf Names.upperAscii) a = a.map gA := by
  unfold Names.fold
  induction a with
  | nil => rfl
  | cons c cs ih => simp only [List.flatMap_cons, up0_eq, ih, List.map_cons, List.singleton_append]

theorem map_gA_eq : ∀ a b : List Char, a.map gA = b.map gA →
    Names.utf8Len a = Names.utf8Len b ∧ ((∀ c ∈ a, Names.InCharset c) → ∀ d ∈ b, Names.InCharset d)
  | [], [], _ => ⟨rfl, fun _ _ hd => by simp at hd⟩
  | [], _ :: _, h => by simp at h
  | _ :: _, [], h => by simp at h
  | c :: cs, d :: ds, h => by
    simp only [List.map_cons, List.cons.injEq] at h
    obtain ⟨i1, i2⟩ := map_gA_eq cs ds h.2
    have hcd : c.utf8Size = d.utf8Size ∧ (Names.InCharset c → Names.InCharset d) := by
      rcases gA_eq_imp c d h.1 with rfl | ⟨l1, l2⟩
      · exact ⟨rfl, id⟩
      · exact ⟨by rw [(letter_facts c l1).1, (letter_facts d l2).1], fun _ => (letter_facts d l2).2⟩
    refine ⟨by simp only [Names.utf8Len, hcd.1, i1], ?_⟩
    intro ha x hx
    rcases List.mem_cons.1 hx with rfl | hx
    · exact hcd.2 (ha c (by simp))
    · exact i2 (fun y hy => ha y (by simp [hy])) x hx

/-- the ASCII build's case folding satisfies `UpperSafe` -/
theorem upperSafe_ascii : UpperSafe (upOf Names.upperAscii) := by
  refine ⟨?_, ?_, ?_⟩
  · intro a b h hv
    rw [fold_up0, fold_up0] at h
    obtain ⟨i1, i2⟩ := map_gA_eq a b h
    rw [Names.validateL_ok_iff] at hv ⊢
    exact ⟨by omega, by omega, i2 hv.2.2⟩
  · intro a h
    rw [fold_up0, fold_up0] at h
    cases a with
    | nil => simp at h
    | cons c cs =>
      cases cs with
      | cons _ _ => simp at h
      | nil =>
        simp only [List.map_cons, List.map_nil, List.cons.injEq, and_true] at h
        rcases gA_eq_imp c '.' h with rfl | ⟨_, l2⟩
        · rfl
        · exact absurd l2 (by unfold Letter; decide)
  · intro a h
    rw [fold_up0, fold_up0] at h
    cases a with
    | nil => simp at h
    | cons c cs =>
      cases cs with
      | nil => simp at h
      | cons d ds =>
        cases ds with
        | cons _ _ => simp at h
        | nil =>
          simp only [List.map_cons, List.map_nil, List.cons.injEq, and_true] at h
          have e1 : c = '.' := by
            rcases gA_eq_imp c '.' h.1 with r | ⟨_, l2⟩
            · exact r
            · exact absurd l2 (by unfold Letter; decide)
          have e2 : d = '.' := by
            rcases gA_eq_imp d '.' h.2 with r | ⟨_, l2⟩
            · exact r
            · exact absurd l2 (by unfold Letter; decide)
          rw [e1, e2]

end SlotTree
end FatVerif
