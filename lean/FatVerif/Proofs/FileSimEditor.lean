import FatVerif.Model.File
import FatVerif.Proofs.DirEntry
/-!
# FileSim / editor: what the calls of `File` do to the handle's directory-entry editor

Whatever `read` / `seek` / `write` / `truncate` return on success, the editor of the new handle is the old one after
some of `set_accessed`, `set_modified`, `set_size`, `set_first_cluster` — same slot, same attributes, still well formed,
first-cluster field equal to the handle's first cluster; and an editor that is clean afterwards was clean before and
carries the same record (`EdRel` between the editors, `EdStep` between the handles).
-/
namespace FatVerif.FileSim
open FatVerif

/-- the editor moved on: same slot, same attributes and name; clean afterwards only if untouched -/
structure EdRel (e e' : DirEntryEditor) : Prop where
  pos : e'.pos = e.pos
  attrs : e'.data.attrs = e.data.attrs
  clean : e'.dirty = false → e' = e

theorem EdRel.refl (e : DirEntryEditor) : EdRel e e := ⟨rfl, rfl, fun _ => rfl⟩

theorem EdRel.trans {a b c : DirEntryEditor} (h1 : EdRel a b) (h2 : EdRel b c) : EdRel a c :=
  ⟨h2.pos.trans h1.pos, h2.attrs.trans h1.attrs, fun h => by
    have e1 := h2.clean h
    rw [e1] at h
    rw [e1, h1.clean h]⟩

theorem size?_setModified (e : DirEntryEditor) (x : DateTime) : (e.setModified x).data.size? = e.data.size? := by
  unfold DirEntryEditor.setModified
  split <;> rfl

theorem EdRel.setModified (e : DirEntryEditor) (x : DateTime) : EdRel e (e.setModified x) := by
  unfold DirEntryEditor.setModified
  split
  · exact ⟨rfl, rfl, fun h => by cases h⟩
  · exact EdRel.refl e

theorem EdRel.setAccessed (e : DirEntryEditor) (x : Date) : EdRel e (e.setAccessed x) := by
  unfold DirEntryEditor.setAccessed
  split
  · exact ⟨rfl, rfl, fun h => by cases h⟩
  · exact EdRel.refl e

theorem EdRel.setSize (e : DirEntryEditor) (n : Nat) : EdRel e (e.setSize n) := by
  unfold DirEntryEditor.setSize
  split
  · split
    · exact ⟨rfl, rfl, fun h => by cases h⟩
    · exact EdRel.refl e
  · exact EdRel.refl e

theorem EdRel.setFirstCluster (e : DirEntryEditor) (c : Option Nat) (ft : FatType) :
    EdRel e (e.setFirstCluster c ft) := by
  unfold DirEntryEditor.setFirstCluster
  split
  · exact ⟨rfl, rfl, fun h => by cases h⟩
  · exact EdRel.refl e

/-! ### well-formedness of the record -/

theorem clockDateTime_ok (t : Nat) : (clockDateTime t).date.day < 65536 ∧ (clockDateTime t).time.sec < 131072 := by
  constructor
  · show (1 + t / 86400000) % 28 + 1 < 65536
    omega
  · show t % 86400000 / 1000 % 60 < 131072
    omega

theorem wf_setModified_clock {e : DirEntryEditor} (h : e.data.WF) (t : Nat) :
    (e.setModified (clockDateTime t)).data.WF := by
  unfold DirEntryEditor.setModified
  split
  · exact h.setModified _ (clockDateTime_ok t).1 (clockDateTime_ok t).2
  · exact h

theorem wf_setAccessed_clock {e : DirEntryEditor} (h : e.data.WF) (t : Nat) :
    (e.setAccessed (clockDate t)).data.WF := by
  unfold DirEntryEditor.setAccessed
  split
  · exact h.setAccessed _ (clockDateTime_ok t).1
  · exact h

theorem wf_setSize {e : DirEntryEditor} (h : e.data.WF) (n : Nat) (hn : n < 4294967296) : (e.setSize n).data.WF := by
  unfold DirEntryEditor.setSize
  split
  · split
    · exact h.setSize n hn
    · exact h
  · exact h

theorem wf_setFirstCluster {e : DirEntryEditor} (h : e.data.WF) (c : Option Nat) (ft : FatType) :
    (e.setFirstCluster c ft).data.WF := by
  unfold DirEntryEditor.setFirstCluster
  split
  · exact h.setFirstCluster c ft
  · exact h

/-! ### the first-cluster field -/

theorem first_setModified (e : DirEntryEditor) (x : DateTime) (ft : FatType) :
    (e.setModified x).data.firstCluster ft = e.data.firstCluster ft := by
  unfold DirEntryEditor.setModified
  split <;> rfl

theorem first_setAccessed (e : DirEntryEditor) (x : Date) (ft : FatType) :
    (e.setAccessed x).data.firstCluster ft = e.data.firstCluster ft := by
  unfold DirEntryEditor.setAccessed
  split <;> rfl

theorem first_setSize (e : DirEntryEditor) (n : Nat) (ft : FatType) :
    (e.setSize n).data.firstCluster ft = e.data.firstCluster ft := by
  unfold DirEntryEditor.setSize
  split
  · split <;> rfl
  · rfl

/-- a cluster number the 16 (FAT12/16) or 32 (FAT32) bits of the record can hold -/
def FirstOk (ft : FatType) (o : Option Nat) : Prop :=
  ∀ c, o = some c → c ≠ 0 ∧ c < (if ft = .fat32 then 4294967296 else 65536)

theorem first_setFirstCluster (e : DirEntryEditor) (c : Option Nat) (ft : FatType) (hc : FirstOk ft c) :
    (e.setFirstCluster c ft).data.firstCluster ft = c := by
  unfold DirEntryEditor.setFirstCluster
  split
  · show (e.data.setFirstCluster c ft).firstCluster ft = c
    unfold DirFileEntryData.firstCluster DirFileEntryData.firstClusterRaw DirFileEntryData.setFirstCluster
    cases c with
    | none => by_cases hft : ft = .fat32 <;> simp [hft]
    | some c =>
      obtain ⟨h0, hlt⟩ := hc c rfl
      simp only [Option.getD_some]
      by_cases hft : ft = .fat32
      · simp only [hft, if_true] at hlt ⊢
        have : c / 65536 % 65536 * 65536 + c % 65536 = c := by omega
        rw [this, if_neg h0]
      · simp only [hft, if_false] at hlt ⊢
        have : 0 * 65536 + c % 65536 = c := by omega
        rw [this, if_neg h0]
  · rename_i h
    exact (Decidable.of_not_not h).symm

/-! ### one call -/

/-- what a successful call does to the editor -/
structure EdStep (ft : FatType) (f f' : FileH) : Prop where
  step : ∀ e, f.entry = some e → ∃ e', f'.entry = some e' ∧ EdRel e e' ∧
    (e.data.WF → f'.offset < 4294967296 → e'.data.WF) ∧
    (e.data.firstCluster ft = f.firstCluster → FirstOk ft f'.firstCluster →
      e'.data.firstCluster ft = f'.firstCluster)

theorem EdStep.of_entry_eq {ft : FatType} {f f' : FileH} (he : f'.entry = f.entry)
    (hf : f'.firstCluster = f.firstCluster) : EdStep ft f f' :=
  ⟨fun e h => ⟨e, by rw [he, h], EdRel.refl e, fun hw _ => hw, fun h1 _ => by rw [hf]; exact h1⟩⟩

theorem EdStep.refl (ft : FatType) (f : FileH) : EdStep ft f f := EdStep.of_entry_eq rfl rfl

/-- the step only looks at the editor and the first cluster of the handle it starts from -/
theorem EdStep.of_left {ft : FatType} {f g f' : FileH} (he : f.entry = g.entry)
    (hf : f.firstCluster = g.firstCluster) (h : EdStep ft g f') : EdStep ft f f' :=
  ⟨fun e h0 => by
    obtain ⟨e', a, b, c, dd⟩ := h.step e (he ▸ h0)
    exact ⟨e', a, b, c, fun h1 => dd (hf ▸ h1)⟩⟩

/-- `set_first_cluster` on a handle -/
theorem EdStep.setFirstCluster (fs : FsState) (f : FileH) (c : Nat) :
    EdStep fs.fatType f (FileH.setFirstCluster fs f c) :=
  ⟨fun e he => ⟨_, by simp [FileH.setFirstCluster, he], EdRel.setFirstCluster e _ _,
    fun hw _ => wf_setFirstCluster hw _ _, fun _ hok => first_setFirstCluster e _ _ hok⟩⟩

/-- two steps in a row, the second one keeping the first cluster and not moving the cursor back -/
theorem EdStep.trans {ft : FatType} {f f1 f2 : FileH} (h1 : EdStep ft f f1) (h2 : EdStep ft f1 f2)
    (hoff : f1.offset ≤ f2.offset) (hfc : f2.firstCluster = f1.firstCluster) : EdStep ft f f2 :=
  ⟨fun e he => by
    obtain ⟨e1, a1, a2, a3, a4⟩ := h1.step e he
    obtain ⟨e2, b1, b2, b3, b4⟩ := h2.step e1 a1
    exact ⟨e2, b1, a2.trans b2, fun hw ho => b3 (a3 hw (by omega)) ho,
      fun hf hok => b4 (a4 hf (hfc ▸ hok)) hok⟩⟩

theorem firstOk_none (ft : FatType) : FirstOk ft none := fun c h => by cases h

end FatVerif.FileSim
