import FatVerif.Proofs.DecodeRows
import FatVerif.Proofs.DecodeContent
import FatVerif.Props.C07run
import FatVerif.Proofs.GeoLayout
/-! C08: a specification-valid volume is read faithfully. The layout hypotheses the simulations keep (`FileSim.Geo`,
    `DirSim.RootReadable`) are consequences of a valid boot sector + the mount + three facts a specification-valid
    volume has (each FAT copy holds an entry for every cluster and is at most 4 GiB, the active FAT exists, the declared
    volume fits the device: `LayoutOk`);
    the chain hypotheses (`DirSim.ChainReadable`, `FileSim.FileRep`) are consequences of what the SPECIFICATION's FAT
    decoder finds in the image: a chain that exists and ends with an end-of-chain mark (`SpecChainOk`), long enough for
    the recorded size. Hence every directory of the tree lists faithfully, every listed file reads faithfully, and the
    handles the library derives while walking the tree are the handles of directories of the tree. -/
namespace FatVerif.DecodeAgree
open FatVerif FatVerif.Fat FatVerif.FileSim FatVerif.DirSim Bpb

/-- the mounted state of a volume whose boot sector decodes to `p` (what `mount_run_ok` hands out) -/
def fsOf (strict accDate lfnAlloc unicode : Bool) (p : Bpb) (fi : FsInfo) : FsState :=
  mountedFs strict accDate lfnAlloc unicode ⟨p, p.geoOf, fi⟩

/-- the layout facts of a specification-valid volume that `FileSystem::new` does not check -/
structure LayoutOk (p : Bpb) (sz : Nat) : Prop where
  /-- each FAT copy has an entry for every cluster (`validate_total_clusters` only warns) -/
  fatFits : p.tcNat + 2 ≤ p.sectorsPerFat * p.bytesPerSector * 8 / (FatType.fromClusters p.tcNat).bits
  /-- with mirroring off the active FAT is one of the FATs (not validated: C07 `active_fat_counterexample`) -/
  activeOk : p.mirroringEnabled = false → p.activeFat < p.fats
  /-- one FAT copy is at most 4 GiB (entry offsets are `u32`; FAT32 needs at most 1 GiB) -/
  fat4g : p.sectorsPerFat * p.bytesPerSector ≤ 4294967296
  /-- the declared volume lies inside the device -/
  fitsDev : p.totalSectors * p.bytesPerSector ≤ sz

theorem fds_le {p : Bpb} (hv : p.Valid) : p.fdsNat + p.tcNat * p.sectorsPerCluster ≤ p.totalSectors := by
  have h1 : p.tcNat * p.sectorsPerCluster ≤ p.totalSectors - p.fdsNat := Nat.div_mul_le_self _ _
  have h2 := hv.fds
  omega

theorem bps_ge {p : Bpb} (hv : p.Valid) : 512 ≤ p.bytesPerSector ∧ p.bytesPerSector % 32 = 0 := by
  rcases hv.bps with h | h | h | h <;> rw [h] <;> decide

theorem spc_pos {p : Bpb} (hv : p.Valid) : 1 ≤ p.sectorsPerCluster := by
  rcases hv.spc with h | h | h | h | h | h | h | h <;> omega

/-- **`Geo` from the mount**: the layout record the file / directory simulations assume holds of the mounted state of a
    valid boot sector on a device that holds the volume -/
theorem geo_of_valid {p : Bpb} (hr : p.InRange) (hv : p.Valid) (sz : Nat) (hl : LayoutOk p sz)
    (strict accDate lfnAlloc unicode : Bool) (fi : FsInfo) : Geo (fsOf strict accDate lfnAlloc unicode p fi) sz :=
  -- the fields of the mounted state are the quantities of `p`, and `p.fdsNat` is the sum of the three regions
  Geo.of_layout (fs := fsOf strict accDate lfnAlloc unicode p fi) (bps_ge hv).1 (spc_pos hv) hv.rsvd hv.fats hl.activeOk
    (Nat.le_add_right _ p.rdsNat) (fds_le hv) (totalSectors_lt hr) hl.fitsDev hl.fatFits hl.fat4g
    (badMark_fromClusters hv.limit)

/-- **`RootReadable` from the mount** (FAT12/16): the fixed root region lies inside the device, consists of whole
    slots, and the scan fuel exceeds their number -/
theorem rootReadable_of_valid {p : Bpb} (hv : p.Valid) (d : Dev) (hl : LayoutOk p d.img.size)
    (strict accDate lfnAlloc unicode : Bool) (fi : FsInfo) (hfs : d.fs = fsOf strict accDate lfnAlloc unicode p fi)
    (hfa : d.failAt = none) : RootReadable d (p.rdsNat * (p.bytesPerSector / 32)) := by
  obtain ⟨hB, hB32⟩ := bps_ge hv
  have hfds := hv.fds
  have h := RootReadable.of_layout (d := d) (m := p.bytesPerSector / 32) hfa
  rw [hfs] at h
  exact h (show p.bytesPerSector = _ by omega) (spc_pos hv) (Nat.le_add_left p.rdsNat _)
    (Nat.le_trans (Nat.mul_le_mul_right p.bytesPerSector (Nat.le_of_lt hfds)) hl.fitsDev) (Nat.div_mul_le_self _ _)


/-! ### chains -/

theorem chain_suffix {g : Nat → FatValue} {c : Nat} {cs : List Nat} (h : Chain g c cs) :
    ∀ x ∈ cs, ∃ pre suf, cs = pre ++ suf ∧ Chain g x suf := by
  induction h with
  | last m hl =>
    intro x hx
    simp at hx; subst hx
    exact ⟨[], [x], rfl, Chain.last x hl⟩
  | cons m k ms hd hc ih =>
    intro x hx
    rcases List.mem_cons.1 hx with rfl | hx
    · exact ⟨[], x :: ms, rfl, Chain.cons x k ms hd hc⟩
    · obtain ⟨pre, suf, e, hs⟩ := ih x hx
      exact ⟨m :: pre, suf, by rw [e]; rfl, hs⟩

theorem chain_last_not_data {g : Nat → FatValue} {c : Nat} {cs : List Nat} (h : Chain g c cs) :
    ∀ l, cs.getLast? = some l → ∀ n, g l ≠ .data n := by
  induction h with
  | last m hl => intro l hlast; simp at hlast; subst hlast; exact hl
  | cons m k ms _ hc ih =>
    intro l hlast
    obtain ⟨t, rfl⟩ := chain_head hc
    exact ih l (by simpa using hlast)

/-- the specification's chain of `c0` exists (every cluster in range, shorter than the table) and ends with an
    end-of-chain mark (not with a free or bad entry) -/
structure SpecChainOk (fs : FsState) (img : Img) (c0 : Nat) (chain : List Nat) : Prop where
  walk : specChainOf fs img c0 = some chain
  eoc : ∀ l, chain.getLast? = some l → FatSpec.specValue fs.fatType.bits (imgFatBytes fs img) l = .eoc

theorem SpecChainOk.facts {fs : FsState} {img : Img} {c0 : Nat} {chain : List Nat} (g : Geo fs img.size)
    (h : SpecChainOk fs img c0 chain) :
    Chain (tabView fs img) c0 chain ∧ (∀ x ∈ chain, 2 ≤ x ∧ x < fs.totalClusters + 2) ∧
      chain.length ≤ fs.totalClusters + 2 ∧ chain.Nodup ∧
      (∀ l, chain.getLast? = some l → tabView fs img l = .eoc) := by
  obtain ⟨h1, h2, h3⟩ := chain_of_specChain _ _ _ (tabView fs img) (fun c hc => tabView_spec g img c hc) _ _ _ h.walk
  refine ⟨h1, h2, h3, Fat.chain_nodup' h1, ?_⟩
  intro l hl
  have hmem : l ∈ chain := List.mem_of_getLast? hl
  rw [tabView_spec g img l (h2 l hmem).2]
  exact h.eoc l hl

/-! ### `ChainReadable` -/

/-- a directory whose specification chain is fine, smaller than 4 GiB, read through a handle that is a directory's and
    has nothing to write back (what `to_dir` builds; `None` for the FAT32 root), with `update_accessed_date` off -/
theorem chainReadable_of_spec {d : Dev} {c0 : Nat} {ent : Option DirEntryEditor} {chain : List Nat}
    (hfa : d.failAt = none) (g : Geo d.fs d.img.size) (hc : SpecChainOk d.fs d.img c0 chain)
    (hdir : ∀ e, ent = some e → e.data.isDir = true) (hclean : ∀ e, ent = some e → e.dirty = false)
    (hacc : d.fs.accDate = false ∨ ent = none) (hcs32 : d.fs.clusterSize % 32 = 0)
    (hsize : chain.length * d.fs.clusterSize < 4294967296) : ChainReadable d c0 ent chain := by
  obtain ⟨f1, f2, f3, _, _⟩ := hc.facts g
  refine ⟨⟨hfa, g, rfl, f1, f2, ?_, ?_, ?_, hcs32, hsize⟩, ?_⟩
  · show (FileH.new (some c0) ent).size? = none
    unfold FileH.size? FileH.new
    cases hent : ent with
    | none => rfl
    | some e =>
      simp only
      have := hdir e hent
      simp [DirFileEntryData.size?, DirFileEntryData.isFile, this]
  · rcases hacc with h | h
    · exact Or.inl h
    · exact Or.inr (by rw [h]; rfl)
  · intro e he
    exact hclean e he
  · show chain.length * (d.fs.clusterSize / 32) < (d.fs.totalClusters + 2) * (d.fs.clusterSize / 32) + d.fs.rootEntries + 64
    have : chain.length * (d.fs.clusterSize / 32) ≤ (d.fs.totalClusters + 2) * (d.fs.clusterSize / 32) :=
      Nat.mul_le_mul_right _ f3
    omega

/-! ### `FileRep` -/

/-- a file handle as `to_file` builds it (first cluster and size from the 32-byte record, cursor at 0) is represented
    when the specification finds its chain fine and long enough for the recorded size (a file without cluster has
    size 0) -/
theorem fileRep_of_spec {fs : FsState} {img : Img} (g : Geo fs img.size) (first : Option Nat) (ed : DirEntryEditor)
    (hfile : ed.data.isDir = false) (hsz : ed.data.size ≤ Cursor.u32Max)
    (hnone : first = none → ed.data.size = 0)
    (hsome : ∀ c0, first = some c0 → ∃ chain, SpecChainOk fs img c0 chain ∧
      ed.data.size ≤ chain.length * fs.clusterSize) :
    FileRep fs img (FileH.new first (some ed)) := by
  have hsize := size?_new_file first ed hfile
  have habs : (absFile fs img (FileH.new first (some ed))).size = ed.data.size := by
    simp [absFile, hsize]
  cases hf : first with
  | none =>
    have hch : fileChain fs img (FileH.new none (some ed)) = [] := rfl
    have hachain : (absFile fs img (FileH.new none (some ed))).chain = [] := hch
    have h0 := hnone hf
    subst hf
    have hinv : Cursor.AFileInv viewFree (absFile fs img (FileH.new none (some ed))) (tabView fs img) :=
      { cs_pos := g.cs_pos
        nodup := by rw [hachain]; exact List.nodup_nil
        first := by
          show (none : Option Nat) = (fileChain fs img (FileH.new none (some ed))).head?
          rw [hch]; rfl
        cover := by rw [habs, h0]; exact Nat.zero_le _
        off_le := by rw [habs, h0]; exact Nat.zero_le _
        size_le := by rw [habs]; exact hsz
        cur := rfl
        live := by intro c hc; rw [hachain] at hc; cases hc }
    exact
      { file := ⟨_, hsize⟩
        inv := hinv
        chain := by intro c hc; cases hc
        inTab := by intro c hc; rw [hch] at hc; cases hc
        last_eoc := by intro c hc; rw [hch] at hc; cases hc }
  | some c0 =>
    subst hf
    obtain ⟨chain, hc, hcov⟩ := hsome c0 rfl
    obtain ⟨f1, f2, f3, f4, f5⟩ := hc.facts g
    -- an entry of the chain links on or is the end-of-chain mark
    have hlive : ∀ c ∈ chain, tabView fs img c ≠ .free := by
      intro c hcm
      obtain ⟨pre, suf, e, hs⟩ := chain_suffix f1 c hcm
      cases hs with
      | last _ hl =>
        have hlast : chain.getLast? = some c := by rw [e]; simp
        rw [f5 c hlast]; intro h; cases h
      | cons _ n ms hd _ => rw [hd]; intro h; cases h
    exact (FileRep.of_chain (f := FileH.new (some c0) (some ed)) rfl hsize f1 f5 hlive f2 f4 (by omega) g.cs_pos hcov
      (Nat.zero_le _) hsz rfl).1


/-- where the slots of a directory are -/
inductive Loc where
  | fixedRoot
  | chain (c0 : Nat)
  deriving DecidableEq, Repr

/-- the slots of a directory of the image, as the specification reads them: the root region, or the clusters of the
    specification's chain -/
def locSlots (fs : FsState) (img : Img) : Loc → Option (List (List Nat))
  | .fixedRoot => some (rootDirSlots fs img)
  | .chain c0 => (specChainOf fs img c0).map (chainSlots fs img)

def rootLoc (fs : FsState) : Loc := if fs.fatType = .fat32 then .chain fs.rootCluster else .fixedRoot

/-- the directories of the volume: the root, and every directory named by a row of a directory of the volume -/
inductive SpecDir (fs : FsState) (img : Img) : Loc → Prop
  | root : SpecDir fs img (rootLoc fs)
  | sub (loc : Loc) (slots : List (List Nat)) (r : DirSpec.Row) (c : Nat) : SpecDir fs img loc →
      locSlots fs img loc = some slots → r ∈ DirSpec.specRows (fs.fatType == .fat32) slots → r.isDir = true →
      r.firstCluster = some c → SpecDir fs img (.chain c)

/-- **the data of a specification-valid volume** (FAT and directory part), for the geometry `fs`:
    * every cluster-chain directory of the tree has a chain the specification's FAT decoder walks to an end-of-chain mark,
      and is smaller than 4 GiB (the specification allows 65 536 entries = 2 MiB);
    * every listed file without cluster has size 0; every other listed file has such a chain, long enough for its size. -/
structure SpecValidTree (fs : FsState) (img : Img) : Prop where
  dirs : ∀ c0, SpecDir fs img (.chain c0) →
    ∃ chain, SpecChainOk fs img c0 chain ∧ chain.length * fs.clusterSize < 4294967296
  files : ∀ loc slots r, SpecDir fs img loc → locSlots fs img loc = some slots →
    r ∈ DirSpec.specRows (fs.fatType == .fat32) slots → r.isDir = false →
    (r.firstCluster = none → r.size = 0) ∧
    (∀ c0, r.firstCluster = some c0 → ∃ chain, SpecChainOk fs img c0 chain ∧ r.size ≤ chain.length * fs.clusterSize)

/-- what holds of the device after a successful mount of a specification-valid volume (and keeps holding while image,
    mounted state and fault schedule stay) -/
structure VolInv (d : Dev) : Prop where
  noFault : d.failAt = none
  geo : Geo d.fs d.img.size
  alloc : d.fs.lfnAlloc = true
  noAcc : d.fs.accDate = false
  cs32 : d.fs.clusterSize % 32 = 0
  root : d.fs.fatType ≠ .fat32 → ∃ N, RootReadable d N
  tree : SpecValidTree d.fs d.img

theorem VolInv.of_same {d d1 : Dev} (h : VolInv d) (hfs : d1.fs = d.fs) (himg : d1.img = d.img)
    (hfa : d1.failAt = d.failAt) : VolInv d1 := by
  refine ⟨by rw [hfa]; exact h.noFault, by rw [hfs, himg]; exact h.geo, by rw [hfs]; exact h.alloc,
    by rw [hfs]; exact h.noAcc, by rw [hfs]; exact h.cs32, ?_, by rw [hfs, himg]; exact h.tree⟩
  intro h32
  obtain ⟨N, hr⟩ := h.root (by rw [← hfs]; exact h32)
  exact ⟨N, ⟨by rw [hfa]; exact hr.noFault, by rw [hfs, himg]; exact hr.inside, by rw [hfs]; exact hr.slots,
    by rw [hfs]; exact hr.fuel⟩⟩

/-- the handle through which the library reads directory `loc`: the root stream, or a cluster-chain handle whose entry
    (if any) is a directory's and has nothing to write back — what `root_dir()` / `to_dir()` build -/
def HandleFor (fs : FsState) : Loc → DirStream → Prop
  | .fixedRoot, st => st = rootAt fs 0
  | .chain c0, st => ∃ ent, st = .file (FileH.new (some c0) ent) ∧
      (∀ e, ent = some e → e.data.isDir = true ∧ e.dirty = false)

theorem handleFor_root (fs : FsState) : HandleFor fs (rootLoc fs) (rootDirStream fs) := by
  unfold rootLoc
  by_cases h : fs.fatType = .fat32
  · rw [if_pos h, rootDirStream_fat32 fs h]
    exact ⟨none, rfl, fun e he => by cases he⟩
  · rw [if_neg h]
    show rootDirStream fs = rootAt fs 0
    unfold rootDirStream rootAt
    cases hft : fs.fatType with
    | fat32 => exact absurd hft h
    | fat12 => rfl
    | fat16 => rfl

/-- the handle of a directory of the tree is a readable view (`DirView`) of the specification's slots of that
    directory: the one place where the two kinds of directory are told apart -/
theorem view_of_loc {d : Dev} (hv : VolInv d) {loc : Loc} (hloc : SpecDir d.fs d.img loc) {st : DirStream}
    (hst : HandleFor d.fs loc st) : ∃ V : DirView d st, locSlots d.fs d.img loc = some V.slots := by
  cases loc with
  | fixedRoot =>
    have h32 : d.fs.fatType ≠ .fat32 := by
      intro h32
      -- the fixed root is a directory of the tree only on FAT12/16: on FAT32 every location is a chain
      have : ∀ l, SpecDir d.fs d.img l → l ≠ .fixedRoot := by
        intro l hl
        cases hl with
        | root => unfold rootLoc; rw [if_pos h32]; intro h; cases h
        | sub _ _ _ _ _ _ _ _ _ => intro h; cases h
      exact this _ hloc rfl
    obtain ⟨N, hr⟩ := hv.root h32
    cases (show st = rootAt d.fs 0 from hst)
    exact ⟨DirView.ofRoot hr, by rw [DirView.slots, DirView.slots_ofRoot hr]; rfl⟩
  | chain c0 =>
    obtain ⟨ent, rfl, hent⟩ := hst
    obtain ⟨chain, hc, hsmall⟩ := hv.tree.dirs c0 hloc
    have hread : ChainReadable d c0 ent chain :=
      chainReadable_of_spec hv.noFault hv.geo hc (fun e he => (hent e he).1) (fun e he => (hent e he).2)
        (Or.inl hv.noAcc) hv.cs32 hsmall
    refine ⟨DirView.ofChain hread, ?_⟩
    rw [DirView.slots, DirView.slots_ofChain hread]
    show (specChainOf d.fs d.img c0).map (chainSlots d.fs d.img) = _
    rw [hc.walk]; rfl

/-- **every directory of the tree lists faithfully**: through its handle, `Dir::iter()` returns entries whose rows are
    exactly the specification's rows of the directory's slots in the image -/
theorem dir_faithful {d : Dev} (hv : VolInv d) (loc : Loc) (hloc : SpecDir d.fs d.img loc) (st : DirStream)
    (hst : HandleFor d.fs loc st) :
    ∃ slots L d', locSlots d.fs d.img loc = some slots ∧ run (listDir st) d = (.ok L, d') ∧
      L.map (libRow d.fs.fatType) = DirSpec.specRows (d.fs.fatType == .fat32) slots ∧
      (∃ src, L = (DirSlots.listing slots).map (toDirEntryS src)) ∧
      d'.img = d.img ∧ d'.fs = d.fs ∧ d'.failAt = d.failAt ∧ d'.writesOf = d.writesOf := by
  obtain ⟨V, hslots⟩ := view_of_loc hv hloc hst
  obtain ⟨L, ⟨d', hrun, hs⟩, hL, hrows⟩ := V.list_decodes hv.alloc d (SameVol.refl d)
  exact ⟨V.slots, L, d', hslots, hrun, hrows, ⟨V.src, hL⟩, hs.img, hs.fs, hs.failAt, hs.writesOf⟩

theorem read_byte_lt (img : Img) (off : Nat) (i : Nat) : DirSpec.b (img.read off 32) i < 256 := by
  unfold DirSpec.b
  by_cases hi : i < 32
  · rw [Img.read_getD _ _ _ _ hi]; exact Img.getByte_lt _ _
  · simp [List.getD_eq_getElem?_getD, List.getElem?_eq_none (by simp; omega : (img.read off 32).length ≤ i)]

theorem d32_lt (s : List Nat) (h : ∀ i, DirSpec.b s i < 256) : DirSpec.d32 s 28 ≤ Cursor.u32Max := by
  have h0 := h 28; have h1 := h (28 + 1); have h2 := h (28 + 2); have h3 := h (28 + 3)
  unfold DirSpec.d32 Cursor.u32Max
  omega

theorem locSlots_bytes (fs : FsState) (img : Img) (loc : Loc) (slots : List (List Nat))
    (h : locSlots fs img loc = some slots) : ∀ s ∈ slots, ∀ i, DirSpec.b s i < 256 := by
  intro s hs i
  cases loc with
  | fixedRoot =>
    simp only [locSlots, Option.some.injEq] at h
    subst h
    unfold rootDirSlots rootSlots at hs
    obtain ⟨j, _, rfl⟩ := List.mem_map.1 hs
    exact read_byte_lt _ _ _
  | chain c0 =>
    simp only [locSlots] at h
    cases hc : specChainOf fs img c0 with
    | none => rw [hc] at h; cases h
    | some chain =>
      rw [hc] at h
      simp only [Option.map_some, Option.some.injEq] at h
      subst h
      unfold chainSlots at hs
      obtain ⟨c, _, hs⟩ := List.mem_flatMap.1 hs
      obtain ⟨j, _, rfl⟩ := List.mem_map.1 hs
      exact read_byte_lt _ _ _

/-- **every listed file reads faithfully**: for an entry `e` of the listing of a directory of the tree that is not a
    directory, `readall` on the handle `to_file` builds returns the specification's content for the first cluster and
    size of its row -/
theorem file_faithful {d : Dev} (hv : VolInv d) (loc : Loc) (hloc : SpecDir d.fs d.img loc) (slots : List (List Nat))
    (hslots : locSlots d.fs d.img loc = some slots) (L : List DirEntry)
    (hrows : L.map (libRow d.fs.fatType) = DirSpec.specRows (d.fs.fatType == .fat32) slots)
    (e : DirEntry) (he : e ∈ L) (hfile : e.isDir = false) (fuel : Nat) (hfuel : e.data.size < fuel) :
    ∃ f' d', run (Session.readAllLoop fuel (FileH.new (e.firstCluster d.fs) (some e.editor)) []) d =
        (.ok (specContent d.fs d.img (libRow d.fs.fatType e).firstCluster (libRow d.fs.fatType e).size, f'), d') ∧
      d'.img = d.img ∧ d'.log = d.log ∧ d'.fs = d.fs := by
  -- the row of `e` is a specification row
  have hmem : libRow d.fs.fatType e ∈ DirSpec.specRows (d.fs.fatType == .fat32) slots := by
    rw [← hrows]; exact List.mem_map_of_mem he
  have hrdir : (libRow d.fs.fatType e).isDir = false := hfile
  obtain ⟨hnone, hsome⟩ := hv.tree.files loc slots _ hloc hslots hmem hrdir
  -- its size is a u32
  have hsz : e.data.size ≤ Cursor.u32Max := by
    unfold DirSpec.specRows at hmem
    obtain ⟨se, hse, hrow⟩ := List.mem_map.1 hmem
    have hsfn := specEntries_sfn_mem true slots se hse
    have hb := locSlots_bytes d.fs d.img loc slots hslots se.sfn hsfn
    have : (libRow d.fs.fatType e).size = DirSpec.d32 se.sfn 28 := by rw [← hrow]; rfl
    have h2 : e.data.size = DirSpec.d32 se.sfn 28 := this
    rw [h2]; exact d32_lt _ hb
  have hrep : FileRep d.fs d.img (FileH.new (e.firstCluster d.fs) (some e.editor)) :=
    fileRep_of_spec hv.geo (e.firstCluster d.fs) e.editor hfile hsz hnone hsome
  have hsize : (FileH.new (e.firstCluster d.fs) (some e.editor)).size?.getD 0 = e.data.size := by
    rw [size?_new_file _ e.editor hfile]; rfl
  obtain ⟨f', d', hr, hs, _⟩ := readAll_specContent _ d hv.noFault hv.geo hrep rfl fuel (by rw [hsize]; exact hfuel)
  refine ⟨f', d', ?_, hs.img, hs.log, hs.fs⟩
  rw [hr, hsize]
  rfl

/-- **descending**: for a directory entry `e` of a faithful listing with a first cluster `c`, `to_dir` hands out the
    handle of the directory `.chain c` of the tree -/
theorem child_handle {d : Dev} (loc : Loc) (hloc : SpecDir d.fs d.img loc) (slots : List (List Nat))
    (hslots : locSlots d.fs d.img loc = some slots) (L : List DirEntry)
    (hrows : L.map (libRow d.fs.fatType) = DirSpec.specRows (d.fs.fatType == .fat32) slots)
    (e : DirEntry) (he : e ∈ L) (hdir : e.isDir = true) (c : Nat) (hc : e.firstCluster d.fs = some c) :
    run (e.toDir d.fs) d = (.ok (.file (FileH.new (some c) (some e.editor))), d) ∧
      SpecDir d.fs d.img (.chain c) ∧ HandleFor d.fs (.chain c) (.file (FileH.new (some c) (some e.editor))) := by
  have hmem : libRow d.fs.fatType e ∈ DirSpec.specRows (d.fs.fatType == .fat32) slots := by
    rw [← hrows]; exact List.mem_map_of_mem he
  refine ⟨?_, SpecDir.sub loc slots _ c hloc hslots hmem hdir hc, ⟨some e.editor, rfl, ?_⟩⟩
  · unfold DirEntry.toDir
    simp [hdir, hc]
  · intro ed hed
    cases hed
    exact ⟨hdir, rfl⟩

/-! ### the invariants from the boot sector and the mount -/

theorem clusterSize_mod32 {p : Bpb} (hv : p.Valid) (strict accDate lfnAlloc unicode : Bool) (fi : FsInfo) :
    (fsOf strict accDate lfnAlloc unicode p fi).clusterSize % 32 = 0 := by
  obtain ⟨_, h32⟩ := bps_ge hv
  show p.bytesPerSector * p.sectorsPerCluster % 32 = 0
  rw [Nat.mul_mod, h32]; simp

/-- after a successful mount (heap long-name buffer, `update_accessed_date` off) of a volume whose boot sector is valid,
    whose layout is fine and whose tree is specification-valid FOR THE MOUNTED GEOMETRY, the invariants hold -/
theorem volInv_of_mount {p : Bpb} (hr : p.InRange) (hv : p.Valid) (d : Dev) (hl : LayoutOk p d.img.size)
    (strict unicode : Bool) (fi : FsInfo) (hfs : d.fs = fsOf strict false true unicode p fi) (hfa : d.failAt = none)
    (htree : SpecValidTree d.fs d.img) : VolInv d := by
  refine ⟨hfa, by rw [hfs]; exact geo_of_valid hr hv _ hl _ _ _ _ _, by rw [hfs]; rfl, by rw [hfs]; rfl,
    by rw [hfs]; exact clusterSize_mod32 hv _ _ _ _ _, ?_, htree⟩
  intro _
  exact ⟨_, rootReadable_of_valid hv d hl strict false true unicode fi hfs hfa⟩

end FatVerif.DecodeAgree
