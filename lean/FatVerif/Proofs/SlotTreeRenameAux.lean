import FatVerif.Proofs.SlotTreeCreate
/-!
# Slot trees: auxiliary facts for `rename`

* path comparison (`prefixS`/`samePathS` = the specification's `isPrefixOf`/same directory), navigation depends on
  names only through their case folding;
* the specification's erase and insert commute wherever the two paths lie, if the names allow it (`spec_comm`);
* the short slot of the renamed entry (`renamedSfn`): file class, same kind, raw name = the new alias.
-/
namespace FatVerif
namespace SlotTree
open Lfn DirSlots DirAlias

variable (u : Char → List Char)

/-! ## path comparison -/

theorem isPrefixOf_eq : ∀ (a b : List String), Spec.isPrefixOf (cfgOf u) a b = prefixS (upOf u) a b
  | [], _ => by simp [Spec.isPrefixOf, prefixS]
  | _ :: _, [] => by simp [Spec.isPrefixOf, prefixS]
  | a :: as, b :: bs => by simp only [Spec.isPrefixOf, prefixS, same_eq, isPrefixOf_eq as bs]

theorem prefixS_length {up : Char → List Char} : ∀ (a b : List String), prefixS up a b = true → a.length ≤ b.length
  | [], _, _ => by simp
  | _ :: _, [], h => by simp [prefixS] at h
  | a :: as, b :: bs, h => by
    simp only [prefixS, Bool.and_eq_true] at h
    have := prefixS_length as bs h.2
    simp only [List.length_cons]; omega

theorem samePathS_cons {up : Char → List Char} (a b : String) (as bs : List String) :
    samePathS up (a :: as) (b :: bs) = (sameName up a b && samePathS up as bs) := by
  unfold samePathS
  simp only [List.length_cons, prefixS]
  have : (as.length + 1 == bs.length + 1) = (as.length == bs.length) := by simp
  rw [this, Bool.and_left_comm]

theorem samePathS_nil_cons {up : Char → List Char} (b : String) (bs : List String) :
    samePathS up [] (b :: bs) = false := by simp [samePathS]

theorem samePathS_cons_nil {up : Char → List Char} (a : String) (as : List String) :
    samePathS up (a :: as) [] = false := by simp [samePathS]

theorem lookupS_congr {up : Char → List Char} (s : List (List Nat)) (ch : List (LfnEntry × Node)) {q q' : String}
    (h : sameName up q q' = true) : lookupS up s ch q = lookupS up s ch q' := by
  unfold lookupS
  rw [findEntry_congr up s ((sameName_iff up q q').1 h)]

theorem getAtS_congr {up : Char → List Char} : ∀ (a b : List String), samePathS up a b = true →
    ∀ t, getAtS up t a = getAtS up t b
  | [], [], _, _ => rfl
  | [], _ :: _, h, _ => by rw [samePathS_nil_cons] at h; cases h
  | _ :: _, [], h, _ => by rw [samePathS_cons_nil] at h; cases h
  | a :: as, b :: bs, h, t => by
    rw [samePathS_cons, Bool.and_eq_true] at h
    cases t with
    | file c => rfl
    | dir s ch =>
      simp only [getAtS]
      rw [lookupS_congr s ch h.1]
      cases lookupS up s ch b with
      | none => rfl
      | some x => exact getAtS_congr as bs h.2 x.2

/-! ## the specification's `updateAt` -/

theorem erase_insert_comm (given snm : String) (c s : Spec.TNode) (h : (cfgOf u).same given snm = false) :
    Spec.eraseChild (cfgOf u) snm (Spec.insertChild given c s) =
      Spec.insertChild given c (Spec.eraseChild (cfgOf u) snm s) := by
  cases s with
  | file b => rfl
  | dir ch =>
    simp only [Spec.insertChild, Spec.eraseChild, List.filter_append, List.filter_cons, List.filter_nil, h,
      Bool.not_false, if_true]

/-- when erasing at `sp` and inserting at `dp` commute, by the shape of the two paths alone -/
def CommCond (given snm : String) : List String → List String → Prop
  | [], [] => (cfgOf u).same given snm = false
  | [], _ :: _ => True
  | q :: _, [] => (cfgOf u).same given q = false
  | q1 :: r1, q2 :: r2 => (cfgOf u).same q1 q2 = true → CommCond given snm r1 r2

theorem spec_comm (given snm : String) (c : Spec.TNode) : ∀ (sp dp : List String), CommCond u given snm sp dp →
    ∀ s, Spec.updateAt (cfgOf u) (Spec.eraseChild (cfgOf u) snm) sp
        (Spec.updateAt (cfgOf u) (Spec.insertChild given c) dp s) =
      Spec.updateAt (cfgOf u) (Spec.insertChild given c) dp
        (Spec.updateAt (cfgOf u) (Spec.eraseChild (cfgOf u) snm) sp s)
  | [], [], h, s => erase_insert_comm u given snm c s h
  | [], q :: r, _, s => by
    cases s with
    | file b => rfl
    | dir ch =>
      simp only [Spec.updateAt, Spec.eraseChild, List.filter_map]
      apply congrArg Spec.TNode.dir
      apply congrArg
      apply List.filter_congr
      intro x _
      obtain ⟨nm, c'⟩ := x
      simp only [Function.comp]
      split <;> rfl
  | q :: r, [], h, s => by
    cases s with
    | file b => rfl
    | dir ch =>
      simp only [CommCond] at h
      simp only [Spec.updateAt, Spec.insertChild, List.map_append, List.map_cons, List.map_nil, h,
        Bool.false_eq_true, if_false]
  | q1 :: r1, q2 :: r2, h, s => by
    cases s with
    | file b => rfl
    | dir ch =>
      simp only [Spec.updateAt, List.map_map]
      apply congrArg Spec.TNode.dir
      apply List.map_congr_left
      intro x _
      obtain ⟨nm, c'⟩ := x
      simp only [Function.comp]
      cases h1 : (cfgOf u).same nm q1 with
      | true =>
        cases h2 : (cfgOf u).same nm q2 with
        | true =>
          simp only [h1, h2, if_true]
          have h12 : (cfgOf u).same q1 q2 = true := by
            rw [same_eq, sameName_iff] at *
            rw [← h1, h2]
          rw [spec_comm given snm c r1 r2 (h h12) c']
        | false => simp only [h1, h2, if_true, Bool.false_eq_true, if_false]
      | false =>
        cases h2 : (cfgOf u).same nm q2 with
        | true => simp only [h1, h2, if_true, Bool.false_eq_true, if_false]
        | false => simp only [h1, h2, Bool.false_eq_true, if_false]

/-! ## the short slot of the renamed entry -/

theorem listed_class {slots : List (List Nat)} (hs : Shape slots) {e : LfnEntry} (he : e ∈ listing slots) :
    slotClass e.sfn = .file := by
  obtain ⟨items, tail, rfl, hok, ht⟩ := hs
  unfold listing at he
  rw [listing_shape true items tail hok ht] at he
  obtain ⟨I1, R, sfn, I2, e1, e2⟩ := mem_listOf items 0 e he
  have := hok (.entry R sfn) (by rw [e1]; simp)
  rw [e2]
  exact this.2.2

theorem renamedSfn_eq (sfn a : List Nat) (ha : a.length = 11) : renamedSfn sfn a = a ++ sfn.drop 11 := by
  unfold renamedSfn
  rw [List.take_of_length_le (by omega)]

theorem byte_renamed_11 (sfn a : List Nat) (ha : a.length = 11) : Lfn.byte (renamedSfn sfn a) 11 = Lfn.byte sfn 11 := by
  rw [renamedSfn_eq sfn a ha]
  unfold Lfn.byte
  rw [List.getD_eq_getElem?_getD, List.getD_eq_getElem?_getD, List.getElem?_append_right (by omega), ha]
  simp

theorem byte_renamed_0 (sfn a : List Nat) (ha : a.length = 11) : Lfn.byte (renamedSfn sfn a) 0 = a.headD 0 := by
  rw [renamedSfn_eq sfn a ha]
  cases a with
  | nil => simp at ha
  | cons x xs => simp [Lfn.byte]

theorem sfnName_renamed (sfn a : List Nat) (ha : a.length = 11) : sfnName (renamedSfn sfn a) = a := by
  rw [renamedSfn_eq sfn a ha]
  exact sfnName_sfnWith a _ ha

theorem isDir_renamed (sfn a : List Nat) (ha : a.length = 11) : Lfn.isDir (renamedSfn sfn a) = Lfn.isDir sfn := by
  unfold Lfn.isDir Lfn.attrs
  rw [byte_renamed_11 sfn a ha]

theorem slotClass_renamed (sfn a : List Nat) (ha : Names.LegalAlias a) (hc : slotClass sfn = .file) :
    slotClass (renamedSfn sfn a) = .file := by
  obtain ⟨hl, _, _, h0, _, hE5, _⟩ := ha
  have hb0 := byte_renamed_0 sfn a hl
  have hb11 := byte_renamed_11 sfn a hl
  cases a with
  | nil => simp at hl
  | cons x xs =>
    have hx0 : x ≠ 0 := by simpa using h0
    have hxE : x ≠ 0xE5 := by simpa using hE5
    simp only [List.headD_cons] at hb0
    unfold slotClass at hc ⊢
    unfold Lfn.isEnd Lfn.isDeleted Lfn.isLfn Lfn.isVolume Lfn.attrs at hc ⊢
    rw [hb0, hb11]
    rw [if_neg (by simpa using hx0), if_neg (by simpa using hxE)]
    split at hc
    · cases hc
    · split at hc
      · cases hc
      · split at hc
        · cases hc
        · split at hc
          · cases hc
          · rename_i h3 h4
            rw [if_neg h3, if_neg h4]

/-- writing the renamed entry under the alias `check_for_existence` chose keeps the destination directory
    well-formed -/
theorem rename_write_wf {up : Char → List Char} (slots : List (List Nat)) (hwf : DirWf up slots) (name : String)
    (fuel : Nat) (a : List Nat) (sfn : List Nat) (hc : slotClass sfn = .file)
    (hv : Names.validateLongName name = .ok ())
    (h : checkForExistenceL up slots name none fuel = .ok (.alias a)) :
    DirWf up (writeEntry slots (Names.encodeUtf16 name.toList) (renamedSfn sfn a)) ∧
    slotClass (renamedSfn sfn a) = .file := by
  obtain ⟨v0, _, v1, v2, v3, v4⟩ := valid_units (cs := name.toList) hv
  have hleg := C16dir.dir_alias_legal up slots name none fuel a hv h
  have hcls := slotClass_renamed sfn a hleg hc
  refine ⟨?_, hcls⟩
  apply writeEntry_dirWf up slots name.toList _ hwf v0 v1 v2 v3 v4 hcls (check_alias up slots name none fuel a h).1
  · rw [sfnName_renamed sfn a hleg.1]
    exact C16dir.dir_alias_fresh up slots name none fuel a h
  · rw [sfnName_renamed sfn a hleg.1]
    exact C16dir.dir_alias_display_free up slots name none fuel a h

end SlotTree
end FatVerif
