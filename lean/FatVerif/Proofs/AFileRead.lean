import FatVerif.Proofs.AFileInv
import FatVerif.Proofs.AFileByteFile
/-! ONE `File::read` call refines `ByteFile.read` with the documented short read. -/
namespace FatVerif.Cursor

section
variable {σ : Type} {isFree : σ → Nat → Prop} {f : AFile} {s : σ}

/-- bytes `[offset, offset + k)` of the content, when they lie in the cluster of the cursor -/
theorem AFileInv.clusterBytes_eq (h : AFileInv isFree f s) {c k : Nat}
    (hc : f.chain[f.offset / f.cs]? = some c) (hk : k ≤ f.cs - f.offset % f.cs) (hk2 : f.offset + k ≤ f.size) :
    f.clusterBytes c (f.offset % f.cs) k = (f.content.drop f.offset).take k := by
  have hcs := h.cs_pos
  have hdm := divmod_spec f.cs f.offset hcs
  unfold AFile.content
  rw [take_drop_map_range _ _ _ _ hk2]
  unfold AFile.clusterBytes
  apply List.map_congr_left
  intro j hj
  have hj' : j < k := List.mem_range.mp hj
  have hd : (f.offset + j) / f.cs = f.offset / f.cs :=
    div_eq_of_decomp hcs (j := f.offset % f.cs + j) (by omega) (by omega)
  have hm : (f.offset + j) % f.cs = f.offset % f.cs + j :=
    mod_eq_of_decomp hcs (i := f.offset / f.cs) (by omega) (by omega)
  unfold AFile.byteAt
  rw [hd, hm]
  have : f.chain.getD (f.offset / f.cs) 0 = c := by
    rw [List.getD_eq_getElem?_getD, hc]; rfl
  rw [this]

/-- the state after ONE read call -/
structure ReadPost (f : AFile) (n : Nat) (r : Except Err (List Nat) × AFile) : Prop where
  res : r.1 = .ok ((f.content.drop f.offset).take (f.readLen n))
  offset : r.2.offset = f.offset + f.readLen n
  cs : r.2.cs = f.cs
  chain : r.2.chain = f.chain
  data : r.2.data = f.data
  size : r.2.size = f.size
  first : r.2.firstCluster = f.firstCluster

theorem AFileInv.read_post (h : AFileInv isFree f s) (n : Nat) :
    ReadPost f n (f.read n) ∧ AFileInv isFree (f.read n).2 s := by
  have hcs := h.cs_pos
  have hdm := divmod_spec f.cs f.offset hcs
  have hoff := h.off_le
  have hkb : f.readLen n ≤ f.cs - f.offset % f.cs ∧ f.offset + f.readLen n ≤ f.size := by
    unfold AFile.readLen; omega
  have hzero : f.readLen n = 0 → ReadPost f n (.ok [], f) ∧ AFileInv isFree f s := fun hk =>
    ⟨⟨by simp [hk], by simp [hk], rfl, rfl, rfl, rfl, rfl⟩, h⟩
  unfold AFile.read
  split
  next hrc => exact hzero (by have := h.readCluster_none hrc; omega)
  next c hrc =>
    rw [if_neg (by omega)]
    split
    next hk => exact hzero hk
    next hk =>
      have hc : f.chain[f.offset / f.cs]? = some c := by rw [← h.readCluster_eq]; exact hrc
      refine ⟨⟨congrArg _ (h.clusterBytes_eq hc hkb.1 hkb.2), rfl, rfl, rfl, rfl, rfl, rfl⟩,
        h.move rfl rfl rfl rfl hkb.2 ?_⟩
      show some c = if f.offset + f.readLen n = 0 then none else f.chain[(f.offset + f.readLen n - 1) / f.cs]?
      rw [if_neg (by omega),
        div_eq_of_decomp hcs (i := f.offset / f.cs) (j := f.offset % f.cs + f.readLen n - 1) (by omega) (by omega), hc]

theorem ReadPost.content {f : AFile} {n : Nat} {r} (p : ReadPost f n r) : r.2.content = f.content :=
  content_congr p.cs p.chain p.data p.size

/-- `readLen` is the short-read length of the specification -/
theorem readLen_eq_shortRead (f : AFile) (n : Nat) : f.readLen n = f.abs.shortRead f.cs n := by
  simp [AFile.readLen, ByteFile.shortRead]

/-- refinement of ONE read call -/
theorem AFileInv.read_refines (h : AFileInv isFree f s) (n : Nat) :
    ∃ l, (f.read n).1 = .ok l ∧ ByteFile.check f.cs (.read n) (.bytes l) f.abs = .ok (f.read n).2.abs := by
  obtain ⟨p, _⟩ := h.read_post n
  refine ⟨_, p.res, ?_⟩
  have hoff := h.off_le
  have hk : f.readLen n ≤ f.size - f.offset := by unfold AFile.readLen; omega
  have e1 : (f.content.drop f.offset).take (f.readLen n) = (f.abs.read (f.abs.shortRead f.cs n)).1 := by
    rw [← readLen_eq_shortRead]; rfl
  have e2 : (f.read n).2.abs = (f.abs.read (f.abs.shortRead f.cs n)).2 := by
    rw [← readLen_eq_shortRead]
    simp only [ByteFile.read, AFile.abs, p.content, p.offset]
    congr 1
    simp [ByteFile.remaining]; omega
  show ByteFile.checkRead f.cs n _ f.abs = _
  rw [e1, e2]
  exact ByteFile.checkRead_ok f.cs n f.abs

end
end FatVerif.Cursor
