import FatVerif.Model.Io
import FatVerif.Proofs.Prog
import FatVerif.Proofs.ImgLemmas
/-! Device lemmas for fault-free runs: what `run` does on the primitive `read` and `seek` calls, `read_exact`,
`readChunks`, `read_u8/u16/u32_le` over the RAW device (`devStrm`) when no fault is scheduled (`d.failAt = none`);
`read_exact` / `write_all` of any stream that one call of the stream completes.

* `Dev.didRead d m`, `Dev.didSeek d n`: the device after one successful read of `m` bytes / one seek to `n`.
* `SameStore d d'`: everything but the position and the counters of calls, reads and seeks is the same.
* `run_readExact_ok`: with `pos + n ≤ size`, `read_exact(n)` is ONE device read returning `img.read pos n`.
* `run_readChunks_ok`: the chunked reads of the field-by-field deserialisers return the concatenation.
* `run_readExact_short`: a device that ends before `pos + n` makes `read_exact(n)` fail with `Err.io devEofErr`. -/
namespace FatVerif

/-! ### `run` on `bind`, `pure`, `fail` -/

theorem run_bind_ok {α β} {p : Prog β} {k : β → Prog α} {d d1 : Dev} {b : β} (h : run p d = (.ok b, d1)) :
    run (p >>= k) d = run (k b) d1 := by
  show run (Prog.bind p k) d = _
  simp only [run, h]

theorem run_bind_error {α β} {p : Prog β} {k : β → Prog α} {d d1 : Dev} {e : Err} (h : run p d = (.error e, d1)) :
    run (p >>= k) d = (.error e, d1) := by
  show run (Prog.bind p k) d = _
  simp only [run, h]

@[simp] theorem run_pure {α} (a : α) (d : Dev) : run (pure a : Prog α) d = (.ok a, d) := rfl
@[simp] theorem run_fail {α} (e : Err) (d : Dev) : run (Prog.fail e : Prog α) d = (.error e, d) := rfl

/-! ### `read_exact` and `write_all` that ONE call of the stream completes -/

/-- one `read` delivers all `n` bytes -/
theorem run_readExact_of_read {σ} (S : Strm σ) {s s' : σ} {n : Nat} {bs : List Nat} {d d' : Dev} (hn : 0 < n)
    (hr : run (S.read s n) d = (.ok (bs, s'), d')) (hl : bs.length = n) :
    run (readExact S s n) d = (.ok (bs, s'), d') := by
  obtain ⟨k, rfl⟩ : ∃ k, n = k + 1 := ⟨n - 1, by omega⟩
  unfold readExact readExactLoop
  rw [if_neg (by omega), run_bind_ok hr]
  simp only [hl, Nat.sub_self]
  rw [if_neg (by omega)]
  unfold readExactLoop
  simp

/-- the stream is at its end: the first `read` delivers nothing -/
theorem run_readExact_eof {σ} (S : Strm σ) {s s' : σ} {n : Nat} {d d' : Dev} (hn : 0 < n)
    (hr : run (S.read s n) d = (.ok ([], s'), d')) : run (readExact S s n) d = (.error S.eofErr, d') := by
  unfold readExact readExactLoop
  rw [if_neg (by omega), run_bind_ok hr]
  rfl

/-- `write_all` of a non-empty buffer that one `write` takes whole -/
theorem run_writeAll_of_write {σ} (S : Strm σ) {s s' : σ} {bs : List Nat} (hne : bs ≠ []) {d d' : Dev}
    (h : run (S.write s bs) d = (.ok (bs.length, s'), d')) : run (writeAll S s bs) d = (.ok s', d') := by
  obtain ⟨k, hk⟩ : ∃ k, bs.length = k + 1 := ⟨bs.length - 1, by have := List.length_pos_iff.mpr hne; omega⟩
  unfold writeAll
  rw [hk]
  unfold writeAllLoop
  rw [if_neg (by simpa using hne), run_bind_ok h]
  have hlen : bs.length ≠ 0 := by omega
  simp only [hlen, if_false, List.drop_length]
  unfold writeAllLoop
  cases k <;> rfl

/-! ### the device after fault-free calls -/

/-- image, write log, mounted state, fault schedule and recorded fault, drop depth, clock and the counters of writes and
    flushes coincide: only the position and the counters of calls, reads and seeks may differ -/
structure SameStore (d d' : Dev) : Prop where
  img : d'.img = d.img
  log : d'.log = d.log
  fs : d'.fs = d.fs
  failAt : d'.failAt = d.failAt
  fault : d'.fault = d.fault
  dropDepth : d'.dropDepth = d.dropDepth
  clock : d'.clock = d.clock
  tick : d'.tick = d.tick
  writes : d'.writes = d.writes
  flushes : d'.flushes = d.flushes

theorem SameStore.refl (d : Dev) : SameStore d d := ⟨rfl, rfl, rfl, rfl, rfl, rfl, rfl, rfl, rfl, rfl⟩

theorem SameStore.trans {a b c : Dev} (h1 : SameStore a b) (h2 : SameStore b c) : SameStore a c :=
  ⟨h2.img.trans h1.img, h2.log.trans h1.log, h2.fs.trans h1.fs, h2.failAt.trans h1.failAt,
   h2.fault.trans h1.fault, h2.dropDepth.trans h1.dropDepth, h2.clock.trans h1.clock, h2.tick.trans h1.tick,
   h2.writes.trans h1.writes, h2.flushes.trans h1.flushes⟩

/-- the device after one successful `read` that transferred `m` bytes -/
def Dev.didRead (d : Dev) (m : Nat) : Dev := { d.count .r with pos := d.pos + m }

/-- the device after one successful `seek` to `n` -/
def Dev.didSeek (d : Dev) (n : Nat) : Dev := { d.count .s with pos := n }

theorem sameStore_didRead (d : Dev) (m : Nat) : SameStore d (d.didRead m) :=
  ⟨rfl, rfl, rfl, rfl, rfl, rfl, rfl, rfl, rfl, rfl⟩
theorem sameStore_didSeek (d : Dev) (n : Nat) : SameStore d (d.didSeek n) :=
  ⟨rfl, rfl, rfl, rfl, rfl, rfl, rfl, rfl, rfl, rfl⟩

@[simp] theorem didRead_pos (d : Dev) (m : Nat) : (d.didRead m).pos = d.pos + m := rfl
@[simp] theorem didSeek_pos (d : Dev) (n : Nat) : (d.didSeek n).pos = n := rfl
@[simp] theorem didRead_reads (d : Dev) (m : Nat) : (d.didRead m).reads = d.reads + 1 := rfl
@[simp] theorem didSeek_reads (d : Dev) (n : Nat) : (d.didSeek n).reads = d.reads := rfl
@[simp] theorem didRead_seeks (d : Dev) (m : Nat) : (d.didRead m).seeks = d.seeks := rfl
@[simp] theorem didSeek_seeks (d : Dev) (n : Nat) : (d.didSeek n).seeks = d.seeks + 1 := rfl
@[simp] theorem didRead_failAt (d : Dev) (m : Nat) : (d.didRead m).failAt = d.failAt := rfl
@[simp] theorem didSeek_failAt (d : Dev) (n : Nat) : (d.didSeek n).failAt = d.failAt := rfl
@[simp] theorem didRead_img (d : Dev) (m : Nat) : (d.didRead m).img = d.img := rfl
@[simp] theorem didSeek_img (d : Dev) (n : Nat) : (d.didSeek n).img = d.img := rfl

/-! ### primitive device calls without a scheduled fault -/

theorem devCall_nofault {α} (k : CallKind) (d : Dev) (act : Dev → Except Err α × Dev) (h : d.failAt = none) :
    devCall k d act = act (d.count k) := by
  unfold devCall devCallCore
  rw [(count_frame d k).1, h]
  simp

theorem run_read (n : Nat) (d : Dev) (h : d.failAt = none) :
    run (Prog.read n) d =
      (.ok (d.img.read d.pos (min n (d.img.size - d.pos))), d.didRead (min n (d.img.size - d.pos))) := by
  show stepOp (.read n) d = _
  simp only [stepOp]
  rw [devCall_nofault _ _ _ h]
  rfl

theorem run_seekStart (n : Nat) (d : Dev) (h : d.failAt = none) :
    run (Prog.seekStart n) d = (.ok n, d.didSeek n) := by
  show stepOp (.seek (.start n)) d = _
  simp only [stepOp]
  rw [devCall_nofault _ _ _ h]
  rfl

/-- `seek(SeekFrom::Current(0))`: reports the position, which stays -/
theorem run_seekCur0 (d : Dev) (h : d.failAt = none) :
    run (Prog.seek (.cur 0)) d = (.ok d.pos, d.didSeek d.pos) := by
  show stepOp (.seek (.cur 0)) d = _
  simp only [stepOp]
  rw [devCall_nofault _ _ _ h]
  have hp : (d.count .s).pos = d.pos := rfl
  simp only [Int.add_zero, hp]
  rw [if_neg (by omega)]
  simp only [Int.toNat_natCast]
  rfl

/-! ### images -/

@[simp] theorem Img.read_length (i : Img) (off len : Nat) : (i.read off len).length = len := by
  simp [Img.read]

theorem Img.read_append (i : Img) (off a b : Nat) : i.read off (a + b) = i.read off a ++ i.read (off + a) b := by
  simp only [Img.read, List.range_add, List.map_append, List.map_map]
  congr 1
  apply List.map_congr_left
  intro k _
  simp [Nat.add_assoc]

theorem Img.read_zero (i : Img) (off : Nat) : i.read off 0 = [] := rfl

/-! ### `read_exact` on the raw device -/

/-- the device after `read_exact(n)` that succeeds with ONE read (no read at all for `n = 0`) -/
def Dev.readN (d : Dev) (n : Nat) : Dev := if n = 0 then d else d.didRead n

theorem sameStore_readN (d : Dev) (n : Nat) : SameStore d (d.readN n) := by
  unfold Dev.readN; split
  · exact SameStore.refl d
  · exact sameStore_didRead d n

@[simp] theorem readN_pos (d : Dev) (n : Nat) : (d.readN n).pos = d.pos + n := by
  unfold Dev.readN; split <;> simp_all

theorem readN_reads (d : Dev) (n : Nat) : (d.readN n).reads = d.reads + (if n = 0 then 0 else 1) := by
  unfold Dev.readN; split <;> simp_all

theorem run_devStrm_read (n : Nat) (d : Dev) (h : d.failAt = none) :
    run (devStrm.read () n) d =
      (.ok (d.img.read d.pos (min n (d.img.size - d.pos)), ()), d.didRead (min n (d.img.size - d.pos))) := by
  show run (Prog.read n >>= fun bs => pure (bs, ())) d = _
  rw [run_bind_ok (run_read n d h)]
  rfl

/-- `read_exact(n)` with the `n` bytes available: one device read, the bytes of the image, position advanced -/
theorem run_readExact_ok (d : Dev) (n : Nat) (h : d.failAt = none) (hsz : d.pos + n ≤ d.img.size) :
    run (readExact devStrm () n) d = (.ok (d.img.read d.pos n, ()), d.readN n) := by
  cases n with
  | zero => rfl
  | succ k =>
    have hr := run_devStrm_read (k + 1) d h
    rw [show min (k + 1) (d.img.size - d.pos) = k + 1 by omega] at hr
    exact run_readExact_of_read devStrm (Nat.succ_pos k) hr (Img.read_length ..)

/-- a device that ends before `pos + n`: `read_exact(n)` fails with the raw device's unexpected-EOF error
    (after one short read and one empty read, or one empty read), leaving image, log and mounted state alone -/
theorem run_readExactLoop_short : ∀ (fuel : Nat) (d : Dev) (n : Nat) (acc : List Nat), d.failAt = none → 0 < n →
    n + 1 ≤ fuel → d.img.size < d.pos + n →
    ∃ d', run (readExactLoop devStrm fuel () n acc) d = (.error (.io devEofErr), d') ∧ SameStore d d' := by
  intro fuel
  induction fuel with
  | zero => intro d n acc _ _ hf _; omega
  | succ fuel ih =>
    intro d n acc h hn hf hsz
    unfold readExactLoop
    rw [if_neg (by omega)]
    rw [run_bind_ok (run_devStrm_read n d h)]
    simp only [Img.read_length]
    by_cases hm : min n (d.img.size - d.pos) = 0
    · rw [if_pos hm]
      exact ⟨_, rfl, sameStore_didRead d _⟩
    · rw [if_neg hm]
      obtain ⟨d', h1, h2⟩ := ih (d.didRead (min n (d.img.size - d.pos))) (n - min n (d.img.size - d.pos))
        (acc ++ d.img.read d.pos (min n (d.img.size - d.pos))) h (by omega) (by omega)
        (by simp only [didRead_pos, didRead_img]; omega)
      exact ⟨d', h1, (sameStore_didRead d _).trans h2⟩

theorem run_readExact_short (d : Dev) (n : Nat) (h : d.failAt = none) (hn : 0 < n)
    (hsz : d.img.size < d.pos + n) :
    ∃ d', run (readExact devStrm () n) d = (.error (.io devEofErr), d') ∧ SameStore d d' :=
  run_readExactLoop_short (n + 1) d n [] h hn (Nat.le_refl _) hsz

/-! ### `readChunks` -/

/-- the device after the chunked `read_exact`s of sizes `ns` -/
def Dev.readChunks (d : Dev) (ns : List Nat) : Dev := ns.foldl Dev.readN d

theorem sameStore_readChunks : ∀ (ns : List Nat) (d : Dev), SameStore d (d.readChunks ns)
  | [], d => SameStore.refl d
  | n :: ns, d => (sameStore_readN d n).trans (sameStore_readChunks ns (d.readN n))

theorem readChunks_pos : ∀ (ns : List Nat) (d : Dev), (d.readChunks ns).pos = d.pos + ns.sum
  | [], d => by simp [Dev.readChunks]
  | n :: ns, d => by
    have := readChunks_pos ns (d.readN n)
    simp only [Dev.readChunks, List.foldl_cons, List.sum_cons] at this ⊢
    rw [this, readN_pos]; omega

theorem readChunks_reads : ∀ (ns : List Nat) (d : Dev),
    (d.readChunks ns).reads = d.reads + (ns.filter (· ≠ 0)).length
  | [], d => by simp [Dev.readChunks]
  | n :: ns, d => by
    have := readChunks_reads ns (d.readN n)
    simp only [Dev.readChunks, List.foldl_cons] at this ⊢
    rw [this, readN_reads]
    by_cases hn : n = 0 <;> simp [hn] <;> omega

theorem readN_seeks (d : Dev) (n : Nat) : (d.readN n).seeks = d.seeks := by
  unfold Dev.readN; split <;> rfl

theorem readChunks_seeks : ∀ (ns : List Nat) (d : Dev), (d.readChunks ns).seeks = d.seeks
  | [], _ => rfl
  | n :: ns, d => by
    have := readChunks_seeks ns (d.readN n)
    simp only [Dev.readChunks, List.foldl_cons] at this ⊢
    rw [this, readN_seeks]

theorem readChunks_append (d : Dev) (a b : List Nat) : d.readChunks (a ++ b) = (d.readChunks a).readChunks b := by
  simp [Dev.readChunks, List.foldl_append]

/-- the field-by-field `read_exact`s of a deserialiser, with all the bytes available: the concatenation is the
    image content, one device read per non-empty chunk -/
theorem run_readChunks_ok : ∀ (ns : List Nat) (d : Dev) (acc : List Nat), d.failAt = none →
    d.pos + ns.sum ≤ d.img.size →
    run (readChunks devStrm () ns acc) d = (.ok (acc ++ d.img.read d.pos ns.sum, ()), d.readChunks ns)
  | [], d, acc, _, _ => by simp [readChunks, Dev.readChunks, Img.read_zero]
  | n :: ns, d, acc, h, hsz => by
    simp only [List.sum_cons] at hsz
    unfold readChunks
    rw [run_bind_ok (run_readExact_ok d n h (by omega))]
    have hf : (d.readN n).failAt = none := by rw [(sameStore_readN d n).failAt, h]
    have := run_readChunks_ok ns (d.readN n) (acc ++ d.img.read d.pos n) hf
      (by rw [readN_pos, (sameStore_readN d n).img]; omega)
    simp only at this ⊢
    rw [this, readN_pos, (sameStore_readN d n).img, List.sum_cons, Img.read_append, List.append_assoc]
    rfl

/-! ### little-endian reads -/

theorem run_readU32 (d : Dev) (h : d.failAt = none) (hsz : d.pos + 4 ≤ d.img.size) :
    run (readU32 devStrm ()) d =
      (.ok (le32 (d.img.getByte d.pos) (d.img.getByte (d.pos + 1)) (d.img.getByte (d.pos + 2))
              (d.img.getByte (d.pos + 3)), ()), d.readN 4) := by
  unfold readU32
  rw [run_bind_ok (run_readExact_ok d 4 h hsz)]
  simp only [run_pure]
  rw [Img.read_getD _ _ _ 0 (by omega), Img.read_getD _ _ _ 1 (by omega), Img.read_getD _ _ _ 2 (by omega),
    Img.read_getD _ _ _ 3 (by omega)]
  rfl

theorem run_readU16 (d : Dev) (h : d.failAt = none) (hsz : d.pos + 2 ≤ d.img.size) :
    run (readU16 devStrm ()) d =
      (.ok (le16 (d.img.getByte d.pos) (d.img.getByte (d.pos + 1)), ()), d.readN 2) := by
  unfold readU16
  rw [run_bind_ok (run_readExact_ok d 2 h hsz)]
  simp only [run_pure]
  rw [Img.read_getD _ _ _ 0 (by omega), Img.read_getD _ _ _ 1 (by omega)]
  rfl

theorem run_readU8 (d : Dev) (h : d.failAt = none) (hsz : d.pos + 1 ≤ d.img.size) :
    run (readU8 devStrm ()) d = (.ok (d.img.getByte d.pos, ()), d.readN 1) := by
  unfold readU8
  rw [run_bind_ok (run_readExact_ok d 1 h hsz)]
  simp only [run_pure]
  rw [Img.read_getD _ _ _ 0 (by omega)]
  rfl

/-! ### bytes of an image are bytes -/

theorem Img.read_lt (i : Img) (off len : Nat) : ∀ x ∈ i.read off len, x < 256 := by
  intro x hx
  simp only [Img.read, List.mem_map] at hx
  obtain ⟨k, _, rfl⟩ := hx
  exact Img.getByte_lt i _

/-! ### a concrete image whose contents the kernel can see

`Img.write` goes through `Std.HashMap` and `ByteArray` loops that do not reduce in the kernel. `Img.ofBytes bytes size`
is a one-page image holding `bytes` at offset 0; its reads are given by lemmas, so that statements about concrete
devices can be discharged (`decide` on the byte LIST). -/

/-- an image of `size` bytes whose first `bytes.length ≤ 4096` bytes are `bytes` (the rest reads as 0) -/
def Img.ofBytes (bytes : List Nat) (size : Nat) : Img :=
  { size := size, pages := (∅ : Std.HashMap Nat ByteArray).insert 0 (ByteArray.mk (bytes.map UInt8.ofNat).toArray) }

/-- a byte of the one-page image, as an element of the list (stored as a `u8`) -/
theorem Img.ofBytes_getByte_mod (bytes : List Nat) (size k : Nat) (hk : k < 4096) :
    (Img.ofBytes bytes size).getByte k = bytes.getD k 0 % 256 := by
  unfold Img.getByte Img.ofBytes pageSize
  simp only [Nat.div_eq_of_lt hk, Nat.mod_eq_of_lt hk, Std.HashMap.getElem?_insert_self]
  show (ByteArray.get! _ k).toNat = _
  unfold ByteArray.get!
  simp
  cases h : bytes[k]? with
  | none => rfl
  | some x => simp only [Option.map_some, Option.getD_some]; rw [UInt8.toNat_ofNat']

theorem Img.ofBytes_getByte (bytes : List Nat) (size k : Nat) (hk : k < 4096) (hb : ∀ x ∈ bytes, x < 256) :
    (Img.ofBytes bytes size).getByte k = bytes.getD k 0 := by
  rw [Img.ofBytes_getByte_mod _ _ _ hk, List.getD_eq_getElem?_getD]
  cases h : bytes[k]? with
  | none => rfl
  | some x => exact Nat.mod_eq_of_lt (hb x (List.mem_of_getElem? h))

/-- a full page is a well-formed image -/
theorem Img.ofBytes_wf (bytes : List Nat) (size : Nat) (h : bytes.length = 4096) : (Img.ofBytes bytes size).WF := by
  intro k p hk
  simp only [Img.ofBytes, Std.HashMap.getElem?_insert] at hk
  split at hk
  · cases hk
    show (bytes.map UInt8.ofNat).toArray.size = 4096
    simp [h]
  · simp at hk

theorem Img.ofBytes_read (bytes : List Nat) (size off len : Nat) (hl : off + len ≤ 4096)
    (hb : ∀ x ∈ bytes, x < 256) :
    (Img.ofBytes bytes size).read off len = (List.range len).map fun k => bytes.getD (off + k) 0 := by
  unfold Img.read
  apply List.map_congr_left
  intro k hk
  rw [List.mem_range] at hk
  exact Img.ofBytes_getByte _ _ _ (by omega) hb

/-- the same as a slice of the list (cheap to evaluate) -/
theorem Img.ofBytes_read_slice (bytes : List Nat) (size off len : Nat) (hl : off + len ≤ 4096)
    (hlen : off + len ≤ bytes.length) (hb : ∀ x ∈ bytes, x < 256) :
    (Img.ofBytes bytes size).read off len = (bytes.drop off).take len := by
  rw [Img.ofBytes_read _ _ _ _ hl hb]
  apply List.ext_getElem
  · simp; omega
  · intro i h1 h2
    simp only [List.length_map, List.length_range] at h1
    simp only [List.getElem_map, List.getElem_range, List.getElem_take, List.getElem_drop]
    rw [List.getD_eq_getElem?_getD, List.getElem?_eq_getElem (by omega)]
    rfl

/-! ### `read_exact` on the raw device never panics or hangs (whatever the device, faults included) -/

theorem devStrm_read_nonFatal (n : Nat) : NonFatal (devStrm.read () n) :=
  NonFatal.bind (NonFatal.op (.read n)) (fun _ => NonFatal.pure _)

theorem readExactLoop_dev_nonFatal : ∀ (fuel n : Nat) (acc : List Nat), n + 1 ≤ fuel →
    NonFatal (readExactLoop devStrm fuel () n acc) := by
  intro fuel
  induction fuel with
  | zero => intro n acc h; omega
  | succ fuel ih =>
    intro n acc h
    unfold readExactLoop
    by_cases hn : n = 0
    · rw [if_pos hn]; exact NonFatal.pure _
    · rw [if_neg hn]
      refine NonFatal.bind (devStrm_read_nonFatal n) ?_
      rintro ⟨got, s'⟩
      show NonFatal (if got.length = 0 then _ else _)
      by_cases hg : got.length = 0
      · rw [if_pos hg]; exact NonFatal.fail _ rfl
      · rw [if_neg hg]; exact ih _ _ (by omega)

theorem readExact_dev_nonFatal (n : Nat) : NonFatal (readExact devStrm () n) :=
  readExactLoop_dev_nonFatal (n + 1) n [] (Nat.le_refl _)

theorem readU32_dev_nonFatal : NonFatal (readU32 devStrm ()) :=
  NonFatal.bind (readExact_dev_nonFatal 4) (fun _ => NonFatal.pure _)

theorem readU16_dev_nonFatal : NonFatal (readU16 devStrm ()) :=
  NonFatal.bind (readExact_dev_nonFatal 2) (fun _ => NonFatal.pure _)

theorem readU8_dev_nonFatal : NonFatal (readU8 devStrm ()) :=
  NonFatal.bind (readExact_dev_nonFatal 1) (fun _ => NonFatal.pure _)

theorem readChunks_dev_nonFatal : ∀ (ns : List Nat) (acc : List Nat), NonFatal (readChunks devStrm () ns acc)
  | [], _ => NonFatal.pure _
  | n :: ns, acc => by
    unfold readChunks
    exact NonFatal.bind (readExact_dev_nonFatal n) (fun b => readChunks_dev_nonFatal ns _)

end FatVerif
