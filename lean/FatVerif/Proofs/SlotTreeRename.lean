import FatVerif.Proofs.SlotTreeRenameAux
/-!
# Slot trees: for `rename` — an update along one path leaves the handle of another intact (`frame_upd`), when the
specification's erase and insert commute on the model's paths, and `Spec.evalRename` taken apart
-/
namespace FatVerif
namespace SlotTree
open Lfn DirSlots DirAlias

/-! ## the frame lemma: an update that only extends the directory it reaches leaves every handle intact -/

/-- `n'` extends `n`: a directory stays one, lists what it listed, and every lookup that succeeded (by name) still
    succeeds with the same result -/
def Ext (up : Char → List Char) (n n' : Node) : Prop :=
  match n with
  | .file _ => True
  | .dir s ch => ∃ s' ch', n' = .dir s' ch' ∧ (∀ e ∈ listing s, e ∈ listing s') ∧
      ∀ q x, lookupS up s ch q = some x → NameHitOnly up s q → lookupS up s' ch' q = some x ∧ NameHitOnly up s' q

theorem find_map_key {e : LfnEntry} (g : LfnEntry × Node → LfnEntry × Node) (hg : ∀ x, (g x).1 = x.1) :
    ∀ ch : List (LfnEntry × Node), (ch.map g).find? (fun y => y.1 == e) = (ch.find? fun y => y.1 == e).map g
  | [] => rfl
  | x :: r => by
    simp only [List.map_cons, List.find?_cons, hg x]
    cases hk : (x.1 == e) with
    | true => rfl
    | false => exact find_map_key g hg r

/-- `sp` may be `dp` itself, lie above it, below it or apart from it: the handle `sp` still leads to a directory, which
    lists at least what it listed -/
theorem frame_upd {up : Char → List Char} (f : Node → Node) : ∀ (sp dp : List String) (t : Node), TreeWf up t →
    Lock up t sp → (∀ n, getAtS up t dp = some n → Ext up n (f n)) →
    ∀ ss sch, getAtS up t sp = some (.dir ss sch) →
      Lock up (updS up f dp t) sp ∧ ∃ s1 ch1, getAtS up (updS up f dp t) sp = some (.dir s1 ch1) ∧
        ∀ e ∈ listing ss, e ∈ listing s1 := by
  intro sp
  induction sp with
  | nil =>
    intro dp t _ _ hext ss sch hg
    simp only [getAtS, Option.some.injEq] at hg
    subst hg
    refine ⟨trivial, ?_⟩
    cases dp with
    | nil =>
      obtain ⟨s', ch', he, hsub, _⟩ := hext _ rfl
      exact ⟨s', ch', he ▸ rfl, hsub⟩
    | cons q' r' =>
      simp only [updS]
      split
      · exact ⟨ss, sch, rfl, fun _ h => h⟩
      · exact ⟨ss, _, rfl, fun _ h => h⟩
  | cons q r ih =>
    intro dp t hwf hls hext ss sch hg
    obtain ⟨s, ch, x, rfl, hx, hg⟩ := getAtS_cons hg
    obtain ⟨hd, hch⟩ := (all_dir _ s ch).1 hwf
    simp only [Lock] at hls
    obtain ⟨hfx, hxm, hxl, hxq⟩ := lookupS_some hd hx
    cases dp with
    | nil =>
      obtain ⟨s', ch', he, _, hpres⟩ := hext _ rfl
      obtain ⟨p1, p2⟩ := hpres q x hx hls.1
      simp only [updS]
      rw [he]
      constructor
      · simp only [Lock]
        refine ⟨p2, fun y hy => ?_⟩
        rw [p1] at hy
        cases hy
        exact hls.2 x hx
      · simp only [getAtS, p1]
        exact ⟨ss, sch, hg, fun _ h => h⟩
    | cons q' r' =>
      simp only [updS]
      cases hf' : findEntry up s q'.toList with
      | none =>
        simp only
        exact ⟨by simp only [Lock]; exact hls, ss, sch, by simp only [getAtS, hx]; exact hg, fun _ h => h⟩
      | some k' =>
        simp only
        have hkeys : ∀ y : LfnEntry × Node, (if y.1 == k' then (y.1, updS up f r' y.2) else y).1 = y.1 := by
          intro y; split <;> rfl
        have hlk : lookupS up s (ch.map fun y => if y.1 == k' then (y.1, updS up f r' y.2) else y) q =
            some (if x.1 == k' then (x.1, updS up f r' x.2) else x) := by
          unfold lookupS
          rw [hfx]
          simp only
          rw [find_map_key _ hkeys ch, hd.find_key hxm]
          rfl
        by_cases hk : x.1 = k'
        · -- the update goes through the same child
          have hlq' : lookupS up s ch q' = some x := by
            unfold lookupS; rw [hf', ← hk]; exact hd.find_key hxm
          have hext' : ∀ n, getAtS up x.2 r' = some n → Ext up n (f n) := by
            intro n hn
            apply hext n
            simp only [getAtS, hlq']
            exact hn
          obtain ⟨i1, s1, ch1, i2, i3⟩ := ih r' x.2 (hch x hxm) (hls.2 x hx) hext' ss sch hg
          have hb : (x.1 == k') = true := by simpa using hk
          rw [hb] at hlk
          simp only [if_true] at hlk
          constructor
          · simp only [Lock]
            refine ⟨hls.1, fun y hy => ?_⟩
            rw [hlk] at hy
            cases hy
            exact i1
          · simp only [getAtS, hlk]
            exact ⟨s1, ch1, i2, i3⟩
        · have hb : (x.1 == k') = false := by simpa using hk
          rw [hb] at hlk
          simp only [Bool.false_eq_true, if_false] at hlk
          constructor
          · simp only [Lock]
            refine ⟨hls.1, fun y hy => ?_⟩
            rw [hlk] at hy
            cases hy
            exact hls.2 x hx
          · simp only [getAtS, hlk]
            exact ⟨ss, sch, hg, fun _ h => h⟩

/-- writing an entry extends the directory -/
theorem ext_addEntry {up : Char → List Char} {slots : List (List Nat)} {ch : List (LfnEntry × Node)}
    (hd : DirOk up slots ch) (units sfn : List Nat) (child : Node)
    (hwf' : DirWf up (writeEntry slots units sfn))
    (hU : UnitsOk units) (hsfn : slotClass sfn = .file) (hkind : Lfn.isDir sfn = child.isDir) :
    Ext up (.dir slots ch) (addEntry units sfn child (.dir slots ch)) := by
  obtain ⟨hd', hsub, hnew, hnotin⟩ := addEntry_dirOk hd units sfn child hwf' hU hsfn hkind
  refine ⟨_, _, addEntry_dir hd.wf.shape units sfn child ch hU hsfn, hsub, ?_⟩
  intro q x hx hq
  obtain ⟨_, hxm, hxl, hxq⟩ := lookupS_some hd hx
  have hxl' := hsub x.1 hxl
  constructor
  · exact lookupS_mono hd hd' hx (List.mem_append.2 (Or.inl hxm))
  · intro e' he' hm
    have hmem : e' ∈ (ch ++ [(newEntry slots units sfn, child)]).map (·.1) := hd'.perm.mem_iff.2 he'
    rw [List.map_append, List.mem_append] at hmem
    rcases hmem with hm1 | hm1
    · exact hq e' (hd.perm.mem_iff.1 hm1) hm
    · simp only [List.map_cons, List.map_nil, List.mem_singleton] at hm1
      have := match_unique up _ hwf'.keys e' he' x.1 hxl' _ hm hxq
      rw [hm1] at this
      rw [this] at hnotin
      exact absurd hxl hnotin

variable (u : Char → List Char)

/-! ## when the two abstract updates commute -/

theorem commCond_of_model (given : String) (e : LfnEntry) : ∀ (sp dp : List String) (t : Node),
    TreeWf (upOf u) t →
    ∀ ss sch, getAtS (upOf u) t sp = some (.dir ss sch) → e ∈ listing ss →
    ∀ ds dch, getAtS (upOf u) t dp = some (.dir ds dch) → findEntry (upOf u) ds given.toList = none →
    CommCond u given (entryName e) sp dp := by
  intro sp
  induction sp with
  | nil =>
    intro dp t hwf ss sch hgs he ds dch hgd hnone
    cases dp with
    | nil =>
      simp only [getAtS, Option.some.injEq] at hgs hgd
      subst hgs
      cases hgd
      obtain ⟨hd, _⟩ := (all_dir _ ss sch).1 hwf
      simp only [CommCond]
      cases hs : (cfgOf u).same given (entryName e) with
      | false => rfl
      | true =>
        rw [same_eq, sameName_iff, entryName_toList] at hs
        rw [findEntry_congr _ ss hs, findEntry_unique _ ss hd.wf _ e he (matches_self _ e)] at hnone
        cases hnone
    | cons _ _ => trivial
  | cons q r ih =>
    intro dp t hwf ss sch hgs he ds dch hgd hnone
    obtain ⟨s, ch, x, rfl, hx, hgs⟩ := getAtS_cons hgs
    obtain ⟨hd, hch⟩ := (all_dir _ s ch).1 hwf
    obtain ⟨hfx, hxm, _, _⟩ := lookupS_some hd hx
    cases dp with
    | nil =>
      simp only [getAtS, Option.some.injEq, Node.dir.injEq] at hgd
      obtain ⟨hg1, hg2⟩ := hgd
      subst hg1 hg2
      simp only [CommCond]
      cases hs : (cfgOf u).same given q with
      | false => rfl
      | true =>
        rw [same_eq, sameName_iff] at hs
        rw [findEntry_congr _ s hs, hfx] at hnone
        cases hnone
    | cons q' r' =>
      simp only [CommCond]
      intro hsame
      rw [same_eq] at hsame
      have hx' : lookupS (upOf u) s ch q' = some x := by rw [← lookupS_congr s ch hsame]; exact hx
      simp only [getAtS, hx'] at hgd
      exact ih r' x.2 (hch x hxm) ss sch hgs he ds dch hgd hnone

/-! ## the specification's verdict, taken apart

`Spec.evalRename` is `renameDecide` of what the resolved source gives (`srcROf`) and what the resolved destination gives
(`dstROf`), by unfolding (`evalRename_eq`); `rename_refines` treats the halves one after the other. -/

def srcROf (rp : Except (List Err) Spec.Final) : Except (List Err) (List String × String × Spec.TNode) :=
  match rp with
  | .error e => .error e
  | .ok (.dot none) => .error [.invalidInput]
  | .ok (.dot (some _)) => .error [.invalidInput]
  | .ok (.entry _ _ none) => .error [.notFound]
  | .ok (.entry parent _ (some (nm, c))) => .ok (parent, nm, c)

def dstROf (cfg : Spec.TreeCfg) (rp : Except (List Err) Spec.Final) :
    Except (List Err) (List String × String × Option String) :=
  match rp with
  | .error e => .error e
  | .ok (.dot none) => .error [.invalidInput]
  | .ok (.dot (some _)) => .error [.invalidInput]
  | .ok (.entry parent given none) =>
    if given == "" then .error (Spec.nameErr cfg "")
    else match cfg.validName given with
      | some e => .error [e]
      | none => .ok (parent, given, none)
  | .ok (.entry parent given (some (nm, _))) => .ok (parent, given, some nm)

def renameDecide (cfg : Spec.TreeCfg) (t : Spec.TNode)
    (srcR : Except (List Err) (List String × String × Spec.TNode))
    (dstR : Except (List Err) (List String × String × Option String)) : Spec.Outcome :=
  match srcR, dstR with
  | .error a, .error b => Spec.failWith t (a ++ b)
  | .error a, .ok (_, _, ex) => Spec.failWith t (a ++ if ex.isSome then [.alreadyExists] else [])
  | .ok _, .error b => Spec.failWith t b
  | .ok (sp, snm, node), .ok (dp, given, ex) =>
    let sameDir := sp.length == dp.length && Spec.isPrefixOf cfg sp dp
    match ex with
    | some dnm =>
      if sameDir && cfg.same dnm snm then { tree := t, target := sp ++ [snm] }
      else if node.isDir && Spec.isPrefixOf cfg (sp ++ [snm]) dp then Spec.failWith t [.alreadyExists, .invalidInput]
      else Spec.failWith t [.alreadyExists]
    | none =>
      if node.isDir && Spec.isPrefixOf cfg (sp ++ [snm]) dp then Spec.failWith t [.invalidInput]
      else
        let t1 := Spec.updateAt cfg (Spec.eraseChild cfg snm) sp t
        let t2 := Spec.updateAt cfg (Spec.insertChild given node) dp t1
        { tree := t2, needsSpace := true, target := dp ++ [given], moved := some (sp ++ [snm], dp ++ [given]) }

theorem evalRename_eq (cfg : Spec.TreeCfg) (t : Spec.TNode) (cwd : List String) (src : String) (dcwd : List String)
    (dst : String) :
    Spec.evalRename cfg t cwd src dcwd dst =
      renameDecide cfg t (srcROf (Spec.resolveParent cfg t cwd src)) (dstROf cfg (Spec.resolveParent cfg t dcwd dst)) := by
  unfold Spec.evalRename renameDecide srcROf dstROf
  rfl

theorem decide_src_err (cfg : Spec.TreeCfg) (t : Spec.TNode) (a : List Err) (e : Err) (he : e ∈ a)
    (dstR : Except (List Err) (List String × String × Option String)) :
    e ∈ (renameDecide cfg t (.error a) dstR).errs := by
  cases dstR with
  | error b => simp [renameDecide, Spec.failWith, he]
  | ok r => obtain ⟨_, _, ex⟩ := r; simp [renameDecide, Spec.failWith, he]

theorem decide_dst_err (cfg : Spec.TreeCfg) (t : Spec.TNode) (b : List Err) (e : Err) (he : e ∈ b)
    (srcR : Except (List Err) (List String × String × Spec.TNode)) :
    e ∈ (renameDecide cfg t srcR (.error b)).errs := by
  cases srcR with
  | error a => simp [renameDecide, Spec.failWith, he]
  | ok r => simp [renameDecide, Spec.failWith, he]

end SlotTree
end FatVerif
