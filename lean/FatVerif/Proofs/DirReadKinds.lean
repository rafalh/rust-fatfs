import FatVerif.Proofs.DirReadEntries
import FatVerif.Proofs.FileSimRead
/-! Directory reads: the two kinds of directory as directory sources.

    The fixed root region of FAT12/16 is a `DiskSlice`; its calls keep the store (`root_dirSrcK` for any `Keeps`
    relation). A cluster-chain directory (a subdirectory, or the root of FAT32) is a `File` without a size; its
    clusters are the chain of the decoded FAT of the image (`tabView`, from Proofs/FileSimIter.lean; forward
    `nextCluster` = `run_nextCluster` of Proofs/FileSimDefs.lean), and dropping a clone flushes: `ChainDir.dirSrc`. -/
namespace FatVerif.DirSim
open FatVerif.FileSim FatVerif.Fat

/-! ### the fixed root region -/

theorem inner_seek_evals (s : DiskSlice) (n : Nat) (d : Dev) (h : d.failAt = none) :
    ∃ d', run (s.inner.seek () (.start n)) d = (.ok (n, ()), d') ∧ SameStore d d' ∧ d'.pos = n := by
  have : run (Prog.bind (Prog.seekStart n) (fun m => Prog.pure (m, ()))) d = (.ok (n, ()), d.didSeek n) := by
    simp only [run, run_seekStart n d h]
  refine ⟨d.didSeek n, ?_, sameStore_didSeek d n, rfl⟩
  unfold DiskSlice.inner
  split <;> exact this

theorem inner_read_evals (s : DiskSlice) (n : Nat) (d : Dev) (h : d.failAt = none) :
    ∃ d', run (s.inner.read () n) d = (.ok (d.img.read d.pos (min n (d.img.size - d.pos)), ()), d') ∧ SameStore d d' := by
  have : run (Prog.bind (Prog.read n) (fun bs => Prog.pure (bs, ()))) d =
      (.ok (d.img.read d.pos (min n (d.img.size - d.pos)), ()), d.didRead (min n (d.img.size - d.pos))) := by
    simp only [run, run_read n d h]
  refine ⟨d.didRead (min n (d.img.size - d.pos)), ?_, sameStore_didRead d _⟩
  unfold DiskSlice.inner
  split <;> exact this

/-- `DiskSlice::read` of a slice inside the device -/
theorem slice_read_evals (s : DiskSlice) (n : Nat) (d : Dev) (h : d.failAt = none) (hle : s.offset ≤ s.size)
    (hdev : s.beginOff + s.size ≤ d.img.size) :
    Evals (s.read n) d (d.img.read (s.beginOff + s.offset) (min n (s.size - s.offset)),
      { s with offset := s.offset + min n (s.size - s.offset) }) := by
  unfold DiskSlice.read
  obtain ⟨d1, hr1, hs1, hp1⟩ := inner_seek_evals s (s.beginOff + s.offset) d h
  obtain ⟨d2, hr2, hs2⟩ := inner_read_evals s (min n (s.size - s.offset)) d1 (by rw [hs1.failAt]; exact h)
  have hmin : min (min n (s.size - s.offset)) (d1.img.size - d1.pos) = min n (s.size - s.offset) := by
    rw [hs1.img, hp1]; omega
  rw [hmin, hp1, hs1.img] at hr2
  refine ⟨d2, ?_, hs1.trans hs2⟩
  show run (Prog.bind _ (fun _ => Prog.bind _ _)) d = _
  simp only [run, hr1, hr2, Img.read_length]
  rfl

/-- the slice positioned at `o` -/
def sliceAt (s : DiskSlice) (o : Nat) : DiskSlice := { s with offset := o }

@[simp] theorem sliceAt_beginOff (s : DiskSlice) (o : Nat) : (sliceAt s o).beginOff = s.beginOff := rfl
@[simp] theorem sliceAt_size (s : DiskSlice) (o : Nat) : (sliceAt s o).size = s.size := rfl
@[simp] theorem sliceAt_offset (s : DiskSlice) (o : Nat) : (sliceAt s o).offset = o := rfl
@[simp] theorem sliceAt_sliceAt (s : DiskSlice) (a b : Nat) : sliceAt (sliceAt s a) b = sliceAt s b := rfl

theorem slice_seekCur0 (s : DiskSlice) (o : Nat) (ho : o ≤ s.size) :
    (sliceAt s o).seek (.cur 0) = Prog.pure (o, sliceAt s o) := by
  have h2 : ¬ (s.size < o) := by omega
  have h1 : ¬ ((o : Int) < 0) := by omega
  simp only [DiskSlice.seek, sliceAt, Int.add_zero, h1, if_false, Int.toNat_natCast]
  show (if s.size < o then _ else _) = _
  rw [if_neg h2]
  rfl

/-- **the fixed root region is a directory source** whose calls only read and seek: they keep the store, hence any
    relation that `Keeps` -/
theorem root_dirSrcK {K : Dev → Dev → Prop} (hK : Keeps K) (s : DiskSlice) (N : Nat) (hN : s.size = 32 * N) (d : Dev)
    (h : d.failAt = none) (hdev : s.beginOff + s.size ≤ d.img.size) :
    DirSrcK K d (fun o => .root (sliceAt s o)) N (fun o => s.beginOff + o) (fun o => s.size - o) := by
  refine { keeps := hK, read := ?_, room_end := ?_, src_step := ?_, room_step := ?_, room_le := ?_, room_slot := ?_,
           seekCur := ?_, absPos := ?_, drop := ?_ }
  · intro d1 hv o n ho
    have hle : o ≤ s.size := by omega
    have := slice_read_evals (sliceAt s o) n d1 (by rw [hv.failAt]; exact h) hle (by rw [hv.img]; exact hdev)
    rw [hv.img] at this
    simp only [DirStream.read]
    exact Runs.bind hK (Runs.ofStore hK this) (fun d2 _ => Runs.pure hK _ d2)
  · omega
  · intro o j _; omega
  · intro o j _; omega
  · intro o ho; omega
  · intro o _ hr; omega
  · intro d1 _ o ho
    simp only [DirStream.seek, slice_seekCur0 s o (by omega)]
    exact Runs.bind hK (Runs.pure hK _ d1) (fun d2 _ => Runs.pure hK _ d2)
  · intro d1 _ o _ hpos _
    simp only [DirStream.absPos, DiskSlice.absPos, sliceAt_beginOff, sliceAt_offset]
    have : s.beginOff + (o - 32) + 32 = s.beginOff + o := by omega
    rw [this]
    exact Runs.pure hK _ d1
  · intro d1 _ o _
    exact Runs.pure hK _ d1

theorem root_dirSrc (s : DiskSlice) (N : Nat) (hN : s.size = 32 * N) (d : Dev) (h : d.failAt = none)
    (hdev : s.beginOff + s.size ≤ d.img.size) :
    DirSrc d (fun o => .root (sliceAt s o)) N (fun o => s.beginOff + o) (fun o => s.size - o) :=
  (root_dirSrcK Keeps.vol s N hN d h hdev).toSrc

/-- the entries of that source are those built with `toDirEntry` -/
theorem toDirEntryS_root_mem (B : Nat) {alloc sv : Bool} {L : List (List Nat)} {e : LfnEntry}
    (h : e ∈ readDirEntries alloc sv L) : toDirEntryS (fun o => B + o) e = toDirEntry B e :=
  toDirEntryS_root B e (by have := readLoop_bounds alloc sv L 0 0 _ (Nat.le_refl _) e h; omega)

theorem lookupL_map_root (B : Nat) {alloc sv : Bool} {L : List (List Nat)} (upper : Char → List Char) (name : List Char)
    (isDir : Option Bool) :
    (lookupL upper name isDir (readDirEntries alloc sv L)).map (toDirEntryS fun o => B + o) =
      (lookupL upper name isDir (readDirEntries alloc sv L)).map (toDirEntry B) := by
  cases h : lookupL upper name isDir (readDirEntries alloc sv L) with
  | error _ => rfl
  | ok e => exact congrArg Except.ok (toDirEntryS_root_mem B (lookupL_ok _ _ _ _ _ h).1)

/-! ### arithmetic of byte offsets in clusters -/

theorem div_of_bounds {x cs q : Nat} (h1 : q * cs ≤ x) (h2 : x < q * cs + cs) : x / cs = q :=
  Nat.div_eq_of_lt_le h1 (by rw [Nat.add_mul, Nat.one_mul]; exact h2)

theorem mod_of_bounds {x cs q : Nat} (h1 : q * cs ≤ x) (h2 : x < q * cs + cs) : x % cs = x - q * cs := by
  have hd := div_of_bounds h1 h2
  have := Nat.div_add_mod x cs
  rw [hd, Nat.mul_comm] at this
  omega

/-- `o = q * cs + r` with `r < cs` -/
theorem decomp (o cs : Nat) (hcs : 0 < cs) : o / cs * cs + o % cs = o ∧ o % cs < cs := by
  have := Nat.div_add_mod o cs
  rw [Nat.mul_comm] at this
  exact ⟨this, Nat.mod_lt _ hcs⟩

theorem div_mod_add {o j cs : Nat} (hcs : 0 < cs) (h : o % cs + j < cs) :
    (o + j) / cs = o / cs ∧ (o + j) % cs = o % cs + j := by
  obtain ⟨h1, h2⟩ := decomp o cs hcs
  have b1 : o / cs * cs ≤ o + j := by omega
  have b2 : o + j < o / cs * cs + cs := by omega
  exact ⟨div_of_bounds b1 b2, by rw [mod_of_bounds b1 b2]; omega⟩

theorem pred_div_pos {o cs : Nat} (hcs : 0 < cs) (ho : 0 < o) (h0 : o % cs = 0) : 1 ≤ o / cs := by
  obtain ⟨h1, _⟩ := decomp o cs hcs
  rcases Nat.eq_zero_or_pos (o / cs) with h | h
  · rw [h] at h1; omega
  · exact h

/-- the cluster of the byte before `o` -/
theorem pred_div {o cs : Nat} (hcs : 0 < cs) (ho : 0 < o) :
    (o - 1) / cs = if o % cs = 0 then o / cs - 1 else o / cs := by
  obtain ⟨h1, h2⟩ := decomp o cs hcs
  split
  · rename_i h0
    have hq := pred_div_pos hcs ho h0
    have hm : (o / cs - 1) * cs = o / cs * cs - cs := by rw [Nat.sub_mul, Nat.one_mul]
    have hge : cs ≤ o / cs * cs := Nat.le_mul_of_pos_left _ hq
    exact div_of_bounds (by omega) (by omega)
  · exact div_of_bounds (by omega) (by omega)

/-- the end of the previous slot, as `File::abs_pos` computes it -/
theorem slot_pred {o cs : Nat} (hcs : 0 < cs) (hc32 : cs % 32 = 0) (ho32 : o % 32 = 0) (ho : 0 < o) :
    (o - 32) / cs = (o - 1) / cs ∧ (o - 32) % cs + 32 = if o % cs = 0 then cs else o % cs := by
  obtain ⟨h1, h2⟩ := decomp o cs hcs
  have hr32 : o % cs % 32 = 0 := by
    rw [Nat.mod_mod_of_dvd o (Nat.dvd_of_mod_eq_zero hc32)]; exact ho32
  rw [pred_div hcs ho]
  split
  · rename_i h0
    have hq := pred_div_pos hcs ho h0
    have hm : (o / cs - 1) * cs = o / cs * cs - cs := by rw [Nat.sub_mul, Nat.one_mul]
    have hge : cs ≤ o / cs * cs := Nat.le_mul_of_pos_left _ hq
    have b1 : (o / cs - 1) * cs ≤ o - 32 := by omega
    have b2 : o - 32 < (o / cs - 1) * cs + cs := by omega
    exact ⟨div_of_bounds b1 b2, by rw [mod_of_bounds b1 b2]; omega⟩
  · have b1 : o / cs * cs ≤ o - 32 := by omega
    have b2 : o - 32 < o / cs * cs + cs := by omega
    exact ⟨div_of_bounds b1 b2, by rw [mod_of_bounds b1 b2]; omega⟩

theorem lt_mul_of_div_lt {o cs L : Nat} (hcs : 0 < cs) (h : o / cs < L) : o < L * cs := by
  obtain ⟨h1, h2⟩ := decomp o cs hcs
  have : (o / cs + 1) * cs ≤ L * cs := Nat.mul_le_mul_right _ h
  rw [Nat.add_mul, Nat.one_mul] at this
  omega

theorem div_lt_of_lt_mul {o cs L : Nat} (hcs : 0 < cs) (h : o < L * cs) : o / cs < L :=
  (Nat.div_lt_iff_lt_mul hcs).mpr h

/-! ### the handle of a cluster-chain directory -/

/-- the handle positioned at byte `o`: the current cluster is the cluster of the byte before `o` -/
def dirFile (f0 : FileH) (chain : List Nat) (cs o : Nat) : FileH :=
  { f0 with offset := o, currentCluster := if o = 0 then none else chain[(o - 1) / cs]? }

/-- the part of `ChainDir` that reading, seeking and writing through the handle need (everything except that the
    handle's entry has nothing to write back) -/
structure ChainCore (d : Dev) (f0 : FileH) (c0 : Nat) (chain : List Nat) : Prop where
  failAt : d.failAt = none
  geo : Geo d.fs d.img.size
  first : f0.firstCluster = some c0
  link : Chain (tabView d.fs d.img) c0 chain
  inTab : ∀ c ∈ chain, 2 ≤ c ∧ c < d.fs.totalClusters + 2
  nosize : f0.size? = none
  noacc : d.fs.accDate = false ∨ f0.entry = none
  cs32 : d.fs.clusterSize % 32 = 0
  u32 : chain.length * d.fs.clusterSize < 4294967296

/-- a cluster-chain directory readable on `d`: no fault scheduled, layout `Geo`, the chain of `c0` in the decoded FAT
    of the image lies inside the table; the handle has no size (a directory), its entry (if any) has nothing to write
    back, and reads do not stamp it (`update_accessed_date` off, or no entry: the root of FAT32) -/
structure ChainDir (d : Dev) (f0 : FileH) (c0 : Nat) (chain : List Nat) : Prop where
  failAt : d.failAt = none
  geo : Geo d.fs d.img.size
  first : f0.firstCluster = some c0
  link : Chain (tabView d.fs d.img) c0 chain
  inTab : ∀ c ∈ chain, 2 ≤ c ∧ c < d.fs.totalClusters + 2
  nosize : f0.size? = none
  noacc : d.fs.accDate = false ∨ f0.entry = none
  clean : ∀ e, f0.entry = some e → e.dirty = false
  cs32 : d.fs.clusterSize % 32 = 0
  u32 : chain.length * d.fs.clusterSize < 4294967296

theorem ChainDir.core {d : Dev} {f0 : FileH} {c0 : Nat} {chain : List Nat} (C : ChainDir d f0 c0 chain) :
    ChainCore d f0 c0 chain :=
  ⟨C.failAt, C.geo, C.first, C.link, C.inTab, C.nosize, C.noacc, C.cs32, C.u32⟩

theorem ChainCore.of_sameVol {d d1 : Dev} {f0 : FileH} {c0 : Nat} {chain : List Nat} (C : ChainCore d f0 c0 chain)
    (hv : SameVol d d1) : ChainCore d1 f0 c0 chain :=
  ⟨by rw [hv.failAt]; exact C.failAt, by rw [hv.fs, hv.img]; exact C.geo, C.first, by rw [hv.fs, hv.img]; exact C.link,
   by rw [hv.fs]; exact C.inTab, C.nosize, by rw [hv.fs]; exact C.noacc, by rw [hv.fs]; exact C.cs32,
   by rw [hv.fs]; exact C.u32⟩

theorem ChainDir.of_sameVol {d d1 : Dev} {f0 : FileH} {c0 : Nat} {chain : List Nat} (C : ChainDir d f0 c0 chain)
    (hv : SameVol d d1) : ChainDir d1 f0 c0 chain :=
  have C1 := C.core.of_sameVol hv
  ⟨C1.failAt, C1.geo, C1.first, C1.link, C1.inTab, C1.nosize, C1.noacc, C.clean, C1.cs32, C1.u32⟩

/-- device offset of stream byte `o` -/
def chainSrc (fs : FsState) (chain : List Nat) (o : Nat) : Nat :=
  clusterOff fs (chain.getD (o / fs.clusterSize) 0) + o % fs.clusterSize

/-- bytes one `read` can deliver at `o`: up to the end of the cluster; none at the end of the chain -/
def chainRoom (fs : FsState) (chain : List Nat) (o : Nat) : Nat :=
  if o < chain.length * fs.clusterSize then fs.clusterSize - o % fs.clusterSize else 0

/-- the stream of a cluster-chain directory positioned at byte `o` -/
def chainS (f0 : FileH) (chain : List Nat) (cs : Nat) (o : Nat) : DirStream := .file (dirFile f0 chain cs o)

/-- the handle after an access of `k > 0` bytes at `o` that stays inside its cluster `cur`, the `o / cs`-th of `chain`
    (which the handle need not have known before: growth) -/
theorem dirFile_advance {f0 : FileH} {chain : List Nat} {cs o k cur : Nat} (hcs : 0 < cs) (hcur : chain[o / cs]? = some cur)
    (hk : 0 < k) (hfit : o % cs + k ≤ cs) (chain0 : List Nat) :
    ({ dirFile f0 chain0 cs o with offset := o + k, currentCluster := some cur } : FileH) = dirFile f0 chain cs (o + k) := by
  have hne : o + k ≠ 0 := by omega
  have hd : (o + k - 1) / cs = o / cs := by
    have := (div_mod_add (o := o) (j := k - 1) hcs (by omega)).1
    rw [← this]; congr 1; omega
  simp only [dirFile, if_neg hne, hd, hcur]

section chain
variable {d : Dev} {f0 : FileH} {c0 : Nat} {chain : List Nat}

theorem dirFile_size? (cs o : Nat) : (dirFile f0 chain cs o).size? = f0.size? := rfl

theorem ChainCore.head (C : ChainCore d f0 c0 chain) : chain[0]? = some c0 := by
  obtain ⟨t, ht⟩ := chain_head C.link
  rw [ht]; rfl

/-- the cluster `File::read` selects at `o`: the `o / cs`-th of the chain, if any -/
theorem ChainCore.curOpt (C : ChainCore d f0 c0 chain) (o : Nat) (ho : o ≤ chain.length * d.fs.clusterSize) :
    ∃ d1, run (if o % d.fs.clusterSize = 0 then (dirFile f0 chain d.fs.clusterSize o).boundaryCluster
               else pure (dirFile f0 chain d.fs.clusterSize o).currentCluster) d =
      (.ok chain[o / d.fs.clusterSize]?, d1) ∧ SameStore d d1 := by
  have hcs := C.geo.cs_pos
  by_cases hm : o % d.fs.clusterSize = 0
  · rw [if_pos hm]
    unfold FileH.boundaryCluster
    by_cases h0 : o = 0
    · subst h0
      simp only [dirFile, if_true, Nat.zero_div, C.head, C.first]
      exact ⟨d, rfl, SameStore.refl d⟩
    · have hq := pred_div_pos hcs (by omega) hm
      have hle : o / d.fs.clusterSize ≤ chain.length := Nat.div_le_of_le_mul (by rw [Nat.mul_comm]; exact ho)
      have hp : (o - 1) / d.fs.clusterSize = o / d.fs.clusterSize - 1 := by
        rw [pred_div hcs (by omega), if_pos hm]
      have hlt : o / d.fs.clusterSize - 1 < chain.length := by omega
      have hget : chain[o / d.fs.clusterSize - 1]? = some chain[o / d.fs.clusterSize - 1] :=
        List.getElem?_eq_getElem hlt
      simp only [dirFile, if_neg h0, hp, hget]
      obtain ⟨d1, h1, hs1⟩ := run_nextCluster chain[o / d.fs.clusterSize - 1] d C.failAt C.geo
        (C.inTab _ (List.getElem_mem hlt)).2
      refine ⟨d1, ?_, hs1⟩
      rw [h1, chain_nextV_getElem? C.link _ _ hget, Nat.sub_add_cancel hq]
  · rw [if_neg hm]
    have h0 : o ≠ 0 := by rintro rfl; simp at hm
    have hp : (o - 1) / d.fs.clusterSize = o / d.fs.clusterSize := by
      rw [pred_div hcs (by omega), if_neg hm]
    simp only [dirFile, if_neg h0, hp]
    exact ⟨d, rfl, SameStore.refl d⟩

/-- **one `File::read` on a cluster-chain directory**: the bytes of the image from the stream position to the end of
    the cluster (at most `n`), nothing at the end of the chain -/
theorem ChainCore.file_read (C : ChainCore d f0 c0 chain) (o n : Nat) (ho : o ≤ chain.length * d.fs.clusterSize) :
    Evals ((dirFile f0 chain d.fs.clusterSize o).read n) d
      (d.img.read (chainSrc d.fs chain o) (min n (chainRoom d.fs chain o)),
       dirFile f0 chain d.fs.clusterSize (o + min n (chainRoom d.fs chain o))) := by
  have hcs := C.geo.cs_pos
  obtain ⟨d1, h1, hs1⟩ := C.curOpt o ho
  obtain ⟨hq1, hq2⟩ := decomp o d.fs.clusterSize hcs
  have hoff : (dirFile f0 chain d.fs.clusterSize o).offset = o := rfl
  have hsz : (dirFile f0 chain d.fs.clusterSize o).size? = none := C.nosize
  unfold Evals FileH.read
  rw [run_bind_ok (run_getFs d)]
  simp only
  rw [hoff, run_bind_ok h1]
  cases hcur : chain[o / d.fs.clusterSize]? with
  | none =>
    have hge : chain.length ≤ o / d.fs.clusterSize := by
      rcases Nat.lt_or_ge (o / d.fs.clusterSize) chain.length with h | h
      · rw [List.getElem?_eq_getElem h] at hcur; cases hcur
      · exact h
    have hnl : ¬ o < chain.length * d.fs.clusterSize := fun h => by
      have := div_lt_of_lt_mul hcs h; omega
    simp only [chainRoom, if_neg hnl, Nat.min_zero, Nat.add_zero, Img.read_zero]
    exact ⟨d1, rfl, hs1⟩
  | some cur =>
    have hlt : o / d.fs.clusterSize < chain.length := by
      rcases Nat.lt_or_ge (o / d.fs.clusterSize) chain.length with h | h
      · exact h
      · rw [List.getElem?_eq_none h] at hcur; cases hcur
    have holt : o < chain.length * d.fs.clusterSize := lt_mul_of_div_lt hcs hlt
    have hmem : cur ∈ chain := List.mem_of_getElem? hcur
    obtain ⟨hc2, hct⟩ := C.inTab cur hmem
    have hgetD : chain.getD (o / d.fs.clusterSize) 0 = cur := by
      rw [List.getD_eq_getElem?_getD, hcur]; rfl
    simp only [hsz, chainRoom, if_pos holt, chainSrc, hgetD]
    generalize hk : min n (d.fs.clusterSize - o % d.fs.clusterSize) = k
    have hkk : min k (d.fs.clusterSize - o % d.fs.clusterSize) = k := by
      omega
    rw [hkk]
    by_cases hk0 : k = 0
    · rw [if_pos hk0, hk0, Nat.add_zero, Img.read_zero]
      exact ⟨d1, rfl, hs1⟩
    · rw [if_neg hk0]
      have hfa1 : d1.failAt = none := by rw [hs1.failAt]; exact C.failAt
      rw [run_bind_ok (run_offsetFromClusterP C.geo cur hc2 hct d1)]
      rw [run_bind_ok (run_seekStart _ d1 hfa1)]
      have hdev := C.geo.cluster_dev hc2 hct
      have hmin : min k ((d1.didSeek (clusterOff d.fs cur + o % d.fs.clusterSize)).img.size -
          (d1.didSeek (clusterOff d.fs cur + o % d.fs.clusterSize)).pos) = k := by
        simp only [didSeek_img, didSeek_pos, hs1.img]; omega
      rw [run_bind_ok (run_read k _ (by simpa using hfa1)), hmin]
      simp only [Img.read_length, if_neg hk0, didSeek_img, didSeek_pos, hs1.img]
      have hstore : SameStore d ((d1.didSeek (clusterOff d.fs cur + o % d.fs.clusterSize)).didRead k) :=
        hs1.trans ((sameStore_didSeek _ _).trans (sameStore_didRead _ _))
      have hnew : ∀ ent, f0.entry = ent →
          ({ firstCluster := (dirFile f0 chain d.fs.clusterSize o).firstCluster, currentCluster := some cur,
             offset := o + k, entry := ent } : FileH) = dirFile f0 chain d.fs.clusterSize (o + k) := fun ent hent =>
        hent ▸ dirFile_advance hcs hcur (by omega) (by omega) chain
      have hent : (dirFile f0 chain d.fs.clusterSize o).entry = f0.entry := rfl
      rw [hent]
      rcases C.noacc with hacc | hnone
      · cases he : f0.entry with
        | none => simp only; rw [hnew _ he]; exact ⟨_, rfl, hstore⟩
        | some e =>
          simp only [hacc, Bool.false_eq_true, if_false]
          rw [hnew _ he]; exact ⟨_, rfl, hstore⟩
      · simp only [hnone]; rw [hnew _ hnone]; exact ⟨_, rfl, hstore⟩

theorem ChainDir.head (C : ChainDir d f0 c0 chain) : chain[0]? = some c0 := C.core.head

theorem ChainDir.file_read (C : ChainDir d f0 c0 chain) (o n : Nat) (ho : o ≤ chain.length * d.fs.clusterSize) :
    Evals ((dirFile f0 chain d.fs.clusterSize o).read n) d
      (d.img.read (chainSrc d.fs chain o) (min n (chainRoom d.fs chain o)),
       dirFile f0 chain d.fs.clusterSize (o + min n (chainRoom d.fs chain o))) := C.core.file_read o n ho

theorem run_flush_ok (d : Dev) (h : d.failAt = none) :
    ∃ d', run Prog.flush d = (.ok (), d') ∧ SameVol d d' := by
  refine ⟨{ d.count .f with log := .flush :: (d.count .f).log }, ?_, ?_⟩
  · show stepOp .flush d = _
    simp only [stepOp]
    rw [devCall_nofault _ _ _ h]
  · have hc : (d.count .f).img = d.img ∧ (d.count .f).fs = d.fs ∧ (d.count .f).log = d.log := by
      unfold Dev.count; simp
    exact ⟨hc.1, hc.2.1, (count_frame d .f).1, by
      show List.filter _ (_ :: (d.count .f).log) = List.filter _ d.log
      rw [hc.2.2]; rfl⟩

theorem ChainCore.byteSrc (C : ChainCore d f0 c0 chain) {T : Nat} (hT : T = chain.length * d.fs.clusterSize) :
    ByteSrc d (chainS f0 chain d.fs.clusterSize) T (chainSrc d.fs chain) (chainRoom d.fs chain) := by
  have hcs := C.geo.cs_pos
  subst hT
  refine ⟨?_, ?_, ?_, ?_, ?_, ?_⟩
  · intro d1 hv o n ho
    have := Runs.ofStore Keeps.vol ((C.of_sameVol hv).file_read o n (by rw [hv.fs]; exact ho))
    rw [hv.fs, hv.img] at this
    simp only [chainS, DirStream.read]
    exact Reads.bind this (fun d2 _ => Reads.pure _ d2)
  · simp [chainRoom]
  · intro o j hj
    unfold chainRoom at hj
    split at hj
    · have := div_mod_add (o := o) (j := j) hcs (by omega)
      simp only [chainSrc, this.1, this.2]; omega
    · omega
  · intro o j hj
    unfold chainRoom at hj ⊢
    split at hj
    · rename_i hlt
      have := div_mod_add (o := o) (j := j) hcs (by omega)
      have hlt' : o + j < chain.length * d.fs.clusterSize := by
        apply lt_mul_of_div_lt hcs
        rw [this.1]; exact div_lt_of_lt_mul hcs hlt
      rw [if_pos hlt', if_pos hlt, this.2]; omega
    · omega
  · intro o ho
    unfold chainRoom
    split
    · rename_i hlt
      obtain ⟨h1, h2⟩ := decomp o d.fs.clusterSize hcs
      have hq := div_lt_of_lt_mul hcs hlt
      have : (o / d.fs.clusterSize + 1) * d.fs.clusterSize ≤ chain.length * d.fs.clusterSize :=
        Nat.mul_le_mul_right _ hq
      rw [Nat.add_mul, Nat.one_mul] at this
      omega
    · omega
  · intro o ho32 hroom
    unfold chainRoom
    rw [if_pos (by omega)]
    have hr32 : o % d.fs.clusterSize % 32 = 0 := by
      rw [Nat.mod_mod_of_dvd o (Nat.dvd_of_mod_eq_zero C.cs32)]; exact ho32
    have := Nat.mod_lt o hcs
    have := C.cs32
    omega

theorem ChainDir.byteSrc (C : ChainDir d f0 c0 chain) {T : Nat} (hT : T = chain.length * d.fs.clusterSize) :
    ByteSrc d (chainS f0 chain d.fs.clusterSize) T (chainSrc d.fs chain) (chainRoom d.fs chain) := C.core.byteSrc hT

theorem dirFile_seekCur0 (C : ChainCore d f0 c0 chain) (o : Nat) (ho : o ≤ chain.length * d.fs.clusterSize) (d1 : Dev) :
    Reads ((dirFile f0 chain d.fs.clusterSize o).seek (.cur 0)) d1 (o, dirFile f0 chain d.fs.clusterSize o) := by
  have hu := C.u32
  have hoff : (dirFile f0 chain d.fs.clusterSize o).offset = o := rfl
  have hsz : (dirFile f0 chain d.fs.clusterSize o).size? = none := C.nosize
  unfold FileH.seek
  refine Reads.bind (Reads.getFs d1) (fun d2 _ => ?_)
  have h1 : (-9223372036854775808 : Int) ≤ (o : Int) ∧ (o : Int) ≤ 9223372036854775807 := by omega
  have h2 : (0 : Int) ≤ (o : Int) ∧ (o : Int) < 4294967296 := by omega
  simp only [hoff, hsz, Int.add_zero, Option.bind, h1, h2, and_self, if_true, Int.toNat_natCast]
  exact Reads.pure _ d2

/-- **a cluster-chain directory is a directory source** (its destructor flushes: the volume is kept, not the log) -/
theorem ChainDir.dirSrc (C : ChainDir d f0 c0 chain) :
    DirSrc d (chainS f0 chain d.fs.clusterSize) (chain.length * (d.fs.clusterSize / 32)) (chainSrc d.fs chain)
      (chainRoom d.fs chain) := by
  have hcs := C.geo.cs_pos
  have hT : 32 * (chain.length * (d.fs.clusterSize / 32)) = chain.length * d.fs.clusterSize := by
    have := Nat.div_add_mod d.fs.clusterSize 32
    rw [C.cs32, Nat.add_zero] at this
    rw [Nat.mul_left_comm, this]
  refine { toByteSrc := C.core.byteSrc hT, seekCur := ?_, absPos := ?_, drop := ?_ }
  · intro d1 hv o ho
    rw [hT] at ho
    simp only [chainS, DirStream.seek]
    exact Reads.bind (dirFile_seekCur0 C.core o ho d1) (fun d2 _ => Reads.pure _ d2)
  · intro d1 hv o ho32 hpos ho
    rw [hT] at ho
    have hle : o / d.fs.clusterSize ≤ chain.length := Nat.div_le_of_le_mul (by rw [Nat.mul_comm]; exact ho)
    obtain ⟨hs1, hs2⟩ := slot_pred hcs C.cs32 ho32 hpos
    have hlt : (o - 1) / d.fs.clusterSize < chain.length := by
      rw [pred_div hcs hpos]
      split
      · rename_i h0; have := pred_div_pos hcs hpos h0; omega
      · rename_i h0
        apply div_lt_of_lt_mul hcs
        rcases Nat.lt_or_ge o (chain.length * d.fs.clusterSize) with h | h
        · exact h
        · have : o = chain.length * d.fs.clusterSize := by omega
          rw [this, Nat.mul_mod_left] at h0; exact absurd rfl h0
    have hget : chain[(o - 1) / d.fs.clusterSize]? = some chain[(o - 1) / d.fs.clusterSize] :=
      List.getElem?_eq_getElem hlt
    obtain ⟨hc2, hct⟩ := C.inTab _ (List.getElem_mem hlt)
    have hne : o ≠ 0 := by omega
    simp only [chainS, DirStream.absPos, FileH.absPos, dirFile, if_neg hne, hget]
    have hrun : ∀ dd : Dev, run (offsetFromClusterP d.fs chain[(o - 1) / d.fs.clusterSize]) dd =
        (.ok (clusterOff d.fs chain[(o - 1) / d.fs.clusterSize]), dd) :=
      fun dd => run_offsetFromClusterP C.geo _ hc2 hct dd
    refine Reads.bind ⟨d1, hrun d1, SameVol.refl d1⟩ (fun d2 _ => ?_)
    have hval : chainSrc d.fs chain (o - 32) + 32 =
        clusterOff d.fs chain[(o - 1) / d.fs.clusterSize] +
          (if o % d.fs.clusterSize = 0 then d.fs.clusterSize else o % d.fs.clusterSize) := by
      unfold chainSrc
      rw [hs1, ← hs2, List.getD_eq_getElem?_getD, hget]
      simp only [Option.getD]; omega
    rw [hval]
    exact Reads.pure _ d2
  · intro d1 hv o ho
    simp only [chainS, DirStream.dropBody, FileH.flush]
    -- nothing to write back: the destructor only flushes the storage
    have hfd : FileH.flushDirEntry (dirFile f0 chain d.fs.clusterSize o) =
        Prog.pure (dirFile f0 chain d.fs.clusterSize o) := by
      unfold FileH.flushDirEntry
      have hent : (dirFile f0 chain d.fs.clusterSize o).entry = f0.entry := rfl
      rw [hent]
      cases he : f0.entry with
      | none => rfl
      | some e => simp only [C.clean e he, Bool.false_eq_true, if_false]; rfl
    rw [hfd]
    refine Reads.bind (b := dirFile f0 chain d.fs.clusterSize o) (Reads.bind (Reads.pure _ d1) (fun d2 hs2 => ?_))
      (fun d3 _ => Reads.pure _ d3)
    obtain ⟨d3, hr3, hs3⟩ := run_flush_ok d2 (by rw [hs2.failAt, hv.failAt]; exact C.failAt)
    exact Reads.bind ⟨d3, hr3, hs3⟩ (fun d4 _ => Reads.pure _ d4)

end chain

/-! ### the slots of a cluster-chain directory -/

/-- the slots of a cluster chain: the 32-byte records of the clusters of the chain, in chain order -/
def chainSlots (fs : FsState) (img : Img) (chain : List Nat) : List (List Nat) :=
  chain.flatMap fun c => (List.range (fs.clusterSize / 32)).map fun j => img.read (clusterOff fs c + 32 * j) 32

theorem chainSlots_append (fs : FsState) (img : Img) (a b : List Nat) :
    chainSlots fs img (a ++ b) = chainSlots fs img a ++ chainSlots fs img b := List.flatMap_append

theorem chainSrc_cons_lt (fs : FsState) (c : Nat) (t : List Nat) (x : Nat) (hx : x < fs.clusterSize) :
    chainSrc fs (c :: t) x = clusterOff fs c + x := by
  unfold chainSrc
  rw [Nat.div_eq_of_lt hx, Nat.mod_eq_of_lt hx]
  rfl

theorem chainSrc_cons_ge (fs : FsState) (c : Nat) (t : List Nat) (x : Nat) (hcs : 0 < fs.clusterSize) :
    chainSrc fs (c :: t) (fs.clusterSize + x) = chainSrc fs t x := by
  unfold chainSrc
  rw [Nat.add_div_left _ hcs, Nat.add_mod_left]
  rfl

theorem srcSlots_chain (fs : FsState) (img : Img) (hcs : 0 < fs.clusterSize) (h32 : fs.clusterSize % 32 = 0) :
    ∀ chain : List Nat, srcSlots img (chainSrc fs chain) (chain.length * (fs.clusterSize / 32)) = chainSlots fs img chain := by
  have hK : 32 * (fs.clusterSize / 32) = fs.clusterSize := by
    have := Nat.div_add_mod fs.clusterSize 32
    omega
  intro chain
  induction chain with
  | nil => simp [srcSlots, chainSlots]
  | cons c t ih =>
    unfold srcSlots chainSlots at *
    rw [List.length_cons, Nat.add_mul, Nat.one_mul, Nat.add_comm, List.range_add, List.map_append, List.flatMap_cons]
    congr 1
    · apply List.map_congr_left
      intro j hj
      have hj' : j < fs.clusterSize / 32 := List.mem_range.mp hj
      rw [chainSrc_cons_lt fs c t _ (by omega)]
    · rw [← ih, List.map_map]
      apply List.map_congr_left
      intro j _
      simp only [Function.comp]
      rw [Nat.mul_add, hK, chainSrc_cons_ge fs c t _ hcs]

end FatVerif.DirSim
