import FatVerif.Proofs.TriLookup
/-! C13: read-only judgements (`RO`) that track the cleanliness of handles: with `update_accessed_date` off,
    reading and seeking never touch a handle's directory-entry editor, so the destructors of the clones made by the
    lookup/iteration code find nothing to write back. -/
namespace FatVerif

/-- the handle's directory-entry editor has nothing to write back -/
def CleanFile (f : FileH) : Prop := ∀ e, f.entry = some e → e.dirty = false

def CleanStream : DirStream → Prop
  | .file f => CleanFile f
  | .root _ => True

/-- the mounted state has nothing to write back at unmount: status flags as read at mount, FS-info not dirty -/
def CleanFs (fs : FsState) : Prop :=
  fs.curDirty = fs.bpbDirty ∧ fs.curIoErr = fs.bpbIoErr ∧ fs.fsInfo.dirty = false

theorem cleanFile_of_entry_eq {f g : FileH} (h : g.entry = f.entry) (hf : CleanFile f) : CleanFile g := by
  intro e he; exact hf e (h ▸ he)

syntax "ro_step" ("[" Lean.Parser.Tactic.SolveByElim.arg,* "]")? : tactic
macro_rules
  | `(tactic| ro_step) => `(tactic| ro_step [])
  | `(tactic| ro_step [$ts,*]) => `(tactic| first
    | with_reducible_and_instances exact RO.fail _
    | focus ((with_reducible_and_instances refine RO.pure ?_);
             (first | with_reducible rfl | trivial | assumption | (simp_all; done)))
    | intro _
    | apply_assumption (transparency := .reducible) (exfalso := false) (symm := false) only [*, $ts,*]
    | (with_reducible_and_instances apply RO.bind RO.getFs
       intro fs hfs; subst hfs)
    | (with_reducible_and_instances apply RO.bind
       case hp => first
         | apply_assumption (transparency := .reducible) (exfalso := false) (symm := false) only [*, $ts,*]
         | exact RO.of_quiet (by quiet [$ts,*]))
    | exact RO.of_quiet (by quiet [$ts,*])
    | dsimp only
    | split
    | focus (exfalso; simp_all; done))

syntax "ro" ("[" Lean.Parser.Tactic.SolveByElim.arg,* "]")? : tactic
macro_rules
  | `(tactic| ro) => `(tactic| repeat ro_step [])
  | `(tactic| ro [$ts,*]) => `(tactic| repeat ro_step [$ts,*])

/-! ### `File` -/

namespace FileH

/-- with `update_accessed_date` off, `read` leaves the editor alone -/
theorem read_ro {fs0 : FsState} (hacc : fs0.accDate = false) (f : FileH) (n : Nat) :
    RO fs0 (f.read n) (fun r => r.2.entry = f.entry) := by
  unfold read
  ro [boundaryCluster_quiet, offsetFromClusterP_quiet]

theorem seek_ro {fs0 : FsState} (f : FileH) (p : SeekFrom) : RO fs0 (f.seek p) (fun r => r.2.entry = f.entry) := by
  unfold seek
  ro [seekWalk_quiet]

end FileH

/-! ### flushing / dropping a clean handle -/

theorem FileH.flushDirEntry_clean_ro {fs0 : FsState} {f : FileH} (hf : CleanFile f) :
    RO fs0 f.flushDirEntry (fun f' => f' = f) := by
  unfold FileH.flushDirEntry
  split
  · rename_i e he
    have := hf e he
    simp only [this]
    exact RO.pure rfl
  · exact RO.pure rfl

/-- `File::flush` on a clean handle: only the device flush -/
theorem FileH.flush_clean_ro {fs0 : FsState} {f : FileH} (hf : CleanFile f) : RO fs0 f.flush (fun f' => f' = f) := by
  unfold FileH.flush
  refine RO.bind (FileH.flushDirEntry_clean_ro hf) (fun f' hf' => ?_)
  subst hf'
  exact RO.bind (RO.of_quiet QuietOps.progFlush) (fun _ _ => RO.pure rfl)

theorem inDrop_ro {fs0 : FsState} {c : Prog Unit} (hc : RO fs0 c (fun _ => True)) :
    RO fs0 (Prog.inDrop c) (fun _ => True) :=
  RO.finallyDrop (RO.pure trivial) (fun _ _ => hc) hc

theorem FileH.dropBody_clean_ro {fs0 : FsState} {f : FileH} (hf : CleanFile f) :
    RO fs0 (do let _ ← f.flush; pure ()) (fun _ => True) :=
  RO.bind (FileH.flush_clean_ro hf) (fun _ _ => RO.pure trivial)

/-- `impl Drop for File` on a clean handle -/
theorem FileH.drop_clean_ro {fs0 : FsState} {f : FileH} (hf : CleanFile f) : RO fs0 f.drop (fun _ => True) :=
  inDrop_ro (FileH.dropBody_clean_ro hf)

/-! ### `DirStream` -/

namespace DirStream

theorem read_ro {fs0 : FsState} (hacc : fs0.accDate = false) {st : DirStream} (hst : CleanStream st) (n : Nat) :
    RO fs0 (st.read n) (fun r => CleanStream r.2) := by
  cases st with
  | file f =>
    simp only [read]
    refine RO.bind (FileH.read_ro hacc f n) (fun b hb => ?_)
    exact RO.pure (cleanFile_of_entry_eq hb hst)
  | root s =>
    simp only [read]
    refine RO.bind (RO.of_quiet (DiskSlice.read_quiet _ _)) (fun _ _ => ?_)
    exact RO.pure trivial

theorem seek_ro {fs0 : FsState} {st : DirStream} (hst : CleanStream st) (p : SeekFrom) :
    RO fs0 (st.seek p) (fun r => CleanStream r.2) := by
  cases st with
  | file f =>
    simp only [seek]
    refine RO.bind (FileH.seek_ro f p) (fun b hb => ?_)
    exact RO.pure (cleanFile_of_entry_eq hb hst)
  | root s =>
    simp only [seek]
    refine RO.bind (RO.of_quiet (DiskSlice.seek_quiet _ _)) (fun _ _ => ?_)
    exact RO.pure trivial

theorem dropBody_clean_ro {fs0 : FsState} {st : DirStream} (hst : CleanStream st) :
    RO fs0 st.dropBody (fun _ => True) := by
  unfold dropBody
  split
  · exact FileH.dropBody_clean_ro hst
  · exact RO.pure trivial

/-- dropping a clean directory handle -/
theorem drop_clean_ro {fs0 : FsState} {st : DirStream} (hst : CleanStream st) : RO fs0 st.drop (fun _ => True) :=
  inDrop_ro (dropBody_clean_ro hst)

end DirStream

theorem thenDrop_ro {α} {fs0 : FsState} {st : DirStream} (hst : CleanStream st) {body : Prog α} {Post : α → Prop}
    (hb : RO fs0 body Post) : RO fs0 (thenDrop st body) Post := by
  unfold thenDrop
  exact RO.finallyDrop hb (fun _ _ => DirStream.dropBody_clean_ro hst) (DirStream.dropBody_clean_ro hst)

/-! ### directory iteration: instances of Proofs/TriLookup.lean at `CleanStream` -/

theorem DirStream.strm_ro {fs0 : FsState} (hacc : fs0.accDate = false) :
    StrmTri QuietRel (fun d => d.fs = fs0) DirStream.strm CleanStream :=
  ⟨fun _ n hs => ro_iff_tri.1 (DirStream.read_ro hacc hs n), fun _ p hs => ro_iff_tri.1 (DirStream.seek_ro hs p)⟩

theorem roDir {fs0 : FsState} (hacc : fs0.accDate = false) : DirFrame QuietRel (fun d => d.fs = fs0) CleanStream :=
  ⟨roFrame fs0, fun _ _ h => h, DirStream.strm_ro hacc, fun _ h => ro_iff_tri.1 (DirStream.dropBody_clean_ro h)⟩

section dir
variable {fs0 : FsState} (hacc : fs0.accDate = false)
include hacc

theorem readSlot_ro {st : DirStream} (hst : CleanStream st) : RO fs0 (readSlot st) (fun r => CleanStream r.2) :=
  ro_iff_tri.2 (readSlot_tri (roFrame fs0) (DirStream.strm_ro hacc) hst)

theorem findEntry_ro (env) {d : DirStream} (hd : CleanStream d) (name isDir) :
    RO fs0 (findEntry env d name isDir) (fun _ => True) :=
  ro_iff_tri.2 (findEntry_tri (roDir hacc) env hd name isDir)

/-- a full directory listing writes nothing -/
theorem listDir_ro {d : DirStream} (hd : CleanStream d) : RO fs0 (listDir d) (fun _ => True) :=
  ro_iff_tri.2 (listDir_tri (roDir hacc) hd)

theorem findVolumeEntry_ro {d : DirStream} (hd : CleanStream d) : RO fs0 (findVolumeEntry d) (fun _ => True) :=
  ro_iff_tri.2 (findVolumeEntry_tri (roDir hacc) hd)

end dir

/-! ### freshly made handles are clean -/

theorem cleanFile_new (first : Option Nat) (data : DirFileEntryData) (pos : Nat) :
    CleanFile (FileH.new first (some (DirEntryEditor.new data pos))) := by
  intro e he
  simp only [FileH.new, DirEntryEditor.new, Option.some.injEq] at he
  subst he; rfl

theorem cleanFile_new_none (first : Option Nat) : CleanFile (FileH.new first none) := by
  intro e he; simp [FileH.new] at he

theorem cleanStream_root (fs : FsState) : CleanStream (rootDirStream fs) := by
  unfold rootDirStream
  split
  · exact cleanFile_new_none _
  · trivial

theorem DirEntry.toDir_ro {fs0 : FsState} (fs) (e : DirEntry) : RO fs0 (e.toDir fs) CleanStream := by
  unfold DirEntry.toDir
  split
  · exact RO.fail _
  · split
    · exact RO.pure (cleanFile_new _ _ _)
    · exact RO.pure (cleanStream_root _)

theorem DirEntry.toFile_ro {fs0 : FsState} (fs) (e : DirEntry) : RO fs0 (e.toFile fs) CleanFile := by
  unfold DirEntry.toFile
  split
  · exact RO.fail _
  · exact RO.pure (cleanFile_new _ _ _)

/-! ### `open_dir`, `open_file`, label lookup -/

section dir
variable {fs0 : FsState} (hacc : fs0.accDate = false)
include hacc

theorem openDir_ro (env) : ∀ fuel d path, CleanStream d → RO fs0 (openDir env fuel d path) CleanStream := by
  intro fuel
  induction fuel with
  | zero => intros; unfold openDir; exact RO.fail _
  | succ k ih =>
    intro d path hd
    unfold openDir
    refine RO.bind RO.getFs (fun fs _ => ?_)
    split
    refine RO.bind (findEntry_ro hacc env hd _ _) (fun e _ => ?_)
    refine RO.bind (DirEntry.toDir_ro _ _) (fun sub hsub => ?_)
    split
    · exact thenDrop_ro hsub (ih _ _ hsub)
    · exact RO.pure hsub

theorem openFile_ro (env) : ∀ fuel d path, CleanStream d → RO fs0 (openFile env fuel d path) CleanFile := by
  intro fuel
  induction fuel with
  | zero => intros; unfold openFile; exact RO.fail _
  | succ k ih =>
    intro d path hd
    unfold openFile
    refine RO.bind RO.getFs (fun fs _ => ?_)
    split
    split
    · refine RO.bind (findEntry_ro hacc env hd _ _) (fun e _ => ?_)
      refine RO.bind (DirEntry.toDir_ro _ _) (fun sub hsub => ?_)
      exact thenDrop_ro hsub (ih _ _ hsub)
    · refine RO.bind (findEntry_ro hacc env hd _ _) (fun e _ => ?_)
      exact DirEntry.toFile_ro _ _

theorem readVolumeLabelFromRootDir_ro : RO fs0 readVolumeLabelFromRootDir (fun _ => True) := by
  unfold readVolumeLabelFromRootDir
  refine RO.bind RO.getFs (fun fs _ => ?_)
  dsimp only
  refine RO.bind (thenDrop_ro (cleanStream_root fs) (findVolumeEntry_ro hacc (cleanStream_root fs))) (fun _ _ => ?_)
  exact RO.pure trivial

end dir

end FatVerif
