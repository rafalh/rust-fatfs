import FatVerif.Proofs.FileSimFatFree
import FatVerif.Props.C10slice
import FatVerif.Proofs.LogReplay
/-! The write records of a successful `FileSystem::alloc_cluster(prev, zero)`: a sequence of mirrored FAT writes (the
    first one preceded by the status record when the volume was not yet marked dirty), then — `zero = true` — the records
    tiling the new cluster with zeros. Backward inversion of the run; no fault hypothesis. -/
namespace FatVerif.FileSim
open FatVerif FatVerif.Fat

/-- along a sequence of mirrored writes the write records only grow -/
theorem mirroredSeq_extends {s0 : DiskSlice} {d d' : Dev} (h : MirroredSeq s0 d d') :
    ∃ l, d'.writesOf = l ++ d.writesOf := by
  induction h with
  | refl d => exact ⟨[], rfl⟩
  | quiet hq _ ih => obtain ⟨l, hl⟩ := ih; exact ⟨l, by rw [hl, hq.1]⟩
  | @write a b c hw _ ih =>
    obtain ⟨l, hl⟩ := ih
    obtain ⟨_, L, hL, _⟩ := hw.seg
    exact ⟨l ++ (L ++ statusExtra s0.viaFs a.fs), by rw [hl, hL]; simp⟩

/-- on a volume already marked dirty a sequence of mirrored writes leaves the mounted state alone, puts out no status
    record, and every record it appends starts inside the copies of the slice -/
theorem mirroredSeq_of_dirty {s0 : DiskSlice} {d d' : Dev} (h : MirroredSeq s0 d d') (hc : d.fs.curDirty = true) :
    d'.fs = d.fs ∧ ∃ l, d'.writesOf = l ++ d.writesOf ∧ ∀ off b, LogItem.write off b ∈ l → s0.beginOff ≤ off := by
  induction h with
  | refl d => exact ⟨rfl, [], rfl, fun _ _ h => by cases h⟩
  | quiet hq _ ih =>
    obtain ⟨h1, l, h2, h3⟩ := ih (by rw [hq.2]; exact hc)
    exact ⟨by rw [h1, hq.2], l, by rw [h2, hq.1], h3⟩
  | @write a b c hw _ ih =>
    obtain ⟨hfs, L, hL, hin⟩ := hw.seg
    rw [fsAfter_of_dirty hc] at hfs
    rw [statusExtra_dirty hc] at hL
    obtain ⟨h1, l, h2, h3⟩ := ih (by rw [hfs]; exact hc)
    refine ⟨by rw [h1, hfs], l ++ L, by rw [h2, hL]; simp, fun off bs hm => ?_⟩
    rcases List.mem_append.mp hm with hm | hm
    · exact h3 off bs hm
    · exact (hin off bs hm).1

/-- along a sequence of mirrored writes through `FsIoAdapter` that takes a volume from "not marked dirty" to "marked
    dirty", the FIRST new write record is the status record; every later one starts inside the copies of the slice -/
theorem mirroredSeq_status_first {s0 : DiskSlice} {d d' : Dev} (h : MirroredSeq s0 d d') (hv : s0.viaFs = true)
    (hc : d.fs.curDirty = false) (hd : d'.fs.curDirty = true) :
    ∃ l, d'.writesOf = l ++ statusWrite d.fs true :: d.writesOf ∧
      ∀ off b, LogItem.write off b ∈ l → s0.beginOff ≤ off := by
  induction h with
  | refl d => rw [hc] at hd; cases hd
  | quiet hq _ ih =>
    obtain ⟨l, hl, hr⟩ := ih (by rw [hq.2]; exact hc) hd
    exact ⟨l, by rw [hl, hq.1, hq.2], hr⟩
  | @write a b c hw hrest _ =>
    obtain ⟨hfs, L, hL, hin⟩ := hw.seg
    have hbd : b.fs.curDirty = true := by rw [hfs, hv]; exact fsAfter_dirty _
    obtain ⟨_, l, hl, hr⟩ := mirroredSeq_of_dirty hrest hbd
    rw [hv, statusExtra_clean hc] at hL
    refine ⟨l ++ L, by rw [hl, hL]; simp, fun off bs hm => ?_⟩
    rcases List.mem_append.mp hm with hm | hm
    · exact hr off bs hm
    · exact (hin off bs hm).1

/-- **the write records of a successful `alloc_cluster(prev, zero)`**: up to an intermediate device `d1` a sequence of
    mirrored FAT writes (`MirroredSeq`: each one `data` at the same relative offset of every FAT copy, copy 0 first; the
    first one preceded by the status record if the volume was not marked dirty); after `d1` — only with `zero = true` —
    records tiling `[clusterOff c, clusterOff c + cluster_size)` with zeros (`Pieces`), nothing else. -/
theorem allocClusterFs_log (prev : Option Nat) (zero : Bool) (d : Dev)
    (hmir : 0 < (fatSliceOf d.fs).mirrors)
    (hdev : (fatSliceOf d.fs).beginOff + (fatSliceOf d.fs).mirrors * (fatSliceOf d.fs).size ≤ d.img.size)
    {c : Nat} {d' : Dev} (hr : run (allocClusterFs prev zero) d = (.ok c, d')) :
    ∃ d1, MirroredSeq (fatSliceOf d.fs) d d1 ∧ d'.fs.curDirty = d1.fs.curDirty ∧
      (zero = false → d'.log = d1.log) ∧
      (zero = true → ∃ items, d'.log = items.reverse ++ d1.log ∧
        Pieces (clusterOff d.fs c) (List.replicate d.fs.clusterSize 0) items) := by
  unfold allocClusterFs at hr
  obtain ⟨fs, d0, h0, h1⟩ := run_bind_ok_inv hr
  obtain ⟨rfl, rfl⟩ := getFs_inv h0
  obtain ⟨⟨c0, sl⟩, d1, h2, h3⟩ := run_bind_ok_inv h1
  -- `table.rs::alloc_cluster` is not walked again: every table program over the FAT slice is a `MirroredSeq`
  have hms := (((fat_ops_mirrored hmir hdev d0.fs.fatType
    (SliceInv.self (s := fatSliceOf d0.fs) (by rw [fatSliceOf_offset]; exact Nat.zero_le _))).1
      prev d0.fs.fsInfo.next d0.fs.totalClusters).out d0 _ d1 rfl h2).1
  dsimp only at h3
  have tail : ∀ d2 : Dev, run (do
      let fs ← Prog.getFs
      match fs.fsInfo.free with
        | some 0 => Prog.fail Err.panic
        | _ => do
          Prog.setFs { fs with fsInfo := ({ fs.fsInfo with
            next := some (if c0 + 1 < fs.totalClusters + 2 then c0 + 1 else 2), dirty := true }).mapFree (· - 1) }
          (pure c0 : Prog Nat)) d2 = (.ok c, d') → d'.log = d2.log ∧ d'.fs.curDirty = d2.fs.curDirty ∧ c = c0 := by
    intro d2 h
    obtain ⟨fs2, d3, h6, h7⟩ := run_bind_ok_inv h
    obtain ⟨rfl, rfl⟩ := getFs_inv h6
    dsimp only at h7
    split at h7
    · simp only [run] at h7; cases h7
    · rcases run_bind_cases h7 with ⟨u, d4, h8, h9⟩ | ⟨e, _, he⟩
      · simp only [Prog.setFs, run, stepOp] at h8
        cases h8
        have h9' : run (Prog.pure c0) _ = (.ok c, d') := h9
        simp only [run] at h9'; cases h9'
        exact ⟨rfl, rfl, rfl⟩
      · cases he
  cases zero with
  | false =>
    rw [if_neg (show ¬ (false = true) by decide)] at h3
    obtain ⟨t1, t2, _⟩ := tail d1 h3
    exact ⟨d1, hms, t2, fun _ => t1, fun h => (by cases h)⟩
  | true =>
    rw [if_pos rfl] at h3
    obtain ⟨off, da, ha, h4⟩ := run_bind_ok_inv h3
    have hoff : off = clusterOff d0.fs c0 ∧ da = d1 := by
      unfold offsetFromClusterP at ha
      split at ha
      · simp only [run] at ha; cases ha
      · split at ha
        · simp only [run] at ha; cases ha
        · split at ha
          · simp only [run] at ha; cases ha
          · have ha' : run (Prog.pure _) d1 = (.ok off, da) := ha
            simp only [run] at ha'; cases ha'; exact ⟨rfl, rfl⟩
    obtain ⟨rfl, rfl⟩ := hoff
    obtain ⟨v, db, hb, h5⟩ := run_bind_ok_inv h4
    have sb := run_seekStart_spec _ _ hb
    obtain ⟨u, dc, hc, h6⟩ := run_bind_ok_inv h5
    obtain ⟨items, hl, hp, _⟩ := writeZeros_dev_tiled _ db hc
    have hfsc := (writeZerosLoop_dev_within _ _ db _ dc hc).1
    obtain ⟨t1, t2, rfl⟩ := tail dc h6
    refine ⟨da, hms, (by rw [t2, hfsc, sb.1]), (fun h => by cases h), fun _ => ⟨items, by rw [t1, hl, sb.2.1], ?_⟩⟩
    rw [sb.2.2 v rfl] at hp
    exact hp

/-- **the status byte after `alloc_cluster`.** If the volume was not marked dirty, the status byte of the image after a
    successful `alloc_cluster(prev, zero)` is the dirty encoding `statusByte fs true`: the status record is the first
    record of the run and no later record (FAT copies, data cluster) covers it. -/
theorem allocClusterFs_status_byte (prev : Option Nat) (zero : Bool) (d : Dev) (hwf : d.img.WF)
    (hg : Geo d.fs d.img.size) (hcl : d.fs.curDirty = false)
    {c : Nat} {d' : Dev} (hr : run (allocClusterFs prev zero) d = (.ok c, d'))
    (hd : d'.fs.curDirty = true) :
    d'.img.getByte (statusOff d.fs) = statusByte d.fs true := by
  have hmul : (fatSliceOf d.fs).size ≤ (fatSliceOf d.fs).mirrors * (fatSliceOf d.fs).size :=
    Nat.le_mul_of_pos_left _ hg.mirrors_pos
  obtain ⟨d1, hms, hcd, hz0, hz1⟩ := allocClusterFs_log prev zero d hg.mirrors_pos hg.fats_dev hr
  obtain ⟨l, hl, hlr⟩ := mirroredSeq_status_first hms (fatSliceOf_viaFs _) hcl (by rw [← hcd]; exact hd)
  have hso : statusOff d.fs < 0x42 := by unfold statusOff; split <;> decide
  have hst := hg.status_lt
  -- the records after `d1`
  have hZ : ∃ Z, Seg d1 d' Z ∧ ∀ off b, LogItem.write off b ∈ Z → 0x42 ≤ off := by
    cases zero with
    | false => exact ⟨[], Seg.of_log_eq (hz0 rfl), fun _ _ h => by cases h⟩
    | true =>
      obtain ⟨items, hlog, hp⟩ := hz1 rfl
      refine ⟨items.reverse, ?_, ?_⟩
      · unfold Seg Dev.writesOf
        rw [hlog, List.filter_append]
        congr 1
        apply List.filter_eq_self.mpr
        intro it hit
        exact hp.all_write it (List.mem_reverse.mp hit)
      · intro off b hm
        have := (hp.within off b (List.mem_reverse.mp hm)).1
        have h1 := hg.fat_data
        have h3 := dataStart_le_clusterOff d.fs c
        omega
  obtain ⟨Z, hZs, hZr⟩ := hZ
  have hseg : Seg d d' ((Z ++ l) ++ [statusWrite d.fs true]) := by
    unfold Seg at *
    rw [hZs, hl]; simp
  obtain ⟨_, hb⟩ := img_after_seg hr hwf hseg
  rw [hb, replay_skip]
  · show applyRec _ (LogItem.write (statusOff d.fs) [statusByte d.fs true]) _ % 256 = _
    unfold applyRec
    simp only [List.length_singleton]
    rw [if_pos ⟨Nat.le_refl _, by omega⟩]
    simp only [Nat.sub_self, List.getD_cons_zero]
    unfold statusByte
    exact Nat.mod_mod _ _
  · intro off b hm
    rcases List.mem_append.mp hm with hm | hm
    · have := hZr off b hm; omega
    · have := hlr off b hm; omega

end FatVerif.FileSim
