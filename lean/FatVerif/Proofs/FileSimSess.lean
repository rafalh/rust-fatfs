import FatVerif.Props.C02multi
import FatVerif.Proofs.FileSimHistLoops
/-!
# FileSim / session: the file operations of `Session.step` (the history driver) are the steps of `execE`

`fileOpOf`: which `ApiOp`s are operations on an open file handle covered here (`read`, `readx`, `write`, `writeall`,
`seek`, `truncate`, `flush`), and as which operation of the alphabet `EOp`.  `session_step_out`: such a step of a live
session changes the session exactly as `execE` on the handle says — device, handle table (only entry `i`), result
token, `dead` flag (`StepOut`).
-/
namespace FatVerif.FileSim
open FatVerif FatVerif.Fat

/-- the covered file operations of the history driver -/
def fileOpOf : ApiOp → Option (Nat × EOp)
  | .read f n => some (f, .op (.read n))
  | .readx f n => some (f, .op (.readExact n))
  | .write f bs => some (f, .op (.write bs))
  | .writeall f bs => some (f, .op (.writeAll bs))
  | .seek f k n => some (f, .op (.seek (Session.seekFrom k n)))
  | .truncate f => some (f, .op .truncate)
  | .flush f => some (f, .flush)
  | _ => none

/-- what a step on handle `i` does to the session, in terms of the outcome `r` of `execE` -/
structure StepOut (s : Session) (op : ApiOp) (i : Nat) (r : Cursor.FileRes × FileH × Dev) : Prop where
  res : (s.step op).2 = apiOfRes r.1
  dev : (s.step op).1.dev = r.2.2
  files : ∀ j, (s.step op).1.files[j]? = if j = i then some r.2.1 else s.files[j]?
  dead : (s.step op).1.dead = resFatal r.1

theorem files_insert (s : Session) (i : Nat) (h : FileH) (j : Nat) :
    (s.files.insert i h)[j]? = if j = i then some h else s.files[j]? := by
  rw [Std.HashMap.getElem?_insert]
  by_cases hji : j = i
  · subst hji; simp
  · have : (i == j) = false := by simp; exact fun e => hji e.symm
    rw [this, if_neg hji]; rfl

theorem files_same (s : Session) (i : Nat) (h : FileH) (hf : s.files[i]? = some h) (j : Nat) :
    s.files[j]? = if j = i then some h else s.files[j]? := by
  by_cases hji : j = i
  · rw [if_pos hji, hji, hf]
  · rw [if_neg hji]

theorem StepOut.of_eq {s : Session} (hd : s.dead = false) {op : ApiOp} {i : Nat} {r : Cursor.FileRes × FileH × Dev}
    (h : s.step op = fileOut s i r) : StepOut s op i r :=
  ⟨by rw [h]; rfl, by rw [h]; rfl, fun j => by rw [h]; exact files_insert s i r.2.1 j,
    by rw [h]; simp [fileOut, hd]⟩

/-- the four single calls and `flush`: `runOp` on the handle's program `p`; success stores the new handle `hof x`
    and answers `tok x`; `r` is the outcome `execE` reports for the same run -/
theorem stepOut_runOp {α : Type} (s : Session) (hd : s.dead = false) (i : Nat) (h : FileH) (hf : s.files[i]? = some h)
    (op : ApiOp) (p : Prog α) (tok : α → List String) (hof : α → FileH) (res : α → Cursor.FileRes)
    (r : Cursor.FileRes × FileH × Dev)
    (hstep : s.step op = Session.runOp s p fun s x => ({ s with files := s.files.insert i (hof x) }, .ok (tok x)))
    (hres : ∀ x, apiOfRes (res x) = .ok (tok x)) (hnf : ∀ x, resFatal (res x) = false)
    (hok : ∀ x d', run p s.dev = (.ok x, d') → r = (res x, hof x, d'))
    (herr : ∀ e d', run p s.dev = (.error e, d') → r = (.err e, h, d')) : StepOut s op i r := by
  unfold Session.runOp Session.exec at hstep
  generalize hrun : run p s.dev = rr at hstep
  obtain ⟨(e | x), d'⟩ := rr
  · -- an error leaves the table as it is, and `h` is what it holds at `i`
    rw [herr e d' hrun]
    simp only [Session.fatal_eq] at hstep
    exact ⟨by rw [hstep]; rfl, by rw [hstep], fun j => by rw [hstep]; exact files_same s i h hf j,
      by rw [hstep]; simp [resFatal, hd]⟩
  · rw [hok x d' hrun]
    exact .of_eq hd (by simp [hstep, fileOut, hres, hnf])

/-- **`session_step_out`**: every covered file operation of a live session on an open handle -/
theorem session_step_out (s : Session) (hd : s.dead = false) (op : ApiOp) (i : Nat) (eop : EOp)
    (hop : fileOpOf op = some (i, eop)) (h : FileH) (hf : s.files[i]? = some h) :
    StepOut s op i (execE eop h s.dev) := by
  cases op with
  | read f n =>
    simp only [fileOpOf, Option.some.injEq, Prod.mk.injEq] at hop; obtain ⟨rfl, rfl⟩ := hop
    exact stepOut_runOp s hd _ h hf _ (h.read n) (fun x => [Util.hexOfBytes x.1]) (·.2) (fun x => .bytes x.1) _
      (by unfold Session.step; simp only [hd, Bool.false_eq_true, if_false, Session.withFile, hf])
      (fun _ => rfl) (fun _ => rfl) (fun x d' hr => by simp only [execE, execH, hr])
      (fun e d' hr => by simp only [execE, execH, hr])
  | readx f n =>
    simp only [fileOpOf, Option.some.injEq, Prod.mk.injEq] at hop; obtain ⟨rfl, rfl⟩ := hop
    exact .of_eq hd (session_readx s _ n h hd hf)
  | write f bs =>
    simp only [fileOpOf, Option.some.injEq, Prod.mk.injEq] at hop; obtain ⟨rfl, rfl⟩ := hop
    exact stepOut_runOp s hd _ h hf _ (h.write bs) (fun x => [toString x.1]) (·.2) (fun x => .count x.1) _
      (by unfold Session.step; simp only [hd, Bool.false_eq_true, if_false, Session.withFile, hf])
      (fun _ => rfl) (fun _ => rfl) (fun x d' hr => by simp only [execE, execH, hr])
      (fun e d' hr => by simp only [execE, execH, hr])
  | writeall f bs =>
    simp only [fileOpOf, Option.some.injEq, Prod.mk.injEq] at hop; obtain ⟨rfl, rfl⟩ := hop
    exact .of_eq hd (session_writeall s _ bs h hd hf)
  | seek f k n =>
    simp only [fileOpOf, Option.some.injEq, Prod.mk.injEq] at hop; obtain ⟨rfl, rfl⟩ := hop
    exact stepOut_runOp s hd _ h hf _ (h.seek (Session.seekFrom k n)) (fun x => [toString x.1]) (·.2)
      (fun x => .pos x.1) _
      (by unfold Session.step; simp only [hd, Bool.false_eq_true, if_false, Session.withFile, hf])
      (fun _ => rfl) (fun _ => rfl) (fun x d' hr => by simp only [execE, execH, hr])
      (fun e d' hr => by simp only [execE, execH, hr])
  | truncate f =>
    simp only [fileOpOf, Option.some.injEq, Prod.mk.injEq] at hop; obtain ⟨rfl, rfl⟩ := hop
    exact stepOut_runOp s hd _ h hf _ h.truncate (fun _ => []) (fun x => x) (fun _ => .unit) _
      (by unfold Session.step; simp only [hd, Bool.false_eq_true, if_false, Session.withFile, hf])
      (fun _ => rfl) (fun _ => rfl) (fun x d' hr => by simp only [execE, execH, hr])
      (fun e d' hr => by simp only [execE, execH, hr])
  | flush f =>
    simp only [fileOpOf, Option.some.injEq, Prod.mk.injEq] at hop; obtain ⟨rfl, rfl⟩ := hop
    exact stepOut_runOp s hd _ h hf _ h.flush (fun _ => []) (fun x => x) (fun _ => .unit) _
      (by unfold Session.step; simp only [hd, Bool.false_eq_true, if_false, Session.withFile, hf])
      (fun _ => rfl) (fun _ => rfl) (fun x d' hr => by simp only [execE, hr])
      (fun e d' hr => by simp only [execE, hr])
  | _ => simp [fileOpOf] at hop

/-- a result the oracle accepts is not a panic and not a hang -/
theorem check_ok_not_fatal {cs : Nat} {op : Cursor.FileOp} {res : Cursor.FileRes} {b b' : Cursor.ByteFile}
    (h : Cursor.ByteFile.check cs op res b = .ok b') : resFatal res = false := by
  cases res with
  | bytes l => rfl
  | count k => rfl
  | pos p => rfl
  | unit => rfl
  | err e =>
    cases e <;> first | rfl | (exfalso; cases op <;> simp [Cursor.ByteFile.check] at h)
  | errAt e p =>
    cases e <;> first | rfl | (exfalso; cases op <;>
      simp [Cursor.ByteFile.check, Cursor.ByteFile.checkWriteAllErr] at h)

end FatVerif.FileSim
