import FatVerif.Proofs.DirRemove
import FatVerif.Proofs.SlotTreeNode
/-! Directory WRITES: the outcomes of the mutating calls that only READ (single-component paths): the name exists
    (`create_file` / `create_dir` open it, or fail on the wrong kind), the name is missing (`remove`, `rename`), the
    directory is not empty (`remove`), the destination exists (`rename`), the volume is full (`create_dir`:
    `alloc_cluster` finds no free cluster, `NotEnoughSpace`). The volume is kept in all of them.
    `createFile_head`, `createDir_head`, `remove_head`, `rename_file_head` walk the reading part of their program once and
    state all its outcomes by the answers of its queries (`ReadsOut`), in the order in which the slot-tree model
    (`stepSlot`) decides. -/
namespace FatVerif.DirSim
open FatVerif.FileSim FatVerif.Fat DirEntryData DirAlias

/-- an entry returned by `check_for_existence` is listed and has the requested kind -/
theorem check_entry_facts (up : Char → List Char) (slots : List (List Nat)) (name : String) (isDir : Option Bool)
    (fuel : Nat) (le : LfnEntry) (h : checkForExistenceL up slots name isDir fuel = .ok (.entry le)) :
    le ∈ DirSlots.listing slots ∧ ∀ b, isDir = some b → Lfn.isDir le.sfn = b := by
  rcases SlotTree.check_cases up slots name isDir fuel with h1 | ⟨e, hf, hk, hc⟩ | ⟨e, _, _, hc⟩ | ⟨_, a, hc⟩
  · rw [h1] at h; cases h
  · rw [hc] at h
    cases h
    refine ⟨List.mem_of_find?_eq_some hf, fun b hb => ?_⟩
    subst hb
    exact (SlotTree.kind_ok_iff b le).mp hk
  · rw [hc] at h; cases h
  · rw [hc] at h; cases h

/-- **the reading part of a mutating call** ends as `o` says: it fails keeping the volume, or returns a value keeping
    it; `none`: the call goes on to write (nothing is claimed).  Not `Outcome p d id r`: to see `id v` as `v` the
    unifier may unfold `v` first, and `DirEntry.dirStream` matches on the first cluster of a record (dear) -/
def ReadsOut {α} (p : Prog α) (d : Dev) : Option (Except Err α) → Prop
  | none => True
  | some (.ok v) => Reads p d v
  | some (.error e) => FailsV p d e

theorem ReadsOut.bind {α β} {p : Prog β} {k : β → Prog α} {d : Dev} {b : β} {o : Option (Except Err α)}
    (h1 : Reads p d b) (h2 : ∀ d1, SameVol d d1 → ReadsOut (k b) d1 o) : ReadsOut (Prog.bind p k) d o :=
  match o with
  | none => trivial
  | some (.ok _) => Reads.bind h1 h2
  | some (.error _) => FailsV.bind_right h1 h2

theorem ReadsOut.fails {α β} {p : Prog β} {k : β → Prog α} {d : Dev} {e : Err} (h : FailsV p d e) :
    ReadsOut (Prog.bind p k) d (some (.error e)) := FailsV.bind_left h

theorem ReadsOut.fail {α} (d : Dev) (e : Err) : ReadsOut (Prog.fail e : Prog α) d (some (.error e)) :=
  ⟨d, rfl, SameVol.refl d⟩

namespace DirView
variable {d : Dev} {st : DirStream}

/-- the pure `check_for_existence` of a view -/
def check (V : DirView d st) (env : Env) (name : String) (isDir : Option Bool) : Except Err EntryOrAlias :=
  DirAlias.checkForExistenceL env.upper (srcSlots d.img V.src V.N) name isDir 70000

theorem checkForExistence_sim (V : DirView d st) (ha : d.fs.lfnAlloc = true) (env : Env) (name : String)
    (isDir : Option Bool) (d1 : Dev) (hv : SameVol d d1) :
    Outcome (checkForExistence env st name isDir) d1 (liftEOA V.src) (V.check env name isDir) := by
  obtain ⟨S, N, src, room, start, dir, fuel⟩ := V
  subst start
  exact dir.checkForExistence_sim fuel ha env name isDir d1 hv

theorem check_entry_isDir (V : DirView d st) (env : Env) (name : String) (b : Bool)
    (le : LfnEntry) (h : V.check env name (some b) = .ok (.entry le)) : (toDirEntryS V.src le).isDir = b := by
  obtain ⟨hm, hk⟩ := check_entry_facts _ _ _ _ _ _ h
  unfold DirSlots.listing at hm
  rw [toDirEntryS_isDir V.src le]
  exact hk b rfl

/-- **`create_file(name)` up to the decision to write**: `InvalidInput` for `.`/`..`; else by the answer of
    `check_for_existence` on the view — its error (a directory of that name: `InvalidInput`), the existing file opened,
    for a free name the error of `validate_long_name` (`write_entry` refuses before anything is written) -/
theorem createFile_head (V : DirView d st) (ha : d.fs.lfnAlloc = true) (env : Env) (path name : String)
    (hsp : Names.splitPath path = (name, none)) (fuel : Nat) (d1 : Dev) (hv : SameVol d d1) :
    ReadsOut (createFile env (fuel + 1) st path) d1
      (if (name = "." || name = "..") = true then some (.error .invalidInput)
       else match V.check env name (some false) with
        | .error e => some (.error e)
        | .ok (.entry le) =>
          some (.ok (FileH.new ((toDirEntryS V.src le).firstCluster d.fs) (some (toDirEntryS V.src le).editor)))
        | .ok (.alias _) =>
          match Names.validateLongName name with
          | .error e => some (.error e)
          | .ok () => none) := by
  unfold FatVerif.createFile
  refine ReadsOut.bind (Reads.getFs d1) (fun d2 hs2 => ?_)
  rw [hv.fs, hsp]
  dsimp only
  cases hdot : (name = "." || name = "..") with
  | true => exact ReadsOut.fail d2 _
  | false =>
    simp only [Bool.false_eq_true, if_false]
    have hce := V.checkForExistence_sim ha env name (some false) d2 (hv.trans hs2)
    cases hc : V.check env name (some false) with
    | error e => rw [hc] at hce; exact ReadsOut.fails hce
    | ok r =>
      rw [hc] at hce
      refine ReadsOut.bind hce (fun d3 _ => ?_)
      cases r with
      | entry le =>
        simp only [liftEOA]
        unfold DirEntry.toFile
        rw [V.check_entry_isDir env name false le hc]
        exact Reads.pure _ d3
      | alias a =>
        simp only [liftEOA]
        cases hval : Names.validateLongName name with
        | ok u => cases u; exact trivial
        | error e =>
          refine ReadsOut.bind ⟨d3, run_createSfnEntry a 0 none d3, SameVol.refl d3⟩ (fun d4 _ => ?_)
          refine ReadsOut.fails ?_
          unfold writeEntry
          rw [hval]
          exact ⟨d4, rfl, SameVol.refl d4⟩

/-- **`create_dir(name)` up to the decision to create**, by the answer of `check_for_existence` on the view: its error
    (a file of that name: `InvalidInput`); the existing directory opened; for a free name `InvalidInput` if it is
    `.`/`..` (the root has no such entries), else the error of `validate_long_name` -/
theorem createDir_head (V : DirView d st) (ha : d.fs.lfnAlloc = true) (env : Env) (path name : String)
    (hsp : Names.splitPath path = (name, none)) (fuel : Nat) (d1 : Dev) (hv : SameVol d d1) :
    ReadsOut (createDir env (fuel + 1) st path) d1
      (match V.check env name (some true) with
       | .error e => some (.error e)
       | .ok (.entry le) => some (.ok (DirEntry.dirStream d.fs (toDirEntryS V.src le)))
       | .ok (.alias _) =>
         if (name = "." || name = "..") = true then some (.error .invalidInput)
         else match Names.validateLongName name with
          | .error e => some (.error e)
          | .ok () => none) := by
  unfold FatVerif.createDir
  refine ReadsOut.bind (Reads.getFs d1) (fun d2 hs2 => ?_)
  rw [hv.fs, hsp]
  dsimp only
  have hce := V.checkForExistence_sim ha env name (some true) d2 (hv.trans hs2)
  cases hc : V.check env name (some true) with
  | error e => rw [hc] at hce; exact ReadsOut.fails hce
  | ok r =>
    rw [hc] at hce
    refine ReadsOut.bind hce (fun d3 _ => ?_)
    cases r with
    | entry le => exact toDir_sim d.fs _ (V.check_entry_isDir env name true le hc) d3
    | alias a =>
      simp only [liftEOA]
      cases hdot : (name = "." || name = "..") with
      | true => exact ReadsOut.fail d3 _
      | false =>
        simp only [Bool.false_eq_true, if_false]
        cases hval : Names.validateLongName name with
        | ok u => cases u; exact trivial
        | error e => exact ReadsOut.fails ⟨d3, rfl, SameVol.refl d3⟩

/-- **`remove(name)` up to the entry found**: `InvalidInput` for `.`/`..`, else the error of the lookup (`NotFound`) -/
theorem remove_head (V : DirView d st) (env : Env) (path name : String) (hsp : Names.splitPath path = (name, none))
    (fuel : Nat) (d1 : Dev) (hv : SameVol d d1) :
    ReadsOut (remove env (fuel + 1) st path) d1
      (if (name = "." || name = "..") = true then some (.error .invalidInput)
       else match V.lookup env name none with
        | .error e => some (.error e)
        | .ok _ => none) := by
  rw [remove_succ]
  refine ReadsOut.bind (Reads.getFs d1) (fun d2 hs2 => ?_)
  rw [hsp]
  show ReadsOut (if (name = "." || name = "..") = true then Prog.fail .invalidInput else _) d2 _
  cases hdot : (name = "." || name = "..") with
  | true => exact ReadsOut.fail d2 _
  | false =>
    rw [if_neg Bool.false_ne_true, if_neg Bool.false_ne_true]
    have hf := V.findEntry_sim env name none d2 (hv.trans hs2)
    cases hl : V.lookup env name none with
    | error e => rw [hl] at hf; exact ReadsOut.fails hf
    | ok e => exact trivial

/-- **`remove(name)` of a directory that is not empty**: `DirNotEmpty`, nothing changes -/
theorem remove_nonEmpty_sim (V : DirView d st) (env : Env) (path name : String)
    (hsp : Names.splitPath path = (name, none)) (hdot : (name = "." || name = "..") = false) (e : DirEntry)
    (h : V.lookup env name none = .ok e) (hdir : e.isDir = true) (Vs : DirView d (DirEntry.dirStream d.fs e))
    (hne : Vs.isEmptyV = false) (fuel : Nat) (d1 : Dev) (hv : SameVol d d1) :
    FailsV (remove env (fuel + 1) st path) d1 .dirNotEmpty := by
  rw [remove_succ]
  refine FailsV.bind_right (Reads.getFs d1) (fun d2 hs2 => ?_)
  rw [hv.fs, hsp]
  -- the tests are decided by `show` and `rw`, not `simp`: see `WView.remove_sim`
  show FailsV (if (name = "." || name = "..") = true then Prog.fail .invalidInput else _) d2 _
  rw [if_neg (by rw [hdot]; exact Bool.false_ne_true)]
  have hf := V.findEntry_sim env name none d2 (hv.trans hs2)
  rw [h] at hf
  refine FailsV.bind_right hf (fun d3 hs3 => ?_)
  show FailsV (Prog.bind (if e.isDir = true then _ else _) _) d3 _
  rw [if_pos hdir]
  have hv3 := (hv.trans hs2).trans hs3
  have hne' : Reads (do
      let sub ← e.toDir d.fs
      let emp ← thenDrop sub (isEmpty sub)
      pure (!emp)) d3 true := by
    refine Reads.bind (toDir_sim d.fs e hdir d3) (fun d4 hs4 => ?_)
    have hv4 := hv3.trans hs4
    refine Reads.bind (Reads.thenDrop (Vs.isEmpty_sim d4 hv4) (fun d5 hs5 => Vs.drop_sim d5 (hv4.trans hs5)))
      (fun d5 _ => ?_)
    rw [hne]
    exact Reads.pure _ d5
  refine FailsV.bind_right hne' (fun d4 _ => ?_)
  exact ⟨d4, rfl, SameVol.refl d4⟩

/-- **`rename_internal` of a FILE up to the decision to write**: `InvalidInput` for a dot name; the error of the source
    lookup; the error of `validate_long_name` on the new name; then by the answer of `check_for_existence` in the
    destination — its error, or the entry found: nothing happens if it is the source entry itself (same position),
    else `AlreadyExists`.  (A directory: the ancestor walk comes first; nothing is claimed.) -/
theorem rename_file_head (V1 : DirView d st) {st2 : DirStream} (V2 : DirView d st2) (ha : d.fs.lfnAlloc = true)
    (env : Env) (srcName dstName : String) (d1 : Dev) (hv : SameVol d d1) :
    ReadsOut (renameInternal env st srcName st2 dstName) d1
      (if (srcName = "." || srcName = ".." || dstName = "." || dstName = "..") = true then some (.error .invalidInput)
       else match V1.lookup env srcName none with
        | .error err => some (.error err)
        | .ok e =>
          match Names.validateLongName dstName with
          | .error err => some (.error err)
          | .ok () =>
            if e.isDir = true then none
            else match V2.check env dstName none with
              | .error err => some (.error err)
              | .ok (.entry le) =>
                if e.entryPos = (toDirEntryS V2.src le).entryPos then some (.ok ()) else some (.error .alreadyExists)
              | .ok (.alias _) => none) := by
  unfold renameInternal
  cases hdots : (srcName = "." || srcName = ".." || dstName = "." || dstName = "..") with
  | true => exact ReadsOut.fail d1 _
  | false =>
    simp only [Bool.false_eq_true, if_false]
    refine ReadsOut.bind (Reads.getFs d1) (fun d2 hs2 => ?_)
    have hf := V1.findEntry_sim env srcName none d2 (hv.trans hs2)
    cases hl : V1.lookup env srcName none with
    | error err => rw [hl] at hf; exact ReadsOut.fails hf
    | ok e =>
      rw [hl] at hf
      refine ReadsOut.bind hf (fun d3 hs3 => ?_)
      cases hval : Names.validateLongName dstName with
      | error err => exact ReadsOut.fails ⟨d3, rfl, SameVol.refl d3⟩
      | ok u =>
        cases u
        dsimp only [id]
        by_cases hdir : e.isDir = true
        · simp only [hdir, if_true]
          exact trivial
        simp only [liftE, hdir, Bool.false_eq_true, if_false]
        refine ReadsOut.bind (Reads.pure () d3) (fun d4 hs4 => ?_)
        have hce := V2.checkForExistence_sim ha env dstName none d4 (((hv.trans hs2).trans hs3).trans hs4)
        cases hc : V2.check env dstName none with
        | error err => rw [hc] at hce; exact ReadsOut.fails hce
        | ok r =>
          rw [hc] at hce
          refine ReadsOut.bind hce (fun d5 _ => ?_)
          cases r with
          | alias a => exact trivial
          | entry le =>
            simp only [liftEOA]
            by_cases heq : e.entryPos = (toDirEntryS V2.src le).entryPos
            · simp only [heq, if_true]
              exact Reads.pure () d5
            · simp only [heq, if_false]
              exact ReadsOut.fail d5 _

/-- **`create_dir(name)` without a free cluster**: the name is free, the allocator finds nothing: `NotEnoughSpace`;
    the volume is kept -/
theorem createDir_noSpace_sim (V : DirView d st) (ha : d.fs.lfnAlloc = true) (env : Env) (path name : String)
    (hsp : Names.splitPath path = (name, none)) (hdot : (name = "." || name = "..") = false)
    (hval : Names.validateLongName name = .ok ()) (a : List Nat) (h : V.check env name (some true) = .ok (.alias a))
    (hfa : d.failAt = none) (hwf : d.img.WF) (hgeo : Geo d.fs d.img.size) (hinfo : InfoOk d.fs d.img)
    (hfull : allocFindV (tabView d.fs d.img) d.fs.fsInfo.next d.fs.totalClusters = none) (fuel : Nat) :
    FailsV (createDir env (fuel + 1) st path) d .noSpace := by
  have hce := V.checkForExistence_sim ha env name (some true) d (SameVol.refl d)
  rw [h] at hce
  obtain ⟨d1, h1, hs1⟩ := hce
  rcases run_allocClusterFs_any none true d1 (by rw [hs1.failAt]; exact hfa) (by rw [hs1.img]; exact hwf)
      (by rw [hs1.fs, hs1.img]; exact hgeo) (by rw [hs1.fs, hs1.img]; exact hinfo) (fun p hp => by cases hp) with
    ⟨_, d2, h2, hs2⟩ | ⟨c, _, hsome, _⟩
  · refine ⟨d2, ?_, hs1.trans hs2.toVol⟩
    unfold FatVerif.createDir
    rw [run_bind_ok (run_getFs d), hsp]
    simp only
    rw [run_bind_ok h1]
    simp only [liftEOA, hdot, Bool.false_eq_true, if_false, liftE, hval]
    rw [run_bind_ok (rfl : run (pure () : Prog Unit) d1 = (.ok (), d1)), run_bind_error h2]
  · rw [hs1.fs, hs1.img, hfull] at hsome
    cases hsome

end DirView

end FatVerif.DirSim
