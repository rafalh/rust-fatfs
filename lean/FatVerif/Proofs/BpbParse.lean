import FatVerif.Proofs.BpbValidate
import FatVerif.Spec.ValidBpb
import FatVerif.Spec.Geometry
/-! `deserialize`: its record equation, ranges, its numeric fields as those of the C06 decoder (`SameFields`), and
through them the bridge to the independent parse of `Spec/Geometry.lean`. -/
namespace FatVerif
namespace Bpb

/-! ### projections of `deserialize`

Either layout is a record expression; each field of it is read off by `rfl`. -/

theorem deserialize_eq (b : List Nat) : deserialize b =
    if u16At b 22 = 0 then ((readExt32 (readCommon b) b).withTail b 64).cleanTail
    else ((readCommon b).withTail b 36).cleanTail := by
  simp only [deserialize, isFat32, readCommon, beq_iff_eq]

theorem des_isFat32 (b : List Nat) : (deserialize b).isFat32 = (u16At b 22 == 0) := by
  rw [deserialize_eq]; split <;> rfl
theorem des_fsVersion (b : List Nat) :
    (deserialize b).fsVersion = if u16At b 22 = 0 then u16At b 42 else 0 := by
  rw [deserialize_eq]; split <;> rfl
theorem des_reserved1 (b : List Nat) :
    (deserialize b).reserved1 = if u16At b 22 = 0 then u8At b 65 else u8At b 37 := by
  rw [deserialize_eq]; split <;> rfl

theorem deserialize_inRange {b : List Nat} (hb : IsSector b) : (deserialize b).InRange := by
  rw [deserialize_eq]
  split
  · exact ⟨u16At_lt hb _, u8At_lt hb _, u16At_lt hb _, u8At_lt hb _, u16At_lt hb _, u16At_lt hb _, u16At_lt hb _,
      u32At_lt hb _, u32At_lt hb _, u32At_lt hb _, u16At_lt hb _, u16At_lt hb _, u16At_lt hb _, u8At_lt hb _⟩
  · exact ⟨u16At_lt hb _, u8At_lt hb _, u16At_lt hb _, u8At_lt hb _, u16At_lt hb _, u16At_lt hb _, u16At_lt hb _,
      u32At_lt hb _, Nat.succ_pos _, Nat.succ_pos _, Nat.succ_pos _, Nat.succ_pos _, Nat.succ_pos _, u8At_lt hb _⟩

end Bpb

section
open FormatSpec
theorem u16At_eq_rd16 (b : List Nat) (i : Nat) : u16At b i = rd16 b i := rfl
theorem u32At_eq_rd32 (b : List Nat) (i : Nat) : u32At b i = rd32 b i := by
  unfold u32At rd32 le32 rd8; rfl
theorem u8At_eq_rd8 (b : List Nat) (i : Nat) : u8At b i = rd8 b i := rfl

/-- the numeric fields of `Bpb.deserialize` are those of `decodeBoot` -/
structure SameFields (p : Bpb) (v : BpbView) : Prop where
  bps : p.bytesPerSector = v.bps
  spc : p.sectorsPerCluster = v.spc
  rsvd : p.reservedSectors = v.reserved
  fats : p.fats = v.fats
  root : p.rootEntries = v.rootEntries
  ts16 : p.totalSectors16 = v.ts16
  media : p.media = v.media
  spf16 : p.sectorsPerFat16 = v.spf16
  ts32 : p.totalSectors32 = v.ts32
  spf32 : p.sectorsPerFat32 = v.spf32
  extFlags : p.extendedFlags = v.extFlags
  fsVersion : p.fsVersion = v.fsVersion
  rootCluster : p.rootDirFirstCluster = v.rootCluster
  fsInfo : p.fsInfoSector = v.fsInfo
  backup : p.backupBootSector = v.backup
  reserved1 : p.reserved1 = v.reserved1

theorem sameFields_deserialize (b : List Nat) : SameFields (Bpb.deserialize b) (decodeBoot b) := by
  unfold Bpb.deserialize decodeBoot
  simp only
  by_cases h : rd16 b 22 = 0
  · have hf : (Bpb.readCommon b).isFat32 = true := by
      simp [Bpb.isFat32, Bpb.readCommon, u16At_eq_rd16, h]
    rw [if_pos hf]
    simp only [h, if_true]
    constructor <;>
      simp only [Bpb.cleanTail, Bpb.withTail, Bpb.readExt32, Bpb.readCommon, u16At_eq_rd16, u32At_eq_rd32, u8At_eq_rd8] <;>
      first | done | exact h
  · have hf : ¬ (Bpb.readCommon b).isFat32 = true := by
      simp [Bpb.isFat32, Bpb.readCommon, u16At_eq_rd16, h]
    rw [if_neg hf]
    simp only [h, if_false]
    constructor <;>
      simp only [Bpb.cleanTail, Bpb.withTail, Bpb.readCommon, u16At_eq_rd16, u32At_eq_rd32, u8At_eq_rd8]
end

/-! ### bridge to the independent parse -/
namespace GeoSpec
open Bpb

theorem field1 (b : List Nat) (i : Nat) : field b i 1 = u8At b i := by
  simp [field, u8At]
theorem field2 (b : List Nat) (i : Nat) : field b i 2 = u16At b i := by
  simp [field, u16At, le16]
theorem field4 (b : List Nat) (i : Nat) : field b i 4 = u32At b i := by
  have e2 : i + 1 + 1 = i + 2 := rfl
  have e3 : i + 2 + 1 = i + 3 := rfl
  simp only [field, u32At, le32, e2, e3]; omega

theorem bytsPerSec_eq (b : List Nat) : bytsPerSec b = (deserialize b).bytesPerSector :=
  (field2 b 11).trans (sameFields_deserialize b).bps.symm
theorem secPerClus_eq (b : List Nat) : secPerClus b = (deserialize b).sectorsPerCluster :=
  (field1 b 13).trans (sameFields_deserialize b).spc.symm
theorem rsvdSecCnt_eq (b : List Nat) : rsvdSecCnt b = (deserialize b).reservedSectors :=
  (field2 b 14).trans (sameFields_deserialize b).rsvd.symm
theorem numFATs_eq (b : List Nat) : numFATs b = (deserialize b).fats :=
  (field1 b 16).trans (sameFields_deserialize b).fats.symm
theorem rootEntCnt_eq (b : List Nat) : rootEntCnt b = (deserialize b).rootEntries :=
  (field2 b 17).trans (sameFields_deserialize b).root.symm
theorem layout32_eq (b : List Nat) : layout32 b = (deserialize b).isFat32 := by
  rw [des_isFat32, layout32, fatSz16, field2]

theorem fatSz_eq (b : List Nat) : fatSz b = (deserialize b).sectorsPerFat := by
  have hs := sameFields_deserialize b
  unfold fatSz Bpb.sectorsPerFat
  rw [des_isFat32, hs.spf32, hs.spf16, fatSz16, fatSz32, field2, field4]
  show _ = if _ then (if FormatSpec.rd16 b 22 = 0 then FormatSpec.rd32 b 36 else 0) else FormatSpec.rd16 b 22
  rw [u16At_eq_rd16, u32At_eq_rd32]
  by_cases h : FormatSpec.rd16 b 22 = 0 <;> simp [h]

theorem totSec_eq (b : List Nat) : totSec b = (deserialize b).totalSectors := by
  have hs := sameFields_deserialize b
  unfold totSec Bpb.totalSectors
  rw [hs.ts16, hs.ts32, totSec16, totSec32, field2, field4]
  show _ = if FormatSpec.rd16 b 19 = 0 then FormatSpec.rd32 b 32 else FormatSpec.rd16 b 19
  rw [u16At_eq_rd16, u32At_eq_rd32]
  by_cases h : FormatSpec.rd16 b 19 = 0 <;> simp [h]

theorem rootDirSectors_eq (b : List Nat) : rootDirSectors b = (deserialize b).rdsNat := by
  unfold rootDirSectors Bpb.rdsNat
  rw [rootEntCnt_eq, bytsPerSec_eq]
  by_cases h : (deserialize b).bytesPerSector = 0
  · simp [h]
  · congr 1; omega

theorem metaSectors_eq (b : List Nat) : metaSectors b = (deserialize b).fdsNat := by
  unfold metaSectors Bpb.fdsNat
  rw [rsvdSecCnt_eq, numFATs_eq, fatSz_eq, rootDirSectors_eq]

theorem countOfClusters_eq (b : List Nat) : countOfClusters b = (deserialize b).tcNat := by
  unfold countOfClusters dataSec Bpb.tcNat
  rw [totSec_eq, metaSectors_eq, secPerClus_eq]

theorem fatTypeOfCount_eq (n : Nat) : fatTypeOfCount n = FatType.fromClusters n := rfl

theorem rootClus_eq (b : List Nat) (h : (deserialize b).isFat32 = true) :
    rootClus b = (deserialize b).rootDirFirstCluster := by
  rw [des_isFat32, beq_iff_eq] at h
  rw [(sameFields_deserialize b).rootCluster, rootClus, field4, u32At_eq_rd32]
  exact (if_pos h).symm
theorem fsInfo_eq (b : List Nat) (h : (deserialize b).isFat32 = true) :
    fsInfo b = (deserialize b).fsInfoSector := by
  rw [des_isFat32, beq_iff_eq] at h
  rw [(sameFields_deserialize b).fsInfo, fsInfo, field2]
  exact (if_pos h).symm
theorem bkBootSec_eq (b : List Nat) (h : (deserialize b).isFat32 = true) :
    bkBootSec b = (deserialize b).backupBootSector := by
  rw [des_isFat32, beq_iff_eq] at h
  rw [(sameFields_deserialize b).backup, bkBootSec, field2]
  exact (if_pos h).symm

end GeoSpec
end FatVerif
