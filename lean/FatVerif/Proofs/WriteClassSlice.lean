import FatVerif.Proofs.WriteClass
import FatVerif.Props.C12
/-! WHERE the model writes: one device write, `FsIoAdapter::write`, `write_all` on the inner stream of a
    `DiskSlice`, `DiskSlice::{read,write,seek}`. All statements assume that the byte range addressed lies inside the
    device (`pos + len ≤ img.size`): the model device accepts a write partially only at its end. -/
namespace FatVerif

/-- a record inside the status byte -/
def StatusRec (fs : FsState) (off : Nat) (bs : List Nat) : Prop := statusOff fs ≤ off ∧ off + bs.length ≤ statusOff fs + 1

theorem statusOff_geom {a b : FsState} (h : SameGeom a b) : statusOff b = statusOff a := by
  have h1 : a.geom.fatType = b.geom.fatType := congrArg FsState.fatType h
  have : a.fatType = b.fatType := h1
  simp [statusOff, this]

theorem StatusRec.geom {a b : FsState} (h : SameGeom a b) {off bs} (hs : StatusRec b off bs) : StatusRec a off bs := by
  unfold StatusRec at *; rw [statusOff_geom h] at hs; exact hs

/-- every outcome of `set_dirty_flag`: geometry kept, records inside the status byte -/
theorem setDirtyFlag_all (b : Bool) (d : Dev) {r d'} (hr : run (setDirtyFlag b) d = (r, d')) :
    SameGeom d.fs d'.fs ∧ LogAll (StatusRec d.fs) d d' := by
  have a := ((setDirtyFlag_tri b d.fs d.log).out d _ d' ⟨rfl, rfl⟩ hr).1
  exact ⟨a.1, LogAll.of_within a.2 (fun _ _ h1 h2 => ⟨h1, h2⟩)⟩

/-! ### `write_all` of a non-empty buffer lying inside the device, on the inner stream of a slice -/

/-- the status record `FsIoAdapter::write` puts out BEFORE its first write on a volume not yet marked dirty -/
def statusExtra (via : Bool) (fs : FsState) : List LogItem :=
  if via = true ∧ fs.curDirty = false then [statusWrite fs true] else []

/-- the mounted state after a successful write through the inner stream: through `FsIoAdapter` on a volume not yet
    marked dirty, the flags `set_dirty_flag(true)` stores (`setDirtyFlag_tri`) -/
def fsAfter (via : Bool) (fs : FsState) : FsState :=
  if via = true ∧ fs.curDirty = false then { fs with curDirty := fs.bpbDirty || true, curIoErr := fs.bpbIoErr } else fs

theorem fsAfter_geom (via : Bool) (fs : FsState) : SameGeom fs (fsAfter via fs) := by
  unfold fsAfter; split <;> rfl

theorem fsAfter_dirty (fs : FsState) : (fsAfter true fs).curDirty = true := by
  unfold fsAfter
  cases h : fs.curDirty <;> simp [h]

theorem statusExtra_after (via : Bool) (fs : FsState) : statusExtra via (fsAfter via fs) = [] := by
  cases via with
  | false => simp [statusExtra]
  | true => unfold statusExtra; rw [fsAfter_dirty]; simp

theorem fsAfter_idem (via : Bool) (fs : FsState) : fsAfter via (fsAfter via fs) = fsAfter via fs := by
  cases via with
  | false => simp [fsAfter]
  | true =>
    have := fsAfter_dirty fs
    generalize fsAfter true fs = g at *
    unfold fsAfter; rw [this]; simp

theorem statusExtra_dirty {fs : FsState} (h : fs.curDirty = true) (via : Bool) : statusExtra via fs = [] := by
  unfold statusExtra; rw [h]; simp

theorem statusExtra_clean {fs : FsState} (h : fs.curDirty = false) : statusExtra true fs = [statusWrite fs true] := by
  unfold statusExtra; rw [h]; simp

theorem statusExtra_mem (via : Bool) (fs : FsState) : ∀ off bs, LogItem.write off bs ∈ statusExtra via fs →
    off = statusOff fs ∧ bs.length = 1 := by
  intro off bs hm
  unfold statusExtra at hm
  split at hm
  · simp only [List.mem_singleton, statusWrite, LogItem.write.injEq] at hm
    obtain ⟨rfl, rfl⟩ := hm
    exact ⟨rfl, rfl⟩
  · cases hm

theorem statusExtra_isWrite (via : Bool) (fs : FsState) : ∀ it ∈ statusExtra via fs, it.isWrite = true := by
  intro it hit
  unfold statusExtra at hit
  split at hit
  · simp only [List.mem_singleton] at hit; subst hit; rfl
  · cases hit

theorem fsAfter_of_dirty {fs : FsState} (h : fs.curDirty = true) (via : Bool) : fsAfter via fs = fs := by
  unfold fsAfter; rw [h]; simp

theorem run_devWrite_full (bs : List Nat) (d : Dev) (hin : d.pos + bs.length ≤ d.img.size) {r d1}
    (hr : run (Prog.write bs) d = (r, d1)) :
    d1.fs = d.fs ∧ ((∃ e, r = .error e ∧ d1.log = d.log) ∨
      (r = .ok bs.length ∧ d1.log = .write d.pos bs :: d.log ∧ d1.pos = d.pos + bs.length)) := by
  simp only [Prog.write, run] at hr
  have h := stepOp_write_exact bs d hr
  have hm : min bs.length (d.img.size - d.pos) = bs.length := by omega
  rw [hm, List.take_length] at h
  exact h

/-! ### `DiskSlice` -/

/-- same window, offset inside it -/
structure SliceInv (s0 s : DiskSlice) : Prop where
  beginOff : s.beginOff = s0.beginOff
  size : s.size = s0.size
  mirrors : s.mirrors = s0.mirrors
  viaFs : s.viaFs = s0.viaFs
  le : s.offset ≤ s.size

/-- the byte range of all copies of a slice -/
def SliceRec (s0 : DiskSlice) (off : Nat) (bs : List Nat) : Prop :=
  s0.beginOff ≤ off ∧ off + bs.length ≤ s0.beginOff + s0.mirrors * s0.size

/-- the log records (newest first) of the writes of `bs` at `off + j*size` for `j = i, …, i+k-1` -/
def mirrorLog (off size : Nat) (bs : List Nat) : Nat → Nat → List LogItem
  | 0, _ => []
  | k + 1, i => mirrorLog off size bs k (i + 1) ++ [.write (off + i * size) bs]

theorem mem_mirrorLog {off size : Nat} {bs : List Nat} : ∀ (k i : Nat) (it : LogItem),
    it ∈ mirrorLog off size bs k i ↔ ∃ j, j < k ∧ it = .write (off + (i + j) * size) bs := by
  intro k
  induction k with
  | zero => intro i it; simp [mirrorLog]
  | succ k ih =>
    intro i it
    simp only [mirrorLog, List.mem_append, List.mem_singleton, ih]
    constructor
    · rintro (⟨j, hj, rfl⟩ | rfl)
      · exact ⟨j + 1, by omega, by rw [show i + 1 + j = i + (j + 1) by omega]⟩
      · exact ⟨0, by omega, by simp⟩
    · rintro ⟨j, hj, rfl⟩
      cases j with
      | zero => right; simp
      | succ j => left; exact ⟨j, by omega, by rw [show i + 1 + j = i + (j + 1) by omega]⟩

theorem run_inner_seek (s : DiskSlice) (n : Nat) (d : Dev) {r d1} (hr : run (s.inner.seek () (.start n)) d = (r, d1)) :
    d1.fs = d.fs ∧ d1.log = d.log ∧ (∀ v, r = .ok v → d1.pos = n) := by
  have hr' : run (Prog.bind (Prog.seekStart n) (fun m => Prog.pure (m, ()))) d = (r, d1) := by
    unfold DiskSlice.inner at hr
    split at hr <;> exact hr
  rcases run_bind_cases hr' with ⟨m, d2, h1, h2⟩ | ⟨e, h1, he⟩
  · simp only [run] at h2; cases h2
    have := run_seekStart_spec n d h1
    exact ⟨this.1, this.2.1, fun v _ => this.2.2 _ rfl⟩
  · have := run_seekStart_spec n d h1
    exact ⟨this.1, this.2.1, fun v hv => by rw [he] at hv; cases hv⟩

/-- what `writeMirrors off bs k i` on a volume mounted as `fsA` does: geometry kept; data records are `bs` at one of
    the mirror offsets, the rest is the status byte -/
def MirrorRel (s : DiskSlice) (off : Nat) (bs : List Nat) (fsA : FsState) (k i : Nat) (d d' : Dev) : Prop :=
  SameGeom d.fs d'.fs ∧
  LogAll (fun o b => (∃ j, j < k ∧ o = off + (i + j) * s.size ∧ b = bs) ∨ StatusRec fsA o b) d d'

theorem mirrorRel_ok (s : DiskSlice) (off : Nat) (bs : List Nat) (fsA : FsState) (k i : Nat) :
    RelOK (MirrorRel s off bs fsA k i) :=
  ⟨fun d => ⟨SameGeom.refl _, LogAll.refl _ d⟩, fun _ _ _ h1 h2 => ⟨h1.1.trans h2.1, h1.2.trans h2.2⟩,
   fun _ _ => ⟨SameGeom.refl _, LogAll.of_log_eq rfl⟩⟩

/-- one write of the non-empty `bs` through the inner stream at the `i`-th mirror offset, on a device of size `sz`
    mounted as `fsA` with log `l0`: ONE device write, preceded by the status record if `FsIoAdapter` owes one -/
theorem inner_write_tri (s : DiskSlice) (off : Nat) (bs : List Nat) (hne : bs ≠ []) (sz i : Nat) (fsA : FsState)
    (l0 : List LogItem) (hin : off + i * s.size + bs.length ≤ sz) :
    Tri (MirrorRel s off bs fsA 1 i)
      (fun d => ((d.fs = fsA ∧ d.log = l0) ∧ d.img.size = sz) ∧ d.pos = off + i * s.size) (s.inner.write () bs)
      (fun v d' => ((d'.fs = fsAfter s.viaFs fsA ∧
        d'.log = .write (off + i * s.size) bs :: (statusExtra s.viaFs fsA ++ l0)) ∧ d'.img.size = sz) ∧ v.1 = bs.length) := by
  have hR := mirrorRel_ok s off bs fsA 1 i
  -- the device write itself, from mounted state `fsX` and log `lX`
  have hwr : ∀ (fsX : FsState) (lX : List LogItem), SameGeom fsA fsX →
      Tri (MirrorRel s off bs fsA 1 i)
        (fun d => ((d.fs = fsX ∧ d.log = lX) ∧ d.img.size = sz) ∧ d.pos = off + i * s.size) (Prog.write bs)
        (fun n d' => ((d'.fs = fsX ∧ d'.log = .write (off + i * s.size) bs :: lX) ∧ d'.img.size = sz) ∧ n = bs.length) := by
    intro fsX lX _
    refine ⟨fun d r d' hp hr => ?_⟩
    have hsz := (run_img_size _ _ _ _ hr).trans hp.1.2
    rcases run_devWrite_full bs d (by rw [hp.2, hp.1.2]; exact hin) hr with ⟨hfs, ⟨e, he, hlog⟩ | ⟨hm, hlog, _⟩⟩
    · exact ⟨⟨by rw [hfs]; exact SameGeom.refl _, LogAll.of_log_eq hlog⟩, fun v hv => by rw [he] at hv; cases hv⟩
    · rw [hp.2] at hlog
      refine ⟨⟨by rw [hfs]; exact SameGeom.refl _, LogAll.cons hlog (Or.inl ⟨0, by omega, by simp, rfl⟩)⟩,
        fun v hv => ?_⟩
      rw [hm] at hv; cases hv
      exact ⟨⟨⟨hfs.trans hp.1.1.1, by rw [hlog, hp.1.1.2]⟩, hsz⟩, rfl⟩
  unfold DiskSlice.inner
  cases hv : s.viaFs with
  | false =>
    simp only [Bool.false_eq_true, if_false, devStrm]
    refine Tri.bind hR (hwr fsA l0 (SameGeom.refl _)) (fun n => Tri.pure hR (fun d h => ?_))
    simpa [fsAfter, statusExtra] using h
  | true =>
    have hlen : bs.length > 0 := List.length_pos_iff.mpr hne
    simp only [if_true]
    rw [adapterStrm_write_unfold, if_pos hlen]
    refine Tri.bind hR (Q := fun _ d => ((d.fs = fsAfter true fsA ∧ d.log = statusExtra true fsA ++ l0) ∧
      d.img.size = sz) ∧ d.pos = off + i * s.size) ⟨fun d r d' hp hr => ?_⟩ (fun _ => ?_)
    · have hsz := (run_img_size _ _ _ _ hr).trans hp.1.2
      cases hcd : fsA.curDirty with
      | true =>
        -- already marked dirty: nothing happens
        obtain ⟨hok, hd⟩ := (markDirtyBeforeWrite_spec d hr).1 (by rw [hp.1.1.1]; exact hcd)
        subst hd
        rw [fsAfter_of_dirty hcd, statusExtra_dirty hcd]
        exact ⟨hR.refl _, fun _ _ => hp⟩
      | false =>
        have a := (markDirtyBeforeWrite_tri fsA l0 _ hcd).out d r d' ⟨hp.1.1.1, hp.1.1.2, hp.2⟩ hr
        refine ⟨⟨a.1.1, LogAll.of_within a.1.2 (fun _ _ h1 h2 => Or.inr ⟨h1, h2⟩)⟩, fun u hu => ?_⟩
        obtain ⟨h1, h2, h3⟩ := a.2 u hu
        rw [statusExtra_clean hcd]
        refine ⟨⟨⟨?_, h2⟩, hsz⟩, h3⟩
        rw [h1]; unfold fsAfter; rw [hcd]; simp
    · exact Tri.bind hR (hwr _ _ (fsAfter_geom _ _)) (fun n => Tri.pure hR (fun d h => h))

/-- `write_all` of such a buffer there: the one `write` takes it whole -/
theorem inner_writeAll_tri (s : DiskSlice) (off : Nat) (bs : List Nat) (hne : bs ≠ []) (sz i : Nat) (fsA : FsState)
    (l0 : List LogItem) (hin : off + i * s.size + bs.length ≤ sz) :
    Tri (MirrorRel s off bs fsA 1 i)
      (fun d => ((d.fs = fsA ∧ d.log = l0) ∧ d.img.size = sz) ∧ d.pos = off + i * s.size) (writeAll s.inner () bs)
      (fun _ d' => (d'.fs = fsAfter s.viaFs fsA ∧
        d'.log = .write (off + i * s.size) bs :: (statusExtra s.viaFs fsA ++ l0)) ∧ d'.img.size = sz) := by
  have hR := mirrorRel_ok s off bs fsA 1 i
  have hlen : bs.length ≠ 0 := by simpa using hne
  obtain ⟨k, hk⟩ : ∃ k, bs.length = k + 1 := ⟨bs.length - 1, by omega⟩
  have hemp : bs.isEmpty = false := by cases bs <;> simp_all
  unfold writeAll
  rw [hk]
  unfold writeAllLoop
  simp only [hemp, Bool.false_eq_true, if_false]
  refine Tri.bind hR (inner_write_tri s off bs hne sz i fsA l0 hin) ?_
  rintro ⟨n, u⟩
  refine Tri.of_imp (fun hn : n = bs.length => ?_)
  dsimp only
  rw [if_neg (by omega), hn, List.drop_length]
  unfold writeAllLoop
  exact Tri.pure hR (fun _ h => h)

/-- `writeMirrors` on a device of size `sz`, mounted state `fsA`, log `l0`, walked through once. A successful run
    appends `bs` at each mirror offset, in order; the one status record `FsIoAdapter` may owe PRECEDES the first of
    them (fix f695ddf), and none is due when `statusExtra` is already empty. -/
theorem writeMirrors_tri (s : DiskSlice) (off : Nat) (bs : List Nat) (hne : bs ≠ []) (sz : Nat) :
    ∀ (k i : Nat) (fsA : FsState) (l0 : List LogItem), (∀ j, j < k → off + (i + j) * s.size + bs.length ≤ sz) →
      Tri (MirrorRel s off bs fsA k i) (fun d => (d.fs = fsA ∧ d.log = l0) ∧ d.img.size = sz) (s.writeMirrors off bs k i)
        (fun _ d' =>
          (statusExtra s.viaFs fsA = [] → fsAfter s.viaFs fsA = fsA →
            d'.fs = fsA ∧ d'.log = mirrorLog off s.size bs k i ++ l0) ∧
          (∀ k', k = k' + 1 → d'.fs = fsAfter s.viaFs fsA ∧
            d'.log = mirrorLog off s.size bs k' (i + 1) ++
              (.write (off + i * s.size) bs :: (statusExtra s.viaFs fsA ++ l0)))) := by
  intro k
  induction k with
  | zero =>
    intro i fsA l0 _
    unfold DiskSlice.writeMirrors
    exact Tri.pure (mirrorRel_ok ..) (fun d hd => ⟨fun _ _ => hd.1, fun k' hk => by omega⟩)
  | succ k ih =>
    intro i fsA l0 hin
    have hR := mirrorRel_ok s off bs fsA (k + 1) i
    have hin0 : off + i * s.size + bs.length ≤ sz := by have := hin 0 (by omega); simpa using this
    unfold DiskSlice.writeMirrors
    -- the seek changes the position only
    refine Tri.bind hR (Q := fun _ d => ((d.fs = fsA ∧ d.log = l0) ∧ d.img.size = sz) ∧ d.pos = off + i * s.size)
      ⟨fun d r d' hp hr => ?_⟩ (fun _ => ?_)
    · have hs := run_inner_seek s _ d hr
      exact ⟨⟨by rw [hs.1]; exact SameGeom.refl _, LogAll.of_log_eq hs.2.1⟩,
        fun v hv => ⟨⟨⟨hs.1.trans hp.1.1, hs.2.1.trans hp.1.2⟩, (run_img_size _ _ _ _ hr).trans hp.2⟩, hs.2.2 v hv⟩⟩
    -- one device write of `bs` there, preceded by the status record if one is due
    refine Tri.bind hR ((inner_writeAll_tri s off bs hne sz i fsA l0 hin0).mono ?_) (fun _ => ?_)
    · rintro d d' ⟨hg, hl⟩
      refine ⟨hg, hl.mono ?_⟩
      rintro o b (⟨j, hj, h⟩ | hst)
      · exact Or.inl ⟨j, by omega, h⟩
      · exact Or.inr hst
    -- the remaining copies: no status record is due any more
    have hgB : SameGeom fsA (fsAfter s.viaFs fsA) := fsAfter_geom _ _
    refine ((ih (i + 1) (fsAfter s.viaFs fsA) _ (fun j hj => by
      have := hin (j + 1) (by omega); rw [show i + 1 + j = i + (j + 1) by omega]; exact this)).mono ?_).conseq
      (fun _ h => h) ?_
    · rintro d d' ⟨hg, hl⟩
      refine ⟨hg, hl.mono ?_⟩
      rintro o b (⟨j, hj, ho, hb⟩ | hst)
      · exact Or.inl ⟨j + 1, by omega, by rw [ho, show i + 1 + j = i + (j + 1) by omega], hb⟩
      · exact Or.inr (hst.geom hgB)
    · rintro _ d' ⟨hq, _⟩
      obtain ⟨hfs, hlog⟩ := hq (statusExtra_after _ _) (fsAfter_idem _ _)
      refine ⟨fun hst hfa => ⟨hfs.trans hfa, ?_⟩, fun k' hk => ?_⟩
      · rw [hlog, hst]; simp [mirrorLog]
      · cases hk; exact ⟨hfs, hlog⟩

theorem mirror_bound {b o z m j w sz : Nat} (hj : j < m) (ho : o + w ≤ z) (hsz : b + m * z ≤ sz) :
    b + o + j * z + w ≤ sz := by
  have : (j + 1) * z ≤ m * z := Nat.mul_le_mul_right z hj
  rw [Nat.add_mul, Nat.one_mul] at this
  omega

theorem Img.read_length (i : Img) (off len : Nat) : (i.read off len).length = len := by
  simp [Img.read]

theorem run_inner_read_len (s : DiskSlice) (n : Nat) (d : Dev) {bs : List Nat} {u : Unit} {d1 : Dev}
    (hr : run (s.inner.read () n) d = (.ok (bs, u), d1)) : bs.length ≤ n := by
  have hr' : run (Prog.bind (Prog.read n) (fun bs => Prog.pure (bs, ()))) d = (.ok (bs, u), d1) := by
    unfold DiskSlice.inner at hr
    split at hr <;> exact hr
  obtain ⟨b, d2, h1, h2⟩ := run_bind_ok_inv hr'
  simp only [run] at h2; cases h2
  simp only [Prog.read, run, stepOp, devCall, devCallCore] at h1
  split at h1
  · cases h1
  · cases h1
    rw [Img.read_length]; exact Nat.min_le_left _ _

/-- the piece `DiskSlice::write` writes is not empty and fits, at every copy, into a device that holds the copies -/
theorem slice_write_bounds (s : DiskSlice) (bs : List Nat) {sz : Nat} (hle : s.offset ≤ s.size)
    (hdev : s.beginOff + s.mirrors * s.size ≤ sz) (hws : ¬ min bs.length (s.size - s.offset) = 0) :
    bs.take (min bs.length (s.size - s.offset)) ≠ [] ∧ ∀ j, j < s.mirrors →
      s.beginOff + s.offset + (0 + j) * s.size + (bs.take (min bs.length (s.size - s.offset))).length ≤ sz := by
  refine ⟨fun h0 => ?_, fun j hj => ?_⟩
  · have := congrArg List.length h0
    simp only [List.length_take, List.length_nil] at this
    omega
  · rw [Nat.zero_add]
    refine mirror_bound hj ?_ hdev
    simp only [List.length_take]; omega

theorem run_slice_seek_start (s : DiskSlice) (n : Nat) (d : Dev) {t : Nat} {s1 : DiskSlice} {d' : Dev}
    (hr : run (s.seek (.start n)) d = (.ok (t, s1), d')) : d' = d ∧ t = n ∧ s1 = { s with offset := n } ∧ n ≤ s.size := by
  unfold DiskSlice.seek at hr
  dsimp only at hr
  split at hr
  · simp only [run] at hr; cases hr
  · cases run_pure_cases hr
    exact ⟨rfl, rfl, rfl, by omega⟩

section slice
variable {fs0 : FsState} {sz : Nat} {C : Nat → List Nat → Prop} {s0 : DiskSlice}

theorem DiskSlice.read_gs {s : DiskSlice} (hs : SliceInv s0 s) (n : Nat) :
    GS fs0 sz C (s.read n) (fun r => SliceInv s0 r.2) := by
  refine ⟨fun d r d' hg hsz hr => ?_⟩
  have hq := (GS.of_quiet (fs0 := fs0) (sz := sz) (C := C) (DiskSlice.read_quiet s n)).out d r d' hg hsz hr
  refine ⟨hq.1, hq.2.1, ?_⟩
  intro v hv; subst hv
  unfold DiskSlice.read at hr
  obtain ⟨_, d1, _, h2⟩ := run_bind_ok_inv hr
  rcases run_bind_cases h2 with ⟨⟨bs, u⟩, d2, h3, h4⟩ | ⟨e, _, he⟩
  · have hlen := run_inner_read_len s _ d1 h3
    cases run_pure_cases h4
    have := hs.le
    exact ⟨hs.beginOff, hs.size, hs.mirrors, hs.viaFs, by show s.offset + bs.length ≤ s.size; omega⟩
  · cases he

theorem DiskSlice.seek_gs {s : DiskSlice} (hs : SliceInv s0 s) (p : SeekFrom) :
    GS fs0 sz C (s.seek p) (fun r => SliceInv s0 r.2) := by
  unfold DiskSlice.seek
  dsimp only
  split
  · split
    · exact GS.fail _
    · rename_i t _ h; exact GS.pure ⟨hs.beginOff, hs.size, hs.mirrors, hs.viaFs, by show t ≤ s.size; omega⟩
  · exact GS.fail _

/-- successful `seek(Start n)` on a slice: pure -/
theorem slice_seek_at {s : DiskSlice} (hs : SliceInv s0 s) (n : Nat) (d : Dev) {t : Nat} {s1 : DiskSlice} {d' : Dev}
    (hr : run (DiskSlice.strm.seek s (.start n)) d = (.ok (t, s1), d')) :
    d' = d ∧ s1 = { s with offset := n } ∧ n ≤ s0.size ∧ SliceInv s0 s1 := by
  have hr' : run (s.seek (.start n)) d = (.ok (t, s1), d') := hr
  obtain ⟨h1, _, h3, h4⟩ := run_slice_seek_start s n d hr'
  refine ⟨h1, h3, by rw [← hs.size]; exact h4, ?_⟩
  rw [h3]; exact ⟨hs.beginOff, hs.size, hs.mirrors, hs.viaFs, h4⟩

/-- `DiskSlice::write`: data records inside the window of the copies, the rest is the status byte; the offset stays
    inside the slice -/
theorem DiskSlice.write_gs {s : DiskSlice} (hs : SliceInv s0 s) (hdev : s0.beginOff + s0.mirrors * s0.size ≤ sz)
    (hC : ∀ off b, SliceRec s0 off b → C off b) (hCs : ∀ off b, StatusRec fs0 off b → C off b) (bs : List Nat) :
    GS fs0 sz C (s.write bs) (fun r => SliceInv s0 r.2) := by
  refine ⟨fun d r d' hg hsz hr => ?_⟩
  unfold DiskSlice.write at hr
  dsimp only at hr
  split at hr
  · cases run_pure_cases hr
    exact ⟨hg, LogAll.refl _ _, fun v hv => by cases hv; exact hs⟩
  · rename_i hws
    have hle := hs.le
    obtain ⟨hne, hin⟩ := slice_write_bounds s bs hle (by rw [hs.beginOff, hs.size, hs.mirrors]; exact hdev) hws
    have key : ∀ {r1 d1}, run (s.writeMirrors (s.beginOff + s.offset) (bs.take (min bs.length (s.size - s.offset))) s.mirrors 0) d = (r1, d1) →
        SameGeom fs0 d1.fs ∧ LogAll C d d1 := by
      intro r1 d1 h1
      have hw := ((writeMirrors_tri s _ _ hne sz s.mirrors 0 d.fs d.log hin).out d _ _ ⟨⟨rfl, rfl⟩, hsz⟩ h1).1
      refine ⟨hg.trans hw.1, hw.2.mono ?_⟩
      rintro o b (⟨j, hj, ho, hb⟩ | hst)
      · apply hC
        subst hb
        have hb1 := hin j hj
        have : (j + 1) * s.size ≤ s.mirrors * s.size := Nat.mul_le_mul_right _ hj
        rw [Nat.add_mul, Nat.one_mul] at this
        refine ⟨by rw [ho, ← hs.beginOff]; omega, ?_⟩
        rw [ho, ← hs.beginOff, ← hs.mirrors, ← hs.size]
        simp only [List.length_take, Nat.zero_add] at hb1 ⊢
        omega
      · exact hCs _ _ (hst.geom hg)
    rcases run_bind_cases hr with ⟨_, d1, h1, h2⟩ | ⟨e, h1, he⟩
    · cases run_pure_cases h2
      have k1 := key h1
      exact ⟨k1.1, k1.2, fun v hv => by
        cases hv
        exact ⟨hs.beginOff, hs.size, hs.mirrors, hs.viaFs, by show s.offset + min _ _ ≤ s.size; omega⟩⟩
    · have k1 := key h1
      exact ⟨k1.1, k1.2, fun v hv => by rw [he] at hv; cases hv⟩

end slice

end FatVerif
