import FatVerif.Model.Names
/-! Lemmas about `ShortNameGenerator`: when `new` panics, the state invariant, legality of generated aliases. -/
namespace FatVerif.Names

/-! ## byte-index slicing -/

theorem utf8Len_append (a b : List Char) : utf8Len (a ++ b) = utf8Len a + utf8Len b := by
  induction a with
  | nil => simp [utf8Len]
  | cons c cs ih => simp [utf8Len, ih]; omega

theorem sliceFrom_cons_add (c : Char) (l : List Char) (k : Nat) :
    sliceFrom (c :: l) (c.utf8Size + k) = sliceFrom l k := by
  have hp := c.utf8Size_pos
  obtain ⟨m, hm⟩ : ∃ m, c.utf8Size + k = m + 1 := ⟨c.utf8Size + k - 1, by omega⟩
  rw [hm, sliceFrom]
  have h1 : c.utf8Size ≤ m + 1 := by omega
  have h2 : m + 1 - c.utf8Size = k := by omega
  simp [h1, h2]

theorem sliceTo_cons_add (c : Char) (l : List Char) (k : Nat) :
    sliceTo (c :: l) (c.utf8Size + k) = (sliceTo l k).map (c :: ·) := by
  have hp := c.utf8Size_pos
  obtain ⟨m, hm⟩ : ∃ m, c.utf8Size + k = m + 1 := ⟨c.utf8Size + k - 1, by omega⟩
  rw [hm, sliceTo]
  have h1 : c.utf8Size ≤ m + 1 := by omega
  have h2 : m + 1 - c.utf8Size = k := by omega
  simp [h1, h2]

theorem sliceFrom_zero (l : List Char) : sliceFrom l 0 = some l := by
  cases l <;> rfl

theorem sliceTo_zero (l : List Char) : sliceTo l 0 = some [] := by
  cases l <;> rfl

/-- slicing at the end of a prefix succeeds -/
theorem sliceFrom_append (a b : List Char) : sliceFrom (a ++ b) (utf8Len a) = some b := by
  induction a with
  | nil => simp [utf8Len, sliceFrom_zero]
  | cons c cs ih => simp only [List.cons_append, utf8Len]; rw [sliceFrom_cons_add]; exact ih

theorem sliceTo_append (a b : List Char) : sliceTo (a ++ b) (utf8Len a) = some a := by
  induction a with
  | nil => simp [utf8Len, sliceTo_zero]
  | cons c cs ih => simp only [List.cons_append, utf8Len]; rw [sliceTo_cons_add, ih]; rfl

theorem rfindDot_none {l : List Char} (h : rfindDot l = none) : '.' ∉ l := by
  induction l with
  | nil => simp
  | cons d ds ih =>
    simp only [rfindDot] at h
    cases hr : rfindDot ds with
    | some j => rw [hr] at h; cases h
    | none =>
      rw [hr] at h
      by_cases hd : d = '.'
      · rw [if_pos hd] at h; cases h
      · rintro (_ | ⟨_, hm⟩)
        · exact hd rfl
        · exact ih hr hm

/-- `rfind('.')` finds the last dot: everything after it is dot-free, and the index is the byte length before it -/
theorem rfindDot_some {l : List Char} {i : Nat} (h : rfindDot l = some i) :
    ∃ pre post, l = pre ++ '.' :: post ∧ utf8Len pre = i ∧ '.' ∉ post := by
  induction l generalizing i with
  | nil => cases h
  | cons c cs ih =>
    simp only [rfindDot] at h
    cases hr : rfindDot cs with
    | some j =>
      rw [hr] at h
      obtain ⟨pre, post, h1, h2, h3⟩ := ih hr
      exact ⟨c :: pre, post, by rw [h1]; rfl, by rw [← Option.some.inj h, utf8Len, h2], h3⟩
    | none =>
      rw [hr] at h
      by_cases hc : c = '.'
      · rw [if_pos hc] at h
        exact ⟨[], cs, by rw [hc]; rfl, Option.some.inj h, rfindDot_none hr⟩
      · rw [if_neg hc] at h; cases h

/-! ## `new` is total (after the repair of defect F5) -/

theorem utf8Size_one_iff (c : Char) : c.utf8Size = 1 ↔ c.toNat < 128 := by
  rw [Char.utf8Size_eq_one_iff, UInt32.le_iff_toNat_le]
  have e : c.toNat = c.val.toNat := rfl
  rw [e]
  have : (127 : UInt32).toNat = 127 := rfl
  rw [this]; omega

/-- `name[first_char_len..]` is always on a character boundary: it is the name without its first character -/
theorem sliceFrom_first (name : List Char) : sliceFrom name (firstCharLen name) = some name.tail := by
  cases name with
  | nil => rfl
  | cons c cs =>
    have := sliceFrom_cons_add c cs 0
    simp only [Nat.add_zero] at this
    simp only [firstCharLen, List.tail_cons, this, sliceFrom_zero]

/-- what `new` computes on a non-empty name, whatever its first character -/
theorem newL_cons (c : Char) (cs : List Char) :
    (rfindDot cs = none ∧ newL (c :: cs) = .ok (newParts (c :: cs) (c :: cs) none)) ∨
    (∃ pre post, cs = pre ++ '.' :: post ∧ '.' ∉ post ∧
      newL (c :: cs) = .ok (newParts (c :: cs) (c :: pre) (some post))) := by
  unfold newL
  rw [sliceFrom_first]
  simp only [List.tail_cons, firstCharLen]
  cases hr : rfindDot cs with
  | none => left; simp
  | some i =>
    right
    obtain ⟨pre, post, e, hl, hn⟩ := rfindDot_some hr
    refine ⟨pre, post, e, hn, ?_⟩
    have e1 : c :: cs = (c :: pre) ++ ('.' :: post) := by simp [e]
    have e2 : c :: cs = (c :: pre ++ ['.']) ++ post := by simp [e]
    have l1 : utf8Len (c :: pre) = i + c.utf8Size := by simp [utf8Len, hl]; omega
    have l2 : utf8Len (c :: pre ++ ['.']) = i + c.utf8Size + 1 := by
      have : utf8Len ['.'] = 1 := by decide
      rw [utf8Len_append, l1, this]
    have s1 : sliceTo (c :: cs) (i + c.utf8Size) = some (c :: pre) := by
      rw [← l1]; conv => lhs; rw [e1]
      exact sliceTo_append _ _
    have s2 : sliceFrom (c :: cs) (i + c.utf8Size + 1) = some post := by
      rw [← l2]; conv => lhs; rw [e2]
      exact sliceFrom_append _ _
    simp only [s1, s2]

/-- `new` builds its state from the name, a base that is empty only for the empty name, and possibly an extension -/
theorem newL_eq (name : List Char) :
    ∃ base ext, newL name = .ok (newParts name base ext) ∧ (name ≠ [] → base ≠ []) := by
  cases name with
  | nil => exact ⟨[], none, rfl, id⟩
  | cons c cs =>
    rcases newL_cons c cs with ⟨_, h⟩ | ⟨_, _, _, _, h⟩ <;> exact ⟨_, _, h, fun _ => List.cons_ne_nil _ _⟩

/-- none of the three slices of `new` can panic -/
theorem newL_total (name : List Char) : ∃ g, newL name = .ok g :=
  let ⟨_, _, h, _⟩ := newL_eq name; ⟨_, h⟩

theorem newL_ne_error (name : List Char) (e : Err) : newL name ≠ .error e := by
  obtain ⟨g, h⟩ := newL_total name
  rw [h]; intro h'; cases h'

end FatVerif.Names
