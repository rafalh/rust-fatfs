import FatVerif.Proofs.DirSlotsMap
/-! Lookup and the abstraction to a case-insensitive association list. -/
namespace FatVerif
namespace DirSlots
open Lfn

/-- the abstract directory: association list from (long units, short slot) -/
abbrev AMap := List (List Nat × List Nat)

/-- a query hits an abstract entry (long name or alias, up to case) -/
def amMatch (upper : Char → List Char) (q : List Char) (kv : List Nat × List Nat) : Bool :=
  Names.eqName upper kv.1 (sfnName kv.2) q

def amFind (upper : Char → List Char) (m : AMap) (q : List Char) : Option (List Nat × List Nat) :=
  m.find? (amMatch upper q)

def absEntry (e : LfnEntry) : List Nat × List Nat := (e.units, e.sfn)

theorem absDir_eq (slots : List (List Nat)) : absDir slots = (listing slots).map absEntry := rfl

theorem amMatch_abs (upper : Char → List Char) (q : List Char) (e : LfnEntry) :
    amMatch upper q (absEntry e) = matchesName upper e q := rfl

theorem abs_lookup (upper : Char → List Char) (slots : List (List Nat)) (q : List Char) :
    amFind upper (absDir slots) q = (findEntry upper slots q).map absEntry := by
  unfold amFind findEntry
  rw [absDir_eq, List.find?_map]
  rfl

theorem findEntry_some_iff (upper : Char → List Char) (slots : List (List Nat)) (q : List Char) (e : LfnEntry) :
    findEntry upper slots q = some e ↔
      ∃ L1 L2, listing slots = L1 ++ e :: L2 ∧ matchesName upper e q = true ∧
        ∀ x ∈ L1, matchesName upper x q = false := by
  unfold findEntry
  rw [List.find?_eq_some_iff_append]
  constructor
  · rintro ⟨h1, as, bs, h2, h3⟩
    exact ⟨as, bs, h2, h1, fun x hx => by simpa using h3 x hx⟩
  · rintro ⟨L1, L2, h1, h2, h3⟩
    exact ⟨h2, L1, L2, h1, fun x hx => by simpa using h3 x hx⟩

theorem findEntry_none_iff (upper : Char → List Char) (slots : List (List Nat)) (q : List Char) :
    findEntry upper slots q = none ↔ ∀ e ∈ listing slots, matchesName upper e q = false := by
  unfold findEntry
  rw [List.find?_eq_none]
  constructor <;> intro h e he <;> simpa using h e he

theorem findEntry_unique (upper : Char → List Char) (slots : List (List Nat)) (hwf : DirWf upper slots)
    (q : List Char) (e : LfnEntry) (he : e ∈ listing slots) (hm : matchesName upper e q = true) :
    findEntry upper slots q = some e := by
  cases hf : findEntry upper slots q with
  | none => rw [(findEntry_none_iff upper slots q).1 hf e he] at hm; exact absurd hm (by simp)
  | some e' =>
    obtain ⟨L1, L2, h1, h2, _⟩ := (findEntry_some_iff upper slots q e').1 hf
    have he' : e' ∈ listing slots := by rw [h1]; simp
    rw [match_unique upper _ hwf.keys e he e' he' q hm h2]

/-! ### an entry occurs once in a listing -/

theorem listOf_sorted : ∀ (items : List Item) (i : Nat),
    (listOf items i).Pairwise (fun a b => a.endIdx < b.endIdx)
  | [], i => by simp [listOf]
  | it :: items, i => by
    rw [listOf, List.pairwise_append]
    refine ⟨by cases it <;> simp [Item.listed], listOf_sorted items _, fun a ha b hb => ?_⟩
    have := listOf_bounds items _ b hb
    cases it <;> simp only [Item.listed, List.mem_singleton, List.not_mem_nil] at ha
    subst ha
    simp only [Item.slots, List.length_append, List.length_cons, List.length_nil] at this ⊢
    omega

theorem listing_nodup (slots : List (List Nat)) (hs : Shape slots) : (listing slots).Nodup := by
  obtain ⟨items, tail, rfl, hok, ht⟩ := hs
  unfold listing
  rw [listing_shape true items tail hok ht]
  exact (listOf_sorted items 0).imp (fun h heq => by rw [heq] at h; exact Nat.lt_irrefl _ h)

theorem append_cons_unique {α} : ∀ (M1 L1 M2 L2 : List α) (e : α), (M1 ++ e :: M2).Nodup →
    M1 ++ e :: M2 = L1 ++ e :: L2 → M1 = L1 ∧ M2 = L2 := by
  intro M1
  induction M1 with
  | nil =>
    intro L1 M2 L2 e hn h
    cases L1 with
    | nil => simp at h; exact ⟨rfl, h⟩
    | cons b L1 =>
      simp only [List.nil_append, List.cons_append, List.cons.injEq] at h
      obtain ⟨rfl, h⟩ := h
      have : e ∈ M2 := by rw [h]; simp
      exact absurd this (List.nodup_cons.1 hn).1
  | cons a M1 ih =>
    intro L1 M2 L2 e hn h
    cases L1 with
    | nil =>
      simp only [List.nil_append, List.cons_append, List.cons.injEq] at h
      obtain ⟨rfl, h⟩ := h
      have hn' : (a :: (M1 ++ a :: M2)).Nodup := hn
      exact absurd (by simp : a ∈ M1 ++ a :: M2) (List.nodup_cons.1 hn').1
    | cons b L1 =>
      simp only [List.cons_append, List.cons.injEq] at h
      obtain ⟨rfl, h⟩ := h
      obtain ⟨r1, r2⟩ := ih L1 M2 L2 e (List.nodup_cons.1 hn).2 h
      exact ⟨by rw [r1], r2⟩

/-! ### remove, create and rename commute with the abstraction `absDir` -/

theorem absDir_remove (upper : Char → List Char) (slots : List (List Nat)) (hs : Shape slots) (q : List Char)
    (e : LfnEntry) (hf : findEntry upper slots q = some e) :
    absDir (deleteRange slots e.beginIdx e.endIdx) = (absDir slots).eraseP (amMatch upper q) ∧
      Shape (deleteRange slots e.beginIdx e.endIdx) := by
  obtain ⟨L1, L2, h1, h2, h3⟩ := (findEntry_some_iff upper slots q e).1 hf
  have he : e ∈ readDirEntries true true slots := by
    show e ∈ listing slots
    rw [h1]; simp
  obtain ⟨M1, M2, m1, m2, m3⟩ := deleteRange_remove true slots hs e he
  refine ⟨?_, m3⟩
  rw [absDir_eq, absDir_eq, List.eraseP_map, h1]
  have hno : ∀ b ∈ L1, ¬ (amMatch upper q ∘ absEntry) b = true := by
    intro b hb; simp [amMatch_abs, h3 b hb]
  rw [List.eraseP_append_right _ hno, List.eraseP_cons_of_pos (by simpa [amMatch_abs] using h2)]
  -- the listing after deletion is L1 ++ L2: an entry occurs once in a listing (ranges are increasing)
  congr 1
  show readDirEntries true true (deleteRange slots e.beginIdx e.endIdx) = L1 ++ L2
  rw [m2]
  have hEq : M1 ++ e :: M2 = L1 ++ e :: L2 := by rw [← m1]; exact h1
  have hn : (M1 ++ e :: M2).Nodup := by rw [← m1]; exact listing_nodup slots hs
  obtain ⟨r1, r2⟩ := append_cons_unique M1 L1 M2 L2 e hn hEq
  rw [r1, r2]

theorem absDir_create (slots : List (List Nat)) (units sfn : List Nat) (hs : Shape slots)
    (hU : UnitsOk units) (hsfn : slotClass sfn = .file) :
    (absDir (writeEntry slots units sfn)).Perm ((units, sfn) :: absDir slots) ∧
      Shape (writeEntry slots units sfn) := by
  obtain ⟨L1, L2, e1, e2, _, _, e5⟩ := writeEntry_insert true slots units sfn hs hU hsfn
  refine ⟨?_, e5⟩
  rw [absDir_eq, absDir_eq]
  show (List.map absEntry (readDirEntries true true (writeEntry slots units sfn))).Perm
    ((units, sfn) :: List.map absEntry (readDirEntries true true slots))
  rw [e1, e2]
  simp only [List.map_append, List.map_cons]
  exact List.perm_middle

theorem absDir_rename (upper : Char → List Char) (slots : List (List Nat)) (src dst : List Char) (alias : List Nat)
    (hs : Shape slots) (e : LfnEntry) (hsrc : findEntry upper slots src = some e)
    (hU : UnitsOk (Names.encodeUtf16 dst))
    (hcls : slotClass (renamedSfn e.sfn alias) = .file) :
    (absDir (writeEntry (deleteRange slots e.beginIdx e.endIdx) (Names.encodeUtf16 dst) (renamedSfn e.sfn alias))).Perm
        ((Names.encodeUtf16 dst, renamedSfn e.sfn alias) :: (absDir slots).eraseP (amMatch upper src)) ∧
      Shape (writeEntry (deleteRange slots e.beginIdx e.endIdx) (Names.encodeUtf16 dst) (renamedSfn e.sfn alias)) := by
  obtain ⟨d1, d2⟩ := absDir_remove upper slots hs src e hsrc
  obtain ⟨c1, c2⟩ := absDir_create _ (Names.encodeUtf16 dst) (renamedSfn e.sfn alias) d2 hU hcls
  rw [d1] at c1
  exact ⟨c1, c2⟩

end DirSlots
end FatVerif
