import FatVerif.Model.File
/-! The normal form of `File::write`: status byte, choice of the cluster (`selCluster`), data step (`writeTail`).
    Only the program text is restated here (`write_eq`); what the parts do is said where it is needed
    (Proofs/FileSimWrite, Proofs/FileSimWriteAlloc, Props/C11). -/
namespace FatVerif.FileSim
open FatVerif

/-- "Get cluster for write possibly allocating new one" -/
def selCluster (f : FileH) (fs : FsState) : Prog (Nat × FileH) :=
  if f.offset % fs.clusterSize = 0 then do
    let nxt ← f.boundaryCluster
    match nxt with
    | some n => pure (n, f)
    | none => do
      let c ← allocClusterFs f.currentCluster f.isDir
      let f := if f.firstCluster.isNone then FileH.setFirstCluster fs f c else f
      pure (c, f)
  else
    match f.currentCluster with
    | some n => pure (n, f)
    | none => .fail .panic

/-- the rest of `File::write` once the cluster is known -/
def writeTail (f0 : FileH) (fs : FsState) (buf : List Nat) (w : Nat) (x : Nat × FileH) : Prog (Nat × FileH) := do
  let off ← offsetFromClusterP fs x.1
  let _ ← Prog.seekStart (off + f0.offset % fs.clusterSize)
  let n ← Prog.write (buf.take w)
  if n = 0 then pure (0, x.2)
  else do
    let f ← ({ x.2 with offset := x.2.offset + n, currentCluster := some x.1 } : FileH).updateAfterWrite
    pure (n, f)

/-- `write_size` -/
def writeLenH (f : FileH) (fs : FsState) (n : Nat) : Nat :=
  min (min n (fs.clusterSize - f.offset % fs.clusterSize)) (4294967295 - f.offset)

/-- `FileH.write` restated with `selCluster` / `writeTail` -/
theorem write_eq (f : FileH) (buf : List Nat) :
    f.write buf = (Prog.getFs >>= fun fs =>
      if writeLenH f fs buf.length = 0 then pure (0, f)
      else (setDirtyFlag true >>= fun _ => selCluster f fs >>= fun x =>
        writeTail f fs buf (writeLenH f fs buf.length) x)) := by
  unfold FileH.write selCluster writeTail writeLenH
  rfl

end FatVerif.FileSim
