import FatVerif.Model.AFile
/-! Arithmetic helpers for the file cursor machine: `omega` treats `i * cs` as an atom, these lemmas carry the
    div/mod facts. -/
namespace FatVerif.Cursor

theorem divmod_unique (cs p i j : Nat) (hcs : 0 < cs) :
    (p / cs = i ∧ p % cs = j) ↔ (p = i * cs + j ∧ j < cs) := by
  constructor
  · rintro ⟨rfl, rfl⟩
    exact ⟨by rw [Nat.mul_comm]; exact (Nat.div_add_mod p cs).symm, Nat.mod_lt _ hcs⟩
  · rintro ⟨rfl, hj⟩
    constructor
    · rw [Nat.mul_comm, Nat.mul_add_div hcs, Nat.div_eq_of_lt hj, Nat.add_zero]
    · rw [Nat.mul_comm, Nat.mul_add_mod, Nat.mod_eq_of_lt hj]

/-- the canonical decomposition, in the form `omega` can use -/
theorem divmod_spec (cs p : Nat) (hcs : 0 < cs) : p = p / cs * cs + p % cs ∧ p % cs < cs :=
  (divmod_unique cs p (p / cs) (p % cs) hcs).mp ⟨rfl, rfl⟩

theorem div_eq_of_decomp {cs p i j : Nat} (hcs : 0 < cs) (h : p = i * cs + j) (hj : j < cs) : p / cs = i :=
  ((divmod_unique cs p i j hcs).mpr ⟨h, hj⟩).1

theorem mod_eq_of_decomp {cs p i j : Nat} (hcs : 0 < cs) (h : p = i * cs + j) (hj : j < cs) : p % cs = j :=
  ((divmod_unique cs p i j hcs).mpr ⟨h, hj⟩).2

theorem div_lt_of_lt_mul' {cs p n : Nat} (h : p < n * cs) : p / cs < n := by
  apply Nat.div_lt_of_lt_mul; rw [Nat.mul_comm]; exact h

theorem le_div_of_mul_le' {cs p n : Nat} (hcs : 0 < cs) (h : n * cs ≤ p) : n ≤ p / cs :=
  (Nat.le_div_iff_mul_le hcs).mpr h

theorem mul_lt_cancel {cs a b : Nat} (h : a * cs < b * cs) : a < b :=
  Nat.lt_of_mul_lt_mul_right h

/-- round-up cluster count of a positive byte count -/
theorem clustersFromBytes_pos {cs n : Nat} (hcs : 0 < cs) (hn : 0 < n) :
    clustersFromBytes cs n = (n - 1) / cs + 1 := by
  unfold clustersFromBytes
  have : n + cs - 1 = (n - 1) + cs := by omega
  rw [this, Nat.add_div_right _ hcs]

theorem clustersFromBytes_zero {cs : Nat} (hcs : 0 < cs) : clustersFromBytes cs 0 = 0 := by
  unfold clustersFromBytes
  apply Nat.div_eq_of_lt; omega

/-- on a boundary `q * cs` (q > 0) the previous cluster index is `q - 1` -/
theorem pred_div_of_boundary {cs p : Nat} (hcs : 0 < cs) (hp : 0 < p) (hm : p % cs = 0) :
    (p - 1) / cs + 1 = p / cs := by
  have h := (divmod_spec cs p hcs).1
  rw [hm] at h
  cases hq : p / cs with
  | zero => rw [hq] at h; omega
  | succ q =>
    rw [hq, Nat.succ_mul] at h
    exact congrArg (· + 1) (div_eq_of_decomp hcs (j := cs - 1) (by omega) (by omega))

/-- inside a cluster the previous byte lies in the same cluster -/
theorem pred_div_of_inside {cs p : Nat} (hcs : 0 < cs) (hm : p % cs ≠ 0) : (p - 1) / cs = p / cs := by
  have h := divmod_spec cs p hcs
  apply div_eq_of_decomp hcs (j := p % cs - 1) <;> omega

end FatVerif.Cursor
