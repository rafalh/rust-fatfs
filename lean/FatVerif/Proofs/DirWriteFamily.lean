import FatVerif.Proofs.DirWriteSlots
/-! Directory WRITES, the GENERIC write layer. `write_entry` and `deleteEntry` work on a clone of the directory's stream
    and drop it at the end (`thenDrop`, `withStream`), so its destructor runs. A directory is written through a family
    `F` of stream states (before anything was written through this clone) and a family `G` (afterwards: the first
    write through the handle of a sub-directory stamps the editor of its own entry, which the destructor then writes
    back, Proofs/DirWriteKinds; `G = F` when writing does not change the
    handle: the fixed root, the root of FAT32). Everything from `write_all` up to `deleteEntry`, `write_entry` and
    `create_file` is proved once from the single-`write` fact (`WFam`) and the remaining stream operations (`WOps`);
    the devices are threaded through an invariant `Inv` that every write re-establishes. `WView` packages a directory
    one can write into, like `DirView`, with the interface lemmas the tree-level composition (Props/C01img.lean) asks
    for: (W1) `WView.writeEntry_sim` — `write_entry` is `DirSlots.writeEntry` on the slots of the directory —, (W1-frame)
    its frame — `VolStep`, and `FrameOutE`: no byte from `0x42` on outside the directory's slots and `Extra` changes —,
    (W2) `WView.create_write_sim` — `create_sfn_entry` followed by `write_entry` —, (W3) `WView.deleteEntry_sim` —
    `DirSlots.deleteRange` on the slots. What a write operation does to the device is one relation, `Wrote`; the write
    theorems of a `WView` hold at every device of its invariant, so that whole operations (which read first, or write
    elsewhere first) apply them where they stand. `writeSlotsKeep` is proved once along a path of configurations
    (`writeSlotsKeep_path`): a fitting write and the growth of the directory are two kinds of step. Its first instance is
    the fixed root. -/
namespace FatVerif.DirSim
open FatVerif.FileSim FatVerif.Fat DirEntryData DirAlias

/-- the write interface: from a state of `F`, one `write` of a non-empty buffer that fits into the room (and into the
    directory) takes all bytes, puts them on the device and leaves a state of `G`; `seek(Current(-32))` after a slot leads
    back into `F` (`seek(Start(t))` is `WOps.seekStartF`). `rd` asks for the byte reads only: a `WFam` is also stated of `G` (`WView.wg`), and of
    `G` there is no `DirSrc` (`WOps.dsrc`), because its destructor writes (`WOps.dropG`) -/
structure WFam (Inv : Dev → Prop) (F G : Nat → DirStream) (N : Nat) (src room : Nat → Nat) : Prop where
  rd : ∀ d, Inv d → ByteSrc d F (32 * N) src room
  write : ∀ d, Inv d → ∀ o bs, bs ≠ [] → bs.length ≤ room o → o + bs.length ≤ 32 * N →
    ∃ d', run (DirStream.write (F o) bs) d = (.ok (bs.length, G (o + bs.length)), d') ∧
      WritesTo d d' (src o) bs ∧ Inv d'
  seekBack : ∀ d, Inv d → ∀ o, o % 32 = 0 → o + 32 ≤ 32 * N →
    ∃ d1, run ((F (o + 32)).seek (.cur (-32))) d = (.ok (o, F o), d1) ∧ SameVol d d1

/-- what the invariant gives and how it is kept; `vol` asks for the clock because the invariant of a sub-directory
    fixes it (`SubInv.clock`: the stamp its handle carries after the first write is taken from the clock) -/
structure InvOK (Inv : Dev → Prop) : Prop where
  noFault : ∀ d, Inv d → d.failAt = none
  wf : ∀ d, Inv d → d.img.WF
  vol : ∀ d d1, Inv d → SameVol d d1 → d1.clock = d.clock → Inv d1

/-- strengthening the invariant of a write family by a predicate that its writes preserve -/
theorem WFam.strengthen {Inv : Dev → Prop} {F G : Nat → DirStream} {N : Nat} {src room : Nat → Nat}
    (W : WFam Inv F G N src room) (P : Dev → Prop)
    (hPw : ∀ d d' o bs, Inv d → P d → WritesTo d d' (src o) bs → Inv d' → o + bs.length ≤ 32 * N → P d') :
    WFam (fun d => Inv d ∧ P d) F G N src room :=
  ⟨fun d h => W.rd d h.1, fun d h o bs hne hroom hfit => by
    obtain ⟨d', h1, hw, hi⟩ := W.write d h.1 o bs hne hroom hfit
    exact ⟨d', h1, hw, hi, hPw d d' o bs h.1 h.2 hw hi hfit⟩,
   fun d h o ho hfit => W.seekBack d h.1 o ho hfit⟩

theorem InvOK.strengthen {Inv : Dev → Prop} (IO : InvOK Inv) (P : Dev → Prop)
    (hPv : ∀ d d1, P d → SameVol d d1 → P d1) : InvOK (fun d => Inv d ∧ P d) :=
  ⟨fun d h => IO.noFault d h.1, fun d h => IO.wf d h.1, fun d d1 h hv hc => ⟨IO.vol d d1 h.1 hv hc, hPv d d1 h.2 hv⟩⟩

/-! ### frames -/

/-- bytes behind the status byte and outside the slots of the directory are kept. `0x42`, here and below: the status
    byte, which a write to a volume not yet marked dirty sets (`setDirtyFlag`), is at `0x41` on FAT32 and at `0x25` on FAT12/16.
    (`G`: of any slot offsets `src`; `FrameOut` is the same of a root region) -/
def FrameOutG (N : Nat) (src : Nat → Nat) (d d' : Dev) : Prop :=
  ∀ q, 0x42 ≤ q → (∀ i, i < N → ¬ (src (32 * i) ≤ q ∧ q < src (32 * i) + 32)) → d'.img.getByte q = d.img.getByte q

/-- bytes behind the status byte, outside the slots of the directory and outside `Extra` (the `E`) are kept -/
def FrameOutE (N : Nat) (src : Nat → Nat) (Extra : Nat → Prop) (d d' : Dev) : Prop :=
  ∀ q, 0x42 ≤ q → (∀ i, i < N → ¬ (src (32 * i) ≤ q ∧ q < src (32 * i) + 32)) → ¬ Extra q →
    d'.img.getByte q = d.img.getByte q

section frames
variable {N : Nat} {src : Nat → Nat} {Extra : Nat → Prop}

theorem FrameOutG.refl (d : Dev) : FrameOutG N src d d := fun _ _ _ => rfl

theorem FrameOutG.trans {a b c : Dev} (h1 : FrameOutG N src a b) (h2 : FrameOutG N src b c) : FrameOutG N src a c :=
  fun q hq hn => (h2 q hq hn).trans (h1 q hq hn)

theorem FrameOutG.of_sameVol {a b : Dev} (h : SameVol a b) : FrameOutG N src a b := fun q _ _ => by rw [h.img]

theorem FrameOutE.trans {a b c : Dev} (h1 : FrameOutE N src Extra a b) (h2 : FrameOutE N src Extra b c) :
    FrameOutE N src Extra a c :=
  fun q hq hn he => (h2 q hq hn he).trans (h1 q hq hn he)

theorem FrameOutG.toE {a b : Dev} (h : FrameOutG N src a b) : FrameOutE N src Extra a b := fun q hq hn _ => h q hq hn

theorem FrameOutE.toG {a b : Dev} (h : FrameOutE N src (fun _ => False) a b) : FrameOutG N src a b :=
  fun q hq hn => h q hq hn (fun h => h)

/-- **(W1-frame)** the slots of ANOTHER directory (slot offsets `src2`, `N2` slots) are unchanged by a write into this
    one when they lie behind the status byte and meet neither the slots of this one nor `Extra` -/
theorem srcSlots_frameE {d d' : Dev} (hf : FrameOutE N src Extra d d') (src2 : Nat → Nat) (N2 : Nat)
    (hcont : ∀ i, i < N2 → ∀ x, x < 32 → 0x42 ≤ src2 (32 * i) + x ∧ ¬ Extra (src2 (32 * i) + x) ∧
      ∀ j, j < N → ¬ (src (32 * j) ≤ src2 (32 * i) + x ∧ src2 (32 * i) + x < src (32 * j) + 32)) :
    srcSlots d'.img src2 N2 = srcSlots d.img src2 N2 :=
  srcSlots_congr (fun i hi x hx => by
    obtain ⟨h1, h2, h3⟩ := hcont i hi x hx
    exact hf _ h1 h3 h2)

/-- a write into a directory whose slots (and `Extra`) lie behind the first FAT copy keeps that copy -/
theorem fatAgree_of_frameE {d d' : Dev} (hf : FrameOutE N src Extra d d') (fs : FsState)
    (h42 : 0x42 ≤ (fatSliceOf fs).beginOff)
    (hbehind : ∀ j, j < N → (fatSliceOf fs).beginOff + (fatSliceOf fs).size ≤ src (32 * j))
    (hextra : ∀ q, Extra q → (fatSliceOf fs).beginOff + (fatSliceOf fs).size ≤ q) :
    FatAgree fs d.img d'.img := by
  intro q h1 h2
  exact hf q (by omega) (fun j hj => by have := hbehind j hj; omega) (fun he => by have := hextra q he; omega)

theorem fatAgree_of_frame {d d' : Dev} (hf : FrameOutG N src d d') (fs : FsState)
    (h42 : 0x42 ≤ (fatSliceOf fs).beginOff)
    (hbehind : ∀ j, j < N → (fatSliceOf fs).beginOff + (fatSliceOf fs).size ≤ src (32 * j)) :
    FatAgree fs d.img d'.img :=
  fatAgree_of_frameE (hf.toE (Extra := fun _ => False)) fs h42 hbehind (fun _ h => h.elim)

/-- … hence the decoded FAT, on any device `X` reached from `d` by steps that keep the geometry -/
theorem tabView_of_frameE {d X Y : Dev} (hgeo : Geo d.fs d.img.size) (hX : VolStep d X) (hXY : VolStep X Y)
    (hf : FrameOutE N src Extra X Y)
    (hbehind : ∀ j, j < N → (fatSliceOf d.fs).beginOff + (fatSliceOf d.fs).size ≤ src (32 * j))
    (hextra : ∀ q, Extra q → (fatSliceOf d.fs).beginOff + (fatSliceOf d.fs).size ≤ q) :
    tabView Y.fs Y.img = tabView X.fs X.img := by
  have hag : FatAgree X.fs X.img Y.img :=
    fatAgree_of_frameE hf X.fs (by rw [hX.geom.fatSlice]; exact hgeo.status_lt)
      (fun j hj => by rw [hX.geom.fatSlice]; exact hbehind j hj) (fun q hq => by rw [hX.geom.fatSlice]; exact hextra q hq)
  rw [hXY.geom.tabView, tabView_congr (sz := X.img.size) (by rw [hX.size]; exact hgeo.frame hX.geom) hag]

end frames

/-! ### from `write` to `writeSlotsKeep` and the slot-deleting loop -/

section generic
variable {Inv : Dev → Prop} {F G : Nat → DirStream} {N : Nat} {src room : Nat → Nat}

/-- the slots of the image after slot `i` was overwritten -/
theorem srcSlots_put (hg : SlotGeo N src) {d d' : Dev} {i : Nat} {bs : List Nat}
    (hw : WritesTo d d' (src (32 * i)) bs) (hwf : d.img.WF) (hi : i < N) (hlen : bs.length = 32)
    (hb : ∀ b ∈ bs, b < 256) :
    srcSlots d'.img src N = (srcSlots d.img src N).set i bs ∧ FrameOutG N src d d' :=
  ⟨srcSlots_set hg (fun j hj x _ => hw.bytes hwf _ (by have := hg.behind j hj; omega)) hi hlen hb,
   fun q hq hn => hw.outside hwf q hq (by have := hn i hi; omega)⟩

theorem WFam.writeAll (W : WFam Inv F G N src room) (d : Dev) (hi : Inv d) (o : Nat) (bs : List Nat) (hne : bs ≠ [])
    (hroom : bs.length ≤ room o) (hfit : o + bs.length ≤ 32 * N) :
    ∃ d', run (writeAll DirStream.strm (F o) bs) d = (.ok (G (o + bs.length)), d') ∧
      WritesTo d d' (src o) bs ∧ Inv d' := by
  obtain ⟨d1, h1, hw1, hi1⟩ := W.write d hi o bs hne hroom hfit
  exact ⟨d1, run_writeAll_of_write DirStream.strm hne h1, hw1, hi1⟩

/-- `writeChunks` inside one room: the first chunk leaves `F`, the others stay in `G` -/
theorem WFam.writeChunks (WG : WFam Inv G G N src room) : ∀ (cs : List (List Nat)) {X : Nat → DirStream}
    (W : WFam Inv X G N src room), cs ≠ [] → ∀ (o : Nat) (d : Dev), Inv d → (∀ c ∈ cs, c ≠ []) →
    cs.flatten.length ≤ room o → o + cs.flatten.length ≤ 32 * N →
    ∃ d', run (FatVerif.writeChunks DirStream.strm (X o) cs) d = (.ok (G (o + cs.flatten.length)), d') ∧
      WritesTo d d' (src o) cs.flatten ∧ Inv d' := by
  intro cs
  induction cs with
  | nil => intro X W h; exact absurd rfl h
  | cons c rest ih =>
    intro X W _ o d hi hne hroom hfit
    rw [List.flatten_cons, List.length_append] at hroom hfit ⊢
    obtain ⟨d1, h1, hw1, hi1⟩ := W.writeAll d hi o c (hne c (List.mem_cons_self ..)) (by omega) (by omega)
    cases rest with
    | nil =>
      refine ⟨d1, ?_, by simpa using hw1, hi1⟩
      unfold FatVerif.writeChunks
      rw [run_bind_ok h1]
      rfl
    | cons c' rest =>
      have hc' := List.length_pos_iff.mpr (hne c' (List.mem_cons_of_mem _ (List.mem_cons_self ..)))
      have hl2 : (c' :: rest).flatten.length = c'.length + rest.flatten.length := by
        rw [List.flatten_cons, List.length_append]
      have hB := W.rd d hi
      have hlt : c.length < room o := by omega
      obtain ⟨d2, h2, hw2, hi2⟩ := ih WG (List.cons_ne_nil _ _) (o + c.length) d1 hi1
        (fun x hx => hne x (List.mem_cons_of_mem _ hx)) (by rw [hB.room_step o c.length hlt]; omega) (by omega)
      refine ⟨d2, ?_, ?_, hi2⟩
      · unfold FatVerif.writeChunks
        rw [run_bind_ok h1, h2, Nat.add_assoc]
      · rw [hB.src_step o c.length hlt] at hw2
        exact hw1.append hw2

/-- … a list of chunks that may be empty, closed family -/
theorem WFam.writeChunks_closed (WG : WFam Inv G G N src room) (cs : List (List Nat)) (o : Nat) (d : Dev) (hi : Inv d)
    (hne : ∀ c ∈ cs, c ≠ []) (hroom : cs.flatten.length ≤ room o) (hfit : o + cs.flatten.length ≤ 32 * N) :
    ∃ d', run (FatVerif.writeChunks DirStream.strm (G o) cs) d = (.ok (G (o + cs.flatten.length)), d') ∧
      WritesTo d d' (src o) cs.flatten ∧ Inv d' := by
  by_cases h : cs = []
  · subst h; exact ⟨d, rfl, WritesTo.refl d _, hi⟩
  · exact WG.writeChunks cs WG h o d hi hne hroom hfit

/-- **`DirEntryData::serialize` onto a slot, generic**: the 32 bytes of the record (12 resp. 18 `write_all` calls) are
    put at the slot, the stream advances by 32 -/
theorem WFam.writeSlot {X : Nat → DirStream} (W : WFam Inv X G N src room) (WG : WFam Inv G G N src room) (o : Nat)
    (ho : o % 32 = 0) (e : DirEntryData) (hlen : e.serialize.length = 32) (d : Dev) (hi : Inv d)
    (hroom : o + 32 ≤ 32 * N) :
    ∃ d', run (FatVerif.writeSlot (X o) e) d = (.ok (G (o + 32)), d') ∧ WritesTo d d' (src o) e.serialize ∧ Inv d' := by
  obtain ⟨ns, hn, hpos, hnn, _, heq⟩ := writeSlot_chunks (X o) e
  have hfl := chunksOf_flatten ns e.serialize (by rw [hn, hlen])
  have := WG.writeChunks (chunksOf e.serialize ns) W
    (by cases ns with | nil => exact absurd rfl hnn | cons n r => simp [chunksOf]) o d hi
    (chunksOf_ne_nil ns _ hpos (by rw [hn, hlen]; exact Nat.le_refl _))
    (by rw [hfl, hlen]; exact (W.rd d hi).room_slot o ho hroom) (by rw [hfl, hlen]; exact hroom)
  rw [hfl, hlen] at this
  rw [heq]
  exact this

/-- one iteration of the slot-deleting loop: read slot `i`, mark it deleted, seek back, write it -/
theorem WFam.deleteStep {X : Nat → DirStream} (IO : InvOK Inv) (hg : SlotGeo N src) (W : WFam Inv X G N src room)
    (WG : WFam Inv G G N src room) (i : Nat) (hi : i < N) (d : Dev) (hinv : Inv d) (k : DirStream → Prog DirStream) :
    ∃ d',
      run (do
        let (raw, st) ← readSlot (X (32 * i))
        let (_, st) ← st.seek (.cur (-32))
        let st ← FatVerif.writeSlot st (deserialize raw).setDeleted
        k st) d = run (k (G (32 * (i + 1)))) d' ∧
      VolStep d d' ∧ d'.fs.curDirty = true ∧ Inv d' ∧
      srcSlots d'.img src N = (srcSlots d.img src N).set i (DirSlots.markDeleted ((srcSlots d.img src N).getD i [])) ∧
      FrameOutG N src d d' := by
  have hroom : 32 * i + 32 ≤ 32 * N := by omega
  obtain ⟨d1, h1, hs1⟩ := (W.rd d hinv).readSlot d (SameVol.refl d) (32 * i) (by omega) hroom
  have hinv1 := IO.vol d d1 hinv hs1 (run_clock _ _ _ _ h1)
  obtain ⟨d2, h2, hs2⟩ := W.seekBack d1 hinv1 (32 * i) (by omega) hroom
  have hinv2 := IO.vol d1 d2 hinv1 hs2 (run_clock _ _ _ _ h2)
  have hraw_len : (d.img.read (src (32 * i)) 32).length = 32 := Img.read_length _ _ _
  have hraw_lt : ∀ b ∈ d.img.read (src (32 * i)) 32, b < 256 := Img.read_lt _ _ _
  have hser := serialize_setDeleted _ hraw_len hraw_lt
  obtain ⟨d3, h3, hw3, hinv3⟩ := W.writeSlot WG (32 * i) (by omega)
    (deserialize (d.img.read (src (32 * i)) 32)).setDeleted (by rw [hser, markDeleted_length]; exact hraw_len) d2 hinv2 hroom
  rw [hser] at hw3
  have hv12 := hs1.trans hs2
  obtain ⟨hsl, hfr⟩ := srcSlots_put hg hw3 (IO.wf d2 hinv2) hi (by rw [markDeleted_length]; exact hraw_len)
    (markDeleted_lt _ hraw_lt)
  have hne : DirSlots.markDeleted (d.img.read (src (32 * i)) 32) ≠ [] :=
    List.ne_nil_of_length_pos (by rw [markDeleted_length, hraw_len]; omega)
  refine ⟨d3, ?_, (VolStep.of_sameVol hv12).trans (VolStep.of_devStep hw3.step), hw3.dirty hne, hinv3, ?_,
    fun q hq hn => by rw [hfr q hq hn, hv12.img]⟩
  · rw [run_bind_ok h1]
    simp only
    rw [run_bind_ok h2]
    simp only
    rw [run_bind_ok h3, show 32 * i + 32 = 32 * (i + 1) by omega]
  · rw [hsl, hv12.img, srcSlots_getD _ _ _ _ hi]

/-- **the slot-deleting loop, generic**: `k + 1` slots from slot `i` on are read, marked deleted and written back (the
    first iteration leaves `F`); the slots of the image afterwards are `delK` of those before -/
theorem WFam.deleteSlots (IO : InvOK Inv) (hg : SlotGeo N src) (WG : WFam Inv G G N src room) :
    ∀ (k : Nat) {X : Nat → DirStream} (W : WFam Inv X G N src room) (i : Nat) (d : Dev), Inv d → i + (k + 1) ≤ N →
    ∃ d', run (FatVerif.deleteSlots (k + 1) (X (32 * i))) d = (.ok (G (32 * (i + (k + 1)))), d') ∧
      VolStep d d' ∧ d'.fs.curDirty = true ∧ Inv d' ∧
      srcSlots d'.img src N = delK (srcSlots d.img src N) i (k + 1) ∧ FrameOutG N src d d' := by
  intro k
  induction k with
  | zero =>
    intro X W i d hinv hle
    obtain ⟨d1, h1, hs1, hd1, hinv1, hsl1, hfr1⟩ := W.deleteStep IO hg WG i (by omega) d hinv (FatVerif.deleteSlots 0)
    exact ⟨d1, by unfold FatVerif.deleteSlots; exact h1, hs1, hd1, hinv1, by rw [hsl1]; rfl, hfr1⟩
  | succ k ih =>
    intro X W i d hinv hle
    obtain ⟨d1, h1, hs1, _, hinv1, hsl1, hfr1⟩ := W.deleteStep IO hg WG i (by omega) d hinv (FatVerif.deleteSlots (k + 1))
    obtain ⟨d2, h2, hs2, hd2, hinv2, hsl2, hfr2⟩ := ih WG (i + 1) d1 hinv1 (by omega)
    refine ⟨d2, ?_, hs1.trans hs2, hd2, hinv2, by rw [hsl2, hsl1]; rfl, hfr1.trans hfr2⟩
    conv => lhs; unfold FatVerif.deleteSlots
    rw [h1, h2, show i + 1 + (k + 1) = i + (k + 1 + 1) by omega]

theorem writeSlotsKeep_cons_ok {st st' : DirStream} {e : DirEntryData} {d d1 : Dev}
    (h : run (writeSlot st e) d = (.ok st', d1)) (rest : List DirEntryData) :
    run (writeSlotsKeep (e :: rest) st) d = run (writeSlotsKeep rest st') d1 := by
  conv => lhs; unfold writeSlotsKeep
  rw [run_bind_ok (show run (Prog.attempt (writeSlot st e)) d = (.ok (.ok st'), d1) by rw [run_attempt, h])]

/-- a configuration of a directory that is being written: the invariant of the device, the number of slots and where they lie -/
structure Cfg where
  Inv : Dev → Prop
  N : Nat
  src : Nat → Nat

/-- one record put on slot `i`: `writeSlot` takes the stream `X` of configuration `A` to the stream `Y` of `B`; the slots of
    `A`, filled up with zero slots to the length of `B` (the directory may have grown), have the record at `i`; `Fr` is the frame -/
def SlotStep (Fr : Dev → Dev → Prop) (A B : Cfg) (X Y : DirStream) (i : Nat) : Prop :=
  ∀ d, A.Inv d → ∀ e : DirEntryData, e.serialize.length = 32 → (∀ b ∈ e.serialize, b < 256) →
    ∃ d', run (writeSlot X e) d = (.ok Y, d') ∧ VolStep d d' ∧ d'.fs.curDirty = true ∧ B.Inv d' ∧
      srcSlots d'.img B.src B.N =
        (srcSlots d.img A.src A.N ++ List.replicate (B.N - A.N) DirSlots.zeroSlot).set i e.serialize ∧ Fr d d'

/-- **`writeSlotsKeep` along a path of configurations**: record `j` goes to slot `p + j` by a `SlotStep` from configuration
    `cfg j` (stream `S j`) to `cfg (j + 1)` (stream `S (j + 1)`). Whether a step stays inside the allocated slots, leaves the
    initial stream family or grows the directory is the business of the steps. -/
theorem writeSlotsKeep_path {Fr : Dev → Dev → Prop} (hrefl : ∀ d, Fr d d) (htrans : ∀ a b c, Fr a b → Fr b c → Fr a c) :
    ∀ (es : List DirEntryData) (cfg : Nat → Cfg) (S : Nat → DirStream) (p : Nat),
      (∀ j, j < es.length → (cfg j).N ≤ (cfg (j + 1)).N ∧ p + j < (cfg (j + 1)).N ∧
        SlotStep Fr (cfg j) (cfg (j + 1)) (S j) (S (j + 1)) (p + j)) →
      (∀ e ∈ es, e.serialize.length = 32 ∧ ∀ b ∈ e.serialize, b < 256) →
      ∀ d, (cfg 0).Inv d →
      ∃ d', run (writeSlotsKeep es (S 0)) d = (.ok (none, S es.length), d') ∧ VolStep d d' ∧
        (es ≠ [] → d'.fs.curDirty = true) ∧ (cfg es.length).Inv d' ∧
        srcSlots d'.img (cfg es.length).src (cfg es.length).N =
          putK (srcSlots d.img (cfg 0).src (cfg 0).N ++
            List.replicate ((cfg es.length).N - (cfg 0).N) DirSlots.zeroSlot) p (es.map DirEntryData.serialize) ∧
        Fr d d' := by
  intro es
  induction es with
  | nil =>
    intro cfg S p _ _ d hinv
    exact ⟨d, rfl, VolStep.of_sameVol (SameVol.refl d), fun h => absurd rfl h, hinv, by simp [putK], hrefl d⟩
  | cons e es ih =>
    intro cfg S p hstep hes d hinv
    obtain ⟨hN01, hp1, st0⟩ := hstep 0 (by simp)
    obtain ⟨d1, h1, hs1, hd1, hinv1, hsl1, hf1⟩ := st0 d hinv e (hes e (by simp)).1 (hes e (by simp)).2
    obtain ⟨d2, h2, hs2, _, hinv2, hsl2, hf2⟩ := ih (fun j => cfg (j + 1)) (fun j => S (j + 1)) (p + 1)
      (fun j hj => by
        have := hstep (j + 1) (by simp; omega)
        rwa [show p + (j + 1) = p + 1 + j by omega] at this)
      (fun x hx => hes x (List.mem_cons_of_mem _ hx)) d1 hinv1
    have hd2 : d2.fs.curDirty = true := by
      by_cases hnil : es = []
      · subst hnil
        simp only [writeSlotsKeep, List.length_nil] at h2
        injection h2 with _ h2
        rw [← h2]; exact hd1
      · rename_i hd; exact hd hnil
    refine ⟨d2, ?_, hs1.trans hs2, fun _ => hd2, hinv2, ?_, htrans _ _ _ hf1 hf2⟩
    · rw [writeSlotsKeep_cons_ok h1, h2]; rfl
    · -- the zero slots appended for the whole path = those of the first step, then those of the rest
      simp only [Nat.zero_add, Nat.add_zero] at hN01 hp1 hsl1 hsl2
      have hlen := congrArg List.length hsl2
      rw [srcSlots_length, putK_length, List.length_append, srcSlots_length, List.length_replicate] at hlen
      show srcSlots d2.img (cfg (es.length + 1)).src (cfg (es.length + 1)).N =
        putK ((_ ++ List.replicate ((cfg (es.length + 1)).N - (cfg 0).N) DirSlots.zeroSlot).set p e.serialize) (p + 1)
          (es.map DirEntryData.serialize)
      have key : ((srcSlots d.img (cfg 0).src (cfg 0).N ++ List.replicate ((cfg 1).N - (cfg 0).N) DirSlots.zeroSlot) ++
            List.replicate ((cfg (es.length + 1)).N - (cfg 1).N) DirSlots.zeroSlot).set p e.serialize =
          (srcSlots d.img (cfg 0).src (cfg 0).N ++ List.replicate ((cfg 1).N - (cfg 0).N) DirSlots.zeroSlot).set p e.serialize ++
            List.replicate ((cfg (es.length + 1)).N - (cfg 1).N) DirSlots.zeroSlot :=
        List.set_append_left _ _ (by rw [List.length_append, srcSlots_length, List.length_replicate]; omega)
      rw [hsl2, hsl1, ← key, List.append_assoc, List.replicate_append_replicate,
        show (cfg 1).N - (cfg 0).N + ((cfg (es.length + 1)).N - (cfg 1).N) = (cfg (es.length + 1)).N - (cfg 0).N by omega]

theorem SlotStep.frame {Fr Fr' : Dev → Dev → Prop} {A B : Cfg} {X Y : DirStream} {i : Nat} (h : SlotStep Fr A B X Y i)
    (hf : ∀ d d', Fr d d' → Fr' d d') : SlotStep Fr' A B X Y i := fun d hi e hl hb => by
  obtain ⟨d', h1, h2, h3, h4, h5, h6⟩ := h d hi e hl hb
  exact ⟨d', h1, h2, h3, h4, h5, hf d d' h6⟩

/-- a write inside the allocated slots is a step that keeps the configuration -/
theorem WFam.slotStep {X : Nat → DirStream} (IO : InvOK Inv) (hg : SlotGeo N src) (W : WFam Inv X G N src room)
    (WG : WFam Inv G G N src room) (i : Nat) (hi : i < N) :
    SlotStep (FrameOutG N src) ⟨Inv, N, src⟩ ⟨Inv, N, src⟩ (X (32 * i)) (G (32 * (i + 1))) i := fun d hinv e hl hb => by
  obtain ⟨d1, h1, hw1, hinv1⟩ := W.writeSlot WG (32 * i) (by omega) e hl d hinv (by omega)
  obtain ⟨hsl, hfr⟩ := srcSlots_put hg hw1 (IO.wf d hinv) hi hl hb
  exact ⟨d1, h1, VolStep.of_devStep hw1.step, hw1.dirty (List.ne_nil_of_length_pos (by omega)), hinv1,
    by rw [Nat.sub_self, List.replicate_zero, List.append_nil]; exact hsl, hfr⟩

/-- **`writeSlotsKeep`, generic**, for records that fit into the allocated slots: the configuration stays, the first record
    leaves `F` -/
theorem WFam.writeSlotsKeep_fit {F : Nat → DirStream} (IO : InvOK Inv) (hg : SlotGeo N src) (W : WFam Inv F G N src room)
    (WG : WFam Inv G G N src room) (es : List DirEntryData) (hne : es ≠ []) (p : Nat) (d : Dev) (hinv : Inv d)
    (hes : ∀ e ∈ es, e.serialize.length = 32 ∧ ∀ b ∈ e.serialize, b < 256) (hle : p + es.length ≤ N) :
    ∃ d', run (FatVerif.writeSlotsKeep es (F (32 * p))) d = (.ok (none, G (32 * (p + es.length))), d') ∧
      VolStep d d' ∧ d'.fs.curDirty = true ∧ Inv d' ∧
      srcSlots d'.img src N = putK (srcSlots d.img src N) p (es.map DirEntryData.serialize) ∧ FrameOutG N src d d' := by
  have := writeSlotsKeep_path (Fr := FrameOutG N src) FrameOutG.refl (fun _ _ _ => FrameOutG.trans) es (fun _ => ⟨Inv, N, src⟩)
    (fun j => if j = 0 then F (32 * p) else G (32 * (p + j))) p
    (fun j hj => ⟨Nat.le_refl _, show p + j < N by omega, by
      rw [if_neg (Nat.succ_ne_zero j)]
      by_cases hj0 : j = 0
      · subst hj0; exact W.slotStep IO hg WG (p + 0) (by omega)
      · rw [if_neg hj0]; exact WG.slotStep IO hg WG (p + j) (by omega)⟩) hes d hinv
  rw [if_pos rfl, if_neg (show ¬ es.length = 0 by rw [List.length_eq_zero_iff]; exact hne)] at this
  obtain ⟨d', h1, h2, h3, h4, h5, h6⟩ := this
  refine ⟨d', h1, h2, h3 hne, h4, ?_, h6⟩
  rw [h5]
  show putK (_ ++ List.replicate (N - N) _) _ _ = _
  rw [Nat.sub_self, List.replicate_zero, List.append_nil]

end generic

/-! ### `deleteEntry`, `write_entry`, `create_file` -/

/-- the remaining stream operations of a directory written through `F` / `G`; `Extra` = the bytes the destructor of a
    clone may write besides (the directory's own entry in its parent; nothing for the roots) -/
structure WOps (Inv : Dev → Prop) (F G : Nat → DirStream) (N : Nat) (src room : Nat → Nat) (Extra : Nat → Prop)
    (DropPost : Img → Img → Prop) : Prop where
  dsrc : ∀ d, Inv d → DirSrc d F N src room
  fuel : ∀ d, Inv d → N < dirFuel d.fs
  seekStartF : ∀ d, Inv d → ∀ d0, SameVol d d0 → ∀ o t, o ≤ 32 * N → t ≤ 32 * N →
    ∃ d1, run ((F o).seek (.start t)) d0 = (.ok (t, F t), d1) ∧ SameVol d0 d1
  seekCurF : ∀ d, Inv d → ∀ o, o ≤ 32 * N → ∃ d1, run ((F o).seek (.cur 0)) d = (.ok (o, F o), d1) ∧ SameVol d d1
  seekCurG : ∀ d, Inv d → ∀ o, o ≤ 32 * N → ∃ d1, run ((G o).seek (.cur 0)) d = (.ok (o, G o), d1) ∧ SameVol d d1
  absPosG : ∀ d, Inv d → ∀ fs', FsGeomEq fs' d.fs → ∀ o, o % 32 = 0 → 0 < o → o ≤ 32 * N →
    ∃ d1, run ((G o).absPos fs') d = (.ok (some (src (o - 32) + 32)), d1) ∧ SameVol d d1
  dropG : ∀ d, Inv d → ∀ o, o ≤ 32 * N → ∃ d1, run (G o).dropBody d = (.ok (), d1) ∧ VolStep d d1 ∧ Inv d1 ∧
    (d.fs.curDirty = true → d1.fs.curDirty = true) ∧
    (∀ q, 0x42 ≤ q → ¬ Extra q → d1.img.getByte q = d.img.getByte q) ∧ DropPost d.img d1.img
  extra_out : ∀ i, i < N → ∀ x, x < 32 → ¬ Extra (src (32 * i) + x)

theorem WOps.strengthen {Inv : Dev → Prop} {F G : Nat → DirStream} {N : Nat} {src room : Nat → Nat} {Extra : Nat → Prop}
    {DropPost : Img → Img → Prop} (O : WOps Inv F G N src room Extra DropPost) (P : Dev → Prop)
    (hPd : ∀ d, Inv d → P d → ∀ o d1, o ≤ 32 * N → run (G o).dropBody d = (.ok (), d1) → P d1) :
    WOps (fun d => Inv d ∧ P d) F G N src room Extra DropPost :=
  ⟨fun d h => O.dsrc d h.1, fun d h => O.fuel d h.1, fun d h => O.seekStartF d h.1, fun d h => O.seekCurF d h.1,
   fun d h => O.seekCurG d h.1, fun d h => O.absPosG d h.1, fun d h o ho => by
    obtain ⟨d1, h1, hs1, hi1, hk1, hb1, hp1⟩ := O.dropG d h.1 o ho
    exact ⟨d1, h1, hs1, ⟨hi1, hPd d h.1 h.2 o d1 ho h1⟩, hk1, hb1, hp1⟩, O.extra_out⟩

/-- the image before the destructor of the clone ran: the frame holds of it exactly, and the destructor did `DropPost` -/
def MidImg (N : Nat) (src : Nat → Nat) (DropPost : Img → Img → Prop) (d d' : Dev) : Prop :=
  ∃ im : Img, (∀ q, 0x42 ≤ q → (∀ i, i < N → ¬ (src (32 * i) ≤ q ∧ q < src (32 * i) + 32)) → im.getByte q = d.img.getByte q) ∧
    DropPost im d'.img

/-- **what a write operation through a directory does, from `d` to `d'`**: fault schedule, image size and geometry are kept
    and the volume is marked dirty; the directory can be written again; its slots are `S`; from `0x42` on, no byte outside
    its slots and `Extra` changed; `MidImg`. Every `write_entry`, `deleteEntry` and whole operation below ends in it -/
structure Wrote (Inv : Dev → Prop) (N : Nat) (src : Nat → Nat) (Extra : Nat → Prop) (DropPost : Img → Img → Prop)
    (d d' : Dev) (S : List (List Nat)) : Prop where
  vol : VolStep d d'
  dirty : d'.fs.curDirty = true
  inv : Inv d'
  slots : srcSlots d'.img src N = S
  frame : FrameOutE N src Extra d d'
  mid : MidImg N src DropPost d d'

section generic
variable {Inv : Dev → Prop} {F G : Nat → DirStream} {N : Nat} {src room : Nat → Nat} {Extra : Nat → Prop}
  {DropPost : Img → Img → Prop}

/-- the reads before a write operation (`find_entry`, `check_for_existence`: the volume is kept) are absorbed -/
theorem Wrote.of_reads {d0 d1 d' : Dev} {S : List (List Nat)} (h : Wrote Inv N src Extra DropPost d1 d' S)
    (hv : SameVol d0 d1) : Wrote Inv N src Extra DropPost d0 d' S :=
  ⟨(VolStep.of_sameVol hv).trans h.vol, h.dirty, h.inv, h.slots, fun q hq hn he => by rw [h.frame q hq hn he, hv.img],
    let ⟨im, h1, h2⟩ := h.mid; ⟨im, fun q hq hn => by rw [h1 q hq hn, hv.img], h2⟩⟩

/-- **`deleteEntry`, generic**: for an entry occupying the slots `[b, b + k)`, `k > 0`, the slots of the image
    afterwards are `DirSlots.deleteRange` of those before; the volume is marked dirty -/
theorem WFam.deleteEntry (IO : InvOK Inv) (hg : SlotGeo N src) (W : WFam Inv F G N src room)
    (WG : WFam Inv G G N src room) (O : WOps Inv F G N src room Extra DropPost) (e : DirEntry) (b k : Nat) (hk : 0 < k)
    (hb : e.rangeBegin = 32 * b) (he : e.rangeEnd = 32 * (b + k)) (hle : b + k ≤ N) (d : Dev) (hinv : Inv d) :
    ∃ d', run (FatVerif.deleteEntry (F 0) e) d = (.ok (), d') ∧
      Wrote Inv N src Extra DropPost d d' (DirSlots.deleteRange (srcSlots d.img src N) b (b + k)) := by
  obtain ⟨k, rfl⟩ : ∃ k', k = k' + 1 := ⟨k - 1, by omega⟩
  obtain ⟨d0, h0, hs0⟩ := O.seekStartF d hinv d (SameVol.refl d) 0 (32 * b) (Nat.zero_le _) (by omega)
  have hinv0 := IO.vol d d0 hinv hs0 (run_clock _ _ _ _ h0)
  obtain ⟨d1, h1, hs1, hd1, hinv1, hsl1, hfr1⟩ := WG.deleteSlots IO hg k W b d0 hinv0 hle
  -- the destructor of the clone
  have hinv1' : Inv { d1 with dropDepth := d1.dropDepth + 1 } := IO.vol _ _ hinv1 (sameVol_depth d1 _) rfl
  obtain ⟨d2, h2, hs2, hinv2, hk2, hb2, hdp2⟩ := O.dropG _ hinv1' (32 * (b + (k + 1))) (by omega)
  refine ⟨{ d2 with dropDepth := d2.dropDepth - 1 }, ?_,
    ((VolStep.of_sameVol hs0).trans hs1).trans
      (((VolStep.of_sameVol (sameVol_depth d1 _)).trans hs2).trans (VolStep.of_sameVol (sameVol_depth d2 _))),
    hk2 hd1, IO.vol _ _ hinv2 (sameVol_depth d2 _) rfl, ?_, ?_,
    ⟨d1.img, fun q hq hn => by rw [hfr1 q hq hn, hs0.img], hdp2⟩⟩
  · unfold FatVerif.deleteEntry withStream
    have hbody : run (do
        let (_, st) ← (F 0).seek (.start e.rangeBegin)
        let st ← FatVerif.deleteSlots ((e.rangeEnd - e.rangeBegin) / 32) st
        pure ((), st)) d = (.ok ((), G (32 * (b + (k + 1)))), d1) := by
      rw [show (e.rangeEnd - e.rangeBegin) / 32 = k + 1 by rw [hb, he]; omega, hb, run_bind_ok h0]
      simp only
      rw [run_bind_ok h1]
      rfl
    rw [run_bind_ok (run_finallyDrop_ok hbody h2)]
    rfl
  · show srcSlots d2.img src N = _
    rw [srcSlots_congr (fun i hi x hx => hb2 _ (by have := hg.behind i hi; omega) (O.extra_out i hi x hx)), hsl1, hs0.img,
      delK_eq_deleteRange _ _ _ (by rw [srcSlots_length]; exact hle)]
  · intro q hq hn he
    show d2.img.getByte q = _
    rw [hb2 q hq he, hfr1 q hq hn, hs0.img]

/-- **`write_entry` around its `writeSlotsKeep`.** `sl` = the long-name slots (none for `"."` / `".."`), the clone is
    positioned where `find_free_entries` puts it. `mid`: what `writeSlotsKeep` does from there on the device `d2`,
    ending in the configuration `Inv'`, `G'` (the one before, or the grown directory) with all records written; `Q` is
    whatever the caller wants to keep of that step. Then the entry is returned and the clone dropped (`O'.dropG`). -/
theorem WOps.writeEntry_around {Inv Inv' : Dev → Prop} {F G F' G' : Nat → DirStream} {N N' : Nat}
    {src room src' room' : Nat → Nat} {Extra Extra' : Nat → Prop} {DropPost DropPost' : Img → Img → Prop}
    (IO : InvOK Inv) (IO' : InvOK Inv') (O : WOps Inv F G N src room Extra DropPost)
    (O' : WOps Inv' F' G' N' src' room' Extra' DropPost') (name : String) (raw : DirFileEntryData)
    (hval : Names.validateLongName name = .ok ()) (sl : List (List Nat))
    (hsl : (if name = "." || name = ".." then []
      else lfnGenerate (Names.encodeUtf16 name.toList) (lfnChecksum raw.name)) = sl)
    (d : Dev) (hinv : Inv d) (p : Nat) (hp : DirSlots.findFree (srcSlots d.img src N) (sl.length + 1) = p) (hfit : p + (sl.length + 1) ≤ N')
    (Q : Dev → Dev → Prop)
    (mid : ∀ d2, SameVol d d2 → Inv d2 → ∃ d3,
      run (writeSlotsKeep (sl.map deserialize ++ [DirEntryData.file raw])
        (F (32 * p))) d2 =
        (.ok (none, G' (32 * (p + (sl.length + 1)))), d3) ∧
      VolStep d2 d3 ∧ d3.fs.curDirty = true ∧ Inv' d3 ∧ Q d2 d3) :
    ∃ d2 d3 d', SameVol d d2 ∧ Q d2 d3 ∧
      run (FatVerif.writeEntry (F 0) name raw) d =
        (.ok { data := raw, lfn := Names.encodeUtf16 name.toList,
               -- `absPosG` gives the end of the last slot and `write_entry` subtracts 32: written as the program
               -- computes it, so that `rfl` closes the run
               entryPos := src' (32 * (p + (sl.length + 1)) - 32) + 32 - 32, rangeBegin := 32 * p,
               rangeEnd := 32 * (p + (sl.length + 1)) }, d') ∧
      VolStep d d' ∧ d'.fs.curDirty = true ∧ Inv' d' ∧
      (∀ q, 0x42 ≤ q → ¬ Extra' q → d'.img.getByte q = d3.img.getByte q) ∧ DropPost' d3.img d'.img := by
  have hple : p ≤ N := by
    have := DirSlots.findFreeLoop_le (sl.length + 1) (srcSlots d.img src N) 0 0 0 (Nat.le_refl _)
    rw [srcSlots_length, Nat.zero_add] at this
    rw [← hp]; exact this
  -- 1. find_free_entries, 2. position
  obtain ⟨d1, h1, hs1⟩ := (O.dsrc d hinv).findFreeEntries_sim (fun d1 hv o t ho ht => O.seekStartF d hinv d1 hv o t ho ht)
    (O.fuel d hinv) (sl.length + 1) d (SameVol.refl d)
  rw [hp] at h1
  have hinv1 := IO.vol d d1 hinv hs1 (run_clock _ _ _ _ h1)
  obtain ⟨d2, h2, hs2⟩ := O.seekCurF d1 hinv1 (32 * p) (by omega)
  have hinv2 := IO.vol d1 d2 hinv1 hs2 (run_clock _ _ _ _ h2)
  have hv12 := hs1.trans hs2
  -- 3. the records
  obtain ⟨d3, h3, hs3, hd3, hinv3, hQ⟩ := mid d2 hv12 hinv2
  have hstep13 : VolStep d d3 := (VolStep.of_sameVol hv12).trans hs3
  -- 4. the end position, 5. the destructor
  obtain ⟨d4, h4, hs4⟩ := O'.seekCurG d3 hinv3 (32 * (p + (sl.length + 1))) (by omega)
  have hinv4 := IO'.vol d3 d4 hinv3 hs4 (run_clock _ _ _ _ h4)
  obtain ⟨d5, h5, hs5⟩ := O'.absPosG d4 hinv4 d.fs (by rw [hs4.fs]; exact hstep13.geom) (32 * (p + (sl.length + 1)))
    (by omega) (by omega) (by omega)
  have hinv5 := IO'.vol d4 d5 hinv4 hs5 (run_clock _ _ _ _ h5)
  have hinv5' : Inv' { d5 with dropDepth := d5.dropDepth + 1 } := IO'.vol _ _ hinv5 (sameVol_depth d5 _) rfl
  obtain ⟨d6, h6, hs6, hinv6, hk6, hb6, hdp6⟩ := O'.dropG _ hinv5' (32 * (p + (sl.length + 1))) (by omega)
  have hv35 : SameVol d3 d5 := hs4.trans hs5
  have hdp : DropPost' d5.img d6.img := hdp6
  rw [hv35.img] at hdp
  refine ⟨d2, d3, { d6 with dropDepth := d6.dropDepth - 1 }, hv12, hQ, ?_,
    hstep13.trans ((((VolStep.of_sameVol hv35).trans (VolStep.of_sameVol (sameVol_depth d5 _))).trans hs6).trans
      (VolStep.of_sameVol (sameVol_depth d6 _))),
    hk6 (by show d5.fs.curDirty = true; rw [hv35.fs]; exact hd3), IO'.vol _ _ hinv6 (sameVol_depth d6 _) rfl,
    fun q hq he => by
      show d6.img.getByte q = _
      rw [hb6 q hq he]
      show d5.img.getByte q = _
      rw [hv35.img], hdp⟩
  unfold FatVerif.writeEntry
  rw [hval]
  simp only [hsl]
  rw [run_bind_ok (run_getFs d), run_bind_ok h1, run_bind_finallyDrop_noop h2 (fun _ => rfl)]
  simp only
  rw [run_bind_ok h3]
  simp only [thenDrop]
  refine run_finallyDrop_ok ?_ h6
  rw [run_bind_ok h4]
  simp only
  rw [run_bind_ok h5]
  rfl

/-- **`write_entry`, generic**, when the short record and the long-name slots `sl` before it fit into the allocated
    space of the directory: they are put at `find_free_entries`' position -/
theorem WFam.writeEntrySl (IO : InvOK Inv) (hg : SlotGeo N src) (W : WFam Inv F G N src room)
    (WG : WFam Inv G G N src room) (O : WOps Inv F G N src room Extra DropPost) (name : String) (raw : DirFileEntryData)
    (hval : Names.validateLongName name = .ok ()) (hraw : raw.WF) (sl : List (List Nat))
    (hsl : (if name = "." || name = ".." then []
      else lfnGenerate (Names.encodeUtf16 name.toList) (lfnChecksum raw.name)) = sl)
    (hslots : ∀ s ∈ sl, s.length = 32 ∧ (∀ b ∈ s, b < 256) ∧ (deserialize s).serialize = s) (d : Dev) (hinv : Inv d)
    (hfit : DirSlots.findFree (srcSlots d.img src N) (sl.length + 1) + (sl.length + 1) ≤ N) :
    ∃ d', run (FatVerif.writeEntry (F 0) name raw) d =
        (.ok { data := raw, lfn := Names.encodeUtf16 name.toList,
               entryPos := src (32 * (DirSlots.findFree (srcSlots d.img src N) (sl.length + 1) + (sl.length + 1)) - 32)
                 + 32 - 32,
               rangeBegin := 32 * DirSlots.findFree (srcSlots d.img src N) (sl.length + 1),
               rangeEnd := 32 * (DirSlots.findFree (srcSlots d.img src N) (sl.length + 1) + (sl.length + 1)) }, d') ∧
      Wrote Inv N src Extra DropPost d d' (DirSlots.writeAt (srcSlots d.img src N)
        (DirSlots.findFree (srcSlots d.img src N) (sl.length + 1)) (sl ++ [raw.serialize])) := by
  obtain ⟨hes, hmap⟩ := slotRecords sl hslots raw hraw
  have hlen : (sl.map deserialize ++ [DirEntryData.file raw]).length = sl.length + 1 := by simp
  obtain ⟨d2, d3, d', hv2, ⟨hsl3, hfr3⟩, hr, hs, hd, hinv', hb, hdp⟩ := O.writeEntry_around IO IO O name raw hval sl hsl d hinv
    _ rfl hfit (fun d2 d3 => srcSlots d3.img src N = putK (srcSlots d2.img src N)
        (DirSlots.findFree (srcSlots d.img src N) (sl.length + 1))
        ((sl.map deserialize ++ [DirEntryData.file raw]).map DirEntryData.serialize) ∧ FrameOutG N src d2 d3)
    (fun d2 _ hinv2 => by
      have := W.writeSlotsKeep_fit IO hg WG _ (by simp) _ d2 hinv2 hes (by rw [hlen]; exact hfit)
      rwa [hlen] at this)
  refine ⟨d', hr, hs, hd, hinv', ?_, fun q hq hn he => by rw [hb q hq he, hfr3 q hq hn, hv2.img],
    ⟨d3.img, fun q hq hn => by rw [hfr3 q hq hn, hv2.img], hdp⟩⟩
  rw [srcSlots_congr (fun i hi x hx => hb _ (by have := hg.behind i hi; omega) (O.extra_out i hi x hx)), hsl3, hv2.img,
    hmap, putK_eq_writeAt _ _ _ (by rw [srcSlots_length, List.length_append, List.length_singleton]; exact hfit)]

/-- **`write_entry`, generic**, for an ordinary name whose slots fit into the allocated space of the directory: the
    entry returned, and the slots of the image afterwards = `DirSlots.writeEntry` of those before (long-name run for the
    UTF-16 units of the name with the checksum of the short name, then the short record) -/
theorem WFam.writeEntry (IO : InvOK Inv) (hg : SlotGeo N src) (W : WFam Inv F G N src room)
    (WG : WFam Inv G G N src room) (O : WOps Inv F G N src room Extra DropPost) (name : String) (raw : DirFileEntryData)
    (hval : Names.validateLongName name = .ok ()) (hdot : (name = "." || name = "..") = false) (hraw : raw.WF)
    (d : Dev) (hinv : Inv d)
    (hfit : DirSlots.findFree (srcSlots d.img src N) (Lfn.numParts (Names.encodeUtf16 name.toList).length + 1) +
      (Lfn.numParts (Names.encodeUtf16 name.toList).length + 1) ≤ N) :
    ∃ d', run (FatVerif.writeEntry (F 0) name raw) d =
        (.ok { data := raw, lfn := Names.encodeUtf16 name.toList,
               entryPos := src (32 * (DirSlots.findFree (srcSlots d.img src N)
                  (Lfn.numParts (Names.encodeUtf16 name.toList).length + 1) +
                  (Lfn.numParts (Names.encodeUtf16 name.toList).length + 1)) - 32) + 32 - 32,
               rangeBegin := 32 * DirSlots.findFree (srcSlots d.img src N)
                  (Lfn.numParts (Names.encodeUtf16 name.toList).length + 1),
               rangeEnd := 32 * (DirSlots.findFree (srcSlots d.img src N)
                  (Lfn.numParts (Names.encodeUtf16 name.toList).length + 1) +
                  (Lfn.numParts (Names.encodeUtf16 name.toList).length + 1)) }, d') ∧
      VolStep d d' ∧ d'.fs.curDirty = true ∧ Inv d' ∧
      srcSlots d'.img src N = DirSlots.writeEntry (srcSlots d.img src N) (Names.encodeUtf16 name.toList) raw.serialize ∧
      FrameOutE N src Extra d d' ∧ MidImg N src DropPost d d' := by
  have hlen := lfnGenerate_length (Names.encodeUtf16 name.toList) (lfnChecksum raw.name)
  rw [← hlen] at hfit ⊢
  obtain ⟨d', hr, hs, hd, hinv', hsl, hfr, hmid⟩ := W.writeEntrySl IO hg WG O name raw hval hraw _
    (by rw [if_neg (by rw [hdot]; decide)]) (lfnGenerate_slot _ _ (C16.checksum_lt raw.name)) d hinv hfit
  refine ⟨d', hr, hs, hd, hinv', ?_, hfr, hmid⟩
  rw [hsl]
  unfold DirSlots.writeEntry DirSlots.entrySlots
  rw [sfnName_serialize raw hraw.name_len, hlen]

/-- `create_file(name)` for a free name, from `check_for_existence` (alias `a`) and `write_entry` of the record stamped
    from the clock -/
theorem run_createFile_new (env : Env) (fuel : Nat) (st : DirStream) (path name : String)
    (hsp : Names.splitPath path = (name, none)) (hdot : (name = "." || name = "..") = false) {d d1 d' : Dev}
    {a : List Nat} {e : DirEntry}
    (h1 : run (checkForExistence env st name (some false)) d = (.ok (.short a), d1)) (hs1 : SameVol d d1)
    (h2 : run (FatVerif.writeEntry st name (sfnAt d.fs d.clock a 0 none)) d1 = (.ok e, d'))
    (he : e.data = sfnAt d.fs d.clock a 0 none) :
    run (FatVerif.createFile env (fuel + 1) st path) d = (.ok (FileH.new (e.firstCluster d.fs) (some e.editor)), d') := by
  unfold FatVerif.createFile
  rw [run_bind_ok (run_getFs d), hsp]
  simp only [hdot, Bool.false_eq_true, if_false]
  rw [run_bind_ok h1]
  simp only
  rw [run_bind_ok (run_createSfnEntry a 0 none d1), hs1.fs, run_clock _ _ _ _ h1, run_bind_ok h2]
  unfold DirEntry.toFile
  rw [show e.isDir = false by unfold DirEntry.isDir; rw [he]; exact sfnAt_isDir_false _ _ _ _]
  rfl

/-- **`create_file(name)`, generic**, single-component path, free name, `alloc` feature: `check_for_existence` (alias
    choice) → `create_sfn_entry` (time stamps from the clock) → `write_entry`. `70000` is the fuel `checkForExistence`
    gives its loop -/
theorem WFam.createFile (IO : InvOK Inv) (hg : SlotGeo N src) (W : WFam Inv F G N src room)
    (WG : WFam Inv G G N src room) (O : WOps Inv F G N src room Extra DropPost) (env : Env) (path name : String)
    (hsp : Names.splitPath path = (name, none)) (hdot : (name = "." || name = "..") = false)
    (hval : Names.validateLongName name = .ok ()) (d : Dev) (hinv : Inv d) (ha : d.fs.lfnAlloc = true) (a : List Nat)
    (hchk : DirAlias.checkForExistenceL env.upper (srcSlots d.img src N) name (some false) 70000 = .ok (.alias a))
    (hfit : DirSlots.findFree (srcSlots d.img src N) (Lfn.numParts (Names.encodeUtf16 name.toList).length + 1) +
      (Lfn.numParts (Names.encodeUtf16 name.toList).length + 1) ≤ N) (fuel : Nat) :
    ∃ (d' : Dev) (e : DirEntry), run (FatVerif.createFile env (fuel + 1) (F 0) path) d =
        (.ok (FileH.new (e.firstCluster d.fs) (some e.editor)), d') ∧
      e.data = sfnAt d.fs d.clock a 0 none ∧ e.lfn = Names.encodeUtf16 name.toList ∧
      VolStep d d' ∧ d'.fs.curDirty = true ∧ Inv d' ∧
      srcSlots d'.img src N = DirSlots.writeEntry (srcSlots d.img src N) (Names.encodeUtf16 name.toList)
        (sfnAt d.fs d.clock a 0 none).serialize ∧
      FrameOutE N src Extra d d' ∧ MidImg N src DropPost d d' := by
  have hce := (O.dsrc d hinv).checkForExistence_sim (O.fuel d hinv) ha env name (some false) d (SameVol.refl d)
  rw [hchk] at hce
  obtain ⟨d1, h1, hs1⟩ := hce
  obtain ⟨hcan, hl11, _⟩ := C16dir.dir_alias_canon env.upper (srcSlots d.img src N) name (some false) 70000 a hchk
  obtain ⟨d2, h2, hs2, hd2, hinv2, hsl2, hfr2, im, him1, him2⟩ := W.writeEntry IO hg WG O name (sfnAt d.fs d.clock a 0 none)
    hval hdot (sfnAt_wf d.fs d.clock a 0 none hl11 (canon_lt hcan) (by omega)) d1
    (IO.vol d d1 hinv hs1 (run_clock _ _ _ _ h1)) (by rw [hs1.img]; exact hfit)
  rw [hs1.img] at h2 hsl2
  exact ⟨d2, _, run_createFile_new env fuel (F 0) path name hsp hdot h1 hs1 h2 rfl, rfl, rfl,
    (VolStep.of_sameVol hs1).trans hs2, hd2, hinv2, hsl2, fun q hq hn he => by rw [hfr2 q hq hn he, hs1.img],
    ⟨im, fun q hq hn => by rw [him1 q hq hn, hs1.img], him2⟩⟩

end generic

/-- the stream `to_dir` opens for an entry, by its first cluster (one unfolding of the definition serves both cases:
    comparing the `match` on the first cluster is dear for the kernel) -/
theorem DirEntry.dirStream_cases (fs : FsState) (e : DirEntry) :
    (∀ c, e.firstCluster fs = some c → DirEntry.dirStream fs e = .file (FileH.new (some c) (some e.editor))) ∧
    (e.firstCluster fs = none → DirEntry.dirStream fs e = rootDirStream fs) := by
  rw [DirEntry.dirStream.eq_1]
  exact ⟨fun c h => by rw [h], fun h => by rw [h]⟩

theorem DirEntry.dirStream_of_cluster (fs : FsState) (e : DirEntry) (c : Nat) (h : e.firstCluster fs = some c) :
    DirEntry.dirStream fs e = .file (FileH.new (some c) (some e.editor)) := (DirEntry.dirStream_cases fs e).1 c h

theorem DirEntry.dirStream_of_none (fs : FsState) (e : DirEntry) (h : e.firstCluster fs = none) :
    DirEntry.dirStream fs e = rootDirStream fs := (DirEntry.dirStream_cases fs e).2 h

/-! ### `WView`: a directory one can write into -/

/-- a writable directory starting at the stream `st` (cf. `DirView`) -/
structure WView (d : Dev) (st : DirStream) where
  Inv : Dev → Prop
  F : Nat → DirStream
  G : Nat → DirStream
  N : Nat
  src : Nat → Nat
  room : Nat → Nat
  Extra : Nat → Prop
  DropPost : Img → Img → Prop
  start : st = F 0
  io : InvOK Inv
  geo : SlotGeo N src
  w : WFam Inv F G N src room
  wg : WFam Inv G G N src room
  ops : WOps Inv F G N src room Extra DropPost
  here : Inv d

/-- an entry listed from the slots of an image: its short slot was read from the image and is no long-name slot; its slot
    range is not empty and lies inside the slots -/
theorem srcSlots_listed (alloc : Bool) (img : Img) (src : Nat → Nat) (N : Nat) (le : LfnEntry)
    (hmem : le ∈ readDirEntries alloc true (srcSlots img src N)) :
    SlotOK le.sfn ∧ le.sfn.length = 32 ∧ (∀ b ∈ le.sfn, b < 256) ∧ Lfn.isLfn le.sfn = false ∧
      le.beginIdx < le.endIdx ∧ le.endIdx ≤ N := by
  have hb := readLoop_bounds alloc true (srcSlots img src N) 0 0 _ (Nat.le_refl _) le hmem
  rw [srcSlots_length, Nat.zero_add] at hb
  obtain ⟨j, _, hj⟩ := List.mem_map.1 (readLoop_sfn_mem alloc true _ _ _ _ le hmem)
  refine ⟨srcEntries_slotOK _ _ _ _ _ le hmem, ?_, ?_, readLoop_sfn_notLfn alloc true _ _ _ _ le hmem, by omega, hb.2.2⟩
  · rw [← hj]; exact Img.read_length _ _ _
  · rw [← hj]; exact Img.read_lt _ _ _

namespace WView
variable {d : Dev} {st : DirStream}

/-- the read view of a writable directory -/
def toDirView (V : WView d st) : DirView d st :=
  ⟨V.F, V.N, V.src, V.room, V.start, V.ops.dsrc d V.here, V.ops.fuel d V.here⟩

/-- the slots of the directory in an image -/
def slots (V : WView d st) (img : Img) : List (List Nat) := srcSlots img V.src V.N

theorem lookup_ok (V : WView d st) (env : Env) (name : String) (isDir : Option Bool) (le : LfnEntry)
    (hl : lookupL env.upper name.toList isDir (readDirEntries d.fs.lfnAlloc true (V.slots d.img)) = .ok le) :
    V.toDirView.lookup env name isDir = .ok (toDirEntryS V.src le) := by
  unfold DirView.lookup DirView.lfnEntries
  show (lookupL env.upper name.toList isDir (readDirEntries d.fs.lfnAlloc true (V.slots d.img))).map _ = _
  rw [hl]; rfl

theorem listed (V : WView d st) (le : LfnEntry) (hmem : le ∈ readDirEntries d.fs.lfnAlloc true (V.slots d.img)) :
    SlotOK le.sfn ∧ le.sfn.length = 32 ∧ (∀ b ∈ le.sfn, b < 256) ∧ Lfn.isLfn le.sfn = false ∧
      le.beginIdx < le.endIdx ∧ le.endIdx ≤ V.N := srcSlots_listed _ _ _ _ le hmem

/-- the slots of this directory are kept by a write into another one that lies apart -/
theorem slots_of_frameE (V : WView d st) {N' : Nat} {src' : Nat → Nat} {Extra' : Nat → Prop} {X Y : Dev}
    (hf : FrameOutE N' src' Extra' X Y)
    (h : ∀ i, i < V.N → ∀ x, x < 32 → ¬ Extra' (V.src (32 * i) + x) ∧
      ∀ j, j < N' → ¬ (src' (32 * j) ≤ V.src (32 * i) + x ∧ V.src (32 * i) + x < src' (32 * j) + 32)) :
    V.slots Y.img = V.slots X.img :=
  srcSlots_frameE hf V.src V.N (fun i hi x hx => ⟨by have := V.geo.behind i hi; omega, (h i hi x hx).1, (h i hi x hx).2⟩)

/-- the outcome of a write operation through the directory, from a device `d1` of its invariant -/
abbrev Wrote (V : WView d st) (d1 d' : Dev) (S : List (List Nat)) : Prop :=
  DirSim.Wrote V.Inv V.N V.src V.Extra V.DropPost d1 d' S

/-! The write theorems are stated at ANY device `d1` of the invariant: the whole operations read first (the volume is
    kept) or write elsewhere first (`hkeep…`), and then write through the same view. -/

/-- **(W1) + (W1-frame)**: `write_entry(name, raw)` through a writable directory, for an ordinary valid name whose
    slots fit into the allocated space. The entry returned is the one the reader builds from the new short slot; the
    slots of the directory afterwards are `DirSlots.writeEntry`; bytes from `0x42` on outside the slots of THIS
    directory are untouched; fault schedule, image size, geometry kept (`VolStep`; the mounted state changes only in
    `curDirty`/`curIoErr`: the volume is marked dirty); the directory is writable again (`Inv d'`) -/
theorem writeEntry_sim (V : WView d st) (d1 : Dev) (h1 : V.Inv d1) (name : String) (raw : DirFileEntryData)
    (hval : Names.validateLongName name = .ok ()) (hdot : (name = "." || name = "..") = false) (hraw : raw.WF)
    (hlfn : attrsIsLfn raw.attrs = false)
    (hfit : DirSlots.findFree (V.slots d1.img) (Lfn.numParts (Names.encodeUtf16 name.toList).length + 1) +
      (Lfn.numParts (Names.encodeUtf16 name.toList).length + 1) ≤ V.N) :
    ∃ d', run (FatVerif.writeEntry st name raw) d1 =
        (.ok (toDirEntryS V.src ⟨raw.serialize, Names.encodeUtf16 name.toList,
          DirSlots.findFree (V.slots d1.img) (Lfn.numParts (Names.encodeUtf16 name.toList).length + 1),
          DirSlots.findFree (V.slots d1.img) (Lfn.numParts (Names.encodeUtf16 name.toList).length + 1) +
            (Lfn.numParts (Names.encodeUtf16 name.toList).length + 1)⟩), d') ∧
      V.Wrote d1 d' (DirSlots.writeEntry (V.slots d1.img) (Names.encodeUtf16 name.toList) raw.serialize) := by
  obtain ⟨d', hr, hs, hd, hinv, hsl, hfr, hmid⟩ := V.w.writeEntry V.io V.geo V.wg V.ops name raw hval hdot hraw d1 h1 hfit
  refine ⟨d', ?_, hs, hd, hinv, hsl, hfr, hmid⟩
  rw [congrArg (fun s => run (FatVerif.writeEntry s name raw) d1) V.start, hr,
    writeEntry_result V.src raw hraw hlfn _ _ _]
  rfl

/-- **(W2) + (W1)**: `create_sfn_entry(a, attrs, first)` followed by `write_entry(name, ·)` — the program
    `C01img.WriteSim` is about. The short slot written is `sfnWith a (attrs :: sfnStamp fs clock first)` -/
theorem create_write_sim (V : WView d st) (name : String) (a : List Nat) (attrs : Nat) (first : Option Nat)
    (hval : Names.validateLongName name = .ok ()) (hdot : (name = "." || name = "..") = false)
    (ha11 : a.length = 11) (hab : ∀ b ∈ a, b < 256) (hattrs : attrs < 64) (hlfn : attrsIsLfn attrs = false)
    (hfit : DirSlots.findFree (V.slots d.img) (Lfn.numParts (Names.encodeUtf16 name.toList).length + 1) +
      (Lfn.numParts (Names.encodeUtf16 name.toList).length + 1) ≤ V.N) :
    ∃ d', run (Prog.bind (createSfnEntry a attrs first) fun sfn => FatVerif.writeEntry st name sfn) d =
        (.ok (toDirEntryS V.src ⟨DirAlias.sfnWith a (attrs :: sfnStamp d.fs d.clock first),
          Names.encodeUtf16 name.toList,
          DirSlots.findFree (V.slots d.img) (Lfn.numParts (Names.encodeUtf16 name.toList).length + 1),
          DirSlots.findFree (V.slots d.img) (Lfn.numParts (Names.encodeUtf16 name.toList).length + 1) +
            (Lfn.numParts (Names.encodeUtf16 name.toList).length + 1)⟩), d') ∧
      VolStep d d' ∧ d'.fs.curDirty = true ∧ V.Inv d' ∧
      V.slots d'.img = DirSlots.writeEntry (V.slots d.img) (Names.encodeUtf16 name.toList)
        (DirAlias.sfnWith a (attrs :: sfnStamp d.fs d.clock first)) ∧
      FrameOutE V.N V.src V.Extra d d' ∧ MidImg V.N V.src V.DropPost d d' := by
  have hwf := sfnAt_wf d.fs d.clock a attrs first ha11 hab hattrs
  obtain ⟨d', hr, hs, hd, hinv, hsl, hfr, hmid⟩ := V.writeEntry_sim d V.here name _ hval hdot hwf
    (by rw [sfnAt_attrs]; exact hlfn) hfit
  rw [sfnAt_serialize] at hr hsl
  refine ⟨d', ?_, hs, hd, hinv, hsl, hfr, hmid⟩
  show run (Prog.bind _ _) d = _
  simp only [run, run_createSfnEntry a attrs first d]
  exact hr

/-- **(W1) for `"."` / `".."`** through a writable directory (no long-name slots: one short record) — the two entries
    `create_dir` puts into the new directory -/
theorem writeEntryDot_sim (V : WView d st) (d1 : Dev) (h1 : V.Inv d1) (name : String) (raw : DirFileEntryData)
    (hval : Names.validateLongName name = .ok ()) (hdot : (name = "." || name = "..") = true) (hraw : raw.WF)
    (hlfn : attrsIsLfn raw.attrs = false) (hfit : DirSlots.findFree (V.slots d1.img) 1 + 1 ≤ V.N) :
    ∃ d', run (FatVerif.writeEntry st name raw) d1 =
        (.ok (toDirEntryS V.src ⟨raw.serialize, Names.encodeUtf16 name.toList, DirSlots.findFree (V.slots d1.img) 1,
          DirSlots.findFree (V.slots d1.img) 1 + 1⟩), d') ∧
      V.Wrote d1 d' (DirSlots.writeEntryDot (V.slots d1.img) raw.serialize) := by
  obtain ⟨d', hr, w⟩ := V.w.writeEntrySl V.io V.geo V.wg V.ops name raw hval hraw []
    (by rw [if_pos hdot]) (fun _ h => absurd h (List.not_mem_nil)) d1 h1 hfit
  refine ⟨d', ?_, w⟩
  rw [congrArg (fun s => run (FatVerif.writeEntry s name raw) d1) V.start, hr,
    writeEntry_result V.src raw hraw hlfn _ _ _]
  rfl

/-- `deleteEntry` by slot range (the entry need not be listed any more under that range's name) -/
theorem deleteEntry_range (V : WView d st) (d1 : Dev) (h1 : V.Inv d1) (e : DirEntry) (b k : Nat) (hk : 0 < k)
    (hb : e.rangeBegin = 32 * b) (he : e.rangeEnd = 32 * (b + k)) (hle : b + k ≤ V.N) :
    ∃ d', run (FatVerif.deleteEntry st e) d1 = (.ok (), d') ∧
      V.Wrote d1 d' (DirSlots.deleteRange (V.slots d1.img) b (b + k)) := by
  obtain ⟨d', hr, w⟩ := V.w.deleteEntry V.io V.geo V.wg V.ops e b k hk hb he hle d1 h1
  exact ⟨d', (congrArg (fun s => run (FatVerif.deleteEntry s e) d1) V.start).trans hr, w⟩

/-- **(W3)**: `deleteEntry(entry)` for an entry listed in the directory (on `d`): the slots become `DirSlots.deleteRange`
    over the slot range of the entry, which lies inside the directory whatever the slots hold by now; frame as for (W1) -/
theorem deleteEntry_sim (V : WView d st) (d1 : Dev) (h1 : V.Inv d1) (le : LfnEntry)
    (hmem : le ∈ readDirEntries d.fs.lfnAlloc true (V.slots d.img)) :
    ∃ d', run (FatVerif.deleteEntry st (toDirEntryS V.src le)) d1 = (.ok (), d') ∧
      V.Wrote d1 d' (DirSlots.deleteRange (V.slots d1.img) le.beginIdx le.endIdx) := by
  obtain ⟨_, _, _, _, hlt, hle⟩ := V.listed le hmem
  have := V.deleteEntry_range d1 h1 (toDirEntryS V.src le) le.beginIdx (le.endIdx - le.beginIdx) (by omega) rfl
    (by simp only [toDirEntryS]; congr 1; omega) (by omega)
  rwa [show le.beginIdx + (le.endIdx - le.beginIdx) = le.endIdx by omega] at this

/-- **`create_file(name)` through a writable directory** (single-component path, free name, the entry fits) -/
theorem createFile_sim (V : WView d st) (env : Env) (path name : String) (hsp : Names.splitPath path = (name, none))
    (hdot : (name = "." || name = "..") = false) (hval : Names.validateLongName name = .ok ())
    (ha : d.fs.lfnAlloc = true) (a : List Nat)
    (hchk : DirAlias.checkForExistenceL env.upper (V.slots d.img) name (some false) 70000 = .ok (.alias a))
    (hfit : DirSlots.findFree (V.slots d.img) (Lfn.numParts (Names.encodeUtf16 name.toList).length + 1) +
      (Lfn.numParts (Names.encodeUtf16 name.toList).length + 1) ≤ V.N) (fuel : Nat) :
    ∃ (d' : Dev) (e : DirEntry), run (FatVerif.createFile env (fuel + 1) st path) d =
        (.ok (FileH.new (e.firstCluster d.fs) (some e.editor)), d') ∧
      e.data = sfnAt d.fs d.clock a 0 none ∧ e.lfn = Names.encodeUtf16 name.toList ∧
      V.Wrote d d' (DirSlots.writeEntry (V.slots d.img) (Names.encodeUtf16 name.toList) (sfnAt d.fs d.clock a 0 none).serialize) := by
  obtain ⟨d', e, hr, he1, he2, hs, hd, hinv, hsl, hfr, hmid⟩ := V.w.createFile V.io V.geo V.wg V.ops env path name hsp hdot
    hval d V.here ha a hchk hfit fuel
  exact ⟨d', e, (congrArg (fun s => run (FatVerif.createFile env (fuel + 1) s path) d) V.start).trans hr, he1, he2, hs, hd,
    hinv, hsl, hfr, hmid⟩

end WView

/-! ### the fixed root region as a write family -/

section root
variable (s : DiskSlice) (N : Nat) (hN : s.size = 32 * N)

/-- bytes behind the status byte and outside the root region are kept -/
def FrameOut (d d' : Dev) : Prop :=
  ∀ q, 0x42 ≤ q → ¬ (s.beginOff ≤ q ∧ q < s.beginOff + s.size) → d'.img.getByte q = d.img.getByte q

theorem FrameOut.of_sameStore {a b : Dev} (h : SameStore a b) : FrameOut s a b := fun q _ _ => by rw [h.img]

end root

theorem dirFuel_geom {a b : FsState} (h : FsGeomEq a b) : dirFuel b = dirFuel a := by rw [h]; rfl

theorem absPos_geom {a b : FsState} (h : FsGeomEq a b) (st : DirStream) : st.absPos b = st.absPos a := by
  cases st with
  | root s => rfl
  | file f =>
    simp only [DirStream.absPos, FileH.absPos]
    cases f.currentCluster with
    | none => rfl
    | some n =>
      simp only
      rw [h.clusterSize]
      have : offsetFromClusterP b n = offsetFromClusterP a n := by rw [h]; rfl
      rw [this]

/-- the invariant threaded through the writes on the root region `s` (geometry `fs0`) -/
structure RootInv (fs0 : FsState) (s : DiskSlice) (N : Nat) (d : Dev) : Prop where
  noFault : d.failAt = none
  inside : s.beginOff + s.size ≤ d.img.size
  wf : d.img.WF
  geom : FsGeomEq fs0 d.fs
  fuel : N < dirFuel fs0

section root
variable {fs0 : FsState} {s : DiskSlice} {N : Nat}

theorem rootInv_ok : InvOK (RootInv fs0 s N) where
  noFault := fun _ h => h.noFault
  wf := fun _ h => h.wf
  vol := fun d d1 h hv _ => ⟨by rw [hv.failAt]; exact h.noFault, by rw [hv.img]; exact h.inside,
    by rw [hv.img]; exact h.wf, by rw [hv.fs]; exact h.geom, h.fuel⟩

theorem root_slotGeo (hB : 0x42 ≤ s.beginOff) : SlotGeo N (fun o => s.beginOff + o) :=
  ⟨fun i _ => by omega, fun i j _ _ hij => by omega⟩

theorem root_seekCurNeg32_run (s : DiskSlice) (o : Nat) (ho : o + 32 ≤ s.size) (dd : Dev) :
    run (DirStream.seek (.root (sliceAt s (o + 32))) (.cur (-32))) dd = (.ok (o, .root (sliceAt s o)), dd) := by
  have h1 : ¬ (((o + 32 : Nat) : Int) + (-32) < 0) := by omega
  have h3 : (((o + 32 : Nat) : Int) + (-32)).toNat = o := by omega
  simp only [DirStream.seek, DiskSlice.seek, sliceAt, h1, if_false, h3]
  show run (Prog.bind (if o > s.size then _ else _) _) dd = _
  rw [if_neg (by omega)]
  rfl

theorem root_seekStart_run (s : DiskSlice) (o t : Nat) (ht : t ≤ s.size) (dd : Dev) :
    run (DirStream.seek (.root (sliceAt s o)) (.start t)) dd = (.ok (t, .root (sliceAt s t)), dd) := by
  simp only [DirStream.seek, DiskSlice.seek, sliceAt]
  show run (Prog.bind (if t > s.size then _ else _) _) dd = _
  rw [if_neg (by omega)]
  rfl

theorem root_wfam (hN : s.size = 32 * N) (hv : s.viaFs = true) (hm : s.mirrors = 1) (hB : 0x42 ≤ s.beginOff) :
    WFam (RootInv fs0 s N) (fun o => .root (sliceAt s o)) (fun o => .root (sliceAt s o)) N
      (fun o => s.beginOff + o) (fun o => s.size - o) := by
  refine ⟨fun d h => (root_dirSrc s N hN d h.noFault h.inside).toByteSrc, fun d h o bs hne hroom hfit => ?_,
    fun d h o _ hfit => ?_⟩
  · obtain ⟨d', h1, hw⟩ := run_slice_write (sliceAt s o) hv hm bs hne d h.noFault (by have := h.inside; omega)
      (by show o + bs.length ≤ s.size; omega) h.inside
    refine ⟨d', ?_, hw, ⟨by rw [hw.step.failAt]; exact h.noFault, by rw [hw.step.size]; exact h.inside,
      hw.step.wf h.wf, h.geom.trans hw.step.geom, h.fuel⟩⟩
    simp only [DirStream.write]
    rw [run_bind_ok h1]
    rfl
  · exact ⟨d, root_seekCurNeg32_run s o (by rw [hN]; exact hfit) d, SameVol.refl d⟩

theorem root_wops (hN : s.size = 32 * N) :
    WOps (RootInv fs0 s N) (fun o => .root (sliceAt s o)) (fun o => .root (sliceAt s o)) N
      (fun o => s.beginOff + o) (fun o => s.size - o) (fun _ => False) (fun im im' => im' = im) := by
  have hD : ∀ d, RootInv fs0 s N d → DirSrc d (fun o => .root (sliceAt s o)) N (fun o => s.beginOff + o)
      (fun o => s.size - o) := fun d h => root_dirSrc s N hN d h.noFault h.inside
  refine ⟨hD, fun d h => by rw [dirFuel_geom h.geom]; exact h.fuel,
    fun d h d0 _ o t _ ht => ⟨d0, root_seekStart_run s o t (by rw [hN]; exact ht) d0, SameVol.refl d0⟩,
    fun d h o ho => (hD d h).seekCur d (SameVol.refl d) o ho, fun d h o ho => (hD d h).seekCur d (SameVol.refl d) o ho,
    fun d h fs' hg o ho32 hpos ho => ?_, fun d h o ho => ⟨d, rfl, VolStep.of_sameVol (SameVol.refl d), h, id, fun _ _ _ => rfl, rfl⟩,
    fun _ _ _ _ h => h⟩
  have := (hD d h).absPos d (SameVol.refl d) o ho32 hpos ho
  rw [absPos_geom hg] at this
  exact this

end root

/-- the fixed root directory as a `WView` -/
def WView.ofRoot (s : DiskSlice) (N : Nat) (hN : s.size = 32 * N) (hv : s.viaFs = true) (hm : s.mirrors = 1)
    (hB : 0x42 ≤ s.beginOff) (d : Dev) (hfa : d.failAt = none) (hdev : s.beginOff + s.size ≤ d.img.size)
    (hwf : d.img.WF) (hfuel : N < dirFuel d.fs) : WView d (.root (sliceAt s 0)) where
  Inv := RootInv d.fs s N
  F := fun o => .root (sliceAt s o)
  G := fun o => .root (sliceAt s o)
  N := N
  src := fun o => s.beginOff + o
  room := fun o => s.size - o
  Extra := fun _ => False
  DropPost := fun im im' => im' = im
  start := rfl
  io := rootInv_ok
  geo := root_slotGeo hB
  w := root_wfam hN hv hm hB
  wg := root_wfam hN hv hm hB
  ops := root_wops hN
  here := ⟨hfa, hdev, hwf, FsGeomEq.refl _, hfuel⟩

end FatVerif.DirSim
