import FatVerif.Proofs.DirWriteBytes
/-! Directory WRITES, the slot level: the iterated forms of `DirSlots.deleteRange` / `DirSlots.writeAt` (one slot after
    the other, as the loops do it), the generated long-name slots, the slots of a directory in an image after one slot
    was overwritten, `find_free_entries` = `DirSlots.findFree`, and the record `create_sfn_entry` builds. -/
namespace FatVerif.DirSim
open FatVerif.FileSim FatVerif.Fat DirEntryData DirAlias

/-! ### `deserialize → set_deleted → serialize` is `markDeleted` -/

theorem serialize_setDeleted (raw : List Nat) (hlen : raw.length = 32) (hb : ∀ b ∈ raw, b < 256) :
    (deserialize raw).setDeleted.serialize = DirSlots.markDeleted raw := by
  have hsd := serialize_deserialize raw hlen hb
  have hset : (deserialize raw).setDeleted.serialize = ((deserialize raw).serialize).set 0 0xE5 := by
    cases hd : deserialize raw with
    | file f =>
      simp only [DirEntryData.setDeleted, DirEntryData.serialize, DirFileEntryData.serialize,
        DirFileEntryData.setDeleted]
      have hn : f.name.length = 11 := by
        unfold deserialize at hd
        split at hd
        · cases hd
        · cases hd
          simp only [deserializeFile, List.length_take, hlen]; rfl
      cases hname : f.name with
      | nil => rw [hname] at hn; cases hn
      | cons a t => rfl
    | lfn l => rfl
  rw [hset, hsd]
  unfold DirSlots.markDeleted Lfn.byte
  obtain ⟨a0, a1, a2, a3, a4, a5, a6, a7, a8, a9, a10, a11, a12, a13, a14, a15, a16, a17, a18, a19, a20, a21, a22,
    a23, a24, a25, a26, a27, a28, a29, a30, a31, rfl⟩ := list_length_32 hlen
  rfl

theorem markDeleted_length (raw : List Nat) : (DirSlots.markDeleted raw).length = raw.length := by
  simp [DirSlots.markDeleted]

theorem markDeleted_lt (raw : List Nat) (hb : ∀ b ∈ raw, b < 256) : ∀ b ∈ DirSlots.markDeleted raw, b < 256 := by
  intro b hm
  unfold DirSlots.markDeleted at hm
  rcases List.mem_or_eq_of_mem_set hm with h | h
  · rcases List.mem_or_eq_of_mem_set h with h | h
    · exact hb b h
    · omega
  · rw [h]; omega

/-! ### the iterated form of `deleteRange` -/

/-- mark `k` slots from index `i` on, one after the other -/
def delK (L : List (List Nat)) : Nat → Nat → List (List Nat)
  | _, 0 => L
  | i, k + 1 => delK (L.set i (DirSlots.markDeleted (L.getD i []))) (i + 1) k

theorem delK_getElem? : ∀ (k : Nat) (L : List (List Nat)) (b i : Nat), b + k ≤ L.length →
    (delK L b k)[i]? = (L[i]?).map fun s => if b ≤ i ∧ i < b + k then DirSlots.markDeleted s else s := by
  intro k
  induction k with
  | zero =>
    intro L b i _
    simp only [delK, Nat.add_zero]
    cases L[i]? with
    | none => rfl
    | some s => simp only [Option.map]; rw [if_neg (by omega)]
  | succ k ih =>
    intro L b i hle
    simp only [delK]
    rw [ih _ (b + 1) i (by rw [List.length_set]; omega), List.getElem?_set]
    by_cases hbi : b = i
    · subst hbi
      have hlt : b < L.length := by omega
      simp only [if_true, hlt, List.getElem?_eq_getElem hlt, Option.map, List.getD_eq_getElem?_getD, Option.getD]
      rw [if_neg (by omega), if_pos (by omega)]
    · simp only [hbi, if_false]
      cases L[i]? with
      | none => rfl
      | some s =>
        simp only [Option.map]
        by_cases h1 : b + 1 ≤ i ∧ i < b + 1 + k
        · rw [if_pos h1, if_pos (by omega)]
        · rw [if_neg h1, if_neg (by omega)]

theorem delK_eq_deleteRange (L : List (List Nat)) (b k : Nat) (h : b + k ≤ L.length) :
    delK L b k = DirSlots.deleteRange L b (b + k) := by
  apply List.ext_getElem?
  intro i
  rw [delK_getElem? k L b i h, DirSlots.deleteRange_getElem?]

/-! ### iterated form of `writeAt` -/

/-- overwrite the slots from index `p` on, one after the other -/
def putK (L : List (List Nat)) : Nat → List (List Nat) → List (List Nat)
  | _, [] => L
  | p, x :: xs => putK (L.set p x) (p + 1) xs

theorem putK_length : ∀ (new : List (List Nat)) (L : List (List Nat)) (p : Nat), (putK L p new).length = L.length := by
  intro new
  induction new with
  | nil => intro L p; rfl
  | cons x xs ih => intro L p; simp only [putK, ih, List.length_set]

theorem putK_getElem? : ∀ (new : List (List Nat)) (L : List (List Nat)) (p i : Nat), p + new.length ≤ L.length →
    (putK L p new)[i]? = if p ≤ i ∧ i < p + new.length then new[i - p]? else L[i]? := by
  intro new
  induction new with
  | nil => intro L p i _; simp only [putK, List.length_nil, Nat.add_zero]; rw [if_neg (by omega)]
  | cons x xs ih =>
    intro L p i h
    simp only [List.length_cons] at h
    simp only [putK, List.length_cons]
    rw [ih (L.set p x) (p + 1) i (by rw [List.length_set]; omega)]
    by_cases h1 : p + 1 ≤ i ∧ i < p + 1 + xs.length
    · rw [if_pos h1, if_pos (by omega)]
      obtain ⟨j, hj⟩ : ∃ j, i - p = j + 1 := ⟨i - p - 1, by omega⟩
      rw [hj, List.getElem?_cons_succ]
      congr 1; omega
    · rw [if_neg h1, List.getElem?_set]
      by_cases h2 : p = i
      · subst h2
        rw [if_pos rfl, if_pos (by omega), if_pos (by omega), Nat.sub_self]
        rfl
      · rw [if_neg h2, if_neg (by omega)]

theorem putK_eq_writeAt (L : List (List Nat)) (p : Nat) (new : List (List Nat)) (h : p + new.length ≤ L.length) :
    putK L p new = DirSlots.writeAt L p new := by
  apply List.ext_getElem?
  intro i
  rw [putK_getElem? new L p i h]
  unfold DirSlots.writeAt
  by_cases h1 : p ≤ i ∧ i < p + new.length
  · rw [if_pos h1, List.append_assoc, List.getElem?_append_right (by simp; omega),
      List.getElem?_append_left (by simp; omega)]
    congr 1
    simp; omega
  · rw [if_neg h1]
    by_cases h2 : i < p
    · rw [List.append_assoc, List.getElem?_append_left (by simp; omega), List.getElem?_take_of_lt h2]
    · rw [List.getElem?_append_right (by simp; omega), List.getElem?_drop]
      congr 1
      simp; omega

/-- writing `new` at slot `p` of `slots ++ zeros`, reaching beyond `slots`: `DirSlots.writeAt` (the list grows) followed
    by the zero slots that remain -/
theorem putK_grow (slots : List (List Nat)) (K p : Nat) (new : List (List Nat)) (hp : p ≤ slots.length)
    (h1 : slots.length ≤ p + new.length) (h2 : p + new.length ≤ slots.length + K) :
    putK (slots ++ List.replicate K DirSlots.zeroSlot) p new =
      DirSlots.writeAt slots p new ++ List.replicate (slots.length + K - (p + new.length)) DirSlots.zeroSlot := by
  rw [putK_eq_writeAt _ _ _ (by rw [List.length_append, List.length_replicate]; exact h2)]
  unfold DirSlots.writeAt
  rw [List.take_append_of_le_length hp, List.drop_append, List.drop_eq_nil_of_le h1, List.append_nil,
    List.nil_append, List.drop_replicate]
  congr 2
  omega

/-! ### the generated long-name slots survive `deserialize → serialize` -/

theorem orderByte_lt (k num : Nat) : Lfn.orderByte k num < 256 := by
  unfold Lfn.orderByte Lfn.orLast
  split
  · split <;> omega
  · omega

theorem lfnSlotBytes_lt (o c : Nat) (u : List Nat) (ho : o < 256) (hc : c < 256) : ∀ b ∈ lfnSlotBytes o c u, b < 256 := by
  intro b hb
  simp only [lfnSlotBytes, Lfn.lo, Lfn.hi, List.mem_cons, List.not_mem_nil, or_false] at hb
  omega

theorem lfnSlotBytes_roundtrip (o c : Nat) (u : List Nat) (ho : o < 256) (hc : c < 256) :
    (deserialize (lfnSlotBytes o c u)).serialize = lfnSlotBytes o c u := by
  rw [serialize_deserialize _ (Lfn.lfnSlotBytes_length o c u) (lfnSlotBytes_lt o c u ho hc)]
  rfl

theorem genFrom_mem (name : List Nat) (chk num : Nat) : ∀ (k : Nat) (sl : List Nat), sl ∈ Lfn.genFrom name chk num k →
    ∃ j, sl = lfnSlotBytes (Lfn.orderByte (j + 1) num) chk (Lfn.part name j) := by
  intro k
  induction k with
  | zero => intro sl h; simp [Lfn.genFrom] at h
  | succ k ih =>
    intro sl h
    simp only [Lfn.genFrom, List.mem_cons] at h
    rcases h with rfl | h
    · exact ⟨k, rfl⟩
    · exact ih sl h

theorem lfnGenerate_length (units : List Nat) (chk : Nat) : (lfnGenerate units chk).length = Lfn.numParts units.length :=
  Lfn.genFrom_length _ _ _ _

theorem lfnGenerate_slot (units : List Nat) (chk : Nat) (hc : chk < 256) (sl : List Nat) (h : sl ∈ lfnGenerate units chk) :
    sl.length = 32 ∧ (∀ b ∈ sl, b < 256) ∧ (deserialize sl).serialize = sl := by
  obtain ⟨j, rfl⟩ := genFrom_mem _ _ _ _ sl h
  exact ⟨rfl, lfnSlotBytes_lt _ _ _ (orderByte_lt _ _) hc, lfnSlotBytes_roundtrip _ _ _ (orderByte_lt _ _) hc⟩

theorem sfnName_serialize (raw : DirFileEntryData) (h : raw.name.length = 11) : Lfn.sfnName raw.serialize = raw.name := by
  unfold Lfn.sfnName DirFileEntryData.serialize Lfn.byte
  apply List.ext_getElem
  · simp [h]
  · intro i h1 h2
    simp only [List.getElem_map, List.getElem_range]
    rw [List.getD_eq_getElem?_getD, List.getElem?_append_left (by omega), List.getElem?_eq_getElem h2]
    rfl

/-- the records `write_entry` writes — the long-name slots `sl` decoded again, then the short record — serialise to
    32 bytes each, and to `sl` followed by the short record together -/
theorem slotRecords (sl : List (List Nat))
    (hsl : ∀ s ∈ sl, s.length = 32 ∧ (∀ b ∈ s, b < 256) ∧ (deserialize s).serialize = s) (raw : DirFileEntryData)
    (hraw : raw.WF) :
    (∀ e ∈ sl.map deserialize ++ [DirEntryData.file raw], e.serialize.length = 32 ∧ ∀ b ∈ e.serialize, b < 256) ∧
    (sl.map deserialize ++ [DirEntryData.file raw]).map DirEntryData.serialize = sl ++ [raw.serialize] := by
  constructor
  · intro e he
    rcases List.mem_append.mp he with he | he
    · obtain ⟨s, hs, rfl⟩ := List.mem_map.mp he
      obtain ⟨h32, hlt, hrt⟩ := hsl s hs
      rw [hrt]; exact ⟨h32, hlt⟩
    · simp only [List.mem_singleton] at he
      subst he
      exact ⟨DirFileEntryData.serialize_length raw hraw.name_len, DirFileEntryData.serialize_lt raw hraw⟩
  · rw [List.map_append, List.map_map,
      (List.map_congr_left (f := DirEntryData.serialize ∘ deserialize) (g := id) fun s hs => (hsl s hs).2.2).trans
        (List.map_id _)]
    rfl

/-- a listed entry's short slot is not a long-name slot -/
theorem readLoop_sfn_notLfn (alloc sv : Bool) : ∀ (L : List (List Nat)) (i bi : Nat) (b : LongNameBuilder) (e : LfnEntry),
    e ∈ Lfn.readLoop alloc sv L i bi b → Lfn.isLfn e.sfn = false := by
  intro L
  induction L with
  | nil => intro i bi b e h; simp [Lfn.readLoop] at h
  | cons sl rest ih =>
    intro i bi b e h
    rw [Lfn.readLoop_cons] at h
    cases ha : Lfn.act sv sl <;> rw [ha] at h
    · cases h
    · exact ih _ _ _ _ h
    · exact ih _ _ _ _ h
    · rcases List.mem_cons.mp h with rfl | h
      · exact Lfn.act_emit ha
      · exact ih _ _ _ _ h

theorem u16At_lt {bs : List Nat} (hb : ∀ b ∈ bs, b < 256) (i : Nat) : DirEntryData.u16At bs i < 65536 := by
  have := getD_lt_allB hb i
  have := getD_lt_allB hb (i + 1)
  unfold DirEntryData.u16At le16; omega

/-- the record the reader builds from a slot read from an image is well formed: every field is a little-endian number
    of bytes of the slot -/
theorem deserializeFile_wf (bs : List Nat) (hlen : bs.length = 32) (hb : ∀ b ∈ bs, b < 256) :
    (deserializeFile bs (attrsTruncate (u8At bs 11))).WF where
  name_len := by simp [deserializeFile, hlen]
  name_lt b hm := hb b (List.mem_of_mem_take hm)
  attrs_lt := attrsTruncate_lt _
  reserved0_lt := getD_lt_allB hb _
  createTime0_lt := getD_lt_allB hb _
  createTime1_lt := u16At_lt hb _
  createDate_lt := u16At_lt hb _
  accessDate_lt := u16At_lt hb _
  firstClusterHi_lt := u16At_lt hb _
  modifyTime_lt := u16At_lt hb _
  modifyDate_lt := u16At_lt hb _
  firstClusterLo_lt := u16At_lt hb _
  size_lt := by
    have := getD_lt_allB hb 28
    have := getD_lt_allB hb (28 + 1)
    have := getD_lt_allB hb (28 + 2)
    have := getD_lt_allB hb (28 + 3)
    show DirEntryData.u32At bs 28 < _
    unfold DirEntryData.u32At le32; omega

/-! ### `find_free_entries` -/

section generic
variable {d : Dev} {S : Nat → DirStream} {N : Nat} {src room : Nat → Nat}

/-- **the loop of `find_free_entries`, generic**, from slot `i` on -/
theorem DirSrc.findFreeLoop_sim (D : DirSrc d S N src room)
    (hseek : ∀ d1, SameVol d d1 → ∀ o t, o ≤ 32 * N → t ≤ 32 * N → Reads ((S o).seek (.start t)) d1 (t, S t))
    (num : Nat) :
    ∀ (fuel i ff nf : Nat) (d1 : Dev), SameVol d d1 → i ≤ N → N - i < fuel → ff ≤ i →
      Reads (findFreeLoop num fuel (S (32 * i)) ff nf i) d1
        (S (32 * DirSlots.findFreeLoop num ((srcSlots d.img src N).drop i) ff nf i)) := by
  intro fuel
  induction fuel with
  | zero => intros; omega
  | succ k ih =>
    intro i ff nf d1 hv hi hf hff
    -- the scan ends: the clone is positioned at slot `t`
    have hseekTo : ∀ d2, SameVol d d2 → ∀ o t, o ≤ N → t ≤ i → Reads (Prog.bind ((S (32 * o)).seek (.start (t * 32)))
        (fun x => Prog.pure x.2)) d2 (S (32 * t)) := by
      intro d2 hv2 o t ho ht
      refine Reads.bind (hseek d2 hv2 _ _ (by omega) (by omega)) (fun d3 _ => ?_)
      rw [Nat.mul_comm]
      exact Reads.pure _ d3
    unfold findFreeLoop
    rcases Nat.lt_or_ge i N with hlt | hge
    · rw [srcSlots_drop _ _ hlt]
      refine Reads.bind (D.toByteSrc.readSlot d1 hv (32 * i) (by omega) (by omega)) (fun d2 hs2 => ?_)
      rw [show 32 * i + 32 = 32 * (i + 1) by omega]
      dsimp only
      have hv2 := hv.trans hs2
      have hrec := fun ff' nf' (hff' : ff' ≤ i + 1) => ih (i + 1) ff' nf' d2 hv2 hlt (by omega) hff'
      rw [deser_isEnd, deser_isDeleted]
      simp only [DirSlots.findFreeLoop]
      by_cases hE : Lfn.isEnd (d.img.read (src (32 * i)) 32) = true
      · simp only [hE, if_true]
        exact hseekTo d2 hv2 _ _ hlt (by split <;> omega)
      · simp only [hE, Bool.false_eq_true, if_false]
        by_cases hD : Lfn.isDeleted (d.img.read (src (32 * i)) 32) = true
        · simp only [hD, if_true]
          by_cases hn : nf + 1 = num
          · simp only [hn, if_true]
            exact hseekTo d2 hv2 _ _ hlt (by split <;> omega)
          · simp only [hn, if_false]
            exact hrec _ _ (by split <;> omega)
        · simp only [hD, Bool.false_eq_true, if_false]
          exact hrec ff 0 (by omega)
    · -- at the end of the directory the read returns the zero slot, an end marker
      obtain rfl : i = N := Nat.le_antisymm hi hge
      rw [List.drop_of_length_le (by rw [srcSlots_length]; exact hi)]
      refine Reads.bind (D.toByteSrc.readSlot_end d1 hv) (fun d2 hs2 => ?_)
      dsimp only
      rw [deser_isEnd, zero_isEnd, if_pos rfl]
      simp only [DirSlots.findFreeLoop]
      exact hseekTo d2 (hv.trans hs2) _ _ hi (by split <;> omega)

/-- **`find_free_entries(num)`, generic**: the clone comes back positioned at slot `DirSlots.findFree slots num` -/
theorem DirSrc.findFreeEntries_sim (D : DirSrc d S N src room)
    (hseek : ∀ d1, SameVol d d1 → ∀ o t, o ≤ 32 * N → t ≤ 32 * N → Reads ((S o).seek (.start t)) d1 (t, S t))
    (hfuel : N < dirFuel d.fs) (num : Nat) (d1 : Dev) (hv : SameVol d d1) :
    Reads (findFreeEntries (S 0) num) d1 (S (32 * DirSlots.findFree (srcSlots d.img src N) num)) := by
  unfold findFreeEntries DirSlots.findFree
  refine Reads.bind (Reads.getFs d1) (fun d2 hs2 => ?_)
  rw [hv.fs]
  have := D.findFreeLoop_sim hseek num (dirFuel d.fs) 0 0 0 d2 (hv.trans hs2) (Nat.zero_le _) hfuel (Nat.le_refl _)
  exact Reads.finallyDrop this (fun d3 _ => Reads.pure _ d3)

end generic

/-! ### the slots of a directory in an image -/

/-- slot geometry on the device: every slot lies behind the status byte, slots do not overlap -/
structure SlotGeo (N : Nat) (src : Nat → Nat) : Prop where
  behind : ∀ i, i < N → 0x42 ≤ src (32 * i)
  disjoint : ∀ i j, i < N → j < N → i ≠ j → src (32 * i) + 32 ≤ src (32 * j) ∨ src (32 * j) + 32 ≤ src (32 * i)

theorem srcSlots_congr {N : Nat} {src : Nat → Nat} {img img' : Img}
    (h : ∀ i, i < N → ∀ x, x < 32 → img'.getByte (src (32 * i) + x) = img.getByte (src (32 * i) + x)) :
    srcSlots img' src N = srcSlots img src N := by
  unfold srcSlots
  apply List.map_congr_left
  intro i hi
  unfold Img.read
  apply List.map_congr_left
  intro x hx
  exact h i (List.mem_range.mp hi) x (List.mem_range.mp hx)

theorem srcSlots_getD (img : Img) (src : Nat → Nat) (N i : Nat) (hi : i < N) :
    (srcSlots img src N).getD i [] = img.read (src (32 * i)) 32 := by
  have := srcSlots_drop_getD img src N 0 i (by rw [List.drop_zero, srcSlots_length]; exact hi)
  rwa [List.drop_zero, Nat.zero_add] at this

/-- the slots of a zero-filled region -/
theorem srcSlots_zero (img : Img) (src : Nat → Nat) (N : Nat)
    (h : ∀ i, i < N → ∀ x, x < 32 → img.getByte (src (32 * i) + x) = 0) :
    srcSlots img src N = List.replicate N (List.replicate 32 0) := by
  have hread : ∀ j, j ∈ List.range N → img.read (src (32 * j)) 32 = List.replicate 32 0 := by
    intro j hj
    unfold Img.read
    rw [List.map_congr_left (g := fun _ => 0) (fun x hx => h j (List.mem_range.mp hj) x (List.mem_range.mp hx))]
    rfl
  unfold srcSlots
  rw [List.map_congr_left (g := fun _ => List.replicate 32 0) hread, List.map_const', List.length_range]

/-- the slots after the 32 bytes `bs` were put onto slot `i` (`hb`: the slot bytes afterwards) -/
theorem srcSlots_set {N : Nat} {src : Nat → Nat} (hg : SlotGeo N src) {im im' : Img} {i : Nat} {bs : List Nat}
    (hb : ∀ j, j < N → ∀ x, x < 32 →
      im'.getByte (src (32 * j) + x) = putBytes im.getByte (src (32 * i)) bs (src (32 * j) + x))
    (hi : i < N) (hlen : bs.length = 32) (hlt : ∀ b ∈ bs, b < 256) : srcSlots im' src N = (srcSlots im src N).set i bs := by
  apply List.ext_getElem?
  intro j
  simp only [srcSlots, List.getElem?_set, List.getElem?_map, List.length_map, List.length_range]
  by_cases hj : j < N
  · rw [List.getElem?_range hj]
    simp only [Option.map]
    by_cases hij : i = j
    · subst hij
      simp only [if_true, hi]
      congr 1
      apply List.ext_getElem
      · simp [hlen]
      · intro x h1 h2
        simp only [Img.read, List.getElem_map, List.getElem_range]
        rw [hb i hi x (by omega)]
        unfold putBytes
        rw [if_pos (by omega), Nat.add_sub_cancel_left, List.getD_eq_getElem?_getD, List.getElem?_eq_getElem h2]
        simp only [Option.getD]
        exact Nat.mod_eq_of_lt (hlt _ (List.getElem_mem h2))
    · simp only [hij, if_false]
      congr 1
      apply List.ext_getElem
      · simp
      · intro x h1 h2
        simp only [Img.read, List.getElem_map, List.getElem_range]
        have hx : x < 32 := by simpa using h1
        have hdj := hg.disjoint i j hi hj hij
        rw [hb j hj x hx, putBytes_outside _ _ _ _ (by omega)]
  · rw [List.getElem?_eq_none (by simp; omega)]
    split
    · omega
    · simp

theorem writeAt_last_getD (slots A : List (List Nat)) (s : List Nat) (p : Nat) (hp : p ≤ slots.length) :
    (DirSlots.writeAt slots p (A ++ [s])).getD (p + A.length) [] = s := by
  unfold DirSlots.writeAt
  simp only [List.getD_eq_getElem?_getD]
  rw [List.append_assoc, List.getElem?_append_right (by simp; omega)]
  have : p + A.length - (List.take p slots).length = A.length := by simp; omega
  rw [this, List.append_assoc, List.getElem?_append_right (Nat.le_refl _), Nat.sub_self]
  rfl

/-- the two dot entries in a fresh directory of `K + 2` zero slots: `.` goes to slot 0, `..` to slot 1 -/
theorem writeEntryDot_fresh (s1 s2 : List Nat) (K : Nat) (h1 : Lfn.isEnd s1 = false) (h1d : Lfn.isDeleted s1 = false) :
    DirSlots.findFree (List.replicate (K + 2) (List.replicate 32 0)) 1 = 0 ∧
    DirSlots.writeEntryDot (List.replicate (K + 2) (List.replicate 32 0)) s1 =
      s1 :: List.replicate (K + 1) (List.replicate 32 0) ∧
    DirSlots.findFree (s1 :: List.replicate (K + 1) (List.replicate 32 0)) 1 = 1 ∧
    DirSlots.writeEntryDot (s1 :: List.replicate (K + 1) (List.replicate 32 0)) s2 =
      s1 :: s2 :: List.replicate K (List.replicate 32 0) := by
  have hz : Lfn.isEnd (List.replicate 32 0) = true := by decide
  have f1 : DirSlots.findFree (List.replicate (K + 2) (List.replicate 32 0)) 1 = 0 := by
    unfold DirSlots.findFree
    rw [List.replicate_succ]
    unfold DirSlots.findFreeLoop
    rw [hz]; rfl
  have f2 : DirSlots.findFree (s1 :: List.replicate (K + 1) (List.replicate 32 0)) 1 = 1 := by
    unfold DirSlots.findFree
    unfold DirSlots.findFreeLoop
    rw [h1, h1d]
    simp only [Bool.false_eq_true, if_false]
    rw [List.replicate_succ]
    unfold DirSlots.findFreeLoop
    rw [hz]; rfl
  refine ⟨f1, ?_, f2, ?_⟩
  · unfold DirSlots.writeEntryDot
    rw [f1]
    unfold DirSlots.writeAt
    simp [List.replicate_succ]
  · unfold DirSlots.writeEntryDot
    rw [f2]
    unfold DirSlots.writeAt
    simp [List.replicate_succ]

/-! ### the record `create_sfn_entry` builds -/

/-- the short record `create_sfn_entry(sn, attrs, first)` builds at clock value `t` -/
def sfnAt (fs : FsState) (t : Nat) (sn : List Nat) (attrs : Nat) (first : Option Nat) : DirFileEntryData :=
  ((((DirFileEntryData.new sn attrs).setFirstCluster first fs.fatType).setCreated (clockDateTime t)).setAccessed
    (clockDateTime t).date).setModified (clockDateTime t)

theorem run_createSfnEntry (sn : List Nat) (attrs : Nat) (first : Option Nat) (d : Dev) :
    run (createSfnEntry sn attrs first) d = (.ok (sfnAt d.fs d.clock sn attrs first), d) := rfl

theorem clockDate_day (t : Nat) : (clockDate t).day < 65536 := by
  simp only [clockDate]; omega

theorem clockTime_sec (t : Nat) : (clockTime t).sec < 131072 := by
  simp only [clockTime]; omega

theorem sfnAt_wf (fs : FsState) (t : Nat) (sn : List Nat) (attrs : Nat) (first : Option Nat) (hl : sn.length = 11)
    (hb : ∀ b ∈ sn, b < 256) (ha : attrs < 64) : (sfnAt fs t sn attrs first).WF := by
  unfold sfnAt
  have h0 : (DirFileEntryData.new sn attrs).WF := by
    have := DirFileEntryData.WF.default
    exact { this with name_len := hl, name_lt := hb, attrs_lt := ha }
  exact (((h0.setFirstCluster first fs.fatType).setCreated _ (clockDate_day t) (clockTime_sec t)).setAccessed _
    (clockDate_day t)).setModified _ (clockDate_day t) (clockTime_sec t)

theorem legalSfnBytes_lt : ∀ x ∈ Names.legalSfnBytes, x < 256 := by decide

theorem canon_lt {a : List Nat} (h : Canon a) : ∀ b ∈ a, b < 256 := by
  obtain ⟨b, e, rfl, _, _, lb, le⟩ := h
  intro x hx
  simp only [Names.padTo, List.mem_append, List.mem_replicate] at hx
  rcases hx with (h1 | h1) | (h1 | h1)
  · exact legalSfnBytes_lt x (lb x h1)
  · omega
  · exact legalSfnBytes_lt x (le x h1)
  · omega

theorem sfnAt_geom {a b : FsState} (h : FsGeomEq a b) (t : Nat) (sn : List Nat) (attrs : Nat) (first : Option Nat) :
    sfnAt b t sn attrs first = sfnAt a t sn attrs first := by
  unfold sfnAt; rw [h.fatType]

theorem sfnAt_attrs (fs : FsState) (t : Nat) (sn : List Nat) (attrs : Nat) (first : Option Nat) :
    (sfnAt fs t sn attrs first).attrs = attrs := by
  simp only [sfnAt, DirFileEntryData.setModified, DirFileEntryData.setAccessed, DirFileEntryData.setCreated,
    DirFileEntryData.setFirstCluster, DirFileEntryData.new]

theorem sfnAt_name (fs : FsState) (t : Nat) (sn : List Nat) (attrs : Nat) (first : Option Nat) :
    (sfnAt fs t sn attrs first).name = sn := by
  simp only [sfnAt, DirFileEntryData.setModified, DirFileEntryData.setAccessed, DirFileEntryData.setCreated,
    DirFileEntryData.setFirstCluster, DirFileEntryData.new]

theorem sfnAt_isDir_true (fs : FsState) (t : Nat) (sn : List Nat) (first : Option Nat) :
    (sfnAt fs t sn 16 first).isDir = true := by
  simp only [sfnAt, DirFileEntryData.isDir, DirFileEntryData.setModified, DirFileEntryData.setAccessed,
    DirFileEntryData.setCreated, DirFileEntryData.setFirstCluster, DirFileEntryData.new]
  decide

theorem sfnAt_size?_dir (fs : FsState) (t : Nat) (sn : List Nat) (first : Option Nat) :
    (sfnAt fs t sn 16 first).size? = none := by
  unfold DirFileEntryData.size? DirFileEntryData.isFile
  rw [sfnAt_isDir_true]; rfl

/-- the record `create_sfn_entry` builds already carries the stamp of its own clock -/
theorem sfnAt_setModified (fs : FsState) (t : Nat) (sn : List Nat) (attrs : Nat) (first : Option Nat) :
    (sfnAt fs t sn attrs first).setModified (clockDateTime t) = sfnAt fs t sn attrs first := rfl

theorem sfnAt_isDir_false (fs : FsState) (t : Nat) (sn : List Nat) (first : Option Nat) :
    (sfnAt fs t sn 0 first).isDir = false := by
  unfold DirFileEntryData.isDir
  rw [sfnAt_attrs]
  decide

theorem badMark_bound (ft : FatType) : badMark ft ≤ (if ft = .fat32 then 4294967296 else 65536) := by
  cases ft <;> decide

theorem serialize_getD_lt (e : DirFileEntryData) (h : e.WF) (k : Nat) : e.serialize.getD k 0 < 256 := by
  rw [List.getD_eq_getElem?_getD]
  cases hk : e.serialize[k]? with
  | none => simp
  | some b =>
    simp only [Option.getD_some]
    exact DirFileEntryData.serialize_lt e h b (List.mem_of_getElem? hk)

/-- the 20 bytes behind the attribute byte of the record `create_sfn_entry` builds: reserved byte, the three time
    stamps from the clock, the first cluster, size 0 -/
def sfnStamp (fs : FsState) (t : Nat) (first : Option Nat) : List Nat :=
  (sfnAt fs t [] 0 first).serializeTail.drop 1

/-- the serialised record of `create_sfn_entry` is the raw name followed by the attribute byte and `sfnStamp` -/
theorem sfnAt_serialize (fs : FsState) (t : Nat) (sn : List Nat) (attrs : Nat) (first : Option Nat) :
    (sfnAt fs t sn attrs first).serialize = DirAlias.sfnWith sn (attrs :: sfnStamp fs t first) := by
  unfold DirAlias.sfnWith sfnStamp sfnAt DirFileEntryData.serialize DirFileEntryData.serializeTail
  simp only [DirFileEntryData.setModified, DirFileEntryData.setAccessed, DirFileEntryData.setCreated,
    DirFileEntryData.setFirstCluster, DirFileEntryData.new]
  split <;> rfl

theorem sfnStamp_length (fs : FsState) (t : Nat) (first : Option Nat) : (sfnStamp fs t first).length = 20 := by
  unfold sfnStamp
  rw [List.length_drop, DirFileEntryData.serializeTail_length]

theorem sfnStamp_geom {a b : FsState} (h : FsGeomEq a b) (t : Nat) (first : Option Nat) :
    sfnStamp b t first = sfnStamp a t first := by
  unfold sfnStamp; rw [sfnAt_geom h]

/-! ### the entry `write_entry` returns, in the reader's form -/

/-- the entry returned by `write_entry` is the one the reader will build from the new short slot -/
theorem writeEntry_result (src : Nat → Nat) (raw : DirFileEntryData) (hraw : raw.WF) (hl : attrsIsLfn raw.attrs = false)
    (units : List Nat) (p n : Nat) :
    ({ data := raw, lfn := units, entryPos := src (32 * (p + n) - 32) + 32 - 32, rangeBegin := 32 * p,
       rangeEnd := 32 * (p + n) } : DirEntry) = toDirEntryS src ⟨raw.serialize, units, p, p + n⟩ := by
  have hd : DirEntryData.deserializeFile raw.serialize (attrsTruncate (DirEntryData.u8At raw.serialize 11)) = raw := by
    have := deserialize_serialize_file raw hraw hl
    unfold deserialize at this
    split at this
    · cases this
    · injection this
  simp only [toDirEntryS, Nat.add_sub_cancel]
  rw [hd]

theorem sfnWith_slotOK (a : List Nat) (attrs : Nat) (stamp : List Nat) (ha : a.length = 11) (hattrs : attrs < 256) :
    SlotOK (DirAlias.sfnWith a (attrs :: stamp)) := by
  unfold SlotOK DirAlias.sfnWith
  refine ⟨by simp [ha], ?_⟩
  rw [List.getD_eq_getElem?_getD, List.getElem?_append_right (by omega), ha]
  simpa using hattrs

/-- kind of the returned entry: the `DIRECTORY` bit of the attribute byte -/
theorem toDirEntryS_sfnWith_isDir (src : Nat → Nat) (a : List Nat) (attrs : Nat) (stamp units : List Nat) (b e : Nat)
    (ha : a.length = 11) (hattrs : attrs < 256) :
    (toDirEntryS src ⟨DirAlias.sfnWith a (attrs :: stamp), units, b, e⟩).isDir = (attrs % 64 / 16 % 2 == 1) := by
  rw [toDirEntryS_isDir src _]
  simp only [Lfn.isDir, Lfn.attrs, Lfn.byte, DirAlias.sfnWith]
  rw [List.getD_eq_getElem?_getD, List.getElem?_append_right (by omega), ha]
  simp

/-- the record behind the returned entry is the one `create_sfn_entry` built -/
theorem toDirEntryS_sfnAt_data (src : Nat → Nat) (fs : FsState) (t : Nat) (a : List Nat) (attrs : Nat)
    (first : Option Nat) (units : List Nat) (b e : Nat) (ha : a.length = 11) (hab : ∀ x ∈ a, x < 256) (hattrs : attrs < 64)
    (hlfn : attrsIsLfn attrs = false) :
    (toDirEntryS src ⟨DirAlias.sfnWith a (attrs :: sfnStamp fs t first), units, b, e⟩).data = sfnAt fs t a attrs first := by
  rw [← sfnAt_serialize]
  have := deserialize_serialize_file _ (sfnAt_wf fs t a attrs first ha hab hattrs) (by rw [sfnAt_attrs]; exact hlfn)
  unfold deserialize at this
  simp only [toDirEntryS]
  split at this
  · cases this
  · injection this

/-- first cluster of the returned entry, for a cluster number that fits the width of the field (`hc`) -/
theorem sfnAt_firstCluster (fs : FsState) (t : Nat) (a : List Nat) (attrs : Nat) (first : Option Nat)
    (hc : ∀ n, first = some n → 0 < n ∧ n < (if fs.fatType = .fat32 then 4294967296 else 65536)) :
    (sfnAt fs t a attrs first).firstCluster fs.fatType = first := by
  have e : (sfnAt fs t a attrs first).firstCluster fs.fatType =
      ((DirFileEntryData.new a attrs).setFirstCluster first fs.fatType).firstCluster fs.fatType := by
    rfl
  rw [e]
  by_cases hft : fs.fatType = .fat32
  · rw [hft]
    exact DirFileEntryData.firstCluster_setFirstCluster_fat32 _ _ (fun n hn => by have := hc n hn; rw [if_pos hft] at this; exact this)
  · exact DirFileEntryData.firstCluster_setFirstCluster_small _ _ _ hft
      (fun n hn => by have := hc n hn; rw [if_neg hft] at this; exact this)

end FatVerif.DirSim
