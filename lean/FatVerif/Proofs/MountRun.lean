import FatVerif.Proofs.DevRun
import FatVerif.Model.Fs
import FatVerif.Proofs.BpbProbe
import FatVerif.Proofs.BpbOffsets
/-! The mount path on a fault-free device. The effectful readers: `readBootSector` returns the first 512 bytes,
`readFsInfoSector` computes `FsInfo.deserialize` of the 512 bytes at the device position. The mount PROGRAM
(`FatVerif.mount`, interpreted by `run` on a device positioned at 0 with at least 512 bytes) is walked once, without
further hypotheses (`run_mount_eq`: `probe`, the FS-info step `mountInfo`, the state with `FsInfo.kept`). Read forwards
with the FS-info sector inside the device it is `mount_run`: the program computes the pure `mountGeometry` of the first
512 bytes and of the 512 bytes at the FS-info location, installs the corresponding mounted state, and changes neither
the image nor the write log. Read backwards from any outcome it is `mount_run_any`. -/
namespace FatVerif

theorem run_liftE {α} (x : Except Err α) (d : Dev) : run (liftE x) d = (x, d) := by
  cases x <;> rfl

/-- number of `read_exact` calls `BootSector::deserialize` makes (FAT32 layout: 29, FAT12/16 layout: 22) -/
def bootSectorReads (bs : List Nat) : Nat := if bs.getD 22 0 = 0 ∧ bs.getD 23 0 = 0 then 29 else 22

/-- `BootSector::deserialize(&mut disk)` on a device with 512 bytes available at the position: the chunked reads
    return exactly those 512 bytes -/
theorem run_readBootSector (d : Dev) (h : d.failAt = none) (hsz : d.pos + 512 ≤ d.img.size) :
    ∃ d', run readBootSector d = (.ok (d.img.read d.pos 512), d') ∧ SameStore d d' ∧ d'.pos = d.pos + 512 ∧
      d'.reads = d.reads + bootSectorReads (d.img.read d.pos 512) ∧ d'.seeks = d.seeks := by
  have hsum : bootHeadChunks.sum = 36 := by decide
  unfold readBootSector
  rw [run_bind_ok (run_readChunks_ok bootHeadChunks d [] h (by rw [hsum]; omega))]
  simp only [List.nil_append, hsum]
  have hs1 := sameStore_readChunks bootHeadChunks d
  have hp1 := readChunks_pos bootHeadChunks d
  rw [hsum] at hp1
  have hf1 : (d.readChunks bootHeadChunks).failAt = none := by rw [hs1.failAt, h]
  have h22 : (d.img.read d.pos 36).getD 22 0 = (d.img.read d.pos 512).getD 22 0 := by
    rw [Img.read_getD _ _ _ _ (by omega), Img.read_getD _ _ _ _ (by omega)]
  have h23 : (d.img.read d.pos 36).getD 23 0 = (d.img.read d.pos 512).getD 23 0 := by
    rw [Img.read_getD _ _ _ _ (by omega), Img.read_getD _ _ _ _ (by omega)]
  have hr1 : (d.readChunks bootHeadChunks).reads = d.reads + 14 := by
    rw [readChunks_reads]; rfl
  -- the second batch of chunks, whichever layout: 476 bytes
  have rest : ∀ L : List Nat, L.sum = 476 →
      run (readChunks devStrm () L [] >>= fun x => pure (d.img.read d.pos 36 ++ x.1)) (d.readChunks bootHeadChunks) =
        (.ok (d.img.read d.pos 512), (d.readChunks bootHeadChunks).readChunks L) := by
    intro L hL
    rw [run_bind_ok (run_readChunks_ok L _ [] hf1 (by rw [hL, hp1, hs1.img]; omega))]
    simp only [run_pure, List.nil_append, hL, hp1, hs1.img]
    rw [show (512 : Nat) = 36 + 476 from rfl, Img.read_append]
  by_cases h32 : (d.img.read d.pos 512).getD 22 0 = 0 ∧ (d.img.read d.pos 512).getD 23 0 = 0
  · have hc : ((d.img.read d.pos 36).getD 22 0 = 0 ∧ (d.img.read d.pos 36).getD 23 0 = 0) := by
      rw [h22, h23]; exact h32
    simp only [hc, and_self, if_true]
    refine ⟨(d.readChunks bootHeadChunks).readChunks (bootExt32Chunks ++ bootTailChunks ++ [420, 2]),
      rest _ (by decide), hs1.trans (sameStore_readChunks _ _), ?_, ?_, ?_⟩
    · rw [readChunks_pos, hp1]; rfl
    · rw [readChunks_reads, hr1, bootSectorReads, if_pos h32]; rfl
    · rw [readChunks_seeks, readChunks_seeks]
  · have hc : ¬ ((d.img.read d.pos 36).getD 22 0 = 0 ∧ (d.img.read d.pos 36).getD 23 0 = 0) := by
      rw [h22, h23]; exact h32
    simp only [hc, if_false, List.nil_append]
    refine ⟨(d.readChunks bootHeadChunks).readChunks (bootTailChunks ++ [448, 2]),
      rest _ (by decide), hs1.trans (sameStore_readChunks _ _), ?_, ?_, ?_⟩
    · rw [readChunks_pos, hp1]; rfl
    · rw [readChunks_reads, hr1, bootSectorReads, if_neg h32]; rfl
    · rw [readChunks_seeks, readChunks_seeks]

/-! ### the FS-info sector -/

/-- the model's `FsInfo` as the mounted state's `FsInfoSt` -/
def FsInfo.toSt (f : FsInfo) : FsInfoSt := { free := f.freeClusterCount, next := f.nextFreeCluster, dirty := f.dirty }

theorem u32At_read (i : Img) (off len k : Nat) (hk : k + 4 ≤ len) :
    u32At (i.read off len) k =
      le32 (i.getByte (off + k)) (i.getByte (off + k + 1)) (i.getByte (off + k + 2)) (i.getByte (off + k + 3)) := by
  unfold u32At
  rw [Img.read_getD _ _ _ _ (by omega), Img.read_getD _ _ _ _ (by omega), Img.read_getD _ _ _ _ (by omega),
    Img.read_getD _ _ _ _ (by omega)]
  simp only [Nat.add_assoc]

theorem readN_failAt (d : Dev) (n : Nat) : (d.readN n).failAt = d.failAt := (sameStore_readN d n).failAt
theorem readN_img (d : Dev) (n : Nat) : (d.readN n).img = d.img := (sameStore_readN d n).img

/-- `FsInfoSector::deserialize(&mut disk)` with the 512 bytes available at the position: the sequential reads with the
    signature checks in between compute `FsInfo.deserialize` of those bytes -/
theorem run_readFsInfoSector (d : Dev) (h : d.failAt = none) (hsz : d.pos + 512 ≤ d.img.size) :
    ∃ d', run readFsInfoSector d = ((FsInfo.deserialize (d.img.read d.pos 512)).map FsInfo.toSt, d') ∧
      SameStore d d' ∧ d'.seeks = d.seeks := by
  have e0 := u32At_read d.img d.pos 512 0 (by omega)
  have e484 := u32At_read d.img d.pos 512 484 (by omega)
  have e488 := u32At_read d.img d.pos 512 488 (by omega)
  have e492 := u32At_read d.img d.pos 512 492 (by omega)
  have e508 := u32At_read d.img d.pos 512 508 (by omega)
  simp only [Nat.add_zero] at e0
  -- every device along the way is `d` after some reads: `readN_failAt`, `readN_img`, `readN_pos` see through them
  have hfa : ∀ d1 : Dev, d1.failAt = d.failAt → d1.failAt = none := fun _ e => e.trans h
  unfold readFsInfoSector FsInfo.deserialize FsInfo.LEAD_SIG FsInfo.STRUC_SIG FsInfo.TRAIL_SIG
  rw [run_bind_ok (run_readU32 d h (by omega))]
  simp only [← e0]
  by_cases hl : u32At (d.img.read d.pos 512) 0 ≠ 0x41615252
  · simp only [if_pos hl]
    exact ⟨_, rfl, sameStore_readChunks [4] d, readChunks_seeks [4] d⟩
  simp only [if_neg hl]
  rw [run_bind_ok (run_readExact_ok (d.readN 4) 480 (hfa _ (by simp only [readN_failAt]))
    (by simp only [readN_pos, readN_img]; omega))]
  rw [run_bind_ok (run_readU32 _ (hfa _ (by simp only [readN_failAt])) (by simp only [readN_pos, readN_img]; omega))]
  simp only [readN_pos, readN_img]
  rw [show d.pos + 4 + 480 = d.pos + 484 from rfl, ← e484]
  by_cases hs : u32At (d.img.read d.pos 512) 484 ≠ 0x61417272
  · simp only [if_pos hs]
    exact ⟨_, rfl, sameStore_readChunks [4, 480, 4] d, readChunks_seeks [4, 480, 4] d⟩
  simp only [if_neg hs]
  rw [run_bind_ok (run_readU32 _ (hfa _ (by simp only [readN_failAt])) (by simp only [readN_pos, readN_img]; omega))]
  rw [run_bind_ok (run_readU32 _ (hfa _ (by simp only [readN_failAt])) (by simp only [readN_pos, readN_img]; omega))]
  rw [run_bind_ok (run_readExact_ok _ 12 (hfa _ (by simp only [readN_failAt]))
    (by simp only [readN_pos, readN_img]; omega))]
  rw [run_bind_ok (run_readU32 _ (hfa _ (by simp only [readN_failAt])) (by simp only [readN_pos, readN_img]; omega))]
  simp only [readN_pos, readN_img]
  rw [show d.pos + 4 + 480 + 4 = d.pos + 488 from rfl, show d.pos + 488 + 4 = d.pos + 492 from rfl,
    show d.pos + 492 + 4 + 12 = d.pos + 508 from rfl, ← e488, ← e492, ← e508]
  by_cases ht : u32At (d.img.read d.pos 512) 508 ≠ 0xAA550000
  · simp only [if_pos ht]
    exact ⟨_, rfl, sameStore_readChunks [4, 480, 4, 4, 4, 12, 4] d, readChunks_seeks [4, 480, 4, 4, 4, 12, 4] d⟩
  simp only [if_neg ht, run_pure, Except.map, FsInfo.toSt]
  exact ⟨_, rfl, sameStore_readChunks [4, 480, 4, 4, 4, 12, 4] d, readChunks_seeks [4, 480, 4, 4, 4, 12, 4] d⟩

theorem readFsInfoSector_nonFatal : NonFatal readFsInfoSector := by
  unfold readFsInfoSector
  refine NonFatal.bind readU32_dev_nonFatal ?_
  rintro ⟨lead, _⟩
  show NonFatal (if lead ≠ 0x41615252 then _ else _)
  split
  · exact NonFatal.fail _ rfl
  refine NonFatal.bind (readExact_dev_nonFatal 480) (fun _ => ?_)
  refine NonFatal.bind readU32_dev_nonFatal ?_
  rintro ⟨struc, _⟩
  show NonFatal (if struc ≠ 0x61417272 then _ else _)
  split
  · exact NonFatal.fail _ rfl
  refine NonFatal.bind readU32_dev_nonFatal ?_
  rintro ⟨free, _⟩
  refine NonFatal.bind readU32_dev_nonFatal ?_
  rintro ⟨next, _⟩
  refine NonFatal.bind (readExact_dev_nonFatal 12) (fun _ => ?_)
  refine NonFatal.bind readU32_dev_nonFatal ?_
  rintro ⟨trail, _⟩
  show NonFatal (if trail ≠ 0xAA550000 then _ else _)
  split
  · exact NonFatal.fail _ rfl
  · exact NonFatal.pure _

/-- 512 bytes read from an image form a sector -/
theorem isSector_read (i : Img) (off : Nat) : IsSector (i.read off 512) :=
  ⟨Img.read_length i off 512, Img.read_lt i off 512⟩



/-- the mounted state `FileSystem::new` builds from the pure mount result -/
def mountedFs (strict accDate lfnAlloc unicode : Bool) (m : Mounted) : FsState :=
  { fatType := m.geo.fatType, bps := m.geo.bytesPerSector, spc := m.bpb.sectorsPerCluster,
    reserved := m.geo.reservedSectors, fats := m.geo.fats, spf := m.geo.sectorsPerFat,
    rootEntries := m.bpb.rootEntries, rootDirSectors := m.geo.rootDirSectors,
    firstDataSector := m.geo.firstDataSector, totalClusters := m.geo.totalClusters,
    totalSectors := m.geo.totalSectors, rootCluster := m.geo.rootDirFirstCluster,
    fsInfoSector := m.geo.fsInfoSector, mirroring := m.geo.mirroring, activeFat := m.geo.activeFat,
    bpbDirty := m.geo.statusDirty, bpbIoErr := m.geo.statusIoError, statusRaw := m.bpb.reserved1,
    volumeId := m.bpb.volumeId, volumeLabel := m.bpb.volumeLabel,
    fsInfo := m.fsInfo.toSt, curDirty := m.geo.statusDirty, curIoErr := m.geo.statusIoError,
    strict := strict, accDate := accDate, lfnAlloc := lfnAlloc, unicode := unicode }

/-- what a fault-free mount leaves behind, besides its result -/
structure MountFrame (d d' : Dev) : Prop where
  img : d'.img = d.img
  log : d'.log = d.log
  failAt : d'.failAt = none
  fault : d'.fault = d.fault
  dropDepth : d'.dropDepth = d.dropDepth
  writes : d'.writes = d.writes
  flushes : d'.flushes = d.flushes

theorem MountFrame.of_sameStore {d d' : Dev} (h : SameStore d d') (hf : d.failAt = none) : MountFrame d d' :=
  ⟨h.img, h.log, by rw [h.failAt, hf], h.fault, h.dropDepth, h.writes, h.flushes⟩

/-- the first steps of `mount` on a fault-free device at position 0 that holds a boot sector: `seek(Current(0))`
    reports 0, `BootSector::deserialize` returns the first 512 bytes, the store is kept -/
theorem run_mount_head (d : Dev) (hpos : d.pos = 0) (hf : d.failAt = none) (hsz : 512 ≤ d.img.size) :
    ∃ d2, SameStore d d2 ∧ ∀ (k : List Nat → Prog FsState),
      run (Prog.seek (.cur 0) >>= fun pos =>
        if pos ≠ 0 then Prog.fail .panic else readBootSector >>= k) d = run (k (d.img.read 0 512)) d2 := by
  have s1 := sameStore_didSeek d 0
  have f1 : (d.didSeek 0).failAt = none := by rw [s1.failAt, hf]
  obtain ⟨d2, hbs, s2, _⟩ := run_readBootSector (d.didSeek 0) f1 (by rw [didSeek_pos, didSeek_img]; omega)
  rw [didSeek_pos, didSeek_img] at hbs
  refine ⟨d2, s1.trans s2, fun k => ?_⟩
  rw [run_bind_ok (run_seekCur0 d hf), hpos]
  simp only [ne_eq, not_true_eq_false, if_false]
  exact run_bind_ok hbs

/-- the FS-info step of `mount`: on FAT32, seek to the sector the BPB names and parse it -/
def mountInfo (p : Bpb) (g : Geometry) : Prog FsInfoSt :=
  if g.fatType = .fat32 then do
    let off ← liftE (p.bytesFromSectors p.fsInfoSector)
    let _ ← Prog.seekStart off
    readFsInfoSector
  else pure {}

/-- **the mount program in normal form**, on a fault-free device positioned at 0 that holds a boot sector: `probe` of
    the sector, then the FS-info step, then the state `mountedFs` with the FS-info values `FsInfo.kept`. Nothing else
    can fail, and only the last step touches the device's state. -/
theorem run_mount_eq (strict accDate lfnAlloc unicode : Bool) (d : Dev) (hpos : d.pos = 0) (hf : d.failAt = none)
    (hsz : 512 ≤ d.img.size) :
    ∃ d2, SameStore d d2 ∧
      (∀ e, probe (d.img.read 0 512) strict = .error e →
        run (mount strict accDate lfnAlloc unicode) d = (.error e, d2)) ∧
      ∀ g, probe (d.img.read 0 512) strict = .ok g →
        ∀ ri d3, run (mountInfo (BootSector.deserialize (d.img.read 0 512)).bpb g) d2 = (ri, d3) →
          (∀ e, ri = .error e → run (mount strict accDate lfnAlloc unicode) d = (.error e, d3)) ∧
          ∀ info, ri = .ok info → run (mount strict accDate lfnAlloc unicode) d =
            (.ok (mountedFs strict accDate lfnAlloc unicode ⟨(BootSector.deserialize (d.img.read 0 512)).bpb, g,
                FsInfo.kept g ⟨info.free, info.next, info.dirty⟩⟩),
              { d3 with fs := (mountedFs strict accDate lfnAlloc unicode
                  ⟨(BootSector.deserialize (d.img.read 0 512)).bpb, g,
                    FsInfo.kept g ⟨info.free, info.next, info.dirty⟩⟩) }) := by
  have hb := isSector_read d.img 0
  obtain ⟨d2, s02, hhead⟩ := run_mount_head d hpos hf hsz
  refine ⟨d2, s02, ?_⟩
  unfold mount
  rw [hhead]
  dsimp only
  generalize d.img.read 0 512 = bs at *
  -- validation and geometry derivation are `probe`
  have hprobe : ∀ g, probe bs strict = .ok g → _ := fun g => probe_ok (strict := strict) (g := g) hb
  unfold probe probeBoot at hprobe ⊢
  cases hv : (BootSector.deserialize bs).validate strict with
  | error e =>
    rw [run_bind_error (d1 := d2) (by rw [run_liftE])]
    exact ⟨fun _ he => (by cases he; rfl), fun _ hg => nomatch hg⟩
  | ok u =>
  rw [run_bind_ok (d1 := d2) (b := u) (by rw [run_liftE])]
  cases hg : (BootSector.deserialize bs).bpb.geometry with
  | error e =>
    rw [run_bind_error (d1 := d2) (by rw [run_liftE])]
    exact ⟨fun _ he => (by cases he; rfl), fun _ hg => nomatch hg⟩
  | ok g =>
  rw [run_bind_ok (d1 := d2) (b := g) (by rw [run_liftE])]
  refine ⟨fun _ he => (nomatch he), fun g' hg' ri d3 h3 => ?_⟩
  cases hg'
  unfold mountInfo at h3
  obtain ⟨hvalid, hgeo⟩ := hprobe g (by rw [hv, hg]; rfl)
  have hlim : g.totalClusters + 2 < 4294967296 := by
    rw [hgeo]; show (Bpb.deserialize bs).tcNat + 2 < _; have := hvalid.limit; omega
  refine ⟨fun e he => ?_, fun info he => ?_⟩
  · subst he; exact run_bind_error h3
  · subst he
    rw [run_bind_ok h3, run_bind_ok (d1 := d3) (by rw [run_liftE, u32Add_of_lt hlim])]
    unfold FsInfo.kept forgetIfDirty mountedFs FsInfo.toSt
    cases g.statusDirty <;> rfl

/-- the FS-info step on a device that holds the sector: the parse `readFsInfo` of the pure mount -/
theorem run_mountInfo {bs : List Nat} (hb : IsSector bs) (g : Geometry) (d : Dev) (hf : d.failAt = none)
    (hin : g.fatType = .fat32 → fsInfoOffset bs + 512 ≤ d.img.size) :
    ∃ d', run (mountInfo (BootSector.deserialize bs).bpb g) d =
        ((if g.fatType = .fat32 then FsInfo.deserialize (d.img.read (fsInfoOffset bs) 512) else .ok {}).map FsInfo.toSt,
          d') ∧ SameStore d d' := by
  unfold mountInfo
  by_cases h32 : g.fatType = .fat32
  · have hr := Bpb.deserialize_inRange hb
    rw [if_pos h32, if_pos h32, show (BootSector.deserialize bs).bpb = Bpb.deserialize bs from rfl,
      Bpb.bytesFromSectors_total hr (by have := hr.fsInfo; omega), run_bind_ok (d1 := d) (by rw [run_liftE]),
      run_bind_ok (run_seekStart _ d hf)]
    have s1 := sameStore_didSeek d (fsInfoOffset bs)
    obtain ⟨d', h', s', _⟩ := run_readFsInfoSector (d.didSeek (fsInfoOffset bs)) (by rw [s1.failAt, hf])
      (by rw [didSeek_pos, didSeek_img]; exact hin h32)
    rw [didSeek_pos, didSeek_img] at h'
    exact ⟨d', h', s1.trans s'⟩
  · rw [if_neg h32, if_neg h32]
    exact ⟨d, rfl, SameStore.refl d⟩

theorem mountInfo_nonFatal {p : Bpb} (hr : p.InRange) (g : Geometry) : NonFatal (mountInfo p g) := by
  unfold mountInfo
  split
  · rw [Bpb.bytesFromSectors_total hr (by have := hr.fsInfo; omega)]
    exact NonFatal.bind (NonFatal.pure _) fun _ =>
      NonFatal.bind (NonFatal.op (.seek (.start _))) fun _ => readFsInfoSector_nonFatal
  · exact NonFatal.pure _

/-- `run_mount_eq` read forwards, with the FS-info sector inside the device (`hfi`): the result is the pure
    `mountGeometry` of the two sectors, whose state is installed on success and the old one kept on failure -/
theorem mount_run (strict accDate lfnAlloc unicode : Bool) (d : Dev) (hpos : d.pos = 0) (hf : d.failAt = none)
    (hsz : 512 ≤ d.img.size)
    (hfi : ∀ g, probe (d.img.read 0 512) strict = .ok g → g.fatType = .fat32 →
      fsInfoOffset (d.img.read 0 512) + 512 ≤ d.img.size) :
    ∃ d', run (mount strict accDate lfnAlloc unicode) d =
        ((mountGeometry (d.img.read 0 512) (d.img.read (fsInfoOffset (d.img.read 0 512)) 512) strict).map
          (mountedFs strict accDate lfnAlloc unicode), d') ∧
      MountFrame d d' ∧
      (∀ m, mountGeometry (d.img.read 0 512) (d.img.read (fsInfoOffset (d.img.read 0 512)) 512) strict = .ok m →
        d'.fs = mountedFs strict accDate lfnAlloc unicode m) ∧
      (∀ e, mountGeometry (d.img.read 0 512) (d.img.read (fsInfoOffset (d.img.read 0 512)) 512) strict = .error e →
        d'.fs = d.fs) := by
  have hb := isSector_read d.img 0
  obtain ⟨d2, s02, herr, hok⟩ := run_mount_eq strict accDate lfnAlloc unicode d hpos hf hsz
  rw [mountGeometry_eq hb]
  generalize hbs : d.img.read 0 512 = bs at *
  cases hp : probe bs strict with
  | error e =>
    exact ⟨d2, herr e hp, MountFrame.of_sameStore s02 hf, fun _ hm => (by cases hm), fun _ _ => s02.fs⟩
  | ok g =>
    obtain ⟨d3, h3, s3⟩ := run_mountInfo hb g d2 (by rw [s02.failAt, hf]) (by rw [s02.img]; exact hfi g hp)
    obtain ⟨he, hi⟩ := hok g hp _ d3 h3
    have s03 := s02.trans s3
    rw [s02.img] at he hi
    -- with the field 0 the sector read IS sector 0
    have hsame : (if fsInfoOffset bs = 0 then bs else d.img.read (fsInfoOffset bs) 512) =
        d.img.read (fsInfoOffset bs) 512 := by
      split
      · rename_i h0; rw [h0, hbs]
      · rfl
    rw [ebind_ok, hsame]
    cases hr : (if g.fatType = .fat32 then FsInfo.deserialize (d.img.read (fsInfoOffset bs) 512) else .ok {}) with
    | error e =>
      rw [hr] at he
      exact ⟨d3, he e rfl, MountFrame.of_sameStore s03 hf, fun _ hm => (by cases hm), fun _ _ => s03.fs⟩
    | ok f =>
      rw [hr] at hi
      exact ⟨_, hi f.toSt rfl, ⟨s03.img, s03.log, s03.failAt.trans hf, s03.fault, s03.dropDepth, s03.writes,
        s03.flushes⟩, fun _ hm => (by cases hm; rfl), fun _ hm => (by cases hm)⟩

/-- **every run of the mount program** on a fault-free device positioned at 0 that holds at least a boot sector —
    wherever its FS-info sector points, inside the device or not: an error is an ordinary one (never a panic or a
    hang); on success the boot sector was accepted by `probe`, and the returned and installed state is `mountedFs` of
    the boot sector's BPB and geometry -/
theorem mount_run_any (strict accDate lfnAlloc unicode : Bool) (d : Dev) (hpos : d.pos = 0)
    (hf : d.failAt = none) (hsz : 512 ≤ d.img.size) {r : Except Err FsState} {d' : Dev}
    (hrun : run (mount strict accDate lfnAlloc unicode) d = (r, d')) :
    (∀ e, r = .error e → e.isFatal = false) ∧
    ∀ fs, r = .ok fs → ∃ fi, (Bpb.deserialize (d.img.read 0 512)).Valid ∧
      probe (d.img.read 0 512) strict = .ok (Bpb.deserialize (d.img.read 0 512)).geoOf ∧
      fs = mountedFs strict accDate lfnAlloc unicode
        ⟨(BootSector.deserialize (d.img.read 0 512)).bpb, (Bpb.deserialize (d.img.read 0 512)).geoOf, fi⟩ ∧
      d'.fs = fs := by
  have hb := isSector_read d.img 0
  obtain ⟨d2, _, herr, hok⟩ := run_mount_eq strict accDate lfnAlloc unicode d hpos hf hsz
  generalize d.img.read 0 512 = bs at *
  cases hp : probe bs strict with
  | error e =>
    rw [herr e hp] at hrun
    cases hrun
    exact ⟨fun _ he => (by cases he; rw [probe_error hb hp]; rfl), fun _ h => nomatch h⟩
  | ok g =>
    obtain ⟨hvalid, rfl⟩ := probe_ok hb hp
    rcases h3 : run (mountInfo (BootSector.deserialize bs).bpb (Bpb.deserialize bs).geoOf) d2 with ⟨ri, d3⟩
    obtain ⟨he, hi⟩ := hok _ hp ri d3 h3
    cases ri with
    | error e =>
      -- the offset is computed without overflow, the device calls and the signature checks fail with ordinary errors
      rw [he e rfl] at hrun
      cases hrun
      exact ⟨fun _ h => (by cases h; exact (mountInfo_nonFatal (p := (BootSector.deserialize bs).bpb)
          (Bpb.deserialize_inRange hb) _).out _ _ _ h3),
        fun _ h => nomatch h⟩
    | ok info =>
      rw [hi info rfl] at hrun
      cases hrun
      exact ⟨fun _ h => (nomatch h), fun _ h => by cases h; exact ⟨_, hvalid, rfl, rfl, rfl⟩⟩

theorem mount_run_nonfatal (strict accDate lfnAlloc unicode : Bool) (d : Dev) (hpos : d.pos = 0)
    (hf : d.failAt = none) (hsz : 512 ≤ d.img.size) {e : Err} {d' : Dev}
    (hrun : run (mount strict accDate lfnAlloc unicode) d = (.error e, d')) : e.isFatal = false :=
  (mount_run_any strict accDate lfnAlloc unicode d hpos hf hsz hrun).1 e rfl

/-- a successful run: the decoded boot sector is valid, `probe` accepts it, and the state returned and installed is
    `mountedFs` of its BPB and geometry -/
theorem mount_run_ok (strict accDate lfnAlloc unicode : Bool) (d : Dev) (hpos : d.pos = 0)
    (hf : d.failAt = none) (hsz : 512 ≤ d.img.size) {fs : FsState} {d' : Dev}
    (hrun : run (mount strict accDate lfnAlloc unicode) d = (.ok fs, d')) :
    ∃ fi, (Bpb.deserialize (d.img.read 0 512)).Valid ∧
      probe (d.img.read 0 512) strict = .ok (Bpb.deserialize (d.img.read 0 512)).geoOf ∧
      fs = mountedFs strict accDate lfnAlloc unicode
        ⟨(BootSector.deserialize (d.img.read 0 512)).bpb, (Bpb.deserialize (d.img.read 0 512)).geoOf, fi⟩ ∧
      d'.fs = fs :=
  (mount_run_any strict accDate lfnAlloc unicode d hpos hf hsz hrun).2 fs rfl

end FatVerif
