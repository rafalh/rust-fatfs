import FatVerif.Proofs.AFileByteFile
/-!
# The loops `read_exact` / `write_all` of io.rs over ANY single call the oracle accepts

What the oracle's acceptance of ONE call says (`of_checkRead`, `of_checkWrite`, …), and the two loops for an arbitrary
state `X` with an abstraction `ab : X → ByteFile` and an arbitrary result type: if the invariant `I` makes every single
call end in a result that `ByteFile.check` accepts, `readLoop` returns all `need` bytes or reports the end of the file
with the cursor there, and `writeLoop` writes the whole buffer or a proper prefix of it (`readLoop_spec`,
`writeLoop_spec`).  The cursor machine (`AFile.readExactLoop` / `writeAllLoop`, Proofs/AFileLoops.lean), the byte-level
handle on a device as the history driver runs it (`readxH` / `writeallH`, Props/C02sim.lean) and io.rs's `read_exact` on
the handle as a program (`readExact_sim`, Proofs/FileSimFlush.lean) are instances.
-/
namespace FatVerif.Cursor

theorem take_drop_split (c : List Nat) (o k n : Nat) (hk : k ≤ n) :
    (c.drop o).take k ++ (c.drop (o + k)).take (n - k) = (c.drop o).take n := by
  have : n = k + (n - k) := by omega
  conv => rhs; rw [this, List.take_add, List.drop_drop]

namespace ByteFile

/-- an accepted single `read`: the bytes at the cursor, as many as the short-read rule says; the cursor moves past them -/
theorem of_checkRead {cs n : Nat} {l : List Nat} {b b' : ByteFile} (h : checkRead cs n l b = .ok b') :
    l.length = b.shortRead cs n ∧ l = (b.content.drop b.pos).take l.length ∧
    b' = { b with pos := b.pos + l.length } := by
  unfold checkRead at h
  split at h
  · cases h
  · rename_i h1
    split at h
    · cases h
    · rename_i h2
      split at h
      · cases h
      · rename_i h3
        have e1 : l.length = b.shortRead cs n := Decidable.not_not.mp h3
        have e2 : l = (b.read l.length).1 := Decidable.not_not.mp h2
        refine ⟨e1, e2, ?_⟩
        have := (Except.ok.inj h).symm
        rw [this]
        simp only [read]
        congr 1
        have : l.length ≤ b.remaining := by omega
        omega

/-- one iteration of `read_exact` in terms of the specification -/
theorem read_split (b : ByteFile) (need k : Nat) (hk : k ≤ need) (hk' : k ≤ b.remaining) :
    (b.content.drop b.pos).take k ++ (({ b with pos := b.pos + k } : ByteFile).read (need - k)).1 = (b.read need).1 ∧
    (need ≤ b.remaining → (({ b with pos := b.pos + k } : ByteFile).read (need - k)).2 = (b.read need).2) := by
  refine ⟨?_, fun hle => ?_⟩
  · simp only [read]
    exact take_drop_split _ _ _ _ hk
  · simp only [read, remaining] at *
    congr 1
    omega

/-- an accepted single `write` that returned a count -/
theorem of_checkWrite {cs k : Nat} {bs : List Nat} {b b' : ByteFile}
    (h : check cs (.write bs) (.count k) b = .ok b') :
    k = b.shortWrite cs bs.length ∧ b' = (b.write (bs.take k)).2 := by
  simp only [check] at h
  split at h
  · rename_i hk
    exact ⟨hk, (Except.ok.inj h).symm⟩
  · cases h

/-- an accepted single `write` that failed -/
theorem of_checkWriteErr {cs : Nat} {e : Err} {bs : List Nat} {b b' : ByteFile}
    (h : check cs (.write bs) (.err e) b = .ok b') :
    e = .noSpace ∧ b.pos % cs = 0 ∧ b.pos = b.content.length ∧ 0 < b.shortWrite cs bs.length ∧ b' = b := by
  cases e <;> simp only [check] at h <;> try (cases h)
  split at h
  · rename_i hc
    exact ⟨rfl, hc.1, hc.2.1, hc.2.2, (Except.ok.inj h).symm⟩
  · cases h

/-- a single `read` never reports an error -/
theorem of_checkReadErr {cs n : Nat} {e : Err} {b b' : ByteFile} (h : check cs (.read n) (.err e) b = .ok b') : False := by
  simp only [check] at h
  cases h


/-! ### the loops over a single call -/

section
variable {X R : Type}

/-- `read_exact` over a single call `step`; the result is `ok` of the filled buffer, `eof` of the state after a call
    that returned nothing, or `err` of the error of a call (`hang`: out of fuel) -/
def readLoop (step : X → Nat → Except Err (List Nat) × X) (ok : List Nat → R) (eof : X → R) (err : Err → R) :
    Nat → X → Nat → List Nat → R × X
  | 0, x, n, acc => if n = 0 then (ok acc, x) else (err .hang, x)
  | fuel + 1, x, n, acc =>
    if n = 0 then (ok acc, x)
    else match step x n with
      | (.ok bs, x') =>
        if bs.length = 0 then (eof x', x')
        else readLoop step ok eof err fuel x' (n - bs.length) (acc ++ bs)
      | (.error e, x') => (err e, x')

/-- `write_all` over a single call `step`; the result is `ok`, or `err` of the error and the state it was met in
    (`writeZero`: a call that wrote nothing) -/
def writeLoop (step : X → List Nat → Except Err Nat × X) (ok : R) (err : Err → X → R) : Nat → X → List Nat → R × X
  | 0, x, bs => if bs.length = 0 then (ok, x) else (err .hang x, x)
  | fuel + 1, x, bs =>
    if bs.length = 0 then (ok, x)
    else match step x bs with
      | (.ok n, x') =>
        if n = 0 then (err .writeZero x', x')
        else writeLoop step ok err fuel x' (bs.drop n)
      | (.error e, x') => (err e x', x')

variable {I : X → Prop} {ab : X → ByteFile} {cs : Nat}

/-- `read_exact` with `fuel ≥ need`: with enough bytes left, exactly the next `need` bytes of the abstraction and the
    cursor behind them; otherwise `eof`, with the cursor at the end of the file -/
theorem readLoop_spec {step : X → Nat → Except Err (List Nat) × X} {ok : List Nat → R} {eof : X → R} {err : Err → R}
    (hcs : 0 < cs)
    (hstep : ∀ x n, I x → ∃ bs x', step x n = (.ok bs, x') ∧ I x' ∧ checkRead cs n bs (ab x) = .ok (ab x'))
    (hpos : ∀ x, I x → (ab x).pos ≤ (ab x).content.length) :
    ∀ (fuel : Nat) (x : X) (need : Nat) (acc : List Nat), I x → need ≤ fuel →
      I (readLoop step ok eof err fuel x need acc).2 ∧
      (need ≤ (ab x).remaining →
        (readLoop step ok eof err fuel x need acc).1 = ok (acc ++ ((ab x).read need).1) ∧
        ab (readLoop step ok eof err fuel x need acc).2 = ((ab x).read need).2) ∧
      ((ab x).remaining < need →
        (readLoop step ok eof err fuel x need acc).1 = eof (readLoop step ok eof err fuel x need acc).2 ∧
        ab (readLoop step ok eof err fuel x need acc).2 = { ab x with pos := (ab x).content.length })
  | fuel, x, 0, acc, hx, _ => by
    cases fuel <;> exact ⟨hx, fun _ => ⟨by simp [readLoop, read], by simp [readLoop, read]⟩, fun hlt => by omega⟩
  | 0, _, _ + 1, _, _, hf => by omega
  | fuel + 1, x, n + 1, acc, hx, hf => by
    have hpl := hpos x hx
    generalize hneed : n + 1 = need at hf ⊢
    obtain ⟨bs, x', hs, hx', hchk⟩ := hstep x need hx
    obtain ⟨e1, e2, e3⟩ := of_checkRead hchk
    simp only [readLoop, show need ≠ 0 by omega, if_false, hs]
    generalize ab x = b at *
    have hmod := Nat.mod_lt b.pos hcs
    have hk : bs.length ≤ need ∧ bs.length ≤ b.remaining := by
      rw [e1]; unfold shortRead; omega
    by_cases hl : bs.length = 0
    · -- nothing transferred: the cursor is at the end
      simp only [hl, if_true]
      have hrem : b.remaining = 0 := by
        rw [hl] at e1; unfold shortRead at e1; omega
      have hpe : b.pos = b.content.length := by unfold remaining at hrem; omega
      exact ⟨hx', fun hle => by omega, fun _ => ⟨trivial, by rw [e3, hl, hpe, Nat.add_zero]⟩⟩
    · simp only [hl, if_false]
      obtain ⟨i1, i3, i4⟩ := readLoop_spec hcs hstep hpos fuel x' (need - bs.length) (acc ++ bs) hx' (by omega)
      rw [e3] at i3 i4
      obtain ⟨s1, s2⟩ := read_split b need bs.length hk.1 hk.2
      rw [← e2] at s1
      refine ⟨i1, fun hle => ?_, fun hlt => ?_⟩
      · obtain ⟨j1, j2⟩ := i3 (by simp only [remaining] at hle hk ⊢; omega)
        exact ⟨by rw [j1, List.append_assoc, s1], by rw [j2, s2 hle]⟩
      · exact i4 (by simp only [remaining] at hlt hk ⊢; omega)

/-- `write_all` with `fuel ≥ |bs|` over buffers satisfying `B`: either the whole buffer is written at the cursor, or the
    loop stopped after `k < |bs|` bytes — an error of the single call, which the oracle only accepts as `NotEnoughSpace` on
    a cluster boundary at the end of the file (`Q`: what else the failing call establishes), or `WriteZero` at
    `u32::MAX` -/
theorem writeLoop_spec {step : X → List Nat → Except Err Nat × X} {ok : R} {err : Err → X → R} {B : List Nat → Prop}
    {Q : X → Prop} (hcs : 0 < cs) (hB : ∀ bs n, B bs → B (bs.drop n))
    (hstep : ∀ x bs, I x → B bs →
      (∃ n x', step x bs = (.ok n, x') ∧ I x' ∧ check cs (.write bs) (.count n) (ab x) = .ok (ab x')) ∨
      (∃ e x', step x bs = (.error e, x') ∧ I x' ∧ Q x' ∧ check cs (.write bs) (.err e) (ab x) = .ok (ab x')))
    (hpos : ∀ x, I x → (ab x).pos ≤ (ab x).content.length ∧ (ab x).content.length ≤ u32Max) :
    ∀ (fuel : Nat) (x : X) (bs : List Nat), I x → B bs → bs.length ≤ fuel →
      I (writeLoop step ok err fuel x bs).2 ∧
      (((writeLoop step ok err fuel x bs).1 = ok ∧ ab (writeLoop step ok err fuel x bs).2 = ((ab x).write bs).2 ∧
        (ab x).pos + bs.length ≤ u32Max) ∨
       ∃ e k, (writeLoop step ok err fuel x bs).1 = err e (writeLoop step ok err fuel x bs).2 ∧ k < bs.length ∧
        ab (writeLoop step ok err fuel x bs).2 = ((ab x).write (bs.take k)).2 ∧
        ((e = .noSpace ∧ ((ab x).pos + k) % cs = 0 ∧ (ab x).content.length ≤ (ab x).pos + k ∧
            Q (writeLoop step ok err fuel x bs).2) ∨
         (e = .writeZero ∧ (ab x).pos + k = u32Max)))
  | fuel, x, [], hx, _, _ => by
    have := hpos x hx
    cases fuel <;> exact ⟨hx, .inl ⟨rfl, by rw [write_nil]; rfl, by simp only [List.length_nil]; omega⟩⟩
  | 0, _, _ :: _, _, _, hf => absurd hf (Nat.not_succ_le_zero _)
  | fuel + 1, x, b :: t, hx, hb, hf => by
    obtain ⟨hpl, hlu⟩ := hpos x hx
    have hn : (b :: t).length ≠ 0 := Nat.succ_ne_zero _
    generalize b :: t = bs at hn hf hb ⊢
    rw [writeLoop, if_neg hn]
    rcases hstep x bs hx hb with ⟨k, x', hs, hx', hchk⟩ | ⟨e, x', hs, hx', hq, hchk⟩
    · rw [hs]
      simp only
      obtain ⟨c1, c2⟩ := of_checkWrite hchk
      generalize ab x = b0 at *
      have hmod := Nat.mod_lt b0.pos hcs
      have hkl : k ≤ bs.length := by rw [c1]; unfold shortWrite; omega
      have htl : (bs.take k).length = k := by rw [List.length_take]; omega
      have hp' : (b0.write (bs.take k)).2.pos = b0.pos + k := by simp [write, htl]
      have hl' : (b0.write (bs.take k)).2.content.length = max b0.content.length (b0.pos + k) := by
        rw [write_content_length _ _ hpl, htl]
      by_cases hk0 : k = 0
      · -- a write of 0 bytes: the file is full
        rw [if_pos hk0]
        have hpu : b0.pos = u32Max := by
          rw [hk0] at c1; unfold shortWrite at c1; omega
        exact ⟨hx', .inr ⟨.writeZero, 0, rfl, by omega, by rw [c2, hk0], .inr ⟨rfl, by omega⟩⟩⟩
      · rw [if_neg hk0]
        -- the rest of the loop runs on `bs.drop k` from the state after `bs.take k`: `write_write` glues the two writes,
        -- and a stop after `k2` bytes of the rest is a stop after `k + k2` bytes of `bs`
        obtain ⟨i1, i3⟩ := writeLoop_spec hcs hB hstep hpos fuel x' (bs.drop k) hx' (hB bs k hb)
          (by rw [List.length_drop]; omega)
        rw [c2] at i3
        refine ⟨i1, ?_⟩
        rcases i3 with ⟨j1, j2, j3⟩ | ⟨e, k2, j1, j2, j3, j4⟩
        · refine .inl ⟨j1, ?_, ?_⟩
          · rw [j2, write_write _ _ _ hpl, List.take_append_drop]
          · rw [hp', List.length_drop] at j3; omega
        · rw [hp'] at j4
          rw [List.length_drop] at j2
          refine .inr ⟨e, k + k2, j1, by omega, ?_, ?_⟩
          · rw [j3, write_write _ _ _ hpl, List.take_add]
          · rw [hl'] at j4
            rcases j4 with ⟨a1, a2, a3, a4⟩ | ⟨a1, a2⟩
            · exact .inl ⟨a1, by rw [← Nat.add_assoc]; exact a2, by omega, a4⟩
            · exact .inr ⟨a1, by omega⟩
    · rw [hs]
      simp only
      obtain ⟨c1, c2, c3, _, c5⟩ := of_checkWriteErr hchk
      exact ⟨hx', .inr ⟨e, 0, rfl, Nat.pos_of_ne_zero hn, by rw [c5, List.take_zero, write_nil],
        .inl ⟨c1, by simpa using c2, by omega, hq⟩⟩⟩

end

/-! ### the oracle accepts what the loops end in

The two outcomes of `readLoop_spec` and of `writeLoop_spec`, reported the way a history reports them (`.bytes` /
`.errAt .eof` at the cursor; `.unit` / `.errAt e` at the cursor): `ByteFile.check` accepts them. -/

theorem check_readExact {cs n : Nat} {b b' : ByteFile} {res : FileRes}
    (hfull : n ≤ b.remaining → res = .bytes (b.read n).1 ∧ b' = (b.read n).2)
    (heof : b.remaining < n → res = .errAt .eof b'.pos ∧ b' = { b with pos := b.content.length }) :
    check cs (.readExact n) res b = .ok b' := by
  by_cases hle : n ≤ b.remaining
  · obtain ⟨rfl, rfl⟩ := hfull hle
    exact checkReadExact_ok n b hle
  · obtain ⟨rfl, rfl⟩ := heof (Nat.lt_of_not_le hle)
    simp only [check]
    rw [if_pos ⟨Nat.lt_of_not_le hle, trivial⟩]

theorem check_writeAll {cs : Nat} {bs : List Nat} {b b' : ByteFile} {res : FileRes}
    (h : (res = .unit ∧ b' = (b.write bs).2 ∧ b.pos + bs.length ≤ u32Max) ∨
      ∃ e k, res = .errAt e b'.pos ∧ k < bs.length ∧ b' = (b.write (bs.take k)).2 ∧
        ((e = .noSpace ∧ (b.pos + k) % cs = 0 ∧ b.content.length ≤ b.pos + k) ∨
         (e = .writeZero ∧ b.pos + k = u32Max))) :
    check cs (.writeAll bs) res b = .ok b' := by
  rcases h with ⟨rfl, rfl, h3⟩ | ⟨e, k, rfl, hk, rfl, h4⟩
  · simp only [check]
    rw [if_pos h3]
  · have hp : (b.write (bs.take k)).2.pos = b.pos + k := by
      simp only [write, List.length_take]; omega
    simp only [check, checkWriteAllErr]
    rw [hp, if_pos ⟨by omega, by omega, h4⟩, Nat.add_sub_cancel_left]

end ByteFile
end FatVerif.Cursor
