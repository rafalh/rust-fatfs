import FatVerif.Proofs.SlotTreeNode
/-!
# Slot trees: what a call has to establish (`Accepts`, `Refines`), path resolution against the specification's
`resolve` / `resolveParent`, and the calls that leave the tree alone: `open_dir`/`open_file`, listing
-/
namespace FatVerif
namespace SlotTree
open Lfn DirSlots DirAlias

/-- the specification's verdict `o` on a call accepts the model's result `r`: success must be allowed and give the
    abstraction of the new tree; an error must be among the acceptable kinds (`hang` = the alias loop ran out of the
    model's fuel: not a result of the library) -/
def Accepts (o : Spec.Outcome) (r : Res) : Prop :=
  match r.out with
  | .ok _ => o.errs = [] ∧ o.tree = abs r.tree
  | .error e => e = .hang ∨ e ∈ o.errs

theorem accepts_fail (o : Spec.Outcome) (t : Node) (e : Err) (h : e = .hang ∨ e ∈ o.errs) : Accepts o (fail t e) := h

theorem accepts_done (o : Spec.Outcome) (t : Node) (h1 : o.errs = []) (h2 : o.tree = abs t) : Accepts o (done t) :=
  ⟨h1, h2⟩

/-- **what the result of a call looks like**: every branch of every operation ends in `fail t _`, or in a success
    whose tree is the old one or `updS … t` of entry-level updates — its root is of the kind of the old root -/
theorem stepSlot_shape (up : Char → List Char) (fuel : Nat) (t : Node) (op : Spec.Op) (stamp : List Nat) :
    (∃ e, (stepSlot up fuel t op stamp).out = .error e ∧ (stepSlot up fuel t op stamp).tree = t) ∨
    ∃ rows, (stepSlot up fuel t op stamp).out = .ok rows ∧ (stepSlot up fuel t op stamp).tree.isDir = t.isDir := by
  -- with `r` for the result the operations are unfolded and split once, in `hr`; a branch's outcome picks the alternative
  generalize hr : stepSlot up fuel t op stamp = r
  unfold stepSlot createS createFinal openS listS removeS renameS renameInternalS renameFinal at hr
  repeat' split at hr
  all_goals subst hr
  all_goals first | exact Or.inl ⟨_, rfl, rfl⟩ | refine Or.inr ⟨_, rfl, ?_⟩
  all_goals first
    | rfl
    | exact updS_isDir _ _ _ (fun _ => addEntry_isDir _ _ _ _)
    | exact updS_isDir _ _ _ (fun _ => delEntry_isDir _ _)
    | exact (updS_isDir _ _ _ (fun _ => delEntry_isDir _ _)).trans (updS_isDir _ _ _ (fun _ => addEntry_isDir _ _ _ _))

/-- a failing call leaves the tree as it is -/
theorem stepSlot_err_tree (up : Char → List Char) (fuel : Nat) (t : Node) (op : Spec.Op) (stamp : List Nat) (e : Err)
    (h : (stepSlot up fuel t op stamp).out = .error e) : (stepSlot up fuel t op stamp).tree = t := by
  rcases stepSlot_shape up fuel t op stamp with ⟨_, _, h'⟩ | ⟨_, h', _⟩
  · exact h'
  · rw [h'] at h; cases h

/-- the root stays a directory -/
theorem stepSlot_isDir (up : Char → List Char) (fuel : Nat) (t : Node) (op : Spec.Op) (stamp : List Nat) :
    (stepSlot up fuel t op stamp).tree.isDir = t.isDir := by
  rcases stepSlot_shape up fuel t op stamp with ⟨_, _, h⟩ | ⟨_, _, h⟩
  · rw [h]
  · exact h

/-! ## the name invariant of specification trees: every stored name passes `validate_long_name` and is no dot name -/

/-- an ordinary stored name -/
def GoodName (nm : String) : Prop := Names.validateLongName nm = .ok () ∧ isDotName nm = false

mutual
def TNamesOk : Spec.TNode → Prop
  | .file _ => True
  | .dir ch => tChOk ch
def tChOk : List (String × Spec.TNode) → Prop
  | [] => True
  | (nm, c) :: r => GoodName nm ∧ TNamesOk c ∧ tChOk r
end

theorem tChOk_iff (ch : List (String × Spec.TNode)) : tChOk ch ↔ ∀ x ∈ ch, GoodName x.1 ∧ TNamesOk x.2 := by
  induction ch with
  | nil => simp [tChOk]
  | cons x r ih =>
    obtain ⟨nm, c⟩ := x
    simp only [tChOk, ih, List.mem_cons, forall_eq_or_imp, and_assoc]

theorem tnames_dir (ch : List (String × Spec.TNode)) :
    TNamesOk (.dir ch) ↔ ∀ x ∈ ch, GoodName x.1 ∧ TNamesOk x.2 := by
  rw [TNamesOk, tChOk_iff]

theorem tnames_file (b : ByteArray) : TNamesOk (.file b) := by simp [TNamesOk]

theorem tnames_updateAt (cfg : Spec.TreeCfg) (F : Spec.TNode → Spec.TNode)
    (hF : ∀ n, TNamesOk n → TNamesOk (F n)) : ∀ (p : List String) (s : Spec.TNode), TNamesOk s →
    TNamesOk (Spec.updateAt cfg F p s)
  | [], s, h => hF s h
  | q :: r, .file b, _ => tnames_file b
  | q :: r, .dir ch, h => by
    simp only [Spec.updateAt]
    rw [tnames_dir] at h ⊢
    intro y hy
    obtain ⟨x, hx, rfl⟩ := List.mem_map.1 hy
    obtain ⟨nm, c⟩ := x
    simp only
    split
    · exact ⟨(h _ hx).1, tnames_updateAt cfg F hF r c (h _ hx).2⟩
    · exact h _ hx

theorem tnames_insert (given : String) (c s : Spec.TNode) (hg : GoodName given) (hc : TNamesOk c)
    (hs : TNamesOk s) : TNamesOk (Spec.insertChild given c s) := by
  cases s with
  | file b => exact tnames_file b
  | dir ch =>
    simp only [Spec.insertChild]
    rw [tnames_dir] at hs ⊢
    intro x hx
    rcases List.mem_append.1 hx with hx | hx
    · exact hs x hx
    · simp only [List.mem_singleton] at hx
      rw [hx]; exact ⟨hg, hc⟩

theorem tnames_erase (cfg : Spec.TreeCfg) (nm : String) (s : Spec.TNode) (hs : TNamesOk s) :
    TNamesOk (Spec.eraseChild cfg nm s) := by
  cases s with
  | file b => exact tnames_file b
  | dir ch =>
    simp only [Spec.eraseChild]
    rw [tnames_dir] at hs ⊢
    intro x hx
    exact hs x (List.mem_filter.1 hx).1

/-- below a tree with ordinary names there are only such trees -/
theorem tnames_getAtS {up : Char → List Char} (p : List String) (t n : Node) :
    TNamesOk (abs t) → getAtS up t p = some n → TNamesOk (abs n) :=
  getAtS_inherit (P := fun n => TNamesOk (abs n))
    (fun s ch x h hx => ((tnames_dir _).1 (abs_dir s ch ▸ h) _ (List.mem_map.2 ⟨x, hx, rfl⟩)).2) p t n

/-- **the model's result `r` of a call on `t` refines the specification's verdict `o`**: the new tree is well-formed,
    has only ordinary names if `t` had, and `o` accepts `r` -/
def Refines (u : Char → List Char) (t : Node) (o : Spec.Outcome) (r : Res) : Prop :=
  TreeWf (upOf u) r.tree ∧ (TNamesOk (abs t) → TNamesOk (abs r.tree)) ∧ Accepts o r

theorem Refines.fail {u : Char → List Char} {t : Node} {o : Spec.Outcome} {e : Err} (hwf : TreeWf (upOf u) t)
    (h : e = .hang ∨ e ∈ o.errs) : Refines u t o (fail t e) := ⟨hwf, id, h⟩

theorem Refines.same {u : Char → List Char} {t : Node} {o : Spec.Outcome} (hwf : TreeWf (upOf u) t)
    (h1 : o.errs = []) (h2 : o.tree = abs t) : Refines u t o (done t) := ⟨hwf, id, h1, h2⟩

variable (u : Char → List Char)

theorem getLast_concat (ds : List String) (l : String) : (ds ++ [l]).getLast? = some l := by simp

theorem validate_empty : Names.validateLongName "" = .error .nameLen := by
  unfold Names.validateLongName Names.validateLongNameL; simp

theorem stepCompS_err {up : Char → List Char} {t : Node} {cur : List String} {comp : String} {e : Err}
    (h : stepCompS up t cur comp = .error e) : e = .notFound := by
  unfold stepCompS at h
  repeat' split at h
  all_goals first | (cases h; done) | (simp only [Except.error.injEq] at h; exact h.symm)

theorem stepCompS_empty {up : Char → List Char} {t : Node} {cur : List String} {s : List (List Nat)}
    {ch : List (LfnEntry × Node)} (hg : getAtS up t cur = some (.dir s ch)) (hq : QHit up "" s ch) :
    stepCompS up t cur "" = .error .notFound := by
  have hn := (lookup_none_of_bad hq (Or.inr (by rw [validate_empty]; simp))).2
  unfold stepCompS
  rw [hg]
  have h1 : (("" : String) == ".") = false := by decide
  have h2 : (("" : String) == "..") = false := by decide
  simp only [h1, h2, Bool.false_and, Bool.false_eq_true, if_false, hn]

theorem walkDirsS_nil {up : Char → List Char} {t : Node} {cwd : List String} {s : List (List Nat)}
    {ch : List (LfnEntry × Node)} (hg : getAtS up t cwd = some (.dir s ch)) : walkDirsS up t cwd [] = .ok cwd := by
  unfold walkDirsS; rw [hg]

/-! ## `resolve` -/

theorem resolve_corr (t : Node) (hwf : TreeWf (upOf u) t) (cwd : List String) (hc : CwdOk (upOf u) t cwd)
    (path : String) (hp : PathOk (upOf u) t path) :
    (∀ e, walkDirsS (upOf u) t cwd (pathParts path).1 = .error e →
      ∃ es, Spec.resolve (cfgOf u) (abs t) cwd path = .error es ∧ e ∈ es) ∧
    (∀ p, walkDirsS (upOf u) t cwd (pathParts path).1 = .ok p →
      (∀ p' n, stepCompS (upOf u) t p (pathParts path).2 = .ok (p', n) →
        Spec.resolve (cfgOf u) (abs t) cwd path = .ok (p', abs n)) ∧
      (∀ e, stepCompS (upOf u) t p (pathParts path).2 = .error e →
        ∃ es, Spec.resolve (cfgOf u) (abs t) cwd path = .error es ∧ e ∈ es)) := by
  obtain ⟨hsplit, hq1, hq2⟩ := hp
  obtain ⟨hl, s0, c0, hg0⟩ := hc
  unfold Spec.resolve
  rcases hsplit with ⟨h2, h1, hs⟩ | ⟨h2, hs⟩
  · rw [h1, h2, hs, walkDirsS_nil hg0]
    simp only [List.getLast?_nil]
    refine ⟨by simp, ?_⟩
    intro p hp
    simp only [Except.ok.injEq] at hp
    subst hp
    rw [h2] at hq2
    rw [stepCompS_empty hg0 (qall_at u hq2 hg0)]
    simp
  · rw [hs]
    simp only [getLast_concat, List.dropLast_concat]
    obtain ⟨w1, w2⟩ := walkDirs_corr u t hwf (pathParts path).1 cwd hl hq1
    constructor
    · intro e he
      obtain ⟨es, h1, h2⟩ := w2 e he
      exact ⟨es, by rw [h1], h2⟩
    · intro p hp
      obtain ⟨h1, hlp, _⟩ := w1 p hp
      rw [h1]
      simp only
      obtain ⟨c1, c2⟩ := stepComp_corr u t hwf p hlp _ hq2
      exact ⟨fun p' n h => (c1 p' n h).1, c2⟩

/-! ## `open_dir` / `open_file` -/

theorem open_refines (t : Node) (hwf : TreeWf (upOf u) t) (cwd : List String) (hc : CwdOk (upOf u) t cwd)
    (path : String) (hp : PathOk (upOf u) t path) (wantDir : Bool) :
    (openS (upOf u) t cwd path wantDir).tree = t ∧
    Accepts (Spec.evalOpen (cfgOf u) (abs t) cwd path wantDir) (openS (upOf u) t cwd path wantDir) := by
  obtain ⟨r1, r2⟩ := resolve_corr u t hwf cwd hc path hp
  unfold openS Spec.evalOpen
  cases hw : walkDirsS (upOf u) t cwd (pathParts path).1 with
  | error e =>
    obtain ⟨es, h1, h2⟩ := r1 e hw
    rw [h1]
    exact ⟨rfl, accepts_fail _ _ _ (Or.inr h2)⟩
  | ok p =>
    obtain ⟨s1, s2⟩ := r2 p hw
    dsimp only
    cases hs : stepCompS (upOf u) t p (pathParts path).2 with
    | error e =>
      obtain ⟨es, h1, h2⟩ := s2 e hs
      rw [h1]
      exact ⟨rfl, accepts_fail _ _ _ (Or.inr h2)⟩
    | ok pn =>
      obtain ⟨p', n⟩ := pn
      rw [s1 p' n hs]
      dsimp only
      rw [abs_isDir]
      by_cases hk : n.isDir = wantDir
      · simp only [hk, beq_self_eq_true, if_true]
        exact ⟨rfl, accepts_done _ _ rfl rfl⟩
      · have : (n.isDir == wantDir) = false := by simpa using hk
        simp only [this, Bool.false_eq_true, if_false]
        exact ⟨rfl, accepts_fail _ _ _ (Or.inr (by simp [Spec.failWith]))⟩

/-! ## listing -/

theorem list_refines (t : Node) (hwf : TreeWf (upOf u) t) (cwd : List String) (hc : CwdOk (upOf u) t cwd) :
    (listS (upOf u) t cwd).tree = t ∧
    Accepts (Spec.evalList (cfgOf u) (abs t) cwd) (listS (upOf u) t cwd) ∧
    ∃ rows, (listS (upOf u) t cwd).out = .ok rows ∧
      rows.Perm ((Spec.evalList (cfgOf u) (abs t) cwd).listing.map fun r => (r.1, r.2.1)) := by
  obtain ⟨hl, s, ch, hg⟩ := hc
  have hd := dirOk_at u hwf hg
  unfold listS Spec.evalList
  rw [getAt_corr u cwd t hwf hl, hg]
  simp only [Option.map, abs_dir]
  refine ⟨trivial, ⟨rfl, rfl⟩, _, rfl, ?_⟩
  rw [List.map_map, List.map_map]
  have h1 : (ch.map (·.1)).map (fun e => (entryName e, Lfn.isDir e.sfn)) =
      ch.map (((fun (r : String × Bool × Nat) => (r.1, r.2.1)) ∘
        fun (x : String × Spec.TNode) => (x.1, x.2.isDir, x.2.size)) ∘
        fun (x : LfnEntry × Node) => (entryName x.1, abs x.2)) := by
    rw [List.map_map]
    apply List.map_congr_left
    intro x hx
    simp only [Function.comp, abs_isDir]
    rw [hd.kind x hx]
  rw [← h1]
  exact (hd.perm.map _).symm

/-! ## `resolveParent` -/

theorem resolveParent_corr (t : Node) (hwf : TreeWf (upOf u) t) (cwd : List String) (hc : CwdOk (upOf u) t cwd)
    (path : String) (hp : PathOk (upOf u) t path) :
    (∀ e, walkDirsS (upOf u) t cwd (pathParts path).1 = .error e →
      ∃ es, Spec.resolveParent (cfgOf u) (abs t) cwd path = .error es ∧ e ∈ es) ∧
    (∀ p, walkDirsS (upOf u) t cwd (pathParts path).1 = .ok p →
      ∃ s ch, getAtS (upOf u) t p = some (.dir s ch) ∧ Lock (upOf u) t p ∧
        (isDotName (pathParts path).2 = true →
          ∃ o, Spec.resolveParent (cfgOf u) (abs t) cwd path = .ok (.dot o) ∧ (p = [] → o = none) ∧
            (p ≠ [] → ∃ r, o = some r)) ∧
        (isDotName (pathParts path).2 = false →
          Spec.resolveParent (cfgOf u) (abs t) cwd path =
            .ok (.entry p (pathParts path).2
              ((lookupS (upOf u) s ch (pathParts path).2).map fun x => (entryName x.1, abs x.2))))) := by
  obtain ⟨hsplit, hq1, hq2⟩ := hp
  obtain ⟨hl, s0, c0, hg0⟩ := hc
  unfold Spec.resolveParent
  rcases hsplit with ⟨h2, h1, hs⟩ | ⟨h2, hs⟩
  · rw [h1, h2, hs, walkDirsS_nil hg0]
    simp only [List.getLast?_nil]
    refine ⟨by simp, ?_⟩
    intro p hp
    simp only [Except.ok.injEq] at hp
    subst hp
    rw [h2] at hq2
    refine ⟨s0, c0, hg0, hl, by intro h; exact absurd h (by decide), fun _ => ?_⟩
    rw [(lookup_none_of_bad (qall_at u hq2 hg0) (Or.inr (by rw [validate_empty]; simp))).2]
    rfl
  · rw [hs]
    simp only [getLast_concat, List.dropLast_concat]
    obtain ⟨w1, w2⟩ := walkDirs_corr u t hwf (pathParts path).1 cwd hl hq1
    constructor
    · intro e he
      obtain ⟨es, h1, h2⟩ := w2 e he
      exact ⟨es, by rw [h1], h2⟩
    · intro p hp
      obtain ⟨h1, hlp, s, ch, hg⟩ := w1 p hp
      rw [h1]
      simp only [spec_isDot_eq]
      refine ⟨s, ch, hg, hlp, ?_, ?_⟩
      · intro hdot
        simp only [hdot, if_true]
        obtain ⟨c1, c2⟩ := stepComp_corr u t hwf p hlp _ hq2
        by_cases hp0 : p = []
        · subst hp0
          have hn := (lookup_none_of_bad (qall_at u hq2 hg) (Or.inl hdot)).2
          have hserr : ∃ e, stepCompS (upOf u) t [] (pathParts path).2 = .error e := by
            unfold stepCompS
            rw [hg]
            simp [hn]
          obtain ⟨e, he⟩ := hserr
          obtain ⟨es, h3, _⟩ := c2 e he
          rw [h3]
          exact ⟨none, rfl, fun _ => rfl, fun h => absurd rfl h⟩
        · have hsok : ∃ r, stepCompS (upOf u) t p (pathParts path).2 = .ok r := by
            unfold stepCompS
            rw [hg]
            have hce : p.isEmpty = false := by simpa using hp0
            rcases (isDotName_iff _).1 hdot with hd | hd
            · rw [hd]; simp [hce]
            · rw [hd]
              obtain ⟨m, hm⟩ := getAtS_dropLast t p _ hg
              simp [hce, hm]
          obtain ⟨⟨p', n⟩, hr⟩ := hsok
          obtain ⟨h3, _, _⟩ := c1 p' n hr
          rw [h3]
          exact ⟨_, rfl, fun h => absurd h hp0, fun _ => ⟨_, rfl⟩⟩
      · intro hdot
        simp only [hdot, Bool.false_eq_true, if_false]
        rw [getAt_corr u p t hwf hlp, hg]
        simp only [Option.map]
        rw [find_corr u (dirOk_at u hwf hg) _ (qall_at u hq2 hg).nameHitOnly]
        cases lookupS (upOf u) s ch (pathParts path).2 <;> rfl

end SlotTree
end FatVerif
