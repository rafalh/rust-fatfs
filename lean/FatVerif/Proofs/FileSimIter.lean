import FatVerif.Proofs.FileSimRun
import FatVerif.Proofs.FatChains
import FatVerif.Proofs.FatImgBytes
/-!
# FileSim / iterator: the cluster iterator on the image

`Geo fs sz`: the layout facts the simulation needs.  `tabView fs img`: the decoded FAT of the image restricted to the
table (`[0, total + 2)`; entries outside show as `bad`, as in `Fat.view`).  Forward evaluation of `FatTrait::get` and
`ClusterIterator::next` in terms of `Fat.nextV (tabView fs img)`.
-/
namespace FatVerif.FileSim
open FatVerif FatVerif.Fat

/-- layout of a mounted volume on a device of `sz` bytes -/
structure Geo (fs : FsState) (sz : Nat) : Prop where
  bps_pos : 0 < fs.bps
  spc_pos : 0 < fs.spc
  /-- the status byte (0x25 / 0x41) lies before the FAT -/
  status_lt : 0x42 ≤ (fatSliceOf fs).beginOff
  /-- every entry of the table lies inside one FAT copy -/
  ents : ∀ c, c < fs.totalClusters + 2 → entOff fs.fatType c + entWidth fs.fatType ≤ (fatSliceOf fs).size
  mirrors_pos : 1 ≤ (fatSliceOf fs).mirrors
  /-- the FAT copies end before the data region -/
  fat_data : (fatSliceOf fs).beginOff + (fatSliceOf fs).mirrors * (fatSliceOf fs).size ≤ fs.firstDataSector * fs.bps
  /-- all clusters lie inside the device -/
  data_dev : clusterOff fs (fs.totalClusters + 2) ≤ sz
  /-- the u32 computations of `offset_from_cluster` do not overflow -/
  u32a : fs.totalClusters * fs.spc < 4294967296
  u32b : fs.firstDataSector + fs.totalClusters * fs.spc < 4294967296
  /-- one FAT copy is smaller than 4 GiB (entry offsets are `u32`) -/
  fat_u32 : (fatSliceOf fs).size ≤ 4294967296
  /-- cluster numbers stay below the BAD mark `0x?FF7` (FAT12/16: by `FatType::from_clusters`) -/
  small : fs.totalClusters + 2 ≤ badMark fs.fatType

/-- the decoded FAT restricted to the table -/
def tabView (fs : FsState) (img : Img) : Nat → FatValue :=
  fun c => if c < fs.totalClusters + 2 then imgFatView fs img c else .bad

/-- every cluster offset lies in the data region -/
theorem dataStart_le_clusterOff (fs : FsState) (c : Nat) : fs.firstDataSector * fs.bps ≤ clusterOff fs c := by
  unfold clusterOff
  exact Nat.mul_le_mul_right _ (Nat.le_add_right _ _)

/-- all FAT copies lie inside the device -/
theorem Geo.fats_dev {fs : FsState} {sz : Nat} (g : Geo fs sz) :
    (fatSliceOf fs).beginOff + (fatSliceOf fs).mirrors * (fatSliceOf fs).size ≤ sz :=
  Nat.le_trans g.fat_data (Nat.le_trans (dataStart_le_clusterOff fs _) g.data_dev)

theorem Geo.fat_dev {fs : FsState} {sz : Nat} (g : Geo fs sz) :
    (fatSliceOf fs).beginOff + (fatSliceOf fs).size ≤ sz := by
  have h1 := g.fats_dev
  have h4 : (fatSliceOf fs).size ≤ (fatSliceOf fs).mirrors * (fatSliceOf fs).size :=
    Nat.le_mul_of_pos_left _ g.mirrors_pos
  omega

theorem getFs_inv {d : Dev} {fs : FsState} {d0 : Dev} (h : run Prog.getFs d = (.ok fs, d0)) : fs = d.fs ∧ d0 = d := by
  simp only [Prog.getFs, run, stepOp] at h
  cases h; exact ⟨rfl, rfl⟩

theorem imgFatBytes_size (fs : FsState) (img : Img) : (imgFatBytes fs img).size = (fatSliceOf fs).size :=
  fatBytes_size _ _ _

theorem rd16_imgFatBytes (fs : FsState) (img : Img) (o : Nat) (h : o + 2 ≤ (fatSliceOf fs).size) :
    rd16 (imgFatBytes fs img) o = img.le16 ((fatSliceOf fs).beginOff + o) := rd16_fatBytes _ _ _ _ h

theorem rd32_imgFatBytes (fs : FsState) (img : Img) (o : Nat) (h : o + 4 ≤ (fatSliceOf fs).size) :
    rd32 (imgFatBytes fs img) o = img.le32 ((fatSliceOf fs).beginOff + o) := rd32_fatBytes _ _ _ _ h

theorem entOff_eq (ft : FatType) (c : Nat) : entOff ft c = off ft c := by cases ft <;> rfl
theorem entWidth_eq (ft : FatType) : entWidth ft = width ft := by cases ft <;> rfl

section
variable {fs : FsState} {sz : Nat}

theorem Geo.inRange (g : Geo fs sz) (img : Img) {c : Nat} (hc : c < fs.totalClusters + 2) :
    InRange fs.fatType (imgFatBytes fs img) c := by
  have h1 := g.ents c hc
  have h2 := g.fat_u32
  rw [entOff_eq, entWidth_eq] at h1
  have hw : 0 < width fs.fatType := by cases fs.fatType <;> decide
  unfold InRange u32Lim
  rw [imgFatBytes_size]
  omega

/-- the decoded FAT of the image, on the table, is the array-level view of the first FAT copy -/
theorem tabView_eq_view (g : Geo fs sz) (img : Img) {c : Nat} (hc : c < fs.totalClusters + 2) :
    tabView fs img c = Fat.view fs.fatType (imgFatBytes fs img) c := by
  unfold tabView
  rw [if_pos hc, imgFatView_eq_view fs img c (g.inRange img hc)]

theorem Geo.tableOk (g : Geo fs sz) (img : Img) : TableOk fs.fatType (imgFatBytes fs img) fs.totalClusters :=
  ⟨wf_fatBytes _ _ _, fun _ hc => g.inRange img hc, g.small⟩

end

/-- a slice that differs from the FAT slice of `fs` only in its position -/
def IsFatSlice (fs : FsState) (s : DiskSlice) : Prop :=
  s.beginOff = (fatSliceOf fs).beginOff ∧ s.size = (fatSliceOf fs).size ∧
  s.mirrors = (fatSliceOf fs).mirrors ∧ s.viaFs = true

theorem fatSliceOf_viaFs (fs : FsState) : (fatSliceOf fs).viaFs = true := by
  unfold fatSliceOf; split <;> rfl

theorem isFatSlice_self (fs : FsState) : IsFatSlice fs (fatSliceOf fs) := ⟨rfl, rfl, rfl, fatSliceOf_viaFs fs⟩

theorem run_get (ft : FatType) (s : DiskSlice) (c : Nat) (d : Dev) (h : d.failAt = none)
    (hfit : entOff ft c + entWidth ft ≤ s.size) (hdev : s.beginOff + s.size ≤ d.img.size) :
    ∃ d', run (Table.get DiskSlice.strm ft s c) d =
      (.ok (Table.classify ft c (imgFatRaw ft s.beginOff d.img c),
            { s with offset := entOff ft c + entWidth ft }), d') ∧ SameStore d d' := by
  obtain ⟨d1, h1, hs1⟩ := run_getRaw ft s c d h hfit hdev
  refine ⟨d1, ?_, hs1⟩
  unfold Table.get
  rw [run_bind_ok h1]
  rfl

/-- `ClusterIterator::next` at a cluster of the table -/
theorem run_citer_next (fs : FsState) (it : Table.CIter DiskSlice) (c : Nat) (d : Dev) (h : d.failAt = none)
    (hg : Geo fs d.img.size) (hs : IsFatSlice fs it.fat) (herr : it.err = false) (hc : it.cluster = some c)
    (hin : c < fs.totalClusters + 2) :
    ∃ d' s', run (Table.CIter.next DiskSlice.strm fs.fatType it) d =
      (.ok ((nextV (tabView fs d.img) c).map Except.ok,
            { it with fat := s', cluster := nextV (tabView fs d.img) c }), d') ∧
      SameStore d d' ∧ IsFatSlice fs s' := by
  obtain ⟨d1, h1, hs1⟩ := run_get fs.fatType it.fat c d h (by rw [hs.2.1]; exact hg.ents c hin)
    (by rw [hs.1, hs.2.1]; exact hg.fat_dev)
  refine ⟨d1, { it.fat with offset := entOff fs.fatType c + entWidth fs.fatType }, ?_, hs1, ⟨hs.1, hs.2.1, hs.2.2.1, hs.2.2.2⟩⟩
  unfold Table.CIter.next
  rw [herr, hc]
  simp only [Bool.false_eq_true, if_false]
  rw [run_bind_ok h1]
  simp only [run_pure, nextV, tabView, hin, if_true, imgFatView, ← hs.1]
  rfl

end FatVerif.FileSim
