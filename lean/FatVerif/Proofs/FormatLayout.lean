import FatVerif.Proofs.FormatBasic
/-! Arithmetic of `try_fs_layout`. `determine_sectors_per_fat` rounds up the quotient of `n + 2 * spc` (the sectors
    left for FATs and data, plus the two reserved FAT entries) by `e + fats`, `e` being the FAT entries one cluster's
    worth of FAT sectors holds; everything `ValidBpb` needs follows from the two bounds of a rounded-up quotient
    (`layout_facts`, for Proofs/FormatNoPanic). `spfOf`, `clOf`, `t2Of` are the values
    `try_fs_layout` computes when no checked operation fails, `LayoutArithOk` says that none does (Proofs/FormatBasic).
    Under the builder's constraints `try_fs_layout` is one test (`Fits`, `tryFsLayout_nf`) and the loop over the widths takes
    the first that passes it (`firstFit`, `tryTypes_eq`). -/
namespace FatVerif.Format

theorem ceilDiv_bounds (a : Nat) {d : Nat} (hd : 0 < d) :
    a ≤ (a + d - 1) / d * d ∧ (a + d - 1) / d * d < a + d := by
  have h := Nat.div_add_mod (a + d - 1) d
  have := Nat.mod_lt (a + d - 1) hd
  rw [Nat.mul_comm] at h
  omega

/-- the rounded-up quotient `s`: the FATs hold an entry for every cluster and the two reserved ones, with less
    than one `e + fats` to spare, and leave room for data. `hn`, `he` serve that last bound: it is `hn` when `s = 1`; when
    `s ≥ 2`, the `2 * e ≤ s * e` on the left of the upper bound outweigh the `2 * spc + (e + fats) ≤ 2 * e` on its right -/
theorem spf_bounds {n spc e fats s : Nat} (hs : s = (n + 2 * spc + (e + fats) - 1) / (e + fats))
    (hf : 0 < fats) (he : 2 * spc + fats ≤ e) (hn : fats < n) :
    n + 2 * spc ≤ s * e + s * fats ∧ s * e + s * fats < n + 2 * spc + (e + fats) ∧ 1 ≤ s ∧ s * fats < n := by
  obtain ⟨h1, h2⟩ := ceilDiv_bounds (n + 2 * spc) (show 0 < e + fats by omega)
  rw [← hs, Nat.mul_add] at h1 h2
  have hpos : 1 ≤ s := hs ▸ Nat.div_pos (by omega) (by omega)
  refine ⟨h1, h2, hpos, ?_⟩
  rcases Nat.lt_or_ge s 2 with h | h
  · have : s = 1 := by omega
    subst this; omega
  · have := Nat.mul_le_mul_right e h
    omega

/-- `s` FAT sectors of `bps` bytes hold at least the entries that `s * e` stands for -/
theorem clusters_le_capacity {n spc bps bits fats s : Nat} (hspc : 0 < spc) (hbits : 0 < bits) (hfit : s * fats ≤ n)
    (h : n + 2 * spc ≤ s * (spc * bps * 8 / bits) + s * fats) :
    (n - s * fats) / spc + 2 ≤ s * bps * 8 / bits := by
  have h1 := Nat.div_mul_le_self (n - s * fats) spc
  have h2 := Nat.div_mul_le_self (spc * bps * 8) bits
  have h3 : ((n - s * fats) / spc + 2) * spc ≤ s * (spc * bps * 8 / bits) := by rw [Nat.add_mul]; omega
  rw [Nat.le_div_iff_mul_le hbits]
  apply Nat.le_of_mul_le_mul_left _ hspc
  calc spc * (((n - s * fats) / spc + 2) * bits)
      = ((n - s * fats) / spc + 2) * spc * bits := by ac_rfl
    _ ≤ s * (spc * bps * 8 / bits) * bits := Nat.mul_le_mul_right _ h3
    _ = s * (spc * bps * 8 / bits * bits) := Nat.mul_assoc ..
    _ ≤ s * (spc * bps * 8) := Nat.mul_le_mul_left _ h2
    _ = spc * (s * bps * 8) := by ac_rfl

/-- `determine_sectors_per_fat` on any geometry whose sector has at least as many bytes as a FAT entry has bits,
    with up to six FATs: the `as u32` cast loses nothing, so `spf_bounds` and `clusters_le_capacity` apply. `h` is what
    is left when `tryFsLayout` has not refused the volume as too small; `hf6` gives `2 * spc + fats ≤ 8 * spc ≤ e`, the
    `he` of `spf_bounds` -/
theorem spfOf_bounds {t bps spc bits reserved rds fats s : Nat} (hs : s = spfOf t bps spc bits reserved rds fats)
    (ht : t < 4294967296) (hbits : 0 < bits) (hb : bits ≤ bps) (hspc : 0 < spc) (hf : 0 < fats) (hf6 : fats ≤ 6)
    (h : reserved + rds + 8 < t) :
    t - reserved - rds + 2 * spc ≤ s * (spc * bps * 8 / bits) + s * fats ∧
    s * (spc * bps * 8 / bits) + s * fats < t - reserved - rds + 2 * spc + (spc * bps * 8 / bits + fats) ∧
    1 ≤ s ∧ s * fats < t - reserved - rds ∧ clOf t spc reserved rds fats s + 2 ≤ s * bps * 8 / bits := by
  have he : spc * 8 ≤ spc * bps * 8 / bits := by
    rw [Nat.le_div_iff_mul_le hbits]
    calc spc * 8 * bits ≤ spc * 8 * bps := Nat.mul_le_mul_left _ hb
      _ = spc * bps * 8 := by ac_rfl
  obtain ⟨h1, h2, h3, h4⟩ := spf_bounds (n := t - reserved - rds) (spc := spc) (e := spc * bps * 8 / bits) rfl hf
    (by omega) (by omega)
  have hlt : (t - reserved - rds + 2 * spc + (spc * bps * 8 / bits + fats) - 1) / (spc * bps * 8 / bits + fats)
      < 4294967296 := by
    have := Nat.le_mul_of_pos_right
      ((t - reserved - rds + 2 * spc + (spc * bps * 8 / bits + fats) - 1) / (spc * bps * 8 / bits + fats)) hf
    omega
  rw [hs]
  unfold clOf spfOf t2Of
  rw [Nat.mod_eq_of_lt hlt]
  exact ⟨h1, h2, h3, h4, clusters_le_capacity hspc hbits (Nat.le_of_lt h4) h1⟩

/-- a FAT of 12- or 16-bit entries for at most 65524 clusters takes at most 128 KiB, so it fits the 16-bit field -/
theorem spfOf_le_of_clusters_le {t bps spc bits reserved rds fats s : Nat}
    (hs : s = spfOf t bps spc bits reserved rds fats) (ht : t < 4294967296) (hbits : 0 < bits) (hb16 : bits ≤ 16)
    (hb : 512 ≤ bps) (hspc : 0 < spc) (hf : 0 < fats) (hf6 : fats ≤ 6) (h : reserved + rds + 8 < t)
    (hcl : clOf t spc reserved rds fats s ≤ 65524) : s ≤ 256 := by
  obtain ⟨_, h2, h3, h4, _⟩ := spfOf_bounds hs ht hbits (by omega) hspc hf hf6 h
  have he : 256 * spc ≤ spc * bps * 8 / bits := by
    rw [Nat.le_div_iff_mul_le hbits]
    calc 256 * spc * bits ≤ 256 * spc * 16 := Nat.mul_le_mul_left _ hb16
      _ = spc * 512 * 8 := by omega
      _ ≤ spc * bps * 8 := Nat.mul_le_mul_right _ (Nat.mul_le_mul_left _ hb)
  have hc : t - reserved - rds - s * fats < 65525 * spc := (Nat.div_lt_iff_lt_mul hspc).1 (Nat.lt_succ_of_le hcl)
  -- with `s = k + 1`: `k * e < 65527 * spc + fats ≤ 65533 * spc` (`fats ≤ 6 ≤ 6 * spc`) and `256 * spc ≤ e`, so `k < 256`
  obtain ⟨k, rfl⟩ : ∃ k, s = k + 1 := ⟨s - 1, by omega⟩
  rw [Nat.add_mul, Nat.one_mul] at h2
  have hk := Nat.mul_le_mul_left k he
  have : k * 256 * spc < 65533 * spc := by rw [Nat.mul_assoc]; omega
  have := Nat.lt_of_mul_lt_mul_right this
  omega

/-- the numbers of a layout past the size test of `try_fs_layout`: a FAT of at least one sector with an entry for every
    cluster, the regions inside the volume, the cluster count as a quotient (what `Fitted` records as `spf1`, `cap`, `fit`) -/
def LayoutFacts (total bps spc bits reserved rds fats : Nat) : Prop :=
  1 ≤ spfOf total bps spc bits reserved rds fats ∧
  clOf total spc reserved rds fats (spfOf total bps spc bits reserved rds fats) + 2 ≤
    spfOf total bps spc bits reserved rds fats * bps * 8 / bits ∧
  reserved + fats * spfOf total bps spc bits reserved rds fats + rds < total ∧
  fats * spfOf total bps spc bits reserved rds fats < 4294967296 ∧
  clOf total spc reserved rds fats (spfOf total bps spc bits reserved rds fats) =
    (total - (reserved + fats * spfOf total bps spc bits reserved rds fats + rds)) / spc

theorem bits_pos (ft : FatType) : 0 < ft.bits := by cases ft <;> decide
theorem bits_le (ft : FatType) : ft.bits ≤ 32 := by cases ft <;> decide

variable {t bps spc rds fats : Nat} {ft : FatType}

/-- no checked operation of `try_fs_layout` fails when `spc ≥ 1` (sectors of 32 bytes or more, one to six FATs) -/
theorem layout_arith_ok (ht : t < 4294967296) (hb : 32 ≤ bps) (hspc : 0 < spc) (hf : 0 < fats) (hf6 : fats ≤ 6)
    (h : ¬ t ≤ reservedFor ft + rds + 8) : LayoutArithOk t bps spc ft.bits (reservedFor ft) rds fats := by
  have := bits_le ft
  obtain ⟨_, _, _, h4, _⟩ := spfOf_bounds (bps := bps) (spc := spc) rfl ht (bits_pos ft) (by omega) hspc hf hf6
    (Nat.lt_of_not_le h)
  unfold LayoutArithOk t2Of
  generalize spc * bps * 8 / ft.bits = e
  omega

theorem layout_facts (ht : t < 4294967296) (hb : 32 ≤ bps) (hspc : 0 < spc) (hf : 0 < fats) (hf6 : fats ≤ 6)
    (h : ¬ t ≤ reservedFor ft + rds + 8) : LayoutFacts t bps spc ft.bits (reservedFor ft) rds fats := by
  have := bits_le ft
  obtain ⟨_, _, h3, h4, h5⟩ := spfOf_bounds (bps := bps) (spc := spc) rfl ht (bits_pos ft) (by omega) hspc hf hf6
    (Nat.lt_of_not_le h)
  rw [Nat.mul_comm] at h4
  refine ⟨h3, h5, by omega, by omega, ?_⟩
  unfold clOf
  rw [Nat.mul_comm]
  congr 1
  omega

/-! ### `try_fs_layout` is one test -/

/-- the volume is not too small, the width is the one its own cluster count stands for, and that count is within the
    width's maximum -/
def Fits (t bps spc : Nat) (ft : FatType) (rds fats : Nat) : Prop :=
  ¬ t ≤ reservedFor ft + rds + 8 ∧
  ft = FatType.fromClusters (clOf t spc (reservedFor ft) rds fats (spfOf t bps spc ft.bits (reservedFor ft) rds fats)) ∧
  clOf t spc (reservedFor ft) rds fats (spfOf t bps spc ft.bits (reservedFor ft) rds fats) ≤ maxClusters ft

instance (t bps spc : Nat) (ft : FatType) (rds fats : Nat) : Decidable (Fits t bps spc ft rds fats) := by
  unfold Fits; infer_instance

theorem minClusters_fromClusters (cl : Nat) : minClusters (FatType.fromClusters cl) ≤ cl := by
  unfold FatType.fromClusters
  split
  · exact Nat.zero_le _
  · split <;> simp only [minClusters] <;> omega

/-- under the builder's constraints `try_fs_layout` is the test `Fits`: none of its checked operations fails
    (`layout_arith_ok`) and its `debug_assert!` holds -/
theorem tryFsLayout_nf {t bps spc rds fats : Nat} {ft : FatType} (ht : t < 4294967296) (hb : 32 ≤ bps) (hspc : 0 < spc)
    (hf : 0 < fats) (hf6 : fats ≤ 6) :
    tryFsLayout t bps spc ft rds fats =
      if Fits t bps spc ft rds fats then .ok (reservedFor ft, spfOf t bps spc ft.bits (reservedFor ft) rds fats)
      else .error .invalidInput := by
  rw [tryFsLayout_eq]
  by_cases h0 : t ≤ reservedFor ft + rds + 8
  · rw [if_pos h0, if_neg fun h : Fits .. => h.1 h0]
  · rw [if_neg h0, if_pos (layout_arith_ok ht hb hspc hf hf6 h0)]
    unfold checkClusters
    by_cases h1 : ft = FatType.fromClusters
        (clOf t spc (reservedFor ft) rds fats (spfOf t bps spc ft.bits (reservedFor ft) rds fats))
    · have := minClusters_fromClusters
        (clOf t spc (reservedFor ft) rds fats (spfOf t bps spc ft.bits (reservedFor ft) rds fats))
      rw [← h1] at this
      rw [if_neg (not_not_intro h1), if_neg (by omega)]
      by_cases h2 : clOf t spc (reservedFor ft) rds fats (spfOf t bps spc ft.bits (reservedFor ft) rds fats)
          ≤ maxClusters ft
      · rw [if_neg (by omega), if_pos (show Fits .. from ⟨h0, h1, h2⟩)]
      · rw [if_pos (by omega), if_neg fun h : Fits .. => h2 h.2.2]
    · rw [if_pos h1, if_neg fun h : Fits .. => h1 h.2.1]

/-- the first of the widths `l` that fits, with its layout -/
def firstFit (t bps spc root fats : Nat) (l : List FatType) : Except Err FsLayout :=
  match l.find? fun ft => decide (Fits t bps spc ft (determineRootDirSectors root bps ft) fats) with
  | some ft => .ok ⟨ft, reservedFor ft,
      spfOf t bps spc ft.bits (reservedFor ft) (determineRootDirSectors root bps ft) fats, spc⟩
  | none => .error .invalidInput

theorem tryTypes_eq {t bps spc root fats : Nat} (ht : t < 4294967296) (hb : 32 ≤ bps) (hspc : 0 < spc)
    (hf : 0 < fats) (hf6 : fats ≤ 6) (l : List FatType) :
    tryTypes t bps spc root fats l = firstFit t bps spc root fats l := by
  unfold firstFit
  induction l with
  | nil => rfl
  | cons ft rest ih =>
    unfold tryTypes
    rw [tryFsLayout_nf ht hb hspc hf hf6, List.find?_cons]
    by_cases h : Fits t bps spc ft (determineRootDirSectors root bps ft) fats
    · rw [if_pos h, decide_eq_true h]
    · rw [if_neg h, decide_eq_false h, ← ih]

theorem firstFit_ok {t bps spc root fats : Nat} {l : List FatType} {L : FsLayout}
    (h : firstFit t bps spc root fats l = .ok L) :
    L.fatType ∈ l ∧ Fits t bps spc L.fatType (determineRootDirSectors root bps L.fatType) fats ∧
    L = ⟨L.fatType, reservedFor L.fatType,
      spfOf t bps spc L.fatType.bits (reservedFor L.fatType) (determineRootDirSectors root bps L.fatType) fats, spc⟩ := by
  unfold firstFit at h
  split at h
  · next ft hfind =>
    cases h
    have hfit := List.find?_some hfind
    exact ⟨List.mem_of_find?_eq_some hfind, of_decide_eq_true hfit, rfl⟩
  · cases h

theorem firstFit_of_fits {t bps spc root fats : Nat} {l : List FatType} {ft : FatType} (hm : ft ∈ l)
    (h : Fits t bps spc ft (determineRootDirSectors root bps ft) fats) : ∃ L, firstFit t bps spc root fats l = .ok L := by
  unfold firstFit
  split
  · exact ⟨_, rfl⟩
  · next hnone => exact absurd (decide_eq_true h) (List.find?_eq_none.1 hnone ft hm)

end FatVerif.Format
