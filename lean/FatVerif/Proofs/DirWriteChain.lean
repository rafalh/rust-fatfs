import FatVerif.Proofs.DirWriteFamily
import FatVerif.Proofs.FileSimWrite
import FatVerif.Proofs.FileSimSeek
/-! Directory WRITES on a cluster chain: where the slots of a chain directory lie on the device (`SlotGeo`, disjointness
    of the slots of different directories), what of `ChainCore` / `ChainDir` survives a step of the device, and the
    handle operations inside the allocated clusters: one `File::write` (the volume is marked dirty, the handle's entry
    gets the modification stamp) and `File::seek`. `File::write` is read through its normal form (`write_eq` of
    Proofs/FileSimWrite): `set_dirty_flag`, the choice of the cluster (`selCluster`), the device write; once the cluster is
    chosen the call is `run_write_of_sel` (Proofs/FileSimWrite) for any handle, and both steps that touch the image are
    `WritesTo` steps (`run_setDirty_writesTo`, `writesTo_seek_write` of Proofs/DirWriteBytes). -/
namespace FatVerif.DirSim
open FatVerif.FileSim FatVerif.Fat DirEntryData

/-- a cluster that is free in the FAT is not on a chain whose last link is in use -/
theorem free_not_in_chain {g : Nat → FatValue} {c0 : Nat} {chain : List Nat} (h : Chain g c0 chain) {c : Nat}
    (hfree : g c = .free) (hlast : ∀ l, chain.getLast? = some l → g l ≠ .free) : c ∉ chain := by
  induction h with
  | last m _ =>
    intro hm
    simp only [List.mem_singleton] at hm
    subst hm
    exact hlast c rfl hfree
  | cons m k ms hd hc ih =>
    intro hm
    rcases List.mem_cons.mp hm with h1 | h1
    · subst h1; rw [hfree] at hd; cases hd
    · refine ih (fun l hl => hlast l ?_) h1
      cases hc with
      | last _ _ => simpa using hl
      | cons _ _ _ _ _ => simpa [List.getLast?_cons_cons] using hl

/-! ### the slots of a chain directory on the device -/

theorem mul_div32 {cs : Nat} (h : cs % 32 = 0) : 32 * (cs / 32) = cs := by
  have := Nat.div_add_mod cs 32; omega

/-- bytes of `n` clusters of slots -/
theorem slots_bytes {cs : Nat} (h : cs % 32 = 0) (n : Nat) : 32 * (n * (cs / 32)) = n * cs := by
  rw [Nat.mul_left_comm, mul_div32 h]

theorem chainSrc_ge (fs : FsState) (chain : List Nat) (o : Nat) : fs.firstDataSector * fs.bps ≤ chainSrc fs chain o := by
  unfold chainSrc
  exact Nat.le_trans (dataStart_le_clusterOff fs _) (Nat.le_add_right _ _)

theorem clusterOff_lt_of_lt (fs : FsState) {a b : Nat} (ha : 2 ≤ a) (h : a < b) :
    clusterOff fs a + fs.clusterSize ≤ clusterOff fs b := by
  rw [← clusterOff_succ fs a ha]
  exact clusterOff_mono fs h

/-- the clusters of the table are pairwise disjoint byte ranges behind the FAT -/
theorem cluster_ranges_disjoint (fs : FsState) {a b : Nat} (ha : 2 ≤ a) (hb : 2 ≤ b) (hab : a ≠ b) :
    clusterOff fs a + fs.clusterSize ≤ clusterOff fs b ∨ clusterOff fs b + fs.clusterSize ≤ clusterOff fs a := by
  rcases Nat.lt_or_gt_of_ne hab with h | h
  · exact Or.inl (clusterOff_lt_of_lt fs ha h)
  · exact Or.inr (clusterOff_lt_of_lt fs hb h)

/-- slot `i` of a list of clusters: the cluster it lies in and its offset there -/
theorem chainSrc_slot (fs : FsState) (hcs : 0 < fs.clusterSize) (h32 : fs.clusterSize % 32 = 0) (chain : List Nat)
    (i : Nat) (hi : i < chain.length * (fs.clusterSize / 32)) :
    ∃ h : 32 * i / fs.clusterSize < chain.length,
      chainSrc fs chain (32 * i) = clusterOff fs chain[32 * i / fs.clusterSize] + 32 * i % fs.clusterSize ∧
      32 * i % fs.clusterSize + 32 ≤ fs.clusterSize := by
  have hT := slots_bytes h32 chain.length
  have hlt : 32 * i / fs.clusterSize < chain.length := div_lt_of_lt_mul hcs (by omega)
  refine ⟨hlt, ?_, ?_⟩
  · unfold chainSrc
    rw [List.getD_eq_getElem?_getD, List.getElem?_eq_getElem hlt]
    rfl
  · have h1 : 32 * i % fs.clusterSize % 32 = 0 := by
      rw [Nat.mod_mod_of_dvd _ (Nat.dvd_of_mod_eq_zero h32)]; omega
    have := Nat.mod_lt (32 * i) hcs
    omega

/-- every slot of a list of clusters lies inside one of them -/
theorem chainSrc_in_cluster (fs : FsState) (hcs : 0 < fs.clusterSize) (h32 : fs.clusterSize % 32 = 0) (chain : List Nat)
    (i : Nat) (hi : i < chain.length * (fs.clusterSize / 32)) :
    ∃ c ∈ chain, clusterOff fs c ≤ chainSrc fs chain (32 * i) ∧
      chainSrc fs chain (32 * i) + 32 ≤ clusterOff fs c + fs.clusterSize := by
  obtain ⟨hlt, he, hm⟩ := chainSrc_slot fs hcs h32 chain i hi
  exact ⟨_, List.getElem_mem hlt, by omega, by omega⟩

theorem slotGeo_of {fs : FsState} {sz : Nat} {chain : List Nat} (hgeo : Geo fs sz) (hc32 : fs.clusterSize % 32 = 0)
    (hin : ∀ x ∈ chain, 2 ≤ x) (hnd : chain.Nodup) :
    SlotGeo (chain.length * (fs.clusterSize / 32)) (chainSrc fs chain) := by
  have hcs := hgeo.cs_pos
  have h42 := hgeo.fat_before_data
  constructor
  · intro i hi
    have := chainSrc_ge fs chain (32 * i)
    omega
  · intro i j hi hj hij
    obtain ⟨hli, hei, hmi⟩ := chainSrc_slot fs hcs hc32 chain i hi
    obtain ⟨hlj, hej, hmj⟩ := chainSrc_slot fs hcs hc32 chain j hj
    rw [hei, hej]
    by_cases hq : 32 * i / fs.clusterSize = 32 * j / fs.clusterSize
    · -- same cluster: different offsets in it, both multiples of 32
      have hdi := decomp (32 * i) fs.clusterSize hcs
      have hdj := decomp (32 * j) fs.clusterSize hcs
      have : chain[32 * i / fs.clusterSize] = chain[32 * j / fs.clusterSize] := by congr 1
      rw [this]
      rw [hq] at hdi
      have h1 : 32 * i % fs.clusterSize % 32 = 0 := by
        rw [Nat.mod_mod_of_dvd _ (Nat.dvd_of_mod_eq_zero hc32)]; omega
      have h2 : 32 * j % fs.clusterSize % 32 = 0 := by
        rw [Nat.mod_mod_of_dvd _ (Nat.dvd_of_mod_eq_zero hc32)]; omega
      omega
    · -- different clusters
      have := cluster_ranges_disjoint fs (hin _ (List.getElem_mem hli)) (hin _ (List.getElem_mem hlj))
        (fun h => hq ((List.getElem_inj hnd).mp h))
      omega

theorem forall_mem_snoc {P : Nat → Prop} {l : List Nat} {c : Nat} (h : ∀ x ∈ l, P x) (hc : P c) : ∀ x ∈ l ++ [c], P x :=
  fun x hx => (List.mem_append.mp hx).elim (h x) (fun h1 => List.mem_singleton.mp h1 ▸ hc)

/-- bytes `E` that lie in no cluster of the table (the own entry of a sub-directory in its parent, when the parent is
    the fixed root) lie in no slot of a list of clusters -/
theorem chainSrc_not_of_noCluster (fs : FsState) (hcs : 0 < fs.clusterSize) (h32 : fs.clusterSize % 32 = 0) {E : Nat → Prop}
    (hexcl : ∀ q, E q → ∀ x, 2 ≤ x → x < fs.totalClusters + 2 → ¬ (clusterOff fs x ≤ q ∧ q < clusterOff fs x + fs.clusterSize))
    (ch : List Nat) (hch : ∀ x ∈ ch, 2 ≤ x ∧ x < fs.totalClusters + 2) (i : Nat) (hi : i < ch.length * (fs.clusterSize / 32))
    (x : Nat) (hx : x < 32) : ¬ E (chainSrc fs ch (32 * i) + x) := fun hq => by
  obtain ⟨y, hy, h1, h2⟩ := chainSrc_in_cluster fs hcs h32 ch i hi
  exact hexcl _ hq y (hch y hy).1 (hch y hy).2 ⟨by omega, by omega⟩

/-- every slot of a list of clusters of the table lies behind the FAT copies and inside the device -/
theorem chainSrc_inside {fs : FsState} {sz : Nat} (hgeo : Geo fs sz) (hcs32 : fs.clusterSize % 32 = 0) (ch : List Nat)
    (hin : ∀ x ∈ ch, 2 ≤ x ∧ x < fs.totalClusters + 2) (i : Nat) (hi : i < ch.length * (fs.clusterSize / 32)) :
    (fatSliceOf fs).beginOff + (fatSliceOf fs).mirrors * (fatSliceOf fs).size ≤ chainSrc fs ch (32 * i) ∧
    chainSrc fs ch (32 * i) + 32 ≤ sz := by
  obtain ⟨z, hz, hz1, hz2⟩ := chainSrc_in_cluster fs hgeo.cs_pos hcs32 ch i hi
  have := clusterOff_end hgeo (hin z hz).1 (hin z hz).2
  have := hgeo.fat_data
  omega

/-- … and outside a cluster that is not in the list -/
theorem chainSrc_clear {fs : FsState} {sz : Nat} (hgeo : Geo fs sz) (hcs32 : fs.clusterSize % 32 = 0) (ch : List Nat)
    (hin : ∀ x ∈ ch, 2 ≤ x ∧ x < fs.totalClusters + 2) {c : Nat} (hc2 : 2 ≤ c) (hc : c ∉ ch) (i : Nat)
    (hi : i < ch.length * (fs.clusterSize / 32)) :
    (fatSliceOf fs).beginOff + (fatSliceOf fs).mirrors * (fatSliceOf fs).size ≤ chainSrc fs ch (32 * i) ∧
    chainSrc fs ch (32 * i) + 32 ≤ sz ∧
    (chainSrc fs ch (32 * i) + 32 ≤ clusterOff fs c ∨ clusterOff fs c + fs.clusterSize ≤ chainSrc fs ch (32 * i)) := by
  obtain ⟨z, hz, hz1, hz2⟩ := chainSrc_in_cluster fs hgeo.cs_pos hcs32 ch i hi
  have := cluster_ranges_disjoint fs (hin z hz).1 hc2 (fun heq => hc (heq ▸ hz))
  exact ⟨(chainSrc_inside hgeo hcs32 ch hin i hi).1, (chainSrc_inside hgeo hcs32 ch hin i hi).2, by omega⟩

/-- slots that lie behind the FAT copies and outside cluster `c` are kept by a step that changes only the FAT copies and
    cluster `c` (the allocation of `c`, the writes into the new directory) -/
theorem srcSlots_clear {fs : FsState} {sz : Nat} (hgeo : Geo fs sz) {c N : Nat} {src : Nat → Nat} {X Y : Dev}
    (hpos : ∀ i, i < N → (fatSliceOf fs).beginOff + (fatSliceOf fs).mirrors * (fatSliceOf fs).size ≤ src (32 * i) ∧
      src (32 * i) + 32 ≤ sz ∧ (src (32 * i) + 32 ≤ clusterOff fs c ∨ clusterOff fs c + fs.clusterSize ≤ src (32 * i)))
    (hfr : ∀ q, 0x42 ≤ q → OutsideFat fs q → ¬ (clusterOff fs c ≤ q ∧ q < clusterOff fs c + fs.clusterSize) →
      Y.img.getByte q = X.img.getByte q) :
    srcSlots Y.img src N = srcSlots X.img src N :=
  srcSlots_congr (fun i hi x hx => by
    obtain ⟨hb, _, hcl⟩ := hpos i hi
    have := hgeo.status_lt
    have := hgeo.fat_data
    have : (fatSliceOf fs).size ≤ (fatSliceOf fs).mirrors * (fatSliceOf fs).size := Nat.le_mul_of_pos_left _ hgeo.mirrors_pos
    exact hfr _ (by omega) (Or.inr (by omega)) (by omega))

theorem chainSrc_geom {a b : FsState} (h : FsGeomEq a b) (chain : List Nat) : chainSrc b chain = chainSrc a chain := by
  funext o
  unfold chainSrc
  rw [h.clusterSize, h.clusterOff]

theorem chainRoom_geom {a b : FsState} (h : FsGeomEq a b) (chain : List Nat) : chainRoom b chain = chainRoom a chain := by
  funext o
  unfold chainRoom
  rw [h.clusterSize]

/-- byte `x` of the `j`-th cluster of the list -/
theorem chainSrc_at (fs : FsState) (chain : List Nat) (j x : Nat) (hx : x < fs.clusterSize) :
    chainSrc fs chain (j * fs.clusterSize + x) = clusterOff fs (chain.getD j 0) + x := by
  unfold chainSrc
  rw [Nat.mul_comm, Nat.mul_add_div (by omega), Nat.div_eq_of_lt hx, Nat.add_zero, Nat.mul_add_mod, Nat.mod_eq_of_lt hx]

theorem chainSrc_single (fs : FsState) (c i : Nat) (h : 32 * i < fs.clusterSize) :
    chainSrc fs [c] (32 * i) = clusterOff fs c + 32 * i := by
  have := chainSrc_at fs [c] 0 (32 * i) h
  rwa [Nat.zero_mul, Nat.zero_add] at this

/-- the fixed root region ends where the data region starts (when it lies inside the reserved part) -/
theorem rootSlice_end (fs : FsState) (h : fs.rootDirSectors ≤ fs.firstDataSector) :
    (rootSliceOf fs).beginOff + (rootSliceOf fs).size = fs.firstDataSector * fs.bps := by
  simp only [rootSliceOf]
  rw [← Nat.add_mul, Nat.sub_add_cancel h]

section chain
variable {d : Dev} {f0 : FileH} {c0 : Nat} {chain : List Nat}

theorem ChainCore.slotGeo (C : ChainCore d f0 c0 chain) :
    SlotGeo (chain.length * (d.fs.clusterSize / 32)) (chainSrc d.fs chain) :=
  slotGeo_of C.geo C.cs32 (fun x hx => (C.inTab x hx).1) (chain_nodup' C.link)

theorem ChainDir.slotGeo (C : ChainDir d f0 c0 chain) :
    SlotGeo (chain.length * (d.fs.clusterSize / 32)) (chainSrc d.fs chain) := C.core.slotGeo

/-- every slot of a chain directory lies inside one cluster of its chain -/
theorem ChainCore.slot_in_cluster (C : ChainCore d f0 c0 chain) (i : Nat)
    (hi : i < chain.length * (d.fs.clusterSize / 32)) :
    ∃ c ∈ chain, clusterOff d.fs c ≤ chainSrc d.fs chain (32 * i) ∧
      chainSrc d.fs chain (32 * i) + 32 ≤ clusterOff d.fs c + d.fs.clusterSize :=
  chainSrc_in_cluster d.fs C.geo.cs_pos C.cs32 chain i hi

/-- **the slots of two chain directories with disjoint cluster sets do not meet** (the `hcont` of `srcSlots_frameE`,
    second part) -/
theorem ChainCore.slots_disjoint {f1 : FileH} {c1 : Nat} {chain1 : List Nat} (C : ChainCore d f0 c0 chain)
    (C1 : ChainCore d f1 c1 chain1) (hdisj : ∀ c ∈ chain, c ∉ chain1) (i : Nat)
    (hi : i < chain.length * (d.fs.clusterSize / 32)) (x : Nat) (hx : x < 32) (j : Nat)
    (hj : j < chain1.length * (d.fs.clusterSize / 32)) :
    ¬ (chainSrc d.fs chain1 (32 * j) ≤ chainSrc d.fs chain (32 * i) + x ∧
       chainSrc d.fs chain (32 * i) + x < chainSrc d.fs chain1 (32 * j) + 32) := by
  obtain ⟨a, ha, h1, h2⟩ := C.slot_in_cluster i hi
  obtain ⟨b, hb, h3, h4⟩ := C1.slot_in_cluster j hj
  have hab : a ≠ b := fun h => hdisj a ha (h ▸ hb)
  have := cluster_ranges_disjoint d.fs (C.inTab a ha).1 (C1.inTab b hb).1 hab
  omega

/-- every slot byte of a chain directory lies behind the status byte, the FAT copies and the fixed root region -/
theorem ChainCore.slot_behind (C : ChainCore d f0 c0 chain) (i : Nat) :
    d.fs.firstDataSector * d.fs.bps ≤ chainSrc d.fs chain (32 * i) ∧ 0x42 ≤ chainSrc d.fs chain (32 * i) := by
  have := chainSrc_ge d.fs chain (32 * i)
  have := C.geo.fat_before_data
  omega

theorem ChainDir.slot_in_cluster (C : ChainDir d f0 c0 chain) (i : Nat)
    (hi : i < chain.length * (d.fs.clusterSize / 32)) :
    ∃ c ∈ chain, clusterOff d.fs c ≤ chainSrc d.fs chain (32 * i) ∧
      chainSrc d.fs chain (32 * i) + 32 ≤ clusterOff d.fs c + d.fs.clusterSize := C.core.slot_in_cluster i hi

theorem ChainDir.slots_disjoint {f1 : FileH} {c1 : Nat} {chain1 : List Nat} (C : ChainDir d f0 c0 chain)
    (C1 : ChainDir d f1 c1 chain1) (hdisj : ∀ c ∈ chain, c ∉ chain1) (i : Nat)
    (hi : i < chain.length * (d.fs.clusterSize / 32)) (x : Nat) (hx : x < 32) (j : Nat)
    (hj : j < chain1.length * (d.fs.clusterSize / 32)) :
    ¬ (chainSrc d.fs chain1 (32 * j) ≤ chainSrc d.fs chain (32 * i) + x ∧
       chainSrc d.fs chain (32 * i) + x < chainSrc d.fs chain1 (32 * j) + 32) :=
  C.core.slots_disjoint C1.core hdisj i hi x hx j hj

theorem ChainDir.slot_behind (C : ChainDir d f0 c0 chain) (i : Nat) :
    d.fs.firstDataSector * d.fs.bps ≤ chainSrc d.fs chain (32 * i) ∧ 0x42 ≤ chainSrc d.fs chain (32 * i) :=
  C.core.slot_behind i

/-! ### what survives a step of the device -/

/-- the hypotheses of a chain directory hold after a step that keeps fault schedule, size and geometry, of any list of
    clusters that is the chain of `c0` in the decoded FAT afterwards -/
theorem ChainCore.of_step {d' : Dev} {chain' : List Nat} (C : ChainCore d f0 c0 chain) (hfa : d'.failAt = d.failAt)
    (hsz : d'.img.size = d.img.size) (hgeo : FsGeomEq d.fs d'.fs) (hl : Chain (tabView d'.fs d'.img) c0 chain')
    (hin : ∀ c ∈ chain', 2 ≤ c ∧ c < d.fs.totalClusters + 2) (hu : chain'.length * d.fs.clusterSize < 4294967296) :
    ChainCore d' f0 c0 chain' :=
  ⟨by rw [hfa]; exact C.failAt, by rw [hsz]; exact C.geo.frame hgeo, C.first, hl,
   by rw [hgeo.totalClusters]; exact hin, C.nosize, by rw [hgeo.accDate]; exact C.noacc,
   by rw [hgeo.clusterSize]; exact C.cs32, by rw [hgeo.clusterSize]; exact hu⟩

theorem ChainCore.toDir (C : ChainCore d f0 c0 chain) (hclean : ∀ e, f0.entry = some e → e.dirty = false) :
    ChainDir d f0 c0 chain :=
  ⟨C.failAt, C.geo, C.first, C.link, C.inTab, C.nosize, C.noacc, hclean, C.cs32, C.u32⟩

/-- … in particular after a step that keeps the decoded FAT -/
theorem ChainDir.of_tabView {d1 d2 : Dev} (C : ChainDir d1 f0 c0 chain) (hs : VolStep d1 d2)
    (htv : tabView d2.fs d2.img = tabView d1.fs d1.img) : ChainDir d2 f0 c0 chain :=
  (C.core.of_step hs.failAt hs.size hs.geom (by rw [htv]; exact C.link) C.inTab C.u32).toDir C.clean

/-- … or the first FAT copy -/
theorem ChainCore.of_agree {d' : Dev} (C : ChainCore d f0 c0 chain) (hfa : d'.failAt = d.failAt)
    (hsz : d'.img.size = d.img.size) (hgeo : FsGeomEq d.fs d'.fs) (hfat : FatAgree d.fs d.img d'.img) :
    ChainCore d' f0 c0 chain :=
  C.of_step hfa hsz hgeo (by rw [hgeo.tabView, tabView_congr C.geo hfat]; exact C.link) C.inTab C.u32

theorem ChainDir.of_agree {d' : Dev} (C : ChainDir d f0 c0 chain) (hfa : d'.failAt = d.failAt)
    (hsz : d'.img.size = d.img.size) (hgeo : FsGeomEq d.fs d'.fs) (hfat : FatAgree d.fs d.img d'.img) :
    ChainDir d' f0 c0 chain :=
  (C.core.of_agree hfa hsz hgeo hfat).toDir C.clean

/-! ### one `File::write` inside the allocated clusters -/

/-- the handle after `update_dir_entry_after_write` at clock `t`: the modification stamp of its entry (if it has one) -/
def stamped (f : FileH) (t : Nat) : FileH :=
  { f with entry := f.entry.map fun e => e.setModified (clockDateTime t) }

theorem stamped_none (f : FileH) (t : Nat) (h : f.entry = none) : stamped f t = f := by
  cases f with
  | mk a b c e =>
    simp only at h
    subst h
    rfl

/-- `update_dir_entry_after_write` on a size-less handle: its entry (if any) gets the modification stamp of the clock -/
theorem dirFile_afterWrite (hsz : f0.size? = none) (chain : List Nat) (cs o t : Nat) :
    (dirFile f0 chain cs o).afterWrite t = dirFile (stamped f0 t) chain cs o := by
  unfold FileH.afterWrite stamped dirFile
  cases he : f0.entry with
  | none => rfl
  | some e =>
    have hsz' : (e.setModified (clockDateTime t)).data.size? = none := by
      rw [size?_setModified]
      unfold FileH.size? at hsz
      rw [he] at hsz
      exact hsz
    simp only [Option.map_some, DirEntryEditor.afterWrite, hsz']

theorem ChainCore.dev42 (C : ChainCore d f0 c0 chain) : 0x42 ≤ d.img.size := by
  have := C.geo.status_lt
  have := C.geo.fat_dev
  omega

/-- a write behind the FAT keeps the chain -/
theorem ChainCore.of_writesTo {d' : Dev} {p : Nat} {bs : List Nat} (C : ChainCore d f0 c0 chain) (hw : WritesTo d d' p bs)
    (hwf : d.img.WF) (hp : d.fs.firstDataSector * d.fs.bps ≤ p) : ChainCore d' f0 c0 chain :=
  C.of_agree hw.step.failAt hw.step.size hw.step.geom (hw.fatAgree hwf C.geo hp)

/-- **one `File::write` on a cluster-chain directory, inside an allocated cluster**: the volume is marked dirty first,
    then all bytes go to the cluster; the handle's entry (if any) gets the modification stamp of the clock -/
theorem ChainCore.file_write (C : ChainCore d f0 c0 chain) (hwf : d.img.WF) (o : Nat)
    (bs : List Nat) (hne : bs ≠ []) (hroom : bs.length ≤ chainRoom d.fs chain o)
    (hfit : o + bs.length ≤ chain.length * d.fs.clusterSize) :
    ∃ d', run ((dirFile f0 chain d.fs.clusterSize o).write bs) d =
        (.ok (bs.length, dirFile (stamped f0 d.clock) chain d.fs.clusterSize (o + bs.length)), d') ∧
      WritesTo d d' (chainSrc d.fs chain o) bs ∧ ChainCore d' f0 c0 chain ∧ d'.img.WF := by
  have hcs := C.geo.cs_pos
  have hu := C.u32
  have hlen : 0 < bs.length := List.length_pos_iff.mpr hne
  have holt : o < chain.length * d.fs.clusterSize := by omega
  have hlt : o / d.fs.clusterSize < chain.length := div_lt_of_lt_mul hcs holt
  have hcur := List.getElem?_eq_getElem hlt
  obtain ⟨hc2, hct⟩ := C.inTab _ (List.getElem_mem hlt)
  have hdev := C.geo.cluster_dev hc2 hct
  have hmod := Nat.mod_lt o hcs
  have hsrc : chainSrc d.fs chain o = clusterOff d.fs chain[o / d.fs.clusterSize] + o % d.fs.clusterSize := by
    unfold chainSrc
    rw [List.getD_eq_getElem?_getD, hcur]; rfl
  have hp := chainSrc_ge d.fs chain o
  unfold chainRoom at hroom
  rw [if_pos holt] at hroom
  -- set_dirty_flag(true), the cluster, the device write
  obtain ⟨d1, h1, hw1, hd1⟩ := run_setDirty_writesTo d C.failAt C.dev42 (chainSrc d.fs chain o)
  have C1 := C.of_writesTo hw1 hwf hp
  have hcs1 : d1.fs.clusterSize = d.fs.clusterSize := hw1.step.geom.clusterSize
  obtain ⟨d2, h2, hs2⟩ := C1.curOpt o (by rw [hcs1]; omega)
  rw [hcs1, hcur] at h2
  have hw2 := writesTo_seek_write d2 (chainSrc d.fs chain o) bs (by rw [hs2.img, hw1.step.size, hsrc]; omega)
    (by rw [hs2.fs]; exact hd1)
  have hw : WritesTo d _ (chainSrc d.fs chain o) bs := (hw1.of_sameStore hs2).append hw2
  refine ⟨_, ?_, hw, C.of_writesTo hw hwf hp, hw.step.wf hwf⟩
  rw [run_write_of_sel _ _ bs hne (by show o % _ + _ ≤ _; omega) (by show o + _ < _; omega) h1 (run_selCluster_some _ _ h2)
      (by rw [hs2.failAt]; exact C1.failAt) (by rw [hs2.img, hw1.step.size]; exact C.geo) hc2 hct,
    show (dirFile f0 chain d.fs.clusterSize o).offset = o from rfl, ← hsrc, hs2.clock, hw1.step.clock,
    dirFile_advance hcs hcur hlen (by omega) chain, dirFile_afterWrite C.nosize]

/-! ### `File::seek` to a target inside the allocated space -/

/-- `ceil(x / cs) = (x - 1) / cs + 1` for `x > 0` -/
theorem ceil_div {x cs : Nat} (hcs : 0 < cs) (hx : 0 < x) : (x + cs - 1) / cs = (x - 1) / cs + 1 := by
  have : x + cs - 1 = (x - 1) + cs := by omega
  rw [this, Nat.add_div_right _ hcs]

/-- `File::seek` of a size-less handle, restated with `seekBody` (Proofs/FileSimSeek.lean) -/
theorem seek_eq_dir (f : FileH) (hsz : f.size? = none) (p : FatVerif.SeekFrom) :
    f.seek p = (Prog.getFs >>= fun fs =>
      match (match p with
        | .cur x => (if -9223372036854775808 ≤ (f.offset : Int) + x ∧ (f.offset : Int) + x ≤ 9223372036854775807
            then some ((f.offset : Int) + x) else none).bind
            (fun t => if 0 ≤ t ∧ t < 4294967296 then some t.toNat else none)
        | .start x => if x < 4294967296 then some x else none
        | .fromEnd _ => none) with
      | none => Prog.fail Err.invalidInput
      | some t => seekBody f fs t) := by
  unfold FileH.seek seekBody
  simp only [hsz]
  cases p <;> rfl

/-- the clamped part of `seek` on a chain-directory handle: from byte `o` to byte `t`, both inside the allocated space -/
theorem ChainCore.seekBody_sim (C : ChainCore d f0 c0 chain) (o t : Nat) (ho : o ≤ chain.length * d.fs.clusterSize)
    (ht : t ≤ chain.length * d.fs.clusterSize) :
    ∃ d1, run (seekBody (dirFile f0 chain d.fs.clusterSize o) d.fs t) d =
      (.ok (t, dirFile f0 chain d.fs.clusterSize t), d1) ∧ SameStore d d1 := by
  have hcs := C.geo.cs_pos
  have hu := C.u32
  have hoff : (dirFile f0 chain d.fs.clusterSize o).offset = o := rfl
  unfold seekBody
  rw [hoff]
  by_cases h1 : t = o
  · rw [if_pos h1, h1]; exact ⟨d, rfl, SameStore.refl d⟩
  rw [if_neg h1]
  by_cases h0 : t = 0
  · rw [if_pos h0, h0]
    exact ⟨d, rfl, SameStore.refl d⟩
  rw [if_neg h0]
  rw [clustersFromBytes_eq d.fs t hcs (by omega), clustersFromBytes_eq d.fs o hcs (by omega)]
  unfold Cursor.clustersFromBytes
  have htc := ceil_div hcs (show 0 < t by omega)
  have hcur_t : ∀ c, chain[(t - 1) / d.fs.clusterSize]? = some c →
      FileH.mk (some c0) (some c) t (dirFile f0 chain d.fs.clusterSize o).entry =
        dirFile f0 chain d.fs.clusterSize t := by
    intro c hc
    simp only [dirFile, if_neg h0, hc, C.first]
  by_cases hsame : (t + d.fs.clusterSize - 1) / d.fs.clusterSize = (o + d.fs.clusterSize - 1) / d.fs.clusterSize
  · rw [if_pos hsame]
    have ho0 : o ≠ 0 := by
      intro h; subst h
      have hz : (0 + d.fs.clusterSize - 1) / d.fs.clusterSize = 0 := by
        rw [Nat.zero_add]; exact Nat.div_eq_of_lt (by omega)
      rw [hz, htc] at hsame
      exact absurd hsame (Nat.succ_ne_zero _)
    have hoc := ceil_div hcs (show 0 < o by omega)
    have heq : (t - 1) / d.fs.clusterSize = (o - 1) / d.fs.clusterSize := by omega
    refine ⟨d, ?_, SameStore.refl d⟩
    have : ({ firstCluster := (dirFile f0 chain d.fs.clusterSize o).firstCluster,
              currentCluster := (dirFile f0 chain d.fs.clusterSize o).currentCluster, offset := t,
              entry := (dirFile f0 chain d.fs.clusterSize o).entry } : FileH) = dirFile f0 chain d.fs.clusterSize t := by
      simp only [dirFile, if_neg h0, if_neg ho0, heq]
    rw [← this]; rfl
  · rw [if_neg hsame]
    have hfirst : (dirFile f0 chain d.fs.clusterSize o).firstCluster = some c0 := C.first
    rw [hfirst]
    simp only
    have hidx : (t - 1) / d.fs.clusterSize < chain.length := div_lt_of_lt_mul hcs (by omega)
    obtain ⟨d1, c', h1', hget, hs1⟩ := run_seekWalk d.fs d.img chain c0 C.geo C.link (fun c hc => (C.inTab c hc).2)
      ((t + d.fs.clusterSize - 1) / d.fs.clusterSize + 1) { fat := fatSliceOf d.fs, cluster := some c0 } c0 0
      ((t + d.fs.clusterSize - 1) / d.fs.clusterSize - 1) t 0 d C.failAt rfl rfl rfl rfl (isFatSlice_self _) C.head
      (by rw [htc]; simp only [Nat.add_sub_cancel, Nat.sub_zero, Nat.zero_add]; exact hidx)
      (Nat.le_trans (Nat.sub_le _ _) (Nat.le_trans (Nat.sub_le _ _) (Nat.le_succ _)))
    rw [htc] at hget
    simp only [Nat.add_sub_cancel, Nat.zero_add, Nat.sub_zero] at hget
    refine ⟨d1, ?_, hs1⟩
    rw [run_bind_ok h1']
    simp only
    rw [hcur_t c' hget]
    rfl

/-- `seek(Current(-32))` after a slot -/
theorem ChainCore.seekBack (C : ChainCore d f0 c0 chain) (o : Nat) (hroom : o + 32 ≤ chain.length * d.fs.clusterSize) :
    ∃ d1, run ((dirFile f0 chain d.fs.clusterSize (o + 32)).seek (.cur (-32))) d =
      (.ok (o, dirFile f0 chain d.fs.clusterSize o), d1) ∧ SameStore d d1 := by
  have hu := C.u32
  obtain ⟨d1, h1, hs1⟩ := C.seekBody_sim (o + 32) o hroom (by omega)
  refine ⟨d1, ?_, hs1⟩
  rw [seek_eq_dir (dirFile f0 chain d.fs.clusterSize (o + 32)) C.nosize, run_bind_ok (run_getFs d)]
  have hoff : (dirFile f0 chain d.fs.clusterSize (o + 32)).offset = o + 32 := rfl
  have e1 : (((o + 32 : Nat) : Int) + (-32)) = (o : Int) := by omega
  have c1 : (-9223372036854775808 : Int) ≤ (o : Int) ∧ (o : Int) ≤ 9223372036854775807 := by omega
  have c2 : (0 : Int) ≤ (o : Int) ∧ (o : Int) < 4294967296 := by omega
  simp only [hoff, e1, c1, c2, and_self, if_true, Option.bind, Int.toNat_natCast]
  exact h1

/-- `seek(Start(t))` -/
theorem ChainCore.seekStart (C : ChainCore d f0 c0 chain) (o t : Nat) (ho : o ≤ chain.length * d.fs.clusterSize)
    (ht : t ≤ chain.length * d.fs.clusterSize) :
    ∃ d1, run ((dirFile f0 chain d.fs.clusterSize o).seek (.start t)) d =
      (.ok (t, dirFile f0 chain d.fs.clusterSize t), d1) ∧ SameStore d d1 := by
  have hu := C.u32
  obtain ⟨d1, h1, hs1⟩ := C.seekBody_sim o t ho ht
  refine ⟨d1, ?_, hs1⟩
  rw [seek_eq_dir (dirFile f0 chain d.fs.clusterSize o) C.nosize, run_bind_ok (run_getFs d)]
  simp only [show t < 4294967296 by omega, if_true]
  exact h1

end chain

end FatVerif.DirSim
