import FatVerif.Proofs.FatBytes
/-! Raw-level laws of the FAT codec: `getRaw ∘ setRaw`, the frame law (FAT12: the shared byte keeps the neighbour's
    nibble), FAT32 reserved bits, length preservation. -/
namespace FatVerif.Fat

/-! ### `|||` → `+` for disjoint fields -/

theorem pack12_even (c old raw : Nat) (hc : c % 2 = 0) (hr : raw < 4096) :
    pack12 c old raw = old / 4096 * 4096 + raw := by
  unfold pack12
  rw [if_pos hc, Nat.mod_eq_of_lt (by omega : raw < 65536)]
  have := Nat.two_pow_add_eq_or_of_lt (i := 12) (b := raw) (by omega) (old / 4096)
  rw [show (2:Nat)^12 = 4096 from rfl] at this
  rw [Nat.mul_comm (old / 4096) 4096, ← this]

theorem pack12_odd (c old raw : Nat) (hc : ¬ c % 2 = 0) (hr : raw < 4096) :
    pack12 c old raw = old % 16 + raw * 16 := by
  unfold pack12
  rw [if_neg hc, Nat.mod_eq_of_lt (by omega : raw < 65536), Nat.mod_eq_of_lt (by omega : raw * 16 < 65536)]
  have := Nat.two_pow_add_eq_or_of_lt (i := 4) (b := old % 16) (by omega) raw
  rw [show (2:Nat)^4 = 16 from rfl] at this
  rw [Nat.or_comm, Nat.mul_comm raw 16, ← this]; omega

theorem or_top28 (raw old : Nat) (hr : raw < 268435456) :
    raw ||| (old / 268435456 * 268435456) = old / 268435456 * 268435456 + raw := by
  have := Nat.two_pow_add_eq_or_of_lt (i := 28) (b := raw) (by omega) (old / 268435456)
  rw [show (2:Nat)^28 = 268435456 from rfl] at this
  rw [Nat.or_comm, Nat.mul_comm (old / 268435456) 268435456, ← this]

/-! ### a word written, then a word read: same place, disjoint places -/

theorem rd_wr16_outside {f : Array Nat} {o v j : Nat} (h : o + 2 ≤ f.size) (hj : j < o ∨ o + 2 ≤ j) :
    rd (wr16 f o v) j = rd f j := by
  rw [rd_wr16 _ _ _ _ h, if_neg (by omega), if_neg (by omega)]

theorem rd16_wr16_same {f : Array Nat} {o v : Nat} (h : o + 2 ≤ f.size) : rd16 (wr16 f o v) o = v % 65536 := by
  unfold rd16
  rw [rd_wr16 _ _ _ _ h, rd_wr16 _ _ _ _ h, if_pos rfl, if_neg (by omega), if_pos rfl]; omega

theorem rd16_wr16_disjoint {f : Array Nat} {o v o' : Nat} (h : o + 2 ≤ f.size) (hd : o' + 2 ≤ o ∨ o + 2 ≤ o') :
    rd16 (wr16 f o v) o' = rd16 f o' := by
  unfold rd16
  rw [rd_wr16_outside h (by omega), rd_wr16_outside h (by omega)]

theorem rd_wr32_outside {f : Array Nat} {o v j : Nat} (h : o + 4 ≤ f.size) (hj : j < o ∨ o + 4 ≤ j) :
    rd (wr32 f o v) j = rd f j := by
  rw [rd_wr32 _ _ _ _ h, if_neg (by omega), if_neg (by omega), if_neg (by omega), if_neg (by omega)]

theorem rd32_wr32_same {f : Array Nat} {o v : Nat} (h : o + 4 ≤ f.size) : rd32 (wr32 f o v) o = v % 4294967296 := by
  unfold rd32
  rw [rd_wr32 _ _ _ _ h, rd_wr32 _ _ _ _ h, rd_wr32 _ _ _ _ h, rd_wr32 _ _ _ _ h, if_pos rfl,
    if_neg (by omega), if_pos rfl, if_neg (by omega), if_neg (by omega), if_pos rfl,
    if_neg (by omega), if_neg (by omega), if_neg (by omega), if_pos rfl]
  omega

theorem rd32_wr32_disjoint {f : Array Nat} {o v o' : Nat} (h : o + 4 ≤ f.size) (hd : o' + 4 ≤ o ∨ o + 4 ≤ o') :
    rd32 (wr32 f o v) o' = rd32 f o' := by
  unfold rd32
  rw [rd_wr32_outside h (by omega), rd_wr32_outside h (by omega), rd_wr32_outside h (by omega),
    rd_wr32_outside h (by omega)]

/-! ### FAT16 -/

/-- what a successful `setRaw16` did -/
theorem setRaw16_ok {f f' : Array Nat} {c raw : Nat} (h : setRaw16 f c raw = .ok f') :
    c * 2 + 2 ≤ f.size ∧ c * 2 < u32Lim ∧ f' = wr16 f (c * 2) (raw % 65536) := by
  unfold setRaw16 at h
  split at h; · cases h
  split at h; · cases h
  exact ⟨by omega, by omega, (Except.ok.inj h).symm⟩

theorem setRaw16_size {f f' : Array Nat} {c raw : Nat} (h : setRaw16 f c raw = .ok f') : f'.size = f.size := by
  rw [(setRaw16_ok h).2.2]; exact size_wr16 _ _ _

theorem setRaw16_ok_iff (f : Array Nat) (c raw : Nat) :
    (∃ f', setRaw16 f c raw = .ok f') ↔ (c * 2 + 2 ≤ f.size ∧ c * 2 < u32Lim) := by
  constructor
  · rintro ⟨f', h⟩
    exact ⟨(setRaw16_ok h).1, (setRaw16_ok h).2.1⟩
  · rintro ⟨a, b⟩
    unfold setRaw16
    rw [if_neg (by omega), if_neg (by omega)]; exact ⟨_, rfl⟩

theorem getRaw16_set_same {f f' : Array Nat} {c raw : Nat} (h : setRaw16 f c raw = .ok f') :
    getRaw16 f' c = .ok (raw % 65536) := by
  obtain ⟨h1, h2, rfl⟩ := setRaw16_ok h
  unfold getRaw16
  rw [if_neg (by omega), if_neg (by rw [size_wr16]; omega), rd16_wr16_same h1, Nat.mod_mod]

theorem getRaw16_set_other {f f' : Array Nat} {c c' raw : Nat} (h : setRaw16 f c raw = .ok f') (hne : c' ≠ c) :
    getRaw16 f' c' = getRaw16 f c' := by
  obtain ⟨h1, h2, rfl⟩ := setRaw16_ok h
  unfold getRaw16
  rw [size_wr16, rd16_wr16_disjoint h1 (by omega)]

/-! ### FAT32 -/

theorem setRaw32_ok {f f' : Array Nat} {c raw : Nat} (h : setRaw32 f c raw = .ok f') :
    c * 4 + 4 ≤ f.size ∧ c * 4 < u32Lim ∧ f' = wr32 f (c * 4) raw := by
  unfold setRaw32 at h
  split at h; · cases h
  split at h; · cases h
  exact ⟨by omega, by omega, (Except.ok.inj h).symm⟩

theorem setRaw32_size {f f' : Array Nat} {c raw : Nat} (h : setRaw32 f c raw = .ok f') : f'.size = f.size := by
  rw [(setRaw32_ok h).2.2]; exact size_wr32 _ _ _

theorem getRaw32_set_same {f f' : Array Nat} {c raw : Nat} (h : setRaw32 f c raw = .ok f') :
    getRaw32 f' c = .ok (raw % 4294967296) := by
  obtain ⟨h1, h2, e⟩ := setRaw32_ok h
  unfold getRaw32
  rw [e, if_neg (by omega), if_neg (by rw [size_wr32]; omega), rd32_wr32_same h1]

theorem getRaw32_set_other {f f' : Array Nat} {c c' raw : Nat} (h : setRaw32 f c raw = .ok f') (hne : c' ≠ c) :
    getRaw32 f' c' = getRaw32 f c' := by
  obtain ⟨h1, h2, e⟩ := setRaw32_ok h
  unfold getRaw32
  rw [e, size_wr32, rd32_wr32_disjoint h1 (by omega)]

/-! ### FAT12 (parity split + nibble arithmetic) -/

theorem setRaw12_ok {f f' : Array Nat} {c raw : Nat} (h : setRaw12 f c raw = .ok f') :
    c + c / 2 + 2 ≤ f.size ∧ c + c / 2 < u32Lim ∧
      f' = wr16 f (c + c / 2) (pack12 c (rd16 f (c + c / 2)) raw) := by
  unfold setRaw12 at h
  split at h; · cases h
  split at h; · cases h
  exact ⟨by omega, by omega, (Except.ok.inj h).symm⟩

theorem setRaw12_size {f f' : Array Nat} {c raw : Nat} (h : setRaw12 f c raw = .ok f') : f'.size = f.size := by
  rw [(setRaw12_ok h).2.2]; exact size_wr16 _ _ _

theorem getRaw12_set_same {f f' : Array Nat} {c raw : Nat} (hf : WfBytes f) (hr : raw < 4096)
    (h : setRaw12 f c raw = .ok f') : getRaw12 f' c = .ok raw := by
  obtain ⟨h1, h2, rfl⟩ := setRaw12_ok h
  unfold getRaw12
  rw [if_neg (by omega), if_neg (by rw [size_wr16]; omega), rd16_wr16_same h1]
  have := rd16_lt f hf (c + c / 2)
  congr 1
  unfold val12
  by_cases hp : c % 2 = 0
  · rw [pack12_even _ _ _ hp hr, if_pos hp]; omega
  · rw [pack12_odd _ _ _ hp hr, if_neg hp]; omega

/-- Entries `2k` and `2k+1` share byte `3k+1`; any other pair of entries has disjoint words. In the shared byte each
    entry rewrites only its own nibble (`pack12` keeps the other one). -/
theorem val12_wr16_other {f : Array Nat} {c c' raw : Nat} (hf : WfBytes f) (hr : raw < 4096)
    (h1 : c + c / 2 + 2 ≤ f.size) (hne : c' ≠ c) :
    val12 c' (rd16 (wr16 f (c + c / 2) (pack12 c (rd16 f (c + c / 2)) raw)) (c' + c' / 2)) =
      val12 c' (rd16 f (c' + c' / 2)) := by
  have hcase : (c' + c' / 2 + 2 ≤ c + c / 2 ∨ c + c / 2 + 2 ≤ c' + c' / 2) ∨
      (c % 2 = 0 ∧ c' = c + 1) ∨ (c % 2 = 1 ∧ c = c' + 1) := by omega
  rcases hcase with hd | ⟨hp, rfl⟩ | ⟨hp, rfl⟩
  · rw [rd16_wr16_disjoint h1 hd]
  · -- `c = 2k`, `c' = 2k+1`: the word of `c'` starts at the second byte of the word written
    have e : c + 1 + (c + 1) / 2 = c + c / 2 + 1 := by omega
    rw [e, pack12_even _ _ _ hp hr]
    generalize c + c / 2 = o at *
    have b0 := hf o; have b1 := hf (o + 1); have b2 := hf (o + 2)
    unfold val12 rd16
    rw [if_neg (by omega), if_neg (by omega), rd_wr16 _ _ _ _ h1, rd_wr16 _ _ _ _ h1,
      if_neg (show ¬ o + 1 = o by omega), if_pos rfl, if_neg (show ¬ o + 1 + 1 = o by omega),
      if_neg (show ¬ o + 1 + 1 = o + 1 by omega)]
    omega
  · -- `c = 2k+1`, `c' = 2k`: the word of `c'` ends at the first byte of the word written
    have e : c' + 1 + (c' + 1) / 2 = c' + c' / 2 + 1 := by omega
    rw [e] at h1 ⊢
    rw [pack12_odd _ _ _ (by omega) hr]
    generalize c' + c' / 2 = o at *
    have b0 := hf o; have b1 := hf (o + 1); have b2 := hf (o + 2)
    unfold val12 rd16
    rw [if_pos (by omega), if_pos (by omega), rd_wr16 _ _ _ _ h1, rd_wr16 _ _ _ _ h1,
      if_neg (show ¬ o = o + 1 by omega), if_neg (show ¬ o = o + 1 + 1 by omega), if_pos rfl]
    omega

theorem getRaw12_set_other {f f' : Array Nat} {c c' raw : Nat} (hf : WfBytes f) (hr : raw < 4096)
    (h : setRaw12 f c raw = .ok f') (hne : c' ≠ c) : getRaw12 f' c' = getRaw12 f c' := by
  obtain ⟨h1, h2, rfl⟩ := setRaw12_ok h
  unfold getRaw12
  rw [size_wr16, val12_wr16_other hf hr h1 hne]

end FatVerif.Fat
