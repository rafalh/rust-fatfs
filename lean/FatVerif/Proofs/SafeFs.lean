import FatVerif.Proofs.SafeDir
import FatVerif.Model.Fs
/-! C09 and C12, structural descent: Model/Fs.lean. -/
namespace FatVerif

theorem readBootSector_safe : Safe readBootSector := by
  unfold readBootSector; safe [readChunks_safe, devStrm_ok]

theorem readFsInfoSector_safe : Safe readFsInfoSector := by
  unfold readFsInfoSector; safe [readU32_safe, readExact_safe, devStrm_ok]

/-- `mount` stores the state it builds from the boot sector: the one program that does not keep the geometry -/
theorem mount_ioSafe (strict accDate lfnAlloc unicode : Bool) : IoSafe (mount strict accDate lfnAlloc unicode) := by
  unfold mount
  refine IoSafe.bind _ _ (IoSafe.op _) (fun pos => ?_)
  split
  · exact IoSafe.fail _
  refine IoSafe.bind _ _ readBootSector_safe.io (fun bs => ?_)
  refine IoSafe.bind _ _ (liftE_safe _).io (fun _ => ?_)
  refine IoSafe.bind _ _ (liftE_safe _).io (fun g => ?_)
  refine IoSafe.bind _ _ ?_ (fun info => ?_)
  · split
    · exact IoSafe.bind _ _ (liftE_safe _).io (fun _ => IoSafe.bind _ _ (IoSafe.op _) (fun _ => readFsInfoSector_safe.io))
    · exact IoSafe.pure _
  refine IoSafe.bind _ _ (liftE_safe _).io (fun _ => ?_)
  exact IoSafe.bind _ _ (IoSafe.op _) (fun _ => IoSafe.pure _)

theorem flushFsInfo_safe : Safe flushFsInfo := by
  unfold flushFsInfo; safe [writeChunks_safe, devStrm_ok]

theorem unmountInternal_safe : Safe unmountInternal := by
  unfold unmountInternal; safe [flushFsInfo_safe, setDirtyFlag_safe]

theorem flushFsInfo_nonFatal : NonFatal flushFsInfo := by
  unfold flushFsInfo
  refine NonFatal.bind (NonFatal.op _) (fun fs => ?_)
  split
  · refine NonFatal.bind (NonFatal.op _) (fun _ => NonFatal.bind (writeChunks_dev_nonFatal _ _) (fun _ => ?_))
    exact NonFatal.bind (NonFatal.op _) (fun _ => NonFatal.op _)
  · exact NonFatal.pure _

theorem unmountInternal_dtor : Dtor unmountInternal :=
  ⟨NonFatal.bind flushFsInfo_nonFatal (fun _ => setDirtyFlag_nonFatal _), unmountInternal_safe.geo⟩

theorem dropFs_safe : Safe dropFs := Safe.inDrop unmountInternal_dtor

theorem unmount_safe : Safe unmount := Safe.finallyDrop _ _ unmountInternal_safe (fun _ => unmountInternal_dtor)

theorem stats_safe : Safe stats := by
  unfold stats; safe [Table.countFree_safe, DiskSlice.strm_ok]

theorem readStatusFlags_safe : Safe readStatusFlags := by
  unfold readStatusFlags; safe [Table.readFatFlags_safe, DiskSlice.strm_ok]

theorem readVolumeLabelFromRootDir_safe : Safe readVolumeLabelFromRootDir := by
  unfold readVolumeLabelFromRootDir; safe [thenDrop_safe, findVolumeEntry_safe]

theorem writeZerosUntilEndOfSector_safe (bps) : Safe (writeZerosUntilEndOfSector bps) := by
  unfold writeZerosUntilEndOfSector; safe [writeZeros_safe, devStrm_ok]

theorem writeBootSector_safe (boot) : Safe (writeBootSector boot) := by
  unfold writeBootSector; safe [writeChunks_safe, devStrm_ok]

theorem formatVolume_safe (o) : Safe (formatVolume o) := by
  unfold formatVolume
  safe [liftE_safe, writeBootSector_safe, writeZerosUntilEndOfSector_safe, writeZeros_safe, devStrm_ok,
    Table.formatFat_safe, Table.allocCluster_safe, DiskSlice.strm_ok, writeChunks_safe]

end FatVerif
