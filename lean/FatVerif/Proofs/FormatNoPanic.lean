import FatVerif.Proofs.FormatValid
import FatVerif.Proofs.FormatPow2
/-! The cluster-size heuristic never fails; `determine_fs_layout` as an equation (`determineFsLayout_eq`: the first allowed
    width that fits) and what a layout it returns satisfies (`determineFsLayout_ok_facts`: `Fitted`). -/
namespace FatVerif.Format

/-! ### the heuristic never panics -/

/-- the candidates for the unclamped cluster size, `next_power_of_two(total_bytes)` being `2^k`, that need no checked
    product; the two that do are put in front where the list is used -/
def rawVals (k : Nat) : List Nat :=
  [(2 ^ k / 1048576 * 512) % 4294967296, 1024, 2048, 512, 4096]

theorem rawVals_ok : ∀ k, k < 48 →
    (2 ^ k / (64 * 1048576)) % 4294967296 * 1024 < 4294967296 ∧
    (2 ^ k / (2 * 1073741824)) % 4294967296 * 1024 < 4294967296 ∧
    ∀ x ∈ (2 ^ k / (64 * 1048576)) % 4294967296 * 1024 :: (2 ^ k / (2 * 1073741824)) % 4294967296 * 1024 :: rawVals k,
      ∀ b ∈ [512, 1024, 2048, 4096, 8192, 16384, 32768], isPow2 (clampVal x b) = true := by
  decide +kernel

theorem rawBytesPerCluster_ok (tb k : Nat) (ft : FatType) (hk : k < 48) (hnp : nextPow2 tb = 2 ^ k) :
    ∃ x, rawBytesPerCluster tb ft = .ok x ∧
      x ∈ (2 ^ k / (64 * 1048576)) % 4294967296 * 1024 :: (2 ^ k / (2 * 1073741824)) % 4294967296 * 1024 :: rawVals k := by
  obtain ⟨h1, h2, _⟩ := rawVals_ok k hk
  cases ft <;> simp only [rawBytesPerCluster, hnp]
  · exact ⟨_, rfl, by simp [rawVals]⟩
  · split
    · exact ⟨_, rfl, by simp [rawVals]⟩
    · split
      · exact ⟨_, rfl, by simp [rawVals]⟩
      · rw [chkMul32_of_lt h1]; exact ⟨_, rfl, by simp⟩
  · split
    · exact ⟨_, rfl, by simp [rawVals]⟩
    · split
      · exact ⟨_, rfl, by simp [rawVals]⟩
      · rw [chkMul32_of_lt h2]; exact ⟨_, rfl, by simp⟩

theorem determineBytesPerCluster_total (tb bps : Nat) (ft : Option FatType) (htb : tb ≤ 2 ^ 47)
    (hb : bps ∈ [512, 1024, 2048, 4096, 8192, 16384, 32768]) :
    ∃ c, determineBytesPerCluster tb bps ft = .ok c := by
  obtain ⟨k, hk, hnp⟩ := nextPow2_lt tb htb
  obtain ⟨x, hx, hm⟩ := rawBytesPerCluster_ok tb k (ft.getD (estimateFatType tb)) hk hnp
  have hp := (rawVals_ok k hk).2.2 x hm bps hb
  unfold determineBytesPerCluster
  rw [hx, ebind_ok]
  unfold clampCluster
  rw [if_neg (by have := bps_bounds hb; omega), if_pos hp]
  exact ⟨_, rfl⟩

theorem total_bytes_le (t bps : Nat) (ht : t < 4294967296) (hb : bps ≤ 32768) : t * bps ≤ 2 ^ 47 :=
  Nat.le_trans (Nat.mul_le_mul (Nat.le_of_lt ht) hb) (by decide)

theorem effectiveBpc_total {o : FormatOpts} (hacc : Accepted o) (t : Nat) (ht : t < 4294967296) :
    ∃ c, effectiveBpc o t = .ok c := by
  unfold effectiveBpc
  split
  · exact ⟨_, rfl⟩
  · exact determineBytesPerCluster_total _ _ _ (total_bytes_le t o.bps ht (bps_bounds hacc.bps).2) hacc.bps

theorem isPow2_zero : isPow2 0 = false := by decide +kernel

/-! ### layouts -/

/-- `determine_fs_layout`: the cluster size given or guessed, in sectors (1 to 255), then the first allowed width that
    fits -/
theorem determineFsLayout_eq {o : FormatOpts} {t : Nat} (hacc : Accepted o) (ht : t < 4294967296) :
    determineFsLayout o t = effectiveBpc o t >>= fun c =>
      if c / o.bps = 0 ∨ 255 < c / o.bps then .error .invalidInput
      else firstFit t o.bps (c / o.bps) o.rootEntries o.fats (allowedTypes o.fatType) := by
  have hb := bps_bounds hacc.bps
  have hfats := hacc.fats
  unfold determineFsLayout
  cases effectiveBpc o t with
  | error e => rfl
  | ok c =>
    rw [ebind_ok, ebind_ok, chkDiv_of_ne (by omega), ebind_ok]
    by_cases h0 : c / o.bps = 0
    · rw [if_pos h0, if_pos (Or.inl h0)]
    · rw [if_neg h0]
      by_cases h255 : 255 < c / o.bps
      · rw [if_pos h255, if_pos (Or.inr h255)]
      · rw [if_neg h255, if_neg (not_or.2 ⟨h0, h255⟩),
          tryTypes_eq ht (by omega) (Nat.pos_of_ne_zero h0) (by omega) (by omega)]

/-- a layout returned by `determine_fs_layout` is `Fitted`: the FAT size is the rounded-up quotient (`layout_facts`),
    and a FAT of 12- or 16-bit entries for at most 65524 clusters fits the 16-bit field -/
theorem determineFsLayout_ok_facts {o : FormatOpts} {t : Nat} {L : FsLayout}
    (hacc : Accepted o) (ht : t < 4294967296) (h : determineFsLayout o t = .ok L) :
    L.reserved = reservedFor L.fatType ∧ Fitted o t L.fatType L.spf L.spc := by
  rw [determineFsLayout_eq hacc ht] at h
  obtain ⟨c, hc, h⟩ := ebind_eq_ok.mp h
  have hn : ¬ (c / o.bps = 0 ∨ 255 < c / o.bps) := fun hn => by rw [if_pos hn] at h; cases h
  rw [if_neg hn] at h
  obtain ⟨hmem, ⟨hnsmall, hfrom, hmax⟩, hLeq⟩ := firstFit_ok h
  have hb := bps_bounds hacc.bps
  have hfats := hacc.fats
  have hpos : c / o.bps ≠ 0 := fun h0 => hn (Or.inl h0)
  obtain ⟨hcs, hspcmem⟩ := effectiveBpc_facts hacc hc hpos
  have hspcmem := hspcmem (by omega)
  obtain ⟨hspf1, hcap, hfit, _, hcleq⟩ :=
    layout_facts (bps := o.bps) (fats := o.fats) ht (by omega) (Nat.pos_of_ne_zero hpos) (by omega) (by omega) hnsmall
  have hspf : L.spf = spfOf t o.bps (c / o.bps) L.fatType.bits (reservedFor L.fatType)
      (determineRootDirSectors o.rootEntries o.bps L.fatType) o.fats := by rw [hLeq]
  have hspc : L.spc = c / o.bps := by rw [hLeq]
  have h16 : L.fatType ≠ .fat32 → L.spf ≤ 65535 := fun hne => by
    have hft : L.fatType.bits ≤ 16 ∧ maxClusters L.fatType ≤ 65524 := by
      cases hft : L.fatType
      · decide
      · decide
      · exact absurd hft hne
    have := spfOf_le_of_clusters_le hspf ht (bits_pos _) hft.1 hb.1 (spc_bounds hspcmem).1 (by omega) (by omega)
      (Nat.lt_of_not_le hnsmall) (Nat.le_trans (hspf ▸ hmax) hft.2)
    omega
  rw [hcleq] at hfrom hmax hcap
  rw [← hspf] at hspf1 hcap hfit hfrom hmax
  rw [← hspc] at hspcmem hcs hcap hfrom hmax
  refine ⟨by rw [hLeq], hspcmem, hcs, hspf1, by rw [hspf]; unfold spfOf; omega, h16, fun w hw => ?_, hfit, hfrom, hmax,
    hcap⟩
  rw [hw] at hmem
  simp only [allowedTypes, List.mem_cons, List.mem_nil_iff, or_false] at hmem
  exact hmem.symm

end FatVerif.Format
