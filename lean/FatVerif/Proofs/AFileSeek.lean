import FatVerif.Proofs.AFileInv
import FatVerif.Proofs.AFileByteFile
import FatVerif.Proofs.AFileRead
/-! `File::seek` refines `ByteFile.seek`: the round-up shortcut and the walk from the first cluster both
    re-establish `current = chain[(offset − 1) / cs]`; the "chain ends before the new position" clamp is dead
    code under the invariant. -/
namespace FatVerif.Cursor

section
variable {σ : Type} {isFree : σ → Nat → Prop} {f : AFile} {s : σ}

/-- a seek that succeeded with position `new`: the offset is `new`, nothing else of the handle has changed -/
structure SeekPost (f : AFile) (new : Nat) (r : Except Err Nat × AFile) : Prop where
  res : r.1 = .ok new
  offset : r.2.offset = new
  cs : r.2.cs = f.cs
  chain : r.2.chain = f.chain
  data : r.2.data = f.data
  size : r.2.size = f.size
  first : r.2.firstCluster = f.firstCluster

theorem AFileInv.seekTo_post (h : AFileInv isFree f s) (new : Nat) (hn : new ≤ f.size) :
    SeekPost f new (f.seekTo new) ∧ AFileInv isFree (f.seekTo new).2 s := by
  have hcs := h.cs_pos
  unfold AFile.seekTo
  split
  next h1 => subst h1; exact ⟨⟨rfl, rfl, rfl, rfl, rfl, rfl, rfl⟩, h⟩
  split
  next h2 => subst h2; exact ⟨⟨rfl, rfl, rfl, rfl, rfl, rfl, rfl⟩, h.move rfl rfl rfl rfl hn rfl⟩
  next h2 =>
    have hnpos : 0 < new := Nat.pos_of_ne_zero h2
    split
    next h3 =>
      -- same cluster as before: `current` stays
      refine ⟨⟨rfl, rfl, rfl, rfl, rfl, rfl, rfl⟩, h.move rfl rfl rfl rfl hn ?_⟩
      have ho : f.offset ≠ 0 := by
        intro e
        rw [e, clustersFromBytes_zero hcs, clustersFromBytes_pos hcs hnpos] at h3
        exact Nat.succ_ne_zero _ h3
      rw [clustersFromBytes_pos hcs hnpos, clustersFromBytes_pos hcs (Nat.pos_of_ne_zero ho)] at h3
      show f.current = if new = 0 then none else f.chain[(new - 1) / f.cs]?
      rw [if_neg h2, Nat.add_right_cancel h3, h.cur, if_neg ho]
    split
    next first hf =>
      have h0 : f.chain[0]? = some first := by rw [← hf, h.first, List.head?_eq_getElem?]
      have hidx : (new - 1) / f.cs < f.chain.length := h.index_lt (by omega)
      obtain ⟨c', hc', hw⟩ := seekWalk_of_getElem? f.chain f.cs h.nodup ((new - 1) / f.cs) 0 first 0 new h0
        (by omega)
      rw [clustersFromBytes_pos hcs hnpos, Nat.add_sub_cancel, hw]
      refine ⟨⟨rfl, rfl, rfl, rfl, rfl, rfl, rfl⟩, h.move rfl rfl rfl rfl hn ?_⟩
      show some c' = if new = 0 then none else f.chain[(new - 1) / f.cs]?
      rw [if_neg h2, ← hc', Nat.zero_add]
    next hf =>
      -- empty chain, hence size 0, hence new = 0: impossible
      have hcov := h.cover
      rw [h.chain_nil hf] at hcov
      simp at hcov
      omega

/-- `i64::checked_add` followed by `u32::try_from` computes the sum when it lies in `[0, u32::MAX]` and fails
    otherwise -/
theorem addToU32_spec (base : Nat) (d : Int) :
    (AFile.addToU32 base d = none ∧ ((base : Int) + d < 0 ∨ (base : Int) + d > (u32Max : Int))) ∨
    (∃ t, AFile.addToU32 base d = some t ∧ ¬ ((base : Int) + d < 0 ∨ (base : Int) + d > (u32Max : Int)) ∧
      ((base : Int) + d).toNat = t) := by
  unfold AFile.addToU32 i64Max u32Max
  by_cases h1 : (base : Int) + d > 9223372036854775807
  · left; simp only [h1, if_true, true_and]; omega
  · simp only [h1, if_false]
    by_cases h2 : 0 ≤ (base : Int) + d ∧ (base : Int) + d ≤ ((4294967295 : Nat) : Int)
    · right; simp only [h2, and_self, if_true]
      exact ⟨_, rfl, by omega, rfl⟩
    · left; simp only [h2, if_false, true_and]; omega

/-- the model's target computation (`u32::try_from`, `i64::checked_add`) agrees with the specification's -/
theorem seekTarget_spec (f : AFile) (w : SeekFrom) :
    (f.seekTarget w = none ∧ (f.abs.seekTarget w < 0 ∨ f.abs.seekTarget w > (u32Max : Int))) ∨
    (∃ t, f.seekTarget w = some t ∧ ¬ (f.abs.seekTarget w < 0 ∨ f.abs.seekTarget w > (u32Max : Int)) ∧
      (f.abs.seekTarget w).toNat = t) := by
  cases w with
  | start n =>
    simp only [AFile.seekTarget, ByteFile.seekTarget]
    by_cases h : n ≤ u32Max
    · right; refine ⟨n, by simp [h], ?_, by simp⟩
      unfold u32Max at *; omega
    · left; refine ⟨by simp [h], ?_⟩
      unfold u32Max at *; omega
  | current d => exact addToU32_spec f.offset d
  | fromEnd d =>
    have := addToU32_spec f.size d
    simpa only [AFile.seekTarget, ByteFile.seekTarget, AFile.abs_content, AFile.content_length] using this

/-- `seek` with a target before the start or beyond 32 bits: `InvalidInput`, nothing changes -/
theorem seek_invalid (f : AFile) (w : SeekFrom)
    (hbad : f.abs.seekTarget w < 0 ∨ f.abs.seekTarget w > (u32Max : Int)) :
    f.seek w = (.error .invalidInput, f) := by
  rcases seekTarget_spec f w with ⟨hn, _⟩ | ⟨t, _, hok, _⟩
  · simp [AFile.seek, hn]
  · exact absurd hbad hok

/-- `seek` with a representable target: the position becomes `min target size` -/
theorem AFileInv.seek_valid (h : AFileInv isFree f s) (w : SeekFrom)
    (hok : ¬ (f.abs.seekTarget w < 0 ∨ f.abs.seekTarget w > (u32Max : Int))) :
    SeekPost f (min (f.abs.seekTarget w).toNat f.size) (f.seek w) ∧ AFileInv isFree (f.seek w).2 s := by
  rcases seekTarget_spec f w with ⟨_, hbad⟩ | ⟨t, ht, _, hte⟩
  · exact absurd hbad hok
  · have : (if t > f.size then f.size else t) = min (f.abs.seekTarget w).toNat f.size := by
      rw [hte]; split <;> omega
    simp only [AFile.seek, ht, this]
    exact h.seekTo_post _ (Nat.min_le_right _ _)

/-- whatever the target, `seek` keeps the invariant and the cluster size -/
theorem AFileInv.seek_inv (h : AFileInv isFree f s) (w : SeekFrom) :
    AFileInv isFree (f.seek w).2 s ∧ (f.seek w).2.cs = f.cs := by
  by_cases hbad : f.abs.seekTarget w < 0 ∨ f.abs.seekTarget w > (u32Max : Int)
  · rw [seek_invalid f w hbad]; exact ⟨h, rfl⟩
  · exact ⟨(h.seek_valid w hbad).2, (h.seek_valid w hbad).1.cs⟩

theorem SeekPost.content {f : AFile} {n : Nat} {r} (p : SeekPost f n r) : r.2.content = f.content :=
  content_congr p.cs p.chain p.data p.size

/-- refinement of `seek` -/
theorem AFileInv.seek_refines (h : AFileInv isFree f s) (w : SeekFrom) :
    (∃ p, (f.seek w).1 = .ok p ∧ ByteFile.check f.cs (.seek w) (.pos p) f.abs = .ok (f.seek w).2.abs) ∨
    ((f.seek w).1 = .error .invalidInput ∧ (f.seek w).2 = f ∧
      ByteFile.check f.cs (.seek w) (.err .invalidInput) f.abs = .ok f.abs) := by
  by_cases hbad : f.abs.seekTarget w < 0 ∨ f.abs.seekTarget w > (u32Max : Int)
  · right
    rw [seek_invalid f w hbad]
    refine ⟨rfl, rfl, ?_⟩
    simp [ByteFile.check, ByteFile.seek, hbad]
  · left
    obtain ⟨p, _⟩ := h.seek_valid w hbad
    refine ⟨_, p.res, ?_⟩
    simp only [ByteFile.check, ByteFile.seek, hbad, if_false, AFile.abs_content, AFile.content_length, if_true]
    congr 1
    simp only [AFile.abs, p.content, p.offset]

end
end FatVerif.Cursor
