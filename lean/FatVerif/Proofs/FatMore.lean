import FatVerif.Proofs.FatSpecEq
/-! Error shapes of `set`/`alloc`, NotEnoughSpace inversion, and view = specification decoder on sane tables. -/
namespace FatVerif.Fat
open FatVerif.FatSpec

theorem getRaw_err (ft : FatType) (f : Array Nat) (c : Nat) (e : Err) (h : getRaw ft f c = .error e) :
    e = .panic ∨ e = .eof := by
  cases ft <;> simp only [getRaw, getRaw12, getRaw16, getRaw32] at h <;>
    (split at h; · cases h; exact Or.inl rfl) <;> (split at h; · cases h; exact Or.inr rfl) <;> cases h

/-- `set` fails only with `panic`, `eof` (FAT12/32: the read of the old word) or `writeZero` -/
theorem set_err (ft : FatType) (f : Array Nat) (c : Nat) (v : FatValue) (e : Err) (h : set ft f c v = .error e) :
    e = .panic ∨ e = .eof ∨ e = .writeZero := by
  cases ft
  · simp only [set, setRaw12] at h
    split at h; · cases h; exact Or.inl rfl
    split at h; · cases h; exact Or.inr (Or.inl rfl)
    cases h
  · simp only [set, setRaw16] at h
    split at h; · cases h; exact Or.inl rfl
    split at h; · cases h; exact Or.inr (Or.inr rfl)
    cases h
  · simp only [set, set32] at h
    cases hg : getRaw32 f c with
    | error e' =>
      rw [hg] at h; cases h
      rcases getRaw_err .fat32 f c e hg with h | h
      · exact Or.inl h
      · exact Or.inr (Or.inl h)
    | ok old =>
      rw [hg] at h
      simp only at h
      split at h; · cases h; exact Or.inl rfl
      simp only [setRaw32] at h
      split at h; · cases h; exact Or.inl rfl
      split at h; · cases h; exact Or.inr (Or.inr rfl)
      cases h

theorem allocLink_err (ft : FatType) (f : Array Nat) (prev : Option Nat) (n : Nat) (e : Err)
    (h : (allocLink ft f prev n).out = .error e) : e ≠ .noSpace := by
  unfold allocLink at h
  cases h1 : set ft f n .eoc with
  | error e1 =>
    rw [h1] at h; simp only at h; cases h
    rcases set_err _ _ _ _ _ h1 with h | h | h <;> rw [h] <;> intro x <;> cases x
  | ok f1 =>
    rw [h1] at h; simp only at h
    unfold allocLinkPrev at h
    cases prev with
    | none => simp only at h; cases h
    | some p =>
      simp only at h
      cases h2 : set ft f1 p (.data n) with
      | error e2 =>
        rw [h2] at h; simp only at h; cases h
        rcases set_err _ _ _ _ _ h2 with h | h | h <;> rw [h] <;> intro x <;> cases x
      | ok f2 => rw [h2] at h; simp only at h; cases h

/-- NotEnoughSpace from `alloc_cluster` comes from the scans, i.e. from the view-level allocator -/
theorem allocCluster_noSpace_inv {ft : FatType} {f : Array Nat} {total : Nat} (ht : TableOk ft f total)
    (prev hint : Option Nat)
    (h : (allocCluster f ft prev hint total).out = .error .noSpace) :
    allocFindV (view ft f) hint total = none := by
  unfold allocCluster at h
  rw [if_neg (Nat.not_le.2 ht.lt_u32)] at h
  rw [allocFind_sim ht hint] at h
  cases hf : allocFindV (view ft f) hint total with
  | none => rfl
  | some c =>
    rw [hf] at h
    simp only [scanRes] at h
    exact absurd rfl (allocLink_err _ _ _ _ _ h)

theorem specClassify_free_iff (bits v : Nat) : specClassify bits v = .free ↔ v = 0 := by
  unfold specClassify
  constructor
  · intro h
    split at h
    · assumption
    · split at h
      · cases h
      · split at h <;> cases h
  · intro h; rw [if_pos h]

/-- on a sane table the view is the specification decoder -/
theorem view_spec {ft : FatType} {f : Array Nat} {total : Nat} (ht : TableOk ft f total) {c : Nat}
    (hc : c < total + 2) : view ft f c = specValue ft.bits f c := by
  unfold view
  rw [get_spec ft f ht.wf c (ht.plain hc)]

theorem countFreeV_spec {ft : FatType} {f : Array Nat} {total : Nat} (ht : TableOk ft f total) :
    countFreeV (view ft f) total = specCountFree ft.bits f total := by
  unfold countFreeV specCountFree
  apply List.countP_congr
  intro i hi
  have := List.mem_range.mp hi
  simp only [decide_eq_true_eq]
  rw [view_spec ht (by omega)]
  exact specClassify_free_iff _ _

end FatVerif.Fat
