import FatVerif.Proofs.FatViewLemmas
/-! The FAT-level structural invariant `FatWf` and its preservation by alloc / free / truncate. -/
namespace FatVerif.Fat

/-- FAT-level part of `Fsck`: every link stays inside `[2,total+2)` and points to an allocated (not free, not bad)
    entry; no two entries link to the same cluster (no cross-links / merges); the link relation is well-founded
    (`rank` decreases along links: no cycles). Together: the allocated entries form pairwise disjoint, acyclic
    chains, each entry lying on exactly one of them. -/
structure FatWf (g : Nat → FatValue) (total : Nat) : Prop where
  link_range : ∀ c n, g c = .data n → 2 ≤ n ∧ n < total + 2
  link_alloc : ∀ c n, g c = .data n → g n ≠ .free ∧ g n ≠ .bad
  no_cross : ∀ a b n, g a = .data n → g b = .data n → a = b
  acyclic : ∃ rank : Nat → Nat, ∀ c n, g c = .data n → rank n < rank c

/-- along a chain the rank does not increase beyond the head's -/
theorem chain_rank_le {g : Nat → FatValue} {rank : Nat → Nat} (hr : ∀ c n, g c = .data n → rank n < rank c)
    {c : Nat} {cs : List Nat} (h : Chain g c cs) : ∀ i, i ∈ cs → rank i ≤ rank c := by
  induction h with
  | last m _ => intro i hi; simp at hi; subst hi; exact Nat.le_refl _
  | cons m k ms hd _ ih =>
    intro i hi
    rcases List.mem_cons.mp hi with rfl | hi
    · exact Nat.le_refl _
    · have := ih i hi; have := hr m k hd; omega

/-- in a well-formed table every cluster starts a finite, duplicate-free chain -/
theorem chain_exists {g : Nat → FatValue} {total : Nat} (hw : FatWf g total) :
    ∀ c, ∃ cs, Chain g c cs ∧ cs.Nodup := by
  obtain ⟨rank, hr⟩ := hw.acyclic
  suffices ∀ k c, rank c ≤ k → ∃ cs, Chain g c cs ∧ cs.Nodup from fun c => this (rank c) c (Nat.le_refl _)
  intro k
  induction k with
  | zero =>
    intro c hc
    refine ⟨[c], Chain.last c ?_, by simp⟩
    intro n hd; have := hr c n hd; omega
  | succ k ih =>
    intro c hc
    cases hgc : g c with
    | data n =>
      have hlt := hr c n hgc
      obtain ⟨cs, hch, hnd⟩ := ih n (by omega)
      refine ⟨c :: cs, Chain.cons c n cs hgc hch, List.nodup_cons.mpr ⟨?_, hnd⟩⟩
      intro hmem
      have := chain_rank_le hr hch c hmem
      omega
    | free => exact ⟨[c], Chain.last c (by intro n h; rw [hgc] at h; cases h), by simp⟩
    | bad => exact ⟨[c], Chain.last c (by intro n h; rw [hgc] at h; cases h), by simp⟩
    | eoc => exact ⟨[c], Chain.last c (by intro n h; rw [hgc] at h; cases h), by simp⟩

/-- **alloc preserves the invariant**: `c` was free and in range, `prev` (if any) was the EOC-terminated tail of a
    chain. -/
theorem fatWf_alloc {g : Nat → FatValue} {total : Nat} (hw : FatWf g total) (prev : Option Nat) (c : Nat)
    (hc : g c = .free) (hc1 : 2 ≤ c) (hc2 : c < total + 2) (hp : ∀ p, prev = some p → g p = .eoc) :
    FatWf (allocLinkV g prev c) total := by
  obtain ⟨rank, hr⟩ := hw.acyclic
  cases prev with
  | none =>
    simp only [allocLinkV]
    have hlink : ∀ a n, updV g c .eoc a = .data n → g a = .data n := by
      intro a n h
      by_cases ha : a = c
      · subst ha; simp at h
      · rwa [updV_ne _ _ _ _ ha] at h
    refine ⟨fun a n h => hw.link_range a n (hlink a n h), ?_, fun a b n ha hb => hw.no_cross a b n (hlink a n ha)
      (hlink b n hb), ⟨rank, fun a n h => hr a n (hlink a n h)⟩⟩
    intro a n h
    have h' := hlink a n h
    have hn := hw.link_alloc a n h'
    have : n ≠ c := by intro e; subst e; exact hn.1 hc
    rw [updV_ne _ _ _ _ this]; exact hn
  | some p =>
    have hpe := hp p rfl
    have hpc : p ≠ c := by intro e; subst e; rw [hc] at hpe; cases hpe
    simp only [allocLinkV]
    have hlink : ∀ a n, updV (updV g c .eoc) p (.data c) a = .data n → (a = p ∧ n = c) ∨ (a ≠ p ∧ a ≠ c ∧ g a = .data n) := by
      intro a n h
      by_cases ha : a = p
      · subst ha; simp at h; exact Or.inl ⟨rfl, h.symm⟩
      · rw [updV_ne _ _ _ _ ha] at h
        by_cases hac : a = c
        · subst hac; simp at h
        · rw [updV_ne _ _ _ _ hac] at h; exact Or.inr ⟨ha, hac, h⟩
    refine ⟨?_, ?_, ?_, ⟨fun i => if i = c then 0 else rank i + 1, ?_⟩⟩
    · intro a n h
      rcases hlink a n h with ⟨_, rfl⟩ | ⟨_, _, h'⟩
      · exact ⟨hc1, hc2⟩
      · exact hw.link_range a n h'
    · intro a n h
      rcases hlink a n h with ⟨_, rfl⟩ | ⟨_, _, h'⟩
      · rw [updV_ne _ _ _ _ (Ne.symm hpc)]; simp
      · have hn := hw.link_alloc a n h'
        have hnc : n ≠ c := by intro e; subst e; exact hn.1 hc
        by_cases hnp : n = p
        · subst hnp; simp
        · rw [updV_ne _ _ _ _ hnp, updV_ne _ _ _ _ hnc]; exact hn
    · intro a b n ha hb
      rcases hlink a n ha with ⟨rfl, rfl⟩ | ⟨_, _, ha'⟩ <;> rcases hlink b _ hb with ⟨rfl, e⟩ | ⟨_, _, hb'⟩
      · rfl
      · exact absurd hc (hw.link_alloc b _ hb').1
      · subst e; exact absurd hc (hw.link_alloc a _ ha').1
      · exact hw.no_cross a b n ha' hb'
    · intro a n h
      rcases hlink a n h with ⟨rfl, rfl⟩ | ⟨_, hac, h'⟩
      · simp [hpc]
      · have hn := hw.link_alloc a n h'
        have hnc : n ≠ c := by intro e; subst e; exact hn.1 hc
        have := hr a n h'
        simp [hac, hnc]; omega

/-- **free preserves the invariant**: the freed chain starts at a head (no entry links to `c`) -/
theorem fatWf_free {g g' : Nat → FatValue} {total : Nat} (hw : FatWf g total) {c : Nat} {cs : List Nat}
    (hch : Chain g c cs) (hhead : ∀ a, g a ≠ .data c)
    (hfree : ∀ i, i ∈ cs → g' i = .free) (hsame : ∀ i, i ∉ cs → g' i = g i) : FatWf g' total := by
  obtain ⟨rank, hr⟩ := hw.acyclic
  have hlink : ∀ a n, g' a = .data n → a ∉ cs ∧ g a = .data n := by
    intro a n h
    by_cases ha : a ∈ cs
    · rw [hfree a ha] at h; cases h
    · rw [hsame a ha] at h; exact ⟨ha, h⟩
  refine ⟨fun a n h => hw.link_range a n (hlink a n h).2, ?_,
    fun a b n ha hb => hw.no_cross a b n (hlink a n ha).2 (hlink b n hb).2,
    ⟨rank, fun a n h => hr a n (hlink a n h).2⟩⟩
  intro a n h
  obtain ⟨ha, h'⟩ := hlink a n h
  have hn : n ∉ cs := by
    intro hmem
    rcases chain_pred hch n hmem with rfl | ⟨b, hb, hgb⟩
    · exact hhead a h'
    · have := hw.no_cross a b n h' hgb; subst this; exact ha hb
  rw [hsame n hn]; exact hw.link_alloc a n h'

/-- **truncate preserves the invariant**: `c` becomes the EOC tail, the rest of its chain is freed -/
theorem fatWf_truncate {g g' : Nat → FatValue} {total : Nat} (hw : FatWf g total) {c : Nat} {t : List Nat}
    (hch : Chain g c (c :: t)) (hc : g' c = .eoc)
    (hfree : ∀ i, i ∈ t → g' i = .free) (hsame : ∀ i, i ≠ c → i ∉ t → g' i = g i) : FatWf g' total := by
  obtain ⟨rank, hr⟩ := hw.acyclic
  have hnd := chain_nodup' hch
  have hct : c ∉ t := (List.nodup_cons.mp hnd).1
  have hlink : ∀ a n, g' a = .data n → a ≠ c ∧ a ∉ t ∧ g a = .data n := by
    intro a n h
    by_cases hac : a = c
    · subst hac; rw [hc] at h; cases h
    · by_cases ha : a ∈ t
      · rw [hfree a ha] at h; cases h
      · rw [hsame a hac ha] at h; exact ⟨hac, ha, h⟩
  refine ⟨fun a n h => hw.link_range a n (hlink a n h).2.2, ?_,
    fun a b n ha hb => hw.no_cross a b n (hlink a n ha).2.2 (hlink b n hb).2.2,
    ⟨rank, fun a n h => hr a n (hlink a n h).2.2⟩⟩
  intro a n h
  obtain ⟨hac, ha, h'⟩ := hlink a n h
  by_cases hnc : n = c
  · subst hnc; rw [hc]; constructor <;> intro e <;> cases e
  · have hn : n ∉ t := by
      intro hmem
      rcases chain_pred hch n (List.mem_cons_of_mem _ hmem) with e | ⟨b, hb, hgb⟩
      · exact hnc e
      · have := hw.no_cross a b n h' hgb; subst this
        rcases List.mem_cons.mp hb with e | hb
        · exact hac e
        · exact ha hb
    rw [hsame n hnc hn]; exact hw.link_alloc a n h'

end FatVerif.Fat
