import FatVerif.Proofs.ReadOnlyDir
/-! C13, read-only judgements of `mount`, `stats`, `unmount`/`Drop for FileSystem`. -/
namespace FatVerif

/-- status flags as read at mount (what `unmount` has to restore) -/
def FlagsClean (fs : FsState) : Prop := fs.curDirty = fs.bpbDirty ∧ fs.curIoErr = fs.bpbIoErr

theorem CleanFs.flags {fs : FsState} (h : CleanFs fs) : FlagsClean fs := ⟨h.1, h.2.1⟩

/-! ### `mount` -/

theorem readFsInfoSector_ro {fs0 : FsState} : RO fs0 readFsInfoSector (fun i => i.dirty = false) := by
  unfold readFsInfoSector
  ro [readU32_quiet, readExact_quiet, devStrm_quiet]

/-- `FileSystem::new` writes nothing; on success the mounted state is the returned one, it is clean, carries the
    `update_accessed_date` option it was given, and has no cached free count if the volume was marked dirty -/
theorem mount_nw {fs0 : FsState} (strict accDate lfnAlloc unicode : Bool) :
    NW fs0 (mount strict accDate lfnAlloc unicode)
      (fun fs fs1 => fs1 = fs ∧ CleanFs fs ∧ fs.accDate = accDate ∧ (fs.bpbDirty = true → fs.fsInfo.free = none)) := by
  unfold mount
  refine NW.bind_ro (RO.of_quiet (QuietOps.progSeek _)) (fun pos _ => ?_)
  split
  · exact NW.fail _
  refine NW.bind_ro (RO.of_quiet readBootSector_quiet) (fun bs _ => ?_)
  refine NW.bind_ro (RO.of_quiet (liftE_quiet _)) (fun _ _ => ?_)
  refine NW.bind_ro (RO.of_quiet (liftE_quiet _)) (fun g _ => ?_)
  refine NW.bind_ro (Q := fun i => i.dirty = false) ?_ (fun info hinfo => ?_)
  · split
    · refine RO.bind (RO.of_quiet (liftE_quiet _)) (fun off _ => ?_)
      refine RO.bind (RO.of_quiet (QuietOps.progSeekStart _)) (fun _ _ => ?_)
      exact readFsInfoSector_ro
    · exact RO.pure rfl
  try dsimp only
  refine NW.bind_ro (RO.of_quiet (liftE_quiet _)) (fun maxValid _ => ?_)
  try dsimp only
  refine NW.bind (NW.setFs _) ?_
  rintro _ fs1 rfl
  refine NW.pure ⟨rfl, ⟨rfl, rfl, ?_⟩, rfl, ?_⟩
  · dsimp only
    split <;> simp [hinfo]
  · dsimp only
    intro hd
    simp only [hd, if_true, FsInfo.fixFree]

/-! ### `stats` -/

/-- the mounted state after `stats`: unchanged, or — the documented exception, when no free count was cached — the
    count is now cached and the FS-info latch is set -/
def StatsStep (fs0 fs1 : FsState) : Prop :=
  fs1 = fs0 ∨ (fs0.fsInfo.free = none ∧ ∃ n, fs1 = { fs0 with fsInfo := { fs0.fsInfo with free := some n, dirty := true } })

theorem StatsStep.refl (fs : FsState) : StatsStep fs fs := Or.inl rfl

theorem StatsStep.trans {a b c : FsState} (h1 : StatsStep a b) (h2 : StatsStep b c) : StatsStep a c := by
  rcases h1 with h1 | ⟨h1, n, hn⟩
  · rw [← h1]; exact h2
  · rcases h2 with h2 | ⟨h2, _⟩
    · rw [h2]; exact Or.inr ⟨h1, n, hn⟩
    · rw [hn] at h2; simp at h2

/-- no write; the mounted state is unchanged or took the documented step: what `stats` does to a device, and so what a
    read-only session does -/
def StatsRel (d d' : Dev) : Prop := SameWrites d d' ∧ StatsStep d.fs d'.fs

theorem statsRel_ok : RelOK StatsRel :=
  ⟨fun d => ⟨.refl d, .refl _⟩, fun _ _ _ h1 h2 => ⟨h1.1.trans h2.1, h1.2.trans h2.2⟩,
   fun d n => ⟨sameWrites_depth d n, .refl _⟩⟩

/-- every run of `stats` on a volume mounted as `fs0`, walked through once -/
theorem stats_tri (fs0 : FsState) : Tri StatsRel (fun d => d.fs = fs0) stats (fun _ _ => True) := by
  have hR := statsRel_ok
  unfold stats
  refine Tri.bindGetFs (F := fun fs => fs = fs0) (fun _ h => h) (fun fs hfs => ?_)
  subst hfs
  refine Tri.bind hR (Q := fun _ _ => True) ?_ (fun free => Tri.pure hR (fun _ _ => trivial))
  split
  · exact Tri.pure hR (fun _ _ => trivial)
  · rename_i hfree
    refine Tri.bind hR (Q := fun _ d => d.fs = fs) ⟨fun d r d' hp hr => ?_⟩ ?_
    · have a := ((Table.countFree_quiet _ DiskSlice.strm_quiet _ _ _).tri.out d r d' trivial hr).1
      exact ⟨⟨a.1, Or.inl a.2.1⟩, fun _ _ => a.2.1.trans hp⟩
    · rintro ⟨n, _⟩
      dsimp only
      refine Tri.bind hR (Q := fun _ _ => True) ⟨fun d _ _ hp hr => ?_⟩ (fun _ => Tri.pure hR (fun _ _ => trivial))
      rw [run_modifyFs] at hr; cases hr
      exact ⟨⟨⟨rfl, rfl⟩, Or.inr ⟨by rw [hp]; exact hfree, n, rfl⟩⟩, fun _ _ => trivial⟩

theorem stats_nw {fs0 : FsState} : NW fs0 stats (fun _ fs1 => StatsStep fs0 fs1) :=
  ⟨fun d r d' hfs hr => let a := ((stats_tri fs0).out d r d' hfs hr).1; ⟨a.1, fun _ _ => hfs ▸ a.2⟩⟩

/-! ### `unmount` from a clean state -/

theorem flushFsInfo_clean_ro {fs0 : FsState} (h : fs0.fsInfo.dirty = false) : RO fs0 flushFsInfo (fun _ => True) := by
  unfold flushFsInfo
  refine RO.bind RO.getFs (fun fs hfs => ?_)
  subst hfs
  split
  · rename_i hc; simp [h] at hc
  · exact RO.pure trivial

theorem setDirtyFlag_false_clean_ro {fs0 : FsState} (h : FlagsClean fs0) : RO fs0 (setDirtyFlag false) (fun _ => True) := by
  unfold setDirtyFlag
  refine RO.bind RO.getFs (fun fs hfs => ?_)
  subst hfs
  try dsimp only
  split
  · exact RO.pure trivial
  · rename_i hc
    exfalso; apply hc
    simp [h.1, h.2]

theorem unmountInternal_clean_ro {fs0 : FsState} (h : CleanFs fs0) : RO fs0 unmountInternal (fun _ => True) := by
  unfold unmountInternal
  exact RO.bind (flushFsInfo_clean_ro h.2.2) (fun _ _ => setDirtyFlag_false_clean_ro h.flags)

/-- `FileSystem::unmount` on a clean file system writes nothing -/
theorem unmount_clean_ro {fs0 : FsState} (h : CleanFs fs0) : RO fs0 unmount (fun _ => True) := by
  unfold unmount
  exact RO.finallyDrop (unmountInternal_clean_ro h) (fun _ _ => unmountInternal_clean_ro h) (unmountInternal_clean_ro h)

/-- `impl Drop for FileSystem` on a clean file system writes nothing -/
theorem dropFs_clean_ro {fs0 : FsState} (h : CleanFs fs0) : RO fs0 dropFs (fun _ => True) :=
  inDrop_ro (unmountInternal_clean_ro h)

end FatVerif
