import FatVerif.Proofs.FaultRun
import FatVerif.Proofs.DirCreate
import FatVerif.Proofs.DirRename
import FatVerif.Proofs.DirWriteFail
import FatVerif.Proofs.SafeApi
import FatVerif.Proofs.ReadOnlyDir
/-! `write_entry`, `create_file` and `rename` on a writable directory (`WFam`/`WOps`, `WView`) when the scheduled fault
    may fire at any device call. Up to the fault the run is the fault-free one; a slot write hit by the fault leaves the
    directory writable (`FaultKeeps`, the obligation of each kind of directory), so the roll-back `free_written_entries`
    run after the fault SUCCEEDS and the I/O error is returned — the residual case of C09 (`EntryRollbackX`) cannot
    happen. Where `find_free_entries` only reads (clean handle, access dates off) the directory is still writable on the
    device `write_entry` ends on. Names: `…_armed` speaks of a run on a device whose fault may still fire, `…_fo` concludes
    a `FaultOutcomeOf` (`…_foX`, Proofs/FaultCreateDir: up to a tolerated error `X`). -/
namespace FatVerif

namespace DirStream

theorem seek_quiet (st : DirStream) (p : SeekFrom) : QuietOps (st.seek p) := by
  cases st with
  | file f => simp only [seek]; quiet [FileH.seek_quiet]
  | root s => simp only [seek]; quiet [DiskSlice.seek_quiet]

end DirStream

section ro
variable {fs0 : FsState} (hacc : fs0.accDate = false)
include hacc

theorem findFreeLoop_ro (num : Nat) : ∀ fuel st firstFree numFree i, CleanStream st →
    RO fs0 (findFreeLoop num fuel st firstFree numFree i) CleanStream := by
  intro fuel
  induction fuel with
  | zero => intros; unfold findFreeLoop; exact RO.fail _
  | succ k ih =>
    intro st firstFree numFree i hst
    unfold findFreeLoop
    refine RO.bind (readSlot_ro hacc hst) ?_
    rintro ⟨raw, st'⟩ hst'
    dsimp only
    split
    · refine RO.bind (DirStream.seek_ro hst' _) ?_
      rintro ⟨_, st2⟩ hst2
      exact RO.pure hst2
    · split
      · split
        · refine RO.bind (DirStream.seek_ro hst' _) ?_
          rintro ⟨_, st2⟩ hst2
          exact RO.pure hst2
        · exact ih _ _ _ _ hst'
      · exact ih _ _ _ _ hst'

theorem findFreeEntries_ro {d : DirStream} (hd : CleanStream d) (num : Nat) :
    RO fs0 (findFreeEntries d num) CleanStream := by
  unfold findFreeEntries
  refine RO.bind RO.getFs (fun fs _ => ?_)
  refine RO.finallyDrop (findFreeLoop_ro hacc num _ _ _ _ _ hd) (fun a _ => RO.pure trivial) ?_
  exact DirStream.dropBody_clean_ro hd

end ro

/-- `let (pos, st) ← st0.seek(Current(0))` with the clone dropped on failure, on a clean stream -/
theorem seekCur_ro {fs0 : FsState} {st0 : DirStream} (h0 : CleanStream st0) :
    RO fs0 (Prog.finallyDrop (st0.seek (.cur 0)) (fun r =>
      match r with
      | some _ => pure ()
      | none => st0.dropBody)) (fun r => CleanStream r.2) :=
  RO.finallyDrop (DirStream.seek_ro h0 _) (fun _ _ => RO.pure trivial) (DirStream.dropBody_clean_ro h0)

end FatVerif

namespace FatVerif.DirSim
open FatVerif.FileSim DirEntryData DirAlias

/-! ### a step that did not fire the fault did what it does on the disarmed device -/

theorem Reads.unfired {α} {p : Prog α} {d d1 : Dev} {v b : α} (h : Reads p d.disarm v) (hd : d.fault = none)
    (h1 : run p d = (.ok b, d1)) (hf1 : d1.fault = none) : b = v ∧ SameVol d.disarm d1.disarm := by
  obtain ⟨dg, hg, hs⟩ := h
  cases (run_disarm p d h1 hd hf1).symm.trans hg
  exact ⟨rfl, hs⟩

theorem Outcome.unfired {α β} {p : Prog β} {d d1 : Dev} {f : α → β} {res : Except Err α} {b : β}
    (h : Outcome p d.disarm f res) (hd : d.fault = none) (h1 : run p d = (.ok b, d1)) (hf1 : d1.fault = none) :
    ∃ v, res = .ok v ∧ b = f v ∧ SameVol d.disarm d1.disarm := by
  cases res with
  | ok v => exact ⟨v, rfl, Reads.unfired h hd h1 hf1⟩
  | error e =>
    obtain ⟨dg, hg, _⟩ := h
    cases (run_disarm p d h1 hd hf1).symm.trans hg

/-- a slot write hit by the fault leaves a device satisfying `Q` (`P`: the streams this is claimed for) -/
def FaultKeepsQ (Inv Q : Dev → Prop) (P : DirStream → Prop) : Prop :=
  ∀ (d1 d2 : Dev) (st : DirStream) (e : DirEntryData) (r : Except Err DirStream), P st → e.serialize.length = 32 →
    d1.fault = none → Inv d1.disarm → run (writeSlot st e) d1 = (r, d2) → d2.fault ≠ none →
    (∀ f, d2.fault = some f → f.inDrop = false) → Q d2

/-- a slot write hit by the fault leaves the directory writable -/
def FaultKeeps (Inv : Dev → Prop) (P : DirStream → Prop) : Prop := FaultKeepsQ Inv Inv P

section generic
variable {Inv : Dev → Prop} {F G : Nat → DirStream} {N : Nat} {src room : Nat → Nat} {Extra : Nat → Prop}
  {DropPost : Img → Img → Prop}

/-- one slot write on a device whose fault may still fire: the write of the disarmed device, or the fault fired — inside
    a destructor, or the I/O error is returned and `Q` holds -/
theorem writeSlot_armed {X : Nat → DirStream} (WX : WFam Inv X G N src room) (WG : WFam Inv G G N src room)
    {P : DirStream → Prop} {Q : Dev → Prop} (hFK : FaultKeepsQ Inv Q P) {o : Nat} (ho : o % 32 = 0)
    (hroom : o + 32 ≤ 32 * N) (hP : P (X o)) (e : DirEntryData) (hl : e.serialize.length = 32) {dq : Dev}
    (hf : dq.fault = none) (hinv : Inv dq.disarm) {rw d1} (hw : run (writeSlot (X o) e) dq = (rw, d1)) :
    (d1.fault = none ∧ rw = .ok (G (o + 32)) ∧ Inv d1.disarm) ∨
    ∃ f, d1.fault = some f ∧ d1.failAt = none ∧ (f.inDrop = true ∨ (rw = .error (.io f.k) ∧ Q d1)) := by
  by_cases hf1 : d1.fault = none
  · obtain ⟨dg, hg, _, hi⟩ := WX.writeSlot WG o ho e hl dq.disarm hinv hroom
    cases (run_disarm _ dq hw hf hf1).symm.trans hg
    exact Or.inl ⟨hf1, rfl, hi⟩
  · rcases ioSafe_propagates (writeSlot_safe (X o) e).io dq hf _ _ hw with h0 | ⟨hfa, f, hff, him⟩
    · exact absurd h0 hf1
    · refine Or.inr ⟨f, hff, hfa, ?_⟩
      cases hdrop : f.inDrop with
      | true => exact Or.inl rfl
      | false =>
        cases rw with
        | ok a => cases him hdrop
        | error e' =>
          cases him hdrop
          exact Or.inr ⟨rfl, hFK dq d1 _ e _ hP hl hf hinv hw hf1 (fun f' h' => by cases hff.symm.trans h'; exact hdrop)⟩

/-- what `writeSlotsKeep es (X (32 q))` does on a device whose fault may still fire: all slots written as on the
    disarmed device, or the fault fired — inside a destructor, or at slot `j`: then the I/O error is carried, the stream
    is the one before slot `j`, and `Q` holds -/
theorem writeSlotsKeep_armed (WG : WFam Inv G G N src room) {P : DirStream → Prop} {Q : Dev → Prop}
    (hFK : FaultKeepsQ Inv Q P) (hPG : ∀ q, q + 1 ≤ N → P (G (32 * q))) :
    ∀ (es : List DirEntryData) (X : Nat → DirStream), WFam Inv X G N src room → (∀ q, q + 1 ≤ N → P (X (32 * q))) →
    ∀ (q : Nat) (dq : Dev), dq.fault = none → Inv dq.disarm → (∀ e ∈ es, e.serialize.length = 32) → q + es.length ≤ N →
    ∀ r d', run (writeSlotsKeep es (X (32 * q))) dq = (r, d') →
    (d'.fault = none ∧ r = .ok (none, if es = [] then X (32 * q) else G (32 * (q + es.length))) ∧ Inv d'.disarm) ∨
    (∃ f, d'.fault = some f ∧ d'.failAt = none ∧ (f.inDrop = true ∨
      ∃ j, j < es.length ∧ r = .ok (some (.io f.k), if j = 0 then X (32 * q) else G (32 * (q + j))) ∧ Q d')) := by
  intro es
  induction es with
  | nil =>
    intro X _ _ q dq hf hinv _ _ r d' hr
    cases hr
    exact Or.inl ⟨hf, rfl, hinv⟩
  | cons e rest ih =>
    intro X WX hPX q dq hf hinv hes hle r d' hr
    simp only [List.length_cons] at hle
    unfold writeSlotsKeep at hr
    rcases hw : run (writeSlot (X (32 * q)) e) dq with ⟨rw, d1⟩
    have hatt := run_attempt (writeSlot (X (32 * q)) e) dq
    rw [hw] at hatt
    rcases writeSlot_armed WX WG hFK (by omega) (by omega) (hPX q (by omega)) e (hes e (List.mem_cons_self ..)) hf hinv
      hw with ⟨hf1, rfl, hinv1⟩ | ⟨f, hff, hfa, hcase⟩
    · -- the slot is written: the remaining ones go through `G`
      rw [run_bind_ok hatt, show 32 * q + 32 = 32 * (q + 1) by omega] at hr
      rcases ih G WG hPG (q + 1) d1 hf1 hinv1 (fun e' he' => hes e' (List.mem_cons_of_mem _ he')) (by omega) r d' hr with
        ⟨h1, h2, h3⟩ | ⟨f, h1, h2, h3⟩
      · refine Or.inl ⟨h1, ?_, h3⟩
        rw [h2, if_neg (List.cons_ne_nil _ _), List.length_cons]
        split
        · rename_i hnil; rw [hnil]; rfl
        · rw [show q + 1 + rest.length = q + (rest.length + 1) by omega]
      · refine Or.inr ⟨f, h1, h2, h3.imp_right fun ⟨j, hj, hr', hq⟩ => ⟨j + 1, Nat.succ_lt_succ hj, ?_, hq⟩⟩
        rw [hr', if_neg (Nat.succ_ne_zero j)]
        split
        · rename_i hj0; rw [hj0]
        · rw [show q + 1 + j = q + (j + 1) by omega]
    · -- the fault fired inside this slot write
      right
      cases rw with
      | ok a =>
        rw [run_bind_ok hatt] at hr
        have hkept := fault_kept _ d1 hr hfa
        exact ⟨f, hkept.1.trans hff, hkept.2, Or.inl (hcase.resolve_right fun h => nomatch h.1)⟩
      | error e' =>
        simp only at hatt
        split at hatt
        · rename_i hfat
          rw [run_bind_error hatt] at hr
          cases hr
          refine ⟨f, hff, hfa, Or.inl (hcase.resolve_right fun h => ?_)⟩
          cases h.1
          cases hfat
        · rw [run_bind_ok hatt] at hr
          cases hr
          exact ⟨f, hff, hfa, hcase.imp_right fun h => ⟨0, Nat.succ_pos _, by cases h.1; rfl, h.2⟩⟩

/-- `seek(Start(t))` stays inside the family `G` -/
def SeekG (Inv : Dev → Prop) (G : Nat → DirStream) (N : Nat) : Prop :=
  ∀ d, Inv d → ∀ o t, o ≤ 32 * N → t ≤ 32 * N → ∃ d1, run ((G o).seek (.start t)) d = (.ok (t, G t), d1) ∧ SameVol d d1

theorem SeekG.of_wops (O : WOps Inv G G N src room Extra DropPost) : SeekG Inv G N :=
  fun d h o t ho ht => O.seekStartF d h d (SameVol.refl d) o t ho ht

theorem freeWrittenLoop_none (fuel : Nat) (st : DirStream) (pos : Nat) (d : Dev) :
    run (freeWrittenLoop fuel st pos pos) d = (.ok st, d) := by
  cases fuel with
  | zero => rfl
  | succ k =>
    unfold freeWrittenLoop
    rw [if_neg (Nat.lt_irrefl _)]
    rfl

/-- **the loop of `free_written_entries` on a writable directory**: `n` slots from `pos` on get the deleted mark -/
theorem freeWrittenLoop_ok (IO : InvOK Inv) (WG : WFam Inv G G N src room) (hS : SeekG Inv G N) :
    ∀ (n fuel o pos : Nat) (d : Dev), Inv d → n ≤ fuel → pos % 32 = 0 → pos + 32 * n ≤ 32 * N → o ≤ 32 * N →
    ∃ d' st', run (freeWrittenLoop fuel (G o) pos (pos + 32 * n)) d = (.ok st', d') ∧ Inv d' ∧ VolStep d d' ∧
      (∀ q, 0x42 ≤ q → (∀ i, i < n → q ≠ src (pos + 32 * i)) → d'.img.getByte q = d.img.getByte q) := by
  intro n
  induction n with
  | zero =>
    intro fuel o pos d hi _ _ _ _
    exact ⟨d, G o, by rw [Nat.mul_zero, Nat.add_zero]; exact freeWrittenLoop_none _ _ _ _, hi,
      VolStep.of_sameVol (SameVol.refl d), fun _ _ _ => rfl⟩
  | succ n ih =>
    intro fuel o pos d hi hfu hpos hend ho
    obtain ⟨k, rfl⟩ : ∃ k, fuel = k + 1 := ⟨fuel - 1, by omega⟩
    obtain ⟨d1, h1, hs1⟩ := hS d hi o pos ho (by omega)
    have hi1 := IO.vol d d1 hi hs1 (run_clock _ _ _ _ h1)
    have hr32 := (WG.rd d1 hi1).room_slot pos hpos (by omega)
    obtain ⟨d2, h2, hw2, hi2⟩ := WG.writeAll d1 hi1 pos [0xE5] (by simp) (by simp only [List.length_singleton]; omega)
      (by simp only [List.length_singleton]; omega)
    simp only [List.length_singleton] at h2
    obtain ⟨d3, st3, h3, hi3, hs3, hfr3⟩ := ih k (pos + 1) (pos + 32) d2 hi2 (by omega) (by omega) (by omega) (by omega)
    refine ⟨d3, st3, ?_, hi3, ((VolStep.of_sameVol hs1).trans (VolStep.of_devStep hw2.step)).trans hs3, ?_⟩
    · unfold freeWrittenLoop
      rw [if_pos (by omega), run_bind_ok h1]
      simp only
      rw [run_bind_ok h2]
      rw [show pos + 32 * (n + 1) = pos + 32 + 32 * n by omega]
      exact h3
    · intro q hq hne
      rw [hfr3 q hq (fun i hi' => by
        have := hne (i + 1) (by omega)
        rwa [show pos + 32 * (i + 1) = pos + 32 + 32 * i by omega] at this)]
      rw [hw2.bytes (IO.wf d1 hi1) q hq]
      unfold putBytes
      rw [if_neg (by
        simp only [List.length_singleton]
        have := hne 0 (by omega)
        rw [Nat.mul_zero, Nat.add_zero] at this
        omega), hs1.img]

/-- **`free_written_entries` succeeds** on a device on which the directory is writable, from the stream the failed
    `writeSlotsKeep` returned: `Y` positioned at slot `q + j` (a state of `G` unless `j = 0`: then only the position is
    asked for), the entry having started at slot `q` -/
theorem freeWrittenEntries_ok (IO : InvOK Inv) (WG : WFam Inv G G N src room) (hS : SeekG Inv G N)
    (Y : DirStream) (q j : Nat) (hY : j ≠ 0 → Y = G (32 * (q + j))) (hle : q + j ≤ N) (d : Dev) (hi : Inv d)
    (hcur : ∃ d1, run (Y.seek (.cur 0)) d = (.ok (32 * (q + j), Y), d1) ∧ SameVol d d1) :
    ∃ d', run (freeWrittenEntries Y (32 * q)) d = (.ok (), d') ∧ Inv d' ∧ VolStep d d' ∧
      (∀ p, 0x42 ≤ p → (∀ i, i < j → p ≠ src (32 * q + 32 * i)) → d'.img.getByte p = d.img.getByte p) := by
  obtain ⟨d1, h1, hs1⟩ := hcur
  have hi1 := IO.vol d d1 hi hs1 (run_clock _ _ _ _ h1)
  by_cases hj : j = 0
  · subst hj
    refine ⟨d1, ?_, hi1, VolStep.of_sameVol hs1, fun p _ _ => by rw [hs1.img]⟩
    unfold freeWrittenEntries
    rw [run_bind_ok h1]
    simp only [Nat.add_zero]
    rw [run_bind_ok (freeWrittenLoop_none _ _ _ _)]
    rfl
  · have hYG := hY hj
    obtain ⟨d2, st2, h2, hi2, hs2, hfr2⟩ := freeWrittenLoop_ok IO WG hS j ((32 * (q + j) - 32 * q) / 32 + 2) (32 * (q + j))
      (32 * q) d1 hi1 (by omega) (by omega) (by omega) (by omega)
    refine ⟨d2, ?_, hi2, (VolStep.of_sameVol hs1).trans hs2, fun p hp hne => by rw [hfr2 p hp hne, hs1.img]⟩
    unfold freeWrittenEntries
    rw [run_bind_ok h1]
    simp only
    rw [hYG, show 32 * (q + j) = 32 * q + 32 * j by omega] at *
    rw [run_bind_ok h2]
    rfl

/-- a read-only step that ends with the fault fired leaves the invariant -/
theorem inv_of_ro (IO : InvOK Inv) {d d' : Dev} (hd : d.fault = none) (hinv : Inv d.disarm) {α} {p : Prog α}
    {Post : α → Prop} (hp : RO d.fs p Post) {r} (h : run p d = (r, d')) (hf : d'.fault ≠ none) : Inv d' := by
  obtain ⟨hsw, hfs, _⟩ := hp.out d r d' rfl h
  exact IO.vol d.disarm d' hinv ⟨hsw.1, hfs, spent_of_fired hd h hf, hsw.2⟩ (run_clock _ d _ _ h)

/-- a quiet step that ends with the fault fired: the volume is the one before -/
theorem sameVol_of_quiet {α} {p : Prog α} (hp : QuietOps p) {d dq : Dev} {r} (hb : run p d = (r, dq))
    (hfa : dq.failAt = none) : SameVol d.disarm dq :=
  ⟨quiet_img (d := d) hp hb, quietOps_fs hp d hb, hfa, (noWriteOps_sound hp.noWriteOps d hb).2⟩

/-- the invariant does not depend on the destructor depth -/
theorem inv_depth (IO : InvOK Inv) {d : Dev} (h : Inv d) (n : Nat) : Inv { d with dropDepth := n } :=
  IO.vol d _ h (sameVol_depth d n) rfl

/-- what `write_entry` guarantees once a fault `f` fired outside destructors: the I/O error is the result, and — if `H` —
    the directory is writable on the device it ends on -/
def IoKeeps (H : Prop) (Inv : Dev → Prop) (f : Fault) (e? : Option Err) (d' : Dev) : Prop :=
  e? = some (.io f.k) ∧ (H → Inv d')

/-- an `IoSafe` step on a writable directory that only reads if `H` -/
theorem faultOutcomeOf_ro (IO : InvOK Inv) {d : Dev} (hd : d.fault = none) (hinv : Inv d.disarm) {α} {p : Prog α}
    (hp : IoSafe p) {H : Prop} {Post : α → Prop} (hro : H → RO d.fs p Post) {r d'} (h : run p d = (r, d')) :
    FaultOutcomeOf (IoKeeps H Inv) (resErr r) d' :=
  (ioSafe_propagates hp d hd _ _ h).imp_right fun ⟨h1, f, h2, h3⟩ => ⟨h1, f, h2, fun hnd =>
    ⟨h3 hnd, fun hH => inv_of_ro IO hd hinv (hro hH) h (by rw [h2]; exact fun h => nomatch h)⟩⟩

/-- **the part of `write_entry` from `find_free_entries` on, for the list `L` of long-name slots (`[]` for `.`/`..`), on a
    device whose fault may fire at any call**: the fault surfaces as the I/O error — if it hits a slot write, the
    roll-back succeeds on the device it leaves — and the directory stays writable where `find_free_entries` only reads -/
theorem writeEntry_core_armed (IO : InvOK Inv) (W : WFam Inv F G N src room) (WG : WFam Inv G G N src room)
    (O : WOps Inv F G N src room Extra DropPost) {P : DirStream → Prop} (hFK : FaultKeeps Inv P)
    (hPF : ∀ q, q + 1 ≤ N → P (F (32 * q))) (hPG : ∀ q, q + 1 ≤ N → P (G (32 * q))) (hS : SeekG Inv G N)
    (L : List (List Nat)) (hL : ∀ sl ∈ L, sl.length = 32 ∧ (∀ b ∈ sl, b < 256) ∧ (deserialize sl).serialize = sl)
    (raw : DirFileEntryData) (hraw : raw.WF) (units : List Nat) (d : Dev) (hd : d.fault = none) (hinv : Inv d.disarm)
    (hfit : DirSlots.findFree (srcSlots d.img src N) (L.length + 1) + (L.length + 1) ≤ N) (fs : FsState)
    {r d'} (hr : run (do
      let st0 ← findFreeEntries (F 0) (L.length + 1)
      let (startPos, st) ← Prog.finallyDrop (st0.seek (.cur 0)) (fun r =>
        match r with
        | some _ => pure ()
        | none => st0.dropBody)
      let (err, st) ← writeSlotsKeep (L.map DirEntryData.deserialize ++ [.file raw]) st
      match err with
      | some e =>
        thenDrop st (do
          freeWrittenEntries st startPos
          .fail e)
      | none =>
        thenDrop st (do
          let (endPos, st) ← st.seek (.cur 0)
          let endAbs ← st.absPos fs
          match endAbs with
          | none => .fail .panic
          | some endAbs =>
            pure ({ data := raw, lfn := units, entryPos := endAbs - 32, rangeBegin := startPos, rangeEnd := endPos } : DirEntry))) d =
      (r, d')) :
    FaultOutcomeOf (IoKeeps ((∀ dd, Inv dd → dd.fs.accDate = false) ∧ ∀ o, CleanStream (F o)) Inv) (resErr r) d' := by
  generalize hnum : L.length + 1 = num at hfit hr
  generalize hp : DirSlots.findFree (srcSlots d.img src N) num = p at hfit
  have hT : ∀ f dd, ¬ IoKeeps ((∀ dd, Inv dd → dd.fs.accDate = false) ∧ ∀ o, CleanStream (F o)) Inv f none dd :=
    fun _ _ h => nomatch h.1
  -- 1. find_free_entries
  refine faultOutcomeOf_bind hT (fun _ _ h => faultOutcomeOf_ro IO hd hinv (findFreeEntries_safe _ _).io
    (fun hH => findFreeEntries_ro (hH.1 d.disarm hinv) (hH.2 0) num) h) hr (fun st0 d1 h1 hf1 r d' hr => ?_)
  obtain ⟨rfl, hs1⟩ := ((O.dsrc d.disarm hinv).findFreeEntries_sim (fun d1 hv o t ho ht =>
    O.seekStartF d.disarm hinv d1 hv o t ho ht) (O.fuel d.disarm hinv) num d.disarm (SameVol.refl _)).unfired hd h1 hf1
  rw [show DirSlots.findFree (srcSlots d.disarm.img src N) num = p from hp] at hr
  have hinv1 : Inv d1.disarm := IO.vol _ _ hinv hs1 (run_clock _ d _ d1 h1)
  -- 2. position
  refine faultOutcomeOf_bind hT (fun _ _ h => faultOutcomeOf_ro IO hf1 hinv1
    (Safe.io (by safe [DirStream.seek_safe, DirStream.dropBody_dtor])) (fun hH => seekCur_ro (hH.2 _)) h) hr
    (fun ps d2 h2 hf2 r d' hr => ?_)
  obtain ⟨d2g, h2g, hs2g⟩ := O.seekCurF d1.disarm hinv1 (32 * p) (by omega)
  have h2g' := run_finallyDrop_noop (c := fun r => match r with
      | some _ => (pure () : Prog Unit)
      | none => (F (32 * p)).dropBody) h2g (fun _ => rfl)
  cases (run_disarm _ d1 h2 hf1 hf2).symm.trans h2g'
  have hinv2 : Inv d2.disarm := IO.vol _ _ hinv1 hs2g (run_clock _ d1 _ d2 h2)
  -- 3. the records
  have hes : ∀ e ∈ L.map deserialize ++ [DirEntryData.file raw], e.serialize.length = 32 :=
    fun e he => ((slotRecords L hL raw hraw).1 e he).1
  have heslen : (L.map deserialize ++ [DirEntryData.file raw]).length = num := by
    rw [List.length_append, List.length_map, List.length_singleton]; exact hnum
  simp only at hr
  rcases run_bind_cases hr with ⟨⟨err, st'⟩, d3, h3, hk⟩ | ⟨e3, h3, rfl⟩ <;>
    rcases writeSlotsKeep_armed WG hFK hPG _ F W hPF p d2 hf2 hinv2 hes (by rw [heslen]; exact hfit) _ _ h3 with
      ⟨hf3, hval, hinv3⟩ | ⟨f, hff, hfa3, hin | ⟨j, hj, hval, hinv3⟩⟩
  · -- all slots written, no fault yet: it can only fire in the final position queries
    rw [if_neg (by simp)] at hval
    cases hval
    simp only at hk
    refine (ioSafe_propagates (Safe.io (by safe [thenDrop_safe, DirStream.seek_safe, DirStream.absPos_safe])) d3 hf3 _ _
      hk).imp_right fun ⟨h1, f, hf', h3⟩ => ⟨h1, f, hf', fun hnd => ⟨h3 hnd, fun _ => ?_⟩⟩
    unfold thenDrop at hk
    obtain ⟨dq, hb, _, hfaq⟩ := finallyDrop_fired_body
      (Safe.io (by safe [DirStream.seek_safe, DirStream.absPos_safe])) hf3 hk hf' hnd
    have hinvq : Inv dq := IO.vol d3.disarm dq hinv3
      (sameVol_of_quiet (by quiet [DirStream.seek_quiet, DirStream.absPos_quiet]) hb hfaq) (run_clock _ d3 _ _ hb)
    obtain ⟨d5, h5, _, hinv5, _⟩ := O.dropG _ (inv_depth IO hinvq (dq.dropDepth + 1))
      (32 * (p + (L.map deserialize ++ [DirEntryData.file raw]).length)) (by rw [heslen]; omega)
    rw [run_finallyDrop_of hb (fun h => nomatch h) h5] at hk
    cases hk
    exact inv_depth IO hinv5 _
  · have hkept := fault_kept _ d3 hk hfa3
    exact Or.inr ⟨hkept.2, f, hkept.1.trans hff, fun hnd => by rw [hin] at hnd; cases hnd⟩
  · -- the fault fired in slot `j`: the roll-back succeeds, then the clone is dropped
    have hkept := fault_kept _ d3 hk hfa3
    refine Or.inr ⟨hkept.2, f, hkept.1.trans hff, fun _ => ?_⟩
    rw [heslen] at hj
    obtain ⟨rfl, hst'⟩ : err = some (.io f.k) ∧ st' = if j = 0 then F (32 * p) else G (32 * (p + j)) := by
      cases hval; exact ⟨rfl, rfl⟩
    have hY : (j ≠ 0 → st' = G (32 * (p + j))) ∧
        (∀ dd, Inv dd → ∃ d4, run (st'.seek (.cur 0)) dd = (.ok (32 * (p + j), st'), d4) ∧ SameVol dd d4) ∧
        (∀ dd, Inv dd → ∃ d5, run st'.dropBody dd = (.ok (), d5) ∧ Inv d5) := by
      by_cases hj0 : j = 0
      · rw [hj0, if_pos rfl] at hst'
        subst hst' hj0
        refine ⟨fun h => absurd rfl h, fun dd hdd => O.seekCurF dd hdd (32 * p) (by omega), fun dd hdd => ?_⟩
        obtain ⟨d5, h5, hs5⟩ := (O.dsrc _ hdd).drop _ (SameVol.refl _) (32 * p) (by omega)
        exact ⟨d5, h5, IO.vol _ _ hdd hs5 (run_clock _ _ _ _ h5)⟩
      · rw [if_neg hj0] at hst'
        subst hst'
        refine ⟨fun _ => rfl, fun dd hdd => O.seekCurG dd hdd (32 * (p + j)) (by omega), fun dd hdd => ?_⟩
        obtain ⟨d5, h5, _, hinv5, _⟩ := O.dropG _ hdd (32 * (p + j)) (by omega)
        exact ⟨d5, h5, hinv5⟩
    obtain ⟨d4, h4, hinv4, _⟩ := freeWrittenEntries_ok IO WG hS st' p j hY.1 (by omega) d3 hinv3 (hY.2.1 d3 hinv3)
    obtain ⟨d5, h5, hinv5⟩ := hY.2.2 _ (inv_depth IO hinv4 (d4.dropDepth + 1))
    simp only at hk
    unfold thenDrop at hk
    rw [run_finallyDrop_of (rb := .error (.io f.k)) (by rw [run_bind_ok h4]; rfl) (fun h => nomatch h) h5] at hk
    cases hk
    exact ⟨rfl, fun _ => inv_depth IO hinv5 _⟩
  · cases hval
  · exact Or.inr ⟨hfa3, f, hff, fun hnd => by rw [hin] at hnd; cases hnd⟩
  · cases hval

end generic

/-- what a writable directory must satisfy besides `WView` for the fault analysis -/
structure FaultOK {d0 : Dev} {st : DirStream} (V : WView d0 st) : Prop where
  keeps : FaultKeeps V.Inv (fun s => ∃ q, q + 1 ≤ V.N ∧ (s = V.F (32 * q) ∨ s = V.G (32 * q)))
  seekG : SeekG V.Inv V.G V.N

namespace WView
variable {d : Dev} {st : DirStream}

/-- **`write_entry(name, raw)` on a writable directory**, the directory described on the disarmed device: whatever
    device call the fault hits — `find_free_entries`, the slot writes, the roll-back, the final position queries — the
    result is `io k` (unless it fired inside a destructor); `b`: the name is `.` or `..` (one slot) -/
theorem writeEntry_armed {d0 : Dev} (V : WView d0 st) (hd : d.fault = none) (hinv : V.Inv d.disarm) (hOK : FaultOK V)
    (name : String)
    (raw : DirFileEntryData) (hraw : raw.WF) (b : Bool) (hdot : (name = "." || name = "..") = b)
    (hfit : DirSlots.findFree (V.slots d.img) ((if b then 0 else Lfn.numParts (Names.encodeUtf16 name.toList).length) + 1) +
      ((if b then 0 else Lfn.numParts (Names.encodeUtf16 name.toList).length) + 1) ≤ V.N)
    {r d'} (hr : run (FatVerif.writeEntry st name raw) d = (r, d')) :
    FaultOutcomeOf (IoKeeps ((∀ dd, V.Inv dd → dd.fs.accDate = false) ∧ ∀ o, CleanStream (V.F o)) V.Inv) (resErr r) d' := by
  rw [congrArg (fun s => run (FatVerif.writeEntry s name raw) d) V.start] at hr
  unfold FatVerif.writeEntry at hr
  cases hval : Names.validateLongName name with
  | error e =>
    rw [hval] at hr
    cases hr
    exact Or.inl hd
  | ok u =>
    rw [hval] at hr
    simp only [hdot] at hr
    rw [run_bind_ok (run_getFs d)] at hr
    generalize hL : (if b = true then [] else lfnGenerate (Names.encodeUtf16 name.toList) (lfnChecksum raw.name)) = L at hr
    have hLs : L.length = (if b then 0 else Lfn.numParts (Names.encodeUtf16 name.toList).length) ∧
        ∀ sl ∈ L, sl.length = 32 ∧ (∀ b ∈ sl, b < 256) ∧ (deserialize sl).serialize = sl := by
      subst hL
      cases b with
      | true => exact ⟨rfl, fun _ h => nomatch h⟩
      | false => exact ⟨lfnGenerate_length _ _, lfnGenerate_slot _ _ (C16.checksum_lt raw.name)⟩
    rw [← hLs.1] at hfit
    exact writeEntry_core_armed V.io V.w V.wg V.ops hOK.keeps (fun q hq => ⟨q, hq, Or.inl rfl⟩)
      (fun q hq => ⟨q, hq, Or.inr rfl⟩) hOK.seekG L hLs.2 raw hraw (Names.encodeUtf16 name.toList) d hd hinv hfit d.fs hr

theorem writeEntry_fo {d0 : Dev} (V : WView d0 st) (hd : d.fault = none) (hinv : V.Inv d.disarm) (hOK : FaultOK V)
    (name : String)
    (raw : DirFileEntryData) (hraw : raw.WF) (b : Bool) (hdot : (name = "." || name = "..") = b)
    (hfit : DirSlots.findFree (V.slots d.img) ((if b then 0 else Lfn.numParts (Names.encodeUtf16 name.toList).length) + 1) +
      ((if b then 0 else Lfn.numParts (Names.encodeUtf16 name.toList).length) + 1) ≤ V.N)
    {r d'} (hr : run (FatVerif.writeEntry st name raw) d = (r, d')) : FaultOutcome (resErr r) d' :=
  (V.writeEntry_armed hd hinv hOK name raw hraw b hdot hfit hr).mono (T' := ioT) fun _ h => h.1

end WView

namespace WView
variable {d : Dev} {st : DirStream}

/-- the slots of the directory after steps that kept the volume -/
theorem slots_sameVol (V : WView d.disarm st) {d1 : Dev} (hs : SameVol d.disarm d1.disarm) :
    V.slots d1.img = V.slots d.img :=
  congrArg (srcSlots · V.src V.N) hs.img

/-- **`rename_internal` propagates a storage error** when the source directory is readable (`V1`) and the destination
    writable (`V2`, possibly the same directory): `hclimb` — a directory to be moved comes with the climb from the
    destination to the root; `hfit` — if the destination name is free, the new entry fits -/
theorem renameInternal_fo {st1 st2 : DirStream} (V1 : DirView d.disarm st1) (V2 : WView d.disarm st2)
    (hd : d.fault = none) (hOK : FaultOK V2) (env : Env) (srcName dstName : String) (ha : d.fs.lfnAlloc = true)
    (hclimb : ∀ e, V1.lookup env srcName none = .ok e → e.isDir = true →
      ∃ n, Climbs d.disarm env (e.firstCluster d.fs) st2 0 n ∧ n < d.fs.totalClusters + 3)
    (hfit : ∀ a, DirAlias.checkForExistenceL env.upper (V2.slots d.img) dstName none 70000 = .ok (.alias a) →
      DirSlots.findFree (V2.slots d.img) (Lfn.numParts (Names.encodeUtf16 dstName.toList).length + 1) +
        (Lfn.numParts (Names.encodeUtf16 dstName.toList).length + 1) ≤ V2.N)
    {r d'} (hr : run (renameInternal env st1 srcName st2 dstName) d = (r, d')) : FaultOutcome (resErr r) d' := by
  unfold renameInternal at hr
  by_cases hdots : (srcName = "." || srcName = ".." || dstName = "." || dstName = "..") = true
  · rw [if_pos hdots] at hr
    exact ioSafe_propagates (IoSafe.fail _) d hd _ _ hr
  rw [if_neg hdots, run_bind_ok (run_getFs d)] at hr
  have hdotd : (dstName = "." || dstName = "..") = false := by
    have : (srcName = "." || srcName = ".." || dstName = "." || dstName = "..") = false := by simpa using hdots
    simp only [Bool.or_eq_false_iff] at this ⊢
    exact ⟨this.1.2, this.2⟩
  -- find_entry in the source
  refine faultOutcome_bind' (ioSafe_propagates (findEntry_safe _ _ _ _).io) hd hr (fun e d1 h1 hf1 r2 d2' hr2 => ?_)
  obtain ⟨_, hlk, rfl, hs1⟩ := (V1.findEntry_sim env srcName none d.disarm (SameVol.refl _)).unfired hd h1 hf1
  have hc1 : d1.clock = d.clock := run_clock _ _ _ _ h1
  -- validate
  refine faultOutcome_bind' (ioSafe_propagates (liftE_safe _).io) hf1 hr2 (fun _ d1b h1b hf1b r3 d3' hr3 => ?_)
  have hd1b : d1b = d1 := by
    cases hv : Names.validateLongName dstName with
    | ok u => rw [hv] at h1b; exact (congrArg Prod.snd h1b).symm
    | error err => rw [hv] at h1b; cases h1b
  rw [hd1b] at hr3
  clear hr2
  -- the rest after the ancestor walk
  have key : ∀ d2, d2.fault = none → SameVol d.disarm d2.disarm → d2.clock = d.clock → ∀ r d',
      run (do
        let r ← checkForExistence env st2 dstName none
        match r with
        | .entry dstE => if e.entryPos = dstE.entryPos then pure () else .fail .alreadyExists
        | .short sn => do
          let newEntry ← FatVerif.writeEntry st2 dstName (e.data.renamed sn)
          deleteEntry st1 e
          fixDotDot env d.fs st2 newEntry) d2 = (r, d') → FaultOutcome (resErr r) d' := by
    intro d2 hf2 hs2 hc2 r d' hr
    refine faultOutcome_bind' (ioSafe_propagates (checkForExistence_safe _ _ _ _).io) hf2 hr (fun rr d3 h3 hf3 r4 d4' hr4 => ?_)
    obtain ⟨x, hc, rfl, hs3⟩ := (V2.toDirView.checkForExistence_sim ha env dstName none d2.disarm hs2).unfired hf2 h3 hf3
    have hs03 : SameVol d.disarm d3.disarm := hs2.trans hs3
    have hinv3 : V2.Inv d3.disarm := V2.io.vol _ _ V2.here hs03 ((run_clock _ d2 _ d3 h3).trans hc2)
    cases x with
    | entry le =>
      refine ioSafe_propagates (Safe.io ?_) d3 hf3 _ _ hr4
      simp only [liftEOA]
      safe
    | alias a =>
      simp only [liftEOA] at hr4
      obtain ⟨hcan, hl11, _⟩ := C16dir.dir_alias_canon env.upper _ dstName none 70000 a hc
      obtain ⟨le, hle, hE, _, _⟩ := V1.lookup_ok env srcName none hlk
      obtain ⟨_, hsfn32, hsfnlt, _, _, _⟩ := srcSlots_listed _ _ _ _ le hle
      have hdwf : e.data.WF := by rw [hE]; exact deserializeFile_wf le.sfn hsfn32 hsfnlt
      refine faultOutcome_bind_at (fun r5 d5 h => ?_) hr4 (fun ne d5 _ hf5 r6 d6 hr6 => ?_)
      · refine V2.writeEntry_fo hf3 hinv3 hOK dstName _ (hdwf.renamed a hl11 (canon_lt hcan)) false hdotd ?_ h
        rw [V2.slots_sameVol hs03]
        exact hfit a hc
      · refine ioSafe_propagates (Safe.io ?_) d5 hf5 _ _ hr6
        unfold fixDotDot
        safe [deleteEntry_safe, DirEntry.toDir_safe, thenDrop_safe, findEntry_safe, writeChunks_safe,
          devStrm_ok]
  -- the ancestor walk (directories only)
  by_cases hisd : e.isDir = true
  · simp only [hisd, if_true] at hr3
    refine faultOutcome_bind' (ioSafe_propagates (ancestorWalkTop_safe _ _ _).io) hf1 hr3 (fun _ d2 h2w hf2 r4 d4' hr4 => ?_)
    obtain ⟨n, hcl, hn⟩ := hclimb e hlk hisd
    obtain ⟨_, hs2⟩ := (ancestorWalkTop_sim hcl hn d1.disarm hs1).unfired hf1 h2w hf2
    exact key d2 hf2 (hs1.trans hs2) ((run_clock _ _ _ _ h2w).trans hc1) _ _ hr4
  · have hisd' : e.isDir = false := by simpa using hisd
    simp only [hisd', Bool.false_eq_true, if_false] at hr3
    exact key d1 hf1 hs1 hc1 _ _ hr3

end WView

/-! ### directories whose writes keep the FAT -/

/-- what the directory's invariant tells about the layout: the FAT of `fs0` lies before every slot byte -/
structure FatBefore (Inv : Dev → Prop) (fs0 : FsState) (N : Nat) (src : Nat → Nat) : Prop where
  h42 : 0x42 ≤ (fatSliceOf fs0).beginOff
  behind : ∀ o, o < 32 * N → (fatSliceOf fs0).beginOff + (fatSliceOf fs0).size ≤ src o

theorem FatBefore.fatAgree {Inv : Dev → Prop} {fs0 : FsState} {N : Nat} {src : Nat → Nat}
    (hF : FatBefore Inv fs0 N src) {d d' : Dev} {o : Nat} {bs : List Nat}
    (hw : WritesTo d d' (src o) bs) (hwf : d.img.WF) (ho : o + bs.length ≤ 32 * N) : FatAgree fs0 d.img d'.img := by
  intro q h1 h2
  have := hF.h42
  rw [hw.bytes hwf q (by omega)]
  unfold putBytes
  refine if_neg fun h => ?_
  have := hF.behind o (by omega)
  omega

theorem FatAgree.trans {fs : FsState} {a b c : Img} (h1 : FatAgree fs a b) (h2 : FatAgree fs b c) : FatAgree fs a c :=
  fun q hq1 hq2 => (h2 q hq1 hq2).trans (h1 q hq1 hq2)

open FatVerif.Fat in
theorem TvIs.of_fatAgree {tv : Nat → FatValue} {fs0 : FsState} {d d' : Dev} (h : TvIs tv d)
    (hgeo : FileSim.Geo d.fs d.img.size) (hg0 : FsGeomEq fs0 d.fs) (hg : FsGeomEq d.fs d'.fs)
    (hfat : FatAgree fs0 d.img d'.img) : TvIs tv d' := by
  have hfat1 : FatAgree d.fs d.img d'.img := fun x h1 h2 =>
    hfat x (by rw [← hg0.fatSlice]; exact h1) (by rw [← hg0.fatSlice]; exact h2)
  unfold TvIs at *
  rw [hg.tabView, tabView_congr hgeo hfat1]; exact h

/-- what a writable directory must satisfy, besides `FaultOK`, for its writes — faulted or not — to keep the FAT -/
structure TvKeep {d0 : Dev} {st : DirStream} (V : WView d0 st) (fs0 : FsState) : Prop where
  geo : ∀ dd, V.Inv dd → FileSim.Geo dd.fs dd.img.size
  geom : ∀ dd, V.Inv dd → FsGeomEq fs0 dd.fs
  before : FatBefore V.Inv fs0 V.N V.src
  extra : ∀ q, V.Extra q → (fatSliceOf fs0).beginOff + (fatSliceOf fs0).size ≤ q
  acc : fs0.accDate = false
  clean : ∀ o, CleanStream (V.F o)
  fat : ∀ (d1 d2 : Dev) (s : DirStream) (e : DirEntryData) (r : Except Err DirStream),
    (∃ q, q + 1 ≤ V.N ∧ (s = V.F (32 * q) ∨ s = V.G (32 * q))) → e.serialize.length = 32 → d1.fault = none →
    V.Inv d1.disarm → run (writeSlot s e) d1 = (r, d2) → d2.fault ≠ none →
    (∀ f, d2.fault = some f → f.inDrop = false) → FatAgree fs0 d1.img d2.img

namespace WView
variable {d : Dev} {st : DirStream}

open FatVerif.Fat in
/-- **a `write_entry(name, raw)` on a writable directory that ends with the fault fired outside destructors leaves the
    directory writable and the FAT as it was**: `writeEntry_armed` for the invariant strengthened by the decoded FAT,
    which all writes of the directory, the faulted one too, and the destructor of the clone keep -/
theorem writeEntry_keepsTv {d0 : Dev} (V : WView d0 st) (hd : d.fault = none) (hinv : V.Inv d.disarm) (hOK : FaultOK V)
    {fs0 : FsState}
    (K : TvKeep V fs0) (name : String)
    (raw : DirFileEntryData) (hdot : (name = "." || name = "..") = false) (hraw : raw.WF)
    (hfit : DirSlots.findFree (V.slots d.img) (Lfn.numParts (Names.encodeUtf16 name.toList).length + 1) +
      (Lfn.numParts (Names.encodeUtf16 name.toList).length + 1) ≤ V.N)
    {r d'} (hr : run (FatVerif.writeEntry st name raw) d = (r, d')) {f : Fault} (hf' : d'.fault = some f)
    (hnd : f.inDrop = false) : V.Inv d' ∧ tabView d'.fs d'.img = tabView d.fs d.img := by
  have hPw : ∀ d1 d2 o bs, V.Inv d1 → TvIs (tabView d.fs d.img) d1 → WritesTo d1 d2 (V.src o) bs → V.Inv d2 →
      o + bs.length ≤ 32 * V.N → TvIs (tabView d.fs d.img) d2 := fun d1 d2 o bs hi hp hw _ hfit =>
    hp.of_fatAgree (K.geo d1 hi) (K.geom d1 hi) hw.step.geom (K.before.fatAgree hw (V.io.wf d1 hi) hfit)
  let V' : WView d.disarm st := { V with
    start := V.start
    geo := V.geo
    Inv := fun x => V.Inv x ∧ TvIs (tabView d.fs d.img) x
    io := V.io.strengthen _ (fun _ _ hp hv => hp.of_sameVol hv)
    w := V.w.strengthen _ hPw
    wg := V.wg.strengthen _ hPw
    ops := V.ops.strengthen _ (fun d1 hi hp o d2 ho hr => by
      obtain ⟨d2', hr', hs', _, _, hfr, _⟩ := V.ops.dropG d1 hi o ho
      cases hr.symm.trans hr'
      refine hp.of_fatAgree (K.geo d1 hi) (K.geom d1 hi) hs'.geom (fun q h1 h2 => ?_)
      have := K.before.h42
      exact hfr q (by omega) (fun hq => by have := K.extra q hq; omega))
    here := ⟨hinv, rfl⟩ }
  have hOK' : FaultOK V' := ⟨fun d1 d2 s e r hP hl hd1 hinv hw hf2 hnd2 =>
    ⟨hOK.keeps d1 d2 s e r hP hl hd1 hinv.1 hw hf2 hnd2,
      TvIs.of_fatAgree (d := d1.disarm) hinv.2 (K.geo _ hinv.1) (K.geom _ hinv.1)
        (Geo.fsGeomEq (writeSlot_geo s e) (d := d1) hw) (K.fat d1 d2 s e r hP hl hd1 hinv.1 hw hf2 hnd2)⟩,
    fun dd h => hOK.seekG dd h.1⟩
  rcases V'.writeEntry_armed hd ⟨hinv, rfl⟩ hOK' name raw hraw false hdot hfit hr with h0 | ⟨_, f', hf, h3⟩
  · cases h0.symm.trans hf'
  · cases hf.symm.trans hf'
    exact (h3 hnd).2 ⟨fun dd h => (K.geom dd h.1).accDate.trans K.acc, K.clean⟩

end WView

end FatVerif.DirSim
