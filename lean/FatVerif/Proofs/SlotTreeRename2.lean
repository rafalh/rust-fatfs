import FatVerif.Proofs.SlotTreeRename
/-!
# Slot trees: `rename` against `Spec.evalRename`
-/
namespace FatVerif
namespace SlotTree
open Lfn DirSlots DirAlias

variable (u : Char → List Char)

/-- the last part of `rename_internal`: ancestor check, `check_for_existence`, write, delete -/
theorem renameFinal_refines (fuel : Nat) (t : Node) (hwf : TreeWf (upOf u) t) (sp dp : List String)
    (hls : Lock (upOf u) t sp) (hld : Lock (upOf u) t dp)
    (ss : List (List Nat)) (sch : List (LfnEntry × Node)) (hgs : getAtS (upOf u) t sp = some (.dir ss sch))
    (ds : List (List Nat)) (dch : List (LfnEntry × Node)) (hgd : getAtS (upOf u) t dp = some (.dir ds dch))
    (x : LfnEntry × Node) (hxm : x ∈ sch) (dl : String) (hv : Names.validateLongName dl = .ok ())
    (hdl : isDotName dl = false) :
    Refines u t
      (renameDecide (cfgOf u) (abs t) (.ok (sp, entryName x.1, abs x.2))
        (.ok (dp, dl, (lookupS (upOf u) ds dch dl).map fun y => entryName y.1)))
      (renameFinal (upOf u) fuel t sp x.1 x.2 dp ds dl) := by
  have hds := dirOk_at u hwf hgs
  have hdd := dirOk_at u hwf hgd
  have hchs := ((all_dir _ ss sch).1 (all_getAtS _ sp t _ hwf hgs)).2
  have hxl := hds.mem_listing hxm
  have hkind : (abs x.2).isDir = Lfn.isDir x.1.sfn := by rw [abs_isDir, hds.kind x hxm]
  have hsd : (sp.length == dp.length && Spec.isPrefixOf (cfgOf u) sp dp) = samePathS (upOf u) sp dp := by
    rw [isPrefixOf_eq]; rfl
  unfold renameFinal
  cases hcond : (Lfn.isDir x.1.sfn && prefixS (upOf u) (sp ++ [entryName x.1]) dp) with
  | true =>
    simp only [if_true]
    refine Refines.fail hwf (Or.inr ?_)
    have hpre := (Bool.and_eq_true _ _ ▸ hcond : _ ∧ _).2
    have hlen := prefixS_length _ _ hpre
    have hne : (sp.length == dp.length) = false := by
      simp only [List.length_append, List.length_singleton] at hlen
      simp only [beq_eq_false_iff_ne]; omega
    cases hl : lookupS (upOf u) ds dch dl with
    | none => simp [renameDecide, hkind, isPrefixOf_eq, hcond, Spec.failWith]
    | some y => simp [renameDecide, hkind, isPrefixOf_eq, hcond, Spec.failWith, hne]
  | false =>
    simp only [Bool.false_eq_true, if_false]
    rcases check_cases (upOf u) ds dl none fuel with h | ⟨de, hde, hk, hchk⟩ | ⟨de, hde, hk, hchk⟩ | ⟨hnone, a, ha⟩
    · rw [h]
      exact Refines.fail hwf (Or.inl rfl)
    · rw [hchk]
      obtain ⟨dc, hl, hmem⟩ := lookupS_of_find hdd hde
      rw [hl]
      simp only [Option.map]
      have hdel := hdd.mem_listing hmem
      have hA : (samePathS (upOf u) sp dp && (cfgOf u).same (entryName de) (entryName x.1)) =
          (samePathS (upOf u) sp dp && (de == x.1)) := by
        cases hsp : samePathS (upOf u) sp dp with
        | false => rw [Bool.false_and, Bool.false_and]
        | true =>
          simp only [Bool.true_and]
          have hgeq := getAtS_congr sp dp hsp t
          rw [hgs, hgd] at hgeq
          simp only [Option.some.injEq, Node.dir.injEq] at hgeq
          obtain ⟨e1, e2⟩ := hgeq
          subst e1 e2
          rw [same_eq, Bool.eq_iff_iff, sameName_iff, entryName_toList, entryName_toList]
          constructor
          · intro hs
            have h3 : de = x.1 := hds.name_hits_self hxl hdel (matches_of_nameHit _ _ _ hs)
            simp [h3]
          · intro hk'
            have : de = x.1 := by simpa using hk'
            rw [this]
      cases hB : (samePathS (upOf u) sp dp && (de == x.1)) with
      | true =>
        simp only [if_true]
        refine Refines.same hwf ?_ ?_
        · simp [renameDecide, hsd, hA, hB]
        · simp [renameDecide, hsd, hA, hB]
      | false =>
        simp only [Bool.false_eq_true, if_false]
        refine Refines.fail hwf (Or.inr ?_)
        have hsd' : (sp.length == dp.length && prefixS (upOf u) sp dp) = samePathS (upOf u) sp dp := rfl
        simp only [renameDecide, isPrefixOf_eq, hsd', hA, hB, Bool.false_eq_true, if_false, hkind, hcond]
        simp [Spec.failWith]
    · unfold kindResult at hk
      simp at hk
    · rw [ha]
      have hln : lookupS (upOf u) ds dch dl = none := by unfold lookupS; rw [hnone]
      rw [hln]
      simp only [Option.map]
      have hlen := C16dir.dir_alias_length _ _ _ _ _ _ ha
      obtain ⟨hwf', hcls⟩ := rename_write_wf ds hdd.wf dl fuel a x.1.sfn (listed_class hds.wf.shape hxl) hv ha
      have hkind' : Lfn.isDir (renamedSfn x.1.sfn a) = x.2.isDir := by
        rw [isDir_renamed _ a hlen]; exact hds.kind x hxm
      have hU := UnitsOk.of_valid hv
      have hspec : (renameDecide (cfgOf u) (abs t) (.ok (sp, entryName x.1, abs x.2)) (.ok (dp, dl, none))).errs = [] ∧
          (renameDecide (cfgOf u) (abs t) (.ok (sp, entryName x.1, abs x.2)) (.ok (dp, dl, none))).tree =
            Spec.updateAt (cfgOf u) (Spec.insertChild dl (abs x.2)) dp
              (Spec.updateAt (cfgOf u) (Spec.eraseChild (cfgOf u) (entryName x.1)) sp (abs t)) := by
        simp [renameDecide, hkind, isPrefixOf_eq, hcond]
      -- the new entry is written at `dp`, then the old one deleted at `sp`, whatever the position of the two paths
      -- (`frame_upd`); the specification erases first: the two updates commute (`spec_comm`)
      obtain ⟨w1, w2, w3⟩ := add_success u t hwf dp hld ds dch hgd dl (renamedSfn x.1.sfn a) x.2 hv hwf' hcls hkind'
        (hchs x hxm)
      have hext : ∀ n, getAtS (upOf u) t dp = some n →
          Ext (upOf u) n (addEntry (Names.encodeUtf16 dl.toList) (renamedSfn x.1.sfn a) x.2 n) := by
        intro n hn
        rw [hgd] at hn
        cases hn
        exact ext_addEntry hdd _ _ x.2 hwf' hU hcls hkind'
      obtain ⟨lk1, s1, ch1, hg1, hsub1⟩ := frame_upd _ sp dp t hwf hls hext ss sch hgs
      obtain ⟨v1, v2, v3⟩ := del_success u _ w1 sp lk1 s1 ch1 hg1 x.1 (hsub1 _ hxl)
      refine ⟨v1, fun hn => v3 (w3 hdl ((tnames_dir _).1 (abs_dir ss sch ▸ tnames_getAtS sp t _ hn hgs) _
        (List.mem_map.2 ⟨x, hxm, rfl⟩)).2 hn), accepts_done _ _ hspec.1 ?_⟩
      rw [hspec.2, v2, w2]
      exact (spec_comm u dl (entryName x.1) (abs x.2) sp dp
        (commCond_of_model u dl x.1 sp dp t hwf ss sch hgs hxl ds dch hgd hnone) (abs t)).symm

/-- **`rename`** -/
theorem rename_refines (fuel : Nat) (t : Node) (hwf : TreeWf (upOf u) t) (cwd : List String)
    (hc : CwdOk (upOf u) t cwd) (src : String) (hps : PathOk (upOf u) t src) (dcwd : List String)
    (hdc : CwdOk (upOf u) t dcwd) (dst : String) (hpd : PathOk (upOf u) t dst) :
    Refines u t (Spec.evalRename (cfgOf u) (abs t) cwd src dcwd dst) (renameS (upOf u) fuel t cwd src dcwd dst) := by
  rw [evalRename_eq]
  obtain ⟨sp1, sp2⟩ := resolveParent_corr u t hwf cwd hc src hps
  obtain ⟨dp1, dp2⟩ := resolveParent_corr u t hwf dcwd hdc dst hpd
  have hqs := hps.2.2
  have hqd := hpd.2.2
  unfold renameS
  cases hws : walkDirsS (upOf u) t cwd (pathParts src).1 with
  | error e =>
    obtain ⟨es, h1, h2⟩ := sp1 e hws
    rw [h1]
    exact Refines.fail hwf (Or.inr (decide_src_err _ _ es e h2 _))
  | ok sp =>
    dsimp only
    cases hwd : walkDirsS (upOf u) t dcwd (pathParts dst).1 with
    | error e =>
      obtain ⟨es, h1, h2⟩ := dp1 e hwd
      rw [h1]
      exact Refines.fail hwf (Or.inr (decide_dst_err _ _ es e h2 _))
    | ok dp =>
      dsimp only
      obtain ⟨ss, sch, hgs, hls, hsdot, hsnd⟩ := sp2 sp hws
      obtain ⟨ds, dch, hgd, hld, hddot, hdnd⟩ := dp2 dp hwd
      have hds := dirOk_at u hwf hgs
      unfold renameInternalS
      cases hsn : isDotName (pathParts src).2 with
      | true =>
        simp only [Bool.true_or, if_true]
        refine Refines.fail hwf (Or.inr ?_)
        obtain ⟨o, ho, _⟩ := hsdot hsn
        rw [ho]
        cases o <;> exact decide_src_err _ _ _ _ (by simp) _
      | false =>
        cases hdn : isDotName (pathParts dst).2 with
        | true =>
          simp only [Bool.or_true, if_true]
          refine Refines.fail hwf (Or.inr ?_)
          obtain ⟨o, ho, _⟩ := hddot hdn
          rw [ho]
          cases o <;> exact decide_dst_err _ _ _ _ (by simp) _
        | false =>
          simp only [Bool.or_self, Bool.false_eq_true, if_false]
          rw [hgs, hgd, hsnd hsn, hdnd hdn]
          dsimp only
          cases hx : lookupS (upOf u) ss sch (pathParts src).2 with
          | none =>
            simp only [Option.map]
            exact Refines.fail hwf (Or.inr (decide_src_err _ _ _ _ (by simp) _))
          | some x =>
            obtain ⟨_, hxm, _, _⟩ := lookupS_some hds hx
            have hsrc : srcROf (.ok (.entry sp (pathParts src).2
                ((some x).map fun x => (entryName x.1, abs x.2)))) = .ok (sp, entryName x.1, abs x.2) := rfl
            rw [hsrc]
            dsimp only
            have hqdd := qall_at u hqd hgd
            cases hv : Names.validateLongName (pathParts dst).2 with
            | error err =>
              dsimp only
              refine Refines.fail hwf (Or.inr ?_)
              have hn := (lookup_none_of_bad hqdd (Or.inr (by rw [hv]; simp))).2
              rw [hn]
              have hdst : dstROf (cfgOf u) (.ok (.entry dp (pathParts dst).2
                  ((none : Option (LfnEntry × Node)).map fun x => (entryName x.1, abs x.2)))) = .error [err] := by
                rcases validName_err u hv with ⟨h0, hn⟩ | ⟨hb, hn⟩
                · simp [Option.map, dstROf, h0, hn]
                · simp [Option.map, dstROf, hb, hn]
              rw [hdst]
              exact decide_dst_err _ _ _ _ (by simp) _
            | ok ok1 =>
              cases ok1
              dsimp only
              obtain ⟨hb, hn⟩ := validName_ok u hv
              have hdst : dstROf (cfgOf u) (.ok (.entry dp (pathParts dst).2
                  ((lookupS (upOf u) ds dch (pathParts dst).2).map fun x => (entryName x.1, abs x.2)))) =
                  .ok (dp, (pathParts dst).2, (lookupS (upOf u) ds dch (pathParts dst).2).map fun y => entryName y.1) := by
                cases lookupS (upOf u) ds dch (pathParts dst).2 with
                | none => simp only [Option.map, dstROf, hb, hn, Bool.false_eq_true, if_false]
                | some y => rfl
              rw [hdst]
              exact renameFinal_refines u fuel t hwf sp dp hls hld ss sch hgs ds dch hgd x hxm _ hv hdn

end SlotTree
end FatVerif
