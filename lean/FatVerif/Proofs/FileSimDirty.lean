import FatVerif.Proofs.FileSimDefs
import FatVerif.Proofs.ImgLemmas
import FatVerif.Proofs.FileSimTrace
/-!
# FileSim / dirty: device writes on a fault-free device, `set_dirty_flag`, frame lemmas

* `run_write`: ONE device write without a scheduled fault;
* `run_setDirtyFlag_true`: `set_dirty_flag(true)` either does nothing (the volume is marked already) or writes the
  status byte at `0x25` / `0x41` and records `curDirty`; bytes from `0x42` on, image size and geometry stay;
* `FsGeomEq`: two mounted states that differ only in the interior-mutable part;
* `absFile_frame`, `FileRep.frame`, `Geo.frame`: abstraction, representation invariant and layout only depend on the
  geometry and on the bytes of the FAT and of the data region.
-/
namespace FatVerif.FileSim
open FatVerif FatVerif.Fat

/-- the device after one successful `write` of `bs` -/
def didWrite (d : Dev) (bs : List Nat) : Dev :=
  { d.count .w with
    img := d.img.write d.pos (bs.take (min bs.length (d.img.size - d.pos)))
    pos := d.pos + min bs.length (d.img.size - d.pos)
    log := .write d.pos (bs.take (min bs.length (d.img.size - d.pos))) :: d.log }

theorem run_write (bs : List Nat) (d : Dev) (h : d.failAt = none) :
    run (Prog.write bs) d = (.ok (min bs.length (d.img.size - d.pos)), didWrite d bs) := by
  show stepOp (.write bs) d = _
  simp only [stepOp]
  rw [devCall_nofault _ _ _ h]
  rfl

@[simp] theorem didWrite_failAt (d : Dev) (bs : List Nat) : (didWrite d bs).failAt = d.failAt := rfl
@[simp] theorem didWrite_fs (d : Dev) (bs : List Nat) : (didWrite d bs).fs = d.fs := rfl
@[simp] theorem didWrite_img_size (d : Dev) (bs : List Nat) : (didWrite d bs).img.size = d.img.size :=
  Img.write_size _ _ _
@[simp] theorem didWrite_clock (d : Dev) (bs : List Nat) : (didWrite d bs).clock = d.clock := rfl

theorem didWrite_img (d : Dev) (bs : List Nat) (hfit : d.pos + bs.length ≤ d.img.size) :
    (didWrite d bs).img = d.img.write d.pos bs := by
  have : min bs.length (d.img.size - d.pos) = bs.length := by omega
  show d.img.write d.pos (bs.take (min bs.length (d.img.size - d.pos))) = _
  rw [this, List.take_length]

theorem didWrite_log (d : Dev) (bs : List Nat) (hfit : d.pos + bs.length ≤ d.img.size) :
    (didWrite d bs).log = .write d.pos bs :: d.log := by
  have : min bs.length (d.img.size - d.pos) = bs.length := by omega
  show LogItem.write d.pos (bs.take (min bs.length (d.img.size - d.pos))) :: d.log = _
  rw [this, List.take_length]

/-- `write_all` on the raw device of a non-empty buffer that fits: ONE write -/
theorem run_writeAll_dev (bs : List Nat) (d : Dev) (hfa : d.failAt = none) (hne : 0 < bs.length)
    (hfit : d.pos + bs.length ≤ d.img.size) :
    run (writeAll devStrm () bs) d = (.ok (), didWrite d bs) := by
  apply run_writeAll_of_write _ (List.ne_nil_of_length_pos hne)
  show run (Prog.write bs >>= fun n => (pure (n, ()) : Prog (Nat × Unit))) d = _
  rw [run_bind_ok (run_write bs d hfa), show min bs.length (d.img.size - d.pos) = bs.length by omega]
  rfl

/-- `write_u8` on the raw device with room for the byte -/
theorem run_writeU8_dev (v : Nat) (d : Dev) (h : d.failAt = none) (hfit : d.pos + 1 ≤ d.img.size) :
    run (writeU8 devStrm () v) d = (.ok (), didWrite d [v % 256]) :=
  run_writeAll_dev [v % 256] d h (Nat.zero_lt_succ _) hfit

/-- mounted states that differ only in the interior-mutable part (`fsInfo`, `curDirty`, `curIoErr`) -/
def FsGeomEq (a b : FsState) : Prop :=
  b = { a with fsInfo := b.fsInfo, curDirty := b.curDirty, curIoErr := b.curIoErr }

theorem FsGeomEq.refl (a : FsState) : FsGeomEq a a := rfl

theorem FsGeomEq.symm {a b : FsState} (h : FsGeomEq a b) : FsGeomEq b a := by
  unfold FsGeomEq at h ⊢
  rw [h]

theorem FsGeomEq.trans {a b c : FsState} (h1 : FsGeomEq a b) (h2 : FsGeomEq b c) : FsGeomEq a c := by
  unfold FsGeomEq at *
  rw [h2, h1]

/-- what a mutating step keeps of the device -/
structure DevStep (d d' : Dev) : Prop where
  failAt : d'.failAt = d.failAt
  size : d'.img.size = d.img.size
  wf : d.img.WF → d'.img.WF
  geom : FsGeomEq d.fs d'.fs
  clock : d'.clock = d.clock

theorem DevStep.refl (d : Dev) : DevStep d d := ⟨rfl, rfl, id, FsGeomEq.refl _, rfl⟩

theorem DevStep.trans {a b c : Dev} (h1 : DevStep a b) (h2 : DevStep b c) : DevStep a c :=
  ⟨h2.failAt.trans h1.failAt, h2.size.trans h1.size, fun h => h2.wf (h1.wf h), h1.geom.trans h2.geom,
   h2.clock.trans h1.clock⟩

theorem DevStep.of_sameStore {d d' : Dev} (h : SameStore d d') : DevStep d d' :=
  ⟨h.failAt, by rw [h.img], fun hw => by rw [h.img]; exact hw, by rw [h.fs]; exact FsGeomEq.refl _, h.clock⟩

/-- one device write -/
theorem DevStep.didWrite (d : Dev) (bs : List Nat) : DevStep d (didWrite d bs) :=
  ⟨didWrite_failAt d bs, didWrite_img_size d bs, fun hw => Img.wf_write _ hw _ _,
    by rw [didWrite_fs]; exact FsGeomEq.refl _, didWrite_clock d bs⟩

/-- the device part of one `File::write`: seek to `p`, write `bs`, which fit into the device -/
theorem devStep_seek_write (dX : Dev) (p : Nat) (bs : List Nat) (hfit : p + bs.length ≤ dX.img.size) :
    min bs.length ((dX.didSeek p).img.size - (dX.didSeek p).pos) = bs.length ∧
    (didWrite (dX.didSeek p) bs).img = dX.img.write p bs ∧ DevStep dX (didWrite (dX.didSeek p) bs) := by
  exact ⟨Nat.min_eq_left (show bs.length ≤ dX.img.size - p by omega), didWrite_img (dX.didSeek p) bs hfit,
    (DevStep.of_sameStore (sameStore_didSeek dX p)).trans (DevStep.didWrite _ _)⟩

/-- the mounted state once the volume is marked dirty -/
def markedFs (fs : FsState) : FsState :=
  if fs.curDirty then fs else { fs with curDirty := fs.bpbDirty || true, curIoErr := fs.bpbIoErr }

theorem markedFs_geom (fs : FsState) : FsGeomEq fs (markedFs fs) := by
  unfold markedFs; split <;> rfl

theorem markedFs_curDirty (fs : FsState) : (markedFs fs).curDirty = true := by
  unfold markedFs
  cases h : fs.curDirty <;> simp [h]

theorem markedFs_fsInfo (fs : FsState) : (markedFs fs).fsInfo = fs.fsInfo := by
  unfold markedFs; split <;> rfl

theorem markedFs_of_dirty {fs : FsState} (h : fs.curDirty = true) : markedFs fs = fs := by
  unfold markedFs; rw [if_pos h]

theorem markedFs_idem (fs : FsState) : markedFs (markedFs fs) = markedFs fs :=
  markedFs_of_dirty (markedFs_curDirty fs)

theorem statusOff_lt (fs : FsState) : statusOff fs < 0x42 := by unfold statusOff; split <;> decide

/-- `set_dirty_flag(true)`: afterwards the volume is marked dirty; at most one record is written, the status byte
    (below `0x42`) -/
theorem run_setDirtyFlag (d : Dev) (hfa : d.failAt = none) (hsz : 0x42 ≤ d.img.size) :
    ∃ d', run (setDirtyFlag true) d = (.ok (), d') ∧ DevStep d d' ∧ d'.fs.curDirty = true ∧
      d'.fs.fsInfo = d.fs.fsInfo ∧
      (d.img.WF → ∀ q, q ≠ statusOff d.fs → d'.img.getByte q = d.img.getByte q) ∧
      (∀ E D : Nat → Prop, Trace d.fs E D d d') ∧ (d.fs.curDirty = false → d'.fs = markedFs d.fs) := by
  unfold setDirtyFlag
  rw [run_bind_ok (run_getFs d)]
  simp only [Bool.or_true]
  by_cases hc : ((true == d.fs.curDirty && d.fs.bpbIoErr == d.fs.curIoErr) = true)
  · rw [if_pos hc]
    simp only [Bool.and_eq_true, beq_iff_eq] at hc
    exact ⟨d, rfl, DevStep.refl d, hc.1.symm, rfl, fun _ _ _ => rfl, fun E D => Trace.refl _ E D d,
      fun h => by rw [← hc.1] at h; cases h⟩
  · rw [if_neg hc]
    have hoff : (if (d.fs.fatType == FatType.fat32) = true then 65 else 37) = statusOff d.fs := rfl
    rw [hoff]
    have hoff42 := statusOff_lt d.fs
    generalize (encodeStatus true d.fs.bpbIoErr ||| d.fs.statusRaw / 4 * 4) = b
    have hfit : (d.didSeek (statusOff d.fs)).pos + [b % 256].length ≤ (d.didSeek (statusOff d.fs)).img.size := by
      simp only [didSeek_pos, didSeek_img, List.length_singleton]; omega
    rw [run_bind_ok (run_seekStart _ d hfa), run_bind_ok (run_writeU8_dev b (d.didSeek (statusOff d.fs)) hfa hfit),
      run_modifyFs]
    have hst : DevStep d (didWrite (d.didSeek (statusOff d.fs)) [b % 256]) :=
      (DevStep.of_sameStore (sameStore_didSeek d _)).trans (DevStep.didWrite _ _)
    have himg : (didWrite (d.didSeek (statusOff d.fs)) [b % 256]).img = d.img.write (statusOff d.fs) [b % 256] :=
      didWrite_img _ _ hfit
    have hlog : (didWrite (d.didSeek (statusOff d.fs)) [b % 256]).log = .write (statusOff d.fs) [b % 256] :: d.log :=
      didWrite_log _ _ hfit
    have hfs : (didWrite (d.didSeek (statusOff d.fs)) [b % 256]).fs = d.fs := didWrite_fs _ _
    -- the device after the write as a variable: `rfl` about its fields would compare the images
    generalize didWrite (d.didSeek (statusOff d.fs)) [b % 256] = dw at hst himg hlog hfs ⊢
    rw [hfs]
    refine ⟨_, rfl, ⟨hst.failAt, hst.size, hst.wf, rfl, hst.clock⟩, rfl, rfl, fun hw q hq => ?_, fun E D => ?_, fun h => ?_⟩
    · show dw.img.getByte q = _
      rw [himg, Img.getByte_write_of_not_mem _ hw _ _ _ (by simp only [List.length_singleton]; omega)]
    · exact Trace.single hlog himg (Or.inl ⟨rfl, rfl⟩)
    · show _ = markedFs d.fs
      unfold markedFs; rw [if_neg (by rw [h]; decide), Bool.or_true]

theorem run_setDirtyFlag_true (d : Dev) (hfa : d.failAt = none) (hsz : 0x42 ≤ d.img.size) :
    ∃ d', run (setDirtyFlag true) d = (.ok (), d') ∧ DevStep d d' ∧ d'.fs.curDirty = true ∧
      d'.fs.fsInfo = d.fs.fsInfo ∧
      (d.img.WF → ∀ q, 0x42 ≤ q → d'.img.getByte q = d.img.getByte q) := by
  obtain ⟨d', hr, hs, hc, hi, hb, _⟩ := run_setDirtyFlag d hfa hsz
  have := statusOff_lt d.fs
  exact ⟨d', hr, hs, hc, hi, fun hw q hq => hb hw q (by omega)⟩

/-! ### frame lemmas -/

section
variable {a b : FsState}

theorem FsGeomEq.clusterSize (h : FsGeomEq a b) : b.clusterSize = a.clusterSize := by rw [h]; rfl
theorem FsGeomEq.totalClusters (h : FsGeomEq a b) : b.totalClusters = a.totalClusters := by rw [h]
theorem FsGeomEq.fatType (h : FsGeomEq a b) : b.fatType = a.fatType := by rw [h]
theorem FsGeomEq.fatSlice (h : FsGeomEq a b) : fatSliceOf b = fatSliceOf a := by rw [h]; rfl
theorem FsGeomEq.clusterOff (h : FsGeomEq a b) (c : Nat) : clusterOff b c = clusterOff a c := by rw [h]; rfl
theorem FsGeomEq.tabView (h : FsGeomEq a b) (img : Img) : tabView b img = tabView a img := by rw [h]; rfl
theorem FsGeomEq.accDate (h : FsGeomEq a b) : b.accDate = a.accDate := by rw [h]

theorem Geo.frame {sz : Nat} (g : Geo a sz) (h : FsGeomEq a b) : Geo b sz := by
  rw [h]; exact ⟨g.bps_pos, g.spc_pos, g.status_lt, g.ents, g.mirrors_pos, g.fat_data, g.data_dev, g.u32a, g.u32b, g.fat_u32, g.small⟩

theorem RecOk.frame (h : FsGeomEq a b) {E D : Nat → Prop} {img : Img} {r : Rec} (hr : RecOk a E D img r) :
    RecOk b E D img r := by
  rw [h]; exact hr

theorem Classified.frame (h : FsGeomEq a b) {E D : Nat → Prop} : ∀ {recs : List Rec} {img : Img},
    Classified a E D img recs → Classified b E D img recs
  | [], _, _ => trivial
  | _ :: _, _, hc => ⟨hc.1.frame h, Classified.frame h hc.2⟩

theorem Trace.frame (h : FsGeomEq a b) {E D : Nat → Prop} {d d' : Dev} (ht : Trace a E D d d') : Trace b E D d d' := by
  obtain ⟨r, l, i, c⟩ := ht
  exact ⟨r, l, i, c.frame h⟩

end

/-- the two images agree on the first FAT copy -/
def FatAgree (fs : FsState) (img img' : Img) : Prop :=
  ∀ q, (fatSliceOf fs).beginOff ≤ q → q < (fatSliceOf fs).beginOff + (fatSliceOf fs).size →
    img'.getByte q = img.getByte q

/-- the two images agree on the data region -/
def DataAgree (fs : FsState) (img img' : Img) : Prop :=
  ∀ q, fs.firstDataSector * fs.bps ≤ q → img'.getByte q = img.getByte q

theorem imgFatBytes_congr {fs : FsState} {img img' : Img} (h : FatAgree fs img img') :
    imgFatBytes fs img' = imgFatBytes fs img :=
  fatBytes_congr _ _ _ _ fun i hi => h _ (Nat.le_add_right _ _) (Nat.add_lt_add_left hi _)

theorem tabView_congr {fs : FsState} {sz : Nat} (g : Geo fs sz) {img img' : Img} (h : FatAgree fs img img') :
    tabView fs img' = tabView fs img := by
  funext c
  by_cases hc : c < fs.totalClusters + 2
  · rw [tabView_eq_view g img' hc, tabView_eq_view g img hc, imgFatBytes_congr h]
  · unfold tabView; rw [if_neg hc, if_neg hc]

/-- the abstraction only looks at the geometry, the FAT and the data region -/
theorem absFile_frame {fs fs' : FsState} {sz : Nat} (g : Geo fs sz) {img img' : Img} (f : FileH)
    (hgeo : FsGeomEq fs fs') (hfat : FatAgree fs img img') (hdata : DataAgree fs img img') :
    absFile fs' img' f = absFile fs img f := by
  have htv : tabView fs' img' = tabView fs img := by rw [hgeo.tabView, tabView_congr g hfat]
  unfold absFile fileChain
  rw [htv, hgeo.clusterSize, hgeo.totalClusters]
  congr 1
  funext c j
  rw [hgeo.clusterOff]
  apply hdata
  unfold clusterOff
  have : fs.firstDataSector * fs.bps ≤ (fs.firstDataSector + (c - 2) * fs.spc) * fs.bps :=
    Nat.mul_le_mul_right _ (Nat.le_add_right _ _)
  omega

theorem FileRep.frame {fs fs' : FsState} {sz : Nat} (g : Geo fs sz) {img img' : Img} {f : FileH}
    (h : FileRep fs img f) (hgeo : FsGeomEq fs fs') (hfat : FatAgree fs img img') (hdata : DataAgree fs img img') :
    FileRep fs' img' f := by
  have htv : tabView fs' img' = tabView fs img := by rw [hgeo.tabView, tabView_congr g hfat]
  have hab := absFile_frame g f hgeo hfat hdata
  have hch : fileChain fs' img' f = fileChain fs img f := congrArg Cursor.AFile.chain hab
  exact ⟨h.file, by rw [hab, htv]; exact h.inv, fun c hc => by rw [hch, htv]; exact h.chain c hc,
    fun c hc => by rw [hgeo.totalClusters]; exact h.inTab c (hch ▸ hc),
    fun c hc => by rw [htv]; exact h.last_eoc c (hch ▸ hc)⟩

end FatVerif.FileSim
