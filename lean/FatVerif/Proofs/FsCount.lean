import FatVerif.Model.FsCount
import FatVerif.Proofs.FatChains
/-! Lemmas for the free-space accounting machine `FsCount`. -/
namespace FatVerif.FsCount
open FatVerif.Fat

/-- the cached count, when present, is the number of free entries of `[2,total+2)` -/
def CountOk (s : FsCountState) : Prop := ∀ n, s.info.free = some n → n = countFreeV s.fat s.total

/-- the hint, when present, is `≥ 2` and at most one past the last cluster (what mount guarantees) -/
def HintOk (s : FsCountState) : Prop := ∀ h, s.info.next = some h → 2 ≤ h ∧ h ≤ s.total + 2

/-- the hint, when present, names a valid cluster (what every alloc guarantees) -/
def HintStrict (s : FsCountState) : Prop := ∀ h, s.info.next = some h → 2 ≤ h ∧ h ≤ s.total + 1

theorem HintStrict.hintOk {s : FsCountState} (h : HintStrict s) : HintOk s :=
  fun x hx => ⟨(h x hx).1, by have := (h x hx).2; omega⟩

/-! ### mapFree -/

theorem mapFree_next (i : Info) (f : Nat → Nat) : (i.mapFree f).next = i.next := by
  unfold Info.mapFree; cases i.free <;> rfl

theorem mapFree_free (i : Info) (f : Nat → Nat) : (i.mapFree f).free = i.free.map f := by
  unfold Info.mapFree; cases h : i.free <;> simp [h]

/-! ### segments: what repeated allocation builds -/

/-- consecutive links ending in EOC -/
def Seg (g : Nat → FatValue) : List Nat → Prop
  | [] => False
  | [c] => g c = .eoc
  | c :: d :: r => g c = .data d ∧ Seg g (d :: r)

theorem seg_chain (g : Nat → FatValue) : ∀ (cs : List Nat) (c : Nat), Seg g (c :: cs) → Chain g c (c :: cs) := by
  intro cs
  induction cs with
  | nil =>
    intro c h
    simp only [Seg] at h
    exact Chain.last c (by intro n e; rw [h] at e; cases e)
  | cons d r ih =>
    intro c h
    simp only [Seg] at h
    exact Chain.cons c d (d :: r) h.1 (ih d h.2)

theorem seg_congr (g g' : Nat → FatValue) : ∀ cs, (∀ i, i ∈ cs → g' i = g i) → Seg g cs → Seg g' cs := by
  intro cs
  induction cs with
  | nil => intro _ h; exact h
  | cons c r ih =>
    intro hs h
    cases r with
    | nil => simp only [Seg] at *; rw [hs c (by simp)]; exact h
    | cons d r' =>
      simp only [Seg] at *
      exact ⟨by rw [hs c (by simp)]; exact h.1, ih (fun i hi => hs i (List.mem_cons_of_mem _ hi)) h.2⟩

theorem seg_not_free (g : Nat → FatValue) : ∀ cs, Seg g cs → ∀ i, i ∈ cs → g i ≠ .free := by
  intro cs
  induction cs with
  | nil => intro h; exact absurd h (by simp [Seg])
  | cons c r ih =>
    intro h i hi
    cases r with
    | nil => simp only [Seg] at h; simp at hi; subst hi; rw [h]; intro e; cases e
    | cons d r' =>
      simp only [Seg] at h
      rcases List.mem_cons.mp hi with rfl | hi
      · rw [h.1]; intro e; cases e
      · exact ih h.2 i hi

end FatVerif.FsCount
