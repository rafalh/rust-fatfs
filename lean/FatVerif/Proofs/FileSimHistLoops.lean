import FatVerif.Props.C02sim
import FatVerif.Proofs.SessionStep
/-!
# FileSim: the loops of the history driver are the loops of `execH`

`Session.readxLoop` / `Session.writeAllLoopS` (Model/Api.lean: `readx`, `writeall` of the history driver) thread a whole
session; the device part of what they do is `readxH` / `writeallH` of `Props/C02sim.lean`, the rest is bookkeeping
(`fileOut`: store the handle, map the result).
-/
namespace FatVerif.FileSim
open FatVerif FatVerif.Fat

/-- the result token of the history driver for an observable result -/
def apiOfRes : Cursor.FileRes → ApiRes
  | .bytes l => .ok [Util.hexOfBytes l]
  | .count k => .ok [toString k]
  | .pos p => .ok [toString p]
  | .unit => .ok []
  | .err e => .err e
  | .errAt e _ => .err e

/-- the result is a panic or a hang (the session is dead afterwards) -/
def resFatal : Cursor.FileRes → Bool
  | .err e => e.isFatal
  | .errAt e _ => e.isFatal
  | _ => false

/-- the session after an operation on the open file `f` whose outcome on handle and device is `r`: the handle is stored,
    the result answered as its token, and a panic or hang kills the session -/
def fileOut (s : Session) (f : Nat) (r : Cursor.FileRes × FileH × Dev) : Session × ApiRes :=
  ({ s with dev := r.2.2, files := s.files.insert f r.2.1, dead := s.dead || resFatal r.1 }, apiOfRes r.1)

theorem readxLoop_eq : ∀ (fuel : Nat) (s : Session) (f : Nat) (h : FileH) (n : Nat) (acc : List Nat),
    Session.readxLoop s f fuel h n acc = fileOut s f (readxH fuel h s.dev n acc)
  | 0, s, f, h, n, acc => by simp [Session.readxLoop, readxH, fileOut, resFatal, apiOfRes, Err.isFatal]
  | fuel + 1, s, f, h, n, acc => by
    rw [Session.readxLoop, readxH]
    by_cases hn : n = 0
    · simp [hn, fileOut, resFatal, apiOfRes]
    · simp only [hn, if_false, Session.exec]
      generalize run (h.read n) s.dev = r
      obtain ⟨(e | ⟨bs, h'⟩), d'⟩ := r
      · simp [Session.fatal_eq, fileOut, resFatal, apiOfRes]
      · cases bs with
        | nil => simp [fileOut, resFatal, apiOfRes, Err.isFatal]
        | cons a t =>
          simp only [List.isEmpty_cons, Bool.false_eq_true, if_false, List.length_cons, Nat.succ_ne_zero]
          exact readxLoop_eq fuel { s with dev := d' } f h' _ _

theorem writeAllLoopS_eq : ∀ (fuel : Nat) (s : Session) (f : Nat) (h : FileH) (bs : List Nat),
    Session.writeAllLoopS s f fuel h bs = fileOut s f (writeallH fuel h s.dev bs)
  | 0, s, f, h, bs => by simp [Session.writeAllLoopS, writeallH, fileOut, resFatal, apiOfRes, Err.isFatal]
  | fuel + 1, s, f, h, bs => by
    rw [Session.writeAllLoopS, writeallH]
    cases bs with
    | nil => simp [fileOut, resFatal, apiOfRes]
    | cons b t =>
      simp only [List.isEmpty_cons, Bool.false_eq_true, if_false, List.length_cons, Nat.succ_ne_zero, Session.exec]
      generalize run (h.write (b :: t)) s.dev = r
      obtain ⟨(e | ⟨k, h'⟩), d'⟩ := r
      · simp [Session.fatal_eq, fileOut, resFatal, apiOfRes]
      · by_cases hk : k = 0
        · simp [hk, fileOut, resFatal, apiOfRes, Err.isFatal]
        · simp only [hk, if_false]
          exact writeAllLoopS_eq fuel { s with dev := d' } f h' _

end FatVerif.FileSim
