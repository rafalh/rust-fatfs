import FatVerif.Model.AFile
import FatVerif.Spec.ByteFile
import FatVerif.Proofs.AFileArith
import FatVerif.Proofs.AFileChain
/-!
The invariant of the file cursor machine, the abstraction function to `ByteFile`, and the position of the cursor
in the chain (`readCluster_eq`): on every offset — boundary or not — the cluster the next transfer uses is
`chain[offset / cs]`, because `current` is kept at `chain[(offset − 1) / cs]`.
-/
namespace FatVerif.Cursor

/-- What the allocator promises, in terms of a "cluster `c` is free in allocator state `s`" predicate:
    it hands out only free clusters, handing one out frees nothing else and un-frees it, and `release`
    frees nothing but what it is given. -/
structure AllocLaws {σ : Type} (A : Allocator σ) (isFree : σ → Nat → Prop) : Prop where
  alloc_free : ∀ {s c s'}, A.alloc s = some (c, s') → isFree s c
  alloc_frame : ∀ {s c s' d}, A.alloc s = some (c, s') → isFree s' d → isFree s d ∧ d ≠ c
  release_sub : ∀ {l s d}, isFree (A.release l s) d → isFree s d ∨ d ∈ l

/-- The invariant the code maintains. -/
structure AFileInv {σ : Type} (isFree : σ → Nat → Prop) (f : AFile) (s : σ) : Prop where
  /-- cluster size is positive -/
  cs_pos : 0 < f.cs
  /-- the chain is acyclic -/
  nodup : f.chain.Nodup
  /-- the handle's first cluster is the head of the chain (`none` iff the chain is empty) -/
  first : f.firstCluster = f.chain.head?
  /-- `⌈size / cs⌉ ≤ chain.length` -/
  cover : f.size ≤ f.chain.length * f.cs
  /-- "seeking beyond end of file is not allowed" -/
  off_le : f.offset ≤ f.size
  /-- sizes are `u32` -/
  size_le : f.size ≤ u32Max
  /-- `current_cluster` is the cluster of the byte before the cursor -/
  cur : f.current = if f.offset = 0 then none else f.chain[(f.offset - 1) / f.cs]?
  /-- the clusters of the chain are not free -/
  live : ∀ c ∈ f.chain, ¬ isFree s c

namespace AFile

/-- byte `p` of the file: cluster `p / cs` of the chain, offset `p % cs` in it -/
def byteAt (f : AFile) (p : Nat) : Nat :=
  f.data (f.chain.getD (p / f.cs) 0) (p % f.cs)

/-- the content: the clusters of the chain concatenated, clipped to `size` -/
def content (f : AFile) : List Nat :=
  (List.range f.size).map f.byteAt

/-- the abstraction function -/
def abs (f : AFile) : ByteFile :=
  { content := f.content, pos := f.offset }

@[simp] theorem content_length (f : AFile) : f.content.length = f.size := by simp [content]
@[simp] theorem abs_pos (f : AFile) : f.abs.pos = f.offset := rfl
@[simp] theorem abs_content (f : AFile) : f.abs.content = f.content := rfl
@[simp] theorem abs_remaining (f : AFile) : f.abs.remaining = f.size - f.offset := by
  simp [ByteFile.remaining]

end AFile

/-- a slice of a mapped range -/
theorem take_drop_map_range (g : Nat → Nat) (n p k : Nat) (h : p + k ≤ n) :
    (((List.range n).map g).drop p).take k = (List.range k).map fun j => g (p + j) := by
  apply List.ext_getElem
  · simp; omega
  · intro i h1 h2
    simp

theorem take_map_range (g : Nat → Nat) (n p : Nat) (h : p ≤ n) :
    ((List.range n).map g).take p = (List.range p).map g := by
  rw [← List.map_take, List.take_range, Nat.min_eq_left h]

theorem AFile.content_getElem? (f : AFile) (p : Nat) :
    f.content[p]? = if p < f.size then some (f.byteAt p) else none := by
  unfold AFile.content
  by_cases h : p < f.size <;> simp [h]

/-- the content is a function of `chain`, `data`, `size`, `cs` only -/
theorem content_congr {f g : AFile} (hcs : g.cs = f.cs) (hch : g.chain = f.chain) (hd : g.data = f.data)
    (hs : g.size = f.size) : g.content = f.content := by
  unfold AFile.content AFile.byteAt
  rw [hcs, hch, hd, hs]

/-- the content is determined by the size and the bytes below it -/
theorem content_eq_of_byteAt {f g : AFile} (hs : g.size = f.size) (hb : ∀ p < f.size, g.byteAt p = f.byteAt p) :
    g.content = f.content := by
  unfold AFile.content
  rw [hs]
  exact List.map_congr_left fun p hp => hb p (List.mem_range.mp hp)

section
variable {σ : Type} {isFree : σ → Nat → Prop} {f : AFile} {s : σ}

theorem AFileInv.index_lt (h : AFileInv isFree f s) {p : Nat} (hp : p < f.size) : p / f.cs < f.chain.length :=
  div_lt_of_lt_mul' (Nat.lt_of_lt_of_le hp h.cover)

/-- a handle without first cluster has an empty chain -/
theorem AFileInv.chain_nil (h : AFileInv isFree f s) (hf : f.firstCluster = none) : f.chain = [] :=
  List.head?_eq_none_iff.mp (hf ▸ h.first).symm

/-- the cluster before the cursor, when there is one -/
theorem AFileInv.cur_pos (h : AFileInv isFree f s) (ho : f.offset ≠ 0) :
    ∃ c, f.current = some c ∧ f.chain[(f.offset - 1) / f.cs]? = some c := by
  have hlt : (f.offset - 1) / f.cs < f.chain.length := h.index_lt (by have := h.off_le; omega)
  exact ⟨_, by rw [h.cur, if_neg ho, List.getElem?_eq_getElem hlt], List.getElem?_eq_getElem hlt⟩

theorem AFileInv.current_eq_none (h : AFileInv isFree f s) : f.current = none ↔ f.offset = 0 := by
  refine ⟨fun hc => Decidable.byContradiction fun ho => ?_, fun ho => by rw [h.cur, if_pos ho]⟩
  obtain ⟨c, e, _⟩ := h.cur_pos ho
  rw [hc] at e; cases e

/-- The invariant constrains neither `data` nor the editor's flags, and of the cursor only that `current` follows
    `offset`: a state that differs from `f` in these alone (what `read`, `seek`, `flush` and reopening produce)
    satisfies it. -/
theorem AFileInv.move (h : AFileInv isFree f s) {g : AFile} (hcs : g.cs = f.cs) (hch : g.chain = f.chain)
    (hfc : g.firstCluster = f.firstCluster) (hsz : g.size = f.size) (hoff : g.offset ≤ f.size)
    (hcur : g.current = if g.offset = 0 then none else f.chain[(g.offset - 1) / f.cs]?) : AFileInv isFree g s where
  cs_pos := hcs ▸ h.cs_pos
  nodup := hch ▸ h.nodup
  first := by rw [hfc, hch]; exact h.first
  cover := by rw [hsz, hch, hcs]; exact h.cover
  off_le := hsz ▸ hoff
  size_le := hsz ▸ h.size_le
  cur := by rw [hcur, hch, hcs]
  live := hch ▸ h.live

/-- the cluster the next transfer uses -/
theorem AFileInv.readCluster_eq (h : AFileInv isFree f s) : f.readCluster = f.chain[f.offset / f.cs]? := by
  have hcs := h.cs_pos
  unfold AFile.readCluster AFile.boundaryCluster
  by_cases h0 : f.offset = 0
  · simp [h0, (h.current_eq_none).mpr h0, h.first, List.head?_eq_getElem?]
  · obtain ⟨c, hc, hci⟩ := h.cur_pos h0
    rw [hc]
    by_cases hm : f.offset % f.cs = 0
    · rw [if_pos hm, ← pred_div_of_boundary hcs (Nat.pos_of_ne_zero h0) hm]
      exact nextOf_of_getElem? f.chain _ c h.nodup hci
    · rw [if_neg hm, ← hci, pred_div_of_inside hcs hm]

/-- no cluster for the cursor ⇒ the cursor is at the end of the file, on the boundary after the last cluster -/
theorem AFileInv.readCluster_none (h : AFileInv isFree f s) (hn : f.readCluster = none) :
    f.offset = f.size ∧ f.offset = f.chain.length * f.cs := by
  rw [h.readCluster_eq] at hn
  have hge : f.chain.length ≤ f.offset / f.cs := by simpa using hn
  have hdm := divmod_spec f.cs f.offset h.cs_pos
  have := Nat.mul_le_mul_right f.cs hge
  have := h.cover; have := h.off_le
  omega

end
end FatVerif.Cursor
