import FatVerif.Proofs.FormatBasic
/-! With no hypothesis on the request: a success of `formatChecked` passed `validate`, and every failure is a panic or
    `InvalidInput`. -/
namespace FatVerif.Format

/-! ### the type loop -/

theorem tryTypes_err {t bps spc root fats : Nat} {l : List FatType} {e : Err}
    (h : tryTypes t bps spc root fats l = .error e) :
    e = .invalidInput ∨ (e = .panic ∧ ∃ ft ∈ l,
      tryFsLayout t bps spc ft (determineRootDirSectors root bps ft) fats = .error .panic) := by
  induction l with
  | nil => simp [tryTypes] at h; exact Or.inl h.symm
  | cons ft rest ih =>
    unfold tryTypes at h
    split at h
    · cases h
    · rename_i heq
      cases h
      exact Or.inr ⟨rfl, ft, List.mem_cons_self, heq⟩
    · rcases ih h with h1 | ⟨h1, ft', hm, h2⟩
      · exact Or.inl h1
      · exact Or.inr ⟨h1, ft', List.mem_cons_of_mem _ hm, h2⟩

theorem formatChecked_ok {o : FormatOpts} {t : Nat} {r : FBoot × FatType} (h : formatChecked o t = .ok r) :
    formatBootSector o t = .ok r ∧ validateBoot r.1 = .ok () := by
  unfold formatChecked at h
  obtain ⟨r', hr, h⟩ := ebind_eq_ok.mp h
  split at h
  · cases h; exact ⟨hr, ‹_›⟩
  · cases h
  · cases h

/-! ### every failure is a panic or `InvalidInput` -/

theorem formatChecked_err {o : FormatOpts} {t : Nat} {e : Err} (h : formatChecked o t = .error e) :
    e = .panic ∨ e = .invalidInput := by
  unfold formatChecked at h
  rcases ebind_eq_error.mp h with h | ⟨r, _, h⟩
  · unfold formatBootSector at h
    rcases ebind_eq_error.mp h with h | ⟨r, _, h⟩
    · unfold formatBpb at h
      rcases ebind_eq_error.mp h with h | ⟨L, _, h⟩
      · unfold determineFsLayout at h
        rcases ebind_eq_error.mp h with h | ⟨c, _, h⟩
        · unfold effectiveBpc at h
          split at h
          · cases h
          · unfold determineBytesPerCluster at h
            rcases ebind_eq_error.mp h with h | ⟨x, _, h⟩
            · generalize Option.getD o.fatType (estimateFatType (t * o.bps)) = ft at h
              cases ft <;> simp only [rawBytesPerCluster] at h
              · cases h
              · repeat' split at h
                all_goals first | cases h | exact Or.inl (chkMul32_err.mp h).1
              · repeat' split at h
                all_goals first | cases h | exact Or.inl (chkMul32_err.mp h).1
            · unfold clampCluster at h
              split at h
              · cases h; exact Or.inl rfl
              · split at h
                · cases h
                · cases h; exact Or.inl rfl
        · rcases ebind_eq_error.mp h with h | ⟨s, _, h⟩
          · exact Or.inl (chkDiv_err.mp h).1
          · split at h
            · cases h; exact Or.inr rfl
            · split at h
              · cases h; exact Or.inr rfl
              · rcases tryTypes_err h with h | ⟨h, _⟩
                · exact Or.inr h
                · exact Or.inl h
      · rcases ebind_eq_error.mp h with h | ⟨s, _, h⟩
        · unfold spf16Of at h
          repeat' split at h
          all_goals first | cases h | skip
          exact Or.inr rfl
        · unfold checkBpbType at h
          rcases ebind_eq_error.mp h with h | ⟨cl, _, h⟩
          · unfold FBpb.totalClusters FBpb.firstDataSector at h
            simp only [ebind_eq_error, chkMul32_err, chkAdd32_err, chkSub_err, chkDiv_err] at h
            rcases h with (⟨h, _⟩ | ⟨_, _, ⟨h, _⟩ | ⟨_, _, h, _⟩⟩) | ⟨_, _, ⟨h, _⟩ | ⟨_, _, h, _⟩⟩ <;> exact Or.inl h
          · split at h
            · cases h; exact Or.inr rfl
            · cases h
    · cases h
  · split at h
    · cases h
    · cases h; exact Or.inl rfl
    · cases h; exact Or.inr rfl

end FatVerif.Format
