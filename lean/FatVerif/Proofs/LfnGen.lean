import FatVerif.Proofs.LfnSpec
/-! Shape of the slots `LfnEntriesGenerator` produces, and the generator ∘ reader round trip. -/
namespace FatVerif
namespace Lfn
open LongNameBuilder

/-- `name.chunks(13)` element `j` -/
def chunk (u : List Nat) (j : Nat) : List Nat := (u.drop (13 * j)).take 13

theorem part_def (u : List Nat) (j : Nat) :
    part u j = if (chunk u j).length < 13 then chunk u j ++ 0 :: List.replicate (12 - (chunk u j).length) 0xFFFF
               else chunk u j := rfl

theorem chunk_length (u : List Nat) (j : Nat) : (chunk u j).length = min 13 (u.length - 13 * j) := by
  simp [chunk]

@[simp] theorem part_length (u : List Nat) (j : Nat) : (part u j).length = 13 := by
  rw [part_def]
  have := chunk_length u j
  split
  · simp; omega
  · omega

theorem part_lt (u : List Nat) (h : ∀ x ∈ u, x < 65536) (j : Nat) : ∀ x ∈ part u j, x < 65536 := by
  intro x hx
  have hc : ∀ y ∈ chunk u j, y < 65536 := fun y hy => h y (List.mem_of_mem_drop (List.mem_of_mem_take hy))
  rw [part_def] at hx
  split at hx
  · rcases List.mem_append.1 hx with h1 | h1
    · exact hc x h1
    · rcases List.mem_cons.1 h1 with h2 | h2
      · omega
      · rw [List.mem_replicate] at h2; omega
  · exact hc x hx

theorem flatMap_chunk (u : List Nat) : ∀ k, (List.range k).flatMap (chunk u) = u.take (13 * k) := by
  intro k
  induction k with
  | zero => simp
  | succ k ih =>
    rw [List.range_succ, List.flatMap_append, ih]
    simp only [List.flatMap_cons, List.flatMap_nil, List.append_nil, chunk]
    rw [show 13 * (k + 1) = 13 * k + 13 by omega, List.take_add]

theorem flatMap_congr' (f g : Nat → List Nat) : ∀ l : List Nat, (∀ j ∈ l, f j = g j) → l.flatMap f = l.flatMap g := by
  intro l
  induction l with
  | nil => intro _; rfl
  | cons a l ih =>
    intro h
    simp only [List.flatMap_cons]
    rw [h a (by simp), ih (fun j hj => h j (by simp [hj]))]

/-- the padding after the name in the last slot: nothing if the name fills it, else one 0 then 0xFFFF -/
def padTail (len : Nat) : List Nat :=
  if 13 * numParts len = len then [] else 0 :: List.replicate (13 * numParts len - len - 1) 0xFFFF

/-- cutting the padded units at the first NUL gives back a name that has no NUL unit -/
theorem cutAtNul_padded (u : List Nat) (h : ∀ x ∈ u, x ≠ 0) : cutAtNul (u ++ padTail u.length) = u := by
  unfold padTail
  split
  · rw [List.append_nil]; exact cutAtNul_of_nonzero u h
  · exact cutAtNul_append_nul u _ h

/-- all `13·n` units of the generated slots, in name order, are the name followed by the padding -/
theorem flatMap_part (u : List Nat) (h1 : 1 ≤ u.length) :
    (List.range (numParts u.length)).flatMap (part u) = u ++ padTail u.length := by
  have hn : 13 * (numParts u.length - 1) < u.length ∧ u.length ≤ 13 * numParts u.length := by
    unfold numParts; omega
  generalize hnn : numParts u.length = n at hn
  obtain ⟨m, rfl⟩ : ∃ m, n = m + 1 := ⟨n - 1, by omega⟩
  simp only [Nat.add_sub_cancel] at hn
  rw [List.range_succ, List.flatMap_append]
  have hfull : (List.range m).flatMap (part u) = (List.range m).flatMap (chunk u) := by
    apply flatMap_congr'
    intro j hj
    rw [List.mem_range] at hj
    rw [part_def]
    have := chunk_length u j
    rw [if_neg (by omega)]
  rw [hfull, flatMap_chunk]
  simp only [List.flatMap_cons, List.flatMap_nil, List.append_nil]
  have hlast : chunk u m = u.drop (13 * m) := by
    unfold chunk
    exact List.take_of_length_le (by simp; omega)
  rw [part_def, hlast]
  unfold padTail
  rw [hnn]
  have hdl : (u.drop (13 * m)).length = u.length - 13 * m := by simp
  split
  · rename_i hlt
    rw [if_neg (by omega), ← List.append_assoc, List.take_append_drop]
    congr 3
    omega
  · rw [if_pos (by omega), List.take_append_drop, List.append_nil]

/-! ### the generated slots as a run -/

theorem orderByte_mid (k n : Nat) (hk : k ≠ n) (h : k < 256) : orderByte k n = k := by
  simp [orderByte, hk]; omega

theorem orderByte_first (n : Nat) (h : n < 64) : orderByte n n = n + 64 := by
  simp only [orderByte, if_true, orLast]
  rw [if_neg (by omega)]; omega

theorem genFrom_length (u : List Nat) (c n : Nat) : ∀ k, (genFrom u c n k).length = k := by
  intro k; induction k with
  | zero => rfl
  | succ k ih => simp [genFrom, ih]

/-- slot `i` (on-disk order) of the generator's output -/
theorem genFrom_getElem? (u : List Nat) (c n : Nat) : ∀ k i, i < k →
    (genFrom u c n k)[i]? = some (lfnSlotBytes (orderByte (k - i) n) c (part u (k - 1 - i)))
  | k + 1, 0, _ => rfl
  | k + 1, i + 1, h => by
    rw [genFrom, List.getElem?_cons_succ, genFrom_getElem? u c n k i (by omega),
      show k + 1 - (i + 1) = k - i by omega, show k + 1 - 1 - (i + 1) = k - 1 - i by omega]

theorem genFrom_tail (u : List Nat) (c n : Nat) (hu : ∀ x ∈ u, x < 65536) (hn : n ≤ 20) :
    ∀ k, k < n → TailOk c (genFrom u c n k) k ∧
      tailUnits (genFrom u c n k) = (List.range k).flatMap (part u) ∧
      ∀ s ∈ genFrom u c n k, slotClass s = .lfn := by
  intro k
  induction k with
  | zero => intro _; simp [genFrom, TailOk, tailUnits]
  | succ k ih =>
    intro hk
    obtain ⟨i1, i2, i3⟩ := ih (by omega)
    have ho : orderByte (k + 1) n = k + 1 := orderByte_mid _ _ (by omega) (by omega)
    simp only [genFrom, ho]
    refine ⟨⟨by omega, by simp; omega, by simp; omega, by simp, by simpa using i1⟩, ?_, ?_⟩
    · simp only [tailUnits, i2, units_slotBytes _ _ _ (part_length u k) (part_lt u hu k)]
      rw [List.range_succ, List.flatMap_append]; simp
    · intro s hs
      rcases List.mem_cons.1 hs with rfl | hs
      · exact slotClass_slotBytes _ _ _ (by omega) (by omega)
      · exact i3 s hs

/-- C03.4 core: the generated slots are a complete run whose units are the name followed by the padding -/
theorem generate_complete (u : List Nat) (c : Nat) (h1 : 1 ≤ u.length) (h260 : u.length ≤ 260)
    (hu : ∀ x ∈ u, x < 65536) :
    CompleteRun c (lfnGenerate u c) ∧ runUnits (lfnGenerate u c) = u ++ padTail u.length ∧
      (∀ s ∈ lfnGenerate u c, slotClass s = .lfn) ∧ (lfnGenerate u c).length = numParts u.length := by
  have hn : 1 ≤ numParts u.length ∧ numParts u.length ≤ 20 := by unfold numParts; omega
  have hfm := flatMap_part u h1
  unfold lfnGenerate
  generalize numParts u.length = n at hn hfm
  obtain ⟨m, rfl⟩ : ∃ m, n = m + 1 := ⟨n - 1, by omega⟩
  obtain ⟨t1, t2, t3⟩ := genFrom_tail u c (m + 1) hu hn.2 m (by omega)
  have ho := orderByte_first (m + 1) (by omega)
  have hlen := genFrom_length u c (m + 1) m
  simp only [genFrom, ho]
  refine ⟨⟨_, _, rfl, by simp [hlen]; omega, by omega, by simp; omega, by simp, by rw [hlen]; exact t1⟩, ?_, ?_,
    by simp [hlen]⟩
  · simp only [runUnits, tailUnits, t2, units_slotBytes _ _ _ (part_length u m) (part_lt u hu m)]
    rw [← hfm, List.range_succ, List.flatMap_append]; simp
  · intro s hs
    rcases List.mem_cons.1 hs with rfl | hs
    · exact slotClass_slotBytes _ _ _ (by omega) (by omega)
    · exact t3 s hs

/-! ### reading a block of long-name slots -/

theorem readLoop_lfn_block (alloc sv : Bool) : ∀ (R rest : List (List Nat)) (idx bg : Nat) (b : LongNameBuilder),
    (∀ s ∈ R, slotClass s = .lfn) →
    readLoop alloc sv (R ++ rest) idx bg b = readLoop alloc sv rest (idx + R.length) bg (R.foldl (process alloc) b) := by
  intro R
  induction R with
  | nil => intros; rfl
  | cons s R ih =>
    intro rest idx bg b h
    have hs := h s (by simp)
    simp only [List.cons_append, List.foldl_cons, List.length_cons]
    rw [readLoop, hs]
    simp only
    rw [ih rest (idx + 1) bg _ (fun x hx => h x (by simp [hx]))]
    congr 1; omega

/-- a complete run directly before a short entry whose checksum it carries is handed out (both variants):
    the entry's long name is the run's units before the first `0x0000` — unless more than 255 units remain,
    then the entry has no long name -/
theorem read_complete_run (alloc sv : Bool) (R : List (List Nat)) (sfn : List Nat)
    (hR : CompleteRun (lfnChecksum (sfnName sfn)) R) (hl : ∀ s ∈ R, slotClass s = .lfn)
    (hsfn : slotClass sfn = .file) :
    readDirEntries alloc sv (R ++ [sfn]) = [⟨sfn, capName (cutAtNul (runUnits R)), 0, R.length + 1⟩] := by
  unfold readDirEntries
  rw [readLoop_lfn_block alloc sv R [sfn] 0 0 _ hl]
  rw [readLoop, hsfn]
  simp only [readLoop, Nat.zero_add]
  obtain ⟨hw, hv⟩ := view_foldl alloc R _ (WF_new alloc)
  rw [finish_view alloc _ _ hw, hv, fin_complete _ R hR]

end Lfn
end FatVerif
