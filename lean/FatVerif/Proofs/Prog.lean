import FatVerif.Model.Prog
/-! Structural theorems about programs (by induction on `Prog` syntax):

* `IoSafe p → Propagates p` — a program that never inspects an error except to re-raise I/O errors unchanged returns
  `Err.io k` carrying the index of the failed device call whenever a device call issued OUTSIDE a destructor fails
  (property C09);
* `NoWriteOps p → run p` leaves the image and the write log unchanged (property C13).

  On the way, what the other modules say of runs in general: the shape of a run of `bind` / `tryCatch` / `finallyDrop`
  (`scopeRes`); one primitive step (`OpFacts`); what holds of every program (`StepFacts`, `AnyOutcome`); programs that
  cannot panic or hang, by syntax (`NoFatalFail`) or by their runs (`NonFatal`); propagation read off a result
  (`PropagatesVia`, `Reraises`) or up to substitute errors (`PropagatesX`), all of them `FaultOutcomeOf`; the judgement
  over runs with a relation between the devices, a precondition and a postcondition (`Tri`, `RelOK`, `Frame`) and its
  instance without conditions (`Steps`, `LogExtends`); programs that do not write (`SameWrites`, `QuietOps`) and its
  instances `RO`, `NW`. -/
namespace FatVerif

/-! ### the shape of a run of a compound program -/

theorem run_bind_cases {α β} {p : Prog β} {k : β → Prog α} {d : Dev} {r d'} (h : run (Prog.bind p k) d = (r, d')) :
    (∃ b d1, run p d = (.ok b, d1) ∧ run (k b) d1 = (r, d')) ∨ (∃ e, run p d = (.error e, d') ∧ r = .error e) := by
  simp only [run] at h
  rcases hq : run p d with ⟨rp, d1⟩
  rw [hq] at h
  cases rp with
  | ok b => exact Or.inl ⟨b, d1, rfl, h⟩
  | error e => simp only at h; cases h; exact Or.inr ⟨e, rfl, rfl⟩

theorem run_bind_ok_inv {α β} {p : Prog β} {k : β → Prog α} {d d' : Dev} {a : α}
    (h : run (Prog.bind p k) d = (.ok a, d')) : ∃ b d1, run p d = (.ok b, d1) ∧ run (k b) d1 = (.ok a, d') := by
  rcases run_bind_cases h with h' | ⟨e, _, he⟩
  · exact h'
  · cases he

theorem run_pure_ok_inv {α} {a b : α} {d d' : Dev} (h : run (Prog.pure a) d = (.ok b, d')) : a = b ∧ d = d' := by
  simp only [run] at h; cases h; exact ⟨rfl, rfl⟩

theorem run_tryCatch_cases {α} {p : Prog α} {h : Err → Prog α} {d : Dev} {r d'}
    (hr : run (Prog.tryCatch p h) d = (r, d')) :
    run p d = (r, d') ∨ ∃ e d1, run p d = (.error e, d1) ∧ e.isFatal = false ∧ run (h e) d1 = (r, d') := by
  simp only [run] at hr
  rcases hq : run p d with ⟨rp, d1⟩
  rw [hq] at hr
  cases rp with
  | ok a => exact Or.inl hr
  | error e =>
    simp only at hr
    split at hr
    · exact Or.inl hr
    · exact Or.inr ⟨e, d1, rfl, Bool.eq_false_iff.2 ‹_›, hr⟩

/-- the result of a scope from the results of its body and of its destructor: only a panic or hang of the destructor
    replaces the result of the body -/
def scopeRes {α} (rb : Except Err α) : Except Err Unit → Except Err α
  | .error e' => if e'.isFatal then .error e' else rb
  | .ok _ => rb

/-- a hang of the body never reaches the destructor -/
theorem run_finallyDrop_hang {α} {p : Prog α} {c : Option α → Prog Unit} {d d1 : Dev}
    (h : run p d = (.error .hang, d1)) : run (Prog.finallyDrop p c) d = (.error .hang, d1) := by
  simp only [run, h, if_true]

/-- a body that did not hang: the destructor runs one drop level deeper, and `scopeRes` combines the two results -/
theorem run_finallyDrop_of {α} {p : Prog α} {c : Option α → Prog Unit} {d d1 d2 : Dev} {rb rc}
    (h : run p d = (rb, d1)) (hh : rb ≠ .error .hang)
    (hc : run (c rb.toOption) { d1 with dropDepth := d1.dropDepth + 1 } = (rc, d2)) :
    run (Prog.finallyDrop p c) d = (scopeRes rb rc, { d2 with dropDepth := d2.dropDepth - 1 }) := by
  simp only [run, h]
  cases rb with
  | ok a =>
    simp only [show run (c (some a)) { d1 with dropDepth := d1.dropDepth + 1 } = (rc, d2) from hc]
    cases rc with
    | ok u => rfl
    | error e' => simp only [scopeRes]; split <;> rfl
  | error e =>
    simp only [if_neg (fun he : e = .hang => hh (he ▸ rfl)),
      show run (c none) { d1 with dropDepth := d1.dropDepth + 1 } = (rc, d2) from hc]
    cases rc with
    | ok u => rfl
    | error e' => simp only [scopeRes]; split <;> rfl

theorem run_finallyDrop_cases {α} {p : Prog α} {c : Option α → Prog Unit} {d : Dev} {r d'}
    (hr : run (Prog.finallyDrop p c) d = (r, d')) :
    ∃ rb d1, run p d = (rb, d1) ∧ ((rb = .error .hang ∧ r = rb ∧ d' = d1) ∨ (rb ≠ .error .hang ∧
      ∃ rc d2, run (c rb.toOption) { d1 with dropDepth := d1.dropDepth + 1 } = (rc, d2) ∧
        r = scopeRes rb rc ∧ d' = { d2 with dropDepth := d2.dropDepth - 1 })) := by
  rcases hp : run p d with ⟨rb, d1⟩
  refine ⟨rb, d1, rfl, ?_⟩
  by_cases hh : rb = .error .hang
  · subst hh
    rw [run_finallyDrop_hang hp] at hr
    cases hr
    exact Or.inl ⟨rfl, rfl, rfl⟩
  · rcases hc : run (c rb.toOption) { d1 with dropDepth := d1.dropDepth + 1 } with ⟨rc, d2⟩
    rw [run_finallyDrop_of hp hh hc] at hr
    cases hr
    exact Or.inr ⟨hh, rc, d2, rfl, rfl, rfl⟩

theorem scopeRes_cases {α} (rb : Except Err α) (rc : Except Err Unit) :
    scopeRes rb rc = rb ∨ ∃ e', rc = .error e' ∧ e'.isFatal = true ∧ scopeRes rb rc = .error e' := by
  cases rc with
  | ok u => exact Or.inl rfl
  | error e' =>
    simp only [scopeRes]
    split
    · exact Or.inr ⟨e', rfl, ‹_›, rfl⟩
    · exact Or.inl rfl

/-- inversion of a successful scope exit: the body returned the value, and the destructor ran one drop level deeper -/
theorem run_finallyDrop_ok_inv {α} {p : Prog α} {c : Option α → Prog Unit} {d : Dev} {a : α} {d' : Dev}
    (hr : run (Prog.finallyDrop p c) d = (.ok a, d')) :
    ∃ d1 rc d2, run p d = (.ok a, d1) ∧ run (c (some a)) { d1 with dropDepth := d1.dropDepth + 1 } = (rc, d2) ∧
      d' = { d2 with dropDepth := d2.dropDepth - 1 } := by
  obtain ⟨rb, d1, h1, ⟨rfl, h, _⟩ | ⟨_, rc, d2, h2, hres, hd⟩⟩ := run_finallyDrop_cases hr
  · cases h
  · have hrb : rb = .ok a := by
      rcases scopeRes_cases rb rc with h | ⟨e', _, _, h⟩ <;> rw [h] at hres
      · exact hres.symm
      · cases hres
    subst hrb
    exact ⟨d1, rc, d2, h1, h2, hd⟩

theorem run_pure_cases {α} {a : α} {d : Dev} {x : Except Err α × Dev} (h : run (Prog.pure a) d = x) : (.ok a, d) = x := by
  simpa only [run] using h

theorem run_getFs_bind {α} (k : FsState → Prog α) (d : Dev) : run (Prog.bind Prog.getFs k) d = run (k d.fs) d := by
  simp only [Prog.getFs, run, stepOp]

theorem run_modifyFs (f : FsState → FsState) (d : Dev) :
    run (Prog.modifyFs f) d = (.ok (), { d with fs := f d.fs }) := by
  simp only [Prog.modifyFs, Prog.getFs, Prog.setFs, bind, run, stepOp]

/-! ### one primitive step -/

theorem count_frame (d : Dev) (k : CallKind) :
    (d.count k).failAt = d.failAt ∧ (d.count k).fault = d.fault ∧ (d.count k).dropDepth = d.dropDepth ∧
      (d.count k).fs = d.fs ∧ (d.count k).img = d.img ∧ (d.count k).log = d.log := by
  unfold Dev.count; cases k <;> simp

def Op.isWrite : Op → Bool
  | .write _ => true
  | _ => false

theorem Img.write_size (i : Img) (off : Nat) (bs : List Nat) : (i.write off bs).size = i.size := by
  unfold Img.write
  simp only [Id.run]
  rfl

/-- everything the theorems below need to know about one primitive step: the fault schedule is left alone or fires
    now; the only errors are device errors; only `setFs` changes the mounted state; clock and clock mode stand; image and log stay
    (the log may gain a `flush` record), or — `write` only — the image takes the bytes of the one record the log gains -/
structure OpFacts (o : Op) (d : Dev) (r : Except Err (Resp o)) (d' : Dev) : Prop where
  depth : d'.dropDepth = d.dropDepth
  sched : (d'.failAt = d.failAt ∧ d'.fault = d.fault) ∨
    (d.failAt ≠ none ∧ d'.failAt = none ∧
      ∃ f, d'.fault = some f ∧ r = .error (.io f.k) ∧ (0 < d.dropDepth → f.inDrop = true))
  io : ∀ e, r = .error e → ∃ k, e = .io k
  fs : (∀ fs, o ≠ .setFs fs) → d'.fs = d.fs
  clock : d'.clock = d.clock
  tick : d'.tick = d.tick
  eff : (d'.img = d.img ∧ (d'.log = d.log ∨ d'.log = .flush :: d.log)) ∨
    (o.isWrite = true ∧ ∃ off bs, d'.img = d.img.write off bs ∧ d'.log = .write off bs :: d.log)

namespace OpFacts
variable {o : Op} {d d' : Dev} {r : Except Err (Resp o)} (h : OpFacts o d r d')
include h

theorem nonFatal (e : Err) (he : r = .error e) : e.isFatal = false := by
  obtain ⟨k, rfl⟩ := h.io e he; rfl

theorem img (hn : o.isWrite = false) : d'.img = d.img :=
  h.eff.elim (·.1) fun hw => absurd (hw.1.symm.trans hn) (by decide)

theorem size : d'.img.size = d.img.size := by
  rcases h.eff with ⟨hi, _⟩ | ⟨_, off, bs, hi, _⟩ <;> rw [hi]
  exact Img.write_size _ _ _

theorem log : d'.log = d.log ∨ d'.log = .flush :: d.log ∨ (o.isWrite = true ∧ ∃ off bs, d'.log = .write off bs :: d.log) :=
  h.eff.elim (fun hs => hs.2.elim Or.inl fun hf => Or.inr (Or.inl hf))
    fun ⟨hw, off, bs, _, hl⟩ => Or.inr (Or.inr ⟨hw, off, bs, hl⟩)

end OpFacts

theorem stepOp_facts (o : Op) (d : Dev) {r d'} (hr : stepOp o d = (r, d')) : OpFacts o d r d' := by
  -- a device call: the fault fires, or `act` runs on the counted device
  have dc : ∀ (k : CallKind) (act : Dev → Except Err (Resp o) × Dev),
      (∀ d0 r d1, act d0 = (r, d1) → OpFacts o d0 r d1 ∧ d1.failAt = d0.failAt ∧ d1.fault = d0.fault) →
      devCall k d act = (r, d') → OpFacts o d r d' := by
    intro k act hact h
    obtain ⟨h1, h2, h3, h4, h5, h6⟩ := count_frame d k
    have h7 : (d.count k).clock = d.clock := by unfold Dev.count; cases k <;> rfl
    have h8 : (d.count k).tick = d.tick := by unfold Dev.count; cases k <;> rfl
    unfold devCall devCallCore at h
    split at h
    · rename_i hf
      cases h
      exact ⟨h3, Or.inr ⟨(by rw [← h1, hf]; simp), rfl, _, rfl, rfl, fun hd => (by simp [h3, hd])⟩,
        fun _ he => (by cases he; exact ⟨_, rfl⟩), fun _ => h4, h7, h8, Or.inl ⟨h5, Or.inl h6⟩⟩
    · obtain ⟨a, a1, a2⟩ := hact _ _ _ h
      exact ⟨a.depth.trans h3, Or.inl ⟨a1.trans h1, a2.trans h2⟩, a.io, fun hn => (a.fs hn).trans h4,
        a.clock.trans h7, a.tick.trans h8, (by rw [← h5, ← h6]; exact a.eff)⟩
  -- a step that leaves the device as it is, or changes only its position
  have idle : ∀ {d0 d1 : Dev} {v}, d1 = d0 ∨ (∃ p, d1 = { d0 with pos := p }) →
      OpFacts o d0 (.ok v) d1 ∧ d1.failAt = d0.failAt ∧ d1.fault = d0.fault := by
    rintro d0 d1 v (rfl | ⟨p, rfl⟩) <;>
      exact ⟨⟨rfl, Or.inl ⟨rfl, rfl⟩, fun _ he => (nomatch he), fun _ => rfl, rfl, rfl, Or.inl ⟨rfl, Or.inl rfl⟩⟩, rfl, rfl⟩
  cases o with
  | read n => exact dc _ _ (fun d0 r d1 h => by cases h; exact idle (Or.inr ⟨_, rfl⟩)) hr
  | write bs =>
    refine dc _ _ (fun d0 r d1 h => ?_) hr
    cases h
    exact ⟨⟨rfl, Or.inl ⟨rfl, rfl⟩, fun _ he => (nomatch he), fun _ => rfl, rfl, rfl, Or.inr ⟨rfl, _, _, rfl, rfl⟩⟩, rfl, rfl⟩
  | seek p =>
    refine dc _ _ (fun d0 r d1 h => ?_) hr
    have neg : OpFacts (.seek p) d0 (.error (.io negSeekErr)) d0 ∧ d0.failAt = d0.failAt ∧ d0.fault = d0.fault :=
      ⟨⟨rfl, Or.inl ⟨rfl, rfl⟩, fun _ he => (by cases he; exact ⟨_, rfl⟩), fun _ => rfl, rfl, rfl, Or.inl ⟨rfl, Or.inl rfl⟩⟩,
        rfl, rfl⟩
    cases p with
    | start n => cases h; exact idle (Or.inr ⟨_, rfl⟩)
    | cur x => simp only at h; split at h <;> cases h; exact neg; exact idle (Or.inr ⟨_, rfl⟩)
    | fromEnd x => simp only at h; split at h <;> cases h; exact neg; exact idle (Or.inr ⟨_, rfl⟩)
  | flush =>
    refine dc _ _ (fun d0 r d1 h => ?_) hr
    cases h
    exact ⟨⟨rfl, Or.inl ⟨rfl, rfl⟩, fun _ he => (nomatch he), fun _ => rfl, rfl, rfl, Or.inl ⟨rfl, Or.inr rfl⟩⟩, rfl, rfl⟩
  | now => cases hr; exact (idle (Or.inl rfl)).1
  | today => cases hr; exact (idle (Or.inl rfl)).1
  | getFs => cases hr; exact (idle (Or.inl rfl)).1
  | setFs fs =>
    cases hr
    exact ⟨rfl, Or.inl ⟨rfl, rfl⟩, fun _ he => (nomatch he), fun h => absurd rfl (h fs), rfl, rfl, Or.inl ⟨rfl, Or.inl rfl⟩⟩

/-! ### facts true of EVERY program -/

/-- summary of a run: the destructor depth is restored, and once the one-shot fault is spent (or none was scheduled)
    no fault can fire or be forgotten -/
structure StepFacts (d d' : Dev) : Prop where
  depth : d'.dropDepth = d.dropDepth
  spent : d.failAt = none → d'.failAt = none ∧ d'.fault = d.fault

theorem StepFacts.refl (d : Dev) : StepFacts d d := ⟨rfl, fun h => ⟨h, rfl⟩⟩

theorem StepFacts.trans {a b c : Dev} (h1 : StepFacts a b) (h2 : StepFacts b c) : StepFacts a c :=
  ⟨h2.depth.trans h1.depth, fun h => ⟨(h2.spent (h1.spent h).1).1, (h2.spent (h1.spent h).1).2.trans (h1.spent h).2⟩⟩

/-- a run one destructor level deeper, seen from outside -/
theorem StepFacts.drop {d1 d2 : Dev} (h : StepFacts { d1 with dropDepth := d1.dropDepth + 1 } d2) :
    StepFacts d1 { d2 with dropDepth := d2.dropDepth - 1 } :=
  ⟨by have := h.depth; simp at this; simp [this], h.spent⟩

theorem run_facts {α} (p : Prog α) : ∀ (d : Dev) {r d'}, run p d = (r, d') → StepFacts d d' := by
  induction p with
  | pure a => intro d r d' hr; simp only [run] at hr; cases hr; exact .refl d
  | fail e => intro d r d' hr; simp only [run] at hr; cases hr; exact .refl d
  | op o =>
    intro d r d' hr; simp only [run] at hr
    have h := stepOp_facts o d hr
    refine ⟨h.depth, fun h0 => ?_⟩
    rcases h.sched with ⟨h1, h2⟩ | ⟨h1, _⟩
    · exact ⟨h1.trans h0, h2⟩
    · exact absurd h0 h1
  | bind p k ihp ihk =>
    intro d r d' hr
    rcases run_bind_cases hr with ⟨b, d1, h1, h2⟩ | ⟨e, h1, _⟩
    · exact (ihp d h1).trans (ihk b d1 h2)
    · exact ihp d h1
  | tryCatch p h ihp ihh =>
    intro d r d' hr
    rcases run_tryCatch_cases hr with h1 | ⟨e, d1, h1, _, h2⟩
    · exact ihp d h1
    · exact (ihp d h1).trans (ihh e d1 h2)
  | finallyDrop p c ihp ihc =>
    intro d r d' hr
    obtain ⟨rp, d1, h1, h⟩ := run_finallyDrop_cases hr
    rcases h with ⟨_, _, rfl⟩ | ⟨_, rc, d2, h2, _, rfl⟩
    · exact ihp d h1
    · exact (ihp d h1).trans (ihc _ _ h2).drop

/-- started with no fault fired: afterwards either none fired, or exactly one did, the schedule is spent, and — if the
    program ran inside a destructor — the fault is recorded as in-drop -/
def AnyOutcome (d d' : Dev) : Prop :=
  d'.fault = none ∨ (d'.failAt = none ∧ ∃ f, d'.fault = some f ∧ (0 < d.dropDepth → f.inDrop = true))

/-- two runs in a row: a fault that fired in the first stays as it is, otherwise the second decides -/
theorem AnyOutcome.seq {a b b' c : Dev} (hab : AnyOutcome a b) (hfa : b'.failAt = b.failAt) (hft : b'.fault = b.fault)
    (hpos : 0 < a.dropDepth → 0 < b'.dropDepth) (hs : StepFacts b' c) (hbc : b'.fault = none → AnyOutcome b' c) :
    AnyOutcome a c := by
  rcases hab with h1 | ⟨h1, f, h2, h3⟩
  · rcases hbc (hft.trans h1) with h4 | ⟨h4, f', h5, h6⟩
    · exact Or.inl h4
    · exact Or.inr ⟨h4, f', h5, fun hd => h6 (hpos hd)⟩
  · have := hs.spent (hfa.trans h1)
    exact Or.inr ⟨this.1, f, by rw [this.2, hft, h2], h3⟩

theorem stepOp_outcome (o : Op) (d : Dev) (h : d.fault = none) {r d'} (hr : stepOp o d = (r, d')) :
    d'.fault = none ∨
    (d'.failAt = none ∧ ∃ f, d'.fault = some f ∧ r = .error (.io f.k) ∧ (0 < d.dropDepth → f.inDrop = true)) := by
  rcases (stepOp_facts o d hr).sched with ⟨_, h2⟩ | ⟨_, h2⟩
  · exact Or.inl (h2.trans h)
  · exact Or.inr h2

theorem run_any {α} (p : Prog α) : ∀ (d : Dev), d.fault = none → ∀ {r d'}, run p d = (r, d') → AnyOutcome d d' := by
  induction p with
  | pure a => intro d h r d' hr; simp only [run] at hr; cases hr; exact Or.inl h
  | fail e => intro d h r d' hr; simp only [run] at hr; cases hr; exact Or.inl h
  | op o =>
    intro d h r d' hr; simp only [run] at hr
    rcases stepOp_outcome o d h hr with h1 | ⟨h1, f, h2, _, h4⟩
    · exact Or.inl h1
    · exact Or.inr ⟨h1, f, h2, h4⟩
  | bind p k ihp ihk =>
    intro d h r d' hr
    rcases run_bind_cases hr with ⟨b, d1, h1, h2⟩ | ⟨e, h1, _⟩
    · exact (ihp d h h1).seq rfl rfl (fun hd => by rw [(run_facts p d h1).depth]; exact hd) (run_facts _ _ h2)
        (fun h0 => ihk b d1 h0 h2)
    · exact ihp d h h1
  | tryCatch p hdl ihp ihh =>
    intro d h r d' hr
    rcases run_tryCatch_cases hr with h1 | ⟨e, d1, h1, _, h2⟩
    · exact ihp d h h1
    · exact (ihp d h h1).seq rfl rfl (fun hd => by rw [(run_facts p d h1).depth]; exact hd) (run_facts _ _ h2)
        (fun h0 => ihh e d1 h0 h2)
  | finallyDrop p c ihp ihc =>
    intro d h r d' hr
    obtain ⟨rp, d1, h1, h'⟩ := run_finallyDrop_cases hr
    rcases h' with ⟨_, _, rfl⟩ | ⟨_, rc, d2, h2, _, rfl⟩
    · exact ihp d h h1
    · show AnyOutcome d d2
      exact (ihp d h h1).seq (b' := { d1 with dropDepth := d1.dropDepth + 1 }) rfl rfl (fun _ => Nat.succ_pos _)
        (run_facts _ _ h2) (fun h0 => ihc _ _ h0 h2)

/-! ### programs that cannot panic or hang on their own -/

/-- no `fail .panic` / `fail .hang` node anywhere (device errors are never fatal) -/
inductive NoFatalFail : {α : Type} → Prog α → Prop where
  | pure {α} (a : α) : NoFatalFail (Prog.pure a)
  | fail {α} (e : Err) : e.isFatal = false → NoFatalFail (Prog.fail (α := α) e)
  | op (o : Op) : NoFatalFail (Prog.op o)
  | bind {α β} (p : Prog β) (k : β → Prog α) : NoFatalFail p → (∀ b, NoFatalFail (k b)) → NoFatalFail (Prog.bind p k)
  | tryCatch {α} (p : Prog α) (h : Err → Prog α) : NoFatalFail p → (∀ e, NoFatalFail (h e)) →
      NoFatalFail (Prog.tryCatch p h)
  | finallyDrop {α} (p : Prog α) (c : Option α → Prog Unit) : NoFatalFail p → (∀ o, NoFatalFail (c o)) → NoFatalFail (Prog.finallyDrop p c)

/-- SEMANTIC version of `NoFatalFail`: no run of the program ends in a panic or a hang (what a destructor body must
    satisfy; e.g. the fuel-exhaustion `.fail .hang` of `writeAllLoop` is syntactically present but unreachable) -/
structure NonFatal {α} (p : Prog α) : Prop where
  out : ∀ (d : Dev) (e : Err) (d' : Dev), run p d = (.error e, d') → e.isFatal = false

theorem NonFatal.pure {α} (a : α) : NonFatal (Prog.pure a) :=
  ⟨fun d e d' hr => by simp only [run] at hr; cases hr⟩

theorem NonFatal.fail {α} (e : Err) (he : e.isFatal = false) : NonFatal (Prog.fail (α := α) e) :=
  ⟨fun d e' d' hr => by simp only [run] at hr; cases hr; exact he⟩

theorem NonFatal.op (o : Op) : NonFatal (Prog.op o) :=
  ⟨fun d e d' hr => by simp only [run] at hr; exact (stepOp_facts o d hr).nonFatal e rfl⟩

theorem NonFatal.bind {α β} {p : Prog β} {k : β → Prog α} (hp : NonFatal p) (hk : ∀ b, NonFatal (k b)) :
    NonFatal (Prog.bind p k) := by
  refine ⟨fun d e d' hr => ?_⟩
  rcases run_bind_cases hr with ⟨b, d1, _, h2⟩ | ⟨e1, h1, he⟩
  · exact (hk b).out d1 e d' h2
  · cases he; exact hp.out d _ _ h1

theorem NonFatal.tryCatch {α} {p : Prog α} {h : Err → Prog α} (hp : NonFatal p) (hh : ∀ e, NonFatal (h e)) :
    NonFatal (Prog.tryCatch p h) := by
  refine ⟨fun d e d' hr => ?_⟩
  rcases run_tryCatch_cases hr with h1 | ⟨e1, d1, _, _, h2⟩
  · exact hp.out d _ _ h1
  · exact (hh e1).out d1 _ _ h2

theorem NonFatal.finallyDrop {α} {p : Prog α} {c : Option α → Prog Unit} (hp : NonFatal p)
    (hc : ∀ o, NonFatal (c o)) : NonFatal (Prog.finallyDrop p c) := by
  refine ⟨fun d e d' hr => ?_⟩
  obtain ⟨rp, d1, h1, h⟩ := run_finallyDrop_cases hr
  rcases h with ⟨_, rfl, _⟩ | ⟨_, rc, d2, h2, hres, _⟩
  · exact hp.out d _ _ h1
  · rcases scopeRes_cases rp rc with h | ⟨e', rfl, _, h⟩ <;> rw [h] at hres
    · exact hp.out d _ _ (hres ▸ h1)
    · cases hres; exact (hc _).out _ _ _ h2

theorem NoFatalFail.nonFatal {α} {p : Prog α} (hp : NoFatalFail p) : NonFatal p := by
  induction hp with
  | pure a => exact .pure a
  | fail e he => exact .fail e he
  | op o => exact .op o
  | bind p k _ _ ihp ihk => exact .bind ihp ihk
  | tryCatch p h _ _ ihp ihh => exact .tryCatch ihp ihh
  | finallyDrop p c _ _ ihp ihc => exact .finallyDrop ihp ihc

/-- a scope whose destructor bodies cannot panic ends with the result of its body; the destructor bodies, if they
    ran, ran one level deeper on the device the body left -/
theorem run_finallyDrop_nonFatal {α} {p : Prog α} {c : Option α → Prog Unit} (hc : ∀ o, NonFatal (c o)) {d : Dev}
    {r d'} (hr : run (Prog.finallyDrop p c) d = (r, d')) :
    ∃ d1, run p d = (r, d1) ∧ (d' = d1 ∨ ∃ o rc d2, run (c o) { d1 with dropDepth := d1.dropDepth + 1 } = (rc, d2) ∧
      d' = { d2 with dropDepth := d2.dropDepth - 1 }) := by
  obtain ⟨rp, d1, h1, h⟩ := run_finallyDrop_cases hr
  rcases h with ⟨_, rfl, rfl⟩ | ⟨_, rc, d2, h2, rfl, rfl⟩
  · exact ⟨_, h1, Or.inl rfl⟩
  · rcases scopeRes_cases rp rc with h | ⟨e', rfl, he, _⟩
    · exact ⟨_, by rw [h]; exact h1, Or.inr ⟨_, _, _, h2, rfl⟩⟩
    · rw [(hc _).out _ _ _ h2] at he; cases he

/-! ### C09: error propagation -/

/-- started with no fault fired: either none fired; or exactly one did, the schedule is spent, and if it fired
    OUTSIDE a destructor the result is the I/O error carrying the index of the failed call -/
def FaultOutcome (e? : Option Err) (d' : Dev) : Prop :=
  d'.fault = none ∨
  (d'.failAt = none ∧ ∃ f, d'.fault = some f ∧ (f.inDrop = false → e? = some (.io f.k)))

def Propagates {α} (p : Prog α) : Prop :=
  ∀ d : Dev, d.fault = none → ∀ r d', run p d = (r, d') → FaultOutcome (resErr r) d'

/-- the error "carried" by a result when successful values may themselves carry a caught error (`f`) -/
def errVia {α} (f : α → Option Err) : Except Err α → Option Err
  | .ok a => f a
  | .error e => some e

/-- `Propagates` for programs that may return a caught error as (part of) their VALUE — `Prog.attempt p`,
    `writeSlotsKeep`: a fault fired outside a destructor shows up either as the raised error or as the carried one -/
def PropagatesVia {α} (f : α → Option Err) (p : Prog α) : Prop :=
  ∀ d : Dev, d.fault = none → ∀ r d', run p d = (r, d') → FaultOutcome (errVia f r) d'

/-- run after the one-shot fault has fired (so no device call can fail any more), the program ends in the I/O
    error `io j` -/
def Reraises {α} (j : Nat) (q : Prog α) : Prop :=
  ∀ d : Dev, d.failAt = none → ∀ r d', run q d = (r, d') → resErr r = some (.io j)

/-! #### propagation up to tolerated substitute errors

`createDir` gives the freshly allocated cluster back when the entry cannot be written, and returns the error of that
roll-back if IT fails (`free_cluster_chain(cluster)?; return Err(err)`). `PropagatesX X` is `Propagates` where, after a
fault `f` outside a destructor, the result may instead be an error `e` with `X f e`. -/

def FaultOutcomeX (X : Fault → Err → Prop) (e? : Option Err) (d' : Dev) : Prop :=
  d'.fault = none ∨
  (d'.failAt = none ∧ ∃ f, d'.fault = some f ∧
    (f.inDrop = false → e? = some (.io f.k) ∨ ∃ e, e? = some e ∧ X f e))

def PropagatesX {α} (X : Fault → Err → Prop) (p : Prog α) : Prop :=
  ∀ d : Dev, d.fault = none → ∀ r d', run p d = (r, d') → FaultOutcomeX X (resErr r) d'

/-! #### the one notion behind these, and its rules

`FaultOutcomeOf T` leaves open what is asked of a fault `f` that fired outside destructors: `T f e? d'`, which may speak
of the device too (Proofs/FaultWriteEntry: the directory is still writable). `FaultOutcome` and `FaultOutcomeX X` unfold
to it at `ioT` and `xT X`, and `Propagates`, `PropagatesVia f`, `PropagatesX X` ask it of `resErr r`, `errVia f r`,
`resErr r` on every run: so each rule about them is the rule about `FaultOutcomeOf` at one device, the result seen
through any `v`. -/

def FaultOutcomeOf (T : Fault → Option Err → Dev → Prop) (e? : Option Err) (d' : Dev) : Prop :=
  d'.fault = none ∨ (d'.failAt = none ∧ ∃ f, d'.fault = some f ∧ (f.inDrop = false → T f e? d'))

abbrev ioT : Fault → Option Err → Dev → Prop := fun f e _ => e = some (.io f.k)

abbrev xT (X : Fault → Err → Prop) : Fault → Option Err → Dev → Prop :=
  fun f e _ => e = some (.io f.k) ∨ ∃ e', e = some e' ∧ X f e'

theorem xT_none (X : Fault → Err → Prop) (f : Fault) (d : Dev) : ¬ xT X f none d := by
  rintro (h | ⟨_, h, _⟩) <;> cases h

theorem FaultOutcomeOf.mono {T T' : Fault → Option Err → Dev → Prop} {e? : Option Err} {d' : Dev}
    (h : FaultOutcomeOf T e? d') (hT : ∀ f, T f e? d' → T' f e? d') : FaultOutcomeOf T' e? d' :=
  h.imp_right fun ⟨h1, f, h2, h3⟩ => ⟨h1, f, h2, fun hf => hT f (h3 hf)⟩

/-- **sequencing, at one device.** Either the prefix failed (`herr`: what held of its error holds of the whole), or the
    fault fired inside one of its destructors (nothing is asked any more), or no fault fired yet and the continuation
    decides (`hk`), or the prefix was hit and still returned a value `b` — it caught the error, which `v1` may see in
    `b` — and the continuation runs on a device that cannot fail any more (`hre`). -/
theorem faultOutcomeOf_bindVia {T1 T : Fault → Option Err → Dev → Prop} {α β} {v1 : Except Err β → Option Err}
    {v : Except Err α → Option Err} {p : Prog β} {k : β → Prog α} {d : Dev}
    (hp : ∀ r1 d1, run p d = (r1, d1) → FaultOutcomeOf T1 (v1 r1) d1) {r d'} (hr : run (Prog.bind p k) d = (r, d'))
    (hk : ∀ b d1, run p d = (.ok b, d1) → d1.fault = none → ∀ r d', run (k b) d1 = (r, d') → FaultOutcomeOf T (v r) d')
    (herr : ∀ f e d1, T1 f (v1 (.error e)) d1 → T f (v (.error e)) d1)
    (hre : ∀ b f d1, T1 f (v1 (.ok b)) d1 → d1.failAt = none → d1.fault = some f → ∀ r d', run (k b) d1 = (r, d') →
      T f (v r) d') : FaultOutcomeOf T (v r) d' := by
  rcases run_bind_cases hr with ⟨b, d1, h1, hkr⟩ | ⟨e, h1, rfl⟩
  · rcases hp _ _ h1 with hf1 | ⟨hfa, f, hf, h3⟩
    · exact hk b d1 h1 hf1 _ _ hkr
    · have hs := (run_facts (k b) d1 hkr).spent hfa
      exact Or.inr ⟨hs.1, f, hs.2.trans hf, fun hnd => hre b f d1 (h3 hnd) hfa hf _ _ hkr⟩
  · exact (hp _ _ h1).imp_right fun ⟨h1, f, h2, h3⟩ => ⟨h1, f, h2, fun hnd => herr f e _ (h3 hnd)⟩

/-- … where a value is never an admissible result after the fault (`hT`) -/
theorem faultOutcomeOf_bind {T : Fault → Option Err → Dev → Prop} (hT : ∀ f d, ¬ T f none d) {α β} {p : Prog β}
    {k : β → Prog α} {d : Dev} (hp : ∀ r1 d1, run p d = (r1, d1) → FaultOutcomeOf T (resErr r1) d1)
    {r d'} (hr : run (Prog.bind p k) d = (r, d'))
    (hk : ∀ b d1, run p d = (.ok b, d1) → d1.fault = none → ∀ r d', run (k b) d1 = (r, d') →
      FaultOutcomeOf T (resErr r) d') : FaultOutcomeOf T (resErr r) d' :=
  faultOutcomeOf_bindVia hp hr hk (fun _ _ _ h => h) fun _ f d1 h => absurd h (hT f d1)

/-- **a scope, at one device**: the outcome of the body is the outcome of the scope when the destructors cannot panic
    (`T`: a condition on fault and error alone, as `ioT` and `xT X`) -/
theorem faultOutcomeOf_finallyDrop {T : Fault → Option Err → Prop} {α} {p : Prog α} {c : Option α → Prog Unit} {d : Dev}
    (hb : ∀ rb db, run p d = (rb, db) → FaultOutcomeOf (fun f e _ => T f e) (resErr rb) db) (hc : ∀ o, NonFatal (c o))
    {r d'} (hr : run (Prog.finallyDrop p c) d = (r, d')) : FaultOutcomeOf (fun f e _ => T f e) (resErr r) d' := by
  obtain ⟨d1, h1, rfl | ⟨o, rc, d2, h2, rfl⟩⟩ := run_finallyDrop_nonFatal hc hr
  · exact hb _ _ h1
  · -- a fault fired by the destructor bodies is in-drop, one fired before stays as it is
    show FaultOutcomeOf (fun f e _ => T f e) (resErr r) d2
    rcases hb _ _ h1 with h0 | ⟨hfa, f, hf, h3⟩
    · rcases run_any (c o) { d1 with dropDepth := d1.dropDepth + 1 } h0 h2 with h4 | ⟨h4, f', h5, h6⟩
      · exact Or.inl h4
      · exact Or.inr ⟨h4, f', h5, fun hf' => by rw [h6 (Nat.succ_pos _)] at hf'; cases hf'⟩
    · have := (run_facts (c o) _ h2).spent hfa
      exact Or.inr ⟨this.1, f, this.2.trans hf, h3⟩

/-! #### between the outcomes -/

theorem FaultOutcomeX.mono {X Y : Fault → Err → Prop} {e? : Option Err} {d' : Dev} (h : FaultOutcomeX X e? d')
    (hxy : ∀ f e, X f e → Y f e) : FaultOutcomeX Y e? d' :=
  FaultOutcomeOf.mono (T := xT X) (T' := xT Y) h fun f h => h.imp id fun ⟨e, h4, h5⟩ => ⟨e, h4, hxy f e h5⟩

theorem FaultOutcome.toX {X : Fault → Err → Prop} {e? : Option Err} {d' : Dev} (h : FaultOutcome e? d') :
    FaultOutcomeX X e? d' :=
  FaultOutcomeOf.mono (T := ioT) (T' := xT X) h fun _ => Or.inl

theorem FaultOutcomeX.toOutcome {X : Fault → Err → Prop} {e? : Option Err} {d' : Dev} (h : FaultOutcomeX X e? d')
    (hX : ∀ f e, ¬ X f e) : FaultOutcome e? d' :=
  FaultOutcomeOf.mono (T := xT X) (T' := ioT) h fun f h => h.elim id fun ⟨e, _, h5⟩ => absurd h5 (hX f e)

theorem Propagates.toX {α} {X : Fault → Err → Prop} {p : Prog α} (hp : Propagates p) : PropagatesX X p :=
  fun d h r d' hr => (hp d h r d' hr).toX

theorem PropagatesX.toPropagates {α} {X : Fault → Err → Prop} {p : Prog α} (hp : PropagatesX X p)
    (hX : ∀ f e, ¬ X f e) : Propagates p :=
  fun d h r d' hr => (hp d h r d' hr).toOutcome hX

theorem PropagatesX.mono {α} {X Y : Fault → Err → Prop} {p : Prog α} (hp : PropagatesX X p)
    (hxy : ∀ f e, X f e → Y f e) : PropagatesX Y p :=
  fun d h r d' hr => (hp d h r d' hr).mono hxy

/-! #### sequencing on every device -/

theorem PropagatesVia.pure {α} (f : α → Option Err) (a : α) : PropagatesVia f (Prog.pure a) := by
  intro d h r d' hr; simp only [run] at hr; cases hr; left; exact h

/-- the continuation must re-raise an I/O error its argument carries -/
theorem PropagatesVia.bind {α β} {f : β → Option Err} {g : α → Option Err} {q : Prog β} {k : β → Prog α}
    (hq : PropagatesVia f q) (hk : ∀ b, PropagatesVia g (k b))
    (hre : ∀ b j, f b = some (.io j) → ∀ d : Dev, d.failAt = none → ∀ r d', run (k b) d = (r, d') →
      errVia g r = some (.io j)) : PropagatesVia g (Prog.bind q k) :=
  fun d h _ _ hr => faultOutcomeOf_bindVia (T1 := ioT) (T := ioT) (v1 := errVia f) (v := errVia g)
    (fun _ _ h1 => hq d h _ _ h1) hr (fun b d1 _ hf1 => hk b d1 hf1) (fun _ _ _ h => h)
    fun b f0 d1 hb hfa _ r d' hr' => hre b f0.k hb d1 hfa r d' hr'

theorem PropagatesX.bind {α β} {X : Fault → Err → Prop} {p : Prog β} {k : β → Prog α}
    (hp : PropagatesX X p) (hk : ∀ b, PropagatesX X (k b)) : PropagatesX X (Prog.bind p k) :=
  fun d h _ _ hr => faultOutcomeOf_bind (T := xT X) (xT_none X) (fun _ _ h1 => hp d h _ _ h1) hr
    fun b d1 _ hf1 => hk b d1 hf1

/-- sequencing after a program that carries a caught error in its value, up to tolerated errors -/
theorem PropagatesX.bindVia {α β} {X : Fault → Err → Prop} {f : β → Option Err} {q : Prog β} {k : β → Prog α}
    (hq : PropagatesVia f q) (hk : ∀ b, PropagatesX X (k b))
    (hre : ∀ (b : β) (j : Nat), f b = some (.io j) → ∀ (d : Dev) (f0 : Fault), d.failAt = none → d.fault = some f0 →
      ∀ r d', run (k b) d = (r, d') → resErr r = some (.io j) ∨ ∃ e, resErr r = some e ∧ X f0 e) :
    PropagatesX X (Prog.bind q k) :=
  fun d h _ _ hr => faultOutcomeOf_bindVia (T1 := ioT) (T := xT X) (v1 := errVia f) (v := resErr)
    (fun _ _ h1 => hq d h _ _ h1) hr (fun b d1 _ hf1 => hk b d1 hf1) (fun _ _ _ => Or.inl)
    fun b f0 d1 hb hfa hf r d' hr' => hre b f0.k hb d1 f0 hfa hf r d' hr'

/-- value of `attempt` -/
theorem run_attempt {α} (p : Prog α) (d : Dev) :
    run (Prog.attempt p) d =
      match run p d with
      | (.ok a, d1) => (.ok (.ok a), d1)
      | (.error e, d1) => if e.isFatal then (.error e, d1) else (.ok (.error e), d1) := by
  simp only [Prog.attempt, run]
  rcases run p d with ⟨rp, d1⟩
  cases rp with
  | ok a => rfl
  | error e => simp only

/-- `attempt p` carries the error of `p` in its value -/
theorem faultOutcomeOf_attempt {T : Fault → Option Err → Dev → Prop} {α} {p : Prog α} {d : Dev}
    (hp : ∀ r1 d1, run p d = (r1, d1) → FaultOutcomeOf T (resErr r1) d1) {r d'}
    (hr : run (Prog.attempt p) d = (r, d')) : FaultOutcomeOf T (errVia resErr r) d' := by
  rw [run_attempt] at hr
  rcases hq : run p d with ⟨rp, d1⟩
  rw [hq] at hr
  have := hp _ _ hq
  cases rp with
  | ok a => simp only at hr; cases hr; exact this
  | error e =>
    simp only at hr
    split at hr <;> cases hr <;> exact this

theorem attempt_via {α} {p : Prog α} (hp : Propagates p) : PropagatesVia resErr (Prog.attempt p) :=
  fun d h _ _ hr => faultOutcomeOf_attempt (T := ioT) (fun _ _ h1 => hp d h _ _ h1) hr

theorem PropagatesX.finallyDrop {α} {X : Fault → Err → Prop} {p : Prog α} {c : Option α → Prog Unit}
    (ihp : PropagatesX X p) (hc : ∀ o, NonFatal (c o)) : PropagatesX X (Prog.finallyDrop p c) :=
  fun d h _ _ hr => faultOutcomeOf_finallyDrop
    (T := fun f e => e = some (.io f.k) ∨ ∃ e', e = some e' ∧ X f e') (fun _ _ h1 => ihp d h _ _ h1) hc hr

/-- Programs that never swallow or transform an I/O error: no handler, or a handler that re-raises every `io`
    error unchanged (and is itself such a program on the other errors). Destructor bodies (`finallyDrop _ c`) cannot
    report errors — the property's exemption — so `c` is only required not to panic or hang (semantically:
    `NonFatal`). `bindVia` admits a first program that catches an error INTO A VALUE (`Prog.attempt p`), characterised
    semantically, before a continuation that re-raises a carried I/O error. The model's own such places
    (`writeSlotsKeep` in `write_entry`, the roll-back of `create_dir`) re-raise only up to the error of a roll-back and
    go through `PropagatesX.bindVia` / `PropagatesX.attemptThenX` instead. -/
inductive IoSafe : {α : Type} → Prog α → Prop where
  | pure {α} (a : α) : IoSafe (Prog.pure a)
  | fail {α} (e : Err) : IoSafe (Prog.fail (α := α) e)
  | op (o : Op) : IoSafe (Prog.op o)
  | bind {α β} (p : Prog β) (k : β → Prog α) : IoSafe p → (∀ b, IoSafe (k b)) → IoSafe (Prog.bind p k)
  | tryCatch {α} (p : Prog α) (h : Err → Prog α) : IoSafe p → (∀ k, h (.io k) = Prog.fail (.io k)) →
      (∀ e, IoSafe (h e)) → IoSafe (Prog.tryCatch p h)
  | finallyDrop {α} (p : Prog α) (c : Option α → Prog Unit) : IoSafe p → (∀ o, NonFatal (c o)) →
      IoSafe (Prog.finallyDrop p c)
  | bindVia {α β} (f : β → Option Err) (q : Prog β) (k : β → Prog α) : PropagatesVia f q → (∀ b, IoSafe (k b)) →
      (∀ b j, f b = some (.io j) → Reraises j (k b)) → IoSafe (Prog.bind q k)

theorem ioSafe_propagates {α} {p : Prog α} (hp : IoSafe p) : Propagates p := by
  induction hp with
  | pure a => intro d h r d' hr; simp only [run] at hr; cases hr; exact Or.inl h
  | fail e => intro d h r d' hr; simp only [run] at hr; cases hr; exact Or.inl h
  | op o =>
    intro d h r d' hr; simp only [run] at hr
    rcases stepOp_outcome o d h hr with h1 | ⟨h1, f, h2, h3, _⟩
    · exact Or.inl h1
    · exact Or.inr ⟨h1, f, h2, fun _ => by rw [h3]; rfl⟩
  | bind p k _ _ ihp ihk =>
    exact (PropagatesX.bind ihp.toX (fun b => (ihk b).toX)).toPropagates (fun _ _ h => h)
  | tryCatch p hdl _ hre _ ihp ihh =>
    intro d h r d' hr
    rcases run_tryCatch_cases hr with h1 | ⟨e, d1, h1, _, h2⟩
    · exact ihp d h _ _ h1
    · rcases ihp d h _ _ h1 with h0 | ⟨hfa, f, hf, h3⟩
      · exact ihh e d1 h0 _ _ h2
      · -- the fault fired in `p`: outside a destructor `e` is `io f.k`, which the handler re-raises
        have hs := (run_facts (hdl e) d1 h2).spent hfa
        refine Or.inr ⟨hs.1, f, hs.2.trans hf, fun hin => ?_⟩
        have he := h3 hin
        simp only [resErr, Option.some.injEq] at he
        subst he
        rw [hre f.k] at h2
        simp only [run] at h2
        cases h2; rfl
  | finallyDrop p c _ hc ihp =>
    exact (PropagatesX.finallyDrop ihp.toX hc).toPropagates (fun _ _ h => h)
  | bindVia f q k hq _ hre ihk =>
    exact fun d h _ _ hr => faultOutcomeOf_bindVia (T1 := ioT) (T := ioT) (v1 := errVia f) (v := resErr)
      (fun _ _ h1 => hq d h _ _ h1) hr (fun b d1 _ hf1 => ihk b d1 hf1) (fun _ _ _ h => h)
      fun b f0 d1 hb hfa _ r d' hr' => hre b f0.k hb d1 hfa r d' hr'

/-- the rule for destructors that are `NoFatalFail` by syntax -/
theorem IoSafe.finallyDrop_syntactic {α} (p : Prog α) (c : Option α → Prog Unit) (hp : IoSafe p)
    (hc : ∀ o, NoFatalFail (c o)) : IoSafe (Prog.finallyDrop p c) :=
  IoSafe.finallyDrop p c hp (fun o => (hc o).nonFatal)

/-- `attempt p` followed by a continuation that, handed an I/O error, ends by re-raising it -/
theorem IoSafe.attemptThen {α β} (p : Prog β) (k : Except Err β → Prog α) (hp : IoSafe p)
    (hk : ∀ r, IoSafe (k r)) (hre : ∀ j, Reraises j (k (.error (.io j)))) :
    IoSafe (Prog.bind (Prog.attempt p) k) := by
  refine IoSafe.bindVia resErr _ k (attempt_via (ioSafe_propagates hp)) hk ?_
  intro b j hb
  cases b with
  | ok b => cases hb
  | error e => simp only [resErr, Option.some.injEq] at hb; subst hb; exact hre j

/-- re-raising survives a continuation (which is not reached) -/
theorem Reraises.bind {α β} {j : Nat} {q : Prog β} (k : β → Prog α) (hq : Reraises j q) :
    Reraises j (Prog.bind q k) := by
  intro d h r d' hr
  rcases run_bind_cases hr with ⟨b, d1, h1, _⟩ | ⟨e, h1, rfl⟩
  · cases hq d h _ _ h1
  · exact hq d h _ _ h1

/-- a successful prefix followed by re-raising -/
theorem Reraises.seq {α β} {j : Nat} {q : Prog β} {k : β → Prog α}
    (hq : ∀ d : Dev, d.failAt = none → ∀ r d', run q d = (r, d') → ∃ b, r = .ok b)
    (hk : ∀ b, Reraises j (k b)) : Reraises j (Prog.bind q k) := by
  intro d h r d' hr
  rcases run_bind_cases hr with ⟨b, d1, h1, h2⟩ | ⟨e, h1, _⟩
  · exact hk b d1 ((run_facts q d h1).spent h).1 _ _ h2
  · obtain ⟨b, hb⟩ := hq d h _ _ h1; cases hb

theorem Reraises.fail {α} (j : Nat) : Reraises j (Prog.fail (α := α) (.io j)) := by
  intro d _ r d' hr; simp only [run] at hr; cases hr; rfl

/-- raising an I/O error in a scope whose destructors cannot panic -/
theorem Reraises.finallyDrop {α} {j : Nat} {q : Prog α} {c : Option α → Prog Unit} (hq : Reraises j q)
    (hc : ∀ o, NonFatal (c o)) : Reraises j (Prog.finallyDrop q c) := by
  intro d h r d' hr
  obtain ⟨d1, h1, _⟩ := run_finallyDrop_nonFatal hc hr
  exact hq d h _ _ h1

/-- the error of a scope whose destructors cannot panic is the error of its body -/
theorem resErr_finallyDrop {α} {q : Prog α} {c : Option α → Prog Unit} (hc : ∀ o, NonFatal (c o)) {d : Dev} {r d'}
    (hr : run (Prog.finallyDrop q c) d = (r, d')) : ∃ rq d1, run q d = (rq, d1) ∧ resErr r = resErr rq := by
  obtain ⟨d1, h1, _⟩ := run_finallyDrop_nonFatal hc hr
  exact ⟨r, d1, h1, rfl⟩

/-- `attempt p` where `p` itself propagates only up to tolerated errors: the continuation must pass on (or replace by a
    tolerated error) both the I/O error and a tolerated error it is handed -/
theorem PropagatesX.attemptThenX {α β} {X : Fault → Err → Prop} {p : Prog β} {k : Except Err β → Prog α}
    (hp : PropagatesX X p) (hk : ∀ r, PropagatesX X (k r))
    (hre : ∀ (j : Nat) (d : Dev) (f : Fault), d.failAt = none → d.fault = some f →
      ∀ r d', run (k (.error (.io j))) d = (r, d') → resErr r = some (.io j) ∨ ∃ e, resErr r = some e ∧ X f e)
    (hreX : ∀ (e : Err) (d : Dev) (f : Fault), X f e → d.failAt = none → d.fault = some f →
      ∀ r d', run (k (.error e)) d = (r, d') → ∃ e', resErr r = some e' ∧ X f e') :
    PropagatesX X (Prog.bind (Prog.attempt p) k) := by
  refine fun d h _ _ hr => faultOutcomeOf_bindVia (T1 := xT X) (T := xT X) (v1 := errVia resErr) (v := resErr)
    (fun _ _ h1 => faultOutcomeOf_attempt (T := xT X) (fun _ _ h2 => hp d h _ _ h2) h1) hr (fun b d1 _ hf1 => hk b d1 hf1)
    (fun _ _ _ h => h) ?_
  intro b f0 d1 hb hfa hf r d' hr'
  cases b with
  | ok b => exact absurd hb (xT_none X f0 d1)
  | error e =>
    rcases hb with hb | ⟨e0, hb, he⟩
    · cases hb; exact hre _ d1 f0 hfa hf r d' hr'
    · cases hb; exact Or.inr (hreX _ d1 f0 he hfa hf r d' hr')

/-- `attempt p`, then a continuation which — handed the I/O error, run after the fault has fired — ends in that
    error or in a tolerated one -/
theorem PropagatesX.attemptThen {α β} {X : Fault → Err → Prop} {p : Prog β} {k : Except Err β → Prog α}
    (hp : Propagates p) (hk : ∀ r, PropagatesX X (k r))
    (hre : ∀ (j : Nat) (d : Dev) (f : Fault), d.failAt = none → d.fault = some f →
      ∀ r d', run (k (.error (.io j))) d = (r, d') → resErr r = some (.io j) ∨ ∃ e, resErr r = some e ∧ X f e) :
    PropagatesX X (Prog.bind (Prog.attempt p) k) := by
  refine PropagatesX.bindVia (attempt_via hp) hk (fun b j hb => ?_)
  cases b with
  | ok b => cases hb
  | error e => simp only [resErr, Option.some.injEq] at hb; subst hb; exact hre j

/-- an `IoSafe` prefix -/
theorem PropagatesX.bind_ioSafe {α β} {X : Fault → Err → Prop} {p : Prog β} {k : β → Prog α} (hp : IoSafe p)
    (hk : ∀ b, PropagatesX X (k b)) : PropagatesX X (Prog.bind p k) :=
  PropagatesX.bind (ioSafe_propagates hp).toX hk

/-! ### one judgement over runs

`Tri R P p Q`: started on a device satisfying `P`, every run of `p` (successful or not) relates the device before and
after by `R`, and a successful result `v` with the final device satisfies `Q v`. `R` is composed by transitivity, so what
a handler or a destructor may assume of the device it starts on is whatever `P` says that `R`-steps keep: `Frame R P`.
`Steps R`, `RO fs0`, `NW fs0` below and `GS fs0 sz C` (Proofs/WriteClass.lean) are this judgement at a particular `R`, `P`
and shape of `Q`; their composition rules are the ones proved here. (`MS s0 sz` of Props/C10slice.lean, which speaks of
successful runs only, and `PU p len` of Proofs/WriteClassFile.lean, which depends on the device position, are judgements
of their own with their own rules.) -/

/-- a relation between the device before and after that is reflexive, transitive and blind to the destructor depth -/
structure RelOK (R : Dev → Dev → Prop) : Prop where
  refl : ∀ d, R d d
  trans : ∀ a b c, R a b → R b c → R a c
  depth : ∀ (d : Dev) (n : Nat), R d { d with dropDepth := n }

/-- a run one destructor level deeper, seen from outside -/
theorem RelOK.drop {R} (hR : RelOK R) {d1 d2 : Dev} (h : R { d1 with dropDepth := d1.dropDepth + 1 } d2) :
    R d1 { d2 with dropDepth := d2.dropDepth - 1 } :=
  hR.trans _ _ _ (hR.trans _ _ _ (hR.depth d1 _) h) (hR.depth d2 _)

structure Tri (R : Dev → Dev → Prop) {α} (P : Dev → Prop) (p : Prog α) (Q : α → Dev → Prop) : Prop where
  out : ∀ (d : Dev) (r : Except Err α) (d' : Dev), P d → run p d = (r, d') → R d d' ∧ ∀ v, r = .ok v → Q v d'

/-- a relation that composes along runs, with a precondition that its steps and changes of the destructor depth keep -/
structure Frame (R : Dev → Dev → Prop) (P : Dev → Prop) : Prop where
  rel : RelOK R
  step : ∀ d d', P d → R d d' → P d'
  depth : ∀ (d : Dev) (n : Nat), P d → P { d with dropDepth := n }

theorem RelOK.frame {R} (hR : RelOK R) : Frame R (fun _ => True) := ⟨hR, fun _ _ h _ => h, fun _ _ h => h⟩

section rules
variable {R : Dev → Dev → Prop} {P : Dev → Prop}

theorem Tri.conseq {α} {p : Prog α} {P' : Dev → Prop} {Q Q' : α → Dev → Prop} (h : Tri R P p Q)
    (hP : ∀ d, P' d → P d) (hQ : ∀ v d, Q v d → Q' v d) : Tri R P' p Q' :=
  ⟨fun d r d' hp hr => ⟨(h.out d r d' (hP d hp) hr).1, fun v hv => hQ v d' ((h.out d r d' (hP d hp) hr).2 v hv)⟩⟩

theorem Tri.mono {α} {p : Prog α} {R' : Dev → Dev → Prop} {Q : α → Dev → Prop} (h : Tri R P p Q)
    (hR : ∀ d d', R d d' → R' d d') : Tri R' P p Q :=
  ⟨fun d r d' hp hr => ⟨hR d d' (h.out d r d' hp hr).1, (h.out d r d' hp hr).2⟩⟩

/-- a fact that does not depend on the device may be assumed outside the judgement -/
theorem Tri.of_imp {α} {p : Prog α} {A : Prop} {Q : α → Dev → Prop} (h : A → Tri R P p Q) :
    Tri R (fun d => P d ∧ A) p Q :=
  ⟨fun d r d' hp hr => (h hp.2).out d r d' hp.1 hr⟩

theorem Tri.pure (hR : RelOK R) {α} {Q : α → Dev → Prop} {a : α} (h : ∀ d, P d → Q a d) : Tri R P (Prog.pure a) Q :=
  ⟨fun d r d' hp hr => by simp only [run] at hr; cases hr; exact ⟨hR.refl _, fun v hv => by cases hv; exact h _ hp⟩⟩

theorem Tri.fail (hR : RelOK R) {α} {Q : α → Dev → Prop} (e : Err) : Tri R P (Prog.fail (α := α) e) Q :=
  ⟨fun d r d' _ hr => by simp only [run] at hr; cases hr; exact ⟨hR.refl _, fun v hv => by cases hv⟩⟩

theorem Tri.bind (hR : RelOK R) {α β} {p : Prog β} {k : β → Prog α} {Q : β → Dev → Prop} {Q' : α → Dev → Prop}
    (hp : Tri R P p Q) (hk : ∀ b, Tri R (Q b) (k b) Q') : Tri R P (Prog.bind p k) Q' := by
  refine ⟨fun d r d' hpre hr => ?_⟩
  rcases run_bind_cases hr with ⟨b, d1, h1, h2⟩ | ⟨e, h1, rfl⟩
  · have a1 := hp.out d _ _ hpre h1
    have a2 := (hk b).out d1 _ _ (a1.2 b rfl) h2
    exact ⟨hR.trans _ _ _ a1.1 a2.1, a2.2⟩
  · exact ⟨(hp.out d _ _ hpre h1).1, fun v hv => by cases hv⟩

theorem Tri.tryCatch (hF : Frame R P) {α} {p : Prog α} {h : Err → Prog α} {Q : α → Dev → Prop}
    (hp : Tri R P p Q) (hh : ∀ e, Tri R P (h e) Q) : Tri R P (Prog.tryCatch p h) Q := by
  refine ⟨fun d r d' hpre hr => ?_⟩
  rcases run_tryCatch_cases hr with h1 | ⟨e, d1, h1, _, h2⟩
  · exact hp.out d _ _ hpre h1
  · have a1 := hp.out d _ _ hpre h1
    have a2 := (hh e).out d1 _ _ (hF.step d d1 hpre a1.1) h2
    exact ⟨hF.rel.trans _ _ _ a1.1 a2.1, a2.2⟩

/-! the rules for postconditions on the value alone (the shape `RO` and `GS` have): the continuation, the handler, the
    destructor bodies start from `P` again -/

theorem Tri.pureV (hR : RelOK R) {α} {Post : α → Prop} {a : α} (h : Post a) : Tri R P (Prog.pure a) (fun v _ => Post v) :=
  Tri.pure hR (fun _ _ => h)

theorem Tri.bindV (hF : Frame R P) {α β} {p : Prog β} {k : β → Prog α} {Q : β → Prop}
    {Q' : α → Dev → Prop} (hp : Tri R P p (fun v _ => Q v)) (hk : ∀ b, Q b → Tri R P (k b) Q') :
    Tri R P (Prog.bind p k) Q' :=
  Tri.bind hF.rel (Q := fun b d => P d ∧ Q b)
    ⟨fun d r d' hpre hr => let a := hp.out d r d' hpre hr; ⟨a.1, fun v hv => ⟨hF.step d d' hpre a.1, a.2 v hv⟩⟩⟩
    (fun b => Tri.of_imp (hk b))

/-- scope exit: the destructor bodies run one level deeper on what the body left, and cannot replace its result except
    by a panic -/
theorem Tri.finallyDropV (hF : Frame R P) {α} {p : Prog α} {c : Option α → Prog Unit} {Post : α → Prop}
    (hp : Tri R P p (fun v _ => Post v)) (hsome : ∀ a, Post a → Tri R P (c (some a)) (fun _ _ => True))
    (hnone : Tri R P (c none) (fun _ _ => True)) : Tri R P (Prog.finallyDrop p c) (fun v _ => Post v) := by
  refine ⟨fun d r d' hpre hr => ?_⟩
  obtain ⟨rp, d1, h1, h⟩ := run_finallyDrop_cases hr
  have a1 := hp.out d _ _ hpre h1
  have hp1 := hF.depth d1 (d1.dropDepth + 1) (hF.step d d1 hpre a1.1)
  rcases h with ⟨_, rfl, rfl⟩ | ⟨_, rc, d2, h2, rfl, rfl⟩
  · exact a1
  · have hc : R { d1 with dropDepth := d1.dropDepth + 1 } d2 := by
      cases rp with
      | ok a => exact ((hsome a (a1.2 a rfl)).out _ _ _ hp1 h2).1
      | error e => exact (hnone.out _ _ _ hp1 h2).1
    refine ⟨hF.rel.trans _ _ _ a1.1 (hF.rel.drop hc), fun v hv => ?_⟩
    rcases scopeRes_cases rp rc with h | ⟨e', _, _, h⟩ <;> rw [h] at hv
    · exact a1.2 v hv
    · cases hv

/-- reading the mounted state: what the precondition says of it is known of the value -/
theorem Tri.bindGetFs {F : FsState → Prop} (hF : ∀ d, P d → F d.fs) {α}
    {k : FsState → Prog α} {Q : α → Dev → Prop} (hk : ∀ fs, F fs → Tri R P (k fs) Q) :
    Tri R P (Prog.bind Prog.getFs k) Q :=
  ⟨fun d r d' hp hr => by rw [run_getFs_bind] at hr; exact (hk d.fs (hF d hp)).out d r d' hp hr⟩

end rules

/-- every run of `p` relates the device before and after -/
structure Steps (R : Dev → Dev → Prop) {α} (p : Prog α) : Prop where
  out : ∀ (d : Dev) (r : Except Err α) (d' : Dev), run p d = (r, d') → R d d'

theorem steps_iff_tri {R} {α} {p : Prog α} : Steps R p ↔ Tri R (fun _ => True) p (fun _ _ => True) :=
  ⟨fun h => ⟨fun d r d' _ hr => ⟨h.out d r d' hr, fun _ _ => trivial⟩⟩, fun h => ⟨fun d r d' hr => (h.out d r d' trivial hr).1⟩⟩

theorem Steps.pure {R} (hR : RelOK R) {α} (a : α) : Steps R (Prog.pure a) :=
  steps_iff_tri.2 (Tri.pureV hR trivial)

theorem Steps.fail {R} (hR : RelOK R) {α} (e : Err) : Steps R (Prog.fail (α := α) e) :=
  steps_iff_tri.2 (Tri.fail hR e)

theorem Steps.bind {R} (hR : RelOK R) {α β} {p : Prog β} {k : β → Prog α} (hp : Steps R p)
    (hk : ∀ b, Steps R (k b)) : Steps R (Prog.bind p k) :=
  steps_iff_tri.2 (Tri.bind hR (steps_iff_tri.1 hp) (fun b => steps_iff_tri.1 (hk b)))

theorem Steps.tryCatch {R} (hR : RelOK R) {α} {p : Prog α} {h : Err → Prog α} (hp : Steps R p)
    (hh : ∀ e, Steps R (h e)) : Steps R (Prog.tryCatch p h) :=
  steps_iff_tri.2 (Tri.tryCatch hR.frame (steps_iff_tri.1 hp) (fun e => steps_iff_tri.1 (hh e)))

theorem Steps.finallyDrop {R} (hR : RelOK R) {α} {p : Prog α} {c : Option α → Prog Unit} (hp : Steps R p)
    (hc : ∀ o, Steps R (c o)) : Steps R (Prog.finallyDrop p c) :=
  steps_iff_tri.2 (Tri.finallyDropV (Post := fun _ => True) hR.frame (steps_iff_tri.1 hp)
    (fun _ _ => steps_iff_tri.1 (hc _)) (steps_iff_tri.1 (hc _)))

/-- a relation every primitive step satisfies holds along every run -/
theorem steps_of_ops {R} (hR : RelOK R) (hop : ∀ (o : Op) (d : Dev) r d', stepOp o d = (r, d') → R d d')
    {α} (p : Prog α) : Steps R p := by
  induction p with
  | pure a => exact Steps.pure hR a
  | fail e => exact Steps.fail hR e
  | op o => exact ⟨fun d r d' hr => by simp only [run] at hr; exact hop o d r d' hr⟩
  | bind p k ihp ihk => exact Steps.bind hR ihp ihk
  | tryCatch p h ihp ihh => exact Steps.tryCatch hR ihp ihh
  | finallyDrop p c ihp ihc => exact Steps.finallyDrop hR ihp ihc

/-- the log only grows (newest first) -/
def LogExtends (d d' : Dev) : Prop := ∃ items, d'.log = items ++ d.log

theorem logExtends_ok : RelOK LogExtends where
  refl := fun d => ⟨[], rfl⟩
  trans := by
    rintro a b c ⟨i1, h1⟩ ⟨i2, h2⟩
    exact ⟨i2 ++ i1, by rw [h2, h1, List.append_assoc]⟩
  depth := fun d n => ⟨[], rfl⟩

theorem run_logExtends {α} (p : Prog α) (d : Dev) (r : Except Err α) (d' : Dev) (hr : run p d = (r, d')) :
    LogExtends d d' := by
  refine (steps_of_ops logExtends_ok (fun o d r d' h => ?_) p).out d r d' hr
  rcases (stepOp_facts o d h).log with h | h | ⟨_, off, bs, h⟩
  · exact ⟨[], h⟩
  · exact ⟨[_], h⟩
  · exact ⟨[_], h⟩

/-- the device size never changes -/
theorem run_img_size {α} (p : Prog α) (d : Dev) (r : Except Err α) (d' : Dev) (hr : run p d = (r, d')) :
    d'.img.size = d.img.size :=
  (steps_of_ops (R := fun d d' => d'.img.size = d.img.size) ⟨fun _ => rfl, fun _ _ _ h1 h2 => h2.trans h1, fun _ _ => rfl⟩
    (fun o d _ _ h => (stepOp_facts o d h).size) p).out d r d' hr

/-! ### C13: programs without write operations write nothing -/

inductive NoWriteOps : {α : Type} → Prog α → Prop where
  | pure {α} (a : α) : NoWriteOps (Prog.pure a)
  | fail {α} (e : Err) : NoWriteOps (Prog.fail (α := α) e)
  | op (o : Op) : o.isWrite = false → NoWriteOps (Prog.op o)
  | bind {α β} (p : Prog β) (k : β → Prog α) : NoWriteOps p → (∀ b, NoWriteOps (k b)) → NoWriteOps (Prog.bind p k)
  | tryCatch {α} (p : Prog α) (h : Err → Prog α) : NoWriteOps p → (∀ e, NoWriteOps (h e)) →
      NoWriteOps (Prog.tryCatch p h)
  | finallyDrop {α} (p : Prog α) (c : Option α → Prog Unit) : NoWriteOps p → (∀ o, NoWriteOps (c o)) → NoWriteOps (Prog.finallyDrop p c)

def LogItem.isWrite : LogItem → Bool
  | .write _ _ => true
  | .flush => false

/-- the write records of the log (newest first), without the `flush` records -/
def Dev.writesOf (d : Dev) : List LogItem := d.log.filter LogItem.isWrite

def SameWrites (d d' : Dev) : Prop := d'.img = d.img ∧ d'.writesOf = d.writesOf

theorem SameWrites.refl (d : Dev) : SameWrites d d := ⟨rfl, rfl⟩

theorem SameWrites.trans {a b c : Dev} (h1 : SameWrites a b) (h2 : SameWrites b c) : SameWrites a c :=
  ⟨h2.1.trans h1.1, h2.2.trans h1.2⟩

theorem sameWrites_depth (d : Dev) (n : Nat) : SameWrites d { d with dropDepth := n } := ⟨rfl, rfl⟩

theorem sameWrites_ok : RelOK SameWrites := ⟨.refl, fun _ _ _ => .trans, sameWrites_depth⟩

theorem noWriteOps_sound {α} {p : Prog α} (hp : NoWriteOps p) :
    ∀ (d : Dev) {r d'}, run p d = (r, d') → SameWrites d d' := by
  suffices h : Steps SameWrites p from fun d _ _ hr => h.out d _ _ hr
  induction hp with
  | pure a => exact .pure sameWrites_ok a
  | fail e => exact .fail sameWrites_ok e
  | op o ho =>
    refine ⟨fun d r d' hr => ?_⟩
    simp only [run] at hr
    have h := stepOp_facts o d hr
    refine ⟨h.img ho, ?_⟩
    rcases h.log with hl | hl | ⟨hw, _⟩
    · simp only [Dev.writesOf, hl]
    · simp only [Dev.writesOf, hl, List.filter_cons, LogItem.isWrite, Bool.false_eq_true, if_false]
    · rw [ho] at hw; cases hw
  | bind p k _ _ ihp ihk => exact .bind sameWrites_ok ihp ihk
  | tryCatch p h _ _ ihp ihh => exact .tryCatch sameWrites_ok ihp ihh
  | finallyDrop p c _ _ ihp ihc => exact .finallyDrop sameWrites_ok ihp ihc

/-! ### C13: read-only reasoning — programs that neither write nor update the file-system state

`QuietOps p`: no `write` and no `setFs` node. `RO fs0 p Post`: a Hoare-style judgement — run on a device whose
mounted state is `fs0`, `p` leaves image, write log and mounted state unchanged and a successful result satisfies
`Post`. `QuietOps` is the syntactic leaf rule; `RO.bind`/`RO.tryCatch`/`RO.finallyDrop` compose. -/

def Op.isQuiet : Op → Bool
  | .write _ => false
  | .setFs _ => false
  | _ => true

inductive QuietOps : {α : Type} → Prog α → Prop where
  | pure {α} (a : α) : QuietOps (Prog.pure a)
  | fail {α} (e : Err) : QuietOps (Prog.fail (α := α) e)
  | op (o : Op) : o.isQuiet = true → QuietOps (Prog.op o)
  | bind {α β} (p : Prog β) (k : β → Prog α) : QuietOps p → (∀ b, QuietOps (k b)) → QuietOps (Prog.bind p k)
  | tryCatch {α} (p : Prog α) (h : Err → Prog α) : QuietOps p → (∀ e, QuietOps (h e)) →
      QuietOps (Prog.tryCatch p h)
  | finallyDrop {α} (p : Prog α) (c : Option α → Prog Unit) : QuietOps p → (∀ o, QuietOps (c o)) →
      QuietOps (Prog.finallyDrop p c)

theorem QuietOps.noWriteOps {α} {p : Prog α} (hp : QuietOps p) : NoWriteOps p := by
  induction hp with
  | pure a => exact .pure a
  | fail e => exact .fail e
  | op o ho => exact .op o (by cases o <;> simp_all [Op.isQuiet, Op.isWrite])
  | bind p k _ _ ihp ihk => exact .bind p k ihp ihk
  | tryCatch p h _ _ ihp ihh => exact .tryCatch p h ihp ihh
  | finallyDrop p c _ _ ihp ihc => exact .finallyDrop p c ihp ihc

theorem quietOps_fs {α} {p : Prog α} (hp : QuietOps p) :
    ∀ (d : Dev) {r d'}, run p d = (r, d') → d'.fs = d.fs := by
  have hR : RelOK (fun d d' : Dev => d'.fs = d.fs) := ⟨fun _ => rfl, fun _ _ _ h1 h2 => h2.trans h1, fun _ _ => rfl⟩
  suffices h : Steps (fun d d' : Dev => d'.fs = d.fs) p from fun d _ _ hr => h.out d _ _ hr
  induction hp with
  | pure a => exact .pure hR a
  | fail e => exact .fail hR e
  | op o ho =>
    refine ⟨fun d r d' hr => ?_⟩
    simp only [run] at hr
    exact (stepOp_facts o d hr).fs (fun fs h => by rw [h] at ho; cases ho)
  | bind p k _ _ ihp ihk => exact .bind hR ihp ihk
  | tryCatch p h _ _ ihp ihh => exact .tryCatch hR ihp ihh
  | finallyDrop p c _ _ ihp ihc => exact .finallyDrop hR ihp ihc

/-- what a program without `write` and `setFs` does to a device (the last two parts hold of every run) -/
def QuietRel (d d' : Dev) : Prop :=
  SameWrites d d' ∧ d'.fs = d.fs ∧ LogExtends d d' ∧ d'.img.size = d.img.size

theorem quietRel_ok : RelOK QuietRel :=
  ⟨fun d => ⟨.refl d, rfl, logExtends_ok.refl d, rfl⟩,
   fun a b c h1 h2 => ⟨h1.1.trans h2.1, h2.2.1.trans h1.2.1, logExtends_ok.trans a b c h1.2.2.1 h2.2.2.1,
     h2.2.2.2.trans h1.2.2.2⟩,
   fun d n => ⟨sameWrites_depth d n, rfl, logExtends_ok.depth d n, rfl⟩⟩

theorem roFrame (fs0 : FsState) : Frame QuietRel (fun d => d.fs = fs0) :=
  ⟨quietRel_ok, fun _ _ h hr => hr.2.1.trans h, fun _ _ h => h⟩

theorem QuietOps.tri {α} {p : Prog α} (hp : QuietOps p) : Tri QuietRel (fun _ => True) p (fun _ _ => True) :=
  ⟨fun d r d' _ hr => ⟨⟨noWriteOps_sound hp.noWriteOps d hr, quietOps_fs hp d hr, run_logExtends p d r d' hr,
    run_img_size p d r d' hr⟩, fun _ _ => trivial⟩⟩

/-- a program without `write` and `setFs` under any judgement that admits quiet steps -/
theorem Tri.of_quiet {R : Dev → Dev → Prop} {P : Dev → Prop} (hq : ∀ d d', QuietRel d d' → R d d') {α} {p : Prog α}
    (hp : QuietOps p) : Tri R P p (fun _ _ => True) :=
  (hp.tri.mono hq).conseq (fun _ _ => trivial) (fun _ _ h => h)

/-- read-only judgement relative to the mounted state `fs0` -/
structure RO {α} (fs0 : FsState) (p : Prog α) (Post : α → Prop) : Prop where
  out : ∀ (d : Dev) (r : Except Err α) (d' : Dev), d.fs = fs0 → run p d = (r, d') →
    SameWrites d d' ∧ d'.fs = fs0 ∧ ∀ v, r = .ok v → Post v

theorem ro_iff_tri {α} {fs0 : FsState} {p : Prog α} {Post : α → Prop} :
    RO fs0 p Post ↔ Tri QuietRel (fun d => d.fs = fs0) p (fun v _ => Post v) :=
  ⟨fun h => ⟨fun d r d' hfs hr => let a := h.out d r d' hfs hr
      ⟨⟨a.1, a.2.1.trans hfs.symm, run_logExtends p d r d' hr, run_img_size p d r d' hr⟩, a.2.2⟩⟩,
   fun h => ⟨fun d r d' hfs hr => let a := h.out d r d' hfs hr; ⟨a.1.1, a.1.2.1.trans hfs, a.2⟩⟩⟩

theorem RO.of_quiet {α} {fs0 : FsState} {p : Prog α} (hp : QuietOps p) : RO fs0 p (fun _ => True) :=
  ro_iff_tri.2 (Tri.of_quiet (fun _ _ h => h) hp)

theorem RO.weaken {α} {fs0 : FsState} {p : Prog α} {Q Post : α → Prop} (h : RO fs0 p Q) (hq : ∀ v, Q v → Post v) :
    RO fs0 p Post :=
  ro_iff_tri.2 ((ro_iff_tri.1 h).conseq (fun _ h => h) (fun v _ => hq v))

theorem RO.pure {α} {fs0 : FsState} {Post : α → Prop} {a : α} (h : Post a) : RO fs0 (Prog.pure a) Post :=
  ro_iff_tri.2 (Tri.pureV quietRel_ok h)

theorem RO.fail {α} {fs0 : FsState} {Post : α → Prop} (e : Err) : RO fs0 (Prog.fail (α := α) e) Post :=
  ro_iff_tri.2 (Tri.fail quietRel_ok e)

/-- reading the mounted state returns `fs0` -/
theorem RO.getFs {fs0 : FsState} : RO fs0 Prog.getFs (fun v => v = fs0) := by
  refine ⟨fun d r d' hfs hr => ?_⟩; simp only [Prog.getFs, run, stepOp] at hr; cases hr
  exact ⟨SameWrites.refl _, hfs, fun v hv => by cases hv; exact hfs⟩

theorem RO.bind {α β} {fs0 : FsState} {p : Prog β} {k : β → Prog α} {Q : β → Prop} {Post : α → Prop}
    (hp : RO fs0 p Q) (hk : ∀ b, Q b → RO fs0 (k b) Post) : RO fs0 (Prog.bind p k) Post :=
  ro_iff_tri.2 (Tri.bindV (roFrame fs0) (ro_iff_tri.1 hp) (fun b hb => ro_iff_tri.1 (hk b hb)))

theorem RO.tryCatch {α} {fs0 : FsState} {p : Prog α} {h : Err → Prog α} {Post : α → Prop}
    (hp : RO fs0 p Post) (hh : ∀ e, RO fs0 (h e) Post) : RO fs0 (Prog.tryCatch p h) Post :=
  ro_iff_tri.2 (Tri.tryCatch (roFrame fs0) (ro_iff_tri.1 hp) (fun e => ro_iff_tri.1 (hh e)))

/-- scope exit: the destructor bodies must be read-only on the values that actually go out of scope -/
theorem RO.finallyDrop {α} {fs0 : FsState} {p : Prog α} {c : Option α → Prog Unit} {Post : α → Prop}
    (hp : RO fs0 p Post) (hsome : ∀ a, Post a → RO fs0 (c (some a)) (fun _ => True))
    (hnone : RO fs0 (c none) (fun _ => True)) : RO fs0 (Prog.finallyDrop p c) Post :=
  ro_iff_tri.2 (Tri.finallyDropV (roFrame fs0) (ro_iff_tri.1 hp) (fun a ha => ro_iff_tri.1 (hsome a ha))
    (ro_iff_tri.1 hnone))

/-- "writes nothing" with tracking of the mounted state: started in state `fs0`, `p` leaves image and write log
    unchanged, and a successful result `v` together with the final mounted state satisfies `Post`. (`RO` is the special
    case in which the mounted state stays `fs0`.) -/
structure NW {α} (fs0 : FsState) (p : Prog α) (Post : α → FsState → Prop) : Prop where
  out : ∀ (d : Dev) (r : Except Err α) (d' : Dev), d.fs = fs0 → run p d = (r, d') →
    SameWrites d d' ∧ ∀ v, r = .ok v → Post v d'.fs

theorem nw_iff_tri {α} {fs0 : FsState} {p : Prog α} {Post : α → FsState → Prop} :
    NW fs0 p Post ↔ Tri SameWrites (fun d => d.fs = fs0) p (fun v d' => Post v d'.fs) :=
  ⟨fun h => ⟨h.out⟩, fun h => ⟨h.out⟩⟩

theorem NW.of_ro {α} {fs0 : FsState} {p : Prog α} {Q : α → Prop} (h : RO fs0 p Q) :
    NW fs0 p (fun v fs1 => Q v ∧ fs1 = fs0) :=
  ⟨fun d r d' hfs hr => ⟨(h.out d r d' hfs hr).1, fun v hv => ⟨(h.out d r d' hfs hr).2.2 v hv, (h.out d r d' hfs hr).2.1⟩⟩⟩

theorem NW.weaken {α} {fs0 : FsState} {p : Prog α} {Q Post : α → FsState → Prop} (h : NW fs0 p Q)
    (hq : ∀ v fs1, Q v fs1 → Post v fs1) : NW fs0 p Post :=
  nw_iff_tri.2 ((nw_iff_tri.1 h).conseq (fun _ h => h) (fun v d => hq v d.fs))

theorem NW.pure {α} {fs0 : FsState} {Post : α → FsState → Prop} {a : α} (h : Post a fs0) :
    NW fs0 (Prog.pure a) Post :=
  nw_iff_tri.2 (Tri.pure sameWrites_ok (fun _ hd => hd ▸ h))

theorem NW.fail {α} {fs0 : FsState} {Post : α → FsState → Prop} (e : Err) : NW fs0 (Prog.fail (α := α) e) Post :=
  nw_iff_tri.2 (Tri.fail sameWrites_ok e)

theorem NW.setFs {fs0 : FsState} (fs : FsState) : NW fs0 (Prog.setFs fs) (fun _ fs1 => fs1 = fs) := by
  refine ⟨fun d r d' hfs hr => ?_⟩; simp only [Prog.setFs, run, stepOp] at hr; cases hr
  exact ⟨⟨rfl, rfl⟩, fun v _ => rfl⟩

theorem NW.bind {α β} {fs0 : FsState} {p : Prog β} {k : β → Prog α} {Q : β → FsState → Prop}
    {Post : α → FsState → Prop} (hp : NW fs0 p Q) (hk : ∀ b fs1, Q b fs1 → NW fs1 (k b) Post) :
    NW fs0 (Prog.bind p k) Post :=
  nw_iff_tri.2 (Tri.bind sameWrites_ok (nw_iff_tri.1 hp)
    (fun b => ⟨fun d r d' hq hr => (hk b d.fs hq).out d r d' rfl hr⟩))

/-- a read-only prefix -/
theorem NW.bind_ro {α β} {fs0 : FsState} {p : Prog β} {k : β → Prog α} {Q : β → Prop}
    {Post : α → FsState → Prop} (hp : RO fs0 p Q) (hk : ∀ b, Q b → NW fs0 (k b) Post) :
    NW fs0 (Prog.bind p k) Post :=
  NW.bind (NW.of_ro hp) (fun b fs1 h => by rw [h.2]; exact hk b h.1)

/-- bind-composition for `SameWrites` alone (no assumption on the mounted state) -/
theorem sameWrites_bind {α β} {p : Prog β} {k : β → Prog α}
    (hp : ∀ d r d', run p d = (r, d') → SameWrites d d')
    (hk : ∀ b d r d', run (k b) d = (r, d') → SameWrites d d') :
    ∀ d r d', run (Prog.bind p k) d = (r, d') → SameWrites d d' :=
  (Steps.bind sameWrites_ok ⟨hp⟩ (fun b => ⟨hk b⟩)).out

end FatVerif
