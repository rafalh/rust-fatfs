import FatVerif.Proofs.RemoveUnfold
import FatVerif.Proofs.SlotTreeDenW
/-!
# Slot trees on a device image: `remove` of a FILE whose parent is the fixed root

`removeFile_root_final` / `C01img.remove_file_img_partial`: the call as a tree step, `ImgTreeW` re-established; the devices after
the lookup and after the release that `WView.remove_sim` gives (`FreedStep`) carry the OTHER directories across the
release (`ImgTreeW.of_freed`).
-/
namespace FatVerif
namespace SlotTreeImg
open Lfn DirSlots DirAlias SlotTree DirSim FatVerif.FileSim FatVerif.Fat

/-! ## the slot tree's verdict at the last directory -/

/-- what `removeS` does once the walk has reached the directory at `p` -/
def rmFinal (up : Char → List Char) (t : Node) (p : List String) (name : String) : Res :=
  match getAtS up t p with
  | some (.dir slots ch) =>
    if isDotName name then fail t .invalidInput
    else match lookupS up slots ch name with
      | none => fail t .notFound
      | some x =>
        if Lfn.isDir x.1.sfn && !nodeEmpty x.2 then fail t .dirNotEmpty
        else done (updS up (delEntry x.1) p t)
  | _ => fail t .notFound

theorem removeS_eq (up : Char → List Char) (t : Node) (cwd : List String) (path : String) :
    removeS up t cwd path =
      match walkDirsS up t cwd (pathParts path).1 with
      | .error e => fail t e
      | .ok p => rmFinal up t p (pathParts path).2 := by
  unfold removeS rmFinal
  cases walkDirsS up t cwd (pathParts path).1 with
  | error e => rfl
  | ok p =>
    simp only
    cases getAtS up t p with
    | none => rfl
    | some n => cases n <;> rfl

theorem remove_unfold_step (env : Env) (f : Nat) (st : DirStream) (chars a r : List Char)
    (h : Names.splitPathL chars = (a, some r)) :
    FatVerif.remove env (f + 1) st (String.ofList chars) =
      Prog.bind Prog.getFs fun fs =>
        Prog.bind (findEntry env st (String.ofList a) (some true)) fun e =>
          Prog.bind (e.toDir fs) fun sub => thenDrop sub (FatVerif.remove env f sub (String.ofList r)) := by
  rw [remove_succ]
  rw [splitPath_ofList, h]
  rfl

/-- what the removal of the file needs besides the tree: the volume facts of the release step, the chain of the file
    (none for a file without a cluster), apart from every directory chain -/
def RemoveRes (d : Dev) (up : Char → List Char) (t : Node) (cl : List String → Option Nat)
    (slots : List (List Nat)) (ch : List (LfnEntry × Node)) (name : String) : Prop :=
  Geo d.fs d.img.size ∧ InfoOk d.fs d.img ∧
  ∀ x, lookupS up slots ch name = some x → x.2.isDir = false ∧
    ∃ cs, (match (toDirEntryS (rootSrc d.fs) x.1).firstCluster d.fs with
        | some n => Chain (tabView d.fs d.img) n cs ∧ cs.Nodup ∧
            ∀ y ∈ cs, 2 ≤ y ∧ y < d.fs.totalClusters + 2 ∧ tabView d.fs d.img y ≠ .free
        | none => cs = []) ∧ FreedApart d up t cl cs

section final
variable {d : Dev} {up : Char → List Char} {cl : List String → Option Nat} {slots : List (List Nat)}
  {ch : List (LfnEntry × Node)}

/-- **the last component of `remove` (of a file) in the root directory** -/
theorem removeFile_root_final (W : ImgTreeW d up (.dir slots ch) cl) (hwf : TreeWf up (.dir slots ch)) (env : Env)
    (henv : env.upper = up) (f : Nat) (path name : String) (hsp : Names.splitPath path = (name, none))
    (hres : RemoveRes d up (.dir slots ch) cl slots ch name) :
    MWalk d (fun (_ : Unit) d' => VolStep d d' ∧ ImgTreeW d' up (rmFinal up (.dir slots ch) [] name).tree cl ∧
        DirsKept up (.dir slots ch) (rmFinal up (.dir slots ch) [] name).tree)
      (FatVerif.remove env (f + 1) (rootAt d.fs 0) path) (outErr (rmFinal up (.dir slots ch) [] name)) := by
  intro d4 hv _
  subst henv
  obtain ⟨hgeo, hinfo, hfound⟩ := hres
  obtain ⟨W4, hd, hst, N, tail, hR, hsl, htl⟩ := W.root_view hwf hv
  rw [hst]
  have hlk := root_lookup hR W4.lay.alloc hsl htl env.upper name
  have key := (DirView.ofRoot hR).remove_head env path name hsp f d4 (SameVol.refl d4)
  rw [isDotName_eq, root_lookupV hR W4.lay.alloc hsl htl] at key
  unfold rmFinal
  simp only [getAtS]
  cases hdn : isDotName name with
  | true => rw [hdn] at key; exact key
  | false =>
    rw [hdn] at key
    simp only [Bool.false_eq_true, if_false] at key ⊢
    cases hx : lookupS env.upper slots ch name with
    | none => rw [lookupS_none hd hx] at key; exact key
    | some x =>
      obtain ⟨hfx, hxm, hxl, _⟩ := lookupS_some hd hx
      rw [hfx] at hlk
      obtain ⟨hfile, cs, hcs, hapart⟩ := hfound x hx
      rw [← hv.fs, ← hv.img] at hcs hgeo hinfo
      have hsfn : Lfn.isDir x.1.sfn = false := by rw [hd.kind x hxm]; exact hfile
      simp only [hsfn, Bool.false_and, Bool.false_eq_true, if_false, outErr, done]
      have hVs := rootW_slots hR W4.lay hsl
      -- `hcs` is passed after a rewrite of the slot offsets, not up to unfolding: comparing two `match`es on the first
      -- cluster of a record makes the kernel evaluate that field (`_ * 65536 + _`), which takes seconds
      obtain ⟨d1, d2, d3, hrun, hs1, hf2, _, hs3, _, _, (hsl3 : (rootW hR W4.lay).slots d3.img = _), hfr3, _⟩ :=
        (rootW hR W4.lay).remove_sim
        ⟨hsp, hdn, hgeo, hinfo, hlk, fun da db hva _ hfab => RootInv.of_freed (rootW hR W4.lay).here hva hfab,
          fun i hi => Or.inr (by
            show _ ≤ (rootSliceOf d4.fs).beginOff + 32 * i
            have := W4.lay.fatAllRoot; omega)⟩
        (by rw [show (rootW hR W4.lay).src = rootSrc d4.fs from rfl]; exact hcs)
        (fun d1 _ => by
          rw [toDirEntryS_isDir _ x.1, hsfn]
          exact Reads.pure false d1) f
      refine ⟨(), d3, hrun, ((VolStep.of_sameVol (hv.trans hs1)).trans (VolStep.of_devStep hf2.step)).trans hs3, ?_⟩
      -- carry the bundle: same volume, release, then the root write
      have W2 := (W4.of_sameVol hs1).of_freed hf2 ((hapart.of_sameVol hv).of_sameVol hs1)
      have hs12 : VolStep d4 d2 := (VolStep.of_sameVol hs1).trans (VolStep.of_devStep hf2.step)
      have hbounds := readLoop_bounds true true slots 0 0 _ (Nat.le_refl _) x.1 hxl
      have hroot' : rootDirSlots d3.fs d3.img =
          DirSlots.deleteRange slots x.1.beginIdx x.1.endIdx ++ tail := by
        rw [rootW_slots_step hR W4.lay (hs12.trans hs3), hsl3, hVs, deleteRange_append slots tail _ _ (by omega)]
      have hd' := delEntry_dirOk hd x.1 hxl
      show ImgTreeW d3 env.upper (delEntry x.1 (.dir slots ch)) cl ∧ DirsKept env.upper _ (delEntry x.1 (.dir slots ch))
      rw [delEntry_dir]
      refine ⟨imgTreeW_root_step W2 hd hd' (hR.of_volStep hs12) hs3
        (by rw [rootSrc_geom hs12.geom]; exact hfr3.toG) tail hroot' htl (fun y hy _ => (List.mem_filter.1 hy).1),
        dirsKept_root hd hd' (fun y hy hdy => List.mem_filter.2 ⟨hy, ?_⟩)⟩
      -- a directory child is not the removed file
      have hne : y.1 ≠ x.1 := by
        intro heq
        have h1 := hd.find_key hy
        rw [heq, hd.find_key hxm] at h1
        rw [← Option.some.inj h1, hfile] at hdy
        cases hdy
      simpa using hne

end final

end SlotTreeImg
end FatVerif
