import FatVerif.Proofs.FileSimIter
import FatVerif.Proofs.ImgLemmas
/-!
# FileSim / trace: the device write records of a step, classified

`Trace fs E D d d'`: between `d` and `d'` the log grew by the write records `recs` (oldest first), the image is `d.img` with
them applied in order, and every record — looked at on the image it hits — is one of

* the status byte;
* a piece of ONE cluster `c` of the data region with `D c`;
* the complete window of the FAT entry of a cluster `c` with `E c`, in one FAT copy, whose application leaves the DECODED
  value of every other entry unchanged (a read-modify-write: on FAT12 the neighbour's nibble in the shared byte is kept;
  on FAT32 the four reserved bits).

Records are atomic (this is the granularity of the device log and of the crash model of `Props/C14sim.lean`).
-/
namespace FatVerif.FileSim
open FatVerif FatVerif.Fat

/-- a device write record: offset, bytes -/
abbrev Rec := Nat × List Nat

/-- the log items of a list of records (the log is newest first) -/
def recItems (recs : List Rec) : List LogItem := (recs.map fun r => LogItem.write r.1 r.2).reverse

/-- records applied in order -/
def applyRecs (img : Img) (recs : List Rec) : Img := recs.foldl (fun i w => i.write w.1 w.2) img

theorem applyRecs_append (img : Img) (a b : List Rec) : applyRecs img (a ++ b) = applyRecs (applyRecs img a) b := by
  unfold applyRecs; rw [List.foldl_append]

/-- records keep the image well formed and its size, and a position that no record covers reads as before -/
theorem applyRecs_frame : ∀ (recs : List Rec) (img : Img), img.WF →
    (applyRecs img recs).WF ∧ (applyRecs img recs).size = img.size ∧
    ∀ q, (∀ r ∈ recs, ¬ (r.1 ≤ q ∧ q < r.1 + r.2.length)) → (applyRecs img recs).getByte q = img.getByte q
  | [], _, hwf => ⟨hwf, rfl, fun _ _ => rfl⟩
  | r :: rs, img, hwf => by
    obtain ⟨h1, h2, h3⟩ := applyRecs_frame rs _ (Img.wf_write _ hwf r.1 r.2)
    refine ⟨h1, h2.trans (Img.write_size _ _ _), fun q hq => ?_⟩
    exact (h3 q fun r' hr' => hq r' (List.mem_cons_of_mem _ hr')).trans
      (Img.getByte_write_of_not_mem _ hwf _ _ _ (hq r List.mem_cons_self))

theorem recItems_append (a b : List Rec) : recItems (a ++ b) = recItems b ++ recItems a := by
  unfold recItems; rw [List.map_append, List.reverse_append]

/-- one record, on the image it hits -/
def RecOk (fs : FsState) (E D : Nat → Prop) (img : Img) (r : Rec) : Prop :=
  (r.1 = statusOff fs ∧ r.2.length = 1) ∨
  (∃ c, D c ∧ 2 ≤ c ∧ c < fs.totalClusters + 2 ∧ clusterOff fs c ≤ r.1 ∧
    r.1 + r.2.length ≤ clusterOff fs c + fs.clusterSize) ∨
  (∃ c i, E c ∧ c < fs.totalClusters + 2 ∧ i < (fatSliceOf fs).mirrors ∧
    r.1 = (fatSliceOf fs).beginOff + entOff fs.fatType c + i * (fatSliceOf fs).size ∧
    r.2.length = entWidth fs.fatType ∧
    ∀ x, x ≠ c → tabView fs (img.write r.1 r.2) x = tabView fs img x)

def Classified (fs : FsState) (E D : Nat → Prop) : Img → List Rec → Prop
  | _, [] => True
  | img, r :: rs => RecOk fs E D img r ∧ Classified fs E D (img.write r.1 r.2) rs

theorem classified_append (fs : FsState) (E D : Nat → Prop) : ∀ (a b : List Rec) (img : Img),
    Classified fs E D img (a ++ b) ↔ Classified fs E D img a ∧ Classified fs E D (applyRecs img a) b
  | [], b, img => by simp [Classified, applyRecs]
  | r :: a, b, img => by
    simp only [List.cons_append, Classified]
    rw [classified_append fs E D a b (img.write r.1 r.2)]
    simp only [applyRecs, List.foldl_cons, and_assoc]

theorem RecOk.mono {fs : FsState} {E D E' D' : Nat → Prop} (hE : ∀ c, E c → E' c) (hD : ∀ c, D c → D' c) {img : Img}
    {r : Rec} (h : RecOk fs E D img r) : RecOk fs E' D' img r := by
  rcases h with h | ⟨c, hc, h⟩ | ⟨c, i, hc, h⟩
  · exact Or.inl h
  · exact Or.inr (Or.inl ⟨c, hD c hc, h⟩)
  · exact Or.inr (Or.inr ⟨c, i, hE c hc, h⟩)

theorem Classified.mono {fs : FsState} {E D E' D' : Nat → Prop} (hE : ∀ c, E c → E' c) (hD : ∀ c, D c → D' c) :
    ∀ {recs : List Rec} {img : Img}, Classified fs E D img recs → Classified fs E' D' img recs
  | [], _, _ => trivial
  | _ :: _, _, h => ⟨h.1.mono hE hD, Classified.mono hE hD h.2⟩

/-- the classified write records of a step -/
def Trace (fs : FsState) (E D : Nat → Prop) (d d' : Dev) : Prop :=
  ∃ recs : List Rec, d'.log = recItems recs ++ d.log ∧ d'.img = applyRecs d.img recs ∧ Classified fs E D d.img recs

theorem Trace.of_same {fs : FsState} {E D : Nat → Prop} {d d' : Dev} (hi : d'.img = d.img) (hl : d'.log = d.log) :
    Trace fs E D d d' := ⟨[], by simp [recItems, hl], hi, trivial⟩

theorem Trace.refl (fs : FsState) (E D : Nat → Prop) (d : Dev) : Trace fs E D d d := Trace.of_same rfl rfl

theorem Trace.of_sameStore {fs : FsState} {E D : Nat → Prop} {d d' : Dev} (h : SameStore d d') : Trace fs E D d d' :=
  Trace.of_same h.img h.log

theorem Trace.trans {fs : FsState} {E D : Nat → Prop} {a b c : Dev} (h1 : Trace fs E D a b) (h2 : Trace fs E D b c) :
    Trace fs E D a c := by
  obtain ⟨r1, l1, i1, c1⟩ := h1
  obtain ⟨r2, l2, i2, c2⟩ := h2
  refine ⟨r1 ++ r2, by rw [l2, l1, recItems_append, List.append_assoc], by rw [i2, i1, applyRecs_append], ?_⟩
  rw [classified_append]
  exact ⟨c1, by rw [← i1]; exact c2⟩

theorem Trace.mono {fs : FsState} {E D E' D' : Nat → Prop} {d d' : Dev} (h : Trace fs E D d d')
    (hE : ∀ c, E c → E' c) (hD : ∀ c, D c → D' c) : Trace fs E' D' d d' := by
  obtain ⟨r, l, i, c⟩ := h
  exact ⟨r, l, i, c.mono hE hD⟩

/-- ONE device write -/
theorem Trace.single {fs : FsState} {E D : Nat → Prop} {d d' : Dev} {off : Nat} {bs : List Nat}
    (hl : d'.log = .write off bs :: d.log) (hi : d'.img = d.img.write off bs) (hr : RecOk fs E D d.img (off, bs)) :
    Trace fs E D d d' :=
  ⟨[(off, bs)], by simp [recItems, hl], by simp [applyRecs, hi], ⟨hr, trivial⟩⟩

/-- the geometry is all `RecOk` looks at -/
theorem Trace.geom {fs fs' : FsState} {E D : Nat → Prop} {d d' : Dev} (h : Trace fs E D d d') (hg : fs' = fs) :
    Trace fs' E D d d' := hg ▸ h

end FatVerif.FileSim
