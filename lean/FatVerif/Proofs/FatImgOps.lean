import FatVerif.Proofs.FatImgWrite
/-! `alloc_cluster`, `ClusterIterator::free`, `ClusterIterator::truncate` over the FAT slice of a device = the pure
    byte-level functions of `Model/FatAlgo.lean` on the window's bytes. -/
namespace FatVerif
open FatVerif.Fat

/-- the scans of `alloc_cluster`: from the start named as in `FatAlgo` to the end, then — after `NotEnoughSpace` only,
    and if the start was above 2 — from 2 to the start -/
def allocScan (ft : FatType) (s : DiskSlice) (hint : Option Nat) (total : Nat) : Prog (Nat × DiskSlice) :=
  Prog.tryCatch (Table.findFree DiskSlice.strm ft s (allocStart hint (total + 2)) (total + 2)) (fun e =>
    match e with
    | .noSpace => if allocStart hint (total + 2) > 2 then Table.findFree DiskSlice.strm ft s 2 (allocStart hint (total + 2))
        else .fail .noSpace
    | e => .fail e)

theorem allocCluster_unfold (ft : FatType) (s : DiskSlice) (prev hint : Option Nat) (total : Nat) :
    Table.allocCluster DiskSlice.strm ft s prev hint total =
      Prog.bind (allocScan ft s hint total) (fun r =>
      Prog.bind (Table.set DiskSlice.strm ft r.2 r.1 .eoc) (fun s1 =>
      Prog.bind (match prev with
        | some n => Table.set DiskSlice.strm ft s1 n (.data r.1)
        | none => Prog.pure s1) (fun s2 => Prog.pure (r.1, s2)))) := by
  cases hint <;> rfl

section window
variable {s0 : DiskSlice}
local notation "F[" d "]" => fatBytes s0.beginOff s0.size (Dev.img d)

/-- the standing assumptions about the device: a well-formed page table, all FAT copies inside the device, the status
    byte before the FAT, a FAT copy shorter than 4 GiB -/
structure FatDev (s0 : DiskSlice) (d : Dev) : Prop where
  wf : d.img.WF
  mir : 0 < s0.mirrors
  dev : s0.beginOff + s0.mirrors * s0.size ≤ d.img.size
  stat : statusOff d.fs + 1 ≤ s0.beginOff
  small : s0.size < u32Lim

theorem FatDev.dev1 {d : Dev} (h : FatDev s0 d) : s0.beginOff + s0.size ≤ d.img.size := by
  have : s0.size ≤ s0.mirrors * s0.size := Nat.le_mul_of_pos_left _ h.mir
  have := h.dev
  omega

theorem FatDev.of_frame {d d' : Dev} (h : FatDev s0 d) (hf : FatFrame s0 d d') : FatDev s0 d' :=
  ⟨hf.wf, h.mir, by rw [hf.size]; exact h.dev, by rw [statusOff_geom hf.geom]; exact h.stat, h.small⟩

theorem FatDev.of_sameBytes {d d' : Dev} (h : FatDev s0 d) (hf : SameBytes d d') : FatDev s0 d' :=
  h.of_frame (FatFrame.of_sameBytes hf)

/-- **the scans of `alloc_cluster` at image level**: success is that of the pure `Fat.allocFind` on the window's bytes;
    nothing is changed; on a fault-free device, the scanned entries starting inside the window, the whole store is
    kept and the run errs only where `Fat.allocFind` does -/
theorem allocScan_img (ft : FatType) {s : DiskSlice} (hs : SliceInv s0 s) (hint : Option Nat) (total : Nat) (d : Dev)
    (hw : d.img.WF) (hdev : s0.beginOff + s0.size ≤ d.img.size)
    (hZ : ∀ c, c ≤ total + 2 → off ft c ≤ s0.size → off ft c < u32Lim)
    {r : Except Err (Nat × DiskSlice)} {d' : Dev} (hr : run (allocScan ft s hint total) d = (r, d')) :
    (∀ c s', r = .ok (c, s') →
      allocFind ft F[d] (allocStart hint (total + 2)) (total + 2) = .ok c ∧ SliceInv s0 s') ∧
    SameBytes d d' ∧
    (d.failAt = none → (∀ c, c ≤ total + 2 → off ft c ≤ s0.size) →
      SameStore d d' ∧ ErrOnly r (allocFind ft F[d] (allocStart hint (total + 2)) (total + 2))) := by
  have hst : allocStart hint (total + 2) ≤ total + 2 := allocStartV_le hint total
  unfold allocScan at hr
  generalize allocStart hint (total + 2) = start at *
  unfold allocFind
  simp only [run] at hr
  rcases hq : run (Table.findFree DiskSlice.strm ft s start (total + 2)) d with ⟨rp, d1⟩
  rw [hq] at hr
  obtain ⟨⟨a, b, k⟩, c'⟩ := findFree_img ft hs _ _ d hw hdev (hZ _ hst) hq
  cases rp with
  | ok x =>
    cases hr
    rw [(a x.1 x.2 rfl).1]
    exact ⟨fun c s' hc => (by cases hc; exact ⟨rfl, (a _ _ rfl).2⟩), c', fun hfa _ => ⟨(k hfa).1, ErrOnly.ok _ _⟩⟩
  | error e =>
    dsimp only at hr
    by_cases hns : e = .noSpace
    · subst hns
      rw [b rfl]
      dsimp only
      simp only [Err.isFatal, Bool.false_eq_true, if_false] at hr
      by_cases hgt : start > 2
      · rw [if_pos hgt] at hr
        rw [if_pos ⟨rfl, hgt⟩]
        obtain ⟨⟨a2, _, k2⟩, c2⟩ := findFree_img ft hs 2 start d1 c'.2.2.1 (by rw [c'.2.2.2]; exact hdev)
          (hZ _ (by omega)) hr
        rw [c'.bytes] at a2 k2
        exact ⟨a2, c'.trans c2, fun hfa hin =>
          have s1 := (k hfa).1
          have s2 := k2 (s1.failAt.trans hfa)
          ⟨s1.trans s2.1, s2.2 (hin 2 (by omega))⟩⟩
      · rw [if_neg hgt] at hr
        simp only [run] at hr; cases hr
        rw [if_neg (fun x => hgt x.2)]
        exact ⟨fun _ _ h => (by cases h), c', fun hfa _ => ⟨(k hfa).1, ErrOnly.noSpace⟩⟩
    · -- every other error is returned as it is, by the guard of the scope or by the handler
      have hh : (match e with
          | .noSpace => if start > 2 then Table.findFree DiskSlice.strm ft s 2 start else Prog.fail .noSpace
          | e => Prog.fail e) = Prog.fail e := by
        split
        · exact absurd rfl hns
        · rfl
      rw [hh] at hr
      have hr' : (Except.error e, d1) = (r, d') := by
        split at hr
        · exact hr
        · exact hr
      cases hr'
      refine ⟨fun _ _ h => (by cases h), c', fun hfa hin => ⟨(k hfa).1, fun e0 he => ?_⟩⟩
      cases he
      obtain ⟨e', h1, h2⟩ := (k hfa).2 (hin _ hst) _ rfl
      rw [h1]
      dsimp only
      rw [if_neg (fun x => hns (h2 x.1))]
      exact ⟨e', rfl, fun x => absurd (h2 x) hns⟩

/-- **`alloc_cluster` at image level** -/
theorem allocCluster_img (ft : FatType) {s : DiskSlice} (hs : SliceInv s0 s) (prev hint : Option Nat) (total : Nat)
    (d : Dev) (hd : FatDev s0 d) (htot : total + 2 < u32Lim) {c : Nat} {s' : DiskSlice} {d' : Dev}
    (hr : run (Table.allocCluster DiskSlice.strm ft s prev hint total) d = (.ok (c, s'), d')) :
    Fat.allocCluster F[d] ft prev hint total = ⟨.ok c, F[d']⟩ ∧ SliceInv s0 s' ∧ FatFrame s0 d d' := by
  rw [allocCluster_unfold] at hr
  obtain ⟨⟨newC, s1⟩, d1, h1, h2⟩ := run_bind_ok_inv hr
  obtain ⟨hfind, hb1, _⟩ := allocScan_img ft hs hint total d hd.wf hd.dev1
    (fun _ _ h => Nat.lt_of_le_of_lt h hd.small) h1
  obtain ⟨hf1, hi1⟩ := hfind newC s1 rfl
  have hd1 := hd.of_sameBytes hb1
  dsimp only at h2
  obtain ⟨s2, d2, h3, h4⟩ := run_bind_ok_inv h2
  obtain ⟨hset1, hi2, hfr1⟩ := set_img ft hi1 hd.mir newC .eoc d1 hd1.wf hd1.dev hd1.stat hd.small h3
  rw [hb1.bytes] at hset1
  have hd2 := hd1.of_frame hfr1
  obtain ⟨s3, d3, h5, h6⟩ := run_bind_ok_inv h4
  have h6' : run (Prog.pure (newC, s3)) d3 = (.ok (c, s'), d') := h6
  simp only [run] at h6'; cases h6'
  unfold Fat.allocCluster
  rw [if_neg (by omega), hf1]
  simp only [allocLink, hset1]
  cases prev with
  | none =>
    have h5' : run (Prog.pure s2) d2 = (.ok s', d') := h5
    simp only [run] at h5'; cases h5'
    exact ⟨rfl, hi2, (FatFrame.of_sameBytes hb1).trans hfr1⟩
  | some p =>
    dsimp only at h5
    obtain ⟨hset2, hi3, hfr2⟩ := set_img ft hi2 hd.mir p (.data c) d2 hd2.wf hd2.dev hd2.stat hd.small h5
    simp only [allocLinkPrev, hset2]
    exact ⟨trivial, hi3, ((FatFrame.of_sameBytes hb1).trans hfr1).trans hfr2⟩

end window

/-- the link stored in a decoded entry -/
def nextOf : FatValue → Option Nat
  | .data n => some n
  | _ => none

theorem iter_of_get {ft : FatType} {f : Array Nat} {c : Nat} {v : FatValue} (h : Fat.get ft f c = .ok v) :
    iterItem ft f ⟨some c, false⟩ = (nextOf v).map Except.ok ∧ iterAdvance ft f ⟨some c, false⟩ = ⟨nextOf v, false⟩ := by
  simp only [iterItem, iterAdvance, chainNext, h]
  cases v <;> exact ⟨rfl, rfl⟩

section window
variable {s0 : DiskSlice}
local notation "F[" d "]" => fatBytes s0.beginOff s0.size (Dev.img d)

/-- successful `ClusterIterator::next` on a live iterator: the decoded entry's link; nothing changes -/
theorem iterNext_img (ft : FatType) (it : Table.CIter DiskSlice) (cur : Nat) (hc : it.cluster = some cur)
    (he : it.err = false) (hs : SliceInv s0 it.fat) (d : Dev) (hd : FatDev s0 d)
    {r : Option (Except Err Nat)} {it' : Table.CIter DiskSlice} {d' : Dev}
    (hr : run (Table.CIter.next DiskSlice.strm ft it) d = (.ok (r, it'), d')) :
    ∃ v, Fat.get ft F[d] cur = .ok v ∧ r = (nextOf v).map Except.ok ∧ it'.cluster = nextOf v ∧ it'.err = false ∧
      SliceInv s0 it'.fat ∧ SameBytes d d' := by
  unfold Table.CIter.next at hr
  rw [he, hc] at hr
  simp only [Bool.false_eq_true, if_false] at hr
  rcases run_bind_cases hr with ⟨⟨v, fat⟩, d1, h1, h2⟩ | ⟨e, _, hee⟩
  · obtain ⟨hg, _, hi, hb⟩ := get_img ft hs cur d hd.wf hd.dev1 hd.small h1
    dsimp only at h2
    have h2' : run (Prog.pure (_, _)) d1 = (.ok (r, it'), d') := h2
    simp only [run] at h2'; cases h2'
    exact ⟨_, hg, by cases v <;> rfl, by cases v <;> rfl, rfl, hi, hb⟩
  · cases hee

theorem freeLoop_img (ft : FatType) : ∀ (fuel : Nat) (it : Table.CIter DiskSlice) (num : Nat) (d : Dev) (n : Nat)
    (it' : Table.CIter DiskSlice) (d' : Dev), it.err = false → SliceInv s0 it.fat → FatDev s0 d →
    run (Table.CIter.freeLoop DiskSlice.strm ft fuel it num) d = (.ok (n, it'), d') →
    Fat.freeLoop ft fuel F[d] ⟨it.cluster, false⟩ num = ⟨.ok n, F[d']⟩ ∧ FatFrame s0 d d' := by
  intro fuel
  induction fuel with
  | zero =>
    intro it num d n it' d' _ _ _ hr
    unfold Table.CIter.freeLoop at hr; simp only [run] at hr; cases hr
  | succ k ih =>
    intro it num d n it' d' he hs hd hr
    unfold Table.CIter.freeLoop at hr
    cases hc : it.cluster with
    | none =>
      rw [hc] at hr
      have hr' : run (Prog.pure (num, it)) d = (.ok (n, it'), d') := hr
      simp only [run] at hr'; cases hr'
      exact ⟨by cases k <;> rfl, FatFrame.of_sameBytes (SameBytes.refl hd.wf)⟩
    | some cl =>
      rw [hc] at hr
      dsimp only at hr
      obtain ⟨⟨r, it1⟩, d1, h1, h2⟩ := run_bind_ok_inv hr
      obtain ⟨v, hg, hrv, hc1, he1, hs1, hb1⟩ := iterNext_img ft it cl hc he hs d hd h1
      obtain ⟨hitem, hadv⟩ := iter_of_get hg
      have hd1 := hd.of_sameBytes hb1
      dsimp only at h2
      have h2' : run (do
          let fat ← Table.set DiskSlice.strm ft it1.fat cl .free
          Table.CIter.freeLoop DiskSlice.strm ft k { it1 with fat := fat } (num + 1)) d1 = (.ok (n, it'), d') := by
        rw [hrv] at h2
        cases hv : nextOf v with
        | none => rw [hv] at h2; exact h2
        | some m => rw [hv] at h2; exact h2
      obtain ⟨fat2, d2, h3, h4⟩ := run_bind_ok_inv h2'
      obtain ⟨hset, hs2, hfr⟩ := set_img ft hs1 hd.mir cl .free d1 hd1.wf hd1.dev hd1.stat hd.small h3
      rw [hb1.bytes] at hset
      have hd2 := hd1.of_frame hfr
      obtain ⟨hrec, hfr2⟩ := ih { it1 with fat := fat2 } (num + 1) d2 n it' d' he1 hs2 hd2 h4
      refine ⟨?_, ((FatFrame.of_sameBytes hb1).trans hfr).trans hfr2⟩
      have hrec' : Fat.freeLoop ft k F[d2] ⟨nextOf v, false⟩ (num + 1) = ⟨.ok n, F[d']⟩ := by
        rw [← hc1]; exact hrec
      cases hv : nextOf v with
      | none => rw [hv] at hitem hadv hrec'; simp only [Fat.freeLoop, hitem, hadv, hset, Option.map]; exact hrec'
      | some m => rw [hv] at hitem hadv hrec'; simp only [Fat.freeLoop, hitem, hadv, hset, Option.map]; exact hrec'

/-- **`ClusterIterator::free` at image level** -/
theorem free_img (ft : FatType) (fuel : Nat) (s : DiskSlice) (c : Nat) (hs : SliceInv s0 s) (d : Dev)
    (hd : FatDev s0 d) {n : Nat} {it' : Table.CIter DiskSlice} {d' : Dev}
    (hr : run (Table.CIter.free DiskSlice.strm ft fuel ⟨s, some c, false⟩) d = (.ok (n, it'), d')) :
    Fat.freeChain ft F[d] c fuel = ⟨.ok n, F[d']⟩ ∧ FatFrame s0 d d' := by
  unfold Table.CIter.free at hr
  exact freeLoop_img ft fuel ⟨s, some c, false⟩ 0 d n it' d' rfl hs hd hr

/-- **`ClusterIterator::truncate` at image level** -/
theorem truncate_img (ft : FatType) (fuel : Nat) (s : DiskSlice) (c : Nat) (hs : SliceInv s0 s) (d : Dev)
    (hd : FatDev s0 d) {n : Nat} {it' : Table.CIter DiskSlice} {d' : Dev}
    (hr : run (Table.CIter.truncate DiskSlice.strm ft fuel ⟨s, some c, false⟩) d = (.ok (n, it'), d')) :
    Fat.truncateChain ft F[d] c fuel = ⟨.ok n, F[d']⟩ ∧ FatFrame s0 d d' := by
  unfold Table.CIter.truncate at hr
  dsimp only at hr
  obtain ⟨⟨r, it1⟩, d1, h1, h2⟩ := run_bind_ok_inv hr
  obtain ⟨v, hg, hrv, hc1, he1, hs1, hb1⟩ := iterNext_img ft ⟨s, some c, false⟩ c rfl rfl hs d hd h1
  obtain ⟨hitem, hadv⟩ := iter_of_get hg
  have hd1 := hd.of_sameBytes hb1
  dsimp only at h2
  have h2' : run (do
      let fat ← Table.set DiskSlice.strm ft it1.fat c .eoc
      Table.CIter.free DiskSlice.strm ft fuel { it1 with fat := fat }) d1 = (.ok (n, it'), d') := by
    rw [hrv] at h2
    cases hv : nextOf v with
    | none => rw [hv] at h2; exact h2
    | some m => rw [hv] at h2; exact h2
  obtain ⟨fat2, d2, h3, h4⟩ := run_bind_ok_inv h2'
  obtain ⟨hset, hs2, hfr⟩ := set_img ft hs1 hd.mir c .eoc d1 hd1.wf hd1.dev hd1.stat hd.small h3
  rw [hb1.bytes] at hset
  have hd2 := hd1.of_frame hfr
  unfold Table.CIter.free at h4
  obtain ⟨hrec, hfr2⟩ := freeLoop_img ft fuel { it1 with fat := fat2 } 0 d2 n it' d' he1 hs2 hd2 h4
  refine ⟨?_, ((FatFrame.of_sameBytes hb1).trans hfr).trans hfr2⟩
  have hrec' : Fat.freeLoop ft fuel F[d2] ⟨nextOf v, false⟩ 0 = ⟨.ok n, F[d']⟩ := by
    rw [← hc1]; exact hrec
  cases hv : nextOf v with
  | none =>
    rw [hv] at hitem hadv hrec'
    simp only [Fat.truncateChain, iterNew, hitem, hadv, hset, Option.map]; exact hrec'
  | some m =>
    rw [hv] at hitem hadv hrec'
    simp only [Fat.truncateChain, iterNew, hitem, hadv, hset, Option.map]; exact hrec'

end window
end FatVerif
