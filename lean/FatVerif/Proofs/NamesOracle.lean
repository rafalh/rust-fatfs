import FatVerif.Proofs.NamesLegal
/-! The executable legality check used by the driver's C16 oracle decides the specification predicate. -/
namespace FatVerif.Names

theorem space_not_legal : (legalSfnBytes.contains 32) = false := by
  rw [legalSfnBytes_eq]; decide

theorem all32_eq_replicate (l : List Nat) (h : l.all (· == 32) = true) : l = List.replicate l.length 32 :=
  List.eq_replicate_iff.mpr ⟨rfl, fun b hb => by simpa using List.all_eq_true.mp h b hb⟩

theorem take_len_takeWhile (p : Nat → Bool) (l : List Nat) : l.take (l.takeWhile p).length = l.takeWhile p := by
  conv => lhs; arg 2; rw [← List.takeWhile_append_dropWhile (p := p) (l := l)]
  exact List.take_left' rfl

theorem drop_len_takeWhile (p : Nat → Bool) (l : List Nat) : l.drop (l.takeWhile p).length = l.dropWhile p := by
  conv => lhs; arg 2; rw [← List.takeWhile_append_dropWhile (p := p) (l := l)]
  exact List.drop_left' rfl

theorem mem_takeWhile_true (p : Nat → Bool) (l : List Nat) (b : Nat) (h : b ∈ l.takeWhile p) : p b = true :=
  List.all_eq_true.mp List.all_takeWhile b h

theorem legalFieldB_iff (f : List Nat) : legalFieldB f = true ↔ LegalField f := by
  unfold legalFieldB LegalField
  constructor
  · intro h
    refine ⟨(f.takeWhile (legalSfnBytes.contains ·)).length, ?_, ?_, ?_⟩
    · exact (List.takeWhile_sublist _).length_le
    · intro b hb
      rw [take_len_takeWhile] at hb
      simpa using mem_takeWhile_true _ _ _ hb
    · have e := all32_eq_replicate _ h
      have hl : (f.dropWhile (legalSfnBytes.contains ·)).length =
          f.length - (f.takeWhile (legalSfnBytes.contains ·)).length := by
        have := congrArg List.length (List.takeWhile_append_dropWhile (p := (legalSfnBytes.contains ·)) (l := f))
        simp only [List.length_append] at this; omega
      rw [drop_len_takeWhile, ← hl]; exact e
  · rintro ⟨k, hk, h1, h2⟩
    have hf : f = f.take k ++ List.replicate (f.length - k) 32 := by
      conv => lhs; rw [← List.take_append_drop k f, h2]
    rw [hf, List.dropWhile_append_of_pos (fun a ha => by simpa using h1 a ha)]
    cases hm : f.length - k with
    | zero => simp
    | succ m =>
      rw [List.replicate_succ, List.dropWhile_cons_of_neg (by simpa using space_not_legal)]
      simp

theorem legalAliasB_iff (a : List Nat) : legalAliasB a = true ↔ LegalAlias a := by
  unfold legalAliasB LegalAlias
  cases a with
  | nil => simp
  | cons x xs =>
    simp only [Bool.and_eq_true, beq_iff_eq, legalFieldB_iff, Bool.not_eq_true', List.headD_cons,
      List.contains_eq_mem, List.mem_cons, List.not_mem_nil, or_false, decide_eq_false_iff_not, not_or,
      List.head?_cons, ne_eq, Option.some.injEq, and_assoc]

end FatVerif.Names
