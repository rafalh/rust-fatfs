import FatVerif.Spec.ByteFile
/-! Facts about the specification `ByteFile` alone. -/
namespace FatVerif.Cursor
namespace ByteFile

theorem read_fst_length (b : ByteFile) (k : Nat) : (b.read k).1.length = min k b.remaining := by
  simp [read, remaining]

/-- the oracle accepts the documented short read -/
theorem checkRead_ok (cs n : Nat) (b : ByteFile) :
    checkRead cs n (b.read (b.shortRead cs n)).1 b = .ok (b.read (b.shortRead cs n)).2 := by
  have hk : b.shortRead cs n ≤ n ∧ b.shortRead cs n ≤ b.remaining := by
    unfold shortRead; omega
  have hlen : (b.read (b.shortRead cs n)).1.length = b.shortRead cs n := by
    rw [read_fst_length]; omega
  unfold checkRead
  rw [hlen]
  have h1 : ¬ b.shortRead cs n > min n b.remaining := by omega
  simp only [h1, if_false, ne_eq, not_true]

theorem checkReadExact_ok (n : Nat) (b : ByteFile) (h : n ≤ b.remaining) :
    checkReadExact n (b.read n).1 b = .ok (b.read n).2 := by
  have hlen : (b.read n).1.length = n := by rw [read_fst_length]; omega
  unfold checkReadExact
  rw [hlen]
  have h1 : ¬ (b.remaining < n ∨ n ≠ n) := by omega
  rw [if_neg h1]
  simp

/-- writing nothing changes nothing -/
theorem write_nil (b : ByteFile) : (b.write []).2 = b := by
  simp [write]

/-- two consecutive writes are one write of the concatenation -/
theorem write_write (b : ByteFile) (x y : List Nat) (h : b.pos ≤ b.content.length) :
    ((b.write x).2.write y).2 = (b.write (x ++ y)).2 := by
  simp only [write]
  have hA : (List.take b.pos b.content ++ x).length = b.pos + x.length := by simp; omega
  have e1 : (List.take b.pos b.content ++ x ++ List.drop (b.pos + x.length) b.content).take (b.pos + x.length)
      = List.take b.pos b.content ++ x := List.take_left' hA
  have e2 : (List.take b.pos b.content ++ x ++ List.drop (b.pos + x.length) b.content).drop
      (b.pos + x.length + y.length) = List.drop (b.pos + (x ++ y).length) b.content := by
    rw [← hA, List.drop_length_add_append, List.drop_drop, hA]
    congr 1; simp; omega
  rw [e1, e2]
  simp [Nat.add_assoc]

/-- `write` overwrites / extends at the cursor, position by position -/
theorem write_content_getElem? (b : ByteFile) (x : List Nat) (h : b.pos ≤ b.content.length) (p : Nat) :
    (b.write x).2.content[p]? =
      if p < b.pos then b.content[p]? else if p < b.pos + x.length then x[p - b.pos]? else b.content[p]? := by
  simp only [write, List.getElem?_append, List.length_append, List.length_take, Nat.min_eq_left h,
    List.getElem?_take, List.getElem?_drop]
  by_cases h1 : p < b.pos
  · simp [h1, Nat.lt_add_right x.length h1]
  · by_cases h2 : p < b.pos + x.length
    · simp [h1, h2, show p - b.pos < x.length by omega]
    · simp only [h1, h2, if_false]
      congr 1; omega

theorem write_content_length (b : ByteFile) (x : List Nat) (h : b.pos ≤ b.content.length) :
    (b.write x).2.content.length = max b.content.length (b.pos + x.length) := by
  simp [write]; omega

end ByteFile
end FatVerif.Cursor
