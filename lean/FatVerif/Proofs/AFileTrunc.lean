import FatVerif.Proofs.AFileInv
import FatVerif.Proofs.AFileByteFile
import FatVerif.Proofs.AFileRead
/-! `File::truncate`, `flush`, reopen. -/
namespace FatVerif.Cursor

theorem nodup_take_drop {l : List Nat} (n : Nat) (h : l.Nodup) :
    (l.take n).Nodup ∧ ∀ a ∈ l.take n, a ∉ l.drop n := by
  have h' : (l.take n ++ l.drop n).Nodup := by rw [List.take_append_drop]; exact h
  have := List.nodup_append.mp h'
  exact ⟨this.1, fun a ha hb => this.2.2 a ha a hb rfl⟩

section
variable {σ : Type} {isFree : σ → Nat → Prop} {A : Allocator σ} {f : AFile} {s : σ}

theorem truncate_some {c : Nat} (hcur : f.current = some c) (ho : f.offset ≠ 0) :
    f.truncate A s = (.ok (), { f.truncEntry with chain := cutAfter c f.chain },
      A.release (freedAfter c f.chain) s) := by
  simp [AFile.truncate, hcur, ho]

theorem truncate_none_some {c0 : Nat} (hcur : f.current = none) (ho : f.offset = 0)
    (hf : f.firstCluster = some c0) :
    f.truncate A s = (.ok (), { f.truncEntry with chain := [], firstCluster := none },
      A.release f.chain s) := by
  simp [AFile.truncate, hcur, ho, hf]

theorem truncate_none_none (hcur : f.current = none) (ho : f.offset = 0) (hf : f.firstCluster = none) :
    f.truncate A s = (.ok (), f.truncEntry, s) := by
  simp [AFile.truncate, hcur, ho, hf]

/-- refinement of `truncate`: succeeds, keeps exactly `take pos`, keeps the invariant -/
theorem AFileInv.truncate_refines (h : AFileInv isFree f s) (hA : AllocLaws A isFree) :
    (f.truncate A s).1 = .ok () ∧ AFileInv isFree (f.truncate A s).2.1 (f.truncate A s).2.2 ∧
    (f.truncate A s).2.1.abs = f.abs.truncate ∧ (f.truncate A s).2.1.cs = f.cs := by
  have hcs := h.cs_pos
  have hoff := h.off_le
  have hsz := h.size_le
  by_cases ho : f.offset = 0
  · -- cursor at 0: the whole chain goes
    have hcur := h.current_eq_none.mpr ho
    have hab : ∀ g : AFile, g.size = f.offset → g.offset = f.offset → g.abs = f.abs.truncate := fun g h1 h2 => by
      simp [AFile.abs, ByteFile.truncate, AFile.content, h1, h2, ho]
    cases hf : f.firstCluster with
    | some c0 =>
      rw [truncate_none_some hcur ho hf]
      exact ⟨rfl, ⟨hcs, List.nodup_nil, rfl, Nat.le_of_eq (ho.trans (Nat.zero_mul _).symm), Nat.le_refl _,
        Nat.le_trans hoff hsz, hcur.trans (if_pos ho).symm, fun _ hc => nomatch hc⟩, hab _ rfl rfl, rfl⟩
    | none =>
      rw [truncate_none_none hcur ho hf]
      exact ⟨rfl, ⟨hcs, h.nodup, h.first, Nat.le_trans (Nat.le_of_eq ho) (Nat.zero_le _), Nat.le_refl _, Nat.le_trans hoff hsz, h.cur, h.live⟩,
        hab _ rfl rfl, rfl⟩
  · -- the chain is cut after the cluster of the last byte that stays
    obtain ⟨c, hcur, hci⟩ := h.cur_pos ho
    have hidx : (f.offset - 1) / f.cs < f.chain.length := h.index_lt (by omega)
    obtain ⟨hcut, hfreed⟩ := cutAfter_of_getElem? f.chain _ c h.nodup hci
    obtain ⟨hnd, hdisj⟩ := nodup_take_drop ((f.offset - 1) / f.cs + 1) h.nodup
    have hdm := divmod_spec f.cs (f.offset - 1) hcs
    have hsm : ((f.offset - 1) / f.cs + 1) * f.cs = (f.offset - 1) / f.cs * f.cs + f.cs := Nat.succ_mul _ _
    rw [truncate_some hcur ho, hcut, hfreed]
    refine ⟨rfl, ⟨hcs, hnd, ?_, ?_, Nat.le_refl _, Nat.le_trans hoff hsz, ?_, ?_⟩, ?_, rfl⟩
    · show f.firstCluster = _
      rw [List.head?_take, if_neg (Nat.succ_ne_zero _)]; exact h.first
    · show f.offset ≤ (f.chain.take ((f.offset - 1) / f.cs + 1)).length * f.cs
      rw [List.length_take, Nat.min_eq_left (by omega)]
      omega
    · show f.current = if f.offset = 0 then none
        else (f.chain.take ((f.offset - 1) / f.cs + 1))[(f.offset - 1) / f.cs]?
      rw [if_neg ho, hcur, ← hci]; simp
    · intro d hd hfree
      rcases hA.release_sub hfree with h1 | h1
      · exact h.live d (List.mem_of_mem_take hd) h1
      · exact hdisj d hd h1
    · -- bytes below the cursor lie in clusters that stay
      simp only [AFile.abs, ByteFile.truncate, AFile.truncEntry]
      congr 1
      unfold AFile.content
      simp only
      rw [take_map_range _ _ _ hoff]
      apply List.map_congr_left
      intro p hp
      have hp' : p < f.offset := List.mem_range.mp hp
      have hpi : p / f.cs < (f.offset - 1) / f.cs + 1 := by
        apply div_lt_of_lt_mul'; omega
      unfold AFile.byteAt
      simp only [List.getD_eq_getElem?_getD, List.getElem?_take, hpi, if_true]

/-- `flush` clears the editor's dirty flag and changes nothing else -/
theorem AFileInv.flush_refines (h : AFileInv isFree f s) :
    f.flush.1 = .ok () ∧ AFileInv isFree f.flush.2 s ∧ f.flush.2.abs = f.abs ∧ f.flush.2.dirty = false ∧
    f.flush.2.cs = f.cs :=
  ⟨rfl, h.move rfl rfl rfl rfl h.off_le h.cur, rfl, rfl, rfl⟩

/-- a reopened handle: same content, cursor at 0 -/
theorem AFileInv.reopen_inv (h : AFileInv isFree f s) :
    AFileInv isFree f.reopen s ∧ f.reopen.abs = { f.abs with pos := 0 } ∧ f.reopen.cs = f.cs :=
  ⟨h.move rfl rfl rfl rfl (Nat.zero_le _) rfl, rfl, rfl⟩

end
end FatVerif.Cursor
