import FatVerif.Proofs.ReadOnlyFs
/-! C13: the documented exception — after `stats` recomputed a missing free count the FS-info latch is set,
    and `unmount`/`Drop for FileSystem` then write, but only inside the FS-info sector (stated on the write log).
    On the way: what `write_all` / `writeChunks` on the raw device do (every run stays in a window; a successful one
    appends `Pieces`), and `flush_fs_info`, each walked through once as a `Tri`. -/
namespace FatVerif

def LogItem.within (lo hi : Nat) : LogItem → Prop
  | .write off bs => lo ≤ off ∧ off + bs.length ≤ hi
  | .flush => True

/-- the log of `d'` extends that of `d`, and every write record added lies inside `[lo, hi)` -/
def LogWithin (lo hi : Nat) (d d' : Dev) : Prop :=
  ∃ items, d'.log = items ++ d.log ∧ ∀ it ∈ items, it.within lo hi

theorem LogWithin.refl (lo hi : Nat) (d : Dev) : LogWithin lo hi d d := ⟨[], rfl, by simp⟩

theorem LogWithin.of_log_eq {lo hi : Nat} {d d' : Dev} (h : d'.log = d.log) : LogWithin lo hi d d' :=
  ⟨[], by simp [h], by simp⟩

theorem LogWithin.trans {lo hi : Nat} {a b c : Dev} (h1 : LogWithin lo hi a b) (h2 : LogWithin lo hi b c) :
    LogWithin lo hi a c := by
  obtain ⟨i1, e1, w1⟩ := h1
  obtain ⟨i2, e2, w2⟩ := h2
  refine ⟨i2 ++ i1, by rw [e2, e1, List.append_assoc], ?_⟩
  intro it hit
  rcases List.mem_append.mp hit with h | h
  · exact w2 it h
  · exact w1 it h

theorem LogItem.within_mono {lo hi lo' hi' : Nat} (hlo : lo' ≤ lo) (hhi : hi ≤ hi') {it : LogItem}
    (h : it.within lo hi) : it.within lo' hi' := by
  cases it with
  | write off bs => exact ⟨Nat.le_trans hlo h.1, Nat.le_trans h.2 hhi⟩
  | flush => trivial

theorem LogWithin.mono {lo hi lo' hi' : Nat} (hlo : lo' ≤ lo) (hhi : hi ≤ hi') {d d' : Dev}
    (h : LogWithin lo hi d d') : LogWithin lo' hi' d d' := by
  obtain ⟨i, e, w⟩ := h
  exact ⟨i, e, fun it hit => LogItem.within_mono hlo hhi (w it hit)⟩

/-- no write record added at all -/
theorem logWithin_of_sameWrites {lo hi : Nat} {d d' : Dev} (hx : LogExtends d d') (hs : SameWrites d d') :
    LogWithin lo hi d d' := by
  obtain ⟨items, hi'⟩ := hx
  refine ⟨items, hi', ?_⟩
  have h2 := hs.2
  simp only [Dev.writesOf, hi', List.filter_append] at h2
  have h3 : items.filter LogItem.isWrite = [] := by
    have := congrArg List.length h2
    simp only [List.length_append] at this
    exact List.eq_nil_of_length_eq_zero (by omega)
  intro it hit
  cases it with
  | flush => trivial
  | write off bs =>
    have : LogItem.write off bs ∈ items.filter LogItem.isWrite := List.mem_filter.mpr ⟨hit, rfl⟩
    rw [h3] at this; cases this

/-! ### one device write, `write_all`, `writeChunks` on the raw device -/

/-- exact outcome of one device write -/
theorem stepOp_write_exact (bs : List Nat) (d : Dev) {r d1} (hr : stepOp (.write bs) d = (r, d1)) :
    d1.fs = d.fs ∧
    ((∃ e, r = .error e ∧ d1.log = d.log) ∨
     (r = .ok (min bs.length (d.img.size - d.pos)) ∧
      d1.log = .write d.pos (bs.take (min bs.length (d.img.size - d.pos))) :: d.log ∧
      d1.pos = d.pos + min bs.length (d.img.size - d.pos))) := by
  have hc : (d.count .w).fs = d.fs ∧ (d.count .w).log = d.log ∧ (d.count .w).pos = d.pos ∧ (d.count .w).img = d.img := by
    unfold Dev.count; simp
  simp only [stepOp, devCall, devCallCore] at hr
  split at hr
  · cases hr
    exact ⟨hc.1, Or.inl ⟨_, rfl, hc.2.1⟩⟩
  · cases hr
    refine ⟨hc.1, Or.inr ⟨?_, ?_, ?_⟩⟩
    · simp only [hc.2.2.1, hc.2.2.2]
    · simp only [hc.2.1, hc.2.2.1, hc.2.2.2]
    · simp only [hc.2.2.1, hc.2.2.2]

theorem stepOp_write_spec (bs : List Nat) (d : Dev) {r d1} (hr : stepOp (.write bs) d = (r, d1)) :
    d1.fs = d.fs ∧
    ((∃ e, r = .error e ∧ d1.log = d.log) ∨
     (∃ m : Nat, r = .ok m ∧ m ≤ bs.length ∧ d1.log = .write d.pos (bs.take m) :: d.log ∧ d1.pos = d.pos + m)) :=
  let a := stepOp_write_exact bs d hr
  ⟨a.1, a.2.imp id (fun h => ⟨_, h.1, Nat.min_le_left _ _, h.2⟩)⟩

theorem run_devStrm_write (bs : List Nat) (d : Dev) :
    run (devStrm.write () bs) d =
      match stepOp (.write bs) d with
      | (.ok n, d1) => (.ok (n, ()), d1)
      | (.error e, d1) => (.error e, d1) := by
  show run (Prog.bind (Prog.op (.write bs)) (fun n => Prog.pure (n, ()))) d = _
  simp only [run]
  rcases stepOp (.write bs) d with ⟨r, d1⟩
  cases r <;> rfl

/-- the write records `items` (oldest first) tile the byte string `bs` from device offset `p` on: consecutive,
    non-empty pieces whose concatenation is `bs` (a device may accept a `write` partially; `write_all` continues) -/
inductive Pieces : Nat → List Nat → List LogItem → Prop where
  | nil (p : Nat) : Pieces p [] []
  | cons (p : Nat) (c bs' : List Nat) (rest : List LogItem) : c ≠ [] → Pieces (p + c.length) bs' rest →
      Pieces p (c ++ bs') (.write p c :: rest)

theorem Pieces.append {p : Nat} {a b : List Nat} {i1 i2 : List LogItem} (h1 : Pieces p a i1)
    (h2 : Pieces (p + a.length) b i2) : Pieces p (a ++ b) (i1 ++ i2) := by
  induction h1 with
  | nil p => simpa using h2
  | cons p c bs' rest hc _ ih =>
    rw [List.append_assoc, List.cons_append]
    refine Pieces.cons p c _ _ hc (ih ?_)
    rw [List.length_append, ← Nat.add_assoc] at h2
    exact h2

theorem Pieces.nil_inv {p : Nat} {bs : List Nat} {items : List LogItem} (h : Pieces p bs items) (hb : bs = []) :
    items = [] := by
  cases h with
  | nil => rfl
  | cons _ c bs' rest hc hr =>
    have : c = [] := (List.append_eq_nil_iff.mp hb).1
    exact absurd this hc

/-- one byte can only be written in one piece -/
theorem Pieces.single' {p v : Nat} {bs : List Nat} {items : List LogItem} (h : Pieces p bs items) (hb : bs = [v]) :
    items = [.write p [v]] := by
  cases h with
  | nil => cases hb
  | cons _ c bs' rest hc hr =>
    cases c with
    | nil => exact absurd rfl hc
    | cons x xs =>
      simp only [List.cons_append, List.cons.injEq] at hb
      obtain ⟨rfl, h2⟩ := hb
      have hx : xs = [] ∧ bs' = [] := by simpa using h2
      obtain ⟨rfl, rfl⟩ := hx
      rw [hr.nil_inv rfl]

theorem Pieces.single {p v : Nat} {items : List LogItem} (h : Pieces p [v] items) : items = [.write p [v]] :=
  Pieces.single' h rfl

theorem Pieces.all_write {p : Nat} {bs : List Nat} {items : List LogItem} (h : Pieces p bs items) :
    ∀ it ∈ items, it.isWrite = true := by
  induction h with
  | nil p => simp
  | cons p c bs' rest _ _ ih =>
    intro it hit
    rcases List.mem_cons.mp hit with h | h
    · subst h; rfl
    · exact ih it h

/-- what writes to the raw device inside the window `[lo, hi)` do -/
def DevWriteRel (lo hi : Nat) (d d' : Dev) : Prop := d'.fs = d.fs ∧ LogWithin lo hi d d'

theorem devWriteRel_ok (lo hi : Nat) : RelOK (DevWriteRel lo hi) :=
  ⟨fun d => ⟨rfl, LogWithin.refl _ _ d⟩, fun _ _ _ h1 h2 => ⟨h2.1.trans h1.1, h1.2.trans h2.2⟩,
   fun _ _ => ⟨rfl, LogWithin.of_log_eq rfl⟩⟩

/-- one `write` on the raw device at position `p`, log `l0`: the device may accept a prefix -/
theorem Tri.devWrite (lo hi p : Nat) (l0 : List LogItem) (bs : List Nat) (hlo : lo ≤ p) (hhi : p + bs.length ≤ hi) :
    Tri (DevWriteRel lo hi) (fun d => d.log = l0 ∧ d.pos = p) (devStrm.write () bs)
      (fun r d' => (d'.log = .write p (bs.take r.1) :: l0 ∧ d'.pos = p + r.1) ∧ r.1 ≤ bs.length) := by
  refine ⟨fun d r d' hp hr => ?_⟩
  rw [run_devStrm_write] at hr
  rcases hw : stepOp (.write bs) d with ⟨rw, d1⟩
  rw [hw] at hr
  rcases stepOp_write_spec bs d hw with ⟨hfs, ⟨e, he, hlog⟩ | ⟨m, hm, hle, hlog, hpos⟩⟩
  · subst he; simp only at hr; cases hr
    exact ⟨⟨hfs, LogWithin.of_log_eq hlog⟩, fun v hv => by cases hv⟩
  · subst hm; simp only at hr; cases hr
    rw [hp.1, hp.2] at hlog
    refine ⟨⟨hfs, [.write p (bs.take m)], by rw [hlog, hp.1]; rfl, ?_⟩,
      fun v hv => by cases hv; exact ⟨⟨hlog, by rw [hpos, hp.2]⟩, hle⟩⟩
    intro it hit
    simp only [List.mem_singleton] at hit; subst hit
    exact ⟨hlo, by simp only [List.length_take]; omega⟩

/-- `write_all` on the raw device at position `p`, log `l0`, walked through once: every run stays in the window, and
    a successful one ends at `p + len` having appended pieces that tile the buffer from `p` on -/
theorem writeAllLoop_dev_tri (lo hi : Nat) : ∀ (fuel : Nat) (bs : List Nat) (p : Nat) (l0 : List LogItem),
    lo ≤ p → p + bs.length ≤ hi →
    Tri (DevWriteRel lo hi) (fun d => d.log = l0 ∧ d.pos = p) (writeAllLoop devStrm fuel () bs)
      (fun _ d' => d'.pos = p + bs.length ∧ ∃ items, d'.log = items.reverse ++ l0 ∧ Pieces p bs items) := by
  have hR := devWriteRel_ok lo hi
  intro fuel
  induction fuel with
  | zero => intros; unfold writeAllLoop; exact Tri.fail hR _
  | succ k ih =>
    intro bs p l0 hlo hhi
    unfold writeAllLoop
    split
    · rename_i hemp
      have hb : bs = [] := by simpa using hemp
      subst hb
      exact Tri.pure hR (fun d hd => ⟨hd.2, [], hd.1, Pieces.nil _⟩)
    · refine Tri.bind hR (Tri.devWrite lo hi p l0 bs hlo hhi) ?_
      rintro ⟨n, s'⟩
      dsimp only
      split
      · exact Tri.fail hR _
      · rename_i hn0
        refine Tri.of_imp (fun hn : n ≤ bs.length => ?_)
        have hl : (bs.take n).length = n := by simp only [List.length_take]; omega
        refine (ih (bs.drop n) (p + n) _ (by omega) (by simp only [List.length_drop]; omega)).conseq (fun _ h => h) ?_
        rintro _ d' ⟨hpos, items, hlog, hpc⟩
        simp only [List.length_drop] at hpos
        refine ⟨by omega, .write p (bs.take n) :: items, by rw [hlog]; simp, ?_⟩
        have := Pieces.cons p (bs.take n) (bs.drop n) items (fun h0 => by rw [h0] at hl; exact hn0 hl.symm)
          (by rw [hl]; exact hpc)
        rwa [List.take_append_drop] at this

theorem writeAll_dev_within (bs : List Nat) (d : Dev) {r d'} (hr : run (writeAll devStrm () bs) d = (r, d')) :
    d'.fs = d.fs ∧ LogWithin d.pos (d.pos + bs.length) d d' ∧ (∀ v, r = .ok v → d'.pos = d.pos + bs.length) :=
  let a := (writeAllLoop_dev_tri d.pos (d.pos + bs.length) _ bs d.pos d.log (Nat.le_refl _) (Nat.le_refl _)).out d r d'
    ⟨rfl, rfl⟩ hr
  ⟨a.1.1, a.1.2, fun v hv => (a.2 v hv).1⟩

theorem writeAll_dev_pieces (bs : List Nat) (d : Dev) {u : Unit} {d' : Dev}
    (hr : run (writeAll devStrm () bs) d = (.ok u, d')) :
    ∃ items, d'.log = items.reverse ++ d.log ∧ Pieces d.pos bs items ∧ d'.pos = d.pos + bs.length ∧ d'.fs = d.fs :=
  let a := (writeAllLoop_dev_tri d.pos (d.pos + bs.length) _ bs d.pos d.log (Nat.le_refl _) (Nat.le_refl _)).out d _ d'
    ⟨rfl, rfl⟩ hr
  let ⟨hpos, items, hl, hp⟩ := a.2 u rfl
  ⟨items, hl, hp, hpos, a.1.1⟩

def totalLen (cs : List (List Nat)) : Nat := (cs.map List.length).sum

theorem writeChunks_dev_tri (lo hi : Nat) : ∀ (cs : List (List Nat)) (p : Nat) (l0 : List LogItem),
    lo ≤ p → p + totalLen cs ≤ hi →
    Tri (DevWriteRel lo hi) (fun d => d.log = l0 ∧ d.pos = p) (writeChunks devStrm () cs)
      (fun _ d' => ∃ items, d'.log = items.reverse ++ l0 ∧ Pieces p cs.flatten items) := by
  have hR := devWriteRel_ok lo hi
  intro cs
  induction cs with
  | nil => intro p l0 _ _; unfold writeChunks; exact Tri.pure hR (fun d hd => ⟨[], hd.1, Pieces.nil _⟩)
  | cons c rest ih =>
    intro p l0 hlo hhi
    have htl : totalLen (c :: rest) = c.length + totalLen rest := by simp [totalLen]
    unfold writeChunks
    refine Tri.bind hR (writeAllLoop_dev_tri lo hi _ c p l0 hlo (by omega)) (fun _ => ?_)
    refine ⟨fun d r d' ⟨hpos, i1, hl, p1⟩ hr => ?_⟩
    have a := (ih (p + c.length) _ (by omega) (by omega)).out d r d' ⟨hl, hpos⟩ hr
    refine ⟨a.1, fun v hv => ?_⟩
    obtain ⟨i2, l2, p2⟩ := a.2 v hv
    exact ⟨i1 ++ i2, by rw [l2]; simp, by rw [List.flatten_cons]; exact Pieces.append p1 p2⟩

theorem writeChunks_dev_within (cs : List (List Nat)) (d : Dev) (r) (d' : Dev)
    (hr : run (writeChunks devStrm () cs) d = (r, d')) :
    d'.fs = d.fs ∧ LogWithin d.pos (d.pos + totalLen cs) d d' :=
  ((writeChunks_dev_tri d.pos (d.pos + totalLen cs) cs d.pos d.log (Nat.le_refl _) (Nat.le_refl _)).out d r d'
    ⟨rfl, rfl⟩ hr).1

theorem writeChunks_dev_pieces (cs : List (List Nat)) (d : Dev) (u : Unit) (d' : Dev)
    (hr : run (writeChunks devStrm () cs) d = (.ok u, d')) :
    ∃ items, d'.log = items.reverse ++ d.log ∧ Pieces d.pos cs.flatten items ∧ d'.fs = d.fs :=
  let a := (writeChunks_dev_tri d.pos (d.pos + totalLen cs) cs d.pos d.log (Nat.le_refl _) (Nat.le_refl _)).out d _ d'
    ⟨rfl, rfl⟩ hr
  let ⟨items, hl, hp⟩ := a.2 u rfl
  ⟨items, hl, hp, a.1.1⟩

theorem totalLen_chunksOf_le : ∀ (ns : List Nat) (bs : List Nat), totalLen (chunksOf bs ns) ≤ ns.sum := by
  intro ns
  induction ns with
  | nil => intro bs; simp [chunksOf, totalLen]
  | cons n rest ih =>
    intro bs
    have := ih (bs.drop n)
    simp only [chunksOf, totalLen, List.map_cons, List.sum_cons, List.length_take] at this ⊢
    omega


/-! ### `unmount` from a state whose status flags are as at mount -/

/-- byte offset of the FS-info sector -/
def fsInfoLo (fs : FsState) : Nat := fs.fsInfoSector * fs.bps

/-- what `unmount_internal` may do when the status flags are as read at mount: keep them so, keep the geometry, and
    write only inside the 512 bytes of the FS-info sector -/
def UnmountRel (d d' : Dev) : Prop :=
  FlagsClean d.fs →
    FlagsClean d'.fs ∧ d'.fs.fsInfoSector = d.fs.fsInfoSector ∧ d'.fs.bps = d.fs.bps ∧
    LogWithin (fsInfoLo d.fs) (fsInfoLo d.fs + 512) d d'

theorem unmountRel_ok : RelOK UnmountRel where
  refl := fun d h => ⟨h, rfl, rfl, LogWithin.refl _ _ _⟩
  trans := by
    intro a b c h1 h2 ha
    obtain ⟨hb, s1, b1, w1⟩ := h1 ha
    obtain ⟨hc, s2, b2, w2⟩ := h2 hb
    refine ⟨hc, s2.trans s1, b2.trans b1, w1.trans ?_⟩
    have : fsInfoLo b.fs = fsInfoLo a.fs := by simp [fsInfoLo, s1, b1]
    rw [this] at w2; exact w2
  depth := fun d n h => ⟨h, rfl, rfl, LogWithin.of_log_eq rfl⟩

theorem unmountRel_of_ro {α} {p : Prog α} (hp : ∀ fs0, FlagsClean fs0 → RO fs0 p (fun _ => True)) :
    Steps UnmountRel p := by
  refine ⟨fun d r d' hr hfl => ?_⟩
  have h := (hp d.fs hfl).out d r d' rfl hr
  refine ⟨by rw [h.2.1]; exact hfl, by rw [h.2.1], by rw [h.2.1], ?_⟩
  exact logWithin_of_sameWrites (run_logExtends _ _ _ _ hr) h.1

theorem run_seekStart_spec (n : Nat) (d : Dev) {r d1} (hr : run (Prog.seekStart n) d = (r, d1)) :
    d1.fs = d.fs ∧ d1.log = d.log ∧ (∀ v, r = .ok v → d1.pos = n) := by
  have hc : (d.count .s).fs = d.fs ∧ (d.count .s).log = d.log := by unfold Dev.count; simp
  simp only [Prog.seekStart, run, stepOp, devCall, devCallCore] at hr
  split at hr
  · cases hr; exact ⟨hc.1, hc.2, fun v hv => by cases hv⟩
  · cases hr; exact ⟨hc.1, hc.2, fun v _ => rfl⟩

/-- leaf triple: a seek to `n` changes only the position; `P` speaks of the mounted state and the log -/
theorem Tri.seekStart {R : Dev → Dev → Prop} {P : Dev → Prop}
    (hq : ∀ d d' : Dev, d'.fs = d.fs → d'.log = d.log → R d d')
    (hP : ∀ d d' : Dev, P d → d'.fs = d.fs → d'.log = d.log → P d') (n : Nat) :
    Tri R P (Prog.seekStart n) (fun _ d' => P d' ∧ d'.pos = n) :=
  ⟨fun d _ _ hp hr =>
    let a := run_seekStart_spec n d hr
    ⟨hq _ _ a.1 a.2.1, fun v hv => ⟨hP _ _ hp a.1 a.2.1, a.2.2 v hv⟩⟩⟩

theorem fsInfoChunks_sum : fsInfoChunks.sum = 512 := by decide

/-- what `flush_fs_info` does on a volume mounted as `fs0`: it touches only the FS-info part of the mounted state and
    writes only inside the FS-info sector -/
def FsInfoRel (fs0 : FsState) (d d' : Dev) : Prop :=
  (∃ i, d'.fs = { d.fs with fsInfo := i }) ∧ LogWithin (fsInfoLo fs0) (fsInfoLo fs0 + 512) d d'

theorem fsInfoRel_ok (fs0 : FsState) : RelOK (FsInfoRel fs0) :=
  ⟨fun d => ⟨⟨_, rfl⟩, LogWithin.refl _ _ d⟩,
   fun _ _ _ ⟨⟨_, h1⟩, w1⟩ ⟨⟨i, h2⟩, w2⟩ => ⟨⟨i, by rw [h2, h1]⟩, w1.trans w2⟩,
   fun _ _ => ⟨⟨_, rfl⟩, LogWithin.of_log_eq rfl⟩⟩

/-- every run of `flush_fs_info`, walked through once -/
theorem flushFsInfo_tri (fs0 : FsState) :
    Tri (FsInfoRel fs0) (fun d => d.fs = fs0) flushFsInfo (fun _ _ => True) := by
  have hR := fsInfoRel_ok fs0
  unfold flushFsInfo
  refine Tri.bindGetFs (F := fun fs => fs = fs0) (fun _ h => h) (fun fs hfs => ?_)
  subst hfs
  split
  · refine Tri.bind hR (Tri.seekStart (fun d d' hf hl => ⟨⟨d.fs.fsInfo, hf⟩, LogWithin.of_log_eq hl⟩)
      (fun _ _ h hf _ => hf.trans h) _) (fun _ => ?_)
    refine Tri.bind hR (Q := fun _ _ => True) ⟨fun d r d' hp hr => ?_⟩
      (fun _ => ⟨fun d _ _ _ hr => by
        rw [run_modifyFs] at hr; cases hr
        exact ⟨⟨⟨_, rfl⟩, LogWithin.of_log_eq rfl⟩, fun _ _ => trivial⟩⟩)
    have h2 := writeChunks_dev_within _ d _ _ hr
    have hlen := totalLen_chunksOf_le fsInfoChunks (fsInfoBytes fs.fsInfo)
    rw [fsInfoChunks_sum] at hlen
    refine ⟨⟨⟨d.fs.fsInfo, h2.1⟩, h2.2.mono ?_ ?_⟩, fun _ _ => trivial⟩
    · rw [hp.2]; exact Nat.le_refl _
    · rw [hp.2]; simp only [fsInfoLo]; omega
  · exact Tri.pure hR (fun _ _ => trivial)

theorem flushFsInfo_steps : Steps UnmountRel flushFsInfo :=
  ⟨fun d r d' hr hfl => by
    obtain ⟨⟨i, hi⟩, hw⟩ := ((flushFsInfo_tri d.fs).out d r d' rfl hr).1
    exact ⟨by rw [hi]; exact hfl, by rw [hi], by rw [hi], hw⟩⟩

theorem unmountInternal_steps : Steps UnmountRel unmountInternal := by
  unfold unmountInternal
  exact Steps.bind unmountRel_ok flushFsInfo_steps
    (fun _ => unmountRel_of_ro (fun fs0 h => setDirtyFlag_false_clean_ro h))

/-- `FileSystem::unmount` with unchanged status flags writes only inside the FS-info sector -/
theorem unmount_steps : Steps UnmountRel unmount := by
  unfold unmount
  exact Steps.finallyDrop unmountRel_ok unmountInternal_steps (fun _ => unmountInternal_steps)

/-- `impl Drop for FileSystem` with unchanged status flags writes only inside the FS-info sector -/
theorem dropFs_steps : Steps UnmountRel dropFs := by
  unfold dropFs Prog.inDrop
  exact Steps.finallyDrop unmountRel_ok (Steps.pure unmountRel_ok _) (fun _ => unmountInternal_steps)

/-! ### the chunking arithmetic of the field-by-field serialisers -/

theorem flatten_chunksOf : ∀ (ns : List Nat) (bs : List Nat), (chunksOf bs ns).flatten = bs.take ns.sum := by
  intro ns
  induction ns with
  | nil => intro bs; simp [chunksOf]
  | cons n rest ih =>
    intro bs
    simp only [chunksOf, List.flatten_cons, ih, List.sum_cons]
    rw [List.take_add]

theorem entryChunks_sum : FileH.entryChunkSizes.sum = 32 := by decide

end FatVerif
