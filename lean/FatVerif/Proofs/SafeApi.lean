import FatVerif.Proofs.SafeFs
/-! C09: `createDir`, the one operation that re-raises a caught error only after a fallible roll-back of its
    own; and the tolerated outcomes of the whole API. -/
namespace FatVerif

/-- an error the roll-back `free_cluster_chain(cluster)` of `create_dir` returns when run after the fault `f` fired -/
def RollbackErr (f : Fault) (e : Err) : Prop :=
  ∃ (c : Nat) (d1 d2 : Dev), d1.failAt = none ∧ d1.fault = some f ∧ run (freeClusterChain c) d1 = (.error e, d2)

/-- what the API may return instead of `io k` after a fault `f` outside a destructor: the error of a failed
    `create_dir` roll-back, or the error of a failed `write_entry` roll-back (`EntryRollbackX`) — both run after the fault -/
def ApiX (f : Fault) (e : Err) : Prop := RollbackErr f e ∨ EntryRollbackX f e

theorem writeEntry_apiX (d : DirStream) (name : String) (raw : DirFileEntryData) :
    PropagatesX ApiX (writeEntry d name raw) := (writeEntry_propagatesX d name raw).mono (fun _ _ h => Or.inr h)

theorem createDir_propagatesX (env) : ∀ fuel d path, PropagatesX ApiX (createDir env fuel d path) := by
  intro fuel
  induction fuel with
  | zero => intros; unfold createDir; exact (ioSafe_propagates (IoSafe.fail _)).toX
  | succ k ih =>
    intro d path; unfold createDir
    refine PropagatesX.bind_ioSafe (IoSafe.op _) (fun fs => ?_)
    split
    rename_i name rest _
    split
    · refine PropagatesX.bind_ioSafe (findEntry_safe _ _ _ _).io (fun e => ?_)
      refine PropagatesX.bind_ioSafe (DirEntry.toDir_safe _ _).io (fun sub => ?_)
      exact thenDrop_propagatesX _ (ih _ _)
    · refine PropagatesX.bind_ioSafe (checkForExistence_safe _ _ _ _).io (fun r => ?_)
      split
      · split
        · exact (ioSafe_propagates (IoSafe.fail _)).toX
        refine PropagatesX.bind_ioSafe (liftE_safe _).io (fun _ => ?_)
        refine PropagatesX.bind_ioSafe (allocClusterFs_safe _ _).io (fun cluster => ?_)
        refine PropagatesX.bind_ioSafe (createSfnEntry_safe _ _ _).io (fun sfn => ?_)
        refine PropagatesX.attemptThenX (writeEntry_apiX _ _ _) ?_ ?_ ?_
        · intro r
          refine PropagatesX.bind_ioSafe (Safe.io ?_) (fun entry => ?_)
          · safe [freeClusterChain_safe]
          refine PropagatesX.bind_ioSafe (DirEntry.toDir_safe _ _).io (fun dir => ?_)
          refine PropagatesX.finallyDrop ?_ ?_
          · refine PropagatesX.bind_ioSafe (createSfnEntry_safe _ _ _).io (fun dot => ?_)
            refine PropagatesX.bind (writeEntry_apiX _ _ _) (fun _ => ?_)
            dsimp only
            refine PropagatesX.bind_ioSafe (createSfnEntry_safe _ _ _).io (fun dotdot => ?_)
            exact PropagatesX.bind (writeEntry_apiX _ _ _) (fun _ => (ioSafe_propagates (IoSafe.pure _)).toX)
          · intro o
            split
            · exact NonFatal.pure _
            · exact (DirStream.dropBody_dtor _).nonFatal
        · intro j d1 f h1 h2 r d' hr
          change run (Prog.bind (Prog.bind (freeClusterChain cluster) (fun _ => Prog.fail (.io j))) _) d1 = _ at hr
          simp only [run] at hr
          rcases hfree : run (freeClusterChain cluster) d1 with ⟨rf, d2⟩
          rw [hfree] at hr
          cases rf with
          | ok u => simp only at hr; cases hr; left; rfl
          | error e => simp only at hr; cases hr; right; exact ⟨e, rfl, Or.inl ⟨cluster, d1, _, h1, h2, hfree⟩⟩
        · intro e d1 f hx h1 h2 r d' hr
          change run (Prog.bind (Prog.bind (freeClusterChain cluster) (fun _ => Prog.fail e)) _) d1 = _ at hr
          simp only [run] at hr
          rcases hfree : run (freeClusterChain cluster) d1 with ⟨rf, d2⟩
          rw [hfree] at hr
          cases rf with
          | ok u => simp only at hr; cases hr; exact ⟨e, rfl, hx⟩
          | error e' => simp only at hr; cases hr; exact ⟨e', rfl, Or.inl ⟨cluster, d1, _, h1, h2, hfree⟩⟩
      · exact (ioSafe_propagates (DirEntry.toDir_safe _ _).io).toX

end FatVerif
