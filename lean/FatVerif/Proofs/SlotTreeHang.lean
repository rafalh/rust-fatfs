import FatVerif.Proofs.SlotTreeRename2
/-!
# Slot trees: with the fuel of `C16dir.dir_alias_terminates` no call ends in the model's `hang` outcome
-/
namespace FatVerif
namespace SlotTree
open Lfn DirSlots DirAlias

variable {up : Char → List Char}

/-- the fuel suffices for the alias loop in this directory (`C16dir.dir_alias_terminates`) -/
def Sized (fuel : Nat) (slots : List (List Nat)) (_ : List (LfnEntry × Node)) : Prop :=
  (listing slots).length < 3 * 65536 ∧ 15 * ((listing slots).length / 3) + 15 ≤ fuel

theorem walkDirsS_err (t : Node) : ∀ (comps cur : List String) (e : Err),
    walkDirsS up t cur comps = .error e → e = .notFound ∨ e = .invalidInput := by
  intro comps
  induction comps with
  | nil =>
    intro cur e h
    unfold walkDirsS at h
    repeat' split at h
    all_goals first | (cases h; done) | (simp only [Except.error.injEq] at h; exact Or.inl h.symm)
  | cons c rest ih =>
    intro cur e h
    unfold walkDirsS at h
    split at h
    · rename_i e' hs
      simp only [Except.error.injEq] at h
      rw [← h]
      exact Or.inl (stepCompS_err hs)
    · exact ih _ e h
    · simp only [Except.error.injEq] at h
      exact Or.inr h.symm

theorem validate_err (name : String) (e : Err) (h : Names.validateLongName name = .error e) : e ≠ .hang := by
  unfold Names.validateLongName Names.validateLongNameL at h
  repeat' split at h
  all_goals first | (cases h; done) | (simp only [Except.error.injEq] at h; rw [← h]; simp)

theorem check_no_hang (hup : UpperFixes up) (fuel : Nat) (slots : List (List Nat)) (ch : List (LfnEntry × Node))
    (hs : Sized fuel slots ch) (name : String) (isDir : Option Bool) :
    checkForExistenceL up slots name isDir fuel ≠ .error .hang :=
  (C16dir.dir_alias_terminates up hup slots name isDir fuel hs.1 hs.2).1

theorem fail_out (t : Node) (e : Err) : (fail t e).out = .error e := rfl
theorem done_out (t : Node) : (done t).out = .ok [] := rfl

theorem createFinal_no_hang (hup : UpperFixes up) (fuel : Nat) (t : Node) (p : List String)
    (slots : List (List Nat)) (ch : List (LfnEntry × Node)) (hs : Sized fuel slots ch) (name : String)
    (wantDir : Bool) (stamp : List Nat) : (createFinal up fuel t p slots name wantDir stamp).out ≠ .error .hang := by
  have hc := check_no_hang hup fuel slots ch hs name (some wantDir)
  unfold createFinal
  split
  · rename_i e he
    rw [fail_out]
    intro h
    simp only [Except.error.injEq] at h
    rw [h] at he
    exact hc he
  · simp [done_out]
  · split
    · simp [fail_out]
    · split
      · rename_i e he
        rw [fail_out]
        intro h
        simp only [Except.error.injEq] at h
        exact validate_err _ _ he h
      · simp [done_out]

theorem renameFinal_no_hang (hup : UpperFixes up) (fuel : Nat) (t : Node) (sp : List String) (e : LfnEntry)
    (c : Node) (dp : List String) (slots : List (List Nat)) (ch : List (LfnEntry × Node)) (hs : Sized fuel slots ch)
    (name : String) : (renameFinal up fuel t sp e c dp slots name).out ≠ .error .hang := by
  have hc := check_no_hang hup fuel slots ch hs name none
  unfold renameFinal
  split
  · simp [fail_out]
  · split
    · rename_i e he
      rw [fail_out]
      intro h
      simp only [Except.error.injEq] at h
      rw [h] at he
      exact hc he
    · split <;> simp [fail_out, done_out]
    · simp [done_out]

theorem sized_at {fuel : Nat} {t : Node} (hsz : t.All (Sized fuel)) {p : List String} {s : List (List Nat)}
    {ch : List (LfnEntry × Node)} (hg : getAtS up t p = some (.dir s ch)) : Sized fuel s ch :=
  ((all_dir _ s ch).1 (all_getAtS _ p t _ hsz hg)).1

theorem err_ne_hang_of_walk {t : Node} {cur comps : List String} {e : Err}
    (h : walkDirsS up t cur comps = .error e) : e ≠ .hang := by
  rcases walkDirsS_err t comps cur e h with h | h <;> rw [h] <;> simp

theorem openS_no_hang (up : Char → List Char) (t : Node) (cwd : List String) (p : String) (w : Bool) :
    (openS up t cwd p w).out ≠ .error .hang := by
  unfold openS
  split
  · rename_i e he
    rw [fail_out]; intro h; simp only [Except.error.injEq] at h; exact err_ne_hang_of_walk he h
  · split
    · rename_i e he
      rw [fail_out, stepCompS_err he]; simp
    · split <;> simp [fail_out, done_out]

theorem removeS_no_hang (up : Char → List Char) (t : Node) (cwd : List String) (p : String) : (removeS up t cwd p).out ≠ .error .hang := by
  unfold removeS
  split
  · rename_i e he
    rw [fail_out]; intro h; simp only [Except.error.injEq] at h; exact err_ne_hang_of_walk he h
  · split
    · split
      · simp [fail_out]
      · split
        · simp [fail_out]
        · split <;> simp [fail_out, done_out]
    · simp [fail_out]

/-- **no `hang`**: if the case folding leaves the characters of short names alone and every directory of the tree
    lists fewer than `3·65536` entries with `15·(n/3) + 15 ≤ fuel`, no call ends in the fuel-exhaustion outcome -/
theorem no_hang_of_fuel (hup : UpperFixes up) (fuel : Nat) (t : Node) (hsz : t.All (Sized fuel)) (op : Spec.Op)
    (stamp : List Nat) : (stepSlot up fuel t op stamp).out ≠ .error .hang := by
  have hcreate : ∀ cwd p w, (createS up fuel t cwd p w stamp).out ≠ .error .hang := by
    intro cwd p w
    unfold createS
    split
    · rename_i e he
      rw [fail_out]; intro h; simp only [Except.error.injEq] at h; exact err_ne_hang_of_walk he h
    · split
      · rename_i slots ch hg
        split
        · simp [fail_out]
        · split
          · simp [done_out]
          · exact createFinal_no_hang hup fuel t _ slots ch (sized_at hsz hg) _ w stamp
      · simp [fail_out]
  cases op with
  | createFile cwd p => exact hcreate cwd p false
  | createDir cwd p => exact hcreate cwd p true
  | openFile cwd p => exact openS_no_hang up t cwd p false
  | openDir cwd p => exact openS_no_hang up t cwd p true
  | list cwd =>
    simp only [stepSlot]
    unfold listS
    split <;> simp [fail_out]
  | remove cwd p => exact removeS_no_hang up t cwd p
  | rename cwd s d p =>
    simp only [stepSlot]
    unfold renameS
    split
    · rename_i e he
      rw [fail_out]; intro h; simp only [Except.error.injEq] at h; exact err_ne_hang_of_walk he h
    · split
      · rename_i e he
        rw [fail_out]; intro h; simp only [Except.error.injEq] at h; exact err_ne_hang_of_walk he h
      · unfold renameInternalS
        split
        · simp [fail_out]
        · split
          · rename_i ss sch ds dch hgs hgd
            split
            · simp [fail_out]
            · split
              · rename_i e he
                rw [fail_out]; intro h; simp only [Except.error.injEq] at h; exact validate_err _ _ he h
              · exact renameFinal_no_hang hup fuel t _ _ _ _ ds dch (sized_at hsz hgd) _
          · simp [fail_out]

end SlotTree
end FatVerif
