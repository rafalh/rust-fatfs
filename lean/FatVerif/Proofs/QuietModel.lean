import FatVerif.Proofs.Prog
import FatVerif.Model.Fs
/-! C13: the read paths of the model contain no `write` and no `setFs` operation (`QuietOps`, by structural
    descent, one lemma per model function). -/
namespace FatVerif

/-- a stream whose `read` and `seek` are quiet -/
structure StrmQuiet {σ} (S : Strm σ) : Prop where
  read : ∀ s n, QuietOps (S.read s n)
  seek : ∀ s p, QuietOps (S.seek s p)

theorem QuietOps.progRead (n : Nat) : QuietOps (Prog.read n) := QuietOps.op _ rfl
theorem QuietOps.progSeek (p : SeekFrom) : QuietOps (Prog.seek p) := QuietOps.op _ rfl
theorem QuietOps.progSeekStart (n : Nat) : QuietOps (Prog.seekStart n) := QuietOps.op _ rfl
theorem QuietOps.progFlush : QuietOps Prog.flush := QuietOps.op _ rfl
theorem QuietOps.progNow : QuietOps Prog.now := QuietOps.op _ rfl
theorem QuietOps.progToday : QuietOps Prog.today := QuietOps.op _ rfl
theorem QuietOps.progGetFs : QuietOps Prog.getFs := QuietOps.op _ rfl

syntax "quiet_step" ("[" Lean.Parser.Tactic.SolveByElim.arg,* "]")? : tactic
macro_rules
  | `(tactic| quiet_step) => `(tactic| quiet_step [])
  | `(tactic| quiet_step [$ts,*]) => `(tactic| first
    | with_reducible_and_instances exact QuietOps.pure _
    | with_reducible_and_instances exact QuietOps.fail _
    | with_reducible exact QuietOps.progRead _
    | with_reducible exact QuietOps.progSeek _
    | with_reducible exact QuietOps.progSeekStart _
    | with_reducible exact QuietOps.progFlush
    | with_reducible exact QuietOps.progNow
    | with_reducible exact QuietOps.progToday
    | with_reducible exact QuietOps.progGetFs
    | intro _
    | with_reducible exact (‹StrmQuiet _›).read _ _
    | with_reducible exact (‹StrmQuiet _›).seek _ _
    | apply_assumption (transparency := .reducible) (exfalso := false) (symm := false) only [*, $ts,*]
    | with_reducible_and_instances apply QuietOps.bind
    | with_reducible_and_instances apply QuietOps.tryCatch
    | with_reducible_and_instances apply QuietOps.finallyDrop
    | dsimp only
    | split)

syntax "quiet" ("[" Lean.Parser.Tactic.SolveByElim.arg,* "]")? : tactic
macro_rules
  | `(tactic| quiet) => `(tactic| repeat quiet_step [])
  | `(tactic| quiet [$ts,*]) => `(tactic| repeat quiet_step [$ts,*])

/-! ### `Io.lean`, `Slice.lean` -/

theorem devStrm_quiet : StrmQuiet devStrm := by
  refine ⟨?_, ?_⟩ <;> intros <;> simp only [devStrm] <;> quiet

theorem adapterStrm_quiet : StrmQuiet adapterStrm := by
  refine ⟨?_, ?_⟩ <;> intros <;> simp only [adapterStrm] <;> quiet

section generic
variable {σ : Type} (S : Strm σ) (hS : StrmQuiet S)
include hS

theorem readExactLoop_quiet : ∀ fuel s n acc, QuietOps (readExactLoop S fuel s n acc) := by
  intro fuel
  induction fuel with
  | zero => intros; unfold readExactLoop; quiet
  | succ k ih => intros; unfold readExactLoop; quiet

theorem readExact_quiet (s n) : QuietOps (readExact S s n) := readExactLoop_quiet S hS _ _ _ _
theorem readU8_quiet (s) : QuietOps (readU8 S s) := by unfold readU8; quiet [readExact_quiet]
theorem readU16_quiet (s) : QuietOps (readU16 S s) := by unfold readU16; quiet [readExact_quiet]
theorem readU32_quiet (s) : QuietOps (readU32 S s) := by unfold readU32; quiet [readExact_quiet]

theorem readChunks_quiet : ∀ ns s acc, QuietOps (readChunks S s ns acc) := by
  intro ns
  induction ns with
  | nil => intros; unfold readChunks; quiet
  | cons n rest ih => intros; unfold readChunks; quiet [readExact_quiet]

end generic

theorem DiskSlice.inner_quiet (s : DiskSlice) : StrmQuiet s.inner := by
  unfold DiskSlice.inner; split
  · exact adapterStrm_quiet
  · exact devStrm_quiet

theorem DiskSlice.read_quiet (s : DiskSlice) (n : Nat) : QuietOps (s.read n) := by
  have := s.inner_quiet
  unfold DiskSlice.read; quiet

theorem DiskSlice.seek_quiet (s : DiskSlice) (p : SeekFrom) : QuietOps (s.seek p) := by
  unfold DiskSlice.seek; quiet

theorem DiskSlice.strm_quiet : StrmQuiet DiskSlice.strm := ⟨DiskSlice.read_quiet, DiskSlice.seek_quiet⟩

/-! ### `Table.lean` (read side) -/

namespace Table
section generic
variable {σ : Type} (S : Strm σ) (hS : StrmQuiet S)
include hS

theorem getRaw_quiet (ft s c) : QuietOps (getRaw S ft s c) := by
  unfold getRaw; quiet [readU16_quiet, readU32_quiet]

theorem get_quiet (ft s c) : QuietOps (get S ft s c) := by
  unfold get; quiet [getRaw_quiet]

theorem countFree12Loop_quiet : ∀ fuel s c endC prev count, QuietOps (countFree12Loop S fuel s c endC prev count) := by
  intro fuel
  induction fuel with
  | zero => intros; unfold countFree12Loop; quiet
  | succ k ih => intros; unfold countFree12Loop; quiet [readU16_quiet, readU8_quiet]

theorem countFreeLoop_quiet (ft) : ∀ fuel s c endC count, QuietOps (countFreeLoop S ft fuel s c endC count) := by
  intro fuel
  induction fuel with
  | zero => intros; unfold countFreeLoop; quiet
  | succ k ih => intros; unfold countFreeLoop; quiet [readU16_quiet, readU32_quiet]

theorem countFree_quiet (ft s total) : QuietOps (countFree S ft s total) := by
  unfold countFree; quiet [countFree12Loop_quiet, countFreeLoop_quiet]

theorem findFree12Loop_quiet : ∀ fuel s c endC packed, QuietOps (findFree12Loop S fuel s c endC packed) := by
  intro fuel
  induction fuel with
  | zero => intros; unfold findFree12Loop; quiet
  | succ k ih => intros; unfold findFree12Loop; quiet [readU16_quiet, readU8_quiet]

theorem findFreeLoop_quiet (ft) : ∀ fuel s c endC, QuietOps (findFreeLoop S ft fuel s c endC) := by
  intro fuel
  induction fuel with
  | zero => intros; unfold findFreeLoop; quiet
  | succ k ih => intros; unfold findFreeLoop; quiet [readU16_quiet, readU32_quiet]

theorem findFree_quiet (ft s start endC) : QuietOps (findFree S ft s start endC) := by
  unfold findFree; quiet [readU16_quiet, findFree12Loop_quiet, findFreeLoop_quiet]

theorem CIter.next_quiet (ft) (it : CIter σ) : QuietOps (CIter.next S ft it) := by
  unfold CIter.next; quiet [get_quiet]

theorem readFatFlags_quiet (ft s) : QuietOps (readFatFlags S ft s) := by
  unfold readFatFlags; quiet [getRaw_quiet]

end generic
end Table

/-! ### `File.lean` (read side) -/

theorem offsetFromClusterP_quiet (fs c) : QuietOps (offsetFromClusterP fs c) := by
  unfold offsetFromClusterP; quiet

theorem nextCluster_quiet (c) : QuietOps (nextCluster c) := by
  unfold nextCluster; quiet [Table.CIter.next_quiet, DiskSlice.strm_quiet]

namespace FileH

theorem absPos_quiet (fs) (f : FileH) : QuietOps (f.absPos fs) := by
  unfold absPos; quiet [offsetFromClusterP_quiet]

theorem boundaryCluster_quiet (f : FileH) : QuietOps f.boundaryCluster := by
  unfold boundaryCluster; quiet [nextCluster_quiet]

/-- `Read::read` for `File` contains no write operation at all (whatever `update_accessed_date` is) -/
theorem read_quiet (f : FileH) (n : Nat) : QuietOps (f.read n) := by
  unfold read; quiet [boundaryCluster_quiet, offsetFromClusterP_quiet]

theorem seekWalk_quiet (fs) : ∀ k it cluster i toSkip newOff, QuietOps (seekWalk fs k it cluster i toSkip newOff) := by
  intro k
  induction k with
  | zero => intros; unfold seekWalk; quiet
  | succ k ih => intros; unfold seekWalk; quiet [Table.CIter.next_quiet, DiskSlice.strm_quiet]

theorem seek_quiet (f : FileH) (p : SeekFrom) : QuietOps (f.seek p) := by
  unfold seek; quiet [seekWalk_quiet]

theorem extentsLoop_quiet (fs) : ∀ k it left acc, QuietOps (extentsLoop fs k it left acc) := by
  intro k
  induction k with
  | zero => intros; unfold extentsLoop; quiet
  | succ k ih =>
    intros; unfold extentsLoop
    quiet [Table.CIter.next_quiet, DiskSlice.strm_quiet, offsetFromClusterP_quiet]

theorem extents_quiet (f : FileH) : QuietOps f.extents := by
  unfold extents; quiet [extentsLoop_quiet, offsetFromClusterP_quiet]

end FileH

/-! ### `DirOps.lean`, `Fs.lean` (parts without handles) -/

theorem liftE_quiet {α} (r : Except Err α) : QuietOps (liftE r) := by
  unfold liftE; quiet

theorem DirEntry.toFile_quiet (fs) (e : DirEntry) : QuietOps (e.toFile fs) := by
  unfold DirEntry.toFile; quiet

theorem DirEntry.toDir_quiet (fs) (e : DirEntry) : QuietOps (e.toDir fs) := by
  unfold DirEntry.toDir; quiet

theorem readBootSector_quiet : QuietOps readBootSector := by
  unfold readBootSector; quiet [readChunks_quiet, devStrm_quiet]

theorem readStatusFlags_quiet : QuietOps readStatusFlags := by
  unfold readStatusFlags; quiet [Table.readFatFlags_quiet, DiskSlice.strm_quiet]

end FatVerif
