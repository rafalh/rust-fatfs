import FatVerif.Proofs.FileSimFatFree
import FatVerif.Proofs.FatImgOps
import FatVerif.Proofs.FormatSectorBytes
import FatVerif.Props.C12
/-! C05 at image level. `stats` on a mounted volume returns the number of free entries of the image's FAT — from the
    cache (under `InfoOk`) or by the recount program (`countFree_img`) — and changes no byte. What `flush_fs_info` /
    `unmount` leave in the FS-info sector of the image, read back with `FsInfoSector::deserialize`. The bookkeeping
    invariant `Sess` of the FsState-level operations, kept by alloc and stats here (`sess_alloc`, `sess_stats`: the forward
    lemmas of Proofs/FileSimFatAlloc with `stats_img`); free, truncate and whole sessions are Props/C05img. -/
namespace FatVerif.FsInfoImg
open FatVerif FatVerif.Fat FatVerif.FileSim

/-- hint bookkeeping kept along a session: `InfoOk` (hint ≥ 2, cached count exact) plus the upper bound on the hint -/
structure InfoOk2 (fs : FsState) (img : Img) : Prop where
  ok : InfoOk fs img
  hintLe : ∀ n, fs.fsInfo.next = some n → n ≤ fs.totalClusters + 2

/-- a successful `stats` returns cluster size, total and the number of free entries of the image's table — from the cache
    under `InfoOk`, or by the recount —, leaves the image as it is and `some n` in the cache; the mounted state changes
    only if no count was cached, and then the FS-info latch is set (`C05img.stats_img` is the reading over `imgTable`) -/
theorem stats_img (d : Dev) (hwf : d.img.WF) (hg : Geo d.fs d.img.size) (hinfo : InfoOk d.fs d.img)
    {a b n : Nat} {d' : Dev} (hr : run stats d = (.ok (a, b, n), d')) :
    a = d.fs.clusterSize ∧ b = d.fs.totalClusters ∧
    n = countFreeV (tabView d.fs d.img) d.fs.totalClusters ∧
    d'.img = d.img ∧ d'.fs = { d.fs with fsInfo := d'.fs.fsInfo } ∧
    d'.fs.fsInfo.free = some n ∧ d'.fs.fsInfo.next = d.fs.fsInfo.next ∧
    (d.fs.fsInfo.free ≠ none → d'.fs = d.fs) ∧ (d.fs.fsInfo.free = none → d'.fs.fsInfo.dirty = true) ∧
    (d.failAt = none → d'.failAt = none) := by
  unfold stats at hr
  obtain ⟨fs, d0, h0, h1⟩ := run_bind_ok_inv hr
  obtain ⟨rfl, rfl⟩ := FileSim.getFs_inv h0
  obtain ⟨free, d1, h2, h3⟩ := run_bind_ok_inv h1
  have h3' : run (Prog.pure (d0.fs.clusterSize, d0.fs.totalClusters, free)) d1 = (.ok (a, b, n), d') := h3
  simp only [run] at h3'; cases h3'
  cases hfree : d0.fs.fsInfo.free with
  | some m =>
    rw [hfree] at h2
    obtain ⟨rfl, rfl⟩ := run_pure_ok_inv h2
    exact ⟨rfl, rfl, hinfo.count m hfree, rfl, rfl, hfree, rfl, fun _ => rfl, fun h => (by cases h), id⟩
  | none =>
    rw [hfree] at h2
    dsimp only at h2
    obtain ⟨⟨cnt, sl⟩, d2, h4, h5⟩ := run_bind_ok_inv h2
    dsimp only at h5
    obtain ⟨u, d3, h6, h7⟩ := run_bind_ok_inv h5
    obtain ⟨rfl, rfl⟩ := run_pure_ok_inv h7
    rw [run_modifyFs] at h6
    cases h6
    -- the recount
    have hq := Table.countFree_quiet DiskSlice.strm DiskSlice.strm_quiet d0.fs.fatType (fatSliceOf d0.fs) d0.fs.totalClusters
    have hsw := noWriteOps_sound hq.noWriteOps d0 h4
    have hfs := quietOps_fs hq d0 h4
    have hfa := (run_facts _ d0 h4).spent
    have hdev := hg.fat_dev
    have hsmall := hg.small
    have htot : d0.fs.totalClusters + 2 < u32Lim := by
      cases hft : d0.fs.fatType <;> rw [hft] at hsmall <;> simp only [badMark, u32Lim] at * <;> omega
    have hcf := (FatVerif.countFree_img (s0 := fatSliceOf d0.fs) d0.fs.fatType (SliceInv.self (by simp [fatSliceOf]; split <;> simp))
      d0.fs.totalClusters d0 hwf hdev htot h4).1 _ _ rfl
    have htab : TableOk d0.fs.fatType (imgFatBytes d0.fs d0.img) d0.fs.totalClusters := hg.tableOk d0.img
    have hcf' : Fat.countFree d0.fs.fatType (imgFatBytes d0.fs d0.img) d0.fs.totalClusters = .ok cnt := hcf
    rw [countFree_sim htab] at hcf'
    cases hcf'
    refine ⟨rfl, rfl, countFreeV_congr _ _ _ (fun i _ h2 => by rw [tabView_eq_view hg d0.img h2]), hsw.1, ?_, rfl, ?_, fun h => absurd rfl h, fun _ => rfl,
      fun h => (hfa h).1⟩
    · show ({ d2.fs with fsInfo := _ } : FsState) = _
      rw [hfs]
    · show ({ d2.fs.fsInfo with free := _, dirty := true } : FsInfoSt).next = _
      rw [hfs]


/-! ### flush_fs_info on the image -/

/-- there is something for `flush_fs_info` to write -/
abbrev Pending (fs : FsState) : Prop := fs.fatType = .fat32 ∧ fs.fsInfo.dirty = true

/-- the bytes a successful `flush_fs_info` leaves: the serialised cache over the FS-info sector if something was
    pending, the old bytes everywhere else -/
def afterFlush (d : Dev) (q : Nat) : Nat :=
  if Pending d.fs ∧ d.fs.fsInfoSector * d.fs.bps ≤ q ∧ q < d.fs.fsInfoSector * d.fs.bps + 512 then
    (fsInfoBytes d.fs.fsInfo).getD (q - d.fs.fsInfoSector * d.fs.bps) 0
  else d.img.getByte q

theorem afterFlush_none {d : Dev} (h : ¬ Pending d.fs) (q : Nat) : afterFlush d q = d.img.getByte q :=
  if_neg fun hc => h hc.1

theorem afterFlush_outside {d : Dev} {q : Nat}
    (h : ¬ (d.fs.fsInfoSector * d.fs.bps ≤ q ∧ q < d.fs.fsInfoSector * d.fs.bps + 512)) :
    afterFlush d q = d.img.getByte q :=
  if_neg fun hc => h hc.2

/-- an image that carries `afterFlush d` away from the status byte reads as the serialised cache over the FS-info
    sector, when something was pending and the status byte lies outside that sector -/
theorem read_afterFlush {d : Dev} {img : Img} (hp : Pending d.fs)
    (hso : statusOff d.fs + 1 ≤ d.fs.fsInfoSector * d.fs.bps ∨ d.fs.fsInfoSector * d.fs.bps + 512 ≤ statusOff d.fs)
    (h : ∀ q, q ≠ statusOff d.fs → img.getByte q = afterFlush d q) :
    img.read (d.fs.fsInfoSector * d.fs.bps) 512 = fsInfoBytes d.fs.fsInfo := by
  apply List.ext_getElem
  · rw [Img.read_length, fsInfoBytes_len]
  · intro k h1 h2
    rw [Img.read_length] at h1
    have e1 := Img.read_getD img (d.fs.fsInfoSector * d.fs.bps) 512 k h1
    rw [List.getD_eq_getElem?_getD, List.getElem?_eq_getElem (by rw [Img.read_length]; exact h1)] at e1
    simp only [Option.getD_some] at e1
    rw [e1, h _ (by omega), afterFlush, if_pos ⟨hp, by omega, by omega⟩, Nat.add_sub_cancel_left,
      List.getD_eq_getElem?_getD, List.getElem?_eq_getElem h2]
    rfl

/-- a successful `flush_fs_info` leaves nothing pending and the bytes `afterFlush` -/
theorem flushFsInfo_img (d : Dev) (hwf : d.img.WF) {u : Unit} {d' : Dev} (hr : run flushFsInfo d = (.ok u, d')) :
    d'.img.WF ∧ SameGeom d.fs d'.fs ∧ ¬ Pending d'.fs ∧ ∀ q, d'.img.getByte q = afterFlush d q := by
  have hfs := FatVerif.flushFsInfo_fs d hr
  have hgeo : SameGeom d.fs d'.fs := by rw [hfs]; rfl
  unfold flushFsInfo at hr
  obtain ⟨fs, d0, h0, h1⟩ := run_bind_ok_inv hr
  obtain ⟨rfl, rfl⟩ := FileSim.getFs_inv h0
  by_cases hc : Pending d0.fs
  · rw [if_pos hc] at h1
    obtain ⟨t, d1, h2, h3⟩ := run_bind_ok_inv h1
    obtain ⟨u2, d2, h4, h5⟩ := run_bind_ok_inv h3
    rw [run_modifyFs] at h5
    cases h5
    have hs := run_seekStart_spec _ d0 h2
    have hpos := hs.2.2 _ rfl
    have himg1 : d1.img = d0.img := run_seekStart_img _ d0 h2
    have htile := writeChunks_dev_tiled _ d1 u2 d2 h4
    rw [flatten_chunksOf] at htile
    have hsum : fsInfoChunks.sum = 512 := by decide
    rw [hsum, ← fsInfoBytes_len d0.fs.fsInfo, List.take_length] at htile
    obtain ⟨L, hL, hseg⟩ := htile.tileAt
    obtain ⟨hwf2, hbytes⟩ := img_after_seg h4 (by rw [himg1]; exact hwf) hseg
    refine ⟨hwf2, hgeo, fun h => Bool.noConfusion h.2, fun q => ?_⟩
    have := hL.replay d1.img.getByte [] q
    rw [List.append_nil] at this
    show d2.img.getByte q = _
    rw [hbytes q, this, hpos, fsInfoBytes_len, himg1]
    unfold afterFlush
    split
    · rw [if_pos ⟨hc, by assumption⟩]; exact Nat.mod_eq_of_lt (getD_lt_allB (fsInfoBytes_allB _) _)
    · rw [if_neg (fun h => by exact absurd h.2 (by assumption))]
      simp only [replay]; exact Nat.mod_eq_of_lt (Img.getByte_lt _ _)
  · rw [if_neg hc] at h1
    obtain ⟨rfl, rfl⟩ := run_pure_ok_inv h1
    exact ⟨hwf, rfl, hc, fun q => (afterFlush_none hc q).symm⟩


/-- `set_dirty_flag`, whatever its outcome: no byte other than the status byte changes, the geometry is kept -/
theorem setDirtyFlag_img (b : Bool) (d : Dev) (hwf : d.img.WF) {r : Except Err Unit} {d' : Dev}
    (hr : run (setDirtyFlag b) d = (r, d')) :
    d'.img.WF ∧ SameGeom d.fs d'.fs ∧ ∀ q, q ≠ statusOff d.fs → d'.img.getByte q = d.img.getByte q := by
  obtain ⟨hg, hall⟩ := setDirtyFlag_all b d hr
  exact ⟨run_wf _ d r d' hr hwf, hg, fun q hq =>
    logAll_frame hr hwf hall q (fun off bs h => by unfold StatusRec at h; omega)⟩

theorem pending_geom {a b : FsState} (hg : SameGeom a b) (hi : b.fsInfo = a.fsInfo) : Pending b ↔ Pending a := by
  unfold Pending; rw [hi, hg.proj FsState.fatType]

/-- a successful `unmount_internal` leaves nothing pending and, the status byte apart, the bytes `afterFlush` -/
theorem unmountInternal_img (d : Dev) (hwf : d.img.WF) {u : Unit} {d' : Dev}
    (hr : run unmountInternal d = (.ok u, d')) :
    d'.img.WF ∧ SameGeom d.fs d'.fs ∧ ¬ Pending d'.fs ∧
    ∀ q, q ≠ statusOff d.fs → d'.img.getByte q = afterFlush d q := by
  have hr' : run (Prog.bind flushFsInfo (fun _ => setDirtyFlag false)) d = (.ok u, d') := hr
  obtain ⟨u1, d1, h1, h2⟩ := run_bind_ok_inv hr'
  obtain ⟨hwf1, hg1, hp1, hb1⟩ := flushFsInfo_img d hwf h1
  obtain ⟨hwf2, hg2, hb2⟩ := setDirtyFlag_img false d1 hwf1 h2
  refine ⟨hwf2, hg1.trans hg2, fun h => hp1 ((pending_geom hg2 (by rw [(setDirtyFlag_spec false d1 h2).1])).mp h),
    fun q hq => ?_⟩
  rw [hb2 q (by rw [statusOff_geom hg1]; exact hq), hb1]

/-- **a successful `unmount`** (`unmount_internal`, then the destructor's second `unmount_internal`, whose flush finds
    nothing pending): the status byte apart, the bytes are those `flush_fs_info` leaves -/
theorem unmount_img (d : Dev) (hwf : d.img.WF) {u : Unit} {d' : Dev} (hr : run unmount d = (.ok u, d')) :
    d'.img.WF ∧ ∀ q, q ≠ statusOff d.fs → d'.img.getByte q = afterFlush d q := by
  unfold unmount at hr
  obtain ⟨d1, r2, d2, h1, h2, hF⟩ := run_finallyDrop_ok_inv hr
  obtain ⟨hwf1, hg1, hp1, hb1⟩ := unmountInternal_img d hwf h1
  have hr2 : run (Prog.bind flushFsInfo (fun _ => setDirtyFlag false)) { d1 with dropDepth := d1.dropDepth + 1 } = (r2, d2) := h2
  have hflush : run flushFsInfo { d1 with dropDepth := d1.dropDepth + 1 } = (.ok (), { d1 with dropDepth := d1.dropDepth + 1 }) := by
    unfold flushFsInfo
    show run (Prog.bind Prog.getFs _) _ = _
    rw [run_getFs_bind]
    show run (if d1.fs.fatType = .fat32 ∧ d1.fs.fsInfo.dirty = true then _ else Prog.pure ()) _ = _
    rw [if_neg hp1]; rfl
  have h2' : run (setDirtyFlag false) { d1 with dropDepth := d1.dropDepth + 1 } = (r2, d2) := by
    rcases run_bind_cases hr2 with ⟨u1, dx, ha, hb⟩ | ⟨e, ha, _⟩
    · rw [hflush] at ha; cases ha; exact hb
    · rw [hflush] at ha; cases ha
  obtain ⟨hwf2, _, hb2⟩ := setDirtyFlag_img false { d1 with dropDepth := d1.dropDepth + 1 } hwf1 h2'
  refine ⟨by rw [hF]; exact hwf2, fun q hq => ?_⟩
  rw [hF, ← hb1 q hq]
  exact hb2 q (by show q ≠ statusOff d1.fs; rw [statusOff_geom hg1]; exact hq)


/-- the standing facts of a session on a mounted volume: fault-free device, well-formed image, layout, and the FS-info
    bookkeeping consistent with the FAT of the image -/
structure Sess (d : Dev) : Prop where
  nofault : d.failAt = none
  wf : d.img.WF
  geo : Geo d.fs d.img.size
  info : InfoOk2 d.fs d.img

theorem Sess.fatDev {d : Dev} (h : Sess d) (hcd : d.fs.curDirty = true) : FileSim.FatDev d.fs d :=
  ⟨h.nofault, hcd, h.wf, h.geo⟩

theorem mapFree_dirty (i : FsInfoSt) (f : Nat → Nat) (h : i.dirty = true) : (i.mapFree f).dirty = true := by
  unfold FsInfoSt.mapFree; split
  · rfl
  · exact h

/-- the hint and the dirty latch after a successful `FileSystem::alloc_cluster` -/
theorem allocClusterFs_next {prev : Option Nat} {d : Dev} {c : Nat} {d' : Dev}
    (hr : run (allocClusterFs prev false) d = (.ok c, d')) :
    d'.fs.fsInfo.next = some (if c + 1 < d'.fs.totalClusters + 2 then c + 1 else 2) ∧ d'.fs.fsInfo.dirty = true := by
  unfold allocClusterFs at hr
  obtain ⟨fs, d0, h0, h1⟩ := run_bind_ok_inv hr
  obtain ⟨rfl, rfl⟩ := FileSim.getFs_inv h0
  obtain ⟨⟨c0, sl⟩, d1, h2, h3⟩ := run_bind_ok_inv h1
  dsimp only at h3
  simp only [Bool.false_eq_true, if_false] at h3
  obtain ⟨fs2, d2, h6, h7⟩ := run_bind_ok_inv h3
  obtain ⟨rfl, rfl⟩ := FileSim.getFs_inv h6
  have key : ∀ (i0 : FsInfoSt), i0.next = some (if c0 + 1 < d2.fs.totalClusters + 2 then c0 + 1 else 2) →
      i0.dirty = true →
      run (do
        Prog.setFs { d2.fs with fsInfo := i0.mapFree (· - 1) }
        (pure c0 : Prog Nat)) d2 = (.ok c, d') →
      d'.fs.fsInfo.next = some (if c + 1 < d'.fs.totalClusters + 2 then c + 1 else 2) ∧ d'.fs.fsInfo.dirty = true := by
    intro i0 hn hdi hrun
    obtain ⟨u2, d4, h8, h9⟩ := run_bind_ok_inv hrun
    simp only [Prog.setFs, run, stepOp] at h8
    cases h8
    obtain ⟨rfl, rfl⟩ := run_pure_ok_inv h9
    exact ⟨by show (FsInfoSt.mapFree _ _).next = _; rw [mapFree_next]; exact hn,
      by show (FsInfoSt.mapFree _ _).dirty = true; exact mapFree_dirty _ _ hdi⟩
  cases hfree : d2.fs.fsInfo.free with
  | none => rw [hfree] at h7; exact key _ rfl rfl h7
  | some m =>
    rw [hfree] at h7
    cases m with
    | zero => simp only [run] at h7; cases h7
    | succ k => exact key _ rfl rfl h7

/-- a FAT update that marks the volume dirty and stores a new FS-info cache `i`, consistent with the new table, keeps
    the session facts if it leaves the hint alone or sets it to a valid cluster -/
theorem Sess.of_devStep {d d' : Dev} (hs : Sess d) (hst : DevStep d d') {i : FsInfoSt}
    (hfs : d'.fs = { markedFs d.fs with fsInfo := i }) (hinfo : InfoOk d'.fs d'.img)
    (hnext : i.next = d.fs.fsInfo.next ∨ ∃ n, i.next = some n ∧ 2 ≤ n ∧ n ≤ d.fs.totalClusters + 1) :
    Sess d' ∧ d'.fs.curDirty = true ∧ FsGeomEq d.fs d'.fs ∧
    (d'.fs.fsInfo.next = d.fs.fsInfo.next ∨ ∃ n, d'.fs.fsInfo.next = some n ∧ 2 ≤ n ∧ n ≤ d.fs.totalClusters + 1) := by
  have hi : d'.fs.fsInfo = i := by rw [hfs]
  refine ⟨⟨by rw [hst.failAt]; exact hs.nofault, hst.wf hs.wf, by rw [hst.size]; exact hs.geo.frame hst.geom,
    ⟨hinfo, ?_⟩⟩, by rw [hfs]; exact markedFs_curDirty _, hst.geom, by rw [hi]; exact hnext⟩
  intro x hx
  rw [hi] at hx
  rw [hst.geom.totalClusters]
  rcases hnext with h | ⟨n, h, _, hn⟩
  · exact hs.info.hintLe x (h ▸ hx)
  · cases h.symm.trans hx; omega

theorem hintAfter_range {total c : Nat} (h1 : 2 ≤ c) (h2 : c < total + 2) :
    2 ≤ hintAfter total c ∧ hintAfter total c ≤ total + 1 := by
  unfold hintAfter; split <;> omega

/-- **alloc** (`zero` either way, volume marked dirty or not) keeps the session facts; the volume is marked dirty
    afterwards; the hint afterwards names a valid cluster -/
theorem sess_alloc {d : Dev} (hs : Sess d) (prev : Option Nat) (zero : Bool)
    (hp : ∀ p, prev = some p → 2 ≤ p ∧ p < d.fs.totalClusters + 2 ∧ tabView d.fs d.img p ≠ .free)
    {c : Nat} {d' : Dev} (hr : run (allocClusterFs prev zero) d = (.ok c, d')) :
    Sess d' ∧ d'.fs.curDirty = true ∧ FsGeomEq d.fs d'.fs ∧
    ∃ n, d'.fs.fsInfo.next = some n ∧ 2 ≤ n ∧ n ≤ d.fs.totalClusters + 1 := by
  rcases run_allocClusterFs_any prev zero d hs.nofault hs.wf hs.geo hs.info.ok hp with
    ⟨_, dx, hx, _⟩ | ⟨c0, d0, hfind, h0, hst, hfs, _, hinfo', _⟩
  · rw [hr] at hx; cases hx
  · rw [hr] at h0
    cases h0
    obtain ⟨hc2, hct, _⟩ := allocFindV_some _ _ _ _ hs.info.ok.hint hfind
    have hn : d'.fs.fsInfo.next = some (hintAfter d.fs.totalClusters c) := by
      rw [hfs]; exact mapFree_next _ _
    obtain ⟨h1, h2, h3, _⟩ := hs.of_devStep hst hfs hinfo' (.inr ⟨_, mapFree_next _ _, hintAfter_range hc2 hct⟩)
    exact ⟨h1, h2, h3, _, hn, hintAfter_range hc2 hct⟩

/-- **stats** keeps the session facts, answers the image's free-entry count and leaves it cached -/
theorem sess_stats {d : Dev} (hs : Sess d) {a b n : Nat} {d' : Dev} (hr : run stats d = (.ok (a, b, n), d')) :
    Sess d' ∧ n = countFreeV (tabView d.fs d.img) d.fs.totalClusters ∧ d'.img = d.img ∧
    FsGeomEq d.fs d'.fs ∧ d'.fs.curDirty = d.fs.curDirty ∧ d'.fs.fsInfo.free = some n ∧
    d'.fs.fsInfo.next = d.fs.fsInfo.next := by
  obtain ⟨_, _, hn, himg, hfs, hfree, hnext, _, _, hfa⟩ := stats_img d hs.wf hs.geo hs.info.ok hr
  have hgeo : FsGeomEq d.fs d'.fs := by unfold FsGeomEq; rw [hfs]
  have hcd : d'.fs.curDirty = d.fs.curDirty := by rw [hfs]
  refine ⟨⟨hfa hs.nofault, by rw [himg]; exact hs.wf, by rw [himg]; exact hs.geo.frame hgeo, ⟨⟨?_, ?_⟩, ?_⟩⟩,
    hn, himg, hgeo, hcd, hfree, hnext⟩
  · intro x hx; rw [hnext] at hx; exact hs.info.ok.hint x hx
  · intro x hx
    rw [hfree] at hx
    cases hx
    rw [himg, hgeo.tabView, hgeo.totalClusters]; exact hn
  · intro x hx; rw [hnext] at hx; rw [hgeo.totalClusters]; exact hs.info.hintLe x hx

end FatVerif.FsInfoImg
