import FatVerif.Proofs.FileSimDefs
import FatVerif.Proofs.FileSimEditor
/-!
# FileSim / read: `File::read` simulates the cursor machine's `read`
-/
namespace FatVerif.FileSim
open FatVerif FatVerif.Fat

/-! ### cluster offsets -/

/-- the cluster `c` of the table lies inside the device -/
theorem Geo.cluster_dev {fs : FsState} {sz : Nat} (g : Geo fs sz) {c : Nat} (h2 : 2 ≤ c) (hc : c < fs.totalClusters + 2) :
    clusterOff fs c + fs.clusterSize ≤ sz := by
  rw [← clusterOff_succ fs c h2]
  exact Nat.le_trans (clusterOff_mono fs (by omega)) g.data_dev

theorem Geo.cs_pos {fs : FsState} {sz : Nat} (g : Geo fs sz) : 0 < fs.clusterSize :=
  Nat.mul_pos g.bps_pos g.spc_pos

/-- `offset_from_cluster` of a cluster of the table: no overflow, the byte offset of the cluster -/
theorem run_offsetFromClusterP {fs : FsState} {sz : Nat} (g : Geo fs sz) (c : Nat) (h2 : 2 ≤ c)
    (hc : c < fs.totalClusters + 2) (d : Dev) :
    run (offsetFromClusterP fs c) d = (.ok (clusterOff fs c), d) := by
  have hle : (c - 2) * fs.spc ≤ fs.totalClusters * fs.spc := Nat.mul_le_mul_right _ (by omega)
  have h1 := g.u32a
  have h3 := g.u32b
  unfold offsetFromClusterP
  rw [if_neg (by omega), if_neg (by omega), if_neg (by omega)]
  rfl

/-! ### editor updates do not change the recorded size -/

theorem size?_setAccessed (e : DirEntryEditor) (x : Date) : (e.setAccessed x).data.size? = e.data.size? := by
  unfold DirEntryEditor.setAccessed
  split <;> rfl

/-! ### the cluster of the cursor -/

section
variable {fs : FsState} {img : Img} {f : FileH}

/-- the recorded size of a represented handle: the machine's size, with the cursor inside and below `u32::MAX` -/
theorem FileRep.size_facts (h : FileRep fs img f) :
    ∃ sz, f.size? = some sz ∧ (absFile fs img f).size = sz ∧ f.offset ≤ sz ∧ sz ≤ 4294967295 := by
  obtain ⟨sz, hsz⟩ := h.file
  have hasz : (absFile fs img f).size = sz := by simp [absFile, hsz]
  exact ⟨sz, hsz, hasz, hasz ▸ h.inv.off_le, hasz ▸ h.inv.size_le⟩

theorem fileChain_first_of_mem {c : Nat} (hc : c ∈ fileChain fs img f) :
    ∃ c0, f.firstCluster = some c0 := by
  unfold fileChain at hc
  cases hf : f.firstCluster with
  | none => rw [hf] at hc; simp at hc
  | some c0 => exact ⟨c0, rfl⟩

/-- the handle's current cluster is the cluster of the byte before the cursor, a member of the chain -/
theorem FileRep.cur_mem (h : FileRep fs img f) {c : Nat} (hc : f.currentCluster = some c) :
    f.offset ≠ 0 ∧ (fileChain fs img f)[(f.offset - 1) / fs.clusterSize]? = some c ∧ c ∈ fileChain fs img f := by
  have hcur : f.currentCluster = if f.offset = 0 then none
      else (fileChain fs img f)[(f.offset - 1) / fs.clusterSize]? := h.inv.cur
  rw [hc] at hcur
  by_cases h0 : f.offset = 0
  · rw [if_pos h0] at hcur; cases hcur
  · rw [if_neg h0] at hcur; exact ⟨h0, hcur.symm, List.mem_of_getElem? hcur.symm⟩

/-- the machine's successor in the chain is the FAT link -/
theorem FileRep.nextOf_eq (h : FileRep fs img f) {i c : Nat} (hi : (fileChain fs img f)[i]? = some c) :
    Cursor.nextOf (fileChain fs img f) c = nextV (tabView fs img) c := by
  obtain ⟨c0, hc0⟩ := fileChain_first_of_mem (List.mem_of_getElem? hi)
  have hnd : (fileChain fs img f).Nodup := h.inv.nodup
  rw [Cursor.nextOf_of_getElem? _ i c hnd hi, chain_nextV_getElem? (h.chain c0 hc0) i c hi]

end

/-- the cluster `File::read`/`File::write` select: the machine's `readCluster` -/
theorem run_curOpt (f : FileH) (d : Dev) (hfa : d.failAt = none) (hg : Geo d.fs d.img.size)
    (hrep : FileRep d.fs d.img f) :
    ∃ d1, run (if f.offset % d.fs.clusterSize = 0 then f.boundaryCluster else pure f.currentCluster) d =
      (.ok (absFile d.fs d.img f).readCluster, d1) ∧ SameStore d d1 := by
  unfold Cursor.AFile.readCluster
  show ∃ d1, _ = (Except.ok (if f.offset % d.fs.clusterSize = 0 then (absFile d.fs d.img f).boundaryCluster
    else f.currentCluster), d1) ∧ _
  by_cases hm : f.offset % d.fs.clusterSize = 0
  · rw [if_pos hm, if_pos hm]
    unfold FileH.boundaryCluster Cursor.AFile.boundaryCluster
    show ∃ d1, _ = (Except.ok (match f.currentCluster with
      | none => f.firstCluster
      | some c => Cursor.nextOf (fileChain d.fs d.img f) c), d1) ∧ _
    cases hcur : f.currentCluster with
    | none => exact ⟨d, rfl, SameStore.refl d⟩
    | some c =>
      simp only
      obtain ⟨_, hci, hmem⟩ := hrep.cur_mem hcur
      obtain ⟨d1, h1, hs1⟩ := run_nextCluster c d hfa hg (hrep.inTab c hmem).2
      exact ⟨d1, by rw [hrep.nextOf_eq hci]; exact h1, hs1⟩
  · rw [if_neg hm, if_neg hm]
    exact ⟨d, rfl, SameStore.refl d⟩

/-- **`read_sim`.**  On a fault-free device with the layout `Geo`, for a handle represented in the image
    (`FileRep`): ONE `File::read` call succeeds; the bytes it returns and the new handle are exactly the cursor
    machine's `read` step on `absFile`; the device keeps its image, log and mounted state (`SameStore`); the new handle
    is represented again.  With `accDate` on, only the accessed date of the handle's editor differs. -/
theorem read_sim (f : FileH) (n : Nat) (d : Dev) (hfa : d.failAt = none) (hg : Geo d.fs d.img.size)
    (hrep : FileRep d.fs d.img f) :
    ∃ bs f' d', run (f.read n) d = (.ok (bs, f'), d') ∧ SameStore d d' ∧
      ((absFile d.fs d.img f).read n).1 = .ok bs ∧
      absFile d.fs d.img f' = ((absFile d.fs d.img f).read n).2 ∧
      FileRep d.fs d.img f' ∧ EdStep d.fs.fatType f f' := by
  obtain ⟨sz, hsz, hasz, hoff, _⟩ := hrep.size_facts
  obtain ⟨d1, h1, hs1⟩ := run_curOpt f d hfa hg hrep
  have hinv := hrep.inv
  have hrl : (absFile d.fs d.img f).readLen n =
      min (min n (d.fs.clusterSize - f.offset % d.fs.clusterSize)) (sz - f.offset) := by
    unfold Cursor.AFile.readLen; rw [hasz]; rfl
  unfold FileH.read
  rw [run_bind_ok (run_getFs d)]
  simp only
  rw [run_bind_ok h1]
  unfold Cursor.AFile.read
  cases hrc : (absFile d.fs d.img f).readCluster with
  | none =>
    exact ⟨[], f, d1, rfl, hs1, rfl, rfl, hrep, EdStep.refl _ f⟩
  | some cur =>
    have hci : (fileChain d.fs d.img f)[f.offset / d.fs.clusterSize]? = some cur := by
      have := hinv.readCluster_eq; rw [hrc] at this; exact this.symm
    have hmem : cur ∈ fileChain d.fs d.img f := List.mem_of_getElem? hci
    obtain ⟨hc2, hct⟩ := hrep.inTab cur hmem
    have hnp : ¬ (absFile d.fs d.img f).size < (absFile d.fs d.img f).offset := by
      rw [hasz]; show ¬ sz < f.offset; omega
    simp only [hsz, if_neg (show ¬ sz < f.offset by omega), hnp, if_false]
    rw [hrl]
    by_cases hk : min (min n (d.fs.clusterSize - f.offset % d.fs.clusterSize)) (sz - f.offset) = 0
    · rw [if_pos hk, if_pos hk]
      exact ⟨[], f, d1, rfl, hs1, rfl, rfl, hrep, EdStep.refl _ f⟩
    · rw [if_neg hk, if_neg hk]
      generalize hkk : min (min n (d.fs.clusterSize - f.offset % d.fs.clusterSize)) (sz - f.offset) = k at hk
      have hfa1 : d1.failAt = none := by rw [hs1.failAt]; exact hfa
      rw [run_bind_ok (run_offsetFromClusterP hg cur hc2 hct d1)]
      rw [run_bind_ok (run_seekStart _ d1 hfa1)]
      have hcsp := hg.cs_pos
      have hmod : f.offset % d.fs.clusterSize < d.fs.clusterSize := Nat.mod_lt _ hcsp
      have hdev := hg.cluster_dev hc2 hct
      have hmin : min k ((d1.didSeek (clusterOff d.fs cur + f.offset % d.fs.clusterSize)).img.size -
          (d1.didSeek (clusterOff d.fs cur + f.offset % d.fs.clusterSize)).pos) = k := by
        simp only [didSeek_img, didSeek_pos, hs1.img]; omega
      rw [run_bind_ok (run_read k _ (by simpa using hfa1)), hmin]
      simp only [Img.read_length, if_neg hk, didSeek_img, didSeek_pos, hs1.img]
      have hbytes : d.img.read (clusterOff d.fs cur + f.offset % d.fs.clusterSize) k =
          (absFile d.fs d.img f).clusterBytes cur ((absFile d.fs d.img f).offset % (absFile d.fs d.img f).cs) k := by
        unfold Img.read Cursor.AFile.clusterBytes
        apply List.map_congr_left
        intro j _
        show d.img.getByte _ = d.img.getByte _
        rw [Nat.add_assoc]; rfl
      have hstore : SameStore d ((d1.didSeek (clusterOff d.fs cur + f.offset % d.fs.clusterSize)).didRead k) :=
        hs1.trans ((sameStore_didSeek _ _).trans (sameStore_didRead _ _))
      -- the represented state after the step
      have hpost := (hinv.read_post n).2
      unfold Cursor.AFile.read at hpost
      rw [hrc] at hpost
      simp only [hnp, if_false, hrl, hkk, if_neg hk] at hpost
      obtain ⟨e, he⟩ : ∃ e, f.entry = some e := by
        unfold FileH.size? at hsz
        cases hfe : f.entry with
        | none => rw [hfe] at hsz; cases hsz
        | some e => exact ⟨e, rfl⟩
      have hrepOf : ∀ e' : DirEntryEditor, e'.data.size? = e.data.size? →
          absFile d.fs d.img { f with offset := f.offset + k, currentCluster := some cur, entry := some e' } =
            { absFile d.fs d.img f with offset := f.offset + k, current := some cur } ∧
          FileRep d.fs d.img { f with offset := f.offset + k, currentCluster := some cur, entry := some e' } := by
        intro e' he'
        have hsz' : ({ f with offset := f.offset + k, currentCluster := some cur, entry := some e' } : FileH).size? =
            f.size? := by
          unfold FileH.size?; rw [he]; exact he'
        have hab : absFile d.fs d.img { f with offset := f.offset + k, currentCluster := some cur, entry := some e' } =
            { absFile d.fs d.img f with offset := f.offset + k, current := some cur } := by
          unfold absFile; rw [hsz']; rfl
        refine ⟨hab, ⟨⟨sz, hsz'.trans hsz⟩, by rw [hab]; exact hpost, hrep.chain, hrep.inTab, hrep.last_eoc⟩⟩
      rw [he]
      simp only
      by_cases hacc : d.fs.accDate = true
      · rw [if_pos hacc]
        have ht : ∀ dd : Dev, run Prog.today dd = (.ok dd.clock, dd) := fun _ => rfl
        rw [run_bind_ok (ht _)]
        obtain ⟨hab, hr⟩ := hrepOf (e.setAccessed (clockDate
          ((d1.didSeek (clusterOff d.fs cur + f.offset % d.fs.clusterSize)).didRead k).clock)) (size?_setAccessed _ _)
        exact ⟨_, _, _, rfl, hstore, by rw [hbytes], hab, hr, ⟨fun e0 h0 => by
          rw [he] at h0; cases h0
          exact ⟨_, rfl, EdRel.setAccessed e _, fun hw _ => wf_setAccessed_clock hw _,
            fun h1 _ => by rw [first_setAccessed]; exact h1⟩⟩⟩
      · rw [if_neg hacc]
        obtain ⟨hab, hr⟩ := hrepOf e rfl
        exact ⟨_, _, _, rfl, hstore, by rw [hbytes], hab, hr, EdStep.of_entry_eq he.symm rfl⟩

end FatVerif.FileSim
