import FatVerif.Proofs.SafeFs
/-! Frame fact: no program of the model other than `mount` changes the immutable part of the mounted state
    (`SameGeom`: everything except the FS-info cache and the current status flags — in particular `statusRaw`,
    `bpbDirty`, `bpbIoErr`, `fatType`); no hypothesis on device, handles or geometry. For the functions that are `IoSafe`
    this is the second half of `Safe` (Proofs/SafeIo, SafeFile, SafeDir, SafeFs); here are the name `Geo` and the few functions that
    catch an error into a value (`Prog.attempt`) and are therefore not `IoSafe`. -/
namespace FatVerif

/-- every run of `p` keeps the geometry of the mounted state -/
def Geo {α} (p : Prog α) : Prop := Steps GeoRel p

theorem Geo.pure {α} (a : α) : Geo (Prog.pure a) := Steps.pure geoRel_ok a
theorem Geo.fail {α} (e : Err) : Geo (Prog.fail (α := α) e) := Steps.fail geoRel_ok e
theorem Geo.bind {α β} (p : Prog β) (k : β → Prog α) (hp : Geo p) (hk : ∀ b, Geo (k b)) : Geo (Prog.bind p k) :=
  Steps.bind geoRel_ok hp hk
theorem Geo.tryCatch {α} (p : Prog α) (h : Err → Prog α) (hp : Geo p) (hh : ∀ e, Geo (h e)) :
    Geo (Prog.tryCatch p h) := Steps.tryCatch geoRel_ok hp hh
theorem Geo.finallyDrop {α} (p : Prog α) (c : Option α → Prog Unit) (hp : Geo p) (hc : ∀ o, Geo (c o)) :
    Geo (Prog.finallyDrop p c) := Steps.finallyDrop geoRel_ok hp hc

theorem Safe.toGeo {α} {p : Prog α} (h : Safe p) : Geo p := h.geo
theorem Dtor.toGeo {c : Prog Unit} (h : Dtor c) : Geo c := h.geo

/-- a stream whose methods keep the geometry -/
structure StrmGeo {σ} (S : Strm σ) : Prop where
  read : ∀ s n, Geo (S.read s n)
  write : ∀ s bs, Geo (S.write s bs)
  seek : ∀ s p, Geo (S.seek s p)

theorem FileH.strm_geoS : StrmGeo FileH.strm :=
  ⟨fun f n => (FileH.read_safe f n).geo, fun f bs => (FileH.write_safe f bs).geo, fun f p => (FileH.seek_safe f p).geo⟩

theorem DiskSlice.flush_geo (s : DiskSlice) : Geo s.flush := geoRel_op _ (fun _ h => nomatch h)

theorem readBootSector_geo : Geo readBootSector := readBootSector_safe.geo

theorem readFsInfoSector_geo : Geo readFsInfoSector := readFsInfoSector_safe.geo

/-- one step of descent for `Geo` goals: calls are closed by the listed `Geo` or `Safe` lemmas -/
syntax "geo_step" ("[" Lean.Parser.Tactic.SolveByElim.arg,* "]")? : tactic
macro_rules
  | `(tactic| geo_step) => `(tactic| geo_step [])
  | `(tactic| geo_step [$ts,*]) => `(tactic| first
    | with_reducible_and_instances exact Geo.pure _
    | with_reducible_and_instances exact Geo.fail _
    | intro _
    | apply_assumption (transparency := .reducible) (exfalso := false) (symm := false) only [*, $ts,*]
    | focus ((with_reducible refine Safe.toGeo ?_);
             first
             | with_reducible exact Safe.progGetFs
             | with_reducible exact Safe.progSeekStart _
             | apply_assumption (transparency := .reducible) (exfalso := false) (symm := false) only [*, $ts,*])
    | focus ((with_reducible refine Dtor.toGeo ?_);
             apply_assumption (transparency := .reducible) (exfalso := false) (symm := false) only [*, $ts,*])
    | with_reducible_and_instances apply Geo.bind
    | with_reducible_and_instances apply Geo.tryCatch
    | with_reducible_and_instances apply Geo.finallyDrop
    | dsimp only
    | split)

syntax "geo" ("[" Lean.Parser.Tactic.SolveByElim.arg,* "]")? : tactic
macro_rules
  | `(tactic| geo) => `(tactic| repeat geo_step [])
  | `(tactic| geo [$ts,*]) => `(tactic| repeat geo_step [$ts,*])

theorem thenDrop_geo {α} (st : DirStream) {body : Prog α} (hb : Geo body) : Geo (thenDrop st body) :=
  Geo.finallyDrop _ _ hb (fun _ => (DirStream.dropBody_dtor st).geo)

theorem writeSlot_geo (st : DirStream) (e : DirEntryData) : Geo (writeSlot st e) := (writeSlot_safe st e).geo

theorem writeSlotsKeep_geo : ∀ slots st, Geo (writeSlotsKeep slots st) := by
  intro slots
  induction slots with
  | nil => intros; unfold writeSlotsKeep; geo
  | cons e rest ih => intros; unfold writeSlotsKeep Prog.attempt; geo [writeSlot_safe]

theorem writeEntry_geo (d : DirStream) (name : String) (raw : DirFileEntryData) : Geo (writeEntry d name raw) := by
  unfold writeEntry
  geo [findFreeEntries_safe, DirStream.seek_safe, DirStream.dropBody_dtor, writeSlotsKeep_geo, thenDrop_geo,
    freeWrittenEntries_safe, DirStream.absPos_safe]

theorem createFile_geo (env) : ∀ fuel d path, Geo (createFile env fuel d path) := by
  intro fuel
  induction fuel with
  | zero => intros; unfold createFile; geo
  | succ k ih =>
    intros; unfold createFile
    geo [findEntry_safe, DirEntry.toDir_safe, DirEntry.toFile_safe, thenDrop_geo, checkForExistence_safe,
      createSfnEntry_safe, writeEntry_geo]

theorem createDir_geo (env) : ∀ fuel d path, Geo (createDir env fuel d path) := by
  intro fuel
  induction fuel with
  | zero => intros; unfold createDir; geo
  | succ k ih =>
    intros; unfold createDir Prog.attempt
    geo [findEntry_safe, DirEntry.toDir_safe, thenDrop_geo, checkForExistence_safe, liftE_safe, allocClusterFs_safe,
      createSfnEntry_safe, writeEntry_geo, freeClusterChain_safe, DirStream.dropBody_dtor]

theorem renameInternal_geo (env d srcName dst dstName) : Geo (renameInternal env d srcName dst dstName) := by
  unfold renameInternal
  split
  · exact Geo.fail _
  refine Geo.bind _ _ Safe.progGetFs.geo (fun fs => Geo.bind _ _ (findEntry_safe _ _ _ _).geo (fun e => ?_))
  refine Geo.bind _ _ (liftE_safe _).geo (fun _ => ?_)
  extract_lets _ rest
  have hrest : ∀ u, Geo (rest u) := by
    intro u
    geo [checkForExistence_safe, deleteEntry_safe, DirEntry.toDir_safe, thenDrop_geo, findEntry_safe, writeChunks_safe,
      devStrm_ok, writeEntry_geo]
  split
  · exact Geo.bind _ _ (ancestorWalkTop_safe _ _ _).geo hrest
  · exact hrest ()

theorem rename_geo (env) : ∀ fuel d srcPath dst dstPath, Geo (rename env fuel d srcPath dst dstPath) := by
  intro fuel
  induction fuel with
  | zero => intros; unfold rename; geo
  | succ k ih =>
    intros; unfold rename
    geo [findEntry_safe, DirEntry.toDir_safe, thenDrop_geo, renameInternal_geo]

end FatVerif
