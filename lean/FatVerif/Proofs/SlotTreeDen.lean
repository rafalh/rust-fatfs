import FatVerif.Props.C01sim
import FatVerif.Proofs.SlotTreeNames
import FatVerif.Proofs.SlotTreeHang
/-!
# Slot trees on a device image: `ImgTree`, `Den`, and one path component

`ImgTree d up t cl` — "the slot tree `t` is what the image of `d` holds":

* `cl : List String → Option Nat` gives the first cluster of the directory at a canonical path (`none`: the root, whose
  stream is `rootDirStream` — the fixed region of FAT12/16 or the chain of `root_cluster` on FAT32);
* for every directory node `.dir slots ch` of `t` (at the canonical path `cur`) and every stream that denotes it
  (`StreamFor`: the root stream, or `to_dir` of ANY directory entry with that first cluster — the entry in the parent,
  the `.` entry of the directory itself, the `..` entry of a child), the directory is readable (`DirSim.DirView`: the
  side conditions `RootReadable` / `ChainReadable` of the read simulation) and the entries the reader finds in the
  image are: the two dot entries (none in the root) followed by exactly the listed entries of `slots` (slot indices
  shifted by the dot slots); `.` carries the directory's own cluster, `..` the parent's, and the entry of a child
  directory carries the child's cluster.

`step_img`: one path component (`find_entry(name, Some(kind))` on the image, `DirView.lookup`) against the slot
tree's `stepCompS` — found / wrong kind (`InvalidInput`) / `NotFound`, dot components through the dot entries on the
image and through the tree structure in the model.  Needs of the case folding only that nothing but `.`/`..` folds
like `.`/`..` (`DotSafe`).

The modules Proofs/SlotTreeDen* all work in the namespace `SlotTreeImg`.
-/
namespace FatVerif
namespace SlotTreeImg
open Lfn DirSlots DirAlias SlotTree DirSim

/-- only `.` and `..` fold like `.` and `..` -/
structure DotSafe (up : Char → List Char) : Prop where
  dot : ∀ a : List Char, Names.fold up a = Names.fold up ['.'] → a = ['.']
  dotdot : ∀ a : List Char, Names.fold up a = Names.fold up ['.', '.'] → a = ['.', '.']

theorem UpperSafe.dotSafe {up : Char → List Char} (h : UpperSafe up) : DotSafe up := ⟨h.dot, h.dotdot⟩

def dotRaw : List Nat := 46 :: List.replicate 10 32
def dotDotRaw : List Nat := 46 :: 46 :: List.replicate 9 32

/-- a listed entry moved by `k` slots (the dot slots in front of a subdirectory's entries) -/
def shiftE (k : Nat) (e : LfnEntry) : LfnEntry := { e with beginIdx := e.beginIdx + k, endIdx := e.endIdx + k }

theorem matches_shift (up : Char → List Char) (k : Nat) (e : LfnEntry) (q : List Char) :
    matchesName up (shiftE k e) q = matchesName up e q := rfl

/-- a short-only entry with raw name `raw` answers exactly to the names that fold like the display form of `raw` -/
theorem matches_short (up : Char → List Char) (e : LfnEntry) (hu : e.units = []) (q : List Char) :
    matchesName up e q = (Names.fold up (Names.aliasDisplay (sfnName e.sfn)) == Names.fold up q) := by
  unfold matchesName Names.eqName Names.eqNameLfn Names.eqIgnoreCase
  rw [hu]; simp

theorem isDotName_eq (name : String) : (name = "." || name = "..") = isDotName name := rfl

theorem display_dot : Names.aliasDisplay dotRaw = ['.'] := by decide
theorem display_dotdot : Names.aliasDisplay dotDotRaw = ['.', '.'] := by decide

/-- an entry of a dot name answers to no other name -/
theorem dot_nomatch {up : Char → List Char} (hup : DotSafe up) (e : LfnEntry) (hu : e.units = [])
    (hr : sfnName e.sfn = dotRaw ∨ sfnName e.sfn = dotDotRaw) (q : List Char) (hq : q ≠ ['.'] ∧ q ≠ ['.', '.']) :
    matchesName up e q = false := by
  rw [matches_short up e hu q, Bool.eq_false_iff]
  intro h
  rcases hr with hr | hr <;> rw [hr] at h
  · exact hq.1 (hup.dot q (by rw [display_dot] at h; exact (eq_of_beq h).symm))
  · exact hq.2 (hup.dotdot q (by rw [display_dotdot] at h; exact (eq_of_beq h).symm))

theorem FailsV.thenDrop {α} {st : DirStream} {body : Prog α} {d : Dev} {e : Err} (h : FailsV body d e)
    (hne : e ≠ .hang) (hd : ∀ d1, SameVol d d1 → Reads st.dropBody d1 ()) : FailsV (thenDrop st body) d e := by
  obtain ⟨d1, hr, hs⟩ := h
  have hs1 : SameVol d { d1 with dropDepth := d1.dropDepth + 1 } := ⟨hs.img, hs.fs, hs.failAt, hs.writesOf⟩
  obtain ⟨d2, hr2, hs2⟩ := hd _ hs1
  refine ⟨{ d2 with dropDepth := d2.dropDepth - 1 }, ?_, ?_⟩
  · unfold FatVerif.thenDrop
    simp only [run, hr, hne, if_false, hr2]
  · have := hs1.trans hs2
    exact ⟨this.img, this.fs, this.failAt, this.writesOf⟩

/-- the lookup with kind filter, in terms of the first entry answering to the name -/
theorem lookupL_find (up : Char → List Char) (q : List Char) (k : Bool) :
    ∀ (l : List LfnEntry), lookupL up q (some k) l =
      match l.find? (fun e => matchesName up e q) with
      | none => .error .notFound
      | some e => if Lfn.isDir e.sfn = k then .ok e else .error .invalidInput
  | [] => rfl
  | x :: l => by
    simp only [lookupL, List.find?_cons]
    cases hm : matchesName up x q with
    | true =>
      simp only [if_true, Option.isSome_some, Bool.true_and]
      by_cases hk : Lfn.isDir x.sfn = k
      · simp [hk]
      · simp [hk]
    | false =>
      simp only [Bool.false_eq_true, if_false]
      exact lookupL_find up q k l

/-! ## the hypothesis bundle -/

/-- the streams that denote the directory whose first cluster is `c` (`none`: the root) -/
def StreamFor (fs : FsState) (c : Option Nat) (st : DirStream) : Prop :=
  (c = none ∧ st = rootDirStream fs) ∨
  ∃ e : DirEntry, e.isDir = true ∧ e.firstCluster fs = c ∧ st = DirEntry.dirStream fs e

/-- the two dot entries of the subdirectory at `cur`, as the reader finds them -/
structure DotsOk (fs : FsState) (src : Nat → Nat) (cl : List String → Option Nat) (cur : List String)
    (e1 e2 : LfnEntry) : Prop where
  units1 : e1.units = []
  raw1 : sfnName e1.sfn = dotRaw
  dir1 : Lfn.isDir e1.sfn = true
  own : (toDirEntryS src e1).firstCluster fs = cl cur
  units2 : e2.units = []
  raw2 : sfnName e2.sfn = dotDotRaw
  dir2 : Lfn.isDir e2.sfn = true
  parent : (toDirEntryS src e2).firstCluster fs = cl cur.dropLast

/-- the directory node `.dir slots ch` at the canonical path `cur`, read through the stream `st` -/
structure DirImgV (d : Dev) (cl : List String → Option Nat) (cur : List String) (slots : List (List Nat))
    (ch : List (LfnEntry × Node)) {st : DirStream} (V : DirView d st) (dots : List LfnEntry) (k : Nat) : Prop where
  entries : V.lfnEntries = dots ++ (listing slots).map (shiftE k)
  rootDots : cur = [] → dots = []
  subDots : cur ≠ [] → ∃ e1 e2, dots = [e1, e2] ∧ DotsOk d.fs V.src cl cur e1 e2
  child : ∀ x ∈ ch, x.2.isDir = true →
    (toDirEntryS V.src (shiftE k x.1)).firstCluster d.fs = cl (cur ++ [entryName x.1])

def DirImg (d : Dev) (cl : List String → Option Nat) (cur : List String) (slots : List (List Nat))
    (ch : List (LfnEntry × Node)) (st : DirStream) : Prop :=
  ∃ (V : DirView d st) (dots : List LfnEntry) (k : Nat), DirImgV d cl cur slots ch V dots k

/-- **the slot tree `t` is what the image of `d` holds** (see the header) -/
structure ImgTree (d : Dev) (up : Char → List Char) (t : Node) (cl : List String → Option Nat) : Prop where
  root : cl [] = none
  dirs : ∀ cur slots ch, getAtS up t cur = some (.dir slots ch) → ∀ st, StreamFor d.fs (cl cur) st →
    DirImg d cl cur slots ch st

/-- the stream `st` denotes the directory of `t` at the canonical path `cur` -/
def Den (d : Dev) (up : Char → List Char) (t : Node) (cl : List String → Option Nat) (cur : List String)
    (st : DirStream) : Prop :=
  (∃ slots ch, getAtS up t cur = some (.dir slots ch)) ∧ StreamFor d.fs (cl cur) st

theorem den_root {d : Dev} {up : Char → List Char} {t : Node} {cl : List String → Option Nat}
    (I : ImgTree d up t cl) (s : List (List Nat)) (c : List (LfnEntry × Node)) (ht : t = .dir s c) :
    Den d up t cl [] (rootDirStream d.fs) :=
  ⟨⟨s, c, by rw [ht]; rfl⟩, Or.inl ⟨I.root, rfl⟩⟩

theorem den_view {d : Dev} {up : Char → List Char} {t : Node} {cl : List String → Option Nat}
    (I : ImgTree d up t cl) {cur : List String} {st : DirStream} (h : Den d up t cl cur st) :
    Nonempty (DirView d st) := by
  obtain ⟨⟨s, c, hg⟩, hs⟩ := h
  obtain ⟨V, _, _, _⟩ := I.dirs cur s c hg st hs
  exact ⟨V⟩

section
variable {up : Char → List Char} {t : Node}

theorem den_is_dir (h : ∃ s c, getAtS up t ([] : List String) = some (.dir s c)) : ∃ s c, t = .dir s c := by
  obtain ⟨s, c, hg⟩ := h
  exact ⟨s, c, by simpa [getAtS] using hg⟩

end

/-- a directory of the tree lies below a directory root -/
theorem root_of_den {d : Dev} {up : Char → List Char} {t : Node} {cl : List String → Option Nat}
    {cur : List String} {st : DirStream} (h : Den d up t cl cur st) : ∃ s c, t = .dir s c := by
  obtain ⟨⟨s, c, hg⟩, _⟩ := h
  cases t with
  | dir s' c' => exact ⟨s', c', rfl⟩
  | file b => exact absurd (getAtS_file b cur _ hg).2 (by simp)

/-! ## one component -/

theorem string_eq_of_toList {a b : String} (h : a.toList = b.toList) : a = b := by
  rw [← String.ofList_toList (s := a), ← String.ofList_toList (s := b), h]

section step
variable {d : Dev} {up : Char → List Char} {t : Node} {cl : List String → Option Nat}

/-- the result of one component on the image, for the slot tree's verdict `r` and the kind filter `k` -/
def StepRel (d : Dev) (up : Char → List Char) (t : Node) (cl : List String → Option Nat) (env : Env) {st : DirStream}
    (V : DirView d st) (name : String) (k : Bool) : Except Err (List String × Node) → Prop
  | .error e => e = .notFound ∧ V.lookup env name (some k) = .error .notFound
  | .ok (p, n) =>
    if n.isDir = k then
      ∃ de, V.lookup env name (some k) = .ok de ∧ de.isDir = k ∧ getAtS up t p = some n ∧
        (k = true → StreamFor d.fs (cl p) (DirEntry.dirStream d.fs de))
    else V.lookup env name (some k) = .error .invalidInput

/-- the first entry of the image that answers to `name` is `e`, and the model resolves the component to the node `n`
    at `p`, of the kind of `e`; if it is a directory, `e` carries its cluster -/
theorem stepRel_found {st : DirStream} {V : DirView d st} {env : Env} {name : String} (k : Bool) {e : LfnEntry}
    (hf : V.lfnEntries.find? (fun e => matchesName env.upper e name.toList) = some e) {p : List String} {n : Node}
    (hkind : n.isDir = Lfn.isDir e.sfn) (hg : getAtS up t p = some n)
    (hc : n.isDir = true → (toDirEntryS V.src e).firstCluster d.fs = cl p) :
    StepRel d up t cl env V name k (.ok (p, n)) := by
  have hlk : V.lookup env name (some k) =
      if Lfn.isDir e.sfn = k then .ok (toDirEntryS V.src e) else .error .invalidInput := by
    unfold DirView.lookup
    rw [lookupL_find, hf]
    dsimp only
    split <;> rfl
  have hdir : (toDirEntryS V.src e).isDir = Lfn.isDir e.sfn :=
    toDirEntryS_isDir V.src e
  unfold StepRel
  dsimp only
  rw [hkind, hlk]
  split
  · next hk =>
    exact ⟨_, rfl, hdir.trans hk, hg, fun hkt =>
      Or.inr ⟨_, hdir.trans (hk.trans hkt), hc (hkind.trans (hk.trans hkt)), rfl⟩⟩
  · rfl

theorem step_img (I : ImgTree d up t cl) (hwf : TreeWf up t) (hup : DotSafe up) (env : Env) (henv : env.upper = up)
    (cur : List String) (st : DirStream) (hden : Den d up t cl cur st) (name : String) (k : Bool) :
    ∃ V : DirView d st, StepRel d up t cl env V name k (stepCompS up t cur name) := by
  obtain ⟨⟨slots, ch, hg⟩, hs⟩ := hden
  obtain ⟨V, dots, kk, hI⟩ := I.dirs cur slots ch hg st hs
  refine ⟨V, ?_⟩
  subst henv
  have hd : DirOk env.upper slots ch := ((all_dir _ slots ch).1 (all_getAtS _ cur t _ hwf hg)).1
  -- a component that no dot entry answers to: the lookup among the listed entries
  have plain : (∀ e ∈ dots, matchesName env.upper e name.toList = false) →
      StepRel d env.upper t cl env V name k
        (match lookupS env.upper slots ch name with
          | some x => .ok (cur ++ [entryName x.1], x.2)
          | none => .error .notFound) := by
    intro hno
    have hfind : V.lfnEntries.find? (fun e => matchesName env.upper e name.toList) =
        (DirSlots.findEntry env.upper slots name.toList).map (shiftE kk) := by
      rw [hI.entries, List.find?_append, List.find?_eq_none.2 (fun e he => by rw [hno e he]; simp), List.find?_map]
      rfl
    cases hx : lookupS env.upper slots ch name with
    | none =>
      refine ⟨rfl, ?_⟩
      unfold DirView.lookup
      rw [lookupL_find, hfind, lookupS_none hd hx]
      rfl
    | some x =>
      obtain ⟨hfx, hxm, _, _⟩ := lookupS_some hd hx
      rw [hfx] at hfind
      refine stepRel_found k hfind (hd.kind x hxm).symm ?_ (hI.child x hxm)
      rw [getAtS_append, hg]
      simp only [Option.bind, getAtS, lookupS_self hd hxm]
  unfold stepCompS
  rw [hg]
  dsimp only
  by_cases hroot : cur = []
  · -- in the root: no dot entries, the name is looked up like any other
    subst hroot
    simp only [List.isEmpty_nil, Bool.not_true, Bool.and_false, Bool.false_eq_true, if_false]
    exact plain (by rw [hI.rootDots rfl]; intro e he; cases he)
  · have hce : cur.isEmpty = false := by simpa using hroot
    obtain ⟨e1, e2, hdots, hD⟩ := hI.subDots hroot
    have hm1 : ∀ q, matchesName env.upper e1 q = (Names.fold env.upper ['.'] == Names.fold env.upper q) := by
      intro q; rw [matches_short _ e1 hD.units1, hD.raw1, display_dot]
    have hm2 : ∀ q, matchesName env.upper e2 q = (Names.fold env.upper ['.', '.'] == Names.fold env.upper q) := by
      intro q; rw [matches_short _ e2 hD.units2, hD.raw2, display_dotdot]
    simp only [hce, Bool.not_false, Bool.and_true]
    by_cases h1 : name.toList = ['.']
    · -- `.`: the first dot entry, the directory itself
      have hf : V.lfnEntries.find? (fun e => matchesName env.upper e name.toList) = some e1 := by
        rw [hI.entries, hdots]; simp [hm1, h1]
      obtain rfl : name = "." := string_eq_of_toList h1
      simp only [BEq.rfl, if_true]
      exact stepRel_found k hf hD.dir1.symm hg (fun _ => hD.own)
    · have hnm1 : matchesName env.upper e1 name.toList = false := by
        rw [hm1, Bool.eq_false_iff]; exact fun hx => h1 (hup.dot _ (eq_of_beq hx).symm)
      have hb1 : (name == ".") = false := by
        rw [beq_eq_false_iff_ne]; intro h; exact h1 (by rw [h]; rfl)
      simp only [hb1, Bool.false_eq_true, if_false]
      by_cases h2 : name.toList = ['.', '.']
      · -- `..`: the second dot entry, the parent
        have hf : V.lfnEntries.find? (fun e => matchesName env.upper e name.toList) = some e2 := by
          rw [h2] at hnm1
          rw [hI.entries, hdots]; simp [hnm1, hm2, h2]
        obtain rfl : name = ".." := string_eq_of_toList h2
        simp only [BEq.rfl, if_true]
        obtain ⟨ps, pc, hp⟩ := getAtS_dropLast_dir t cur _ hroot hg
        rw [hp]
        exact stepRel_found k hf hD.dir2.symm hp (fun _ => hD.parent)
      · have hb2 : (name == "..") = false := by
          rw [beq_eq_false_iff_ne]; intro h; exact h2 (by rw [h]; rfl)
        simp only [hb2, Bool.false_eq_true, if_false]
        refine plain ?_
        rw [hdots]
        intro e he
        simp only [List.mem_cons, List.not_mem_nil, or_false] at he
        rcases he with rfl | rfl
        · exact hnm1
        · rw [hm2, Bool.eq_false_iff]; exact fun hx => h2 (hup.dotdot _ (eq_of_beq hx).symm)

end step

end SlotTreeImg
end FatVerif
