import FatVerif.Proofs.SlotTreeWalk
/-!
# Slot trees: the node-level updates (`addEntry`, `delEntry`) — well-formedness and abstraction;
the case analysis of `check_for_existence`
-/
namespace FatVerif
namespace SlotTree
open Lfn DirSlots DirAlias

/-! ## `check_for_existence`: the four outcomes -/

theorem check_cases (up : Char → List Char) (slots : List (List Nat)) (name : String) (isDir : Option Bool)
    (fuel : Nat) :
    checkForExistenceL up slots name isDir fuel = .error .hang ∨
    (∃ e, findEntry up slots name.toList = some e ∧ kindResult isDir (some e) = .ok e ∧
      checkForExistenceL up slots name isDir fuel = .ok (.entry e)) ∨
    (∃ e, findEntry up slots name.toList = some e ∧ kindResult isDir (some e) = .error .invalidInput ∧
      checkForExistenceL up slots name isDir fuel = .error .invalidInput) ∨
    (findEntry up slots name.toList = none ∧ ∃ a, checkForExistenceL up slots name isDir fuel = .ok (.alias a)) := by
  cases fuel with
  | zero =>
    left
    obtain ⟨g, hg, hc⟩ := check_notfound up slots name isDir 0
    rw [hc]; rfl
  | succ f =>
    cases hf : findEntry up slots name.toList with
    | some e0 =>
      have hc := check_found up slots name isDir f e0 hf
      cases hk : kindResult isDir (some e0) with
      | ok e1 =>
        have he : e1 = e0 := by
          unfold kindResult at hk
          cases isDir with
          | none => simp at hk; exact hk.symm
          | some d => by_cases hd : Lfn.isDir e0.sfn = d <;> simp [hd] at hk; exact hk.symm
        subst he
        rw [hk] at hc
        exact Or.inr (Or.inl ⟨e1, rfl, hk, hc⟩)
      | error x =>
        have hx : x = .invalidInput := by
          unfold kindResult at hk
          cases isDir with
          | none => simp at hk
          | some d => by_cases hd : Lfn.isDir e0.sfn = d <;> simp [hd] at hk; exact hk.symm
        subst hx
        rw [hk] at hc
        exact Or.inr (Or.inr (Or.inl ⟨e0, rfl, hk, hc⟩))
    | none =>
      obtain ⟨g, _, hc⟩ := check_notfound up slots name isDir (f + 1)
      rcases loop_none_cases up (listing slots) name.toList isDir hf (f + 1) g with ⟨a, ha⟩ | hh
      · exact Or.inr (Or.inr (Or.inr ⟨rfl, a, by rw [hc, ha]⟩))
      · exact Or.inl (by rw [hc, hh])

theorem kind_ok_iff (d : Bool) (e : LfnEntry) : kindResult (some d) (some e) = .ok e ↔ Lfn.isDir e.sfn = d := by
  unfold kindResult
  by_cases h : Lfn.isDir e.sfn = d <;> simp [h]

theorem kind_err_iff (d : Bool) (e : LfnEntry) :
    kindResult (some d) (some e) = .error .invalidInput ↔ Lfn.isDir e.sfn ≠ d := by
  unfold kindResult
  by_cases h : Lfn.isDir e.sfn = d <;> simp [h]

/-! ## the empty directory -/

theorem listing_nil : listing [] = [] := by
  unfold listing readDirEntries
  rfl

theorem dirWf_nil (up : Char → List Char) : DirWf up [] := by
  refine ⟨⟨[], [], by simp [flatten], by simp, by simp⟩, ?_, ?_⟩
  · rw [listing_nil]; simp
  · rw [listing_nil]; simp

theorem treeWf_fresh (up : Char → List Char) (b : Bool) : TreeWf up (freshNode b) := by
  unfold freshNode TreeWf
  cases b
  · simp [all_file]
  · simp only [if_true]
    rw [all_dir]
    exact ⟨⟨dirWf_nil up, by rw [listing_nil]; simp, by simp⟩, by simp⟩

theorem fresh_isDir (b : Bool) : (freshNode b).isDir = b := by
  cases b <;> rfl

theorem abs_fresh (b : Bool) :
    abs (freshNode b) = if b then Spec.TNode.emptyDir else Spec.TNode.file ByteArray.empty := by
  cases b
  · simp [freshNode, abs, bytesOf]; rfl
  · simp [freshNode, abs, absCh, Spec.TNode.emptyDir]

/-! ## `addEntry` -/

/-- the listed entry `write_entry` makes -/
def newEntry (slots : List (List Nat)) (units sfn : List Nat) : LfnEntry :=
  ⟨sfn, units, findFree slots (numParts units.length + 1),
    findFree slots (numParts units.length + 1) + (numParts units.length + 1)⟩

/-- in a directory of well-formed shape the child hangs on the entry `write_entry` makes -/
theorem addKey_eq {slots : List (List Nat)} (hs : Shape slots) (units sfn : List Nat)
    (hU : UnitsOk units) (hsfn : slotClass sfn = .file) :
    addKey slots units sfn = newEntry slots units sfn := by
  obtain ⟨L1, L2, _, e2, e3, _, _⟩ := writeEntry_insert true slots units sfn hs hU hsfn
  have l2 : listing (writeEntry slots units sfn) = L1 ++ newEntry slots units sfn :: L2 := e2
  unfold addKey
  rw [l2, List.find?_append]
  have hn : L1.find? (fun e =>
      e.endIdx == findFree slots (numParts units.length + 1) + (numParts units.length + 1)) = none := by
    rw [List.find?_eq_none]
    intro e he
    have := e3 e he
    simp only [beq_iff_eq]
    omega
  rw [hn]
  simp [newEntry]

theorem addEntry_dir {slots : List (List Nat)} (hs : Shape slots) (units sfn : List Nat) (child : Node)
    (ch : List (LfnEntry × Node))
    (hU : UnitsOk units) (hsfn : slotClass sfn = .file) :
    addEntry units sfn child (.dir slots ch) =
      .dir (writeEntry slots units sfn) (ch ++ [(newEntry slots units sfn, child)]) := by
  simp only [addEntry]
  rw [addKey_eq hs units sfn hU hsfn]

theorem addEntry_dirOk {up : Char → List Char} {slots : List (List Nat)} {ch : List (LfnEntry × Node)}
    (hd : DirOk up slots ch) (units sfn : List Nat) (child : Node)
    (hwf' : DirWf up (writeEntry slots units sfn))
    (hU : UnitsOk units) (hsfn : slotClass sfn = .file) (hkind : Lfn.isDir sfn = child.isDir) :
    DirOk up (writeEntry slots units sfn) (ch ++ [(newEntry slots units sfn, child)]) ∧
    (∀ e ∈ listing slots, e ∈ listing (writeEntry slots units sfn)) ∧
    newEntry slots units sfn ∈ listing (writeEntry slots units sfn) ∧
    newEntry slots units sfn ∉ listing slots := by
  obtain ⟨L1, L2, e1, e2, _, _, _⟩ := writeEntry_insert true slots units sfn hd.wf.shape hU hsfn
  have l1 : listing slots = L1 ++ L2 := e1
  have l2 : listing (writeEntry slots units sfn) = L1 ++ newEntry slots units sfn :: L2 := e2
  refine ⟨⟨hwf', ?_, ?_⟩, ?_, ?_, ?_⟩
  · rw [List.map_append, l2]
    simp only [List.map_cons, List.map_nil]
    have p1 : (ch.map (·.1) ++ [newEntry slots units sfn]).Perm (newEntry slots units sfn :: ch.map (·.1)) :=
      List.perm_append_singleton _ _
    have p2 : (newEntry slots units sfn :: ch.map (·.1)).Perm (newEntry slots units sfn :: (L1 ++ L2)) :=
      List.Perm.cons _ (l1 ▸ hd.perm)
    exact (p1.trans p2).trans List.perm_middle.symm
  · intro x hx
    rcases List.mem_append.1 hx with hx | hx
    · exact hd.kind x hx
    · simp only [List.mem_singleton] at hx
      rw [hx]; exact hkind
  · intro e he
    rw [l1] at he; rw [l2]
    rcases List.mem_append.1 he with h | h
    · simp [h]
    · simp [h]
  · rw [l2]; simp
  · have hn := listing_nodup _ hwf'.shape
    rw [l2] at hn
    rw [l1]
    intro hm
    have := (List.nodup_append.1 hn)
    obtain ⟨_, n2, n3⟩ := this
    rcases List.mem_append.1 hm with h | h
    · exact n3 _ h _ (by simp) rfl
    · exact (List.nodup_cons.1 n2).1 h

theorem abs_addEntry {slots : List (List Nat)} (hs : Shape slots) (units sfn : List Nat) (child : Node)
    (ch : List (LfnEntry × Node)) (name : String)
    (hU : UnitsOk units) (hsfn : slotClass sfn = .file)
    (hn : entryName (newEntry slots units sfn) = name) :
    abs (addEntry units sfn child (.dir slots ch)) = Spec.insertChild name (abs child) (abs (.dir slots ch)) := by
  rw [addEntry_dir hs units sfn child ch hU hsfn, abs_dir, abs_dir, Spec.insertChild, List.map_append]
  simp only [List.map_cons, List.map_nil]
  rw [hn]

/-! ## `delEntry` -/

theorem delEntry_dir (e : LfnEntry) (slots : List (List Nat)) (ch : List (LfnEntry × Node)) :
    delEntry e (.dir slots ch) = .dir (deleteRange slots e.beginIdx e.endIdx) (ch.filter fun x => !(x.1 == e)) := rfl

theorem delEntry_isDir (e : LfnEntry) (n : Node) : (delEntry e n).isDir = n.isDir := by
  cases n <;> rfl

theorem addEntry_isDir (units sfn : List Nat) (child n : Node) : (addEntry units sfn child n).isDir = n.isDir := by
  cases n <;> rfl

theorem delEntry_dirOk {up : Char → List Char} {slots : List (List Nat)} {ch : List (LfnEntry × Node)}
    (hd : DirOk up slots ch) (e : LfnEntry) (he : e ∈ listing slots) :
    DirOk up (deleteRange slots e.beginIdx e.endIdx) (ch.filter fun x => !(x.1 == e)) := by
  obtain ⟨L1, L2, e1, e2, _⟩ := deleteRange_remove true slots hd.wf.shape e he
  have l1 : listing slots = L1 ++ e :: L2 := e1
  have l2 : listing (deleteRange slots e.beginIdx e.endIdx) = L1 ++ L2 := e2
  refine ⟨deleteRange_wf up slots hd.wf e he, ?_, fun x hx => hd.kind x (List.mem_filter.1 hx).1⟩
  have hn := listing_nodup slots hd.wf.shape
  rw [l1] at hn
  obtain ⟨n1, n2, n3⟩ := List.nodup_append.1 hn
  have hf : (L1 ++ e :: L2).filter (fun y => !(y == e)) = L1 ++ L2 := by
    rw [List.filter_append, List.filter_cons]
    simp only [beq_self_eq_true, Bool.not_true, Bool.false_eq_true, if_false]
    rw [List.filter_eq_self.2, List.filter_eq_self.2]
    · intro a ha
      have : a ≠ e := fun h => (List.nodup_cons.1 n2).1 (h ▸ ha)
      simpa using this
    · intro a ha
      have : a ≠ e := fun h => n3 a ha e (by simp) h
      simpa using this
  have hm : (ch.filter fun x => !(x.1 == e)).map (·.1) = (ch.map (·.1)).filter (fun y => !(y == e)) := by
    rw [List.filter_map]; rfl
  rw [hm, l2, ← hf]
  exact (l1 ▸ hd.perm).filter _

theorem abs_delEntry (u : Char → List Char) {slots : List (List Nat)} {ch : List (LfnEntry × Node)}
    (hd : DirOk (upOf u) slots ch) (e : LfnEntry) (he : e ∈ listing slots) :
    abs (delEntry e (.dir slots ch)) = Spec.eraseChild (cfgOf u) (entryName e) (abs (.dir slots ch)) := by
  rw [delEntry_dir, abs_dir, abs_dir, Spec.eraseChild, List.filter_map]
  apply congrArg Spec.TNode.dir
  apply congrArg
  apply List.filter_congr
  intro x hx
  simp only [Function.comp]
  rw [same_eq]
  by_cases hk : x.1 = e
  · rw [hk]; simp [sameName_refl]
  · have hb : (x.1 == e) = false := by simpa using hk
    rw [hb]
    cases hs : sameName (upOf u) (entryName x.1) (entryName e) with
    | false => rfl
    | true =>
      rw [sameName_iff, entryName_toList, entryName_toList] at hs
      exact absurd (hd.name_hits_self he (hd.mem_listing hx) (matches_of_nameHit _ _ _ hs)) hk

end SlotTree
end FatVerif
