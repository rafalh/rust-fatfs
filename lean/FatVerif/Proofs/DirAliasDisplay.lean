import FatVerif.Proofs.DirAlias
/-! The shape of every alias `generate` returns (`Canon`) and its display form: explicit, ASCII. -/
namespace FatVerif
namespace DirAlias
open Lfn DirSlots

/-- the shape of every candidate `generate` returns (also for the empty name): two fields of legal bytes, padded -/
def Canon (x : List Nat) : Prop :=
  ∃ b e : List Nat, x = Names.padTo 8 b ++ Names.padTo 3 e ∧ b.length ≤ 8 ∧ e.length ≤ 3 ∧
    Names.AllLegal b ∧ Names.AllLegal e

theorem legal_ne_32 {l : List Nat} (h : Names.AllLegal l) : ∀ x ∈ l, x ≠ 32 :=
  fun x hx => (Names.legal_not_reserved x (h x hx)).2.2.2

theorem dropWhile_replicate_append (k : Nat) (l : List Nat) :
    (List.replicate k 32 ++ l).dropWhile (· == 32) = l.dropWhile (· == 32) := by
  induction k with
  | zero => simp
  | succ k ih => simp [List.replicate_succ, ih]

theorem dropWhile_reverse_legal {l : List Nat} (h : ∀ x ∈ l, x ≠ 32) : l.reverse.dropWhile (· == 32) = l.reverse := by
  cases hr : l.reverse with
  | nil => rfl
  | cons x xs =>
    have : x ∈ l := by
      have : x ∈ l.reverse := by rw [hr]; simp
      simpa using this
    rw [List.dropWhile_cons_of_neg (by simpa using h x this)]

theorem fieldLen_padTo (k : Nat) {l : List Nat} (h : ∀ x ∈ l, x ≠ 32) : Names.fieldLen (Names.padTo k l) = l.length := by
  unfold Names.fieldLen Names.padTo
  rw [List.reverse_append, List.reverse_replicate, dropWhile_replicate_append, dropWhile_reverse_legal h]
  simp

theorem shortDisplay_canon {b e : List Nat} (hb : b.length ≤ 8) (he : e.length ≤ 3)
    (lb : Names.AllLegal b) (le : Names.AllLegal e) :
    Names.shortDisplay (Names.padTo 8 b ++ Names.padTo 3 e) = b ++ (if e = [] then [] else 46 :: e) := by
  have l8 := Names.padTo_length hb
  have l3 := Names.padTo_length he
  unfold Names.shortDisplay
  have t8 : (Names.padTo 8 b ++ Names.padTo 3 e).take 8 = Names.padTo 8 b := List.take_left' l8
  have d8 : ((Names.padTo 8 b ++ Names.padTo 3 e).drop 8).take 3 = Names.padTo 3 e := by
    rw [List.drop_left' l8]; exact List.take_of_length_le (by omega)
  simp only [t8, d8, fieldLen_padTo 8 (legal_ne_32 lb), fieldLen_padTo 3 (legal_ne_32 le)]
  have tb : (Names.padTo 8 b ++ Names.padTo 3 e).take b.length = b := by
    rw [List.take_append_of_le_length (by omega)]
    unfold Names.padTo
    exact List.take_left' rfl
  have te : ((Names.padTo 8 b ++ Names.padTo 3 e).drop 8).take e.length = e := by
    rw [List.drop_left' l8]
    unfold Names.padTo
    exact List.take_left' rfl
  rw [tb, te]
  have hbody : ∀ t : List Nat, (∀ x ∈ t.head?, x ≠ 5) → Names.fixE5 t = t := by
    intro t ht
    cases t with
    | nil => rfl
    | cons x xs =>
      have : x ≠ 5 := ht x (by simp)
      unfold Names.fixE5
      split
      · rename_i h5; simp at h5; exact absurd h5.1 this
      · rfl
  cases e with
  | nil =>
    simp only [List.length_nil, Nat.lt_irrefl, if_false, if_true, List.append_nil]
    exact hbody b (fun x hx => by
      cases b with
      | nil => simp at hx
      | cons y ys =>
        simp at hx; subst hx
        exact (Names.legal_not_reserved _ (lb _ (by simp))).2.1)
  | cons z zs =>
    simp only [List.length_cons, Nat.zero_lt_succ, if_true, reduceCtorEq, if_false]
    apply hbody
    intro x hx
    cases b with
    | nil => simp at hx; omega
    | cons y ys =>
      simp at hx; subst hx
      exact (Names.legal_not_reserved _ (lb _ (by simp))).2.1

theorem legal_lt_128 : ∀ x ∈ Names.legalSfnBytes, x < 128 := by
  rw [Names.legalSfnBytes_eq]; decide

/-- the display bytes of a candidate are ASCII: `str::from_utf8` in `check_for_existence` never fails -/
theorem displayAscii_of_canon {x : List Nat} (h : Canon x) : displayAscii x = true := by
  obtain ⟨b, e, rfl, hb, he, lb, le⟩ := h
  unfold displayAscii
  rw [shortDisplay_canon hb he lb le, List.all_eq_true]
  intro y hy
  simp only [decide_eq_true_eq]
  rcases List.mem_append.1 hy with h1 | h2
  · exact legal_lt_128 y (lb y h1)
  · by_cases hee : e = []
    · simp [hee] at h2
    · simp only [hee, if_false, List.mem_cons] at h2
      rcases h2 with rfl | h2
      · omega
      · exact legal_lt_128 y (le y h2)

theorem canon_of_legal {a : List Nat} (h : Names.LegalAlias a) : Canon a := by
  obtain ⟨hl, ⟨k1, hk1, f1, f2⟩, ⟨k2, hk2, g1, g2⟩, _⟩ := h
  have l8 : (a.take 8).length = 8 := by simp; omega
  have l3 : (a.drop 8).length = 3 := by simp; omega
  refine ⟨(a.take 8).take k1, (a.drop 8).take k2, ?_, by simp; omega, by simp; omega, f1, g1⟩
  have e1 : Names.padTo 8 ((a.take 8).take k1) = a.take 8 := by
    unfold Names.padTo
    conv => rhs; rw [← List.take_append_drop k1 (a.take 8), f2]
    congr 2
    simp only [List.length_take]; omega
  have e2 : Names.padTo 3 ((a.drop 8).take k2) = a.drop 8 := by
    unfold Names.padTo
    conv => rhs; rw [← List.take_append_drop k2 (a.drop 8), g2]
    congr 2
    simp only [List.length_take, List.length_drop]; omega
  rw [e1, e2, List.take_append_drop]

/-- every candidate of a well-formed generator state has the canonical shape -/
theorem generate_canon {g : Names.Gen} (h : Names.GenWF g) {a : List Nat} (hg : Names.generate g = .ok a) :
    Canon a := by
  by_cases hx : a = g.shortName
  · obtain ⟨b, e, hs, hb, he, _, lb, le, _⟩ := h
    exact ⟨b, e, by rw [hx, hs], hb, he, lb, le⟩
  · exact canon_of_legal (Names.generate_legal_prefixed h hg hx)

end DirAlias
end FatVerif
