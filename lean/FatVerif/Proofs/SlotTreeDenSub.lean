import FatVerif.Proofs.SlotTreeDenCreate
/-!
# Slot trees on a device image: a sub-directory's slot list behind its two dot slots (groundwork)

The slot model of a sub-directory leaves the two dot slots out; on the image they are the first two slots of the
cluster chain (`SubSlots`).  The model's slot functions on `slots` agree with the same functions on `s1 :: s2 :: slots`
up to a shift by two, and `check_for_existence` of a name other than `.`/`..` is blind to the dot slots (`check_dots`:
their raw names leave the alias generator's state as it is, and under `DotSafe` they answer to no other name); so
`create_file` through the handle of a sub-directory ends as the slot model says on `slots`
(`C01img.create_file_subdir_slots_partial`).  What a tree step for a last directory below the root still needs is said
in the header of Props/C01img.lean.
-/
namespace FatVerif
namespace SlotTreeImg
open Lfn DirSlots DirAlias SlotTree DirSim FatVerif.FileSim FatVerif.Fat

/-! ## `write_entry`, the delete loop -/

theorem writeAt_cons (s : List Nat) (slots new : List (List Nat)) (p : Nat) :
    DirSlots.writeAt (s :: slots) (p + 1) new = s :: DirSlots.writeAt slots p new := by
  unfold DirSlots.writeAt
  have : p + 1 + new.length = (p + new.length) + 1 := by omega
  rw [this, List.take_succ_cons, List.drop_succ_cons]
  rfl

theorem writeEntry_cons_live (s : List Nat) (slots : List (List Nat)) (units sfn : List Nat) (h1 : isEnd s = false)
    (h2 : isDeleted s = false) :
    DirSlots.writeEntry (s :: slots) units sfn = s :: DirSlots.writeEntry slots units sfn := by
  unfold DirSlots.writeEntry
  rw [findFree_cons_live s slots _ h1 h2, writeAt_cons]

theorem deleteRange_cons (s : List Nat) (slots : List (List Nat)) (b e : Nat) :
    DirSlots.deleteRange (s :: slots) (b + 1) (e + 1) = s :: DirSlots.deleteRange slots b e := by
  rw [deleteRange_eq_mapIdx, deleteRange_eq_mapIdx, List.mapIdx_cons]
  simp

theorem shiftE_shiftE (j k : Nat) (e : LfnEntry) : shiftE k (shiftE j e) = shiftE (j + k) e := by
  unfold shiftE
  simp only [Nat.add_assoc]

theorem getD_ne_of_all {l : List Nat} {v dflt : Nat} (h : ∀ x ∈ l, x ≠ v) (hd : dflt ≠ v) (i : Nat) :
    l.getD i dflt ≠ v := by
  rw [List.getD_eq_getElem?_getD]
  cases hi : l[i]? with
  | none => exact hd
  | some x => exact h x (List.mem_of_getElem? hi)

/-- the exact form of a generator never starts with `.` -/
theorem shortName_head_ne_46 {g : Names.Gen} (hw : Names.GenWF g) : g.shortName.head? ≠ some 46 := by
  obtain ⟨b, e, hs, hb, _, _, lb, _, _⟩ := hw
  rw [hs]
  cases b with
  | nil => simp [Names.padTo]
  | cons x r =>
    simp only [Names.padTo, List.cons_append, List.head?_cons, ne_eq, Option.some.injEq]
    exact legal_ne_46 lb x (by simp)

/-- **neutrality**: a raw name that starts with `.` and contains no `~` leaves the generator as it is -/
theorem addExisting_dot {g : Names.Gen} (hw : Names.GenWF g) (sn : List Nat) (h0 : sn.head? = some 46)
    (h126 : ∀ x ∈ sn, x ≠ 126) : Names.addExisting g sn = g := by
  have hne : sn ≠ g.shortName := by
    intro h
    rw [h] at h0
    exact shortName_head_ne_46 hw h0
  have hb : ∀ i, Names.byteAt sn i ≠ 126 := fun i => getD_ne_of_all h126 (by decide) i
  unfold Names.addExisting Names.markExact
  rw [if_neg hne]
  unfold Names.checkLong
  rw [if_pos (hb _)]
  unfold Names.checkShort
  rw [if_pos (hb _)]

theorem addExisting_dotRaw {g : Names.Gen} (hw : Names.GenWF g) : Names.addExisting g dotRaw = g :=
  addExisting_dot hw dotRaw rfl (by decide)

theorem addExisting_dotDotRaw {g : Names.Gen} (hw : Names.GenWF g) : Names.addExisting g dotDotRaw = g :=
  addExisting_dot hw dotDotRaw rfl (by decide)

theorem ofNat_ne_dot : ∀ x, x < 128 → x ≠ 46 → Char.ofNat x ≠ '.' := by decide +kernel

/-- the display form of a canonical short name is neither `.` nor `..` -/
theorem canon_not_dot {a : List Nat} (hc : Canon a) :
    Names.aliasDisplay a ≠ ['.'] ∧ Names.aliasDisplay a ≠ ['.', '.'] := by
  obtain ⟨b, e, rfl, hb, he, lb, le⟩ := hc
  rw [aliasDisplay_canon hb he lb le]
  cases b with
  | cons x r =>
    have hx := legal_ne_46 lb x (by simp)
    have hx128 : x < 128 := legal_lt_128 x (lb x (by simp))
    have hne : Char.ofNat x ≠ '.' := ofNat_ne_dot x hx128 hx
    constructor <;> intro h <;> simp only [List.cons_append, List.map_cons, List.cons.injEq] at h <;> exact hne h.1
  | nil =>
    unfold dotExt
    by_cases hee : e = []
    · simp [hee]
    · simp only [hee, if_false, List.nil_append, List.map_cons]
      cases e with
      | nil => exact absurd rfl hee
      | cons y r =>
        have hy := legal_ne_46 le y (by simp)
        have hy128 : y < 128 := legal_lt_128 y (le y (by simp))
        have hne : Char.ofNat y ≠ '.' := ofNat_ne_dot y hy128 hy
        constructor
        · intro h; simp at h
        · intro h
          simp only [List.map_cons, List.cons.injEq] at h
          exact hne h.2.1

section
variable (up : Char → List Char)

theorem scan_shift (name : List Char) (kd : Option Bool) (k : Nat) : ∀ (L : List LfnEntry) (g : Names.Gen),
    scan up name kd (L.map (shiftE k)) g = ((scan up name kd L g).1.map (shiftE k), (scan up name kd L g).2) := by
  intro L
  induction L with
  | nil => intro g; rfl
  | cons e r ih =>
    intro g
    have hmm : matchesName up (shiftE k e) name = matchesName up e name := rfl
    have hsf : (shiftE k e).sfn = e.sfn := rfl
    simp only [List.map_cons, scan, hmm, hsf]
    split
    · split <;> rfl
    · exact ih _

end

section
variable (up : Char → List Char)

theorem scan_dots (hup : DotSafe up) (e1 e2 : LfnEntry) (hu1 : e1.units = []) (hr1 : sfnName e1.sfn = dotRaw)
    (hu2 : e2.units = []) (hr2 : sfnName e2.sfn = dotDotRaw) (name : List Char)
    (hname : name ≠ ['.'] ∧ name ≠ ['.', '.']) (kd : Option Bool) (M : List LfnEntry) (g : Names.Gen)
    (hw : Names.GenWF g) : scan up name kd (e1 :: e2 :: M) g = scan up name kd M g := by
  simp only [scan, dot_nomatch hup e1 hu1 (Or.inl hr1) name hname,
    dot_nomatch hup e2 hu2 (Or.inr hr2) name hname, Bool.false_eq_true, if_false, hr1, hr2,
    addExisting_dotRaw hw, addExisting_dotDotRaw hw]

theorem lookupNoGen_dots (hup : DotSafe up) (e1 e2 : LfnEntry) (hu1 : e1.units = []) (hr1 : sfnName e1.sfn = dotRaw)
    (hu2 : e2.units = []) (hr2 : sfnName e2.sfn = dotDotRaw) (q : List Char) (hq : q ≠ ['.'] ∧ q ≠ ['.', '.'])
    (L : List LfnEntry) (k : Nat) :
    lookupNoGen up (e1 :: e2 :: L.map (shiftE k)) q = (lookupNoGen up L q).map (shiftE k) := by
  unfold lookupNoGen
  rw [List.find?_cons_of_neg (by rw [dot_nomatch hup e1 hu1 (Or.inl hr1) q hq]; simp),
    List.find?_cons_of_neg (by rw [dot_nomatch hup e2 hu2 (Or.inr hr2) q hq]; simp), List.find?_map]
  rfl

/-- **the loop of `check_for_existence` behind the two dot entries** -/
theorem loop_dots (hup : DotSafe up) (e1 e2 : LfnEntry) (hu1 : e1.units = []) (hr1 : sfnName e1.sfn = dotRaw)
    (hu2 : e2.units = []) (hr2 : sfnName e2.sfn = dotDotRaw) (L : List LfnEntry) (name : List Char)
    (hname : name ≠ ['.'] ∧ name ≠ ['.', '.']) (kd : Option Bool) : ∀ (fuel : Nat) (g : Names.Gen), Names.GenWF g →
    loop up (e1 :: e2 :: L.map (shiftE 2)) name kd fuel g = (loop up L name kd fuel g).map (shiftR 2) := by
  intro fuel
  induction fuel with
  | zero => intro g _; rfl
  | succ f ih =>
    intro g hw
    have hsc : scan up name kd (e1 :: e2 :: L.map (shiftE 2)) g =
        ((scan up name kd L g).1.map (shiftE 2), (scan up name kd L g).2) := by
      rw [scan_dots up hup e1 e2 hu1 hr1 hu2 hr2 name hname kd _ g hw, scan_shift]
    have hw' := scan_wf up name kd L g hw
    simp only [loop, hsc]
    generalize scan up name kd L g = sc at hw' ⊢
    obtain ⟨r, g'⟩ := sc
    simp only at hw' ⊢
    cases r with
    | ok e => rfl
    | error err =>
      by_cases hnf : err = .notFound
      · subst hnf
        simp only [Except.map]
        cases hgen : Names.generate g' with
        | error x =>
          simp only
          exact ih _ hw'.nextIteration
        | ok a =>
          simp only
          have hcan := canon_not_dot (generate_canon hw' hgen)
          cases hda : displayAscii a with
          | false => rfl
          | true =>
            simp only [if_true]
            rw [lookupNoGen_dots up hup e1 e2 hu1 hr1 hu2 hr2 _ hcan L 2]
            cases lookupNoGen up L (Names.aliasDisplay a) with
            | none => rfl
            | some x =>
              simp only [Option.map]
              exact ih _ (hw'.addExisting a)
      · cases err <;> first | exact absurd rfl hnf | rfl

/-- **`check_for_existence` behind the two dot slots**: for a name other than `.`/`..` it gives what it gives on the
    slot list without them — the entry moved by two slots, the same alias, the same error -/
theorem check_dots (hup : DotSafe up) (s1 s2 : List Nat) (hc1 : slotClass s1 = .file) (hc2 : slotClass s2 = .file)
    (hr1 : sfnName s1 = dotRaw) (hr2 : sfnName s2 = dotDotRaw) (slots : List (List Nat)) (name : String)
    (hname : isDotName name = false) (kd : Option Bool) (fuel : Nat) :
    checkForExistenceL up (s1 :: s2 :: slots) name kd fuel =
      (checkForExistenceL up slots name kd fuel).map (shiftR 2) := by
  have hq : name.toList ≠ ['.'] ∧ name.toList ≠ ['.', '.'] := by
    rw [← isDotName_eq] at hname
    simp only [Bool.or_eq_false_iff, decide_eq_false_iff_not] at hname
    constructor
    · intro h; apply hname.1; rw [← String.ofList_toList (s := name), h]
    · intro h; apply hname.2; rw [← String.ofList_toList (s := name), h]
  unfold checkForExistenceL
  cases hn : Names.new name with
  | error e => rfl
  | ok g =>
    simp only
    rw [listing_dots s1 s2 hc1 hc2 slots]
    exact loop_dots up hup _ _ rfl hr1 rfl hr2 (listing slots) name.toList hq kd fuel g
      (Names.newL_wf hn)

end


/-- the chain of a sub-directory at slot level: the dot slots, the node's slot list, end markers -/
structure SubSlots (d : Dev) (chain : List Nat) (s1 s2 : List Nat) (slots tail : List (List Nat)) : Prop where
  eq : chainSlots d.fs d.img chain = s1 :: s2 :: slots ++ tail
  ends : ∀ s ∈ tail, Lfn.isEnd s = true
  c1 : slotClass s1 = .file
  c2 : slotClass s2 = .file
  r1 : sfnName s1 = dotRaw
  r2 : sfnName s2 = dotDotRaw

theorem live_of_file {s : List Nat} (h : slotClass s = .file) : Lfn.isEnd s = false ∧ Lfn.isDeleted s = false := by
  unfold slotClass at h
  cases h1 : Lfn.isEnd s with
  | true => rw [h1] at h; simp at h
  | false =>
    cases h2 : Lfn.isDeleted s with
    | true => rw [h1, h2] at h; simp at h
    | false => exact ⟨rfl, rfl⟩

/-- the listing of such a chain: the dot entries, then the node's entries moved by two (this is `SubImg`'s equation) -/
theorem SubSlots.listing {d : Dev} {chain : List Nat} {s1 s2 : List Nat} {slots tail : List (List Nat)}
    (S : SubSlots d chain s1 s2 slots tail) :
    listing (chainSlots d.fs d.img chain) =
      [⟨s1, [], 0, 1⟩, ⟨s2, [], 1, 2⟩] ++ (listing slots).map (shiftE 2) := by
  rw [S.eq, List.cons_append, List.cons_append, listing_dots s1 s2 S.c1 S.c2, listing_append_ends slots tail S.ends]
  rfl

/-- the two dot slots do not show in the slot model for a name other than `.`/`..` -/
theorem SubSlots.pre {d : Dev} {up : Char → List Char} {chain : List Nat} {s1 s2 : List Nat}
    {slots tail : List (List Nat)} (S : SubSlots d chain s1 s2 slots tail) (hup : DotSafe up) {name : String}
    (hdot : isDotName name = false) : Pre up name [s1, s2] := by
  obtain ⟨l1a, l1b⟩ := live_of_file S.c1
  obtain ⟨l2a, l2b⟩ := live_of_file S.c2
  exact ⟨fun sl kd => check_dots up hup s1 s2 S.c1 S.c2 S.r1 S.r2 sl name hdot kd 70000,
    fun sl n => by
      show DirSlots.findFree (s1 :: s2 :: sl) n = _
      rw [findFree_cons_live s1 _ _ l1a l1b, findFree_cons_live s2 _ _ l2a l2b]; rfl,
    fun sl u sf => by
      show DirSlots.writeEntry (s1 :: s2 :: sl) u sf = _
      rw [writeEntry_cons_live s1 _ _ _ l1a l1b, writeEntry_cons_live s2 _ _ _ l2a l2b]; rfl⟩


end SlotTreeImg
end FatVerif
