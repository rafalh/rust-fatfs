import FatVerif.Proofs.SlotTreeDenCreate
import FatVerif.Proofs.SlotTreeDenRemove
import FatVerif.Proofs.SlotTreeDenRename
import FatVerif.Proofs.FatImgDisjoint
/-!
# Slot trees on a device image: one call through the root handle

`Call` — `open_dir`, `open_file`, listing, `create_file`, `create_dir`, `remove` of a file, issued through the root
directory handle with paths of any depth (for the mutating calls: the directory components lead back to the root),
and `rename` of a file inside the root (both paths single names).
`C01img.byte_step` (Props/C01img.lean, behind the per-call theorems it packages): on a device whose image holds the
slot tree, the byte-level program of a call ends with the outcome of
`stepSlot` and leaves a device whose image holds the slot tree after the call (`ImgTreeW` re-established, under a
cluster map that agrees with the old one on the old tree's directories — `create_dir` extends it by the new
cluster; for the read-only calls the volume is untouched).

The FAT-level side conditions — `DirRes.apart` (the allocated cluster is on no directory chain) and `FreedApart` (the
freed chain is apart from every directory chain) — follow from `FatWf` of the decoded FAT (`Proofs/FatImgDisjoint.lean`:
`free_not_in_any_chain`, `head_chains_disjoint`) and facts about the HEADS of the chains the cluster map names.
-/
namespace FatVerif
namespace SlotTreeImg
open Lfn DirSlots DirAlias SlotTree DirSim FatVerif.FileSim FatVerif.Fat

theorem isDir_iff_dir (t : Node) : t.isDir = true ↔ ∃ s c, t = .dir s c := by
  cases t with
  | file b => simp [Node.isDir]
  | dir s c => simp [Node.isDir]

theorem openS_tree (up : Char → List Char) (t : Node) (cwd : List String) (p : String) (w : Bool) :
    (openS up t cwd p w).tree = t := by
  rw [openS_eq]
  cases openRes up t cwd (pathParts p) with
  | error e => rfl
  | ok pn =>
    obtain ⟨_, n⟩ := pn
    simp only
    split <;> rfl

/-! ## calls -/

/-- calls through the root directory handle -/
inductive Call where
  | openDir (path : String)
  | openFile (path : String)
  | list
  | createFile (path : String)
  | createDir (path : String)
  /-- `remove` of a file -/
  | removeFile (path : String)
  /-- `rename` of a file inside the root, both paths single names -/
  | renameFile (src dst : String)

def Call.op : Call → Spec.Op
  | .openDir p => .openDir [] p
  | .openFile p => .openFile [] p
  | .list => .list []
  | .createFile p => .createFile [] p
  | .createDir p => .createDir [] p
  | .removeFile p => .remove [] p
  | .renameFile s t => .rename [] s [] t

def errOf {α} : Except Err α → Option Err
  | .ok _ => none
  | .error e => some e

/-- the byte-level program of a call, run on `d`, ends with outcome `o` (`none` = success) on the device `d'` -/
def ByteOut (env : Env) (fuel : Nat) (d : Dev) : Call → Option Err → Dev → Prop
  | .openDir p, o, d' => ∃ r, run (openDir env fuel (rootDirStream d.fs) p) d = (r, d') ∧ errOf r = o
  | .openFile p, o, d' => ∃ r, run (openFile env fuel (rootDirStream d.fs) p) d = (r, d') ∧ errOf r = o
  | .list, o, d' => ∃ r, run (listDir (rootDirStream d.fs)) d = (r, d') ∧ errOf r = o
  | .createFile p, o, d' => ∃ r, run (createFile env fuel (rootDirStream d.fs) p) d = (r, d') ∧ errOf r = o
  | .createDir p, o, d' => ∃ r, run (createDir env fuel (rootDirStream d.fs) p) d = (r, d') ∧ errOf r = o
  | .removeFile p, o, d' => ∃ r, run (FatVerif.remove env fuel (rootDirStream d.fs) p) d = (r, d') ∧ errOf r = o
  | .renameFile s t, o, d' =>
      ∃ r, run (FatVerif.rename env fuel (rootDirStream d.fs) s (rootDirStream d.fs) t) d = (r, d') ∧ errOf r = o

/-- the tail of the short record a call issued on `d` would write: time stamps from the clock; for `create_dir` the
    first cluster is the one the allocator finds in the FAT of the image -/
def stampOf (d : Dev) : Call → List Nat
  | .createDir _ => sfnStamp d.fs d.clock (allocFindV (tabView d.fs d.img) d.fs.fsInfo.next d.fs.totalClusters)
  | _ => sfnStamp d.fs d.clock none

/-- the slot tree's result for a call issued on the device `d` -/
def modelStep (up : Char → List Char) (d : Dev) (t : Node) (c : Call) : Res :=
  stepSlot up 70000 t c.op (stampOf d c)

/-- the resource / scope hypotheses of one call (besides those of the specification side) -/
def CallOk (up : Char → List Char) (cl : List String → Option Nat) (d : Dev) (t : Node) (fuel : Nat) : Call → Prop
  | .openDir p => p.toList.length < fuel
  | .openFile p => p.toList.length < fuel
  | .list => True
  | .createFile p => p.toList.length < fuel ∧
      (∀ q, walkDirsS up t [] (pathParts p).1 = .ok q → q = []) ∧
      (∀ slots ch, t = .dir slots ch → HasRoomRoot d slots (pathParts p).2) ∧
      (modelStep up d t (.createFile p)).out ≠ .error .hang
  | .createDir p => p.toList.length < fuel ∧
      (∀ q, walkDirsS up t [] (pathParts p).1 = .ok q → q = []) ∧
      (∃ c, ∀ slots ch, t = .dir slots ch → DirRes d up t cl slots (pathParts p).2 c) ∧
      (modelStep up d t (.createDir p)).out ≠ .error .hang
  | .removeFile p => p.toList.length < fuel ∧
      (∀ q, walkDirsS up t [] (pathParts p).1 = .ok q → q = []) ∧
      (∀ slots ch, t = .dir slots ch → RemoveRes d up t cl slots ch (pathParts p).2)
  | .renameFile s t' => 0 < fuel ∧
      (∃ sa da, Names.splitPathL s.toList = (sa, none) ∧ Names.splitPathL t'.toList = (da, none) ∧
        ∀ slots ch, t = .dir slots ch → RenameRes d up slots ch (String.ofList sa) (String.ofList da)) ∧
      (modelStep up d t (.renameFile s t')).out ≠ .error .hang


/-! ## the tree after a call still has a directory as its root; no call of this kind ends in `hang` unnoticed -/

theorem modelStep_isDir (up : Char → List Char) (d : Dev) (t : Node) (c : Call) :
    (modelStep up d t c).tree.isDir = t.isDir := stepSlot_isDir _ _ _ _ _

theorem modelStep_no_hang (up : Char → List Char) (cl : List String → Option Nat) (d : Dev) (t : Node) (fuel : Nat)
    (c : Call) (hc : CallOk up cl d t fuel c) : (modelStep up d t c).out ≠ .error .hang := by
  cases c with
  | openDir p => exact openS_no_hang _ _ _ _ _
  | openFile p => exact openS_no_hang _ _ _ _ _
  | list => unfold modelStep Call.op; simp only [stepSlot, listS]; repeat' split <;> simp [fail]
  | createFile p => exact hc.2.2.2
  | createDir p => exact hc.2.2.2
  | removeFile p => exact removeS_no_hang _ _ _ _
  | renameFile s t' => exact hc.2.2

/-! ## the FAT-level side conditions from a well-formed FAT -/

/-- the first clusters the cluster map gives the directories of the tree are allocated -/
def DirHeadsAlloc (d : Dev) (up : Char → List Char) (t : Node) (cl : List String → Option Nat) : Prop :=
  ∀ cur s ch, cur ≠ [] → getAtS up t cur = some (.dir s ch) → ∀ c0, cl cur = some c0 →
    tabView d.fs d.img c0 ≠ .free

/-- … and no FAT link points to them, and they differ from `n` -/
def DirHeadsApartFrom (d : Dev) (up : Char → List Char) (t : Node) (cl : List String → Option Nat) (n : Nat) : Prop :=
  ∀ cur s ch, cur ≠ [] → getAtS up t cur = some (.dir s ch) → ∀ c0, cl cur = some c0 →
    c0 ≠ n ∧ ∀ q, tabView d.fs d.img q ≠ .data c0

/-- `DirRes.apart` from a well-formed FAT: a free cluster is on no chain whose head is allocated -/
theorem apart_of_fatWf {d : Dev} {up : Char → List Char} {t : Node} {cl : List String → Option Nat} {c : Nat}
    (hw : FatWf (tabView d.fs d.img) d.fs.totalClusters) (hheads : DirHeadsAlloc d up t cl)
    (hfree : tabView d.fs d.img c = .free) :
    ∀ cur s ch, cur ≠ [] → getAtS up t cur = some (.dir s ch) → ∀ c0 chain, cl cur = some c0 →
      Chain (tabView d.fs d.img) c0 chain → c ∉ chain := by
  intro cur s ch hne hg c0 chain hcl hch
  refine FatDisjoint.free_not_in_any_chain hw hch hfree ?_
  intro h
  subst h
  exact hheads cur s ch hne hg c hcl hfree

/-- the resources of `create_dir` with `apart` discharged from `FatWf` -/
theorem DirRes.of_fatWf {d : Dev} {up : Char → List Char} {t : Node} {cl : List String → Option Nat}
    {slots : List (List Nat)} {name : String} {c : Nat} (geo : Geo d.fs d.img.size) (info : InfoOk d.fs d.img)
    (cs32 : d.fs.clusterSize % 32 = 0) (cs64 : 64 ≤ d.fs.clusterSize) (u32 : d.fs.clusterSize < 4294967296)
    (fuel : d.fs.clusterSize / 32 < dirFuel d.fs)
    (find : allocFindV (tabView d.fs d.img) d.fs.fsInfo.next d.fs.totalClusters = some c)
    (small : d.fs.totalClusters + 2 ≤ 65536) (room : HasRoomRoot d slots name)
    (hw : FatWf (tabView d.fs d.img) d.fs.totalClusters) (hheads : DirHeadsAlloc d up t cl) :
    DirRes d up t cl slots name c :=
  ⟨geo, info, cs32, cs64, u32, fuel, find, small, room,
    apart_of_fatWf hw hheads (allocFindV_some_lt _ _ _ _ find).2⟩

/-- `FreedApart` from a well-formed FAT: the chain of a head `n` is disjoint from the chains of other heads -/
theorem freedApart_of_fatWf {d : Dev} {up : Char → List Char} {t : Node} {cl : List String → Option Nat}
    {n : Nat} {cs : List Nat} (hw : FatWf (tabView d.fs d.img) d.fs.totalClusters)
    (hn : Chain (tabView d.fs d.img) n cs) (hnh : ∀ q, tabView d.fs d.img q ≠ .data n)
    (hdirs : DirHeadsApartFrom d up t cl n) : FreedApart d up t cl cs := by
  intro cur s c hne hg c0 chain hcl hch x hx
  obtain ⟨hne0, hh0⟩ := hdirs cur s c hne hg c0 hcl
  exact FatDisjoint.head_chains_disjoint hw hch hn hne0 hh0 hnh x hx

theorem freedApart_nil (d : Dev) (up : Char → List Char) (t : Node) (cl : List String → Option Nat) :
    FreedApart d up t cl [] :=
  fun _ _ _ _ _ _ _ _ _ _ _ h => by cases h

end SlotTreeImg
end FatVerif
