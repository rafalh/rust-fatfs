import FatVerif.Proofs.FsCount
/-! Per-operation lemmas of the accounting machine, its invariant `Inv` with the callers' side conditions `OpOk`, and the
    induction along `runOps` (the preservation theorems are in Props/C05count). -/
namespace FatVerif.FsCount
open FatVerif.Fat

/-! ### mount -/

theorem deserialize_next_ge2 (rf rn h : Nat) (hh : (deserializeInfo rf rn).next = some h) : 2 ≤ h := by
  simp only [deserializeInfo] at hh
  split at hh
  · cases hh
  · cases hh; omega

theorem fixFree_some {total : Nat} {o : Option Nat} {n : Nat} (hh : fixFree total o = some n) :
    o = some n ∧ n ≤ total := by
  cases o with
  | none => cases hh
  | some m =>
    simp only [fixFree] at hh
    split at hh
    · cases hh
    · cases hh; exact ⟨rfl, by omega⟩

theorem fixNext_some {total : Nat} {o : Option Nat} {h : Nat} (hh : fixNext total o = some h) :
    o = some h ∧ h ≤ total + 2 :=
  fixFree_some (total := total + 2) (by cases o <;> exact hh)

/-- mount establishes `CountOk` when the on-disk count is absent (0xFFFFFFFF, or not FAT32), discarded (dirty
    volume, or `> total`), or correct -/
theorem mount_countOk (s : FsCountState) (d : Bool) (rf rn : Nat)
    (hdisk : d = false → s.fat32 = true → ∀ n, (deserializeInfo rf rn).free = some n → n ≤ s.total →
      n = countFreeV s.fat s.total) :
    CountOk { s with info := mountInfo s.fat32 d s.total (deserializeInfo rf rn) } := by
  intro n hn
  simp only [mountInfo] at hn
  obtain ⟨h1, h2⟩ := fixFree_some hn
  cases d with
  | true => simp at h1
  | false =>
    cases hf : s.fat32 with
    | false => rw [hf] at h1; simp at h1
    | true =>
      rw [hf] at h1
      simp only [Bool.false_eq_true, if_false, if_true] at h1
      exact hdisk rfl hf n h1 h2

/-! ### stats -/

theorem statsOp_fat (s : FsCountState) : (statsOp s).1.fat = s.fat ∧ (statsOp s).1.total = s.total ∧
    (statsOp s).1.fat32 = s.fat32 ∧ (statsOp s).1.info.next = s.info.next := by
  unfold statsOp; cases s.info.free <;> simp

theorem statsOp_countOk (s : FsCountState) (h : CountOk s) : CountOk (statsOp s).1 := by
  unfold statsOp
  cases hf : s.info.free with
  | some n => simpa [hf] using h
  | none => intro n hn; simp at hn; exact hn.symm

theorem statsOp_value (s : FsCountState) (h : CountOk s) : (statsOp s).2 = countFreeV s.fat s.total := by
  unfold statsOp
  cases hf : s.info.free with
  | some n => simp; exact h n hf
  | none => simp

/-- after `stats` the count is cached -/
theorem statsOp_cached (s : FsCountState) : (statsOp s).1.info.free = some (statsOp s).2 := by
  unfold statsOp
  cases hf : s.info.free with
  | some n => simp [hf]
  | none => simp

/-! ### alloc -/

theorem allocOp_ok {s s' : FsCountState} {prev : Option Nat} {c : Nat} (h : allocOp s prev = .ok (s', c)) :
    allocFindV s.fat s.info.next s.total = some c ∧ s'.fat = allocLinkV s.fat prev c ∧ s'.total = s.total ∧
    s'.fat32 = s.fat32 ∧ s'.info.next = some (nextHint s.total c) ∧ s'.info.free = s.info.free.map (· - 1) ∧
    s.info.free ≠ some 0 ∧ s'.info.dirty = true := by
  unfold allocOp allocV at h
  cases hf : allocFindV s.fat s.info.next s.total with
  | none => rw [hf] at h; cases h
  | some c' =>
    rw [hf] at h
    simp only at h
    cases hfree : s.info.free with
    | none =>
      rw [hfree] at h
      simp only [Info.mapFree, hfree] at h
      cases h
      simp
    | some n =>
      rw [hfree] at h
      cases n with
      | zero => cases h
      | succ m =>
        simp only [Info.mapFree, hfree] at h
        cases h
        simp

theorem nextHint_range (total c : Nat) (h1 : 2 ≤ c) (h2 : c < total + 2) :
    2 ≤ nextHint total c ∧ nextHint total c ≤ total + 1 := by
  unfold nextHint; split <;> omega

theorem allocOp_hintStrict {s s' : FsCountState} {prev : Option Nat} {c : Nat}
    (hh : ∀ n, s.info.next = some n → 2 ≤ n) (h : allocOp s prev = .ok (s', c)) :
    HintStrict s' ∧ 2 ≤ c ∧ c < s.total + 2 ∧ s.fat c = .free := by
  obtain ⟨hf, _, htot, _, hnext, _⟩ := allocOp_ok h
  obtain ⟨h1, h2, h3⟩ := allocFindV_some _ _ _ _ hh hf
  refine ⟨?_, h1, h2, h3⟩
  intro x hx
  rw [hnext] at hx; cases hx
  rw [htot]; exact nextHint_range s.total c h1 h2

theorem allocOp_countOk {s s' : FsCountState} {prev : Option Nat} {c : Nat} (hc : CountOk s)
    (hh : ∀ n, s.info.next = some n → 2 ≤ n) (hp : ∀ p, prev = some p → s.fat p ≠ .free)
    (h : allocOp s prev = .ok (s', c)) : CountOk s' ∧ countFreeV s'.fat s'.total + 1 = countFreeV s.fat s.total := by
  obtain ⟨hf, hfat, htot, _, _, hfree, _⟩ := allocOp_ok h
  obtain ⟨h1, h2, h3⟩ := allocFindV_some _ _ _ _ hh hf
  have hcnt := countFreeV_allocLink s.fat s.total c prev h1 h2 h3 hp
  rw [← hfat] at hcnt
  have hcnt' : countFreeV s'.fat s'.total + 1 = countFreeV s.fat s.total := by rw [htot]; exact hcnt
  refine ⟨?_, hcnt'⟩
  intro n hn
  rw [hfree] at hn
  cases hfr : s.info.free with
  | none => rw [hfr] at hn; cases hn
  | some m =>
    rw [hfr] at hn; simp at hn
    have := hc m hfr
    omega

/-! ### free / truncate -/

theorem length_le_of_range {cs : List Nat} {total : Nat} (hnd : cs.Nodup) (hin : ∀ i, i ∈ cs → i < total + 2) :
    cs.length ≤ total + 2 := by
  have hsub : cs ⊆ List.range (total + 2) := fun k hk => List.mem_range.mpr (hin k hk)
  have := List.Nodup.length_le_of_subset hnd hsub
  simpa using this

theorem freeOp_spec (s : FsCountState) (c : Nat) (cs : List Nat) (hch : Chain s.fat c cs) (hnd : cs.Nodup)
    (hin : ∀ i, i ∈ cs → i < s.total + 2) :
    ∃ s', freeOp s c = .ok s' ∧ (∀ i, i ∈ cs → s'.fat i = .free) ∧ (∀ i, i ∉ cs → s'.fat i = s.fat i) ∧
      s'.total = s.total ∧ s'.fat32 = s.fat32 ∧ s'.info = s.info.mapFree (· + cs.length) := by
  have hlen := length_le_of_range hnd hin
  obtain ⟨g', h1, h2, h3⟩ := freeChainV_spec cs s.fat c hch hnd (chainFuel s) 0 (by unfold chainFuel; omega)
  refine ⟨{ s with fat := g', info := s.info.mapFree (· + cs.length) }, ?_, h2, h3, rfl, rfl, rfl⟩
  unfold freeOp
  rw [h1]; simp

theorem truncateOp_spec (s : FsCountState) (c : Nat) (t : List Nat) (hch : Chain s.fat c (c :: t))
    (hnd : (c :: t).Nodup) (hin : ∀ i, i ∈ c :: t → i < s.total + 2) :
    ∃ s', truncateOp s c = .ok s' ∧ s'.fat c = .eoc ∧ (∀ i, i ∈ t → s'.fat i = .free) ∧
      (∀ i, i ≠ c → i ∉ t → s'.fat i = s.fat i) ∧
      s'.total = s.total ∧ s'.fat32 = s.fat32 ∧ s'.info = s.info.mapFree (· + t.length) := by
  have hlen := length_le_of_range hnd hin
  simp only [List.length_cons] at hlen
  obtain ⟨g', h1, h2, h3, h4⟩ := truncateChainV_spec s.fat c t hch hnd (chainFuel s) (by unfold chainFuel; omega)
  refine ⟨{ s with fat := g', info := s.info.mapFree (· + t.length) }, ?_, h2, h3, h4, rfl, rfl, rfl⟩
  unfold truncateOp
  rw [h1]

theorem countOk_mapFree_add (s s' : FsCountState) (k : Nat) (hc : CountOk s) (htot : s'.total = s.total)
    (hinfo : s'.info = s.info.mapFree (· + k)) (hcnt : countFreeV s'.fat s.total = countFreeV s.fat s.total + k) :
    CountOk s' := by
  intro n hn
  rw [hinfo, mapFree_free] at hn
  cases hfr : s.info.free with
  | none => rw [hfr] at hn; cases hn
  | some m =>
    rw [hfr] at hn; simp at hn
    have := hc m hfr
    rw [htot]; omega

/-- under `FatWf` the chain that starts at an allocated data cluster stays inside `[2,total+2)` and contains no
    free entry -/
theorem chain_members_ok {g : Nat → FatValue} {total : Nat} (hw : FatWf g total) {c : Nat} {cs : List Nat}
    (h : Chain g c cs) : 2 ≤ c → c < total + 2 → g c ≠ .free →
    ∀ i, i ∈ cs → 2 ≤ i ∧ i < total + 2 ∧ g i ≠ .free := by
  induction h with
  | last m _ => intro h1 h2 h3 i hi; simp at hi; subst hi; exact ⟨h1, h2, h3⟩
  | cons m k ms hd _ ih =>
    intro h1 h2 h3 i hi
    rcases List.mem_cons.mp hi with rfl | hi
    · exact ⟨h1, h2, h3⟩
    · have hr := hw.link_range m k hd
      exact ih hr.1 hr.2 (hw.link_alloc m k hd).1 i hi

/-! ### the invariant -/

/-- structural invariant of the table + exact cached count + hint in range -/
def Inv (s : FsCountState) : Prop := FatWf s.fat s.total ∧ CountOk s ∧ HintOk s

/-- side conditions under which the callers in `file.rs`/`dir.rs` invoke the operations: `prev` is the EOC tail of a
    chain; `free` gets the head of a chain of allocated clusters; `truncate` any allocated cluster; a count found on
    a clean FAT32 volume is correct -/
def OpOk (s : FsCountState) : Op → Prop
  | .mount d rf rn => d = false → s.fat32 = true → ∀ n, (deserializeInfo rf rn).free = some n → n ≤ s.total →
      n = countFreeV s.fat s.total
  | .stats => True
  | .alloc prev => ∀ p, prev = some p → s.fat p = .eoc
  | .free c => 2 ≤ c ∧ c < s.total + 2 ∧ s.fat c ≠ .free ∧ ∀ a, s.fat a ≠ .data c
  | .truncate c => 2 ≤ c ∧ c < s.total + 2 ∧ s.fat c ≠ .free
  | .unmount => True

/-- every operation of the list is invoked under its side condition -/
def AllOk : FsCountState → List Op → Prop
  | _, [] => True
  | s, op :: ops => OpOk s op ∧ ∀ s' out, step s op = .ok (s', out) → AllOk s' ops

/-- induction along `runOps`: `J` holds at the end if every successful step carries `J` and the side condition `C`
    of the remaining operations along -/
theorem runOps_preserves {J : FsCountState → Prop} {C : FsCountState → List Op → Prop}
    (hstep : ∀ s op ops s' out, J s → C s (op :: ops) → step s op = .ok (s', out) → J s' ∧ C s' ops) :
    ∀ (ops : List Op) (s s' : FsCountState), J s → C s ops → runOps s ops = .ok s' → J s'
  | [], s, s', hj, _, h => by cases h; exact hj
  | op :: ops, s, s', hj, hc, h => by
    simp only [runOps] at h
    cases hs : step s op with
    | error e => rw [hs] at h; cases h
    | ok r =>
      rw [hs] at h
      obtain ⟨hj1, hc1⟩ := hstep s op ops r.1 r.2 hj hc hs
      exact runOps_preserves hstep ops r.1 s' hj1 hc1 h

end FatVerif.FsCount
