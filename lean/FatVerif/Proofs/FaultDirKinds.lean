import FatVerif.Proofs.FaultWriteEntry
import FatVerif.Proofs.WriteEntryGS
/-! The three kinds of directory satisfy the obligations of the fault analysis. The fixed root: its invariant (size,
    well-formedness, geometry) survives every run, and EVERY run of `write_entry` on it — also one hit by the fault —
    appends only records inside the root region or on the status byte, so the FAT is untouched. Cluster-chain
    directories (the root of FAT32, sub-directories): a `File::write` inside the allocated clusters that is hit by the
    fault leaves the first FAT copy alone (`fileWrite_fatKept`), hence so does a slot write, the chain of the directory
    is still in the FAT and the directory writable (`FaultOK`), with the decoded FAT as before (`TvKeep`) — for both
    kinds at once, from what they have in common (`ChainKind.slotKeepsFat`, `ChainKind.faultKeeps`). -/
namespace FatVerif.DirSim
open FatVerif.FileSim FatVerif.Fat DirEntryData

/-! ### cluster-chain directories: a faulted write keeps the first FAT copy -/

/-- the part of `File::write` behind the choice of the cluster `cur` (`writeTail` of Proofs/FileSimWrite) writes into the
    data region only, whatever its outcome -/
theorem writeTail_frame {fs : FsState} {sz : Nat} (hgeo : FileSim.Geo fs sz) {cur : Nat} (hc2 : 2 ≤ cur)
    (hct : cur < fs.totalClusters + 2) (f0 f1 : FileH) (buf : List Nat) (w : Nat) {dB : Dev} (hwf : dB.img.WF) {r d'}
    (h : run (writeTail f0 fs buf w (cur, f1)) dB = (r, d')) (q : Nat) (hq : q < fs.firstDataSector * fs.bps) :
    d'.img.getByte q = dB.img.getByte q := by
  unfold writeTail at h
  dsimp only at h
  rw [run_bind_ok (run_offsetFromClusterP hgeo _ hc2 hct dB)] at h
  rcases run_bind_cases h with ⟨t, dD, hD, hkD⟩ | ⟨eD, hD, rfl⟩
  rotate_left
  · rw [quiet_img (QuietOps.op _ rfl) hD]
  have himgD : dD.img = dB.img := quiet_img (QuietOps.op _ rfl) hD
  rcases run_bind_cases hkD with ⟨n, dE, hE, hkE⟩ | ⟨eE, hE, rfl⟩
  -- the device write, gone through or failed, is one record in the data region or none; the rest is quiet
  all_goals
    obtain ⟨_, items, hl, hb⟩ := run_img_eq_replay _ dD _ _ hE (by rw [himgD]; exact hwf)
    have hspec := (stepOp_write_spec _ dD (show stepOp (.write _) dD = _ from hE)).2
  · have hquR : QuietOps (if n = 0 then (pure (0, f1) : Prog (Nat × FileH)) else do
        let f ← FileH.updateAfterWrite { f1 with offset := f1.offset + n, currentCluster := some cur }
        pure (n, f)) := by
      split
      · exact QuietOps.pure _
      · refine QuietOps.bind _ _ ?_ (fun _ => QuietOps.pure _)
        unfold FileH.updateAfterWrite
        split
        · exact QuietOps.bind _ _ (QuietOps.op _ rfl) (fun _ => QuietOps.pure _)
        · exact QuietOps.pure _
    rcases hspec with ⟨_, hm, _⟩ | ⟨m, _, _, hlogE, _⟩
    · cases hm
    · have : items = [LogItem.write dD.pos ((buf.take w).take m)] := List.append_cancel_right (hl.symm.trans hlogE)
      subst this
      rw [quiet_img hquR hkE, hb q]
      simp only [List.map, LogItem.norm, replay, applyRec]
      have := FileSim.dataStart_le_clusterOff fs cur
      rw [if_neg (by rw [(run_seekStart_spec _ dB hD).2.2 t rfl]; omega)]
      exact congrArg (·.getByte q) himgD
  · rcases hspec with ⟨_, _, hlogE⟩ | ⟨m, hm, _⟩
    · cases List.append_cancel_right (as := items) (bs := dD.log) (cs := []) (hl.symm.trans hlogE)
      rw [hb q]
      exact congrArg (·.getByte q) himgD
    · cases hm

section chain
variable {f0 : FileH} {c0 : Nat} {chain : List Nat}

/-- **a `File::write` inside an allocated cluster keeps the first FAT copy, wherever the fault hits it**: the status
    byte is written first; the cluster is read from the FAT, not allocated, as on the disarmed device; the one device
    write lies in the data region -/
theorem fileWrite_fatKept {d : Dev} (C : ChainCore d.disarm f0 c0 chain) (hd : d.fault = none) (hwf : d.img.WF) (o : Nat)
    (bs : List Nat) (hne : bs ≠ []) (hroom : bs.length ≤ chainRoom d.fs chain o)
    (hfit : o + bs.length ≤ chain.length * d.fs.clusterSize)
    {r d'} (hr : run ((dirFile f0 chain d.fs.clusterSize o).write bs) d = (r, d'))
    (hnd : ∀ f, d'.fault = some f → f.inDrop = false) : FatAgree d.fs d.img d'.img := by
  have hgeo : FileSim.Geo d.fs d.img.size := C.geo
  have hcs := hgeo.cs_pos
  have hst42 := hgeo.status_lt
  have hlen : bs.length ≠ 0 := fun h => hne (List.eq_nil_of_length_eq_zero h)
  have holt : o < chain.length * d.fs.clusterSize := by omega
  have hrm : chainRoom d.fs chain o = d.fs.clusterSize - o % d.fs.clusterSize := by
    unfold chainRoom; rw [if_pos holt]
  rw [hrm] at hroom
  have hu : chain.length * d.fs.clusterSize < 4294967296 := C.u32
  have hws : writeLenH (dirFile f0 chain d.fs.clusterSize o) d.fs bs.length = bs.length := by
    show min (min bs.length (d.fs.clusterSize - o % d.fs.clusterSize)) (4294967295 - o) = bs.length
    omega
  rw [write_eq, run_bind_ok (run_getFs d), hws, if_neg hlen] at hr
  -- A. set_dirty_flag(true): hit by the fault it appends status records only
  rcases run_bind_cases hr with ⟨u, dA, hA, hkA⟩ | ⟨eA, hA, rfl⟩
  rotate_left
  · obtain ⟨_, hlog⟩ := setDirtyFlag_all true d hA
    intro q hq1 _
    refine logAll_frame hA hwf hlog q (fun off b hs => ?_)
    unfold StatusRec statusOff at hs
    split at hs <;> omega
  have hfA : dA.fault = none := unfired_of_ok (setDirtyFlag_safe true).io hd hA hkA hnd
  obtain ⟨dAg, h1g, hw1, _⟩ := run_setDirty_writesTo d.disarm rfl C.dev42 (d.fs.firstDataSector * d.fs.bps)
  cases (run_disarm _ d hA hd hfA).symm.trans h1g
  have hfatA : FatAgree d.fs d.img dA.img := hw1.fatAgree hwf hgeo (Nat.le_refl _)
  have C1 : ChainCore dA.disarm f0 c0 chain := C.of_writesTo hw1 hwf (Nat.le_refl _)
  have hcs1 : dA.fs.clusterSize = d.fs.clusterSize := hw1.step.geom.clusterSize
  -- what follows writes nothing below the data region
  suffices h : ∀ q, q < d.fs.firstDataSector * d.fs.bps → d'.img.getByte q = dA.img.getByte q from fun q h1 h2 => by
    have := hgeo.fat_data
    have := Nat.le_mul_of_pos_left (fatSliceOf d.fs).size hgeo.mirrors_pos
    exact (h q (by omega)).trans (hfatA q h1 h2)
  -- B. the cluster
  have hlt : o / d.fs.clusterSize < chain.length := div_lt_of_lt_mul hcs holt
  have hcur : chain[o / d.fs.clusterSize]? = some chain[o / d.fs.clusterSize] := List.getElem?_eq_getElem hlt
  obtain ⟨hc2, hct⟩ := C.inTab _ (List.getElem_mem hlt)
  obtain ⟨d2g, h2g, _⟩ := C1.curOpt o (by show o ≤ chain.length * dA.fs.clusterSize; rw [hcs1]; omega)
  simp only [Dev.disarm_fs, hcs1] at h2g
  have hwfA : dA.img.WF := hw1.step.wf hwf
  unfold selCluster at hkA
  rw [show (dirFile f0 chain d.fs.clusterSize o).offset = o from rfl] at hkA
  by_cases hm : o % d.fs.clusterSize = 0
  · rw [if_pos hm, run_bind_assoc] at hkA
    rw [if_pos hm] at h2g
    rcases run_bind_cases hkA with ⟨nxt, dB, hB, hkB⟩ | ⟨e, hB, rfl⟩
    · have hfB : dB.fault = none := unfired_of_ok (FileH.boundaryCluster_safe _).io hfA hB hkB hnd
      cases (run_disarm _ dA hB hfA hfB).symm.trans h2g
      rw [hcur] at hkB
      simp only at hkB
      rw [run_bind_ok (run_pure _ dB)] at hkB
      intro q hq
      rw [writeTail_frame hgeo hc2 hct _ _ _ _ (by rw [quiet_img (FileH.boundaryCluster_quiet _) hB]; exact hwfA) hkB q hq,
        quiet_img (FileH.boundaryCluster_quiet _) hB]
    · intro q _
      rw [quiet_img (FileH.boundaryCluster_quiet _) hB]
  · rw [if_neg hm] at hkA h2g
    have hcc : (dirFile f0 chain d.fs.clusterSize o).currentCluster = chain[o / d.fs.clusterSize]? := by
      injection (congrArg Prod.fst h2g) with h
    rw [hcc, hcur] at hkA
    simp only at hkA
    rw [run_bind_ok (run_pure _ dA)] at hkA
    exact writeTail_frame hgeo hc2 hct _ _ _ _ hwfA hkA

end chain

section generic
variable {Inv : Dev → Prop} {G : Nat → DirStream} {N : Nat} {src room : Nat → Nat} {fs0 : FsState}

/-- a single stream write keeps the first FAT copy of the geometry `fs0`, wherever the fault hits it -/
def WriteKeepsFat (Inv : Dev → Prop) (fs0 : FsState) (N : Nat) (room : Nat → Nat) (X : Nat → DirStream) : Prop :=
  ∀ (d1 d2 : Dev) (o : Nat) (bs : List Nat) (r : Except Err (Nat × DirStream)), d1.fault = none → Inv d1.disarm →
    bs ≠ [] → bs.length ≤ room o → o + bs.length ≤ 32 * N → run (DirStream.write (X o) bs) d1 = (r, d2) →
    (∀ f, d2.fault = some f → f.inDrop = false) → FatAgree fs0 d1.img d2.img

/-- `write_all` of one chunk: the first write takes all bytes unless the fault hits it -/
theorem writeAll_fatKept (IO : InvOK Inv) (hF : FatBefore Inv fs0 N src) {X : Nat → DirStream}
    (WX : WFam Inv X G N src room) (hK : WriteKeepsFat Inv fs0 N room X) (d : Dev) (hd : d.fault = none)
    (hinv : Inv d.disarm) (o : Nat) (c : List Nat) (hne : c ≠ []) (hroom : c.length ≤ room o)
    (hfit : o + c.length ≤ 32 * N) {r d1} (hr : run (writeAll DirStream.strm (X o) c) d = (r, d1))
    (hnd : ∀ f, d1.fault = some f → f.inDrop = false) : FatAgree fs0 d.img d1.img := by
  have hemp : c.isEmpty = false := by cases c <;> simp_all
  have hlen : c.length ≠ 0 := fun h => hne (List.eq_nil_of_length_eq_zero h)
  obtain ⟨k, hk⟩ : ∃ k, c.length = k + 1 := ⟨c.length - 1, by omega⟩
  unfold FatVerif.writeAll at hr
  rw [hk] at hr
  unfold writeAllLoop at hr
  simp only [hemp, Bool.false_eq_true, if_false] at hr
  rcases run_bind_cases hr with ⟨⟨n, s'⟩, dW, hW, hkW⟩ | ⟨e, hW, rfl⟩
  · have hfW : dW.fault = none := unfired_of_ok (DirStream.write_safe (X o) c).io hd hW hkW hnd
    obtain ⟨dg, hg, hw, _⟩ := WX.write d.disarm hinv o c hne hroom hfit
    cases (run_disarm _ d (show run (DirStream.write (X o) c) d = _ from hW) hd hfW).symm.trans hg
    simp only [hlen, if_false, List.drop_length] at hkW
    cases (rfl : run (writeAllLoop DirStream.strm (k + 1) (G (o + c.length)) []) dW = (.ok (G (o + c.length)), dW)).symm.trans
      hkW
    exact hF.fatAgree (d := d.disarm) (d' := d1.disarm) hw (IO.wf _ hinv) hfit
  · exact hK d d1 o c _ hd hinv hne hroom hfit hW hnd

/-- `writeChunks` inside one room on a device whose fault may fire: whatever happens, the first FAT copy is kept -/
theorem writeChunks_fatKept (IO : InvOK Inv) (hF : FatBefore Inv fs0 N src) (WG : WFam Inv G G N src room)
    (hKG : WriteKeepsFat Inv fs0 N room G) :
    ∀ (cs : List (List Nat)) (X : Nat → DirStream), WFam Inv X G N src room → WriteKeepsFat Inv fs0 N room X →
    ∀ (o : Nat) (d : Dev), d.fault = none → Inv d.disarm → (∀ c ∈ cs, c ≠ []) → cs.flatten.length ≤ room o →
    o + cs.flatten.length ≤ 32 * N → ∀ r d', run (writeChunks DirStream.strm (X o) cs) d = (r, d') →
    (∀ f, d'.fault = some f → f.inDrop = false) → FatAgree fs0 d.img d'.img := by
  intro cs
  induction cs with
  | nil =>
    intro X _ _ o d _ _ _ _ _ r d' hr _
    cases hr
    exact fun _ _ _ => rfl
  | cons c rest ih =>
    intro X WX hKX o d hd hinv hne hroom hfit r d' hr hnd
    simp only [List.flatten_cons, List.length_append] at hroom hfit
    have hcne := hne c (List.mem_cons_self ..)
    unfold FatVerif.writeChunks at hr
    rcases run_bind_cases hr with ⟨s', d1, h1, hk⟩ | ⟨e, h1, rfl⟩
    · have hf1 : d1.fault = none :=
        unfired_of_ok (writeAll_safe DirStream.strm DirStream.strm_ok (X o) c).io hd h1 hk hnd
      obtain ⟨dg, hg, hw, hi1⟩ := WX.writeAll d.disarm hinv o c hcne (by omega) (by omega)
      cases (run_disarm _ d h1 hd hf1).symm.trans hg
      have hfa1 : FatAgree fs0 d.img d1.img :=
        hF.fatAgree (d := d.disarm) (d' := d1.disarm) hw (IO.wf _ hinv) (by omega)
      by_cases hlt : c.length < room o
      · exact FatAgree.trans hfa1 (ih G WG hKG (o + c.length) d1 hf1 hi1 (fun c' hc' => hne c' (List.mem_cons_of_mem _ hc'))
          (by rw [(WX.rd d.disarm hinv).room_step o c.length hlt]; omega) (by omega) r d' hk hnd)
      · have hrest : rest = [] := by
          cases rest with
          | nil => rfl
          | cons c' r' =>
            simp only [List.flatten_cons, List.length_append] at hroom
            exact absurd (List.eq_nil_of_length_eq_zero (by omega : c'.length = 0))
              (hne c' (List.mem_cons_of_mem _ (List.mem_cons_self ..)))
        subst hrest
        cases hk
        exact hfa1
    · exact writeAll_fatKept IO hF WX hKX d hd hinv o c hcne (by omega) (by omega) h1 hnd

/-- **a slot write keeps the first FAT copy, wherever the fault hits it** -/
theorem writeSlot_fatKept (IO : InvOK Inv) (hF : FatBefore Inv fs0 N src) (WG : WFam Inv G G N src room)
    (hKG : WriteKeepsFat Inv fs0 N room G) {X : Nat → DirStream} (WX : WFam Inv X G N src room)
    (hKX : WriteKeepsFat Inv fs0 N room X) (o : Nat) (ho : o % 32 = 0) (hfit : o + 32 ≤ 32 * N) (e : DirEntryData)
    (hl : e.serialize.length = 32) (d : Dev) (hd : d.fault = none) (hinv : Inv d.disarm) {r d'}
    (hr : run (writeSlot (X o) e) d = (r, d')) (hnd : ∀ f, d'.fault = some f → f.inDrop = false) :
    FatAgree fs0 d.img d'.img := by
  have hr32 := (WX.rd d.disarm hinv).room_slot o ho hfit
  have key : ∀ (bs : List Nat) (ns : List Nat), bs.length = 32 → ns.sum = 32 → (∀ n ∈ ns, 0 < n) →
      run (FatVerif.writeChunks DirStream.strm (X o) (chunksOf bs ns)) d = (r, d') → FatAgree fs0 d.img d'.img := by
    intro bs ns hb hn hpos h
    have hfl := chunksOf_flatten ns bs (by rw [hn, hb])
    exact writeChunks_fatKept IO hF WG hKG _ X WX hKX o d hd hinv
      (chunksOf_ne_nil ns bs hpos (by rw [hn, hb]; exact Nat.le_refl _)) (by rw [hfl, hb]; exact hr32)
      (by rw [hfl, hb]; exact hfit) r d' h hnd
  cases e with
  | file f => exact key f.serialize _ hl entryChunks_sum (by decide) hr
  | lfn l => exact key l.serialize _ hl lfnChunks_sum (by decide) hr

end generic

section chain
variable {fs0 : FsState} {c0 : Nat} {chain : List Nat}

/-- the stream write of a chain handle, reduced to the file write -/
theorem chainWrite_keepsFat {Inv : Dev → Prop} (f : FileH) (hcore : ∀ d, Inv d → ChainCore d f c0 chain)
    (hgeom : ∀ d, Inv d → FsGeomEq fs0 d.fs) (hwfI : ∀ d, Inv d → d.img.WF) :
    WriteKeepsFat Inv fs0 (chain.length * (fs0.clusterSize / 32)) (chainRoom fs0 chain) (chainS f chain fs0.clusterSize) := by
  intro d1 d2 o bs r hd hinv hne hroom hfit hr hnd
  have hg : FsGeomEq fs0 d1.fs := hgeom d1.disarm hinv
  have hcs : d1.fs.clusterSize = fs0.clusterSize := hg.clusterSize
  have C := hcore d1.disarm hinv
  have h32 : fs0.clusterSize % 32 = 0 := by rw [← hcs]; exact C.cs32
  have hT : 32 * (chain.length * (fs0.clusterSize / 32)) = chain.length * fs0.clusterSize := by
    have := Nat.div_add_mod fs0.clusterSize 32
    rw [h32, Nat.add_zero] at this
    rw [Nat.mul_left_comm, this]
  have hr' : run (DirStream.write (.file (dirFile f chain d1.fs.clusterSize o)) bs) d1 = (r, d2) := by
    rw [hcs]; exact hr
  simp only [DirStream.write] at hr'
  have key : ∀ {r' dd}, run ((dirFile f chain d1.fs.clusterSize o).write bs) d1 = (r', dd) →
      (∀ f', dd.fault = some f' → f'.inDrop = false) → FatAgree fs0 d1.img dd.img := by
    intro r' dd h hndd
    have := fileWrite_fatKept C hd (show d1.img.WF from hwfI d1.disarm hinv) o bs hne (by rw [chainRoom_geom hg]; exact hroom)
      (by rw [hcs, ← hT]; exact hfit) h hndd
    intro q h1 h2
    exact this q (by rw [hg.fatSlice]; exact h1) (by rw [hg.fatSlice]; exact h2)
  rcases run_bind_cases hr' with ⟨⟨n, f'⟩, dd, h1, h2⟩ | ⟨e, h1, rfl⟩
  · cases h2
    exact key h1 hnd
  · exact key h1 hnd

theorem chain_fatBefore {Inv : Dev → Prop} {sz : Nat} (hgeo : FileSim.Geo fs0 sz) :
    FatBefore Inv fs0 (chain.length * (fs0.clusterSize / 32)) (chainSrc fs0 chain) := by
  refine ⟨hgeo.status_lt, fun o _ => ?_⟩
  have h1 := chainSrc_ge fs0 chain o
  have h2 := hgeo.fat_data
  have : (fatSliceOf fs0).size ≤ (fatSliceOf fs0).mirrors * (fatSliceOf fs0).size :=
    Nat.le_mul_of_pos_left _ hgeo.mirrors_pos
  omega

end chain

/-! ### the obligations of both kinds of cluster-chain directory -/

section kind
variable {fs0 : FsState} {c0 : Nat} {f g : FileH} {Inv : List Nat → Dev → Prop} {Extra : Nat → Prop}
  {DropPost : Img → Img → Prop}

/-- the slot writes of a kind, through a fresh clone (`f`) or one written through (`g`), keep the first FAT copy, wherever
    the fault hits them -/
theorem ChainKind.slotKeepsFat (K : ChainKind fs0 c0 f g Inv Extra DropPost) (chain : List Nat) (d1 d2 : Dev)
    (s : DirStream) (e : DirEntryData) (r : Except Err DirStream)
    (hP : ∃ q, q + 1 ≤ chain.length * (fs0.clusterSize / 32) ∧
      (s = chainS f chain fs0.clusterSize (32 * q) ∨ s = chainS g chain fs0.clusterSize (32 * q)))
    (hl : e.serialize.length = 32) (hd : d1.fault = none) (hinv : Inv chain d1.disarm)
    (hw : run (writeSlot s e) d1 = (r, d2)) (hnd : ∀ f, d2.fault = some f → f.inDrop = false) :
    FatAgree fs0 d1.img d2.img := by
  have hF : FatBefore (Inv chain) fs0 (chain.length * (fs0.clusterSize / 32)) (chainSrc fs0 chain) :=
    chain_fatBefore ((K.dir hinv).geo.frame (K.geom hinv).symm)
  have hKf := chainWrite_keepsFat (fs0 := fs0) (chain := chain) (Inv := Inv chain) f (fun _ h => (K.dir h).core)
    (fun _ h => K.geom h) (fun _ h => K.wf h)
  have hKg := chainWrite_keepsFat (fs0 := fs0) (chain := chain) (Inv := Inv chain) g (fun _ h => K.coreG h)
    (fun _ h => K.geom h) (fun _ h => K.wf h)
  have WF := K.wfam chain f (fun _ h => (K.dir h).core) (fun _ h => K.stampF h)
  have WG := K.wfam chain g (fun _ h => K.coreG h) (fun _ h => K.stampG h)
  obtain ⟨q, hq, rfl | rfl⟩ := hP
  · exact writeSlot_fatKept (K.invOK chain) hF WG hKg WF hKf (32 * q) (by omega) (by omega) e hl d1 hd hinv hw hnd
  · exact writeSlot_fatKept (K.invOK chain) hF WG hKg WG hKg (32 * q) (by omega) (by omega) e hl d1 hd hinv hw hnd

/-- **a slot write hit by the fault leaves a cluster-chain directory of either kind writable**: the first FAT copy is
    kept, so the chain of the directory is still in the FAT -/
theorem ChainKind.faultKeeps (K : ChainKind fs0 c0 f g Inv Extra DropPost) (chain : List Nat) :
    FaultKeeps (Inv chain) (fun s => ∃ q, q + 1 ≤ chain.length * (fs0.clusterSize / 32) ∧
      (s = chainS f chain fs0.clusterSize (32 * q) ∨ s = chainS g chain fs0.clusterSize (32 * q))) := by
  intro d1 d2 s e r hP hl hd hinv hw hf2 hnd
  have hgeo : FileSim.Geo d1.fs d1.img.size := (K.dir (d := d1.disarm) hinv).geo
  have hg12 : FsGeomEq d1.fs d2.fs := Geo.fsGeomEq (writeSlot_geo s e) (d := d1) hw
  refine K.of_tabView hinv ⟨spent_of_fired hd hw hf2, run_img_size _ d1 _ _ hw, run_wf _ d1 _ _ hw, hg12⟩
    (run_clock _ d1 _ _ hw) ?_
  exact TvIs.of_fatAgree (d := d1.disarm) (d' := d2) rfl hgeo (K.geom (d := d1.disarm) hinv) hg12
    (K.slotKeepsFat chain d1 d2 s e r hP hl hd hinv hw hnd)

/-- `seek(Start(t))` through a clone that was written through stays inside its family -/
theorem ChainKind.seekG (K : ChainKind fs0 c0 f g Inv Extra DropPost) (chain : List Nat) :
    SeekG (Inv chain) (chainS g chain fs0.clusterSize) (chain.length * (fs0.clusterSize / 32)) := by
  intro dd h o t ho ht
  have hcs : dd.fs.clusterSize = fs0.clusterSize := (K.geom h).clusterSize
  have hT : 32 * (chain.length * (fs0.clusterSize / 32)) = chain.length * dd.fs.clusterSize := by
    rw [hcs]; exact K.slots_bytes h _
  obtain ⟨d1, h1, hs1⟩ := (K.coreG h).seekStart o t (by rw [← hT]; exact ho) (by rw [← hT]; exact ht)
  rw [hcs] at h1
  refine ⟨d1, ?_, hs1.toVol⟩
  simp only [chainS, DirStream.seek]
  rw [run_bind_ok h1]
  rfl

end kind

/-! ### the obligations, kind by kind -/

/-- a slot write hit by the fault leaves the fixed root writable: size, well-formedness and geometry survive every run -/
theorem faultOK_ofRoot (s : DiskSlice) (N : Nat) (hN : s.size = 32 * N) (hv : s.viaFs = true) (hm : s.mirrors = 1)
    (hB : 0x42 ≤ s.beginOff) (d : Dev) (hfa : d.failAt = none) (hdev : s.beginOff + s.size ≤ d.img.size)
    (hwf : d.img.WF) (hfuel : N < dirFuel d.fs) : FaultOK (WView.ofRoot s N hN hv hm hB d hfa hdev hwf hfuel) :=
  ⟨fun d1 d2 st e r _ _ hf hinv hw hf2 _ =>
    ⟨spent_of_fired hf hw hf2, by rw [run_img_size _ _ _ _ hw]; exact hinv.inside, run_wf _ _ _ _ hw hinv.wf,
      (show FsGeomEq d.fs d1.fs from hinv.geom).trans (Geo.fsGeomEq (writeSlot_geo st e) (d := d1) hw), hinv.fuel⟩,
    SeekG.of_wops (root_wops hN)⟩

/-- **the root of FAT32 (a chain without an entry) satisfies `FaultOK`** -/
theorem faultOK_ofChain (d : Dev) (c0 : Nat) (chain : List Nat) (C : ChainDir d (FileH.new (some c0) none) c0 chain)
    (hwf : d.img.WF) (hfuel : chain.length * (d.fs.clusterSize / 32) < dirFuel d.fs) :
    FaultOK (WView.ofChain d c0 chain C hwf hfuel) :=
  have K := chainKind (fs0 := d.fs) (f0 := FileH.new (some c0) none) (c0 := c0) rfl
  ⟨K.faultKeeps chain, K.seekG chain⟩

/-- **sub-directories satisfy `FaultOK`** -/
theorem faultOK_ofSub (d : Dev) (c0 : Nat) (ed0 : DirEntryEditor) (chain : List Nat)
    (C : ChainDir d (FileH.new (some c0) (some ed0)) c0 chain) (hwf : d.img.WF)
    (hfuel : chain.length * (d.fs.clusterSize / 32) < dirFuel d.fs) (hname : ed0.data.name.length = 11)
    (hepos : (fatSliceOf d.fs).beginOff + (fatSliceOf d.fs).mirrors * (fatSliceOf d.fs).size ≤ ed0.pos)
    (hein : ed0.pos + 32 ≤ d.img.size)
    (heout : ∀ i, i < chain.length * (d.fs.clusterSize / 32) →
      chainSrc d.fs chain (32 * i) + 32 ≤ ed0.pos ∨ ed0.pos + 32 ≤ chainSrc d.fs chain (32 * i)) :
    FaultOK (WView.ofSub d c0 ed0 chain C hwf hfuel hname hepos hein heout) :=
  have K := subKind (fs0 := d.fs) (ed0 := ed0) (c0 := c0) (t0 := d.clock)
  ⟨K.faultKeeps chain, K.seekG chain⟩

/-- the root of FAT32 keeps the FAT under (faulted) writes, `update_accessed_date` off -/
theorem tvKeep_ofChain (d : Dev) (c0 : Nat) (chain : List Nat) (C : ChainDir d (FileH.new (some c0) none) c0 chain)
    (hwf : d.img.WF) (hfuel : chain.length * (d.fs.clusterSize / 32) < dirFuel d.fs) (hacc : d.fs.accDate = false) :
    TvKeep (WView.ofChain d c0 chain C hwf hfuel) d.fs :=
  have K := chainKind (fs0 := d.fs) (f0 := FileH.new (some c0) none) (c0 := c0) rfl
  ⟨fun _ h => (K.dir h).geo, fun _ h => K.geom h, chain_fatBefore C.geo, fun _ hq => hq.elim, hacc,
    fun _ _ he => (nomatch he), fun d1 d2 s e r hP hl hd hinv hw _ hnd => K.slotKeepsFat chain d1 d2 s e r hP hl hd hinv hw hnd⟩

/-- sub-directories keep the FAT under (faulted) writes -/
theorem tvKeep_ofSub (d : Dev) (c0 : Nat) (ed0 : DirEntryEditor) (chain : List Nat)
    (C : ChainDir d (FileH.new (some c0) (some ed0)) c0 chain) (hwf : d.img.WF)
    (hfuel : chain.length * (d.fs.clusterSize / 32) < dirFuel d.fs) (hname : ed0.data.name.length = 11)
    (hepos : (fatSliceOf d.fs).beginOff + (fatSliceOf d.fs).mirrors * (fatSliceOf d.fs).size ≤ ed0.pos)
    (hein : ed0.pos + 32 ≤ d.img.size)
    (heout : ∀ i, i < chain.length * (d.fs.clusterSize / 32) →
      chainSrc d.fs chain (32 * i) + 32 ≤ ed0.pos ∨ ed0.pos + 32 ≤ chainSrc d.fs chain (32 * i)) :
    TvKeep (WView.ofSub d c0 ed0 chain C hwf hfuel hname hepos hein heout) d.fs := by
  have K := subKind (fs0 := d.fs) (ed0 := ed0) (c0 := c0) (t0 := d.clock)
  refine ⟨fun _ h => (K.dir h).geo, fun _ h => K.geom h, chain_fatBefore C.geo, fun q hq => ?_,
    C.noacc.resolve_right (fun h => (nomatch h)), fun _ => C.clean,
    fun d1 d2 s e r hP hl hd hinv hw _ hnd => K.slotKeepsFat chain d1 d2 s e r hP hl hd hinv hw hnd⟩
  have hq' : subExtra ed0 q := hq
  have := Nat.le_mul_of_pos_left (fatSliceOf d.fs).size C.geo.mirrors_pos
  unfold subExtra at hq'
  omega

end FatVerif.DirSim

namespace FatVerif

/-! ### the fixed root -/

/-- streams of the fixed root region -/
def RootOKs (fs0 : FsState) : DirStream → Prop
  | .root s => SliceInv (rootSliceOf fs0) s
  | .file _ => False

theorem rootDir_strm_gs {fs0 : FsState} {sz : Nat}
    (hroot : (rootSliceOf fs0).beginOff + (rootSliceOf fs0).mirrors * (rootSliceOf fs0).size ≤ sz) :
    StrmGS fs0 sz (SliceOrStatus (rootSliceOf fs0) fs0) DirStream.strm (RootOKs fs0) := by
  have hR := slice_strm_gs (rootSliceOf fs0) fs0 sz hroot
  refine ⟨fun st n hst => ?_, fun st bs hst => ?_, fun st p hst => ?_⟩
  · cases st with
    | file f => exact hst.elim
    | root s => exact GS.bind (hR.read s n hst) (fun b hb => GS.pure hb)
  · cases st with
    | file f => exact hst.elim
    | root s => exact GS.bind (hR.write s bs hst) (fun b hb => GS.pure hb)
  · cases st with
    | file f => exact hst.elim
    | root s => exact GS.bind (hR.seek s p hst) (fun b hb => GS.pure hb)

theorem rootDir_dropBody_gs {fs0 : FsState} {sz : Nat} (st : DirStream) (hst : RootOKs fs0 st) :
    GS fs0 sz (SliceOrStatus (rootSliceOf fs0) fs0) st.dropBody (fun _ => True) := by
  cases st with
  | file f => exact hst.elim
  | root s => exact GS.pure trivial

/-- **every run of `write_entry` on the fixed root appends only root-region and status-byte records** -/
theorem writeEntry_root_gs {fs0 : FsState} {sz : Nat}
    (hroot : (rootSliceOf fs0).beginOff + (rootSliceOf fs0).mirrors * (rootSliceOf fs0).size ≤ sz)
    {st : DirStream} (hst : RootOKs fs0 st) (name : String) (raw : DirFileEntryData) :
    GS fs0 sz (SliceOrStatus (rootSliceOf fs0) fs0) (writeEntry st name raw) (fun _ => True) :=
  writeEntry_gsC (rootDir_strm_gs hroot) rootDir_dropBody_gs hst name raw

/-! ### the roll-back of `create_dir` on the fixed root -/

open FileSim Fat in
/-- `free_cluster_chain(n)` SUCCEEDS on a fault-free device whose FAT holds the chain of `n` (no hypothesis on the FS-info
    cache) -/
theorem run_freeClusterChain_ok (n : Nat) (cs : List Nat) (d : Dev) (hfa : d.failAt = none) (hwf : d.img.WF)
    (hg : FileSim.Geo d.fs d.img.size) (hch : Chain (tabView d.fs d.img) n cs) (hnd : cs.Nodup)
    (hin : ∀ x ∈ cs, x < d.fs.totalClusters + 2) : ∃ d', run (freeClusterChain n) d = (.ok (), d') := by
  obtain ⟨d1, it1, h1, _⟩ := run_citer_free_fine d.fs cs n (chainFuel d.fs) (fatSliceOf d.fs) d hfa hwf hg hch hnd hin
    (chain_fuel_ok hnd hin) (isFatSlice_self _)
  unfold freeClusterChain
  rw [run_bind_ok (run_getFs d)]
  simp only
  rw [run_bind_ok h1, run_modifyFs]
  exact ⟨_, rfl⟩

open FileSim Fat in
/-- in particular for a single cluster whose entry is the end-of-chain mark -/
theorem run_freeCluster_ok (c : Nat) (d : Dev) (hfa : d.failAt = none) (hwf : d.img.WF)
    (hg : FileSim.Geo d.fs d.img.size) {tv : Nat → FatValue} (htv : tabView d.fs d.img = updV tv c .eoc)
    (hin : c < d.fs.totalClusters + 2) : ∃ d', run (freeClusterChain c) d = (.ok (), d') :=
  run_freeClusterChain_ok c [c] d hfa hwf hg (Chain.last c (fun m => by rw [htv]; simp [updV])) (by simp)
    (fun x hx => by cases List.mem_singleton.mp hx; exact hin)

open FileSim Fat DirSim in
/-- **after a `write_entry` on the fixed root — whatever happened in it — `free_cluster_chain(c)` of a cluster that ended
    a chain before cannot fail** (once no device call can fail any more) -/
theorem root_free_after_writeEntry (d : Dev)
    (hin : (rootSliceOf d.fs).beginOff + (rootSliceOf d.fs).size ≤ d.img.size)
    (hgeo : FileSim.Geo d.fs d.img.size)
    (hout : (fatSliceOf d.fs).beginOff + (fatSliceOf d.fs).mirrors * (fatSliceOf d.fs).size ≤ (rootSliceOf d.fs).beginOff)
    (c : Nat) (hrange : c < d.fs.totalClusters + 2)
    (d2 d3 d4 : Dev) (name : String) (raw : DirFileEntryData) (rw : Except Err DirEntry) (e : Err)
    (hg2 : FsGeomEq d.fs d2.fs) (hsz2 : d2.img.size = d.img.size) (hwf2 : d2.img.WF)
    (htv2 : tabView d2.fs d2.img = updV (tabView d.fs d.img) c .eoc)
    (hw : run (FatVerif.writeEntry (DirStream.root (sliceAt (rootSliceOf d.fs) 0)) name raw) d2 = (rw, d3)) (hfa3 : d3.failAt = none)
    (hfree : run (freeClusterChain c) d3 = (.error e, d4)) : False := by
  have hroot : (rootSliceOf d.fs).beginOff + (rootSliceOf d.fs).mirrors * (rootSliceOf d.fs).size ≤ d.img.size := by
    have : (rootSliceOf d.fs).mirrors = 1 := rfl
    rw [this, Nat.one_mul]; exact hin
  have hst : RootOKs d.fs (DirStream.root (sliceAt (rootSliceOf d.fs) 0)) := ⟨rfl, rfl, rfl, rfl, Nat.zero_le _⟩
  obtain ⟨hg3, hlog, _⟩ := (writeEntry_root_gs (fs0 := d.fs) (sz := d.img.size) hroot hst name raw).out d2 rw d3
    (fsGeomEq_iff_sameGeom.mp hg2) hsz2 hw
  have hg3' : FsGeomEq d.fs d3.fs := fsGeomEq_iff_sameGeom.mpr hg3
  have hst42 := hgeo.status_lt
  have hms : (fatSliceOf d.fs).size ≤ (fatSliceOf d.fs).mirrors * (fatSliceOf d.fs).size :=
    Nat.le_mul_of_pos_left _ hgeo.mirrors_pos
  have hagree : FatAgree d2.fs d2.img d3.img := by
    intro q h1 h2
    rw [hg2.fatSlice] at h1 h2
    refine logAll_frame hw hwf2 hlog q (fun off bs hc => ?_)
    rcases hc with hr | hs
    · unfold SliceRec at hr
      omega
    · unfold StatusRec statusOff at hs
      split at hs <;> omega
  have htv3 : tabView d3.fs d3.img = updV (tabView d.fs d.img) c .eoc := by
    rw [(hg2.symm.trans hg3').tabView, tabView_congr (sz := d2.img.size) (by rw [hsz2]; exact hgeo.frame hg2) hagree, htv2]
  obtain ⟨d4', h4⟩ := run_freeCluster_ok c d3 hfa3 (run_wf _ _ _ _ hw hwf2)
    (by rw [(run_img_size _ _ _ _ hw).trans hsz2]; exact hgeo.frame hg3') htv3 (by rw [hg3'.totalClusters]; exact hrange)
  cases h4.symm.trans hfree

end FatVerif
