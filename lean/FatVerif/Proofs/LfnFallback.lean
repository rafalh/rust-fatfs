import FatVerif.Proofs.LfnSpec
/-! Where the name of an entry comes from: positional reading of the specification loop. -/
namespace FatVerif
namespace Lfn

/-- every run the specification loop reports is a complete run of long-name slots sitting directly before the
    entry's short slot -/
theorem specLoop_run_sound (sv : Bool) : ∀ (rest : List (List Nat)) (idx : Nat) (pend consumed : List (List Nat)),
    consumed.length = idx → (∃ pre0, consumed = pre0 ++ pend.reverse) → (∀ s ∈ pend, slotClass s = .lfn) →
    ∀ e ∈ DirSpec.specLoop sv rest idx pend, ∀ r, e.run = some r →
      ∃ pre R post, consumed ++ rest = pre ++ R ++ e.sfn :: post ∧ e.endIdx = pre.length + R.length + 1 ∧
        CompleteRun (lfnChecksum (sfnName e.sfn)) R ∧ (∀ s ∈ R, slotClass s = .lfn) ∧ r = runUnits R := by
  intro rest
  induction rest with
  | nil => intro _ _ _ _ _ _ e he; simp [DirSpec.specLoop] at he
  | cons s rest ih =>
    intro idx pend consumed hlen hpre hlfn e he r hr
    have hcons : consumed ++ s :: rest = (consumed ++ [s]) ++ rest := by simp
    have hlen' : (consumed ++ [s]).length = idx + 1 := by simp [hlen]
    have reset : ∀ e ∈ DirSpec.specLoop sv rest (idx + 1) [], e.run = some r →
        ∃ pre R post, consumed ++ s :: rest = pre ++ R ++ e.sfn :: post ∧ e.endIdx = pre.length + R.length + 1 ∧
          CompleteRun (lfnChecksum (sfnName e.sfn)) R ∧ (∀ s ∈ R, slotClass s = .lfn) ∧ r = runUnits R := by
      intro e he hr
      rw [hcons]
      exact ih (idx + 1) [] (consumed ++ [s]) hlen' ⟨consumed ++ [s], by simp⟩ (by simp) e he r hr
    rw [specLoop_cons] at he
    cases ha : act sv s <;> rw [ha] at he
    · cases he
    · exact reset e he hr
    · rw [hcons]
      obtain ⟨pre0, hp0⟩ := hpre
      refine ih (idx + 1) (s :: pend) (consumed ++ [s]) hlen' ⟨pre0, by simp [hp0]⟩ ?_ e he r hr
      intro x hx
      rcases List.mem_cons.1 hx with rfl | hx
      · exact act_grow ha
      · exact hlfn x hx
    · rcases List.mem_cons.1 he with rfl | hm
      · simp only at hr ⊢
        obtain ⟨R, Q0, e1, e2, e3⟩ := specRun_sound _ pend 1 [] r (by simp [TailOk]) (Nat.le_refl 1)
          (by simpa [tailUnits] using hr)
        simp only [List.append_nil] at e2 e3
        obtain ⟨pre0, hp0⟩ := hpre
        refine ⟨pre0 ++ Q0.reverse, R, rest, ?_, ?_, e2, ?_, e3⟩
        · rw [hp0, e1]; simp
        · rw [← hlen, hp0, e1]; simp; omega
        · intro x hx
          exact hlfn x (by rw [e1]; simp [hx])
      · exact reset e hm hr

end Lfn
end FatVerif
