import FatVerif.Model.Bpb
/-! Basic lemmas for the boot-sector model: the `Except` monad, checked arithmetic, powers of two, byte ranges. -/
namespace FatVerif

/-! ### `Except` -/
section
variable {ε α β : Type}

@[simp] theorem ebind_ok (a : α) (f : α → Except ε β) : (Except.ok a >>= f) = f a := rfl
@[simp] theorem ebind_error (e : ε) (f : α → Except ε β) : ((Except.error e : Except ε α) >>= f) = .error e := rfl
@[simp] theorem epure_eq (a : α) : (pure a : Except ε α) = .ok a := rfl

theorem ebind_eq_ok {x : Except ε α} {f : α → Except ε β} {b : β} :
    (x >>= f) = .ok b ↔ ∃ a, x = .ok a ∧ f a = .ok b := by
  cases x <;> simp

theorem ebind_eq_error {x : Except ε α} {f : α → Except ε β} {e : ε} :
    (x >>= f) = .error e ↔ x = .error e ∨ ∃ a, x = .ok a ∧ f a = .error e := by
  cases x <;> simp
end

/-! ### checked arithmetic -/

theorem u32Add_ok {a b c : Nat} : u32Add a b = .ok c ↔ a + b < 4294967296 ∧ c = a + b := by
  unfold u32Add; split <;> simp_all <;> omega
theorem u32Sub_ok {a b c : Nat} : u32Sub a b = .ok c ↔ b ≤ a ∧ c = a - b := by
  unfold u32Sub; split <;> simp_all <;> omega
theorem u32Mul_ok {a b c : Nat} : u32Mul a b = .ok c ↔ a * b < 4294967296 ∧ c = a * b := by
  unfold u32Mul; split <;> simp_all <;> omega
theorem u32Div_ok {a b c : Nat} : u32Div a b = .ok c ↔ b ≠ 0 ∧ c = a / b := by
  unfold u32Div; split <;> simp_all <;> omega
theorem u32Rem_ok {a b c : Nat} : u32Rem a b = .ok c ↔ b ≠ 0 ∧ c = a % b := by
  unfold u32Rem; split <;> simp_all <;> omega
theorem u64Mul_ok {a b c : Nat} : u64Mul a b = .ok c ↔ a * b < 18446744073709551616 ∧ c = a * b := by
  unfold u64Mul; split <;> simp_all <;> omega

theorem u32Add_of_lt {a b : Nat} (h : a + b < 4294967296) : u32Add a b = .ok (a + b) := by simp [u32Add, h]
theorem u32Sub_of_le {a b : Nat} (h : b ≤ a) : u32Sub a b = .ok (a - b) := by simp [u32Sub, h]
theorem u32Mul_of_lt {a b : Nat} (h : a * b < 4294967296) : u32Mul a b = .ok (a * b) := by simp [u32Mul, h]
theorem u32Div_of_ne {a b : Nat} (h : b ≠ 0) : u32Div a b = .ok (a / b) := by simp [u32Div, h]
theorem u32Rem_of_ne {a b : Nat} (h : b ≠ 0) : u32Rem a b = .ok (a % b) := by simp [u32Rem, h]
theorem u64Mul_of_lt {a b : Nat} (h : a * b < 18446744073709551616) : u64Mul a b = .ok (a * b) := by
  simp [u64Mul, h]

theorem u64Add_of_lt {a b : Nat} (h : a + b < 18446744073709551616) : u64Add a b = .ok (a + b) := by
  simp [u64Add, h]
theorem u64Div_of_ne {a b : Nat} (h : b ≠ 0) : u64Div a b = .ok (a / b) := by simp [u64Div, h]

theorem u32Add_error {a b : Nat} {e : Err} : u32Add a b = .error e → e = .panic ∧ 4294967296 ≤ a + b := by
  unfold u32Add; split <;> simp_all <;> omega
theorem u32Mul_error {a b : Nat} {e : Err} : u32Mul a b = .error e → e = .panic ∧ 4294967296 ≤ a * b := by
  unfold u32Mul; split <;> simp_all <;> omega

/-! ### powers of two -/

/-- a power of two with property `p` is one of the table's entries with that property (a short list, by evaluation,
    when `p` bounds the number) -/
theorem mem_filter_pow2s {n : Nat} (h : isPowerOfTwo n = true) (p : Nat → Bool) (hp : p n = true) :
    n ∈ pow2s.filter p :=
  List.mem_filter.2 ⟨List.contains_iff_mem.1 h, hp⟩

theorem isPowerOfTwo_u8 {n : Nat} (h : isPowerOfTwo n = true) (hn : n < 256) :
    n = 1 ∨ n = 2 ∨ n = 4 ∨ n = 8 ∨ n = 16 ∨ n = 32 ∨ n = 64 ∨ n = 128 := by
  have hm := mem_filter_pow2s h (fun k => decide (k < 256)) (decide_eq_true hn)
  rw [show pow2s.filter (fun k => decide (k < 256)) = [1, 2, 4, 8, 16, 32, 64, 128] from by decide] at hm
  simpa only [List.mem_cons, List.not_mem_nil, or_false] using hm

theorem isPowerOfTwo_sector {n : Nat} (h : isPowerOfTwo n = true) (h1 : 512 ≤ n) (h2 : n ≤ 4096) :
    n = 512 ∨ n = 1024 ∨ n = 2048 ∨ n = 4096 := by
  have hm := mem_filter_pow2s h (fun k => decide (512 ≤ k ∧ k ≤ 4096)) (decide_eq_true ⟨h1, h2⟩)
  rw [show pow2s.filter (fun k => decide (512 ≤ k ∧ k ≤ 4096)) = [512, 1024, 2048, 4096] from by decide] at hm
  simpa only [List.mem_cons, List.not_mem_nil, or_false] using hm

/-! ### bytes -/

theorem getD_lt_256 {b : List Nat} (hb : ∀ x ∈ b, x < 256) (i : Nat) : b.getD i 0 < 256 := by
  rw [List.getD_eq_getElem?_getD]
  cases h : b[i]? with
  | none => simp
  | some x => simp; exact hb x (List.mem_of_getElem? h)

theorem u8At_lt {b : List Nat} (hb : IsSector b) (i : Nat) : u8At b i < 256 := getD_lt_256 hb.2 i

theorem u16At_lt {b : List Nat} (hb : IsSector b) (i : Nat) : u16At b i < 65536 := by
  have h0 := getD_lt_256 hb.2 i
  have h1 := getD_lt_256 hb.2 (i + 1)
  unfold u16At le16; omega

theorem u32At_lt {b : List Nat} (hb : IsSector b) (i : Nat) : u32At b i < 4294967296 := by
  have h0 := getD_lt_256 hb.2 i
  have h1 := getD_lt_256 hb.2 (i + 1)
  have h2 := getD_lt_256 hb.2 (i + 2)
  have h3 := getD_lt_256 hb.2 (i + 3)
  unfold u32At le32; omega

end FatVerif
