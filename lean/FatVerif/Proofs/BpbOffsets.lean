import FatVerif.Proofs.BpbProbe
/-! Offset arithmetic on an accepted geometry (C11.1 / C20.1–2): cluster → byte offset, FAT entry offsets, FAT and
fixed-root slices. -/
namespace FatVerif
open Bpb

/-- pure arithmetic core of `offset_arith` -/
theorem offset_bounds {spc bps ts fds c : Nat} (hspc : 1 ≤ spc) (hbps : bps ≤ 4096)
    (hts : ts < 4294967296) (hc2 : 2 ≤ c) (hc : c < (ts - fds) / spc + 2) :
    (c - 2) * spc + spc ≤ ts - fds ∧
    fds * bps ≤ (fds + (c - 2) * spc) * bps ∧
    (fds + (c - 2) * spc) * bps + spc * bps ≤ ts * bps ∧
    ts * bps < 17592186044416 := by
  have hX : (c - 2) * spc + spc ≤ ts - fds := by
    have h1 : (c - 2 + 1) * spc ≤ (ts - fds) / spc * spc := Nat.mul_le_mul_right _ (by omega)
    rw [Nat.add_mul, Nat.one_mul] at h1
    exact Nat.le_trans h1 (Nat.div_mul_le_self _ _)
  refine ⟨hX, Nat.mul_le_mul_right _ (Nat.le_add_right _ _), ?_, ?_⟩
  · rw [← Nat.add_mul]; exact Nat.mul_le_mul_right _ (by omega)
  · calc ts * bps ≤ 4294967295 * 4096 := Nat.mul_le_mul (by omega) (by omega)
      _ < 17592186044416 := by decide

/-- `offset_from_cluster` on a validated boot sector: exact, no wrap, inside the data area -/
theorem offsetFromCluster_ok {p : Bpb} (hr : p.InRange) (hv : p.Valid) {c : Nat} (hc2 : 2 ≤ c)
    (hc : c < p.tcNat + 2) :
    offsetFromCluster p p.fdsNat c = .ok ((p.fdsNat + (c - 2) * p.sectorsPerCluster) * p.bytesPerSector) ∧
    p.fdsNat * p.bytesPerSector ≤ (p.fdsNat + (c - 2) * p.sectorsPerCluster) * p.bytesPerSector ∧
    (p.fdsNat + (c - 2) * p.sectorsPerCluster) * p.bytesPerSector + p.sectorsPerCluster * p.bytesPerSector
      ≤ p.totalSectors * p.bytesPerSector ∧
    p.totalSectors * p.bytesPerSector < 17592186044416 := by
  obtain ⟨hfds, hts, _, hb, hs, _⟩ := hv.nums hr
  obtain ⟨h1, h2, h3, h4⟩ := offset_bounds hs hb hts hc2 hc
  refine ⟨?_, h2, h3, h4⟩
  unfold offsetFromCluster sectorFromCluster sectorsFromClusters bytesFromSectors
  rw [u32Sub_of_le hc2, ebind_ok, u32Mul_of_lt (by omega), ebind_ok, u32Add_of_lt (by omega), ebind_ok,
    u64Mul_of_lt (by omega)]

/-- `sector_from_cluster` on a validated boot sector: exact, no `u32` wrap, below the declared sector count -/
theorem sectorFromCluster_ok {p : Bpb} (hr : p.InRange) (hv : p.Valid) {c : Nat} (hc2 : 2 ≤ c)
    (hc : c < p.tcNat + 2) :
    sectorFromCluster p p.fdsNat c = .ok (p.fdsNat + (c - 2) * p.sectorsPerCluster) ∧
    p.fdsNat + (c - 2) * p.sectorsPerCluster + p.sectorsPerCluster ≤ p.totalSectors := by
  obtain ⟨hfds, hts, _, hb, hs, _⟩ := hv.nums hr
  obtain ⟨h1, _, _, _⟩ := offset_bounds hs hb hts hc2 hc
  refine ⟨?_, by omega⟩
  unfold sectorFromCluster sectorsFromClusters
  rw [u32Sub_of_le hc2, ebind_ok, u32Mul_of_lt (by omega), ebind_ok, u32Add_of_lt (by omega)]

/-! ### every getter is total on a validated boot sector -/

theorem sectorsPerAllFats_valid {p : Bpb} (hv : p.Valid) :
    p.sectorsPerAllFats = .ok (p.fats * p.sectorsPerFat) := by
  unfold sectorsPerAllFats; rw [u32Mul_of_lt hv.fatsXspf]

/-- `sectors_from_clusters` / `bytes_from_clusters` are total up to the cluster count -/
theorem sectorsFromClusters_valid {p : Bpb} (hr : p.InRange) {k : Nat} (hk : k ≤ p.tcNat) :
    p.sectorsFromClusters k = .ok (k * p.sectorsPerCluster) ∧ k * p.sectorsPerCluster ≤ p.totalSectors - p.fdsNat := by
  have hts := totalSectors_lt hr
  have hle : k * p.sectorsPerCluster ≤ p.totalSectors - p.fdsNat :=
    Nat.le_trans (Nat.mul_le_mul_right _ hk) (Nat.div_mul_le_self _ _)
  refine ⟨?_, hle⟩
  unfold sectorsFromClusters; rw [u32Mul_of_lt (by omega)]

theorem bytesFromClusters_valid {p : Bpb} (hr : p.InRange) {k : Nat} (hk : k ≤ p.tcNat) :
    bytesFromClusters p k = .ok (k * p.sectorsPerCluster * p.bytesPerSector) := by
  obtain ⟨h1, h2⟩ := sectorsFromClusters_valid hr hk
  have hts := totalSectors_lt hr
  unfold bytesFromClusters
  rw [h1, ebind_ok, bytesFromSectors_total hr (by omega)]

/-- `clusters_from_bytes` is total for every byte count below 2^63 -/
theorem clustersFromBytes_valid {p : Bpb} (hr : p.InRange) (hv : p.Valid) {n : Nat} (hn : n < 9223372036854775808) :
    p.clustersFromBytes n =
      .ok ((n + p.sectorsPerCluster * p.bytesPerSector - 1) / (p.sectorsPerCluster * p.bytesPerSector) % 4294967296) := by
  have h1 := hr.bps; have h2 := hr.spc
  have hm : p.sectorsPerCluster * p.bytesPerSector < 256 * 65536 := Nat.mul_lt_mul'' h2 h1
  have hpos : 0 < p.sectorsPerCluster * p.bytesPerSector := by
    have := hv.nums hr
    exact Nat.mul_pos (by omega) (by omega)
  unfold clustersFromBytes
  rw [clusterSize_eq hr, ebind_ok, u64Add_of_lt (by omega), ebind_ok]
  unfold u64Sub u64Div
  rw [if_pos (by omega), ebind_ok, if_neg (by omega), ebind_ok]
  rfl

/-- FAT entry offsets stay inside one FAT copy of `fatBytes` bytes when the FAT has an entry for every cluster -/
theorem fatEntry_inside {bits fatBytes total c : Nat} (hbits : bits = 12 ∨ bits = 16 ∨ bits = 32)
    (hfat : total + 2 ≤ fatBytes * 8 / bits) (hc : c < total + 2) :
    (bits = 32 → c * 4 + 4 ≤ fatBytes) ∧ (bits = 16 → c * 2 + 2 ≤ fatBytes) ∧
    (bits = 12 → c + c / 2 + 2 ≤ fatBytes) := by
  rcases hbits with rfl | rfl | rfl <;> refine ⟨?_, ?_, ?_⟩ <;> intro h <;> omega

/-- the `u32` products `cluster * 4`, `cluster * 2`, `cluster + cluster / 2` of `table.rs` do not wrap -/
theorem fatEntry_nowrap {p : Bpb} (hv : p.Valid) {c : Nat} (hc : c < p.tcNat + 2) :
    c * 4 < 4294967296 ∧ c * 2 < 4294967296 ∧ c + c / 2 < 4294967296 := by
  have := hv.limit
  omega

/-- first sector, length and replication of the FAT slice (`fat_slice`), in sectors -/
theorem fatSlice_ok {p : Bpb} (hr : p.InRange) (hv : p.Valid)
    (hact : p.mirroringEnabled = false → p.activeFat < p.fats) :
    ∃ first, fatSliceFirstSector p = .ok first ∧
      fatSlice p = .ok { sBegin := first * p.bytesPerSector, size := p.sectorsPerFat * p.bytesPerSector,
                         mirrors := fatSliceMirrors p } ∧
      p.reservedSectors ≤ first ∧
      first + fatSliceMirrors p * p.sectorsPerFat ≤ p.reservedSectors + p.fats * p.sectorsPerFat := by
  have hrs := hr.rsvd
  have hspf := sectorsPerFat_lt hr
  have hbps := hr.bps
  have hfx := hv.fatsXspf
  obtain ⟨hfds, hts, _⟩ := hv.nums hr
  have hsz : p.sectorsPerFat * p.bytesPerSector < 18446744073709551616 := by
    have : p.sectorsPerFat * p.bytesPerSector < 4294967296 * 65536 := Nat.mul_lt_mul'' hspf hbps
    omega
  cases hm : p.mirroringEnabled with
  | true =>
    refine ⟨p.reservedSectors, by simp [fatSliceFirstSector, hm], ?_, Nat.le_refl _, ?_⟩
    · have : p.reservedSectors * p.bytesPerSector < 65536 * 65536 := Nat.mul_lt_mul'' hrs hbps
      simp only [fatSlice, fatSliceFirstSector, hm, sliceFromSectors, bytesFromSectors, ite_true, epure_eq, ebind_ok]
      rw [u64Mul_of_lt (by omega), ebind_ok, u64Mul_of_lt hsz, ebind_ok]
    · simp [fatSliceMirrors, hm]
  | false =>
    have ha := hact hm
    have hle : (p.activeFat + 1) * p.sectorsPerFat ≤ p.fats * p.sectorsPerFat :=
      Nat.mul_le_mul_right _ ha
    rw [Nat.add_mul, Nat.one_mul] at hle
    have hfirst : fatSliceFirstSector p = .ok (p.reservedSectors + p.activeFat * p.sectorsPerFat) := by
      simp only [fatSliceFirstSector, hm, Bool.false_eq_true, ite_false]
      rw [u32Mul_of_lt (by omega), ebind_ok, u32Add_of_lt]
      unfold fdsNat at hfds; omega
    refine ⟨_, hfirst, ?_, by omega, ?_⟩
    · have h32 : p.reservedSectors + p.activeFat * p.sectorsPerFat < 4294967296 := by
        unfold fdsNat at hfds; omega
      have : (p.reservedSectors + p.activeFat * p.sectorsPerFat) * p.bytesPerSector < 4294967296 * 65536 :=
        Nat.mul_lt_mul'' h32 hbps
      simp only [fatSlice, hfirst, sliceFromSectors, bytesFromSectors, ebind_ok]
      rw [u64Mul_of_lt (by omega), ebind_ok, u64Mul_of_lt hsz, ebind_ok]
      rfl
    · simp only [fatSliceMirrors, hm, Bool.false_eq_true, ite_false]; omega

/-- the fixed root directory slice of FAT12/16 (`root_dir()`), in sectors: it starts right after the FATs and ends at
    the first data sector -/
theorem rootDirSlice_ok {p : Bpb} (hr : p.InRange) (hv : p.Valid) :
    rootDirSlice p p.fdsNat p.rdsNat =
      .ok { sBegin := (p.reservedSectors + p.fats * p.sectorsPerFat) * p.bytesPerSector,
            size := p.rdsNat * p.bytesPerSector, mirrors := 1 } := by
  have hbps := hr.bps
  obtain ⟨hfds, hts, hb, _⟩ := hv.nums hr
  have hrd := rdsNat_le hr hb
  have e : p.fdsNat - p.rdsNat = p.reservedSectors + p.fats * p.sectorsPerFat := by unfold fdsNat; omega
  have h32 : p.reservedSectors + p.fats * p.sectorsPerFat < 4294967296 := by unfold fdsNat at hfds; omega
  have h1 : (p.reservedSectors + p.fats * p.sectorsPerFat) * p.bytesPerSector < 4294967296 * 65536 :=
    Nat.mul_lt_mul'' h32 hbps
  have h2 : p.rdsNat * p.bytesPerSector < 4097 * 65536 := Nat.mul_lt_mul'' (by omega) hbps
  unfold rootDirSlice sliceFromSectors bytesFromSectors
  rw [u32Sub_of_le (by unfold fdsNat; omega), ebind_ok, e, u64Mul_of_lt (by omega), ebind_ok,
    u64Mul_of_lt (by omega), ebind_ok]
  rfl

end FatVerif
