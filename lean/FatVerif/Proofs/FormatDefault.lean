import FatVerif.Proofs.FormatOk
/-! Default options (`FormatVolumeOptions::new()`, 512-byte sectors): formatting succeeds from 42 sectors up. -/
namespace FatVerif.Format

theorem nextPow2_le_of_le (n m : Nat) (hm : m ≤ 64) (h : n ≤ 2 ^ m) : nextPow2 n ≤ 2 ^ m := by
  obtain ⟨k, _, h3, _, h5⟩ := nextPow2_spec n (Nat.le_trans h (Nat.pow_le_pow_right (by omega) hm))
  rw [h3]
  apply Nat.pow_le_pow_right (by omega)
  rcases h5 with h5 | h5
  · omega
  · apply Nat.le_of_not_lt; intro hlt
    have := Nat.pow_le_pow_right (show 0 < 2 by omega) (show m ≤ k - 1 by omega)
    omega

theorem default_bpc_eq (t : Nat) :
    effectiveBpc defaultOpts t =
      (rawBytesPerCluster (t * 512) (estimateFatType (t * 512)) >>= fun x => clampCluster x 512) := rfl

theorem default_bpc_fat12 (t : Nat) (h : t < 8400) :
    effectiveBpc defaultOpts t = clampCluster ((nextPow2 (t * 512) / 1048576 * 512) % 4294967296) 512 := by
  have e : estimateFatType (t * 512) = .fat12 := by unfold estimateFatType; rw [if_pos (by omega)]
  rw [default_bpc_eq, e]; rfl

theorem clamp_small (x : Nat) (h : x ≤ 1) : clampCluster ((x * 512) % 4294967296) 512 = .ok 512 := by
  have : x = 0 ∨ x = 1 := by omega
  rcases this with rfl | rfl <;> rfl

theorem default_bpc_1 (t : Nat) (h : t ≤ 2048) : effectiveBpc defaultOpts t = .ok 512 := by
  rw [default_bpc_fat12 t (by omega)]
  have := nextPow2_le_of_le (t * 512) 20 (by omega) (by omega)
  exact clamp_small _ (by omega)

theorem default_bpc_2 (t : Nat) (h1 : 2048 < t) (h2 : t ≤ 4096) : effectiveBpc defaultOpts t = .ok 1024 := by
  rw [default_bpc_fat12 t (by omega), nextPow2_eq (t * 512) 20 (by omega) (by omega) (by omega)]; rfl

theorem default_bpc_3 (t : Nat) (h1 : 4096 < t) (h2 : t ≤ 8192) : effectiveBpc defaultOpts t = .ok 2048 := by
  rw [default_bpc_fat12 t (by omega), nextPow2_eq (t * 512) 21 (by omega) (by omega) (by omega)]; rfl

theorem default_bpc_4 (t : Nat) (h1 : 8192 < t) (h2 : t < 8400) : effectiveBpc defaultOpts t = .ok 4096 := by
  rw [default_bpc_fat12 t (by omega), nextPow2_eq (t * 512) 22 (by omega) (by omega) (by omega)]; rfl

theorem default_fat16 (t : Nat) (h1 : 8400 ≤ t) (h2 : t < 1048576) : estimateFatType (t * 512) = .fat16 := by
  unfold estimateFatType; rw [if_neg (by omega), if_pos (by omega)]

theorem default_bpc_5 (t : Nat) (h1 : 8400 ≤ t) (h2 : t ≤ 32768) : effectiveBpc defaultOpts t = .ok 1024 := by
  rw [default_bpc_eq, default_fat16 t h1 (by omega)]
  simp only [rawBytesPerCluster]
  rw [if_pos (by omega), ebind_ok]; rfl

theorem default_bpc_6 (t : Nat) (h1 : 32768 < t) (h2 : t ≤ 262144) : effectiveBpc defaultOpts t = .ok 2048 := by
  rw [default_bpc_eq, default_fat16 t (by omega) (by omega)]
  simp only [rawBytesPerCluster]
  rw [if_neg (by omega), if_pos (by omega), ebind_ok]; rfl

theorem default_bpc_fat16_big (t : Nat) (h1 : 262144 < t) (h2 : t < 1048576) :
    effectiveBpc defaultOpts t =
      (chkMul32 ((nextPow2 (t * 512) / (64 * 1048576)) % 4294967296) 1024 >>= fun x => clampCluster x 512) := by
  rw [default_bpc_eq, default_fat16 t (by omega) (by omega)]
  simp only [rawBytesPerCluster]
  rw [if_neg (by omega), if_neg (by omega)]

theorem default_bpc_7 (t : Nat) (h1 : 262144 < t) (h2 : t ≤ 524288) : effectiveBpc defaultOpts t = .ok 4096 := by
  rw [default_bpc_fat16_big t h1 (by omega), nextPow2_eq (t * 512) 27 (by omega) (by omega) (by omega)]; rfl

theorem default_bpc_8 (t : Nat) (h1 : 524288 < t) (h2 : t < 1048576) : effectiveBpc defaultOpts t = .ok 8192 := by
  rw [default_bpc_fat16_big t (by omega) h2, nextPow2_eq (t * 512) 28 (by omega) (by omega) (by omega)]; rfl

theorem default_fat32 (t : Nat) (h1 : 1048576 ≤ t) : estimateFatType (t * 512) = .fat32 := by
  unfold estimateFatType; rw [if_neg (by omega), if_neg (by omega)]

theorem default_bpc_9 (t : Nat) (h1 : 1048576 ≤ t) (h2 : t ≤ 16777216) : effectiveBpc defaultOpts t = .ok 4096 := by
  rw [default_bpc_eq, default_fat32 t h1]
  simp only [rawBytesPerCluster]
  rw [if_neg (by omega), if_pos (by omega), ebind_ok]; rfl

theorem default_bpc_fat32_big (t : Nat) (h1 : 16777216 < t) :
    effectiveBpc defaultOpts t =
      (chkMul32 ((nextPow2 (t * 512) / (2 * 1073741824)) % 4294967296) 1024 >>= fun x => clampCluster x 512) := by
  rw [default_bpc_eq, default_fat32 t (by omega)]
  simp only [rawBytesPerCluster]
  rw [if_neg (by omega), if_neg (by omega)]

theorem default_bpc_big (t k : Nat) (hk : k < 64) (h0 : 16777216 < t) (h1 : 2 ^ k < t * 512) (h2 : t * 512 ≤ 2 ^ (k + 1))
    (r : Nat)
    (hr : (chkMul32 ((2 ^ (k + 1) / (2 * 1073741824)) % 4294967296) 1024 >>= fun x => clampCluster x 512) = .ok r) :
    effectiveBpc defaultOpts t = .ok r := by
  rw [default_bpc_fat32_big t h0, nextPow2_eq (t * 512) k hk h1 h2]; exact hr

/-- above 2^26 sectors the heuristic value is clamped to 32 KiB -/
theorem default_bpc_10 (t : Nat) (h1 : 67108864 < t) (ht : t < 4294967296) :
    effectiveBpc defaultOpts t = .ok 32768 := by
  by_cases c1 : t ≤ 134217728
  · exact default_bpc_big t 35 (by omega) (by omega) (by omega) (by omega) _ rfl
  by_cases c2 : t ≤ 268435456
  · exact default_bpc_big t 36 (by omega) (by omega) (by omega) (by omega) _ rfl
  by_cases c3 : t ≤ 536870912
  · exact default_bpc_big t 37 (by omega) (by omega) (by omega) (by omega) _ rfl
  by_cases c4 : t ≤ 1073741824
  · exact default_bpc_big t 38 (by omega) (by omega) (by omega) (by omega) _ rfl
  by_cases c5 : t ≤ 2147483648
  · exact default_bpc_big t 39 (by omega) (by omega) (by omega) (by omega) _ rfl
  · exact default_bpc_big t 40 (by omega) (by omega) (by omega) (by omega) _ rfl

/-! ### some FAT width always fits -/

theorem fromClusters_of_range {ft : FatType} {cl : Nat} (h1 : minClusters ft ≤ cl) (h2 : cl ≤ maxClusters ft) :
    ft = FatType.fromClusters cl := by
  unfold FatType.fromClusters
  cases ft <;> simp only [minClusters, maxClusters] at h1 h2
  · rw [if_pos (by omega)]
  · rw [if_neg (by omega), if_pos (by omega)]
  · rw [if_neg (by omega), if_neg (by omega)]

/-- the cluster count lies where every FAT size within the bounds of the rounded-up quotient puts it -/
theorem clusters_in_range {t spc bits res rds lo hi : Nat} (ht : t < 4294967296) (hbits : 0 < bits)
    (hb : bits ≤ 512) (hspc : 0 < spc) (h : res + rds + 8 < t)
    (H : ∀ s, t - res - rds + 2 * spc ≤ s * (spc * 512 * 8 / bits) + s * 2 →
      s * (spc * 512 * 8 / bits) + s * 2 < t - res - rds + 2 * spc + (spc * 512 * 8 / bits + 2) →
      lo ≤ (t - res - rds - s * 2) / spc ∧ (t - res - rds - s * 2) / spc ≤ hi) :
    lo ≤ clOf t spc res rds 2 (spfOf t 512 spc bits res rds 2) ∧
    clOf t spc res rds 2 (spfOf t 512 spc bits res rds 2) ≤ hi := by
  obtain ⟨h1, h2, _⟩ := spfOf_bounds (s := spfOf t 512 spc bits res rds 2) rfl ht hbits hb hspc (by omega) (by omega) h
  exact H _ h1 h2

/-- for default options: the heuristic's cluster size on each range of volume sizes, and a width that is consistent
    with its own cluster count there -/
theorem default_choice (t : Nat) (h42 : 42 ≤ t) (ht : t < 4294967296) :
    ∃ spc ft, effectiveBpc defaultOpts t = .ok (512 * spc) ∧ 0 < spc ∧ spc ≤ 255 ∧
      ¬ t ≤ reservedFor ft + determineRootDirSectors 512 512 ft + 8 ∧
      minClusters ft ≤ clOf t spc (reservedFor ft) (determineRootDirSectors 512 512 ft) 2
        (spfOf t 512 spc ft.bits (reservedFor ft) (determineRootDirSectors 512 512 ft) 2) ∧
      clOf t spc (reservedFor ft) (determineRootDirSectors 512 512 ft) 2
        (spfOf t 512 spc ft.bits (reservedFor ft) (determineRootDirSectors 512 512 ft) 2) ≤ maxClusters ft := by
  -- `try_fs_layout` refuses `total ≤ reserved + root sectors + 8`: 1 + 32 + 8 for FAT12/16 (512 root entries), 8 + 0 + 8
  -- for FAT32.  The ranges are those of `estimate_fat_type` (FAT12 below 4200 KiB = 8400 sectors, FAT16 below
  -- 512 MiB = 1048576 sectors), cut where the cluster size of `determine_bytes_per_cluster` doubles.
  have h41 : ¬ t ≤ 41 := by omega
  have f12 := fun spc hs => clusters_in_range (t := t) (spc := spc) (bits := 12) (res := 1) (rds := 32) (lo := 0)
    (hi := 4084) ht (by omega) (by omega) hs (by omega)
  have f16 := fun spc hs => clusters_in_range (t := t) (spc := spc) (bits := 16) (res := 1) (rds := 32) (lo := 4085)
    (hi := 65524) ht (by omega) (by omega) hs (by omega)
  by_cases c1 : t ≤ 2048
  · exact ⟨1, .fat12, default_bpc_1 t c1, by omega, by omega, h41, f12 1 (by omega) fun s h1 h2 => by omega⟩
  by_cases c2 : t ≤ 4096
  · exact ⟨2, .fat12, default_bpc_2 t (by omega) c2, by omega, by omega, h41, f12 2 (by omega) fun s h1 h2 => by omega⟩
  by_cases c3 : t ≤ 8192
  · exact ⟨4, .fat12, default_bpc_3 t (by omega) c3, by omega, by omega, h41, f12 4 (by omega) fun s h1 h2 => by omega⟩
  by_cases c4 : t < 8400
  · exact ⟨8, .fat12, default_bpc_4 t (by omega) c4, by omega, by omega, h41, f12 8 (by omega) fun s h1 h2 => by omega⟩
  by_cases c5 : t ≤ 32768
  · exact ⟨2, .fat16, default_bpc_5 t (by omega) c5, by omega, by omega, h41, f16 2 (by omega) fun s h1 h2 => by omega⟩
  by_cases c6 : t ≤ 262144
  · exact ⟨4, .fat16, default_bpc_6 t (by omega) c6, by omega, by omega, h41, f16 4 (by omega) fun s h1 h2 => by omega⟩
  by_cases c7 : t ≤ 524288
  · exact ⟨8, .fat16, default_bpc_7 t (by omega) c7, by omega, by omega, h41, f16 8 (by omega) fun s h1 h2 => by omega⟩
  by_cases c8 : t < 1048576
  · exact ⟨16, .fat16, default_bpc_8 t (by omega) c8, by omega, by omega, h41, f16 16 (by omega) fun s h1 h2 => by omega⟩
  have h16 : ¬ t ≤ 16 := by omega
  have f32 := fun spc hs => clusters_in_range (t := t) (spc := spc) (bits := 32) (res := 8) (rds := 0) (lo := 65525)
    (hi := 268435444) ht (by omega) (by omega) hs (by omega)
  by_cases c9 : t ≤ 16777216
  · exact ⟨8, .fat32, default_bpc_9 t (by omega) c9, by omega, by omega, h16, f32 8 (by omega) fun s h1 h2 => by omega⟩
  by_cases c10 : t ≤ 33554432
  · exact ⟨16, .fat32, default_bpc_big t 33 (by omega) (by omega) (by omega) (by omega) _ rfl, by omega, by omega, h16,
      f32 16 (by omega) fun s h1 h2 => by omega⟩
  by_cases c11 : t ≤ 67108864
  · exact ⟨32, .fat32, default_bpc_big t 34 (by omega) (by omega) (by omega) (by omega) _ rfl, by omega, by omega, h16,
      f32 32 (by omega) fun s h1 h2 => by omega⟩
  · exact ⟨64, .fat32, default_bpc_10 t (by omega) ht, by omega, by omega, h16, f32 64 (by omega) fun s h1 h2 => by omega⟩

theorem accepted_default : Accepted defaultOpts :=
  ⟨by simp [defaultOpts], by intro c h; simp [defaultOpts] at h, Or.inr rfl, by simp [defaultOpts]⟩

/-- C06.4, first half: default options succeed for every size from 42 sectors up -/
theorem default_ok (t : Nat) (h42 : 42 ≤ t) (ht : t < 4294967296) : ∃ r, formatChecked defaultOpts t = .ok r := by
  obtain ⟨spc, ft, hc, hpos, h255, hns, hmin, hmax⟩ := default_choice t h42 ht
  have hdiv : 512 * spc / 512 = spc := Nat.mul_div_cancel_left _ (by omega)
  have e1 : defaultOpts.bps = 512 := rfl
  have e2 : defaultOpts.rootEntries = 512 := rfl
  have hL : ∃ L, determineFsLayout defaultOpts t = .ok L := by
    rw [determineFsLayout_eq accepted_default ht, hc, ebind_ok, e1, hdiv, if_neg (by omega)]
    exact firstFit_of_fits (by cases ft <;> simp [allowedTypes, defaultOpts])
      ⟨hns, fromClusters_of_range hmin hmax, hmax⟩
  obtain ⟨L, hL⟩ := hL
  exact ⟨_, formatChecked_of_layout accepted_default ht (by rw [e1]; simp) hL (fun _ => by rw [e2]; omega)⟩

end FatVerif.Format
