import FatVerif.Props.C14hist
/-!
# FileSim / multi: any number of open handles on distinct files of one volume

`MultiInv F d`: every handle of the table `F : Nat → Option FileH` satisfies `FullInv` on the shared device; the chains are
pairwise disjoint; no slot is a position ANY handle may write (`MayTouchData`), and the slots are pairwise disjoint.
`MultiInv.update`: the table with one handle replaced.  `EStep.multi`: what a step on one handle (`EStep`: any operation of
`EOp`, `flush` included, with the slot as extra footprint) does to the OTHER handles, proved once.
-/
namespace FatVerif.FileSim
open FatVerif FatVerif.Fat

/-- the handle table with entry `i` replaced -/
def updF (F : Nat → Option FileH) (i : Nat) (h : FileH) : Nat → Option FileH := fun j => if j = i then some h else F j

/-- the slot of a handle -/
def slotPos (h : FileH) : Option Nat := h.entry.map (·.pos)

structure MultiInv (F : Nat → Option FileH) (d : Dev) : Prop where
  full : ∀ i h, F i = some h → ∃ e, FullInv h e d
  chains : ∀ i j hi hj, i ≠ j → F i = some hi → F j = some hj →
    ∀ c ∈ fileChain d.fs d.img hi, c ∉ fileChain d.fs d.img hj
  slots : ∀ i j hi hj pi, F i = some hi → F j = some hj → slotPos hi = some pi →
    (∀ q, pi ≤ q → q < pi + 32 → ¬ MayTouchData d.fs d.img hj q) ∧
    (i ≠ j → ∀ pj, slotPos hj = some pj → pi + 32 ≤ pj ∨ pj + 32 ≤ pi)

theorem slotPos_of_entry {h : FileH} {e : DirEntryEditor} (he : h.entry = some e) : slotPos h = some e.pos := by
  unfold slotPos; rw [he]; rfl

/-- the table with entry `i` replaced by `f'` on the device `d'`: `MultiInv` again, as soon as the new handle has its
    invariant and its old slot, the other handles keep invariant and chain, the new chain avoids theirs, and no handle
    may write more than it or handle `i` might before -/
theorem MultiInv.update {F : Nat → Option FileH} {d d' : Dev} (hM : MultiInv F d) {i : Nat} {h f' : FileH}
    (hi : F i = some h) (hnew : ∃ e', FullInv f' e' d') (hpos : slotPos f' = slotPos h)
    (hother : ∀ j hj, j ≠ i → F j = some hj → (∃ ej, FullInv hj ej d') ∧
      fileChain d'.fs d'.img hj = fileChain d.fs d.img hj ∧
      ∀ c ∈ fileChain d'.fs d'.img f', c ∉ fileChain d'.fs d'.img hj)
    (hmtNew : ∀ q, MayTouchData d'.fs d'.img f' q → MayTouchData d.fs d.img h q)
    (hmtOther : ∀ j hj, j ≠ i → F j = some hj → ∀ q, MayTouchData d'.fs d'.img hj q →
      MayTouchData d.fs d.img hj q ∨ MayTouchData d.fs d.img h q) :
    MultiInv (updF F i f') d' := by
  -- every handle of the new table comes from one of the old table with the same slot
  have hold : ∀ a ha, updF F i f' a = some ha → ∃ ha0, F a = some ha0 ∧ slotPos ha = slotPos ha0 ∧
      (a = i → ha = f') ∧ (a ≠ i → ha = ha0) := by
    intro a ha hna
    unfold updF at hna
    by_cases hai : a = i
    · rw [if_pos hai] at hna
      have : ha = f' := (Option.some.inj hna).symm
      subst hai
      exact ⟨h, hi, by rw [this, hpos], fun _ => this, fun hn => absurd rfl hn⟩
    · rw [if_neg hai] at hna
      exact ⟨ha, hna, rfl, fun e => absurd e hai, fun _ => rfl⟩
  refine ⟨fun a ha hna => ?_, fun a b ha hb hab hna hnb => ?_, fun a b ha hb pa hna hnb hpa => ?_⟩
  · obtain ⟨ha0, hFa, _, hai, han⟩ := hold a ha hna
    by_cases hae : a = i
    · rw [hai hae]; exact hnew
    · rw [han hae]; exact (hother a ha0 hae hFa).1
  · obtain ⟨ha0, hFa, _, hai, han⟩ := hold a ha hna
    obtain ⟨hb0, hFb, _, hbi, hbn⟩ := hold b hb hnb
    by_cases hae : a = i
    · have hbe : b ≠ i := fun e => hab (hae.trans e.symm)
      rw [hai hae, hbn hbe]
      exact (hother b hb0 hbe hFb).2.2
    · by_cases hbe : b = i
      · rw [han hae, hbi hbe]
        intro c hc hc'
        exact (hother a ha0 hae hFa).2.2 c hc' hc
      · rw [han hae, hbn hbe, (hother a ha0 hae hFa).2.1, (hother b hb0 hbe hFb).2.1]
        exact hM.chains a b ha0 hb0 hab hFa hFb
  · obtain ⟨ha0, hFa, hsa, _, _⟩ := hold a ha hna
    obtain ⟨hb0, hFb, hsb, hbi, hbn⟩ := hold b hb hnb
    rw [hsa] at hpa
    refine ⟨fun q h1 h2 hm => ?_, fun hab pb hpb => ?_⟩
    · by_cases hbe : b = i
      · rw [hbi hbe] at hm
        subst hbe
        have hb0h : hb0 = h := Option.some.inj (hFb.symm.trans hi)
        exact (hM.slots a b ha0 hb0 pa hFa hFb hpa).1 q h1 h2 (hb0h ▸ hmtNew q hm)
      · rw [hbn hbe] at hm
        rcases hmtOther b hb0 hbe hFb q hm with h' | h'
        · exact (hM.slots a b ha0 hb0 pa hFa hFb hpa).1 q h1 h2 h'
        · exact (hM.slots a i ha0 h pa hFa hi hpa).1 q h1 h2 h'
    · rw [hsb] at hpb
      exact (hM.slots a b ha0 hb0 pa hFa hFb hpa).2 hab pb hpb

/-- **a step on handle `i` of a table**: `MultiInv` again, and the byte arrays of the other handles are unchanged -/
theorem EStep.multi {F : Nat → Option FileH} {d d' : Dev} (hM : MultiInv F d) {i : Nat} {h f' : FileH}
    {e : DirEntryEditor} (hi : F i = some h) (hfull : FullInv h e d) (hs : EStep h e d f' d') :
    MultiInv (updF F i f') d' ∧
    (∀ j hj, j ≠ i → F j = some hj → (absFile d'.fs d'.img hj).abs = (absFile d.fs d.img hj).abs) := by
  obtain ⟨e', hfull', hpos⟩ := hs.full
  have hsim' := hfull'.sim
  have hpi := slotPos_of_entry hfull.ent.entry
  have hpos' : slotPos f' = slotPos h := by rw [slotPos_of_entry hfull'.ent.entry, hpi, hpos]
  have hother : ∀ j hj, j ≠ i → F j = some hj →
      (∃ ej, FullInv hj ej d') ∧ CoreEq (absFile d'.fs d'.img hj) (absFile d.fs d.img hj) ∧
      fileChain d'.fs d'.img hj = fileChain d.fs d.img hj ∧
      (∀ c ∈ fileChain d'.fs d'.img f', c ∉ fileChain d'.fs d'.img hj) := by
    intro j hj hji hFj
    obtain ⟨ej, hfj⟩ := hM.full j hj hFj
    have hpj := slotPos_of_entry hfj.ent.entry
    have hij := hM.slots i j h hj e.pos hi hFj hpi
    obtain ⟨hrepj, hcorej, hchj, hapj⟩ := hs.frame.other_file hfull.sim.geo hfull.sim.rep hfj.sim.rep
      (hM.chains i j h hj (fun e => hji e.symm) hi hFj)
      (fun q hq c hc hin => hij.1 q hq.1 hq.2 (Or.inr (Or.inl ⟨c, hc, hin⟩)))
    have hentj := hs.frame.other_entry hfj.ent hchj fun q h1 h2 =>
      ⟨(hM.slots j i hj h ej.pos hFj hi hpj).1 q h1 h2, fun hq => by
        have := hij.2 (fun e => hji e.symm) ej.pos hpj
        unfold Slot at hq; omega⟩
    refine ⟨⟨ej, ⟨hsim'.nofault, hsim'.wf, hsim'.geo, hrepj, hsim'.info⟩, hentj, ?_⟩, hcorej, hchj, hapj⟩
    intro q h1 h2 hm
    rcases hs.frame.mayTouch_other hchj hm with h' | h'
    · exact (hM.slots j j hj hj ej.pos hFj hFj hpj).1 q h1 h2 h'
    · exact (hM.slots j i hj h ej.pos hFj hi hpj).1 q h1 h2 h'
  refine ⟨hM.update hi ⟨e', hfull'⟩ hpos'
    (fun j hj hji hFj => ⟨(hother j hj hji hFj).1, (hother j hj hji hFj).2.2⟩) hs.shrink
    (fun j hj hji hFj q hm => hs.frame.mayTouch_other (hother j hj hji hFj).2.2.1 hm), fun j hj hji hFj => ?_⟩
  obtain ⟨_, hcorej, _, _⟩ := hother j hj hji hFj
  obtain ⟨ej0, hfj0⟩ := hM.full j hj hFj
  exact hcorej.abs_eq hfj0.sim.rep.inv.cs_pos hfj0.sim.rep.inv.cover

end FatVerif.FileSim
