import FatVerif.Proofs.SafeIo
import FatVerif.Model.File
/-! C09 and C12, structural descent: Model/File.lean; and the destructor bodies never panic or hang (`NonFatal`). -/
namespace FatVerif

/-! ### destructor bodies: `write_all` on the raw device cannot exhaust its fuel -/

theorem writeAllLoop_nonFatal {σ} (S : Strm σ) (hw : ∀ s bs, NonFatal (S.write s bs)) (hwz : S.wzErr.isFatal = false) :
    ∀ fuel s bs, bs.length < fuel → NonFatal (writeAllLoop S fuel s bs) := by
  intro fuel
  induction fuel with
  | zero => intro s bs h; omega
  | succ k ih =>
    intro s bs h
    unfold writeAllLoop
    split
    · exact NonFatal.pure _
    · rename_i hne
      refine NonFatal.bind (hw _ _) ?_
      rintro ⟨n, s'⟩
      dsimp only
      split
      · exact NonFatal.fail _ hwz
      · rename_i hn
        apply ih
        have : bs.length ≠ 0 := by
          intro h0; apply hne; simp [List.length_eq_zero_iff.mp h0]
        rw [List.length_drop]; omega

theorem devStrm_write_nonFatal (s : Unit) (bs : List Nat) : NonFatal (devStrm.write s bs) :=
  NonFatal.bind (NonFatal.op _) (fun _ => NonFatal.pure _)

theorem writeAll_dev_nonFatal (s : Unit) (bs : List Nat) : NonFatal (writeAll devStrm s bs) :=
  writeAllLoop_nonFatal devStrm devStrm_write_nonFatal rfl _ _ _ (Nat.lt_succ_self _)

theorem writeChunks_dev_nonFatal : ∀ (cs : List (List Nat)) (s : Unit), NonFatal (writeChunks devStrm s cs) := by
  intro cs
  induction cs with
  | nil => intro s; unfold writeChunks; exact NonFatal.pure _
  | cons c rest ih =>
    intro s; unfold writeChunks
    exact NonFatal.bind (writeAll_dev_nonFatal _ _) (fun _ => ih _)

theorem setDirtyFlag_nonFatal (b : Bool) : NonFatal (setDirtyFlag b) := by
  unfold setDirtyFlag
  refine NonFatal.bind (NonFatal.op _) (fun fs => ?_)
  dsimp only
  split
  · exact NonFatal.pure _
  · refine NonFatal.bind (NonFatal.op _) (fun _ => NonFatal.bind (writeAll_dev_nonFatal _ _) (fun _ => ?_))
    exact NonFatal.bind (NonFatal.op _) (fun _ => NonFatal.op _)

theorem FileH.flushDirEntry_nonFatal (f : FileH) : NonFatal f.flushDirEntry := by
  unfold FileH.flushDirEntry
  split
  · split
    · exact NonFatal.bind (NonFatal.op _) (fun _ => NonFatal.bind (writeChunks_dev_nonFatal _ _) (fun _ => NonFatal.pure _))
    · exact NonFatal.pure _
  · exact NonFatal.pure _

theorem FileH.flush_nonFatal (f : FileH) : NonFatal f.flush := by
  unfold FileH.flush
  exact NonFatal.bind (FileH.flushDirEntry_nonFatal f) (fun _ => NonFatal.bind (NonFatal.op _) (fun _ => NonFatal.pure _))

theorem FileH.dropBody_nonFatal (f : FileH) : NonFatal (do let _ ← f.flush; pure ()) :=
  NonFatal.bind (FileH.flush_nonFatal f) (fun _ => NonFatal.pure _)

/-! ### `File.lean` -/

theorem offsetFromClusterP_safe (fs c) : Safe (offsetFromClusterP fs c) := by
  unfold offsetFromClusterP; safe

theorem nextCluster_safe (c) : Safe (nextCluster c) := by
  unfold nextCluster; safe [Table.CIter.next_safe, DiskSlice.strm_ok]

theorem truncateClusterChain_safe (c) : Safe (truncateClusterChain c) := by
  unfold truncateClusterChain; safe [Table.CIter.truncate_safe, DiskSlice.strm_ok]

theorem freeClusterChain_safe (c) : Safe (freeClusterChain c) := by
  unfold freeClusterChain; safe [Table.CIter.free_safe, DiskSlice.strm_ok]

/-- the one place where the mounted state is updated by a bare `setFs`: of the state just read, the FS-info cache -/
theorem allocClusterFs_safe (prev zero) : Safe (allocClusterFs prev zero) := by
  unfold allocClusterFs
  refine Safe.bind _ _ Safe.progGetFs (fun fs => ?_)
  refine Safe.bind _ _ (Table.allocCluster_safe _ DiskSlice.strm_ok _ _ _ _ _) ?_
  rintro ⟨c, sl⟩
  dsimp only
  have hrest : Safe (do
      let fs ← Prog.getFs
      match fs.fsInfo.free with
      | some 0 => Prog.fail Err.panic
      | _ =>
        let nextFree := if c + 1 < fs.totalClusters + 2 then c + 1 else 2
        Prog.setFs { fs with fsInfo := ({ fs.fsInfo with next := some nextFree, dirty := true }).mapFree (· - 1) }
        pure c) := by
    refine ⟨IoSafe.bind _ _ (IoSafe.op _) (fun fs => ?_), geoRel_getFs_then _ (fun fs2 d r d' hfs hr => ?_)⟩
    · split
      · exact IoSafe.fail _
      · exact IoSafe.bind _ _ (IoSafe.op _) (fun _ => IoSafe.pure _)
    · split at hr
      · simp only [run] at hr; cases hr; exact SameGeom.refl _
      · simp only [Prog.setFs, bind, pure, run, stepOp] at hr
        cases hr
        rw [hfs]; exact rfl
  split
  · refine Safe.bind _ _ (offsetFromClusterP_safe _ _) (fun off => ?_)
    refine Safe.bind _ _ (Safe.progSeekStart _) (fun _ => ?_)
    exact Safe.bind _ _ (writeZeros_safe _ devStrm_ok _ _) (fun _ => hrest)
  · exact hrest

theorem FileH.dropBody_dtor (f : FileH) : Dtor (do let _ ← f.flush; pure ()) := by
  refine ⟨FileH.dropBody_nonFatal f, Steps.bind geoRel_ok ?_ (fun _ => Steps.pure geoRel_ok _)⟩
  unfold FileH.flush FileH.flushDirEntry
  exact Safe.geo (by safe [writeChunks_safe, devStrm_ok])

namespace FileH

theorem flushDirEntry_safe (f : FileH) : Safe f.flushDirEntry := by
  unfold flushDirEntry; safe [writeChunks_safe, devStrm_ok]

theorem flush_safe (f : FileH) : Safe f.flush := by
  unfold flush; safe [flushDirEntry_safe]

theorem drop_safe (f : FileH) : Safe f.drop := Safe.inDrop (FileH.dropBody_dtor f)

theorem absPos_safe (fs) (f : FileH) : Safe (f.absPos fs) := by
  unfold absPos; safe [offsetFromClusterP_safe]

theorem boundaryCluster_safe (f : FileH) : Safe f.boundaryCluster := by
  unfold boundaryCluster; safe [nextCluster_safe]

theorem read_safe (f : FileH) (n : Nat) : Safe (f.read n) := by
  unfold read; safe [boundaryCluster_safe, offsetFromClusterP_safe]

theorem updateAfterWrite_safe (f : FileH) : Safe f.updateAfterWrite := by
  unfold updateAfterWrite; safe

theorem write_safe (f : FileH) (buf : List Nat) : Safe (f.write buf) := by
  unfold write
  safe [setDirtyFlag_safe, boundaryCluster_safe, allocClusterFs_safe, offsetFromClusterP_safe, updateAfterWrite_safe]

theorem seekWalk_safe (fs) : ∀ k it cluster i toSkip newOff, Safe (seekWalk fs k it cluster i toSkip newOff) := by
  intro k
  induction k with
  | zero => intros; unfold seekWalk; safe
  | succ k ih => intros; unfold seekWalk; safe [Table.CIter.next_safe, DiskSlice.strm_ok]

theorem seek_safe (f : FileH) (p : SeekFrom) : Safe (f.seek p) := by
  unfold seek; safe [seekWalk_safe]

theorem truncate_safe (f : FileH) : Safe f.truncate := by
  unfold truncate; safe [setDirtyFlag_safe, truncateClusterChain_safe, freeClusterChain_safe]

theorem extentsLoop_safe (fs) : ∀ k it left acc, Safe (extentsLoop fs k it left acc) := by
  intro k
  induction k with
  | zero => intros; unfold extentsLoop; safe
  | succ k ih =>
    intros; unfold extentsLoop
    safe [Table.CIter.next_safe, DiskSlice.strm_ok, offsetFromClusterP_safe]

theorem extents_safe (f : FileH) : Safe f.extents := by
  unfold extents; safe [extentsLoop_safe, offsetFromClusterP_safe]

theorem strm_safe : StrmSafe FileH.strm :=
  ⟨fun f n => (read_safe f n).io, fun f bs => (write_safe f bs).io, fun f p => (seek_safe f p).io⟩

end FileH

end FatVerif
