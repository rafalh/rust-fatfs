import FatVerif.Proofs.LfnBuilder
/-! What a `LongNameBuilder` (either buffer variant) amounts to between two slots: nothing, or a run in progress —
    its checksum, the ordinal of the slot read last, and the units from that slot on (`view`).  `process` is one step
    of a machine on these three fields (`astep`, `view_process`: the only place where the buffers are looked at),
    `finish` is a function of them (`fin`, `finish_view`).  Everything about runs is then said of `astep`. -/
namespace FatVerif
namespace Lfn
open LongNameBuilder

/-- the 255-unit cap of `into_buf` -/
def capName (t : List Nat) : List Nat := if t.length > 255 then [] else t

/-- what a builder holds between two slots: nothing, or the checksum of the run in progress, the ordinal of the slot read
    last and the units from that slot on -/
def view (b : LongNameBuilder) : Option (Nat × Nat × List Nat) :=
  if b.index = 0 then none else some (b.chksum, b.index, b.buf.asUnits.drop (13 * (b.index - 1)))

/-- one slot read by the three-field machine: a `0x40` slot starts a run, the next lower ordinal with the same checksum
    extends it, anything else drops it -/
def astep (o : Option (Nat × Nat × List Nat)) (s : List Nat) : Option (Nat × Nat × List Nat) :=
  if order s % 32 = 0 ∨ order s % 32 > 20 then none
  else if order s / 64 % 2 = 1 then some (chk s, order s % 32, units s)
  else match o with
    | none => none
    | some (c, j, u) => if order s % 32 + 1 = j ∧ chk s = c then some (c, order s % 32, units s ++ u) else none

/-- the name handed to an entry whose short name has checksum `c` -/
def fin (c : Nat) : Option (Nat × Nat × List Nat) → List Nat
  | none => []
  | some (c', j, u) => if j = 1 ∧ c' = c then capName (cutAtNul u) else []

/-- whatever a step leaves open carries the slot's checksum and ordinal -/
theorem astep_cases (o : Option (Nat × Nat × List Nat)) (s : List Nat) :
    astep o s = none ∨ ∃ u, astep o s = some (chk s, order s % 32, u) ∧ 1 ≤ order s % 32 ∧ order s % 32 ≤ 20 := by
  unfold astep
  split
  · exact .inl rfl
  · split
    · exact .inr ⟨_, rfl, by omega, by omega⟩
    · split
      · exact .inl rfl
      · split
        · rename_i h; exact .inr ⟨_, by rw [h.2], by omega, by omega⟩
        · exact .inl rfl

/-- **the builder refines the three-field machine** (both variants) -/
theorem view_process (alloc : Bool) (b : LongNameBuilder) (s : List Nat) (h : WF alloc b) :
    view (process alloc b s) = astep (view b) s := by
  have hll := WF_len_le alloc b h
  obtain ⟨h1, h2, h3, h4, h5⟩ := h
  have hcap := bufCap_eq
  have hu := units_length s
  unfold process pre astep
  by_cases c1 : order s % 32 = 0 ∨ order s % 32 > 20
  · rw [if_pos c1, if_pos c1]; rfl
  rw [if_neg c1, if_neg c1]
  by_cases c2 : order s / 64 % 2 = 1
  · -- the `0x40` slot: the buffer is cut to `13·n` units and the last 13 are the slot's
    rw [if_pos c2, if_pos c2]
    simp only [view]
    rw [if_neg (by omega)]
    have hU : order s % 32 * 13 ≤ (b.buf.setLen alloc (order s % 32 * 13)).units.length ∧
        (b.buf.setLen alloc (order s % 32 * 13)).len = order s % 32 * 13 := by
      cases alloc <;> simp [LfnBuf.setLen] at h5 ⊢ <;> omega
    simp only [LfnBuf.asUnits, hU.2]
    rw [setSlice_take _ _ _ _ hu (by omega) hU.1, setSlice_drop _ _ _ (by simp; omega),
      List.drop_of_length_le (by simp; omega), List.append_nil]
  rw [if_neg c2, if_neg c2]
  by_cases c3 : b.index = 0 ∨ order s % 32 ≠ b.index - 1 ∨ chk s ≠ b.chksum
  · rw [if_pos c3]
    show none = _
    unfold view
    by_cases i0 : b.index = 0
    · rw [if_pos i0]
    · rw [if_neg i0]; simp only; rw [if_neg (by omega)]
  · -- a continuing slot: its units go in front of the live ones
    rw [if_neg c3]
    have e : order s % 32 = b.index - 1 := by omega
    have hv : view b = some (b.chksum, b.index, b.buf.asUnits.drop (13 * (b.index - 1))) := if_neg (by omega)
    rw [hv]
    simp only
    rw [if_pos (by omega)]
    unfold view
    simp only
    rw [if_neg (by omega), e]
    simp only [LfnBuf.asUnits]
    rw [setSlice_take _ (13 * (b.index - 1 - 1)) _ _ hu (by omega) hll, setSlice_drop _ _ _ (by simp; omega),
      show 13 * (b.index - 1 - 1) + 13 = 13 * (b.index - 1) by omega]

theorem view_foldl (alloc : Bool) : ∀ (R : List (List Nat)) (b : LongNameBuilder), WF alloc b →
    WF alloc (R.foldl (process alloc) b) ∧ view (R.foldl (process alloc) b) = R.foldl astep (view b)
  | [], _, h => ⟨h, rfl⟩
  | s :: R, b, h => by
    rw [List.foldl_cons, List.foldl_cons, ← view_process alloc b s h]
    exact view_foldl alloc R _ (WF_process alloc b s h)

theorem truncate_asUnits (alloc : Bool) (b : LongNameBuilder) (hw : WF alloc b) :
    (truncate alloc b).buf.asUnits = cutAtNul b.buf.asUnits := by
  obtain ⟨_, _, t3⟩ := truncate_ok alloc b hw
  have hll := WF_len_le alloc b hw
  rw [← take_cutLen]
  simp only [truncate, LfnBuf.setLen]
  generalize cutLen b.buf.asUnits = m at t3 ⊢
  have hm : m ≤ b.buf.units.length := by omega
  cases alloc
  · simp [LfnBuf.asUnits, List.take_take, Nat.min_eq_left t3]
  · simp [LfnBuf.asUnits, resize_of_le _ _ hm, List.take_take, Nat.min_eq_left t3]

/-- **what `finish` hands out depends on the three fields only** -/
theorem finish_view (alloc : Bool) (b : LongNameBuilder) (n : List Nat) (hw : WF alloc b) :
    finish alloc b n = fin (lfnChecksum n) (view b) := by
  unfold view
  by_cases i0 : b.index = 0
  · have := hw.2.2.2.1 i0
    simp [finish, validateChksum, intoBuf, i0, fin, LfnBuf.asUnits, this]
  rw [if_neg i0]
  simp only [fin]
  by_cases hc : lfnChecksum n = b.chksum
  · by_cases i1 : b.index = 1
    · obtain ⟨_, t2, _⟩ := truncate_ok alloc b hw
      have hslen : (cutAtNul b.buf.asUnits).length = cutLen b.buf.asUnits := rfl
      rw [if_pos ⟨i1, hc.symm⟩, i1, Nat.sub_self, Nat.mul_zero, List.drop_zero]
      have v : validateChksum alloc b n = b := by simp [validateChksum, i1, hc]
      rw [finish, v]
      unfold intoBuf capName
      simp only [i1, if_true, maxNameLen, t2, hslen]
      split
      · simp [clear, LfnBuf.clear, new_asUnits]
      · exact truncate_asUnits alloc b hw
    · rw [if_neg (fun h => i1 h.1)]
      simp [finish, validateChksum, intoBuf, i0, i1, hc, clear, LfnBuf.clear, new_asUnits]
  · rw [if_neg (fun h => hc h.2.symm)]
    simp [finish, validateChksum, intoBuf, i0, hc, clear, LfnBuf.clear, new_asUnits]

theorem finish_clear (alloc : Bool) (b : LongNameBuilder) (n : List Nat) : finish alloc (clear alloc b) n = [] := by
  rw [finish_view alloc _ n (WF_clear alloc b)]; rfl

/-- `T` = the slots carrying ordinals `j, j-1, …, 1` (on-disk order), none flagged `0x40`, all with checksum `c` -/
def TailOk (c : Nat) : List (List Nat) → Nat → Prop
  | [], j => j = 0
  | s :: T, j => 1 ≤ j ∧ order s % 32 = j ∧ ¬ (order s / 64 % 2 = 1) ∧ chk s = c ∧ TailOk c T (j - 1)

/-- name units held by such a tail, in name order (ordinal 1 first) -/
def tailUnits : List (List Nat) → List Nat
  | [] => []
  | s :: T => tailUnits T ++ units s

theorem tailUnits_length (c : Nat) : ∀ T j, TailOk c T j → (tailUnits T).length = 13 * j := by
  intro T
  induction T with
  | nil => intro j h; simp [TailOk] at h; simp [tailUnits, h]
  | cons s T ih =>
    intro j h
    obtain ⟨h1, _, _, _, h5⟩ := h
    simp [tailUnits, ih _ h5]; omega

/-- a tail of ordinals `j … 1` completes exactly the run that expects ordinal `j` with its checksum -/
theorem fin_tail (c : Nat) : ∀ (T : List (List Nat)) (j : Nat) (o : Option (Nat × Nat × List Nat)), TailOk c T j →
    fin c (T.foldl astep o) =
      match o with
      | none => []
      | some (c', i, u) => if i = j + 1 ∧ c' = c ∧ j ≤ 20 then capName (cutAtNul (tailUnits T ++ u)) else []
  | [], j, o, h => by
    simp only [TailOk] at h
    subst h
    rcases o with _ | ⟨c', i, u⟩
    · rfl
    · simp [fin, tailUnits]
  | s :: T, j, o, h => by
    obtain ⟨t1, t2, t3, t4, t5⟩ := h
    rw [List.foldl_cons, fin_tail c T (j - 1) _ t5]
    unfold astep
    by_cases c1 : order s % 32 = 0 ∨ order s % 32 > 20
    · rw [if_pos c1]
      rcases o with _ | ⟨c', i, u⟩
      · rfl
      · simp only; rw [if_neg (by omega)]
    rw [if_neg c1, if_neg t3]
    rcases o with _ | ⟨c', i, u⟩
    · rfl
    simp only
    by_cases c2 : order s % 32 + 1 = i ∧ chk s = c'
    · rw [if_pos c2]
      simp only [tailUnits, List.append_assoc]
      by_cases hh : i = j + 1 ∧ c' = c ∧ j ≤ 20
      · rw [if_pos hh, if_pos (by omega)]
      · rw [if_neg hh, if_neg (by omega)]
    · rw [if_neg c2, if_neg (by omega)]

end Lfn
end FatVerif
