import FatVerif.Proofs.AFileRead
import FatVerif.Proofs.AFileFrame
import FatVerif.Proofs.FileSimLoop
/-! The default loops of io.rs on top of the single calls: `read_exact`, `write_all`, as instances of the loops over any
    single call the oracle accepts (Proofs/FileSimLoop.lean). -/
namespace FatVerif.Cursor

theorem AFile.readExactLoop_eq : ∀ (fuel : Nat) (f : AFile) (need : Nat) (acc : List Nat),
    f.readExactLoop fuel need acc = ByteFile.readLoop AFile.read .ok (fun _ => .error .eof) .error fuel f need acc
  | 0, _, _, _ => rfl
  | fuel + 1, f, need, acc => by
    simp only [AFile.readExactLoop, ByteFile.readLoop]
    split
    · rfl
    · generalize f.read need = r
      obtain ⟨(e | l), f'⟩ := r
      · rfl
      · simp only
        split
        · rfl
        · exact AFile.readExactLoop_eq fuel f' _ _

theorem AFile.writeAllLoop_eq {σ : Type} (A : Allocator σ) : ∀ (fuel : Nat) (f : AFile) (s : σ) (bs : List Nat),
    f.writeAllLoop A fuel s bs =
      ByteFile.writeLoop (fun x bs => x.1.write A x.2 bs) (.ok ()) (fun e _ => .error e) fuel (f, s) bs
  | 0, _, _, _ => rfl
  | fuel + 1, f, s, bs => by
    simp only [AFile.writeAllLoop, ByteFile.writeLoop]
    split
    · rfl
    · generalize f.write A s bs = r
      obtain ⟨(e | n), f', s'⟩ := r
      · rfl
      · simp only
        split
        · rfl
        · exact AFile.writeAllLoop_eq A fuel f' s' _

section
variable {σ : Type} {isFree : σ → Nat → Prop} {A : Allocator σ}

/-- what `read_exact` for `need` bytes, started in `f` with `acc` already in the buffer, ends in: only the cursor
    has moved, and the result is the whole buffer if enough bytes remained, else `UnexpectedEof` with the cursor at
    the end of the file -/
structure ReadExactPost (isFree : σ → Nat → Prop) (s : σ) (f : AFile) (need : Nat) (acc : List Nat)
    (r : Except Err (List Nat) × AFile) : Prop where
  inv : AFileInv isFree r.2 s
  cs : r.2.cs = f.cs
  chain : r.2.chain = f.chain
  data : r.2.data = f.data
  full : need ≤ f.size - f.offset → r.1 = .ok (acc ++ (f.abs.read need).1) ∧ r.2.abs = (f.abs.read need).2
  eof : f.size - f.offset < need → r.1 = .error .eof ∧ r.2.abs = { f.abs with pos := f.size }

/-- `read_exact` with `fuel ≥ need` -/
theorem readExactLoop_spec {s : σ} (fuel : Nat) (f : AFile) (need : Nat) (acc : List Nat) (h : AFileInv isFree f s)
    (hf : need ≤ fuel) : ReadExactPost isFree s f need acc (f.readExactLoop fuel need acc) := by
  rw [AFile.readExactLoop_eq]
  -- the loop theorem with, as invariant `I` of the single call, `AFileInv` and "cluster size, chain and data are those of
  -- `f`" (a read moves the cursor only); `read_refines` is the call's `checkRead`
  obtain ⟨⟨i1, i2, i3, i4⟩, i5, i6⟩ := ByteFile.readLoop_spec (cs := f.cs) (ab := AFile.abs)
    (I := fun x => AFileInv isFree x s ∧ x.cs = f.cs ∧ x.chain = f.chain ∧ x.data = f.data) h.cs_pos
    (fun x n hx => by
      obtain ⟨l, hl, hchk⟩ := hx.1.read_refines n
      obtain ⟨p, hi⟩ := hx.1.read_post n
      exact ⟨l, _, Prod.ext hl rfl, ⟨hi, p.cs.trans hx.2.1, p.chain.trans hx.2.2.1, p.data.trans hx.2.2.2⟩, hx.2.1 ▸ hchk⟩)
    (fun x hx => by simpa using hx.1.off_le) fuel f need acc ⟨h, rfl, rfl, rfl⟩ hf
  exact ⟨i1, i2, i3, i4, fun hle => i5 (by simpa using hle), fun hlt => by simpa using i6 (by simpa using hlt)⟩

/-- what `write_all` of `bs`, started in `(f, s)`, ends in: no foreign cluster touched, and everything written, or a
    prefix of `k < |bs|` bytes written and the loop stopped by `NotEnoughSpace` (the allocator refused, on a cluster
    boundary at the end of the file) or by `WriteZero` (the file reached `u32::MAX` bytes) -/
structure WriteAllPost (A : Allocator σ) (isFree : σ → Nat → Prop) (f : AFile) (s : σ) (bs : List Nat)
    (r : Except Err Unit × AFile × σ) : Prop where
  inv : AFileInv isFree r.2.1 r.2.2
  cs : r.2.1.cs = f.cs
  fp : Footprint isFree f s r.2.1 r.2.2
  out : (r.1 = .ok () ∧ r.2.1.abs = (f.abs.write bs).2 ∧ f.abs.pos + bs.length ≤ u32Max) ∨
    ∃ e k, r.1 = .error e ∧ k < bs.length ∧ r.2.1.abs = (f.abs.write (bs.take k)).2 ∧
      ((e = .noSpace ∧ (f.abs.pos + k) % f.cs = 0 ∧ f.abs.content.length ≤ f.abs.pos + k ∧ A.alloc r.2.2 = none) ∨
       (e = .writeZero ∧ f.abs.pos + k = u32Max))

/-- `write_all` with `fuel ≥ |bs|` -/
theorem writeAllLoop_spec (hA : AllocLaws A isFree) (fuel : Nat) (f : AFile) (s : σ) (bs : List Nat)
    (h : AFileInv isFree f s) (hf : bs.length ≤ fuel) : WriteAllPost A isFree f s bs (f.writeAllLoop A fuel s bs) := by
  rw [AFile.writeAllLoop_eq]
  -- invariant `I`: `AFileInv`, the cluster size of `f`, the footprint reckoned from `(f, s)`; no condition `B` on the
  -- buffers; `Q`, what a refused call leaves: an allocator with nothing to give
  obtain ⟨⟨i1, i2, i3⟩, i4⟩ := ByteFile.writeLoop_spec (cs := f.cs) (ab := fun x : AFile × σ => x.1.abs)
    (I := fun x => AFileInv isFree x.1 x.2 ∧ x.1.cs = f.cs ∧ Footprint isFree f s x.1 x.2)
    (B := fun _ => True) (Q := fun x => A.alloc x.2 = none) h.cs_pos (fun _ _ _ => trivial)
    (fun x bs hx _ => by
      have hfp := hx.1.write_footprint hA bs
      rcases hx.1.write_refines hA bs with ⟨he, _, _, hal, hchk⟩ | ⟨hres, hi, hcs, _, hchk⟩
      · exact .inr ⟨_, x, he, hx, hal, hx.2.1 ▸ hchk⟩
      · exact .inl ⟨_, _, Prod.ext hres rfl, ⟨hi, hcs.trans hx.2.1, hx.2.2.trans hfp⟩, hx.2.1 ▸ hchk⟩)
    (fun x hx => by simpa using ⟨hx.1.off_le, hx.1.size_le⟩) fuel (f, s) bs ⟨h, rfl, .of_eq rfl rfl⟩ trivial hf
  exact ⟨i1, i2, i3, i4⟩

end
end FatVerif.Cursor
