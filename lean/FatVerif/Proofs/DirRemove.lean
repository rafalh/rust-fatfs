import FatVerif.Proofs.RemoveUnfold
import FatVerif.Proofs.DirWriteKinds
import FatVerif.Proofs.FileSimFatFree
/-! Directory WRITES: `remove(name)` through any writable directory (`WView`), single-component path:
    `find_entry` → (for a directory: `to_dir` → `is_empty`) → `free_cluster_chain` (`run_freeClusterChain_fine` of
    Proofs/FileSimFatFree) → `deleteEntry`. The invariant of the directory survives the release of a chain that shares
    no cluster with the directory's own chain. -/
namespace FatVerif.DirSim
open FatVerif.FileSim FatVerif.Fat DirEntryData DirAlias

/-- a chain is untouched by freeing clusters outside it -/
theorem chain_freed_other {g : Nat → FatValue} {cs : List Nat} : ∀ {chain : List Nat} {c0 : Nat}, Chain g c0 chain →
    (∀ x ∈ chain, x ∉ cs) → Chain (freedView g cs) c0 chain := by
  intro chain c0 h
  induction h with
  | last m hl =>
    intro hd
    refine Chain.last m (fun n hn => ?_)
    unfold freedView at hn
    rw [if_neg (hd m (by simp))] at hn
    exact hl n hn
  | cons m k ms hdm hc ih =>
    intro hd
    refine Chain.cons m k ms ?_ (ih (fun x hx => hd x (List.mem_cons_of_mem _ hx)))
    unfold freedView
    rw [if_neg (hd m (by simp))]
    exact hdm

/-- what `free_cluster_chain` (or nothing, for an entry without a cluster) leaves of the device -/
structure FreedStep (d d' : Dev) (cs : List Nat) : Prop where
  step : DevStep d d'
  tv : tabView d'.fs d'.img = freedView (tabView d.fs d.img) cs
  frame : ∀ q, 0x42 ≤ q → OutsideFat d.fs q → d'.img.getByte q = d.img.getByte q

/-- forward evaluation of the release step of `remove` -/
theorem run_free_step (fc : Option Nat) (cs : List Nat) (d : Dev) (hfa : d.failAt = none) (hwf : d.img.WF)
    (hgeo : Geo d.fs d.img.size) (hinfo : InfoOk d.fs d.img)
    (hcs : match fc with
      | some n => Chain (tabView d.fs d.img) n cs ∧ cs.Nodup ∧
          ∀ x ∈ cs, 2 ≤ x ∧ x < d.fs.totalClusters + 2 ∧ tabView d.fs d.img x ≠ .free
      | none => cs = []) :
    ∃ d', (∀ k : Prog Unit, run (match fc with
        | some n => do freeClusterChain n; k
        | none => k) d = run k d') ∧ FreedStep d d' cs := by
  cases fc with
  | none =>
    subst hcs
    exact ⟨d, fun k => rfl, DevStep.refl d, by rw [freedView_nil], fun q _ _ => rfl⟩
  | some n =>
    obtain ⟨hch, hnd, hin⟩ := hcs
    obtain ⟨d', h2, _, htv2, _, hst2⟩ := run_freeClusterChain_fine n cs d hfa hwf hgeo hinfo hch hnd hin
    exact ⟨d', fun k => run_bind_ok h2, hst2.step, htv2,
      fun q hq => hst2.outside hgeo (fun x hx => (hin x hx).2.1) q (Or.inl hq)⟩

/-! ### `Dir::is_empty` on a readable directory -/

/-- `is_empty` on the list of entries: every entry is `.` or `..` -/
def emptyD : List DirEntry → Bool
  | [] => true
  | e :: es => if e.shortDisplay != [46] && e.shortDisplay != [46, 46] then false else emptyD es

section generic
variable {d : Dev} {S : Nat → DirStream} {N : Nat} {src room : Nat → Nat}

theorem DirSrc.isEmptyLoop_sim (D : DirSrc d S N src room) (hfuel : N < dirFuel d.fs) :
    ∀ (fuel i : Nat) (d1 : Dev), i ≤ N → N - i < fuel → SameVol d d1 →
    ∃ o, o ≤ 32 * N ∧ Reads (isEmptyLoop fuel (S (32 * i))) d1
      (emptyD ((Lfn.readLoop d.fs.lfnAlloc true ((srcSlots d.img src N).drop i) i i
          (LongNameBuilder.new d.fs.lfnAlloc)).map (toDirEntryS src)), S o) := by
  intro fuel
  induction fuel with
  | zero => intro i d1 hi hf; omega
  | succ k ih =>
    intro i d1 hi hf hv
    have hsim := D.toK.readDirEntry_sim true i hi d1 hv hfuel
    have hidx := nextEntry_idx d.fs.lfnAlloc true ((srcSlots d.img src N).drop i) i i (LongNameBuilder.new d.fs.lfnAlloc)
    have hlenD : ((srcSlots d.img src N).drop i).length = N - i := by rw [List.length_drop, srcSlots_length]
    rw [readLoop_eq_next]
    unfold isEmptyLoop
    cases hn : (nextEntry d.fs.lfnAlloc true ((srcSlots d.img src N).drop i) i i (LongNameBuilder.new d.fs.lfnAlloc)).1 with
    | none =>
      rw [hn] at hsim
      refine ⟨32 * (nextEntry d.fs.lfnAlloc true ((srcSlots d.img src N).drop i) i i
        (LongNameBuilder.new d.fs.lfnAlloc)).2, by have := hidx.2.1; rw [hlenD] at this; omega,
        Reads.bind hsim (fun d2 _ => ?_)⟩
      simp only [Option.map, List.map_nil, emptyD]
      exact Reads.pure _ d2
    | some e =>
      rw [hn] at hsim
      obtain ⟨he1, he2⟩ := hidx.2.2 e hn
      have hle : e.endIdx ≤ N := by
        rw [he1]; have := hidx.2.1; rw [hlenD] at this; omega
      have hdrop : ((srcSlots d.img src N).drop i).drop (e.endIdx - i) = (srcSlots d.img src N).drop e.endIdx := by
        rw [List.drop_drop]; congr 1; omega
      simp only [Option.map] at hsim
      rw [← he1] at hsim
      simp only [List.map_cons, emptyD]
      by_cases hm : ((toDirEntryS src e).shortDisplay != [46] && (toDirEntryS src e).shortDisplay != [46, 46]) = true
      · simp only [hm, if_true]
        refine ⟨32 * e.endIdx, by omega, Reads.bind hsim (fun d2 _ => ?_)⟩
        simp only [hm, if_true]
        exact Reads.pure _ d2
      · simp only [hm, Bool.false_eq_true, if_false]
        obtain ⟨d2, hr2, hs2⟩ := hsim
        obtain ⟨o, ho, d3, hr3, hs3⟩ := ih e.endIdx d2 hle (by omega) (hv.trans hs2)
        refine ⟨o, ho, d3, ?_, hs2.trans hs3⟩
        show run (Prog.bind _ _) d1 = _
        simp only [run, hr2, hm, Bool.false_eq_true, if_false]
        rw [hr3, hdrop]

/-- **`Dir::is_empty`, generic** -/
theorem DirSrc.isEmpty_sim (D : DirSrc d S N src room) (hfuel : N < dirFuel d.fs) (d1 : Dev) (hv : SameVol d d1) :
    Reads (isEmpty (S 0)) d1
      (emptyD ((readDirEntries d.fs.lfnAlloc true (srcSlots d.img src N)).map (toDirEntryS src))) := by
  unfold isEmpty
  refine Reads.bind (Reads.getFs d1) (fun d2 hs2 => ?_)
  rw [hv.fs]
  obtain ⟨o, ho, hr⟩ := D.isEmptyLoop_sim hfuel (dirFuel d.fs) 0 d2 (Nat.zero_le _) (by omega) (hv.trans hs2)
  simp only [Nat.mul_zero, List.drop_zero] at hr
  unfold withStream
  refine Reads.bind (Reads.finallyDrop hr (fun d3 hs3 => D.drop d3 ((hv.trans hs2).trans hs3) o ho))
    (fun d3 _ => ?_)
  exact Reads.pure _ d3

end generic

namespace DirView
variable {d : Dev} {st : DirStream}

/-- `is_empty` as a function of the image -/
def isEmptyV (V : DirView d st) : Bool := emptyD (V.lfnEntries.map (toDirEntryS V.src))

theorem isEmpty_sim (V : DirView d st) (d1 : Dev) (hv : SameVol d d1) : Reads (isEmpty st) d1 V.isEmptyV := by
  obtain ⟨S, N, src, room, start, dir, fuel⟩ := V
  subst start
  exact dir.isEmpty_sim fuel d1 hv

end DirView

/-! ### `remove` -/

namespace WView
variable {d : Dev} {st : DirStream}

/-- **the request `remove path` through the writable directory `V`**: `path` is the single component `name`, which finds
    the listed entry `le`; `cs` will be the cluster chain of the entry (stated beside the record: a `match` on the first
    cluster of a record inside a structure is dear to check); the FS-info agrees with the FAT. `keep`: the invariant of the directory survives the release of `cs` (instances:
    `RootInv.of_freed`, `ChainInv.of_freed`, `SubInv.of_freed`); `outside`: its slots lie outside the FAT copies -/
structure RemoveReq (V : WView d st) (env : Env) (path name : String) (le : LfnEntry) (cs : List Nat) : Prop where
  split : Names.splitPath path = (name, none)
  notDot : (name = "." || name = "..") = false
  geo : Geo d.fs d.img.size
  info : InfoOk d.fs d.img
  found : lookupL env.upper name.toList none (readDirEntries d.fs.lfnAlloc true (V.slots d.img)) = .ok le
  keep : ∀ d1 d2, SameVol d d1 → d1.clock = d.clock → FreedStep d1 d2 cs → V.Inv d2
  outside : ∀ i, i < V.N → V.src (32 * i) + 32 ≤ (fatSliceOf d.fs).beginOff ∨
    (fatSliceOf d.fs).beginOff + (fatSliceOf d.fs).mirrors * (fatSliceOf d.fs).size ≤ V.src (32 * i)

/-- **`remove(name)` through a writable directory** of a listed entry that passes the emptiness test (`hne`: it is a
    file, or a directory that lists only `.` and `..`) -/
theorem remove_sim (V : WView d st) {env : Env} {path name : String} {le : LfnEntry} {cs : List Nat}
    (R : V.RemoveReq env path name le cs)
    (hcs : match (toDirEntryS V.src le).firstCluster d.fs with
      | some n => Chain (tabView d.fs d.img) n cs ∧ cs.Nodup ∧
          ∀ x ∈ cs, 2 ≤ x ∧ x < d.fs.totalClusters + 2 ∧ tabView d.fs d.img x ≠ .free
      | none => cs = [])
    (hne : ∀ d1, SameVol d d1 → Reads (if (toDirEntryS V.src le).isDir then do
        let sub ← (toDirEntryS V.src le).toDir d.fs
        let emp ← thenDrop sub (isEmpty sub)
        pure (!emp)
      else pure false) d1 false) (fuel : Nat) :
    ∃ d1 dm d', run (FatVerif.remove env (fuel + 1) st path) d = (.ok (), d') ∧
      SameVol d d1 ∧ FreedStep d1 dm cs ∧ V.slots dm.img = V.slots d.img ∧
      V.Wrote dm d' (DirSlots.deleteRange (V.slots d.img) le.beginIdx le.endIdx) := by
  have ⟨hsp, hdot, hgeo, hinfo, hl, hkeep, hslots⟩ := R
  obtain ⟨hmem, _, _⟩ := lookupL_ok _ _ _ _ _ hl
  generalize hfc : (toDirEntryS V.src le).firstCluster d.fs = fc at hcs
  -- 1. find_entry, 2. the emptiness test
  have hfe := V.toDirView.findEntry_sim env name none d (SameVol.refl d)
  rw [V.lookup_ok env name none le hl] at hfe
  obtain ⟨d1, h1, hs1⟩ := hfe
  obtain ⟨d3, h3, hs3⟩ := hne d1 hs1
  have hv03 := hs1.trans hs3
  have hc3 : d3.clock = d.clock := (run_clock _ _ _ _ h3).trans (run_clock _ _ _ _ h1)
  -- 3. release
  obtain ⟨d4, h4, hf4⟩ := run_free_step fc cs d3
    (by rw [hv03.failAt]; exact V.io.noFault d V.here) (by rw [hv03.img]; exact V.io.wf d V.here)
    (by rw [hv03.fs, hv03.img]; exact hgeo) (by rw [hv03.fs, hv03.img]; exact hinfo) (by rw [hv03.fs, hv03.img]; exact hcs)
  have hinv4 := hkeep d3 d4 hv03 hc3 hf4
  -- the slots are those of `d`: they lie outside the FAT
  have hslots4 : V.slots d4.img = V.slots d.img := by
    unfold WView.slots
    refine srcSlots_congr (fun i hi x hx => ?_)
    have hb := V.geo.behind i hi
    have ho := hslots i hi
    rw [hf4.frame _ (by omega) (by
      rw [hv03.fs]
      unfold OutsideFat
      rcases ho with ho | ho
      · left; omega
      · right; omega), hv03.img]
  -- 4. deleteEntry on the device after the release
  obtain ⟨d5, h5, w5⟩ := V.deleteEntry_sim d4 hinv4 le hmem
  rw [hslots4] at w5
  refine ⟨d3, d4, d5, ?_, hv03, hf4, hslots4, w5⟩
  -- The tests of the body are decided by `show` and `rw`: a `simp` rewrites through `match e.firstCluster fs` further
  -- down the body, and checking that congruence makes the kernel unfold the `_ * 65536` of `firstClusterRaw` step by step.
  have h1 : run (findEntry env st name none) d = (.ok (toDirEntryS V.src le), d1) := h1
  rw [remove_succ, run_bind_ok (run_getFs d), hsp]
  show run (if (name = "." || name = "..") = true then Prog.fail .invalidInput else _) d = _
  rw [if_neg (by rw [hdot]; exact Bool.false_ne_true), run_bind_ok h1, run_bind_ok h3]
  show run (if false = true then _ else _) d3 = _
  rw [if_neg Bool.false_ne_true, hfc]
  refine Eq.trans ?_ h5
  -- `h4` and the goal carry different matcher constants for the same `match fc`: on a constructor both reduce at once,
  -- on the variable the kernel's comparison is slow
  cases fc <;> exact h4 _

/-- **`remove(name)` of a file through a writable directory** (single-component path). `hkeep`: the invariant of the
    directory survives the release step (instances: `RootInv.of_freed`, `ChainInv.of_freed`, `SubInv.of_freed`) -/
theorem remove_file_sim (V : WView d st) (env : Env) (path name : String) (hsp : Names.splitPath path = (name, none))
    (hdot : (name = "." || name = "..") = false) (hgeo : Geo d.fs d.img.size) (hinfo : InfoOk d.fs d.img)
    (le : LfnEntry)
    (hl : lookupL env.upper name.toList none (readDirEntries d.fs.lfnAlloc true (V.slots d.img)) = .ok le)
    (hfile : Lfn.isDir le.sfn = false) (cs : List Nat)
    (hcs : match (toDirEntryS V.src le).firstCluster d.fs with
      | some n => Chain (tabView d.fs d.img) n cs ∧ cs.Nodup ∧
          ∀ x ∈ cs, 2 ≤ x ∧ x < d.fs.totalClusters + 2 ∧ tabView d.fs d.img x ≠ .free
      | none => cs = [])
    (hkeep : ∀ d1 d2, SameVol d d1 → d1.clock = d.clock → FreedStep d1 d2 cs → V.Inv d2)
    (hslots : ∀ i, i < V.N → V.src (32 * i) + 32 ≤ (fatSliceOf d.fs).beginOff ∨
      (fatSliceOf d.fs).beginOff + (fatSliceOf d.fs).mirrors * (fatSliceOf d.fs).size ≤ V.src (32 * i)) (fuel : Nat) :
    ∃ d', run (FatVerif.remove env (fuel + 1) st path) d = (.ok (), d') ∧
      VolStep d d' ∧ d'.fs.curDirty = true ∧ V.Inv d' ∧
      V.slots d'.img = DirSlots.deleteRange (V.slots d.img) le.beginIdx le.endIdx ∧
      (∃ dm, tabView dm.fs dm.img = freedView (tabView d.fs d.img) cs ∧ VolStep d dm ∧
        FrameOutE V.N V.src V.Extra dm d' ∧ MidImg V.N V.src V.DropPost dm d') := by
  obtain ⟨hmem, _, _⟩ := lookupL_ok _ _ _ _ _ hl
  obtain ⟨d1, dm, d', hr, hv, hf, _, w⟩ := V.remove_sim ⟨hsp, hdot, hgeo, hinfo, hl, hkeep, hslots⟩ hcs
    (fun d1 _ => by
      rw [toDirEntryS_isDir V.src le, hfile]
      exact Reads.pure false d1) fuel
  have hsm := (VolStep.of_sameVol hv).trans (VolStep.of_devStep hf.step)
  exact ⟨d', hr, hsm.trans w.vol, w.dirty, w.inv, w.slots, dm, by rw [hf.tv, hv.fs, hv.img], hsm, w.frame, w.mid⟩

/-- **`remove(name)` of an empty directory through a writable directory** (single-component path). `Vs`: the read view
    of the directory to be removed (through the stream `to_dir` opens for its entry), `hemp`: its listing has only `.`
    and `..` -/
theorem remove_dir_sim (V : WView d st) {env : Env} {path name : String} {le : LfnEntry} {cs : List Nat}
    (R : V.RemoveReq env path name le cs)
    (hcs : match (toDirEntryS V.src le).firstCluster d.fs with
      | some n => Chain (tabView d.fs d.img) n cs ∧ cs.Nodup ∧
          ∀ x ∈ cs, 2 ≤ x ∧ x < d.fs.totalClusters + 2 ∧ tabView d.fs d.img x ≠ .free
      | none => cs = [])
    (hdir : Lfn.isDir le.sfn = true)
    (Vs : DirView d (DirEntry.dirStream d.fs (toDirEntryS V.src le))) (hemp : Vs.isEmptyV = true) (fuel : Nat) :
    ∃ dm d', run (FatVerif.remove env (fuel + 1) st path) d = (.ok (), d') ∧
      tabView dm.fs dm.img = freedView (tabView d.fs d.img) cs ∧ VolStep d dm ∧
      V.Wrote dm d' (DirSlots.deleteRange (V.slots d.img) le.beginIdx le.endIdx) := by
  obtain ⟨hmem, _, _⟩ := lookupL_ok _ _ _ _ _ R.found
  have hisdir : (toDirEntryS V.src le).isDir = true := by
    rw [toDirEntryS_isDir V.src le]; exact hdir
  obtain ⟨d1, dm, d', hr, hv, hf, _, w⟩ := V.remove_sim R hcs
    (fun d1 hv1 => by
      rw [hisdir]
      refine Reads.bind (toDir_sim d.fs (toDirEntryS V.src le) hisdir d1) (fun d2 hs2 => ?_)
      have hv2 := hv1.trans hs2
      refine Reads.bind (Reads.thenDrop (Vs.isEmpty_sim d2 hv2) (fun d' hs => Vs.drop_sim d' (hv2.trans hs))) (fun d3 _ => ?_)
      rw [hemp]
      exact Reads.pure _ d3) fuel
  exact ⟨dm, d', hr, by rw [hf.tv, hv.fs, hv.img], (VolStep.of_sameVol hv).trans (VolStep.of_devStep hf.step), w⟩

end WView

/-! ### the invariants survive the release step -/

theorem RootInv.of_freed {fs0 : FsState} {s : DiskSlice} {N : Nat} {d d1 d2 : Dev} {cs : List Nat}
    (h : RootInv fs0 s N d) (hv : SameVol d d1) (hf : FreedStep d1 d2 cs) : RootInv fs0 s N d2 :=
  ⟨by rw [hf.step.failAt, hv.failAt]; exact h.noFault, by rw [hf.step.size, hv.img]; exact h.inside,
   hf.step.wf (by rw [hv.img]; exact h.wf), (show FsGeomEq fs0 d1.fs by rw [hv.fs]; exact h.geom).trans hf.step.geom,
   h.fuel⟩

theorem ChainCore.of_freed {d1 d2 : Dev} {f0 : FileH} {c0 : Nat} {chain cs : List Nat} (C : ChainCore d1 f0 c0 chain)
    (hf : FreedStep d1 d2 cs) (hdisj : ∀ x ∈ chain, x ∉ cs) : ChainCore d2 f0 c0 chain :=
  C.of_step hf.step.failAt hf.step.size hf.step.geom (by rw [hf.tv]; exact chain_freed_other C.link hdisj) C.inTab C.u32

theorem ChainInv.of_freed {fs0 : FsState} {f0 : FileH} {c0 : Nat} {chain cs : List Nat} {d d1 d2 : Dev}
    (h : ChainInv fs0 f0 c0 chain d) (hv : SameVol d d1) (hf : FreedStep d1 d2 cs) (hdisj : ∀ x ∈ chain, x ∉ cs) :
    ChainInv fs0 f0 c0 chain d2 := by
  exact h.keep ((VolStep.of_sameVol hv).trans (VolStep.of_devStep hf.step))
    (by rw [hf.tv, hv.fs, hv.img]; exact chain_freed_other h.dir.link hdisj)
    (by rw [← h.geom.totalClusters]; exact h.dir.inTab) (by rw [← h.geom.clusterSize]; exact h.dir.u32) h.fuel

theorem SubInv.of_freed {fs0 : FsState} {ed0 : DirEntryEditor} {c0 : Nat} {chain cs : List Nat} {t0 : Nat} {d d1 d2 : Dev}
    (h : SubInv fs0 ed0 c0 chain t0 d) (hv : SameVol d d1) (hc : d1.clock = d.clock) (hf : FreedStep d1 d2 cs)
    (hdisj : ∀ x ∈ chain, x ∉ cs) : SubInv fs0 ed0 c0 chain t0 d2 := by
  exact h.keep ((VolStep.of_sameVol hv).trans (VolStep.of_devStep hf.step)) (hf.step.clock.trans hc)
    (by rw [hf.tv, hv.fs, hv.img]; exact chain_freed_other h.dir.link hdisj)
    (by rw [← h.geom.totalClusters]; exact h.dir.inTab) (by rw [← h.geom.clusterSize]; exact h.dir.u32) h.fuel

end FatVerif.DirSim
