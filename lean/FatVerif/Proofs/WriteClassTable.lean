import FatVerif.Proofs.WriteClassSlice
/-! WHERE the model writes: `io.rs` helpers and `table.rs` over a stream whose three methods append only
    records of class `C` and keep an invariant `Inv` of the stream state (for a `DiskSlice`: same window, offset inside). -/
namespace FatVerif

structure StrmGS {σ} (fs0 : FsState) (sz : Nat) (C : Nat → List Nat → Prop) (S : Strm σ) (Inv : σ → Prop) : Prop where
  read : ∀ s n, Inv s → GS fs0 sz C (S.read s n) (fun r => Inv r.2)
  write : ∀ s bs, Inv s → GS fs0 sz C (S.write s bs) (fun r => Inv r.2)
  seek : ∀ s p, Inv s → GS fs0 sz C (S.seek s p) (fun r => Inv r.2)

theorem StrmGS.tri {σ} {fs0 : FsState} {sz : Nat} {C : Nat → List Nat → Prop} {S : Strm σ} {Inv : σ → Prop}
    (h : StrmGS fs0 sz C S Inv) : StrmTri (GSRel C) (GSPre fs0 sz) S Inv :=
  ⟨fun s n hs => gs_iff_tri.1 (h.read s n hs), fun s p hs => gs_iff_tri.1 (h.seek s p hs)⟩

theorem DiskSlice.strm_gs {fs0 : FsState} {sz : Nat} {C : Nat → List Nat → Prop} (s0 : DiskSlice)
    (hdev : s0.beginOff + s0.mirrors * s0.size ≤ sz)
    (hC : ∀ off b, SliceRec s0 off b → C off b) (hCs : ∀ off b, StatusRec fs0 off b → C off b) :
    StrmGS fs0 sz C DiskSlice.strm (SliceInv s0) :=
  ⟨fun _ n hs => DiskSlice.read_gs hs n, fun _ bs hs => DiskSlice.write_gs hs hdev hC hCs bs,
   fun _ p hs => DiskSlice.seek_gs hs p⟩

section generic
variable {σ : Type} {fs0 : FsState} {sz : Nat} {C : Nat → List Nat → Prop} {S : Strm σ} {Inv : σ → Prop}
  (hS : StrmGS fs0 sz C S Inv)
include hS

theorem readExact_gs (s n) (hs : Inv s) : GS fs0 sz C (readExact S s n) (fun r => Inv r.2) :=
  gs_iff_tri.2 (readExact_tri (gsFrame fs0 sz) hS.tri s n hs)

theorem writeAllLoop_gs : ∀ fuel s bs, Inv s → GS fs0 sz C (writeAllLoop S fuel s bs) Inv := by
  intro fuel
  induction fuel with
  | zero => intros; unfold writeAllLoop; exact GS.fail _
  | succ k ih => intro s bs hs; unfold writeAllLoop; gs [hS.write]

theorem writeAll_gs (s bs) (hs : Inv s) : GS fs0 sz C (writeAll S s bs) Inv := writeAllLoop_gs hS _ _ _ hs

theorem readU8_gs (s) (hs : Inv s) : GS fs0 sz C (readU8 S s) (fun r => Inv r.2) :=
  gs_iff_tri.2 (readU8_tri (gsFrame fs0 sz) hS.tri s hs)
theorem readU16_gs (s) (hs : Inv s) : GS fs0 sz C (readU16 S s) (fun r => Inv r.2) := by
  unfold readU16; gs [readExact_gs hS]
theorem readU32_gs (s) (hs : Inv s) : GS fs0 sz C (readU32 S s) (fun r => Inv r.2) := by
  unfold readU32; gs [readExact_gs hS]
theorem writeU8_gs (s v) (hs : Inv s) : GS fs0 sz C (writeU8 S s v) Inv := writeAll_gs hS _ _ hs
theorem writeU16_gs (s v) (hs : Inv s) : GS fs0 sz C (writeU16 S s v) Inv := writeAll_gs hS _ _ hs
theorem writeU32_gs (s v) (hs : Inv s) : GS fs0 sz C (writeU32 S s v) Inv := writeAll_gs hS _ _ hs

theorem writeChunks_gs : ∀ cs s, Inv s → GS fs0 sz C (writeChunks S s cs) Inv := by
  intro cs
  induction cs with
  | nil => intro s hs; unfold writeChunks; exact GS.pure hs
  | cons c rest ih => intro s hs; unfold writeChunks; gs [writeAll_gs hS]

end generic

/-! ### `table.rs` -/

namespace Table
section generic
variable {σ : Type} {fs0 : FsState} {sz : Nat} {C : Nat → List Nat → Prop} {S : Strm σ} {Inv : σ → Prop}
  (hS : StrmGS fs0 sz C S Inv)
include hS

theorem getRaw_gs (ft s c) (hs : Inv s) : GS fs0 sz C (getRaw S ft s c) (fun r => Inv r.2) := by
  unfold getRaw; gs [hS.seek, readU16_gs hS, readU32_gs hS]

theorem get_gs (ft s c) (hs : Inv s) : GS fs0 sz C (get S ft s c) (fun r => Inv r.2) := by
  unfold get; gs [getRaw_gs hS]

theorem set_gs (ft s c v) (hs : Inv s) : GS fs0 sz C (set S ft s c v) Inv := by
  unfold set; gs [hS.seek, getRaw_gs hS, readU16_gs hS, writeU16_gs hS, writeU32_gs hS]

theorem findFree12Loop_lt : ∀ fuel s c endC packed, Inv s → c < endC →
    GS fs0 sz C (findFree12Loop S fuel s c endC packed) (fun r => r.1 < endC ∧ Inv r.2) := by
  intro fuel
  induction fuel with
  | zero => intros; unfold findFree12Loop; exact GS.fail _
  | succ k ih =>
    intro s c endC packed hs hc
    unfold findFree12Loop
    dsimp only
    repeat (first
      | exact GS.fail _
      | exact GS.pure ⟨hc, hs⟩
      | (refine GS.bind (readU16_gs hS s hs) ?_
         rintro ⟨p, s1⟩ hs1
         exact ih _ _ _ _ hs1 (by omega))
      | (refine GS.bind (readU8_gs hS s hs) ?_
         rintro ⟨b, s1⟩ hs1
         exact ih _ _ _ _ hs1 (by omega))
      | split)

theorem findFreeLoop_lt (ft) : ∀ fuel s c endC, Inv s →
    GS fs0 sz C (findFreeLoop S ft fuel s c endC) (fun r => r.1 < endC ∧ Inv r.2) := by
  intro fuel
  induction fuel with
  | zero => intros; unfold findFreeLoop; exact GS.fail _
  | succ k ih =>
    intro s c endC hs
    unfold findFreeLoop
    split
    · rename_i hc
      refine GS.bind (Q := fun r => Inv r.2) ?_ ?_
      · gs [readU16_gs hS, readU32_gs hS]
      · rintro ⟨v, s1⟩ hs1
        dsimp only
        split
        · exact GS.pure ⟨hc, hs1⟩
        · exact ih _ _ _ hs1
    · exact GS.fail _

theorem findFree_lt (ft s start endC) (hs : Inv s) :
    GS fs0 sz C (findFree S ft s start endC) (fun r => r.1 < endC ∧ Inv r.2) := by
  unfold findFree
  split
  · split
    · exact GS.fail _
    · rename_i hlt
      refine GS.bind (hS.seek s _ hs) ?_
      rintro ⟨_, s1⟩ hs1
      refine GS.bind (readU16_gs hS s1 hs1) ?_
      rintro ⟨packed, s2⟩ hs2
      exact findFree12Loop_lt hS _ _ _ _ _ hs2 (by omega)
  · refine GS.bind (hS.seek s _ hs) ?_
    rintro ⟨_, s1⟩ hs1
    exact findFreeLoop_lt hS _ _ _ _ _ hs1
  · refine GS.bind (hS.seek s _ hs) ?_
    rintro ⟨_, s1⟩ hs1
    exact findFreeLoop_lt hS _ _ _ _ _ hs1

theorem findFree_gs (ft s start endC) (hs : Inv s) : GS fs0 sz C (findFree S ft s start endC) (fun r => Inv r.2) :=
  (findFree_lt hS ft s start endC hs).weaken (fun _ h => h.2)

/-- `alloc_cluster` returns a cluster number below `total + 2` -/
theorem allocCluster_lt (ft s prev hint total) (hs : Inv s) :
    GS fs0 sz C (allocCluster S ft s prev hint total) (fun r => r.1 < total + 2 ∧ Inv r.2) := by
  unfold allocCluster
  dsimp only
  refine GS.bind (Q := fun r => r.1 < total + 2 ∧ Inv r.2) ?_ ?_
  · refine GS.tryCatch (findFree_lt hS _ _ _ _ hs) (fun e => ?_)
    repeat (first
      | exact GS.fail _
      | (refine (findFree_lt hS _ _ _ _ hs).weaken ?_
         rintro ⟨c, s1⟩ ⟨h1, h2⟩
         exact ⟨by dsimp only at h1 ⊢; omega, h2⟩)
      | split)
  · rintro ⟨newC, s1⟩ ⟨hlt, hs1⟩
    dsimp only
    refine GS.bind (set_gs hS _ _ _ _ hs1) (fun s2 hs2 => ?_)
    refine GS.bind (Q := Inv) ?_ (fun s3 hs3 => GS.pure ⟨hlt, hs3⟩)
    split
    · exact set_gs hS _ _ _ _ hs2
    · exact GS.pure hs2

theorem allocCluster_gs (ft s prev hint total) (hs : Inv s) :
    GS fs0 sz C (allocCluster S ft s prev hint total) (fun r => Inv r.2) :=
  (allocCluster_lt hS ft s prev hint total hs).weaken (fun _ h => h.2)

theorem CIter.next_gs (ft) (it : CIter σ) (hs : Inv it.fat) :
    GS fs0 sz C (CIter.next S ft it) (fun r => Inv r.2.fat) := by
  unfold CIter.next; gs [get_gs hS]

theorem CIter.freeLoop_gs (ft) : ∀ fuel (it : CIter σ) num, Inv it.fat →
    GS fs0 sz C (CIter.freeLoop S ft fuel it num) (fun r => Inv r.2.fat) := by
  intro fuel
  induction fuel with
  | zero => intros; unfold CIter.freeLoop; exact GS.fail _
  | succ k ih => intro it num hs; unfold CIter.freeLoop; gs [CIter.next_gs hS, set_gs hS]

theorem CIter.free_gs (ft fuel) (it : CIter σ) (hs : Inv it.fat) :
    GS fs0 sz C (CIter.free S ft fuel it) (fun r => Inv r.2.fat) := CIter.freeLoop_gs hS _ _ _ _ hs

theorem CIter.truncate_gs (ft fuel) (it : CIter σ) (hs : Inv it.fat) :
    GS fs0 sz C (CIter.truncate S ft fuel it) (fun r => Inv r.2.fat) := by
  unfold CIter.truncate; gs [CIter.next_gs hS, set_gs hS, CIter.free_gs hS]

theorem setRange_gs (ft v) : ∀ k s c, Inv s → GS fs0 sz C (setRange S ft v k s c) Inv := by
  intro k
  induction k with
  | zero => intro s c hs; unfold setRange; exact GS.pure hs
  | succ k ih => intro s c hs; unfold setRange; gs [set_gs hS]

theorem formatFat_gs (ft s media bytesPerFat total) (hs : Inv s) :
    GS fs0 sz C (formatFat S ft s media bytesPerFat total) Inv := by
  unfold formatFat
  refine GS.bind (Q := Inv) ?_ ?_
  · gs [writeU8_gs hS, writeU16_gs hS, writeU32_gs hS]
  · gs [setRange_gs hS]

end generic
end Table

end FatVerif
