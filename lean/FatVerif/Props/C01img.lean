import FatVerif.Proofs.SlotTreeDenCall
import FatVerif.Proofs.SlotTreeDenSub
import FatVerif.Props.C01tree
/-!
# C01, read-only half END TO END at byte level: `open_dir`, `open_file`, listing on a device image

Chain of ties: the programs of the byte-level model (`Model/DirOps.lean`: `openDir`, `openFile`, `listDir`, run over
a device `Dev`) — by the read simulation (`Props/C01sim.lean`, `DirSim`) — are the pure readers on the
slots of the image; here they are composed along paths and tied to the slot-tree model (`Model/SlotTree.lean`), which
`Props/C01tree.lean` ties to the specification `Spec/Tree.lean`.

Hypothesis bundle `SlotTreeImg.ImgTree d up t cl` (Proofs/SlotTreeDen.lean): "the slot tree `t` is what the image of
`d` holds" — for every directory node and every stream denoting it (the root stream, or `to_dir` of any directory
entry carrying its first cluster `cl path`), the directory is readable in the sense of the read simulation
(`DirSim.DirView`: no fault scheduled, geometry, chain of the FAT inside the table, scan fuel — `RootReadable` /
`ChainReadable`) and the entries the reader finds are the two dot entries (none in the root; `.` carries the
directory's cluster, `..` the parent's) followed by exactly the listed entries of the node's slot list; the entry of
a child directory carries the child's cluster.

* `open_dir_img`, `open_file_img`, `list_img`: under `ImgTree`, `TreeWf t`, `DotSafe up` (only `.`/`..` fold like
  `.`/`..`), for EVERY path, every depth, `.`/`..` components included, any fuel larger than the path length: the
  program ends exactly as `SlotTree.openS` / `listS` say — same success, same error kind —, a returned directory
  stream denotes (`Den`) the directory the slot tree resolves to, and the volume is untouched (`Reads`/`FailsV` carry
  `SameVol`: image, mounted state, fault schedule and write records equal; only `flush` records may be logged by the
  destructors of cluster-chain directory handles).  No alias hypothesis: the model answers alias queries like the code.
* `readonly_calls_refine_spec_img`: composed with `open_refines` / `list_refines` (Proofs/SlotTreeOps) — the byte-level outcome is accepted by
  `Spec.evalOp` on `abs t` (hypotheses `OpOk`: `SplitAgree`, `QAll`, live handle — as in `C01tree`).

`decodeImage` of `Model/SlotTreeOracle.lean` (the executable image → slot tree used by the run-time correspondence)
reads slots through `Spec/FatSpec`'s array reader; it is NOT proved equal to the `DirSim` slot readers here.  `ImgTree`
is stated directly over the `DirSim` readers; the two are related by the correspondence runs (the oracle compares
`decodeImage` of every image with the model's tree).

Mutating half, every call with the image invariant `ImgTreeW` (Proofs/SlotTreeDenW.lean) RE-ESTABLISHED and composed
with the specification (`…_refines_spec_img_partial`), all with LAST DIRECTORY = THE FIXED ROOT (FAT12/16), which is
what `_partial` stands for: `create_file`, `create_dir` and `remove` of a file on paths of any depth that lead back to
the root (`create_file_img_partial`, `create_dir_img_partial` — the cluster map is extended, `ClAgree` —,
`remove_file_img_partial`), `rename` of a file inside the root under single names (`rename_file_img_partial`); one
call through the root handle (`byte_step`) and histories of these and the read-only calls
(`history_refines_spec_img_partial`; non-vacuity: a three-call history on `Ex4`).  The FAT-level side conditions
(`FreedApart`, `DirRes.apart`) follow from `FatWf` of the decoded FAT once the directory heads are allocated, resp. are
other heads (`fat_side_conditions_of_fatWf`, `DirRes.of_fatWf`, over the chain lemmas of Proofs/FatImgDisjoint); that
these facts about the heads are invariants of a history is not proved.

Not covered: histories through handles other than the root's, `remove` of a directory, `rename` of a directory /
between directories / on deeper paths, directory growth, FAT32 roots, `update_accessed_date` on, faults, a full volume.
For a last directory BELOW the root there is the slot level of one directory only
(`create_file_subdir_slots_partial`: `check_for_existence`, `find_free_entries`, `write_entry` behind the two dot
slots).  Missing for a tree step there: (i) the directory's own record in its PARENT — the destructor of the handle
re-writes it with the clock's modification stamp (`MidImg … subDropPost`, Proofs/DirWriteKinds), so the parent's slot
list on the image differs from the model tree's in bytes 22–25 of one short slot unless the stamp was already the
clock's: `ImgTreeW` would have to hold modulo those bytes; (ii) the transport of the other directories (their chains
must be disjoint from this one: `FatWf` + distinct heads); (iii) the growth of the directory by a cluster.  The statement
for a last directory anywhere, over an ASSUMED write simulation, stands unproved at the end of the file
(`WriteSim`, `create_file_img_statement`).
-/
namespace FatVerif
namespace C01img
open Lfn DirSlots DirAlias SlotTree DirSim SlotTreeImg C01tree

section
variable {d : Dev} {up : Char → List Char} {t : Node} {cl : List String → Option Nat}

/-- **`open_dir` on the image = `openS` on the slot tree** -/
theorem open_dir_img (I : ImgTree d up t cl) (hwf : TreeWf up t) (hup : DotSafe up) (env : Env)
    (henv : env.upper = up) (cwd : List String) (st : DirStream) (hden : Den d up t cl cwd st) (path : String)
    (fuel : Nat) (hfuel : path.toList.length < fuel) :
    (∀ rows, (openS up t cwd path true).out = .ok rows →
      ∃ (de : DirEntry) (p : List String) (n : Node),
        (∀ d1, SameVol d d1 → Reads (openDir env fuel st path) d1 (DirEntry.dirStream d.fs de)) ∧
        openRes up t cwd (pathParts path) = .ok (p, n) ∧ Den d up t cl p (DirEntry.dirStream d.fs de)) ∧
    (∀ e, (openS up t cwd path true).out = .error e →
      ∀ d1, SameVol d d1 → FailsV (openDir env fuel st path) d1 e) := by
  obtain ⟨o1, o2⟩ := open_out (open_walk I hwf hup env henv (openDir env) (openDir_unfold_step env)
    (fun cur st hden f chars a hsp => by
      rw [openDir_unfold_last env f st chars a hsp]
      exact open_last I hwf hup env henv true _ (DirEntry.dirStream d.fs)
        (fun de hdir d3 => Reads.bind (toDir_sim d.fs _ hdir d3) (fun d4 _ => Reads.pure _ d4)) _ cur st hden)
    path fuel hfuel hden)
  refine ⟨fun rows h => ?_, o2⟩
  obtain ⟨p, n, _, hr, hres, hk, de, rfl, _, hg, hsf⟩ := o1 rows h
  obtain ⟨s, c, rfl⟩ := (isDir_iff_dir n).1 hk
  exact ⟨de, p, _, hr, hres, ⟨s, c, hg⟩, hsf rfl⟩

/-- **`open_file` on the image = `openS` on the slot tree** -/
theorem open_file_img (I : ImgTree d up t cl) (hwf : TreeWf up t) (hup : DotSafe up) (env : Env)
    (henv : env.upper = up) (cwd : List String) (st : DirStream) (hden : Den d up t cl cwd st) (path : String)
    (fuel : Nat) (hfuel : path.toList.length < fuel) :
    (∀ rows, (openS up t cwd path false).out = .ok rows →
      ∃ (de : DirEntry) (p : List String) (n : Node),
        (∀ d1, SameVol d d1 →
          Reads (openFile env fuel st path) d1 (FileH.new (de.firstCluster d.fs) (some de.editor))) ∧
        de.isDir = false ∧ openRes up t cwd (pathParts path) = .ok (p, n) ∧ getAtS up t p = some n) ∧
    (∀ e, (openS up t cwd path false).out = .error e →
      ∀ d1, SameVol d d1 → FailsV (openFile env fuel st path) d1 e) := by
  obtain ⟨o1, o2⟩ := open_out (open_walk I hwf hup env henv (openFile env) (openFile_unfold_step env)
    (fun cur st hden f chars a hsp => by
      rw [openFile_unfold_last env f st chars a hsp]
      refine open_last I hwf hup env henv false _ (fun de => FileH.new (de.firstCluster d.fs) (some de.editor))
        (fun de hdir d3 => ?_) _ cur st hden
      unfold DirEntry.toFile
      simp only [hdir, Bool.false_eq_true, if_false]
      exact Reads.pure _ d3)
    path fuel hfuel hden)
  refine ⟨fun rows h => ?_, o2⟩
  obtain ⟨p, n, _, hr, hres, _, de, rfl, hdir, hg, _⟩ := o1 rows h
  exact ⟨de, p, n, hr, hdir, hres, hg⟩

/-- **the listing on the image = `listS` on the slot tree**: `Dir::iter()` through a stream denoting the directory at
    `cwd` returns the dot entries (none in the root) and then, entry for entry, the image records of the entries
    `listS` lists (same names — long-name units and raw short name —, same kinds), and nothing else -/
theorem list_img (I : ImgTree d up t cl) (cwd : List String) (st : DirStream) (hden : Den d up t cl cwd st) :
    ∃ (slots : List (List Nat)) (src : Nat → Nat) (dots : List LfnEntry) (k : Nat),
      (listS up t cwd).out = .ok ((listing slots).map fun e => (entryName e, Lfn.isDir e.sfn)) ∧
      (cwd = [] → dots = []) ∧ (cwd ≠ [] → dots.length = 2) ∧
      ∀ d1, SameVol d d1 →
        Reads (listDir st) d1 ((dots ++ (listing slots).map (shiftE k)).map (toDirEntryS src)) := by
  obtain ⟨⟨slots, ch, hg⟩, hs⟩ := hden
  obtain ⟨V, dots, k, hI, hr⟩ := listDir_den I cwd st slots ch hg hs
  refine ⟨slots, V.src, dots, k, by unfold listS; rw [hg], hI.rootDots, ?_, hr⟩
  intro hne
  obtain ⟨e1, e2, h, _⟩ := hI.subDots hne
  rw [h]; rfl

end

/-! ## composed with the refinement of the specification -/

theorem accepts_cases {o : Spec.Outcome} {r : Res} (h : Accepts o r) (hnh : r.out ≠ .error .hang) :
    (∃ e, r.out = .error e ∧ e ∈ o.errs) ∨ (∃ rows, r.out = .ok rows ∧ o.errs = [] ∧ o.tree = abs r.tree) := by
  unfold Accepts at h
  cases hout : r.out with
  | error e =>
    rw [hout] at h hnh
    exact Or.inl ⟨e, rfl, h.resolve_left fun he => hnh (he ▸ rfl)⟩
  | ok rows =>
    rw [hout] at h
    exact Or.inr ⟨rows, rfl, h⟩

/-- **C01, read-only calls, byte level ⟶ specification.**  On a fault-free device whose image holds the well-formed
    slot tree `t` (`ImgTree`), for `open_dir`, `open_file` and the listing, on every path: the byte-level program either
    succeeds — and the specification `Spec.evalOp` on `abs t` demands success and keeps its tree — or fails with an
    error kind the specification accepts; in both cases the volume (image, write records) is untouched, so `abs` of
    what the image holds is unchanged. -/
theorem readonly_calls_refine_spec_img (u : Char → List Char) {d : Dev} {t : Node} {cl : List String → Option Nat}
    (I : ImgTree d (upOf u) t cl) (hwf : TreeWf (upOf u) t) (hup : DotSafe (upOf u)) (env : Env)
    (henv : env.upper = upOf u) (cwd : List String) (st : DirStream) (hden : Den d (upOf u) t cl cwd st)
    (path : String) (fuel : Nat) (hfuel : path.toList.length < fuel) :
    -- open_dir
    (OpOk (upOf u) t (.openDir cwd path) →
      ((∃ de : DirEntry, ∀ d1, SameVol d d1 → Reads (openDir env fuel st path) d1 (DirEntry.dirStream d.fs de)) ∧
        (Spec.evalOp (cfgOf u) (abs t) (.openDir cwd path)).errs = [] ∧
        (Spec.evalOp (cfgOf u) (abs t) (.openDir cwd path)).tree = abs t) ∨
      (∃ e, (∀ d1, SameVol d d1 → FailsV (openDir env fuel st path) d1 e) ∧
        e ∈ (Spec.evalOp (cfgOf u) (abs t) (.openDir cwd path)).errs)) ∧
    -- open_file
    (OpOk (upOf u) t (.openFile cwd path) →
      ((∃ de : DirEntry, ∀ d1, SameVol d d1 →
          Reads (openFile env fuel st path) d1 (FileH.new (de.firstCluster d.fs) (some de.editor))) ∧
        (Spec.evalOp (cfgOf u) (abs t) (.openFile cwd path)).errs = [] ∧
        (Spec.evalOp (cfgOf u) (abs t) (.openFile cwd path)).tree = abs t) ∨
      (∃ e, (∀ d1, SameVol d d1 → FailsV (openFile env fuel st path) d1 e) ∧
        e ∈ (Spec.evalOp (cfgOf u) (abs t) (.openFile cwd path)).errs)) ∧
    -- list
    (OpOk (upOf u) t (.list cwd) →
      (∃ es : List DirEntry, ∀ d1, SameVol d d1 → Reads (listDir st) d1 es) ∧
        (Spec.evalOp (cfgOf u) (abs t) (.list cwd)).errs = [] ∧
        (Spec.evalOp (cfgOf u) (abs t) (.list cwd)).tree = abs t) := by
  refine ⟨fun hok => ?_, fun hok => ?_, fun hok => ?_⟩
  · obtain ⟨o1, o2⟩ := open_dir_img I hwf hup env henv cwd st hden path fuel hfuel
    obtain ⟨htree, hacc⟩ := open_refines u t hwf cwd hok.1 path hok.2 true
    rcases accepts_cases hacc (openS_no_hang _ _ _ _ _) with ⟨e, hout, he⟩ | ⟨rows, hout, h1, h2⟩
    · exact Or.inr ⟨e, o2 e hout, he⟩
    · obtain ⟨de, _, _, hr, _, _⟩ := o1 rows hout
      exact Or.inl ⟨⟨de, hr⟩, h1, h2.trans (congrArg abs htree)⟩
  · obtain ⟨o1, o2⟩ := open_file_img I hwf hup env henv cwd st hden path fuel hfuel
    obtain ⟨htree, hacc⟩ := open_refines u t hwf cwd hok.1 path hok.2 false
    rcases accepts_cases hacc (openS_no_hang _ _ _ _ _) with ⟨e, hout, he⟩ | ⟨rows, hout, h1, h2⟩
    · exact Or.inr ⟨e, o2 e hout, he⟩
    · obtain ⟨de, _, _, hr, _, _, _⟩ := o1 rows hout
      exact Or.inl ⟨⟨de, hr⟩, h1, h2.trans (congrArg abs htree)⟩
  · obtain ⟨slots, src, dots, k, hout, _, _, hr⟩ := list_img I cwd st hden
    obtain ⟨htree, hacc, _⟩ := list_refines u t hwf cwd hok
    unfold Accepts at hacc
    rw [hout] at hacc
    exact ⟨⟨_, hr⟩, hacc.1, hacc.2.trans (congrArg abs htree)⟩

/-! ## non-vacuity: a FAT16 image holding `/sub/Hello World.txt`, `sub` a directory of two clusters

The slot tree is `C01tree.Ex.root0` with the cluster of `sub` (2) in its short slot; the image is built from the
model's own slot lists: boot sector, one FAT sector (2 → 3 → end of chain), the root region (sector 2) holding the two
slots of `sub`, cluster 2 holding `.`, `..` and the three slots of `Hello World.txt`, cluster 3 empty. -/

namespace Ex4
open C01tree.Ex

def fs : FsState := DirSim.Ex2.fs
/-- body bytes 12…31 of a short slot whose first cluster is 2 -/
def stampC2 : List Nat := List.replicate 14 0 ++ [2, 0] ++ List.replicate 4 0
def sfnSub2 : List Nat := sfnWith aliasSub (newBody true stampC2)
def unitsSub : List Nat := Names.encodeUtf16 "sub".toList
def unitsHello : List Nat := Names.encodeUtf16 "Hello World.txt".toList
def rootSlots : List (List Nat) := DirSlots.writeEntry [] unitsSub sfnSub2
def subSlots : List (List Nat) := DirSlots.writeEntry [] unitsHello sfnHello
def dotSlot : List Nat := dotRaw ++ 16 :: stampC2
def dotDotSlot : List Nat := dotDotRaw ++ 16 :: List.replicate 20 0

/-- the slot tree -/
def root4 : Node := addEntry unitsSub sfnSub2 sub0 (.dir [] [])

def pad512 (l : List Nat) : List Nat := l ++ List.replicate (512 - l.length) 0

def bytes : List Nat :=
  List.replicate 512 0 ++
  pad512 [0xF8, 0xFF, 0xFF, 0xFF, 3, 0, 0xFF, 0xFF] ++
  pad512 rootSlots.flatten ++
  pad512 (dotSlot ++ dotDotSlot ++ subSlots.flatten)

/-- `bytes` padded to one page of 4096 bytes (`Img.WF`), written out (so that the kernel does not re-run the model's
    slot-list functions for every byte it reads) -/
def imgBytes : List Nat :=
  List.replicate 512 0 ++
  [248, 255, 255, 255, 3, 0, 255, 255] ++
  List.replicate 504 0 ++
  [65, 115, 0, 117, 0, 98, 0, 0, 0, 255, 255, 15, 0, 191, 255, 255, 255, 255, 255, 255, 255, 255, 255, 255, 255, 255, 0, 0, 255, 255, 255, 255, 83, 85, 66, 32, 32, 32, 32, 32, 32, 32, 32, 16] ++
  List.replicate 14 0 ++
  [2] ++
  List.replicate 453 0 ++
  [46, 32, 32, 32, 32, 32, 32, 32, 32, 32, 32, 16] ++
  List.replicate 14 0 ++
  [2, 0, 0, 0, 0, 0, 46, 46, 32, 32, 32, 32, 32, 32, 32, 32, 32, 16] ++
  List.replicate 20 0 ++
  [66, 120, 0, 116, 0, 0, 0, 255, 255, 255, 255, 15, 0, 27, 255, 255, 255, 255, 255, 255, 255, 255, 255, 255, 255, 255, 0, 0, 255, 255, 255, 255, 1, 72, 0, 101, 0, 108, 0, 108, 0, 111, 0, 15, 0, 27, 32, 0, 87, 0, 111, 0, 114, 0, 108, 0, 100, 0, 0, 0, 46, 0, 116, 0, 72, 69, 76, 76, 79, 87, 126, 49, 84, 88, 84] ++
  List.replicate 373 0 ++
  List.replicate 2048 0

def dev : Dev := { img := Img.ofBytes imgBytes 4096, fs := fs }
def env : Env := ⟨up0⟩
def cl (p : List String) : Option Nat := if p = [] then none else some 2

theorem wf : dev.img.WF := Img.ofBytes_wf _ _ (by decide +kernel)

theorem root4_wf : TreeWf up0 root4 := by
  have hchk : checkForExistenceL up0 [] "sub" (some true) 20 = .ok (.alias aliasSub) := by decide +kernel
  exact (add_success Names.upperAscii (.dir [] []) (treeWf_fresh _ true) [] trivial [] [] rfl "sub"
    sfnSub2 sub0 rfl
    (C16dir.dir_create_wf up0 [] "sub" (some true) 20 aliasSub 16 stampC2 (dirWf_nil _) rfl (by decide) hchk)
    (by decide +kernel) (by decide +kernel) sub0_wf).1

def eSub : LfnEntry := newEntry [] unitsSub sfnSub2
def eHello : LfnEntry := newEntry [] unitsHello sfnHello

theorem root4_eq : root4 = .dir rootSlots [(eSub, sub0)] :=
  addEntry_dir (dirWf_nil up0).shape unitsSub sfnSub2 sub0 [] ⟨by decide, by decide, by decide, by decide⟩
    (by decide +kernel)

theorem sub0_eq : sub0 = .dir subSlots [(eHello, .file [])] :=
  addEntry_dir (dirWf_nil up0).shape unitsHello sfnHello (.file []) [] ⟨by decide, by decide, by decide, by decide⟩
    (by decide +kernel)

/-- below the root of the slot tree there is one directory: `sub`, under any spelling of its name that resolves -/
theorem dirs_of_root4 (cur : List String) (s : List (List Nat)) (c : List (LfnEntry × Node)) (hne : cur ≠ [])
    (h : getAtS up0 root4 cur = some (.dir s c)) : ∃ q, cur = [q] ∧ s = subSlots ∧ c = [(eHello, .file [])] := by
  obtain ⟨q, r, rfl⟩ := List.exists_cons_of_ne_nil hne
  rw [root4_eq] at h
  obtain ⟨x, hx, h⟩ := getAtS_cons_dir h
  rw [List.mem_singleton.1 (lookupS_mem hx)] at h
  change getAtS up0 sub0 r = _ at h
  rw [sub0_eq] at h
  cases r with
  | nil =>
    obtain ⟨rfl, rfl⟩ := Node.dir.inj (Option.some.inj h)
    exact ⟨q, rfl, rfl, rfl⟩
  | cons q' r' =>
    obtain ⟨y, hy, h⟩ := getAtS_cons_dir h
    rw [List.mem_singleton.1 (lookupS_mem hy)] at h
    cases (getAtS_file [] r' _ h).2

theorem shiftE_zero (e : LfnEntry) : shiftE 0 e = e := rfl

theorem layout : Layout dev :=
  ⟨by decide, wf, rfl, rfl, by decide, by decide, by decide, by decide⟩

theorem rootReadable : RootReadable dev 16 := ⟨rfl, by decide, by decide, by decide⟩

/-! the FAT of the image: 2 → 3 → end of chain, clusters 4 and 5 free -/

open FatVerif.FileSim FatVerif.Fat in
theorem geo : Geo dev.fs dev.img.size :=
  ⟨by decide, by decide, by decide, by decide, by decide, by decide, by decide, by decide, by decide, by decide, by decide⟩

open FatVerif.FileSim FatVerif.Fat in
theorem tab4 : tabView dev.fs dev.img = fun c => [FatValue.eoc, .eoc, .data 3, .eoc, .free, .free].getD c .bad :=
  tabView_ofBytes dev.fs imgBytes 4096 rfl (by decide) _ (by decide +kernel)

open FatVerif.FileSim FatVerif.Fat in
theorem fat2 : tabView dev.fs dev.img 2 = .data 3 := congrFun tab4 2
open FatVerif.FileSim FatVerif.Fat in
theorem fat3 : tabView dev.fs dev.img 3 = .eoc := congrFun tab4 3

open FatVerif.FileSim FatVerif.Fat in
/-- the directory at cluster 2 is readable (chain `[2, 3]`) … -/
theorem subReadable : ChainReadable dev 2 none [2, 3] :=
  ⟨⟨rfl, geo, rfl, Chain.cons 2 3 [3] fat2 (Chain.last 3 fun n hn => by rw [fat3] at hn; cases hn), by decide, rfl,
    Or.inl rfl, fun e he => (by cases he), by decide, by decide⟩, by decide⟩

/-- … also through the handle of any clean directory entry -/
theorem subReadable_entry (e : DirEntry) (hd : e.isDir = true) : ChainReadable dev 2 (some e.editor) [2, 3] :=
  chainReadable_ent subReadable rfl e hd

/-! the slots of the two directories on the image, read off `imgBytes` (`DirSim.records`) -/

/-- the root region: the model's root slot list, then fourteen zero slots (end markers) -/
theorem rootSlots4 : rootDirSlots dev.fs dev.img = rootSlots ++ List.replicate 14 (List.replicate 32 0) :=
  rootDirSlots_ofBytes _ _ _ (by decide) _ (by decide +kernel)

/-- clusters 2 and 3: `.`, `..`, the three slots of `Hello World.txt`, 27 zero slots -/
theorem chainSlots4 : chainSlots dev.fs dev.img [2, 3] =
    dotSlot :: dotDotSlot :: subSlots ++ List.replicate 27 (List.replicate 32 0) :=
  chainSlots_ofBytes _ _ _ _ (by decide) _ (by decide +kernel)

/-- the chain of `sub` at slot level: `.`, `..`, the three slots of `Hello World.txt`, 27 end markers -/
theorem subSlots4 : SubSlots dev [2, 3] dotSlot dotDotSlot subSlots ((chainSlots dev.fs dev.img [2, 3]).drop 5) := by
  have ht : (chainSlots dev.fs dev.img [2, 3]).drop 5 = List.replicate 27 (List.replicate 32 0) := by
    rw [chainSlots4]; rfl
  rw [ht]
  exact ⟨chainSlots4, fun s hs => by rw [List.eq_of_mem_replicate hs]; exact zero_isEnd, by decide, by decide,
    by decide, by decide⟩

theorem ex_h3 : (toDirEntryS (rootSrc fs) eSub).firstCluster fs = some 2 := by decide +kernel
theorem ex_k2 : (toDirEntryS (chainSrc fs [2, 3]) ⟨dotSlot, [], 0, 1⟩).firstCluster fs = some 2 := by
  decide +kernel
theorem ex_k3 : (toDirEntryS (chainSrc fs [2, 3]) ⟨dotDotSlot, [], 1, 2⟩).firstCluster fs = none := by
  decide +kernel

/-- **the image holds the slot tree** (concrete bundle) -/
theorem imgTreeW : ImgTreeW dev up0 root4 cl := by
  refine ⟨layout, rfl, ?_, ?_⟩
  · intro s c ht
    rw [root4_eq] at ht
    obtain ⟨rfl, rfl⟩ := Node.dir.inj ht
    refine ⟨16, _, rootReadable, rootSlots4, fun x hx => ?_, fun x hx _ => ?_⟩
    · rw [List.eq_of_mem_replicate hx]; exact zero_isEnd
    · rw [List.mem_singleton.1 hx]
      exact ex_h3.trans (if_neg (List.cons_ne_nil _ _)).symm
  · intro cur s c hne hg
    obtain ⟨q, rfl, rfl, rfl⟩ := dirs_of_root4 cur s c hne hg
    have hcl : cl [q] = some 2 := if_neg hne
    refine ⟨2, [2, 3], ⟨dotSlot, [], 0, 1⟩, ⟨dotDotSlot, [], 1, 2⟩, hcl, subReadable, subSlots4.listing,
      ⟨rfl, by decide, by decide, hcl ▸ ex_k2, rfl, by decide, by decide, ex_k3⟩, fun x hx hdir => ?_⟩
    rw [List.mem_singleton.1 hx] at hdir
    cases hdir

/-- … hence the abstract one: the read-only theorems apply -/
theorem imgTree : ImgTree dev up0 root4 cl := imgTreeW.toImgTree

theorem dotSafe : DotSafe up0 := UpperSafe.dotSafe upperSafe_ascii

/-- the root handle denotes the root of the tree -/
theorem den_root4 : Den dev up0 root4 cl [] (rootDirStream dev.fs) := den_root imgTree _ _ root4_eq

/-- what the slot tree says about some calls … -/
example : [(openS up0 root4 [] "SUB/hello world.TXT" false).out, (openS up0 root4 [] "sub/./../SUB" true).out,
    (openS up0 root4 [] "sub/nothing" false).out, (openS up0 root4 [] "sub/Hello World.txt/x" true).out,
    (openS up0 root4 [] "sub" false).out] =
    [.ok [], .ok [], .error .notFound, .error .invalidInput, .error .invalidInput] := by decide +kernel

/-- … is what the byte-level programs do on the image (`open_file_img`, `open_dir_img`), e.g. `open_file` of
    `SUB/hello world.TXT` from the root succeeds with the handle of a file entry, on every device with this volume -/
example : ∃ de : DirEntry, de.isDir = false ∧ ∀ d1, SameVol dev d1 →
    Reads (openFile env 30 (rootDirStream dev.fs) "SUB/hello world.TXT") d1
      (FileH.new (de.firstCluster dev.fs) (some de.editor)) := by
  obtain ⟨o1, _⟩ := open_file_img imgTree root4_wf dotSafe env rfl [] _ den_root4 "SUB/hello world.TXT" 30
    (by decide)
  obtain ⟨de, _, _, hr, hd, _, _⟩ := o1 [] (by decide +kernel)
  exact ⟨de, hd, hr⟩

/-- `open_dir("sub/./../SUB")` walks through the dot entries of cluster 2 back to the root and into `SUB` again … -/
example : ∃ de : DirEntry, ∀ d1, SameVol dev d1 →
    Reads (openDir env 30 (rootDirStream dev.fs) "sub/./../SUB") d1 (DirEntry.dirStream dev.fs de) := by
  obtain ⟨o1, _⟩ := open_dir_img imgTree root4_wf dotSafe env rfl [] _ den_root4 "sub/./../SUB" 30 (by decide)
  obtain ⟨de, _, _, hr, _, _⟩ := o1 [] (by decide +kernel)
  exact ⟨de, hr⟩

/-- … and the error kinds: a missing entry, a file used as a directory -/
example : (∀ d1, SameVol dev d1 → FailsV (openFile env 30 (rootDirStream dev.fs) "sub/nothing") d1 .notFound) ∧
    (∀ d1, SameVol dev d1 → FailsV (openDir env 30 (rootDirStream dev.fs) "sub/Hello World.txt/x") d1 .invalidInput) :=
  ⟨(open_file_img imgTree root4_wf dotSafe env rfl [] _ den_root4 "sub/nothing" 30 (by decide)).2 _ (by decide +kernel),
   (open_dir_img imgTree root4_wf dotSafe env rfl [] _ den_root4 "sub/Hello World.txt/x" 30 (by decide)).2 _
     (by decide +kernel)⟩

end Ex4

/-! ## the mutating half: last directory = the fixed root (FAT12/16)

Concrete bundle `SlotTreeImg.ImgTreeW d up t cl` (Proofs/SlotTreeDenW.lean; `ImgTreeW.toImgTree`): layout facts, the
root region holds the root node's slot list followed by end markers (slot level), every sub-directory is a readable
cluster chain listing its dot entries and the node's entries.  It is RE-ESTABLISHED after the write
(`imgTreeW_root_step`): every other directory is carried over by the frame of the write. -/

section mutating
open SlotTreeImg

/-- **`create_file` at byte level, last directory = the fixed root** (`hlast`): through any handle, on a path of any depth
    whose directory components lead back to the root (`x`, `./x`, `sub/../x`, …), the program ends as `createS` says —
    `InvalidInput` (dot name, existing directory, a file used as a directory on the way), `NotFound`, the error of
    `validate_long_name`, the existing file, or a new entry — and after success the image holds the new slot tree, the
    short record being `sfnWith alias (0 :: sfnStamp fs clock none)` with the alias of `check_for_existence` (C16).
    `hroom`: the entry fits into the root region. -/
theorem create_file_img_partial {d : Dev} {up : Char → List Char} {t : Node} {cl : List String → Option Nat}
    (W : ImgTreeW d up t cl) (hwf : TreeWf up t) (hup : DotSafe up) (env : Env)
    (henv : env.upper = up) (cwd : List String) (st : DirStream) (hden : Den d up t cl cwd st) (path : String)
    (fuel : Nat) (hfuel : path.toList.length < fuel)
    (hlast : ∀ p, walkDirsS up t cwd (pathParts path).1 = .ok p → p = [])
    (hroom : ∀ slots ch, t = .dir slots ch → HasRoomRoot d slots (pathParts path).2)
    (hnh : (createS up 70000 t cwd path false (sfnStamp d.fs d.clock none)).out ≠ .error .hang) :
    (∀ e, (createS up 70000 t cwd path false (sfnStamp d.fs d.clock none)).out = .error e →
      FailsV (createFile env fuel st path) d e) ∧
    (∀ rows, (createS up 70000 t cwd path false (sfnStamp d.fs d.clock none)).out = .ok rows →
      ∃ (h : FileH) (d' : Dev), run (createFile env fuel st path) d = (.ok h, d') ∧ VolStep d d' ∧
        ImgTreeW d' up (createS up 70000 t cwd path false (sfnStamp d.fs d.clock none)).tree cl) := by
  obtain ⟨slots, ch, rfl⟩ := root_of_den hden
  obtain ⟨o1, o2⟩ := root_call W hwf hup env henv cwd st hden path fuel hfuel hlast (createFile env)
    (createFile_unfold_step env) _ (fun p l => crFinal up (.dir slots ch) p l false (sfnStamp d.fs d.clock none))
    (createS_eq up _ cwd path false _)
    (fun d' => ImgTreeW d' up (crFinal up (.dir slots ch) [] (pathParts path).2 false (sfnStamp d.fs d.clock none)).tree cl ∧
      DirsKept up (.dir slots ch) (crFinal up (.dir slots ch) [] (pathParts path).2 false (sfnStamp d.fs d.clock none)).tree)
    (fun _ _ h hv => ⟨h.1.of_sameVol hv, h.2⟩)
    (fun _ _ _ hs h hdn => drop_after h.1 (ClAgree.refl _ _ _) h.2 hs hdn)
    (fun f p hp => createFile_root_final W hwf env henv f p _ hp (hroom slots ch rfl)) hnh
  refine ⟨o1, fun rows hr => ?_⟩
  obtain ⟨hS, h, d', hrun, hs, hW, _⟩ := o2 rows hr
  exact ⟨h, d', hrun, hs, hS ▸ hW⟩

/-- … composed with the refinement of the specification: the outcome is accepted by `Spec.evalOp` on `abs t`; after
    success the new image holds a well-formed slot tree whose abstraction is the specification's new tree -/
theorem create_file_refines_spec_img_partial (u : Char → List Char) {d : Dev} {t : Node}
    {cl : List String → Option Nat} (W : ImgTreeW d (upOf u) t cl) (hwf : TreeWf (upOf u) t)
    (hup : DotSafe (upOf u)) (env : Env) (henv : env.upper = upOf u) (cwd : List String) (st : DirStream)
    (hden : Den d (upOf u) t cl cwd st) (path : String) (fuel : Nat) (hfuel : path.toList.length < fuel)
    (hlast : ∀ p, walkDirsS (upOf u) t cwd (pathParts path).1 = .ok p → p = [])
    (hroom : ∀ slots ch, t = .dir slots ch → HasRoomRoot d slots (pathParts path).2)
    (hnh : (createS (upOf u) 70000 t cwd path false (sfnStamp d.fs d.clock none)).out ≠ .error .hang)
    (hok : OpOk (upOf u) t (.createFile cwd path)) :
    (∃ e, FailsV (createFile env fuel st path) d e ∧
      e ∈ (Spec.evalOp (cfgOf u) (abs t) (.createFile cwd path)).errs) ∨
    (∃ (h : FileH) (d' : Dev) (t' : Node), run (createFile env fuel st path) d = (.ok h, d') ∧ VolStep d d' ∧
      ImgTreeW d' (upOf u) t' cl ∧ TreeWf (upOf u) t' ∧
      (Spec.evalOp (cfgOf u) (abs t) (.createFile cwd path)).errs = [] ∧
      (Spec.evalOp (cfgOf u) (abs t) (.createFile cwd path)).tree = abs t') := by
  obtain ⟨o1, o2⟩ := create_file_img_partial W hwf hup env henv cwd st hden path fuel hfuel hlast hroom hnh
  obtain ⟨hwf', _, hacc⟩ := slot_step_refines u 70000 t hwf (.createFile cwd path) (sfnStamp d.fs d.clock none) hok
  rcases accepts_cases hacc hnh with ⟨e, hout, he⟩ | ⟨rows, hout, h1, h2⟩
  · exact Or.inl ⟨e, o1 e hout, he⟩
  · obtain ⟨h, d', hr, hs, hW⟩ := o2 rows hout
    exact Or.inr ⟨h, d', _, hr, hs, hW, hwf', h1, h2⟩


/-- **`remove` of a file at byte level, parent = the fixed root**: any path whose
    directory components lead back to the root; `RemoveRes`: `Geo`, `InfoOk`, the named entry is a file, its cluster
    chain (`cs = []` for a file without clusters, e.g. one made by `create_file` and never written) is a chain of
    allocated clusters and is apart from every directory chain of the tree (`FreedApart` — it follows from a
    well-formed FAT: `fat_side_conditions_of_fatWf`).  The program ends as `removeS` says (`InvalidInput` for a dot name, `NotFound`, …);
    after success the image holds the slot tree without the entry (`ImgTreeW` re-established across the release of
    the chain — `ImgTreeW.of_freed` — and the deletion of the slot range).  `_partial`: last directory = root; the
    entry is a file (an empty DIRECTORY needs `remove_dir_sim` and the release of its cluster, a non-empty one the
    relation between `is_empty` on the image and `nodeEmpty`: not composed). -/
theorem remove_file_img_partial {d : Dev} {up : Char → List Char} {t : Node} {cl : List String → Option Nat}
    (W : ImgTreeW d up t cl) (hwf : TreeWf up t) (hup : DotSafe up) (env : Env)
    (henv : env.upper = up) (cwd : List String) (st : DirStream) (hden : Den d up t cl cwd st) (path : String)
    (fuel : Nat) (hfuel : path.toList.length < fuel)
    (hlast : ∀ p, walkDirsS up t cwd (pathParts path).1 = .ok p → p = [])
    (hres : ∀ slots ch, t = .dir slots ch → RemoveRes d up t cl slots ch (pathParts path).2) :
    (∀ e, (removeS up t cwd path).out = .error e → FailsV (FatVerif.remove env fuel st path) d e) ∧
    (∀ rows, (removeS up t cwd path).out = .ok rows →
      ∃ d' : Dev, run (FatVerif.remove env fuel st path) d = (.ok (), d') ∧ VolStep d d' ∧
        ImgTreeW d' up (removeS up t cwd path).tree cl) := by
  obtain ⟨slots, ch, rfl⟩ := root_of_den hden
  obtain ⟨o1, o2⟩ := root_call W hwf hup env henv cwd st hden path fuel hfuel hlast (FatVerif.remove env)
    (remove_unfold_step env) _ (fun p l => rmFinal up (.dir slots ch) p l) (removeS_eq up _ cwd path)
    (fun d' => ImgTreeW d' up (rmFinal up (.dir slots ch) [] (pathParts path).2).tree cl ∧
      DirsKept up (.dir slots ch) (rmFinal up (.dir slots ch) [] (pathParts path).2).tree)
    (fun _ _ h hv => ⟨h.1.of_sameVol hv, h.2⟩)
    (fun _ _ _ hs h hdn => drop_after h.1 (ClAgree.refl _ _ _) h.2 hs hdn)
    (fun f p hp => removeFile_root_final W hwf env henv f p _ hp (hres slots ch rfl)) (removeS_no_hang _ _ _ _)
  refine ⟨o1, fun rows hr => ?_⟩
  obtain ⟨hS, _, d', hrun, hs, hW, _⟩ := o2 rows hr
  exact ⟨d', hrun, hs, hS ▸ hW⟩

/-- … composed with the refinement of the specification -/
theorem remove_file_refines_spec_img_partial (u : Char → List Char) {d : Dev} {t : Node}
    {cl : List String → Option Nat} (W : ImgTreeW d (upOf u) t cl) (hwf : TreeWf (upOf u) t)
    (hup : DotSafe (upOf u)) (env : Env) (henv : env.upper = upOf u) (cwd : List String) (st : DirStream)
    (hden : Den d (upOf u) t cl cwd st) (path : String) (fuel : Nat) (hfuel : path.toList.length < fuel)
    (hlast : ∀ p, walkDirsS (upOf u) t cwd (pathParts path).1 = .ok p → p = [])
    (hres : ∀ slots ch, t = .dir slots ch → RemoveRes d (upOf u) t cl slots ch (pathParts path).2)
    (hok : OpOk (upOf u) t (.remove cwd path)) :
    (∃ e, FailsV (FatVerif.remove env fuel st path) d e ∧
      e ∈ (Spec.evalOp (cfgOf u) (abs t) (.remove cwd path)).errs) ∨
    (∃ (d' : Dev) (t' : Node), run (FatVerif.remove env fuel st path) d = (.ok (), d') ∧ VolStep d d' ∧
      ImgTreeW d' (upOf u) t' cl ∧ TreeWf (upOf u) t' ∧
      (Spec.evalOp (cfgOf u) (abs t) (.remove cwd path)).errs = [] ∧
      (Spec.evalOp (cfgOf u) (abs t) (.remove cwd path)).tree = abs t') := by
  obtain ⟨o1, o2⟩ := remove_file_img_partial W hwf hup env henv cwd st hden path fuel hfuel hlast hres
  obtain ⟨hwf', _, hacc⟩ := slot_step_refines u 70000 t hwf (.remove cwd path) [] hok
  rcases accepts_cases hacc (removeS_no_hang _ _ _ _) with ⟨e, hout, he⟩ | ⟨rows, hout, h1, h2⟩
  · exact Or.inl ⟨e, o1 e hout, he⟩
  · obtain ⟨d', hr, hs, hW⟩ := o2 rows hout
    exact Or.inr ⟨d', _, hr, hs, hW, hwf', h1, h2⟩

/-- **`create_dir` at byte level, last directory = the fixed root**: any path whose
    directory components lead back to the root.  `DirRes`: `Geo`, `InfoOk`, cluster size a multiple of 32, at least 64
    and below 2^32, fewer slots per cluster than the scan fuel, the allocator finds the cluster `c` in the FAT of the
    image (`allocFindV … = some c`; a full volume — `NotEnoughSpace` — is NOT covered), at most 65534 clusters
    (FAT12/16), the entry fits into the root region, and `c` is on no directory chain of the tree (`apart`: follows from
    `c` being free once the FAT is well formed and the directory heads are allocated: `DirRes.of_fatWf`).
    The program ends as `createS … true` says (the existing directory is opened; `InvalidInput` for an existing file or
    a dot name; the error of `validate_long_name`; a file used as a directory on the way; `NotFound`); after success
    the image holds the new slot tree — the root gained the entry `sfnWith alias (16 :: sfnStamp fs clock (some c))`,
    its child is the empty directory, which the image holds in cluster `c` (`.`, `..`, zero slots; `SubImg.fresh`) —
    under a cluster map `cl'` that agrees with `cl` on every directory of the old tree (`ClAgree`; `cl'` sends the
    paths that name the new entry to `c`).  Every other directory is carried across the allocation and the writes
    (`SubImg.of_dirStep`).  `_partial`: last directory = root. -/
theorem create_dir_img_partial {d : Dev} {up : Char → List Char} {t : Node} {cl : List String → Option Nat}
    (W : ImgTreeW d up t cl) (hwf : TreeWf up t) (hup : DotSafe up) (env : Env)
    (henv : env.upper = up) (cwd : List String) (st : DirStream) (hden : Den d up t cl cwd st) (path : String)
    (fuel : Nat) (hfuel : path.toList.length < fuel)
    (hlast : ∀ p, walkDirsS up t cwd (pathParts path).1 = .ok p → p = []) (c : Nat)
    (hres : ∀ slots ch, t = .dir slots ch → DirRes d up t cl slots (pathParts path).2 c)
    (hnh : (createS up 70000 t cwd path true (sfnStamp d.fs d.clock (some c))).out ≠ .error .hang) :
    (∀ e, (createS up 70000 t cwd path true (sfnStamp d.fs d.clock (some c))).out = .error e →
      FailsV (createDir env fuel st path) d e) ∧
    (∀ rows, (createS up 70000 t cwd path true (sfnStamp d.fs d.clock (some c))).out = .ok rows →
      ∃ (s : DirStream) (d' : Dev), run (createDir env fuel st path) d = (.ok s, d') ∧ VolStep d d' ∧
        ∃ cl', ImgTreeW d' up (createS up 70000 t cwd path true (sfnStamp d.fs d.clock (some c))).tree cl' ∧
          ClAgree up t cl cl') := by
  obtain ⟨slots, ch, rfl⟩ := root_of_den hden
  obtain ⟨o1, o2⟩ := root_call W hwf hup env henv cwd st hden path fuel hfuel hlast (createDir env)
    (createDir_unfold_step env) _ (fun p l => crFinal up (.dir slots ch) p l true (sfnStamp d.fs d.clock (some c)))
    (createS_eq up _ cwd path true _)
    (fun d' => ∃ cl',
      ImgTreeW d' up (crFinal up (.dir slots ch) [] (pathParts path).2 true (sfnStamp d.fs d.clock (some c))).tree cl' ∧
      ClAgree up (.dir slots ch) cl cl' ∧
      DirsKept up (.dir slots ch)
        (crFinal up (.dir slots ch) [] (pathParts path).2 true (sfnStamp d.fs d.clock (some c))).tree)
    (fun _ _ ⟨cl', hW, h⟩ hv => ⟨cl', hW.of_sameVol hv, h⟩)
    (fun _ _ _ hs ⟨_, hW, hA, hk⟩ hdn => drop_after hW hA hk hs hdn)
    (fun f p hp => createDir_root_final W hwf env henv f p _ hp c (hres slots ch rfl)) hnh
  refine ⟨o1, fun rows hr => ?_⟩
  obtain ⟨hS, s, d', hrun, hs, cl', hW, hA, _⟩ := o2 rows hr
  exact ⟨s, d', hrun, hs, cl', hS ▸ hW, hA⟩

/-- … composed with the refinement of the specification -/
theorem create_dir_refines_spec_img_partial (u : Char → List Char) {d : Dev} {t : Node}
    {cl : List String → Option Nat} (W : ImgTreeW d (upOf u) t cl) (hwf : TreeWf (upOf u) t)
    (hup : DotSafe (upOf u)) (env : Env) (henv : env.upper = upOf u) (cwd : List String) (st : DirStream)
    (hden : Den d (upOf u) t cl cwd st) (path : String) (fuel : Nat) (hfuel : path.toList.length < fuel)
    (hlast : ∀ p, walkDirsS (upOf u) t cwd (pathParts path).1 = .ok p → p = []) (c : Nat)
    (hres : ∀ slots ch, t = .dir slots ch → DirRes d (upOf u) t cl slots (pathParts path).2 c)
    (hnh : (createS (upOf u) 70000 t cwd path true (sfnStamp d.fs d.clock (some c))).out ≠ .error .hang)
    (hok : OpOk (upOf u) t (.createDir cwd path)) :
    (∃ e, FailsV (createDir env fuel st path) d e ∧
      e ∈ (Spec.evalOp (cfgOf u) (abs t) (.createDir cwd path)).errs) ∨
    (∃ (s : DirStream) (d' : Dev) (t' : Node) (cl' : List String → Option Nat),
      run (createDir env fuel st path) d = (.ok s, d') ∧ VolStep d d' ∧
      ImgTreeW d' (upOf u) t' cl' ∧ ClAgree (upOf u) t cl cl' ∧ TreeWf (upOf u) t' ∧
      (Spec.evalOp (cfgOf u) (abs t) (.createDir cwd path)).errs = [] ∧
      (Spec.evalOp (cfgOf u) (abs t) (.createDir cwd path)).tree = abs t') := by
  obtain ⟨o1, o2⟩ := create_dir_img_partial W hwf hup env henv cwd st hden path fuel hfuel hlast c hres hnh
  obtain ⟨hwf', _, hacc⟩ := slot_step_refines u 70000 t hwf (.createDir cwd path) (sfnStamp d.fs d.clock (some c)) hok
  rcases accepts_cases hacc hnh with ⟨e, hout, he⟩ | ⟨rows, hout, h1, h2⟩
  · exact Or.inl ⟨e, o1 e hout, he⟩
  · obtain ⟨s, d', hr, hs, cl', hW, hA⟩ := o2 rows hout
    exact Or.inr ⟨s, d', _, cl', hr, hs, hW, hA, hwf', h1, h2⟩

/-- **`rename` of a file inside the fixed root at byte level**: both paths are
    single names (`splitPathL … = (_, none)`: no `/` inside; a trailing `/` is allowed), both handles the root's.
    `RenameRes`: the source entry, if found, is a FILE whose attribute byte has no undefined bits (`< 64`: the reader
    masks bits 6–7 — `attrsTruncate` — and the record written back carries the masked byte, whereas the model's
    `renamedSfn` copies the byte), and the new entry fits into the root region (it is written BEFORE the old slots are
    marked deleted).  The program ends as `renameS` says: `InvalidInput` for a dot name, `NotFound`, the error of
    `validate_long_name`, `AlreadyExists`, nothing at all when the new name answers to the source entry itself, or
    the move; after the move the image holds the new slot tree (`ImgTreeW` re-established by one root step: the
    renamed record `renamedSfn sfn alias` under the long name, then the old slot range deleted; the cluster chain of
    the file is not touched).  `_partial`: root only, single names, files only (a directory needs the `..` re-link
    and the ancestor walk: `rename_dir_sim` is not composed), no move between directories. -/
theorem rename_file_img_partial {d : Dev} {up : Char → List Char} {t : Node} {cl : List String → Option Nat}
    (W : ImgTreeW d up t cl) (hwf : TreeWf up t) (env : Env) (henv : env.upper = up)
    (fuel : Nat) (src dst : String) (sa da : List Char) (h1 : Names.splitPathL src.toList = (sa, none))
    (h2 : Names.splitPathL dst.toList = (da, none)) (hroot : ∃ s c, t = .dir s c)
    (hres : ∀ slots ch, t = .dir slots ch → RenameRes d up slots ch (String.ofList sa) (String.ofList da))
    (hnh : (renameS up 70000 t [] src [] dst).out ≠ .error .hang) :
    (∀ e, (renameS up 70000 t [] src [] dst).out = .error e →
      FailsV (FatVerif.rename env (fuel + 1) (rootDirStream d.fs) src (rootDirStream d.fs) dst) d e) ∧
    (∀ rows, (renameS up 70000 t [] src [] dst).out = .ok rows →
      ∃ d' : Dev, run (FatVerif.rename env (fuel + 1) (rootDirStream d.fs) src (rootDirStream d.fs) dst) d =
          (.ok (), d') ∧ VolStep d d' ∧ ImgTreeW d' up (renameS up 70000 t [] src [] dst).tree cl) := by
  rw [renameS_single up t src dst sa da h1 h2 hroot]
  obtain ⟨slots, ch, rfl⟩ := hroot
  rw [rootDirStream_fixed d.fs W.lay.fat16,
    rename_unfold_last env fuel _ _ src dst _ _ (splitPath_single src sa h1) (splitPath_single dst da h2)]
  have F := fun d4 hv => renameFile_root_final W hwf env henv (String.ofList sa) (String.ofList da)
    (hres slots ch rfl) d4 hv
  constructor
  · intro e he
    refine FailsV.bind_right (Reads.getFs d) (fun d2 hs2 => ?_)
    have := F d2 hs2
    unfold outErr at this
    rw [he] at this
    exact this
  · intro rows hr
    have := F d (SameVol.refl d)
    unfold outErr at this
    rw [hr] at this
    obtain ⟨_, d', hrun, hvs, hW⟩ := this
    exact ⟨d', by rw [run_bind_ok' (FileSim.run_getFs d)]; exact hrun, hvs, hW⟩

/-- … composed with the refinement of the specification -/
theorem rename_file_refines_spec_img_partial (u : Char → List Char) {d : Dev} {t : Node}
    {cl : List String → Option Nat} (W : ImgTreeW d (upOf u) t cl) (hwf : TreeWf (upOf u) t) (env : Env)
    (henv : env.upper = upOf u) (fuel : Nat) (src dst : String) (sa da : List Char)
    (h1 : Names.splitPathL src.toList = (sa, none)) (h2 : Names.splitPathL dst.toList = (da, none))
    (hroot : ∃ s c, t = .dir s c)
    (hres : ∀ slots ch, t = .dir slots ch → RenameRes d (upOf u) slots ch (String.ofList sa) (String.ofList da))
    (hnh : (renameS (upOf u) 70000 t [] src [] dst).out ≠ .error .hang)
    (hok : OpOk (upOf u) t (.rename [] src [] dst)) :
    (∃ e, FailsV (FatVerif.rename env (fuel + 1) (rootDirStream d.fs) src (rootDirStream d.fs) dst) d e ∧
      e ∈ (Spec.evalOp (cfgOf u) (abs t) (.rename [] src [] dst)).errs) ∨
    (∃ (d' : Dev) (t' : Node),
      run (FatVerif.rename env (fuel + 1) (rootDirStream d.fs) src (rootDirStream d.fs) dst) d = (.ok (), d') ∧
      VolStep d d' ∧ ImgTreeW d' (upOf u) t' cl ∧ TreeWf (upOf u) t' ∧
      (Spec.evalOp (cfgOf u) (abs t) (.rename [] src [] dst)).errs = [] ∧
      (Spec.evalOp (cfgOf u) (abs t) (.rename [] src [] dst)).tree = abs t') := by
  obtain ⟨o1, o2⟩ := rename_file_img_partial W hwf env henv fuel src dst sa da h1 h2 hroot hres hnh
  obtain ⟨hwf', _, hacc⟩ := slot_step_refines u 70000 t hwf (.rename [] src [] dst) [] hok
  rcases accepts_cases hacc hnh with ⟨e, hout, he⟩ | ⟨rows, hout, h1, h2⟩
  · exact Or.inl ⟨e, o1 e hout, he⟩
  · obtain ⟨d', hr, hs, hW⟩ := o2 rows hout
    exact Or.inr ⟨d', _, hr, hs, hW, hwf', h1, h2⟩

/-- **the FAT-level side conditions from a well-formed FAT** (`SlotTreeImg.apart_of_fatWf`,
    `SlotTreeImg.freedApart_of_fatWf`, over `FatDisjoint.free_not_in_any_chain` /
    `head_chains_disjoint` of Proofs/FatImgDisjoint): if the decoded FAT of the image is `FatWf`, then
    (a) `DirRes.apart` holds for every FREE cluster `c` once the directory heads named by the cluster map are
        allocated (`DirHeadsAlloc`) — `DirRes.of_fatWf` builds the whole bundle that way;
    (b) `FreedApart` holds for the chain `cs` of a head `n` to which no link points, once the directory heads are
        other heads (`DirHeadsApartFrom`).
    NOT proved: that `DirHeadsAlloc` / `DirHeadsApartFrom` are invariants of the histories (they are facts about the
    FAT which `ImgTreeW` does not record; `ChainReadable` only says that each chain is a chain of the FAT). -/
theorem fat_side_conditions_of_fatWf {d : Dev} {up : Char → List Char} {t : Node} {cl : List String → Option Nat}
    (hw : Fat.FatWf (FileSim.tabView d.fs d.img) d.fs.totalClusters) :
    (∀ c, DirHeadsAlloc d up t cl → FileSim.tabView d.fs d.img c = .free →
      ∀ cur s ch, cur ≠ [] → getAtS up t cur = some (.dir s ch) → ∀ c0 chain, cl cur = some c0 →
        Fat.Chain (FileSim.tabView d.fs d.img) c0 chain → c ∉ chain) ∧
    (∀ n cs, Fat.Chain (FileSim.tabView d.fs d.img) n cs → (∀ q, FileSim.tabView d.fs d.img q ≠ .data n) →
      DirHeadsApartFrom d up t cl n → FreedApart d up t cl cs) :=
  ⟨fun _ hh hf => apart_of_fatWf hw hh hf, fun _ _ hn hnh hd => freedApart_of_fatWf hw hn hnh hd⟩

/-- **`create_file(name)` through the handle of a SUB-directory, slot level** (`SlotTreeImg.createFile_slots` with `SubSlots.pre`;
    groundwork for the case "last directory below the root", which is NOT composed into a tree step).
    `SubSlots d chain s1 s2 slots tail`: the cluster chain holds the `.` slot, the `..` slot, then the slot list `slots`
    of the model's node, then end markers.  Through the handle `File::new(Some(c0), Some(ed0))` (hypotheses of
    `WView.ofSub`, Proofs/DirWriteKinds: the directory's own record `ed0` lies behind the FAT copies, inside the device, apart
    from the directory's slots) and for a name other than `.`/`..` the program ends as the slot model says on `slots`:
    the error / existing entry / alias of `checkForExistenceL up slots name (some false)` (`check_dots`: the dot entries
    answer to no other name and leave the alias generator as it is), the error of `validate_long_name`, or the write —
    after which the chain holds `s1 :: s2 :: DirSlots.writeEntry slots …` and end markers (`findFree_cons_live`,
    `writeEntry_cons_live`: the two functions shift by the dot slots), the FAT and every byte from `0x42` on outside
    the directory's slots and outside the 32 bytes of its own record being kept (`FrameOutE … (subExtra ed0)`).
    What a tree step still needs is listed in the header of this file; `hroom` excludes the growth of the directory. -/
theorem create_file_subdir_slots_partial {d : Dev} {up : Char → List Char} (hup : DotSafe up) (env : Env)
    (henv : env.upper = up) (c0 : Nat) (ed0 : DirEntryEditor) (chain : List Nat)
    (C : DirSim.ChainDir d (FileH.new (some c0) (some ed0)) c0 chain) (hwfI : d.img.WF)
    (hfuel : chain.length * (d.fs.clusterSize / 32) < dirFuel d.fs) (hnm : ed0.data.name.length = 11)
    (hepos : (fatSliceOf d.fs).beginOff + (fatSliceOf d.fs).mirrors * (fatSliceOf d.fs).size ≤ ed0.pos)
    (hein : ed0.pos + 32 ≤ d.img.size)
    (heout : ∀ i, i < chain.length * (d.fs.clusterSize / 32) →
      DirSim.chainSrc d.fs chain (32 * i) + 32 ≤ ed0.pos ∨ ed0.pos + 32 ≤ DirSim.chainSrc d.fs chain (32 * i))
    (halloc : d.fs.lfnAlloc = true) (s1 s2 : List Nat) (slots tail : List (List Nat))
    (S : SubSlots d chain s1 s2 slots tail) (path name : String) (hsp : Names.splitPath path = (name, none))
    (hdot : isDotName name = false)
    (hroom : DirSlots.findFree slots (Lfn.numParts (Names.encodeUtf16 name.toList).length + 1) +
      (Lfn.numParts (Names.encodeUtf16 name.toList).length + 1) + 2 ≤ chain.length * (d.fs.clusterSize / 32))
    (f : Nat) :
    match DirAlias.checkForExistenceL up slots name (some false) 70000 with
    | .error e => FailsV (createFile env (f + 1) (.file (FileH.new (some c0) (some ed0))) path) d e
    | .ok (.entry _) => ∃ h, Reads (createFile env (f + 1) (.file (FileH.new (some c0) (some ed0))) path) d h
    | .ok (.alias a) =>
      match Names.validateLongName name with
      | .error e => FailsV (createFile env (f + 1) (.file (FileH.new (some c0) (some ed0))) path) d e
      | .ok () =>
        ∃ (h : FileH) (d' : Dev) (tail' : List (List Nat)),
          run (createFile env (f + 1) (.file (FileH.new (some c0) (some ed0))) path) d = (.ok h, d') ∧ VolStep d d' ∧
          SubSlots d' chain s1 s2
            (DirSlots.writeEntry slots (Names.encodeUtf16 name.toList)
              (DirAlias.sfnWith a (0 :: sfnStamp d.fs d.clock none))) tail' ∧
          DirSim.FrameOutE (chain.length * (d.fs.clusterSize / 32)) (DirSim.chainSrc d.fs chain)
            (DirSim.subExtra ed0) d d' := by
  let V : WView d (.file (FileH.new (some c0) (some ed0))) :=
    WView.ofSub d c0 ed0 chain C hwfI hfuel hnm hepos hein heout
  have hVs : V.slots d.img = [s1, s2] ++ slots ++ tail := by
    show srcSlots d.img (chainSrc d.fs chain) (chain.length * (d.fs.clusterSize / 32)) = _
    rw [srcSlots_chain d.fs d.img C.geo.cs_pos C.cs32 chain, S.eq]
    rfl
  have key := createFile_slots V env henv halloc (S.pre hup hdot) hVs S.ends path hsp hdot
    (by show _ ≤ chain.length * (d.fs.clusterSize / 32); simpa using hroom) f
  cases hc : checkForExistenceL up slots name (some false) 70000 with
  | error e => rw [hc] at key; exact key
  | ok r =>
    rw [hc] at key
    cases r with
    | entry le => exact key
    | alias a =>
      simp only at key ⊢
      cases hval : Names.validateLongName name with
      | error e => rw [hval] at key; exact key
      | ok u =>
        cases u
        rw [hval] at key
        obtain ⟨h, d', tail', hr, hs, hsl', htl', hfr⟩ := key
        refine ⟨h, d', tail', hr, hs, ⟨?_, htl', S.c1, S.c2, S.r1, S.r2⟩, hfr⟩
        rw [← srcSlots_chain d'.fs d'.img (C.geo.frame hs.geom).cs_pos (by rw [hs.geom.clusterSize]; exact C.cs32)
          chain,
          chainSrc_geom hs.geom, hs.geom.clusterSize]
        exact hsl'

/-! ### one call through the root handle -/

section step
variable {d : Dev} {up : Char → List Char} {t : Node} {cl : List String → Option Nat}

/-- the common end of every call: the program fails as the model says and the tree is unchanged, or it succeeds and
    the new device holds the new tree -/
theorem call_out {α} {prog : Prog α} {R : Res} (W : ImgTreeW d up t cl)
    (herr : ∀ e, R.out = .error e → FailsV prog d e ∧ R.tree = t)
    (hok : ∀ rows, R.out = .ok rows → ∃ (v : α) (d' : Dev), run prog d = (.ok v, d') ∧ VolStep d d' ∧
      ∃ cl', ImgTreeW d' up R.tree cl' ∧ ClAgree up t cl cl') :
    ∃ d' cl', (∃ r, run prog d = (r, d') ∧ errOf r = outErr R) ∧ VolStep d d' ∧ ImgTreeW d' up R.tree cl' ∧
      ClAgree up t cl cl' ∧ d'.clock = d.clock := by
  cases hout : R.out with
  | ok rows =>
    obtain ⟨v, d', hrun, hs, cl', hW, hA⟩ := hok rows hout
    exact ⟨d', cl', ⟨_, hrun, by rw [outErr_of_ok hout]; rfl⟩, hs, hW, hA, run_clock _ _ _ _ hrun⟩
  | error e =>
    obtain ⟨⟨d', hrun, hs⟩, htree⟩ := herr e hout
    exact ⟨d', cl, ⟨_, hrun, by rw [outErr_of_err hout]; rfl⟩, VolStep.of_sameVol hs,
      by rw [htree]; exact W.of_sameVol hs, ClAgree.refl _ _ _, run_clock _ _ _ _ hrun⟩

/-- … for a call that only reads -/
theorem call_out_read {α} {prog : Prog α} {R : Res} (W : ImgTreeW d up t cl) (htree : R.tree = t)
    (herr : ∀ e, R.out = .error e → FailsV prog d e) (hok : ∀ rows, R.out = .ok rows → ∃ v, Reads prog d v) :
    ∃ d' cl', (∃ r, run prog d = (r, d') ∧ errOf r = outErr R) ∧ VolStep d d' ∧ ImgTreeW d' up R.tree cl' ∧
      ClAgree up t cl cl' ∧ d'.clock = d.clock :=
  call_out W (fun e he => ⟨herr e he, htree⟩) (fun rows hr => by
    obtain ⟨v, d', hrun, hs⟩ := hok rows hr
    exact ⟨v, d', hrun, VolStep.of_sameVol hs, cl, by rw [htree]; exact W.of_sameVol hs, ClAgree.refl _ _ _⟩)

/-- **one call at byte level**: outcome of `stepSlot`, and the image afterwards holds the tree afterwards -/
theorem byte_step (W : ImgTreeW d up t cl) (hwf : TreeWf up t) (hup : DotSafe up) (env : Env) (henv : env.upper = up)
    (fuel : Nat) (c : Call) (hc : CallOk up cl d t fuel c) (hroot : ∃ s ch, t = .dir s ch) :
    ∃ d' cl', ByteOut env fuel d c (outErr (modelStep up d t c)) d' ∧ VolStep d d' ∧
      ImgTreeW d' up (modelStep up d t c).tree cl' ∧ ClAgree up t cl cl' ∧ d'.clock = d.clock := by
  obtain ⟨s0, c0, ht⟩ := hroot
  have I := W.toImgTree
  have hden : Den d up t cl [] (rootDirStream d.fs) := den_root I s0 c0 ht
  cases c with
  | openDir p =>
    obtain ⟨o1, o2⟩ := open_dir_img I hwf hup env henv [] _ hden p fuel hc
    exact call_out_read W (openS_tree _ _ _ _ _) (fun e he => o2 e he d (SameVol.refl d))
      (fun rows hr => by obtain ⟨de, _, _, h, _⟩ := o1 rows hr; exact ⟨_, h d (SameVol.refl d)⟩)
  | openFile p =>
    obtain ⟨o1, o2⟩ := open_file_img I hwf hup env henv [] _ hden p fuel hc
    exact call_out_read W (openS_tree _ _ _ _ _) (fun e he => o2 e he d (SameVol.refl d))
      (fun rows hr => by obtain ⟨de, _, _, h, _⟩ := o1 rows hr; exact ⟨_, h d (SameVol.refl d)⟩)
  | list =>
    obtain ⟨⟨slots, ch, hg⟩, hs⟩ := hden
    obtain ⟨V, dots, k, _, hr⟩ := listDir_den I [] _ slots ch hg hs
    have hl : modelStep up d t .list = ⟨t, .ok ((listing slots).map fun e => (entryName e, Lfn.isDir e.sfn))⟩ := by
      show listS up t [] = _
      unfold listS; rw [hg]
    rw [hl]
    exact call_out_read W rfl (fun e he => by cases he) (fun _ _ => ⟨_, hr d (SameVol.refl d)⟩)
  | createFile p =>
    obtain ⟨hf, hlast, hroom, hnh⟩ := hc
    obtain ⟨o1, o2⟩ := create_file_img_partial W hwf hup env henv [] _ hden p fuel hf hlast hroom hnh
    exact call_out W (fun e he => ⟨o1 e he, stepSlot_err_tree _ _ _ _ _ e he⟩) (fun rows hr => by
      obtain ⟨h, d', hrun, hs, hW⟩ := o2 rows hr
      exact ⟨h, d', hrun, hs, cl, hW, ClAgree.refl _ _ _⟩)
  | createDir p =>
    obtain ⟨hf, hlast, ⟨c, hres⟩, hnh⟩ := hc
    have hst : stampOf d (.createDir p) = sfnStamp d.fs d.clock (some c) := by
      show sfnStamp d.fs d.clock _ = _
      rw [(hres s0 c0 ht).find]
    unfold modelStep at hnh ⊢
    rw [hst] at hnh ⊢
    obtain ⟨o1, o2⟩ := create_dir_img_partial W hwf hup env henv [] _ hden p fuel hf hlast c hres hnh
    exact call_out W (fun e he => ⟨o1 e he, stepSlot_err_tree _ _ _ (.createDir [] p) _ e he⟩) o2
  | removeFile p =>
    obtain ⟨hf, hlast, hres⟩ := hc
    obtain ⟨o1, o2⟩ := remove_file_img_partial W hwf hup env henv [] _ hden p fuel hf hlast hres
    exact call_out W (fun e he => ⟨o1 e he, stepSlot_err_tree _ 70000 _ (.remove [] p) [] e he⟩) (fun rows hr => by
      obtain ⟨d', hrun, hs, hW⟩ := o2 rows hr
      exact ⟨(), d', hrun, hs, cl, hW, ClAgree.refl _ _ _⟩)
  | renameFile s t' =>
    obtain ⟨hf, ⟨sa, da, h1, h2, hres⟩, hnh⟩ := hc
    obtain ⟨f, rfl⟩ : ∃ f, fuel = f + 1 := ⟨fuel - 1, by omega⟩
    obtain ⟨o1, o2⟩ := rename_file_img_partial W hwf env henv f s t' sa da h1 h2 ⟨s0, c0, ht⟩ hres hnh
    exact call_out W (fun e he => ⟨o1 e he, stepSlot_err_tree _ _ _ (.rename [] s [] t') [] e he⟩) (fun rows hr => by
      obtain ⟨d', hrun, hs, hW⟩ := o2 rows hr
      exact ⟨(), d', hrun, hs, cl, hW, ClAgree.refl _ _ _⟩)

end step

/-! ### histories through the root handle -/

/-- a history of calls at byte level with the slot tree beside it: the observed outcomes, the final device and tree -/
inductive ByteRun (env : Env) (fuel : Nat) (up : Char → List Char) :
    Dev → Node → List Call → List (Spec.Op × Spec.Obs) → Dev → Node → Prop
  | nil (d : Dev) (t : Node) : ByteRun env fuel up d t [] [] d t
  | cons {d d1 d' : Dev} {t t' : Node} {c : Call} {rest : List Call} {obs : List (Spec.Op × Spec.Obs)} :
      ByteOut env fuel d c (outErr (modelStep up d t c)) d1 →
      ByteRun env fuel up d1 (modelStep up d t c).tree rest obs d' t' →
      ByteRun env fuel up d t (c :: rest) ((c.op, obsOf (modelStep up d t c)) :: obs) d' t'

/-- the hypotheses hold at every step of the history, whatever device the step before ended in and whatever cluster
    map (agreeing with the one before on the directories that were there) the image holds the tree under -/
def HistOk (up : Char → List Char) (fuel : Nat) : (List String → Option Nat) → Dev → Node → List Call → Prop
  | _, _, _, [] => True
  | cl, d, t, c :: rest => CallOk up cl d t fuel c ∧ OpOk up t c.op ∧
      ∀ d1 cl1, VolStep d d1 → d1.clock = d.clock → ImgTreeW d1 up (modelStep up d t c).tree cl1 →
        ClAgree up t cl cl1 → HistOk up fuel cl1 d1 (modelStep up d t c).tree rest

/-- **C01 at byte level for histories (partial: calls `open_dir`, `open_file`, listing, `create_file`, `create_dir`
    and `remove` of a file with last directory = root, `rename` of a file inside the root under single names, all
    through the root handle)**: from a device whose image
    holds a well-formed slot tree, every call's byte-level program ends with the slot tree's outcome (`ByteRun`), the
    specification's checker accepts the outcomes in turn and ends in the abstraction of the final slot tree, which
    the final image holds (under some cluster map). -/
theorem history_refines_spec_img_partial (u : Char → List Char) (hup : DotSafe (upOf u)) (env : Env)
    (henv : env.upper = upOf u) (fuel : Nat) :
    ∀ (calls : List Call) (cl : List String → Option Nat) (d : Dev) (t : Node), ImgTreeW d (upOf u) t cl →
    TreeWf (upOf u) t → t.isDir = true → HistOk (upOf u) fuel cl d t calls →
    ∃ (obs : List (Spec.Op × Spec.Obs)) (d' : Dev) (t' : Node) (cl' : List String → Option Nat),
      ByteRun env fuel (upOf u) d t calls obs d' t' ∧ ImgTreeW d' (upOf u) t' cl' ∧ TreeWf (upOf u) t' ∧
      specRun (cfgOf u) (abs t) obs = .ok (abs t')
  | [], cl, d, t, W, hwf, _, _ => ⟨[], d, t, cl, ByteRun.nil d t, W, hwf, rfl⟩
  | c :: rest, cl, d, t, W, hwf, hdir, hh => by
    obtain ⟨hc, hok, hnext⟩ := hh
    obtain ⟨d1, cl1, hbo, hs, hW1, hA, hclk⟩ := byte_step W hwf hup env henv fuel c hc ((isDir_iff_dir t).1 hdir)
    have hnh := modelStep_no_hang (upOf u) cl d t fuel c hc
    have hstep := slot_step_spec_step u 70000 t hwf c.op (stampOf d c) hok hnh
    have hwf1 := (slot_step_refines u 70000 t hwf c.op (stampOf d c) hok).1
    have hdir1 : (modelStep (upOf u) d t c).tree.isDir = true := by rw [modelStep_isDir]; exact hdir
    obtain ⟨obs, d', t', cl', hrun, hW', hwf', hspec⟩ :=
      history_refines_spec_img_partial u hup env henv fuel rest cl1 d1 _ hW1 hwf1 hdir1 (hnext d1 cl1 hs hclk hW1 hA)
    refine ⟨_, d', t', cl', ByteRun.cons hbo hrun, hW', hwf', ?_⟩
    simp only [specRun]
    have : Spec.step (cfgOf u) (abs t) c.op (obsOf (modelStep (upOf u) d t c)) =
        .ok (abs (modelStep (upOf u) d t c).tree) := hstep
    rw [this]
    exact hspec

end mutating


/-! ### non-vacuity of the mutating part: `create_file("sub/../New File.txt")` on the image of `Ex4` -/

namespace Ex4
open C01tree.Ex SlotTreeImg

def stampNew : List Nat := sfnStamp dev.fs dev.clock none

/-- what the slot tree says: success, and the root then lists `sub` and `New File.txt` -/
theorem model_create :
    (createS up0 70000 root4 [] "sub/../New File.txt" false stampNew).out = .ok [] ∧
    (abs (createS up0 70000 root4 [] "sub/../New File.txt" false stampNew).tree).children.map (·.1) =
      ["sub", "New File.txt"] := by decide +kernel

theorem walk_back : walkDirsS up0 root4 [] (pathParts "sub/../New File.txt").1 = .ok [] := by decide +kernel

theorem room_new : DirSlots.findFree rootSlots (numParts (Names.encodeUtf16 "New File.txt".toList).length + 1) +
    (numParts (Names.encodeUtf16 "New File.txt".toList).length + 1) ≤ 16 := by decide +kernel

/-- the root region has sixteen slots, on `dev` and on every device a `VolStep` leads to (the geometry is kept) -/
theorem hasRoom4 {d1 : Dev} (hs : VolStep dev d1) {slots : List (List Nat)} {name : String}
    (h : DirSlots.findFree slots (numParts (Names.encodeUtf16 name.toList).length + 1) +
      (numParts (Names.encodeUtf16 name.toList).length + 1) ≤ 16) : HasRoomRoot d1 slots name := by
  intro N hN
  have h1 := hN.slots
  have h2 : (rootSliceOf d1.fs).size = 512 := by rw [rootSliceOf_geomEq hs.geom]; decide
  obtain rfl : N = 16 := by omega
  exact h

theorem volStep_refl : VolStep dev dev := VolStep.of_sameVol (SameVol.refl dev)

/-- **the byte-level `create_file` on the image**: walks into `sub` (cluster 2), back through its `..` entry, writes
    the two slots of `New File.txt` into the root region; afterwards the image holds the new slot tree -/
example : ∃ (h : FileH) (d' : Dev),
    run (createFile env 30 (rootDirStream dev.fs) "sub/../New File.txt") dev = (.ok h, d') ∧ VolStep dev d' ∧
    ImgTreeW d' up0 (createS up0 70000 root4 [] "sub/../New File.txt" false stampNew).tree cl := by
  obtain ⟨_, o2⟩ := create_file_img_partial imgTreeW root4_wf dotSafe env rfl [] _ den_root4 "sub/../New File.txt" 30
    (by decide)
    (fun p hp => by rw [walk_back] at hp; cases hp; rfl)
    (fun slots ch ht => by
      obtain ⟨rfl, _⟩ := Node.dir.inj (root4_eq.symm.trans ht)
      rw [show (pathParts "sub/../New File.txt").2 = "New File.txt" by decide +kernel]
      exact hasRoom4 volStep_refl room_new)
    (by rw [show sfnStamp dev.fs dev.clock none = stampNew from rfl, model_create.1]; simp)
  exact o2 [] model_create.1

end Ex4

/-! ### non-vacuity: `create_dir("sub/../New dir")` on the image of `Ex4` (the allocator finds cluster 4) -/

namespace Ex4
open C01tree.Ex SlotTreeImg FatVerif.FileSim FatVerif.Fat

def stampDir : List Nat := sfnStamp dev.fs dev.clock (some 4)

theorem model_mkdir :
    (createS up0 70000 root4 [] "sub/../New dir" true stampDir).out = .ok [] ∧
    (abs (createS up0 70000 root4 [] "sub/../New dir" true stampDir).tree).children.map (·.1) =
      ["sub", "New dir"] := by decide +kernel

theorem walk_back2 : walkDirsS up0 root4 [] (pathParts "sub/../New dir").1 = .ok [] := by decide +kernel

theorem room_dir : DirSlots.findFree rootSlots (numParts (Names.encodeUtf16 "New dir".toList).length + 1) +
    (numParts (Names.encodeUtf16 "New dir".toList).length + 1) ≤ 16 := by decide +kernel

theorem find4 : allocFindV (tabView dev.fs dev.img) dev.fs.fsInfo.next dev.fs.totalClusters = some 4 := by
  rw [tab4]; decide

/-- the FAT of the image is well formed: its only link is 2 → 3 -/
theorem fatwf4 : FatWf (tabView dev.fs dev.img) dev.fs.totalClusters := by
  have key : ∀ c n, tabView dev.fs dev.img c = .data n → c = 2 ∧ n = 3 := by
    intro c n h
    rw [tab4] at h
    rcases c with _ | _ | _ | _ | _ | _ | c <;> cases h
    exact ⟨rfl, rfl⟩
  refine ⟨?_, ?_, ?_, ⟨fun c => 10 - c, ?_⟩⟩
  · intro c n h; obtain ⟨_, rfl⟩ := key c n h; decide
  · intro c n h
    obtain ⟨_, rfl⟩ := key c n h
    rw [fat3]; decide
  · intro a b n ha hb
    obtain ⟨rfl, _⟩ := key a n ha
    obtain ⟨rfl, _⟩ := key b n hb
    rfl
  · intro c n h; obtain ⟨rfl, rfl⟩ := key c n h; decide

/-- **the byte-level `create_dir` on the image**: walks into `sub` and back, allocates cluster 4, writes the two slots
    of `New dir` into the root region and the dot entries into cluster 4 (`DirRes.apart` is discharged from the
    well-formedness of the FAT, `DirRes.of_fatWf`: the head of `sub`'s chain is allocated, cluster 4 is free); afterwards the image holds the new slot
    tree under a cluster map that agrees with `cl` on the old directories -/
example : ∃ (s : DirStream) (d' : Dev),
    run (createDir env 30 (rootDirStream dev.fs) "sub/../New dir") dev = (.ok s, d') ∧ VolStep dev d' ∧
    ∃ cl', ImgTreeW d' up0 (createS up0 70000 root4 [] "sub/../New dir" true stampDir).tree cl' ∧
      ClAgree up0 root4 cl cl' := by
  obtain ⟨_, o2⟩ := create_dir_img_partial imgTreeW root4_wf dotSafe env rfl [] _ den_root4 "sub/../New dir" 30
    (by decide)
    (fun p hp => by rw [walk_back2] at hp; cases hp; rfl) 4
    (fun slots ch ht => by
      obtain ⟨rfl, _⟩ := Node.dir.inj (root4_eq.symm.trans ht)
      rw [show (pathParts "sub/../New dir").2 = "New dir" by decide +kernel]
      refine DirRes.of_fatWf geo ⟨(fun n h => by cases h), (fun n h => by cases h)⟩ (by decide) (by decide) (by decide)
        (by decide) find4 (by decide) (hasRoom4 volStep_refl room_dir) fatwf4 ?_
      intro cur s c' hne _ c0 hcl
      obtain rfl : 2 = c0 := Option.some.inj ((if_neg hne).symm.trans hcl)
      rw [fat2]; decide)
    (by rw [show sfnStamp dev.fs dev.clock (some 4) = stampDir from rfl, model_mkdir.1]; simp)
  exact o2 [] model_mkdir.1

end Ex4

/-! ### non-vacuity: `create_file("New.txt")` through the handle of `sub` (slot level, `create_file_subdir_slots_partial`) -/

namespace Ex4
open C01tree.Ex SlotTreeImg FatVerif.FileSim FatVerif.Fat

def eSubEntry : DirEntry := toDirEntryS (rootSrc fs) eSub

theorem eSub_isDir : eSubEntry.isDir = true := by decide +kernel
theorem eSub_name : eSubEntry.editor.data.name.length = 11 := by decide +kernel
theorem eSub_pos : eSubEntry.editor.pos = 1056 := by decide +kernel

theorem model_check_sub :
    checkForExistenceL up0 subSlots "New.txt" (some false) 70000 =
      .ok (.alias [78, 69, 87, 32, 32, 32, 32, 32, 84, 88, 84]) := by decide +kernel

/-- **`create_file("New.txt")` through the handle of `sub`** (cluster chain `[2, 3]`, reached through its record in the
    root at offset 1056): the program succeeds and the chain then holds the dot slots, the model's slot list after
    `write_entry`, and end markers -/
example : ∃ (h : FileH) (d' : Dev) (tail' : List (List Nat)),
    run (createFile env 1 (.file (FileH.new (some 2) (some eSubEntry.editor))) "New.txt") dev = (.ok h, d') ∧
    VolStep dev d' ∧
    SubSlots d' [2, 3] dotSlot dotDotSlot
      (DirSlots.writeEntry subSlots (Names.encodeUtf16 "New.txt".toList)
        (sfnWith [78, 69, 87, 32, 32, 32, 32, 32, 84, 88, 84] (0 :: sfnStamp dev.fs dev.clock none))) tail' := by
  have T := create_file_subdir_slots_partial dotSafe env rfl 2 eSubEntry.editor [2, 3]
    (subReadable_entry eSubEntry eSub_isDir).dir wf (by decide) eSub_name (by rw [eSub_pos]; decide)
    (by rw [eSub_pos]; decide) (by rw [eSub_pos]; decide) rfl dotSlot dotDotSlot subSlots _ subSlots4 "New.txt" "New.txt"
    (by decide +kernel) (by decide) (by decide +kernel) 0
  rw [model_check_sub] at T
  simp only at T
  have hval : Names.validateLongName "New.txt" = .ok () := by decide +kernel
  rw [hval] at T
  obtain ⟨h, d', tail', hr, hs, hS, _⟩ := T
  exact ⟨h, d', tail', hr, hs, hS⟩

end Ex4

/-! ### non-vacuity of the history theorem: three calls on the image of `Ex4` -/

namespace Ex4
open C01tree.Ex SlotTreeImg FatVerif.FileSim FatVerif.Fat

theorem parts_new : pathParts "New File.txt" = ([], "New File.txt") := by decide +kernel
theorem walk_new : walkDirsS up0 root4 [] (pathParts "New File.txt").1 = .ok [] := by decide +kernel
theorem model_create2 : (createS up0 70000 root4 [] "New File.txt" false stampNew).out = .ok [] := by decide +kernel

theorem listing_root4 : listing rootSlots = [eSub] := by decide +kernel
theorem listing_sub4 : listing subSlots = [eHello] := by decide +kernel

theorem qall_sub0 (q : String) (h : QHit up0 q subSlots [(eHello, .file [])]) : QAll up0 sub0 q := by
  unfold QAll
  rw [sub0_eq, all_dir]
  refine ⟨h, fun y hy => ?_⟩
  rw [List.mem_singleton.1 hy]
  exact all_file _ _

/-- "New File.txt" answers to no entry of the tree (so trivially to no alias only) -/
theorem qall_new : QAll up0 root4 "New File.txt" := by
  unfold QAll
  rw [root4_eq, all_dir]
  refine ⟨by unfold QHit; rw [listing_root4]; decide +kernel, fun x hx => ?_⟩
  rw [List.mem_singleton.1 hx]
  exact qall_sub0 _ (by unfold QHit; rw [listing_sub4]; decide +kernel)

def aliasNew : List Nat := [78, 69, 87, 70, 73, 76, 126, 49, 84, 88, 84]
def unitsNew : List Nat := Names.encodeUtf16 "New File.txt".toList
def sfnNew : List Nat := sfnWith aliasNew (newBody false stampNew)
def eNew : LfnEntry := newEntry rootSlots unitsNew sfnNew
def slots1 : List (List Nat) := DirSlots.writeEntry rootSlots unitsNew sfnNew
def tree1 : Node := .dir slots1 [(eSub, sub0), (eNew, .file [])]

theorem check_new : checkForExistenceL up0 rootSlots "New File.txt" (some false) 70000 = .ok (.alias aliasNew) := by
  decide +kernel

/-- the tree after the first call, in constructor form -/
theorem tree1_eq : (createS up0 70000 root4 [] "New File.txt" false stampNew).tree = tree1 := by
  rw [createS_eq, walk_new]
  show (crFinal up0 root4 [] (pathParts "New File.txt").2 false stampNew).tree = _
  rw [parts_new]
  unfold crFinal
  rw [root4_eq]
  simp only [getAtS]
  have hd : isDotName "New File.txt" = false := by decide
  simp only [hd, Bool.false_and, Bool.false_eq_true, if_false]
  unfold createFinal
  rw [check_new]
  have hv : Names.validateLongName "New File.txt" = .ok () := by decide +kernel
  simp only [hd, Bool.false_eq_true, if_false, hv, done]
  show addEntry unitsNew sfnNew (freshNode false) (.dir rootSlots [(eSub, sub0)]) = _
  have hshape : Shape rootSlots := by
    have h := root4_wf
    rw [root4_eq] at h
    exact ((all_dir _ _ _).1 h).1.wf.shape
  rw [addEntry_dir hshape unitsNew sfnNew (freshNode false) [(eSub, sub0)]
    ⟨by decide, by decide, by decide, by decide⟩ (by decide +kernel)]
  rfl

theorem listing_slots1 : listing slots1 = [eSub, eNew] := by decide +kernel

/-- "b.txt" answers to no entry of the tree after the first call -/
theorem qall_b : QAll up0 tree1 "b.txt" := by
  unfold QAll tree1
  rw [all_dir]
  refine ⟨by unfold QHit; rw [listing_slots1]; decide +kernel, fun x hx => ?_⟩
  simp only [List.mem_cons, List.not_mem_nil, or_false] at hx
  rcases hx with rfl | rfl
  · exact qall_sub0 _ (by unfold QHit; rw [listing_sub4]; decide +kernel)
  · exact all_file _ _

theorem parts_b : pathParts "b.txt" = ([], "b.txt") := by decide +kernel
theorem walk_b : walkDirsS up0 tree1 [] (pathParts "b.txt").1 = .ok [] := by decide +kernel
theorem room_b : DirSlots.findFree slots1 (numParts (Names.encodeUtf16 "b.txt".toList).length + 1) +
    (numParts (Names.encodeUtf16 "b.txt".toList).length + 1) ≤ 16 := by decide +kernel
theorem model_create_b : (createS up0 70000 tree1 [] "b.txt" false stampNew).out = .ok [] := by decide +kernel

/-- **a history of three calls at byte level**: `create_file("New File.txt")`, `create_file("b.txt")`, then a listing
    of the root, through the root handle on the image of `Ex4` — the hypotheses of `history_refines_spec_img_partial`
    hold (given the string facts `SplitAgree`), in particular the continuation clauses of `HistOk` for WHATEVER device
    the call before leaves: the room in the root region follows from the geometry, which a `VolStep` keeps; the
    model's answers are computed on the model's tree; the stamp is the clock's, which does not move -/
example (hsa : SplitAgree "New File.txt") (hsb : SplitAgree "b.txt") :
    ∃ (obs : List (Spec.Op × Spec.Obs)) (d' : Dev) (t' : Node) (cl' : List String → Option Nat),
      ByteRun env 30 up0 dev root4 [.createFile "New File.txt", .createFile "b.txt", .list] obs d' t' ∧
      ImgTreeW d' up0 t' cl' ∧ TreeWf up0 t' ∧
      C01tree.specRun (cfgOf Names.upperAscii) (abs root4) obs = .ok (abs t') := by
  refine history_refines_spec_img_partial Names.upperAscii dotSafe env rfl 30 _ cl dev root4 imgTreeW root4_wf rfl ?_
  show HistOk up0 30 cl dev root4 [.createFile "New File.txt", .createFile "b.txt", .list]
  have hcwd : ∀ t : Node, t.isDir = true → CwdOk up0 t [] := by
    intro t ht
    obtain ⟨s, c, rfl⟩ := (isDir_iff_dir t).1 ht
    exact ⟨trivial, s, c, rfl⟩
  refine ⟨⟨by decide, ?_, ?_, ?_⟩, ⟨hcwd root4 rfl, hsa, ?_, ?_⟩, ?_⟩
  · intro p hp
    rw [walk_new] at hp; cases hp; rfl
  · intro slots ch ht
    obtain ⟨rfl, _⟩ := Node.dir.inj (root4_eq.symm.trans ht)
    rw [parts_new]
    exact hasRoom4 volStep_refl room_new
  · show (createS up0 70000 root4 [] "New File.txt" false stampNew).out ≠ _
    rw [model_create2]; simp
  · intro q hq
    rw [parts_new] at hq; cases hq
  · rw [parts_new]; exact qall_new
  · intro d1 cl1 hs1 hclk1 _ _
    have ht1 : (modelStep up0 dev root4 (.createFile "New File.txt")).tree = tree1 := tree1_eq
    rw [ht1]
    have hstamp : sfnStamp d1.fs d1.clock none = stampNew := by
      rw [sfnStamp_geom hs1.geom, hclk1]; rfl
    have hm2 : modelStep up0 d1 tree1 (.createFile "b.txt") = createS up0 70000 tree1 [] "b.txt" false stampNew := by
      unfold modelStep Call.op stampOf
      simp only [stepSlot]
      rw [hstamp]
    refine ⟨⟨by decide, ?_, ?_, ?_⟩, ⟨hcwd tree1 rfl, hsb, ?_, ?_⟩, ?_⟩
    · intro p hp
      rw [walk_b] at hp; cases hp; rfl
    · intro slots ch ht
      obtain ⟨rfl, _⟩ := Node.dir.inj ht
      rw [parts_b]
      exact hasRoom4 hs1 room_b
    · rw [hm2, model_create_b]; simp
    · intro q hq
      rw [parts_b] at hq; cases hq
    · rw [parts_b]; exact qall_b
    · intro d2 cl2 _ _ _ _
      refine ⟨trivial, hcwd _ (by rw [modelStep_isDir]; rfl), fun _ _ _ _ _ _ => trivial⟩

end Ex4

/-! ## `create_file` on the image, last directory ANYWHERE in the tree: the statement over the write simulation

The walk of `create_file` is that of `open_file` (`SlotTreeImg.walk_step`, `walk_fail` are generic in the program run
on the last directory), and `check_for_existence` on the last directory is covered by
`DirSim.DirSrc.checkForExistence_sim` (outcome = `DirAlias.checkForExistenceL` on the image slots).  The write side is
Proofs/DirWriteFamily, for every writable directory `V : WView d st` (`WView.ofRoot`; `WView.ofChain`, `WView.ofSub` of
Proofs/DirWriteKinds):

* **(W1)** `WView.writeEntry_sim`: for a valid name and a short record `raw` whose slots fit into the allocated space,
  `run (writeEntry st name raw) d = (.ok de, d')` with `de = toDirEntryS V.src ⟨raw.serialize, units, p, p+n⟩`
  (`p = DirSlots.findFree slots n`) and the slots of the directory in `d'.img` equal to
  `DirSlots.writeEntry (slots in d.img) units raw.serialize`; the chain grown by one zero-filled cluster is
  `writeSlotsKeep_grow` (Proofs/DirWriteGrow);
* **(W1-frame)**, in the same theorem: NOT "`d'.fs = d.fs` and every other byte equal" — the first write marks the
  volume dirty (status byte in the image, `fs.curDirty`).  What holds and suffices: `VolStep d d'` (fault schedule,
  image size and `Img.WF` kept, `FsGeomEq d.fs d'.fs`: the geometry part of `fs` equal) and `FrameOutE V.N V.src V.Extra
  d d'` (every byte at offset ≥ 0x42 outside ALL slots of the written directory and outside `V.Extra` — the directory's
  own record, for a sub-directory — unchanged) — so that every OTHER directory's slots are unchanged
  (`srcSlots_frameE`), the FAT is unchanged (`fatAgree_of_frameE`), and its `DirView` carries over
  (`ChainDir.of_agree`, `RootReadable.of_volStep`);
* **(W2)** `WView.create_write_sim`: `createSfnEntry sn attrs first` followed by `writeEntry` writes the short slot
  `sfnWith sn (attrs :: sfnStamp fs clock first)`;
* **(W3)** `WView.deleteEntry_sim` (same frame), for `remove`/`rename`: the slots become `DirSlots.deleteRange slots b e`;
* and on THIS side `SlotTreeImg.check_dots`: `check_for_existence` on the slots of a sub-directory (dot entries in
  front) chooses the alias `checkForExistenceL` chooses on the node's slots (the generator is fed the two dot names in
  addition: they mark nothing a legal candidate could equal).

`WriteSim` states (W1)+(W1-frame)+(W2) as ONE hypothesis at the level of `ImgTree`, for EVERY directory of the tree:
after the program the image holds the slot tree with the entry added.  `create_file_img_statement` is the statement
for `create_file` under it.  Neither is proved in this generality: `create_file_img_partial` above is the case "last
directory = the fixed root" (on `ImgTreeW`, from `WView.createFile_sim` for the root's `WView`);
`create_file_subdir_slots_partial` says what a last directory below the root still needs. -/

/-- (W1)+(W1-frame)+(W2) at the level of `ImgTree`: writing the entry for `name` with alias `a` through a stream that
    denotes the directory at `p` succeeds and leaves an image that holds the tree with that entry added (for some body
    bytes `stamp`) -/
def WriteSim (d : Dev) (up : Char → List Char) (t : Node) (cl : List String → Option Nat) : Prop :=
  ∀ (p : List String) (st : DirStream) (name : String) (a : List Nat) (attrs : Nat) (first : Option Nat),
    Den d up t cl p st → Names.validateLongName name = .ok () →
    ∃ (stamp : List Nat) (d' : Dev) (de : DirEntry),
      run (Prog.bind (createSfnEntry a attrs first) fun sfn => writeEntry st name sfn) d = (.ok de, d') ∧
      de.isDir = false ∧ d'.failAt = none ∧
      ImgTree d' up
        (updS up (addEntry (Names.encodeUtf16 name.toList) (sfnWith a (attrs :: stamp)) (.file [])) p t) cl

/-- the statement for `create_file` (not proved in this generality, see above): under `ImgTree`, `TreeWf`, `DotSafe` and the write simulation,
    the byte-level `create_file` ends as `createS` says — same error kind, or success with an image that holds the new
    slot tree -/
def create_file_img_statement : Prop :=
  ∀ (d : Dev) (up : Char → List Char) (t : Node) (cl : List String → Option Nat) (env : Env) (cwd : List String)
    (st : DirStream) (path : String) (fuel : Nat),
    ImgTree d up t cl → TreeWf up t → DotSafe up → env.upper = up → Den d up t cl cwd st →
    path.toList.length < fuel → WriteSim d up t cl →
    ∃ stamp : List Nat,
      (∀ e, (createS up 70000 t cwd path false stamp).out = .error e → e ≠ .hang →
        ∀ d1, SameVol d d1 → FailsV (createFile env fuel st path) d1 e) ∧
      (∀ rows, (createS up 70000 t cwd path false stamp).out = .ok rows →
        ∃ (h : FileH) (d' : Dev), (run (createFile env fuel st path) d).1 = .ok h ∧
          (run (createFile env fuel st path) d).2 = d' ∧
          ImgTree d' up (createS up 70000 t cwd path false stamp).tree cl)

end C01img
end FatVerif
