import FatVerif.Spec.FatSpec
/-!
# The directory scanner of the oracles: end marker and what follows it

C03's clause "nothing follows the end-of-directory marker" is judged by the Fsck oracle on `scanDir`'s fields `endPos`
and `afterEnd`.  For every slot list: the end position reported is that of the FIRST slot whose first byte is 0, and
`afterEnd` is exactly the list of later slots whose first byte is not 0 (`scanDir_end`); without such a slot both are
empty (`scanDir_no_end`).  Then: what a long-name run the oracles accept looks like.
-/
namespace FatVerif.Spec

theorem scanAfterEnd_toList : ∀ (l : List Slot) (acc : Array Slot),
    (scanAfterEnd l acc).toList = acc.toList ++ l.filter (fun s => decide (s.b 0 ≠ 0))
  | [], acc => by simp [scanAfterEnd]
  | s :: rest, acc => by
    unfold scanAfterEnd
    rw [scanAfterEnd_toList rest]
    by_cases h : s.b 0 = 0
    · simp [h]
    · simp [h]

theorem slotKind_end_iff (s : Slot) : slotKind s = .endMark ↔ s.b 0 = 0 := by
  unfold slotKind
  constructor
  · intro h
    split at h
    · assumption
    · split at h
      · cases h
      · split at h
        · cases h
        · split at h <;> cases h
  · intro h
    rw [if_pos h]

/-- slots before any end marker change neither `endPos` nor `afterEnd`: the scan goes on behind them -/
theorem scanSlots_prefix : ∀ (pre rest pending : List Slot) (sc : DirScan), (∀ s ∈ pre, s.b 0 ≠ 0) →
    ∃ pending' sc', scanSlots (pre ++ rest) pending sc = scanSlots rest pending' sc' ∧
      sc'.endPos = sc.endPos ∧ sc'.afterEnd = sc.afterEnd
  | [], _, pending, sc, _ => ⟨pending, sc, rfl, rfl, rfl⟩
  | s :: pre, rest, pending, sc, hpre => by
    have hk : slotKind s ≠ .endMark := fun h => hpre s (by simp) ((slotKind_end_iff s).mp h)
    have hpre' : ∀ t ∈ pre, t.b 0 ≠ 0 := fun t ht => hpre t (List.mem_cons_of_mem _ ht)
    simp only [List.cons_append, scanSlots]
    cases hkk : slotKind s with
    | endMark => exact absurd hkk hk
    | _ => exact scanSlots_prefix pre rest _ _ hpre'

/-- The end marker the oracles report is the FIRST slot whose first byte is 0; `afterEnd` is exactly
    the later slots whose first byte is not 0. -/
theorem scanDir_end (pre : List Slot) (e : Slot) (post : List Slot) (hpre : ∀ s ∈ pre, s.b 0 ≠ 0) (he : e.b 0 = 0) :
    (scanDir (pre ++ e :: post)).endPos = some e.pos ∧
    (scanDir (pre ++ e :: post)).afterEnd.toList = post.filter (fun s => decide (s.b 0 ≠ 0)) := by
  obtain ⟨pending', sc', hs, _, _⟩ := scanSlots_prefix pre (e :: post) [] {} hpre
  unfold scanDir
  rw [hs]
  simp only [scanSlots, (slotKind_end_iff e).mpr he]
  exact ⟨trivial, by rw [scanAfterEnd_toList]; simp⟩

/-- Without a slot whose first byte is 0 there is no end marker and nothing after it. -/
theorem scanDir_no_end (l : List Slot) (h : ∀ s ∈ l, s.b 0 ≠ 0) :
    (scanDir l).endPos = none ∧ (scanDir l).afterEnd = #[] := by
  obtain ⟨pending', sc', hs, h1, h2⟩ := scanSlots_prefix l [] [] {} h
  unfold scanDir
  rw [← l.append_nil, hs]
  exact ⟨h1, h2⟩

end FatVerif.Spec

/-! ## what a long-name run the oracles accept looks like -/

namespace FatVerif.Spec

theorem ordersDescend_spec : ∀ (l : List Slot) (n : Nat), ordersDescend l n = true →
    l.length = n ∧ ∀ i (h : i < l.length), (l[i]).lfnOrd = n - i
  | [], n, h => by
    simp [ordersDescend] at h
    exact ⟨by simp [h], fun i hi => by simp at hi⟩
  | s :: rest, n, h => by
    simp only [ordersDescend, Bool.and_eq_true, bne_iff_ne, ne_eq, beq_iff_eq] at h
    obtain ⟨⟨hn, hs⟩, hr⟩ := h
    obtain ⟨hl, hi⟩ := ordersDescend_spec rest (n - 1) hr
    refine ⟨by simp [hl]; omega, ?_⟩
    intro i h
    cases i with
    | zero => simpa using hs
    | succ j =>
      simp only [List.getElem_cons_succ]
      rw [hi j (by simpa using h)]
      omega

/-- A long-name run the oracles accept for a short entry is complete (its first slot carries
    `0x40 | n`, `1 ≤ n ≤ 20`, and the run has exactly `n` slots), correctly ordered (`n, n-1, …, 1`), made of long-name
    slots only, every slot checksummed against the 11 name bytes of THAT short entry, and its name — the units up to
    the first `0x0000` — has 1 … 255 units.  (C03: "every long-name run is complete, correctly ordered … and
    checksummed against its short entry".) -/
theorem runName_spec (run : List Slot) (sfn : Slot) (name : List Nat) (h : runName run sfn = some name) :
    ∃ first rest n, run = first :: rest ∧ first.lfnOrd = 64 + n ∧ 1 ≤ n ∧ n ≤ 20 ∧ run.length = n ∧
      (∀ i (hi : i < rest.length), (rest[i]).lfnOrd = n - 1 - i) ∧
      (∀ s ∈ run, s.attr % 64 = 0x0F) ∧
      (∀ s ∈ run, s.lfnChk = sfnChecksum sfn.name11) ∧
      name = cutAtZero (runUnits run) ∧ 1 ≤ name.length ∧ name.length ≤ 255 := by
  cases run with
  | nil => simp [runName] at h
  | cons first rest =>
    -- each guard of `runName` answers `none`: an accepted run has passed them all
    simp only [runName, Option.ite_none_left_eq_some, Option.some.injEq] at h
    obtain ⟨h1, h2, h3, h4, h5, h6, rfl⟩ := h
    have ho : first.lfnOrd = 64 + first.lfnOrd % 64 := by simpa using h1
    have hd : ordersDescend rest (first.lfnOrd % 64 - 1) = true := by simpa using h3
    obtain ⟨hl, hi⟩ := ordersDescend_spec rest _ hd
    have ha : ∀ s ∈ first :: rest, s.attr % 64 = 0x0F := by simpa using h4
    have hk : ∀ s ∈ first :: rest, s.lfnChk = sfnChecksum sfn.name11 := by simpa using h5
    refine ⟨first, rest, first.lfnOrd % 64, rfl, ho, by omega, by omega, by simp [hl]; omega, hi, ha, hk, rfl,
      by omega, by omega⟩

end FatVerif.Spec
