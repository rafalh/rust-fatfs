import FatVerif.Proofs.FileSimFlush
/-!
# C14, simulation: what a successful `flush` / drop of a file handle makes durable

Byte-level model `FileH` on a device image (fault-free run), tied to the cursor machine by `Props/C02sim.lean`.

* `FileSim.flush_sim`, `FileSim.drop_sim` (Proofs/FileSimFlush.lean): the call writes the handle's 32-byte record into
  its slot and then flushes the device: the log is `flush :: slot pieces ++ everything written before`;
* `FileSim.Footprint`, `FileSim.read_footprint` (Proofs/FileSimFlush.lean): the bytes a later `open_file` + read depend on;
* `durable_after_flush` below: crash model = a write-back cache that honours flush — every device write issued before
  the flush mark is on the medium, of the writes issued after it only a PREFIX `ws.take k` survives.  If none of the
  later writes touches the footprint of the file (operations on other objects: `Props/C11.lean`
  `file_write_in_data_region` / `writes_classified` say where they write; the file itself is not modified again), then
  for every cut point `k`, re-opening the file from its slot in the surviving image and reading to the end returns
  exactly the content the handle had when it was flushed.
-/
namespace FatVerif.FileSim
open FatVerif FatVerif.Fat

/-- later device writes `(offset, bytes)`, applied in order -/
def applyWrites (img : Img) (ws : List (Nat × List Nat)) : Img :=
  ws.foldl (fun i w => i.write w.1 w.2) img

/-- none of the writes touches a position of `P` -/
def WritesAvoid (P : Nat → Prop) (ws : List (Nat × List Nat)) : Prop :=
  ∀ w ∈ ws, ∀ q, w.1 ≤ q → q < w.1 + w.2.length → ¬ P q

theorem footprint_flushed {fs : FsState} {img img1 : Img} {f : FileH} {e : DirEntryEditor}
    (hch : fileChain fs img1 { f with entry := some { e with dirty := false } } = fileChain fs img f)
    (he : f.entry = some e) (q : Nat) :
    Footprint fs img1 { f with entry := some { e with dirty := false } } { e with dirty := false } q ↔
      Footprint fs img f e q := by
  have hsz : ({ f with entry := some { e with dirty := false } } : FileH).size? = f.size? := by
    unfold FileH.size?; rw [he]
  unfold Footprint
  rw [hch, hsz]

/-- the common part of `durable_after_flush` / `durable_after_drop`: from the state right after the flush -/
theorem durable_core (f : FileH) (e : DirEntryEditor) (d d1 : Dev) (h : SimInv f d) (he : EntryRep d.fs d.img f e)
    (hfs : d1.fs = d.fs)
    (hsim : SimInv { f with entry := some { e with dirty := false } } d1)
    (hent : EntryRep d1.fs d1.img { f with entry := some { e with dirty := false } } { e with dirty := false })
    (hcore : CoreEq (absFile d1.fs d1.img { f with entry := some { e with dirty := false } }) (absFile d.fs d.img f))
    (ws : List (Nat × List Nat)) (k : Nat) (dk : Dev) (hav : WritesAvoid (Footprint d.fs d.img f e) ws)
    (himg : dk.img = applyWrites d1.img (ws.take k)) (hfsk : dk.fs = d.fs) (hfak : dk.failAt = none) :
    ∃ g' d', run (readExact FileH.strm (reopen dk.fs dk.img e.pos) (absFile d.fs d.img f).size) dk =
      (.ok ((absFile d.fs d.img f).content, g'), d') := by
  have hch : fileChain d.fs d1.img { f with entry := some { e with dirty := false } } = fileChain d.fs d.img f := by
    have := hcore.chain; rw [hfs] at this; exact this
  have hav1 : WritesAvoid (Footprint d1.fs d1.img { f with entry := some { e with dirty := false } }
      { e with dirty := false }) ws := by
    intro w hw q h1 h2 hq
    rw [hfs] at hq
    exact hav w hw q h1 h2 ((footprint_flushed hch he.entry q).mp hq)
  rw [← hfs] at hfsk
  generalize hf1 : ({ f with entry := some { e with dirty := false } } : FileH) = f1 at hsim hent hcore hav1
  obtain ⟨hfa1, hwf1, hg1, hrep1, _⟩ := hsim
  -- the surviving image agrees with the flushed one on the footprint: `applyWrites` is `applyRecs`
  have himg' : dk.img = applyRecs d1.img (ws.take k) := himg
  obtain ⟨hwfk, hszk, hagree⟩ := applyRecs_frame (ws.take k) d1.img hwf1
  rw [← himg'] at hwfk hszk hagree
  obtain ⟨g', d', hrd⟩ := reopen_reads_of_agree hg1 hrep1 hent rfl dk hszk (fun q hq =>
    hagree q fun r hr hin => hav1 r (List.mem_of_mem_take hr) q hin.1 hin.2 hq) hfsk hfak
  -- content and size of the flushed handle are those of the handle before the flush
  have hcont : (absFile d1.fs d1.img f1).content = (absFile d.fs d.img f).content :=
    congrArg Cursor.ByteFile.content (hcore.abs_eq h.rep.inv.cs_pos h.rep.inv.cover)
  rw [hcore.size, hcont] at hrd
  exact ⟨g', d', hrd⟩

/-- **`durable_after_flush`.**  `f` is a represented handle (`SimInv`) whose record lives in a slot (`EntryRep`).
    `File::flush` succeeds; in the device log the flush mark follows the slot write and every earlier write.  Let `ws`
    be any later writes that avoid the footprint of the file (slot, FAT entries of the chain, data up to the size), `k`
    any cut point, and `dk` any fault-free device whose image is the flushed image with the surviving prefix `ws.take k`
    applied (same mounted state).  Then re-opening the file from its slot on `dk` and reading `size` bytes
    (`read_exact`) succeeds and returns exactly the content `(absFile …).content` the handle had when it was flushed. -/
theorem durable_after_flush (f : FileH) (e : DirEntryEditor) (d : Dev) (h : SimInv f d)
    (he : EntryRep d.fs d.img f e) :
    ∃ d1, run f.flush d = (.ok { f with entry := some { e with dirty := false } }, d1) ∧ d1.fs = d.fs ∧
      d1.failAt = none ∧
      (∃ items : List LogItem, d1.log = .flush :: (items.reverse ++ d.log)) ∧
      ∀ (ws : List (Nat × List Nat)) (k : Nat) (dk : Dev),
        WritesAvoid (Footprint d.fs d.img f e) ws →
        dk.img = applyWrites d1.img (ws.take k) → dk.fs = d.fs → dk.failAt = none →
        ∃ g' d', run (readExact FileH.strm (reopen dk.fs dk.img e.pos) (absFile d.fs d.img f).size) dk =
          (.ok ((absFile d.fs d.img f).content, g'), d') := by
  obtain ⟨d1, hr, hst, hfs, _, _, _, ⟨items, hlog, _⟩, hsim, hent, hcore⟩ := flush_sim f e d h he
  exact ⟨d1, hr, hfs, hsim.nofault, ⟨items, hlog⟩, fun ws k dk hav himg hfsk hfak =>
    durable_core f e d d1 h he hfs hsim hent hcore ws k dk hav himg hfsk hfak⟩

/-- **`flush_then_reopen_reads_content`**: no later writes at all — flush, re-open from the slot, read to the end. -/
theorem flush_then_reopen_reads_content (f : FileH) (e : DirEntryEditor) (d : Dev) (h : SimInv f d)
    (he : EntryRep d.fs d.img f e) :
    ∃ f1 d1, run f.flush d = (.ok f1, d1) ∧
      ∃ g' d', run (readExact FileH.strm (reopen d1.fs d1.img e.pos) (absFile d.fs d.img f).size) d1 =
        (.ok ((absFile d.fs d.img f).content, g'), d') := by
  obtain ⟨d1, hr, hfs, hfa1, _, hdur⟩ := durable_after_flush f e d h he
  exact ⟨_, d1, hr, hdur [] 0 d1 (fun w hw => by cases hw) rfl hfs hfa1⟩

/-- **`durable_after_drop`**: the same after dropping the handle -/
theorem durable_after_drop (f : FileH) (e : DirEntryEditor) (d : Dev) (h : SimInv f d)
    (he : EntryRep d.fs d.img f e) :
    ∃ d1, run f.drop d = (.ok (), d1) ∧ d1.fs = d.fs ∧ d1.failAt = none ∧
      (∃ items : List LogItem, d1.log = .flush :: (items.reverse ++ d.log)) ∧
      ∀ (ws : List (Nat × List Nat)) (k : Nat) (dk : Dev),
        WritesAvoid (Footprint d.fs d.img f e) ws →
        dk.img = applyWrites d1.img (ws.take k) → dk.fs = d.fs → dk.failAt = none →
        ∃ g' d', run (readExact FileH.strm (reopen dk.fs dk.img e.pos) (absFile d.fs d.img f).size) dk =
          (.ok ((absFile d.fs d.img f).content, g'), d') := by
  obtain ⟨d1, hr, hst, hfs, _, _, ⟨items, hlog, _⟩, hsim, hent, hcore⟩ := drop_sim f e d h he
  exact ⟨d1, hr, hfs, hsim.nofault, ⟨items, hlog⟩, fun ws k dk hav himg hfsk hfak =>
    durable_core f e d d1 h he hfs hsim hent hcore ws k dk hav himg hfsk hfak⟩

/-! ### the slot and the re-opened handle from the bytes of the image (for evaluating examples, `Proofs/RunFn.lean`) -/

def slotDataS (g : Nat → Nat) (pos : Nat) : DirFileEntryData :=
  match DirEntryData.deserialize ((List.range 32).map fun k => g (pos + k)) with
  | .file data => data
  | .lfn _ => {}

theorem slotData_eq_slotDataS (img : Img) (pos : Nat) : slotData img pos = slotDataS img.getByte pos := rfl

def reopenS (fs : FsState) (g : Nat → Nat) (pos : Nat) : FileH :=
  FileH.new ((slotDataS g pos).firstCluster fs.fatType) (some (DirEntryEditor.new (slotDataS g pos) pos))

theorem reopen_eq_reopenS (fs : FsState) (img : Img) (pos : Nat) : reopen fs img pos = reopenS fs img.getByte pos := rfl

theorem _root_.FatVerif.SDev.Agree.applyWrites {s : SDev} {d : Dev} (h : s.Agree d) (ws : List (Nat × List Nat)) :
    SDev.Agree ⟨readAfter s.get ws, s.dev⟩ { d with img := applyWrites d.img ws } :=
  h.applyRecs ws

end FatVerif.FileSim

/-! ## the statements are not vacuous: the FAT16 volume of `Props/C02sim.lean`, a file that grows by one cluster -/

namespace FatVerif.FileSim.Ex14
open FatVerif FatVerif.Fat FatVerif.FileSim FatVerif.FileSim.Ex

/-- the record of the file: first cluster 3, 1020 bytes, slot at 1536 (the root directory sector) -/
def entry14 : DirFileEntryData :=
  { DirFileEntryData.new (List.replicate 11 65) 0 with size := 1020, firstClusterLo := 3 }

def file14 : FileH :=
  { firstCluster := some 3, currentCluster := some 3, offset := 509, entry := some ⟨entry14, 1536, true⟩ }

theorem rep14 : FileRep fs16 img16 file14 :=
  rep16.of_cursor rfl (by decide) rep16.inv

theorem simInv14 : SimInv file14 dev16 := ⟨rfl, wf16, geo16, rep14, info16⟩

/-- append 6 bytes at 1020: 4 bytes fill cluster 5, the next write allocates cluster 2 for the last 2 -/
def ops14 : List HOp := [.seek (.start 1020), .write [1, 2, 3, 4, 5, 6], .write [5, 6]]

def f2 : FileH := (runH ops14 file14 dev16).2.1
def d2 : Dev := (runH ops14 file14 dev16).2.2
def e2 : DirEntryEditor := match f2.entry with | some e => e | none => ⟨{}, 0, false⟩

theorem sim2 : SimInv f2 d2 := by
  -- `f2`, `d2` are rewritten to the run first: `exact` against the folded names would make the kernel evaluate the run
  rw [f2, d2]
  exact (fileh_refines_bytefile ops14 file14 dev16 simInv14 ⟨by decide, by decide, trivial⟩).1

/-- later writes: three bytes at the start of cluster 4 (`3072`), two bytes in another slot of the root directory
    (`1600`) — other objects -/
def ws14 : List (Nat × List Nat) := [(3072, [9, 9, 9]), (1600, [8, 8])]

/-- the device after the flush and the cut after the first later write -/
def dCut : Dev :=
  { (run f2.flush d2).2 with img := applyWrites (run f2.flush d2).2.img (ws14.take 1) }

/-- the state before the flush, evaluated: chain `3 → 5 → 2`, 1026 bytes, a dirty editor for the slot at 1536 -/
theorem facts14 :
    f2.entry = some e2 ∧ e2.pos = 1536 ∧ e2.dirty = true ∧ f2.size?.getD 0 = 1026 ∧
    fileChain d2.fs d2.img f2 = [3, 5, 2] ∧ d2.fs.fatType = .fat16 ∧ (fatSliceOf d2.fs).beginOff = 512 ∧
    (fatSliceOf d2.fs).size = 512 ∧ d2.fs.clusterSize = 512 ∧ clusterOff d2.fs 3 = 2560 ∧ clusterOff d2.fs 5 = 3584 ∧
    clusterOff d2.fs 2 = 2048 ∧
    e2.data.firstCluster d2.fs.fatType = f2.firstCluster ∧ attrsIsLfn e2.data.attrs = false ∧
    e2.data.name.length = 11 ∧ (∀ b ∈ e2.data.name, b < 256) ∧ e2.data.attrs < 64 ∧ e2.data.reserved0 < 256 ∧
    e2.data.createTime0 < 256 ∧ e2.data.createTime1 < 65536 ∧ e2.data.createDate < 65536 ∧
    e2.data.accessDate < 65536 ∧ e2.data.firstClusterHi < 65536 ∧ e2.data.modifyTime < 65536 ∧
    e2.data.modifyDate < 65536 ∧ e2.data.firstClusterLo < 65536 ∧ e2.data.size < 4294967296 ∧
    d2.img.size = 8192 := by
  obtain ⟨_, hf, ha⟩ := runH_sim ops14 file14 agree16
  rw [e2, f2, d2, ← hf, fileChain_eq_fileChainS, ha.get, ha.fs, ha.size]
  decide +kernel

theorem entryRep2 : EntryRep d2.fs d2.img f2 e2 := by
  obtain ⟨h1, h2, h3, _, h5, _, h7, h8, h9, h10, h11, h12, h13, h14, w1, w2, w3, w4, w5, w6, w7, w8, w9, w10, w11, w12,
    w13, hsz⟩ := facts14
  refine ⟨h1, ⟨w1, w2, w3, w4, w5, w6, w7, w8, w9, w10, w11, w12, w13⟩, h14, by rw [h2, hsz]; decide,
    by rw [h2, h7, h8]; decide, ?_, h13, fun h => by rw [h3] at h; cases h⟩
  intro c hc
  rw [h5] at hc
  have : c = 3 ∨ c = 5 ∨ c = 2 := by simpa using hc
  rcases this with rfl | rfl | rfl
  · rw [h2, h10]; decide
  · rw [h2, h11]; decide
  · rw [h2, h12]; decide

theorem avoid14 : WritesAvoid (Footprint d2.fs d2.img f2 e2) ws14 := by
  obtain ⟨_, h2, _, h4, h5, h6, h7, _, h9, h10, h11, h12, _⟩ := facts14
  intro w hw q hq1 hq2 hfp
  have hw' : w = (3072, [9, 9, 9]) ∨ w = (1600, [8, 8]) := by simpa [ws14] using hw
  have hq : (3072 ≤ q ∧ q < 3075) ∨ (1600 ≤ q ∧ q < 1602) := by
    rcases hw' with rfl | rfl
    · left; exact ⟨hq1, hq2⟩
    · right; exact ⟨hq1, hq2⟩
  rcases hfp with ⟨a, b⟩ | ⟨c, hc, a, b⟩ | ⟨p, hp, hqp⟩
  · rw [h2] at a b; omega
  · rw [h5] at hc
    have hc' : c = 3 ∨ c = 5 ∨ c = 2 := by simpa using hc
    rw [h6, h7] at a b
    simp only [entOff, entWidth] at a b
    omega
  · rw [h4] at hp
    rw [h5, h9] at hqp
    have hdm := Cursor.divmod_spec 512 p (by decide)
    have hcases : p / 512 = 0 ∨ p / 512 = 1 ∨ p / 512 = 2 := by omega
    rcases hcases with h0 | h0 | h0 <;> rw [h0] at hqp hdm
    · rw [show [3, 5, 2].getD 0 0 = 3 from rfl, h10] at hqp; omega
    · rw [show [3, 5, 2].getD 1 0 = 5 from rfl, h11] at hqp; omega
    · rw [show [3, 5, 2].getD 2 0 = 2 from rfl, h12] at hqp; omega

/-- `durable_after_flush` applied: whatever prefix of the later writes survives the power cut, re-opening the file
    from the slot at 1536 and reading 1026 bytes returns the content it had at the flush -/
theorem durable14 :
    ∃ d1, run f2.flush d2 = (.ok { f2 with entry := some { e2 with dirty := false } }, d1) ∧
      ∀ (k : Nat) (dk : Dev), dk.img = applyWrites d1.img (ws14.take k) → dk.fs = d2.fs → dk.failAt = none →
        ∃ g' d', run (readExact FileH.strm (reopen dk.fs dk.img e2.pos) (absFile d2.fs d2.img f2).size) dk =
          (.ok ((absFile d2.fs d2.img f2).content, g'), d') := by
  obtain ⟨d1, hr, _, _, _, hdur⟩ := durable_after_flush f2 e2 d2 sim2 entryRep2
  exact ⟨d1, hr, fun k dk h1 h2 h3 => hdur ws14 k dk avoid14 h1 h2 h3⟩

/-- the device after the flush and the cut, evaluated: the record is in the slot (size 1026 = `0x402`, first cluster 3),
    the first later write is on the medium and the second is not, and reading the re-opened file to the end gives 1026
    bytes ending with the six appended ones -/
theorem cut14 :
    (slotData dCut.img 1536).size = 1026 ∧ (slotData dCut.img 1536).firstClusterLo = 3 ∧
    dCut.img.getByte 3072 = 9 ∧ dCut.img.getByte 1600 = 0 ∧
    ((run (readExact FileH.strm (reopen dCut.fs dCut.img 1536) 1026) dCut).1.toOption.map
      fun r => (r.1.length, r.1.take 4, r.1.drop 1018)) = some (1026, [0, 0, 0, 0], [0, 0, 1, 2, 3, 4, 5, 6]) := by
  obtain ⟨_, hf, ha⟩ := runH_sim ops14 file14 agree16
  rw [dCut, f2, d2, ← hf]
  obtain ⟨d1, e1, ha1⟩ := run_eq_runS (hist execHS ops14 file14 s16).2.1.flush ha
  rw [e1]
  have hc := ha1.applyWrites (ws14.take 1)
  obtain ⟨dr, er, _⟩ := run_eq_runS (readExact FileH.strm (reopenS d1.fs _ 1536) 1026) hc
  rw [slotData_eq_slotDataS, reopen_eq_reopenS, hc.get, er, ha1.fs]
  dsimp only
  decide +kernel

end FatVerif.FileSim.Ex14
