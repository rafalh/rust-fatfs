import FatVerif.Proofs.SafeApi
import FatVerif.Proofs.SessionStep
/-! # C09 — storage errors surface as I/O errors

`Propagates p` (Proofs/Prog.lean): run `p` on a device on which no fault has fired yet. Afterwards either no fault
fired, or exactly one did (the schedule is one-shot and spent) and — unless it fired inside a destructor, the
property's exemption — the result of `p` is exactly `Err.io k` with `k` the index of the failed device call.

Every program `Session.step` (Model/Api.lean) runs for a public operation satisfies `Propagates`; the proof is a
structural descent through the model (`Proofs/SafeIo`, `SafeFile`, `SafeDir`, `SafeFs`, `SafeApi`: one `…_safe` lemma per model function, whose `.io` half is `IoSafe`), with
hand proofs at the only places where the code inspects an error instead of `?`-propagating it:

* `DirEntryData::deserialize` (`readSlot`) catches `UnexpectedEof` only, every other error is re-raised unchanged;
* `alloc_cluster` (`Table.allocCluster`) retries on `NotEnoughSpace` only (after fix F9);
* `write_entry` (`writeSlotsKeep`/`writeEntry`) keeps the error of a slot write, rolls back the slots written so far
  (`free_written_entries(..)?`, fixes 7e7a6f2 + 68bd139), drops the positioned clone of the directory and re-raises the
  kept error. The roll-back is `?`-propagated, so a fault that fires inside it is reported
  (`entryRollback_propagates`); the one residual exception (`EntryRollbackX`, same flavour as `RollbackErr`): the fault
  hit a slot write and the roll-back, run afterwards, itself ends in an error, which is returned instead. So
  `create_file`, `rename`, `create_dir` (the users of `write_entry`) satisfy `Propagates` up to that outcome:
  `…_propagates_partial`, with conditional corollaries `…_propagates_of_rollback`;
* `create_dir` gives the new cluster back when the entry cannot be written (`free_cluster_chain(cluster)?`) and
  re-raises the error only if that roll-back succeeded (`RollbackErr`): `createDir_propagates_partial`;
* `rename_internal`'s ancestor walk returns `InvalidInput`/`CorruptedFileSystem` of its own (user errors); its
  fuel-exhaustion `hang` sits outside destructor bodies.

Destructors (`impl Drop for File`, `for FileSystem`) swallow errors; they are shown never to panic or hang
(`NonFatal`), so that they cannot replace the error in flight. -/
namespace FatVerif

/-! ## per-operation theorems -/

theorem formatVolume_propagates (o : Format.FormatOpts) : Propagates (formatVolume o) :=
  ioSafe_propagates (formatVolume_safe o).io

theorem mount_propagates (strict accDate lfnAlloc unicode : Bool) : Propagates (mount strict accDate lfnAlloc unicode) :=
  ioSafe_propagates (mount_ioSafe _ _ _ _)

/-- `FileSystem::unmount(self)` as the API runs it: the root `Dir` handle is dropped first -/
theorem unmount_propagates (root : DirStream) : Propagates (do root.drop; unmount) :=
  ioSafe_propagates (IoSafe.bind _ _ root.drop_safe.io (fun _ => unmount_safe.io))

/-- dropping the file system without `unmount`: everything happens in destructors, no error can be reported -/
theorem dropFs_propagates (root : DirStream) : Propagates (do root.drop; dropFs) :=
  ioSafe_propagates (IoSafe.bind _ _ root.drop_safe.io (fun _ => dropFs_safe.io))

theorem openDir_propagates (env : Env) (fuel : Nat) (d : DirStream) (path : String) :
    Propagates (openDir env fuel d path) := ioSafe_propagates (openDir_safe env fuel d path).io

theorem openFile_propagates (env : Env) (fuel : Nat) (d : DirStream) (path : String) :
    Propagates (openFile env fuel d path) := ioSafe_propagates (openFile_safe env fuel d path).io

/-- `create_file`, PARTIAL: up to an error of `write_entry`'s roll-back run after the fault (`EntryRollbackX`). The
    residual case is EXCLUDED on every device on which the directory is writable in the sense of the simulation layer:
    `createFile_propagates_wview` (Props/C09wview.lean; a separate file only because of its imports). -/
theorem createFile_propagates_partial (env : Env) (fuel : Nat) (d : DirStream) (path : String) :
    PropagatesX EntryRollbackX (createFile env fuel d path) := createFile_propagatesX env fuel d path

theorem remove_propagates (env : Env) (fuel : Nat) (d : DirStream) (path : String) :
    Propagates (remove env fuel d path) := ioSafe_propagates (remove_safe env fuel d path).io

/-- `rename`, PARTIAL: up to an error of `write_entry`'s roll-back run after the fault (`EntryRollbackX`); excluded on
    writable directories: `rename_propagates_wview` (Props/C09wview.lean) -/
theorem rename_propagates_partial (env : Env) (fuel : Nat) (d : DirStream) (src : String) (dst : DirStream)
    (dstPath : String) : PropagatesX EntryRollbackX (rename env fuel d src dst dstPath) :=
  rename_propagatesX env fuel d src dst dstPath

/-- the semantic hypothesis under which the residual exception disappears: run after a fault has fired,
    `free_written_entries` never ends in an error (it only seeks inside the range just written and overwrites one byte
    per slot — a fact about the directory stream, not about error flow; not proved here) -/
def EntryRollbackNeverFails : Prop :=
  ∀ (st : DirStream) (pos : Nat) (d1 d2 : Dev) (e : Err), d1.failAt = none → d1.fault ≠ none →
    run (freeWrittenEntries st pos) d1 ≠ (.error e, d2)

theorem EntryRollbackNeverFails.noX (h : EntryRollbackNeverFails) : ∀ f e, ¬ EntryRollbackX f e := by
  rintro f e ⟨st, pos, d1, d2, h1, h2, h3⟩
  exact h st pos d1 d2 e h1 (by rw [h2]; simp) h3

theorem createFile_propagates_of_rollback (env : Env) (fuel : Nat) (d : DirStream) (path : String)
    (h : EntryRollbackNeverFails) : Propagates (createFile env fuel d path) :=
  (createFile_propagatesX env fuel d path).toPropagates h.noX

/-- … hence plain `Propagates` under that hypothesis -/
theorem rename_propagates_of_rollback (env : Env) (fuel : Nat) (d : DirStream) (src : String) (dst : DirStream)
    (dstPath : String) (h : EntryRollbackNeverFails) : Propagates (rename env fuel d src dst dstPath) :=
  (rename_propagatesX env fuel d src dst dstPath).toPropagates h.noX

theorem listDir_propagates (d : DirStream) : Propagates (listDir d) := ioSafe_propagates (listDir_safe d).io

/-- one `Read::read` call on a `File` (the API's `read`; `readx`/`readall` iterate it at session level) -/
theorem fileRead_propagates (f : FileH) (n : Nat) : Propagates (f.read n) := ioSafe_propagates (f.read_safe n).io

/-- one `Write::write` call on a `File` (the API's `write`; `writeall` iterates it at session level) -/
theorem fileWrite_propagates (f : FileH) (bs : List Nat) : Propagates (f.write bs) :=
  ioSafe_propagates (f.write_safe bs).io

theorem fileSeek_propagates (f : FileH) (p : SeekFrom) : Propagates (f.seek p) := ioSafe_propagates (f.seek_safe p).io

theorem fileTruncate_propagates (f : FileH) : Propagates f.truncate := ioSafe_propagates f.truncate_safe.io

theorem fileFlush_propagates (f : FileH) : Propagates f.flush := ioSafe_propagates f.flush_safe.io

theorem fileDrop_propagates (f : FileH) : Propagates f.drop := ioSafe_propagates f.drop_safe.io

theorem dirDrop_propagates (d : DirStream) : Propagates d.drop := ioSafe_propagates d.drop_safe.io

theorem fileExtents_propagates (f : FileH) : Propagates f.extents := ioSafe_propagates f.extents_safe.io

theorem stats_propagates : Propagates stats := ioSafe_propagates stats_safe.io

theorem readStatusFlags_propagates : Propagates readStatusFlags := ioSafe_propagates readStatusFlags_safe.io

theorem readVolumeLabelFromRootDir_propagates : Propagates readVolumeLabelFromRootDir :=
  ioSafe_propagates readVolumeLabelFromRootDir_safe.io

/-- `create_dir`, PARTIAL: after a fault `f` outside a destructor the result is `io f.k` — or, when the fault hit
    the write of the new directory's entry and the roll-back `free_cluster_chain(cluster)?` then failed too, the error
    `e` of that roll-back (`RollbackErr f e`: `e` is the result of some run of `freeClusterChain` started after `f`
    fired). What is missing for plain `Propagates`: that freeing the single, just allocated cluster cannot fail once
    no device call can fail any more — a fact about the FAT contents, not about error flow. Since `create_dir` writes
    three entries with `write_entry`, the outcomes of THAT roll-back (`EntryRollbackX`) are tolerated too:
    `ApiX = RollbackErr ∨ EntryRollbackX` (both: an error of a roll-back run after the fault).
    Props/C09wview.lean: on writable directories `EntryRollbackX` is excluded (`createDir_propagates_wview`), and for the
    fixed root as parent `RollbackErr` too (`createDir_propagates_root_plain`: plain `Propagates`), and for
    cluster-chain parents as well (`createDir_propagates_wview_plain`, `createDir_propagates_chain_plain`). -/
theorem createDir_propagates_partial (env : Env) (fuel : Nat) (d : DirStream) (path : String) :
    PropagatesX ApiX (createDir env fuel d path) := createDir_propagatesX env fuel d path

/-- … hence plain `Propagates` under the semantic hypothesis that the roll-back never fails after a fault -/
theorem createDir_propagates_of_rollback (env : Env) (fuel : Nat) (d : DirStream) (path : String)
    (hfree : ∀ (c : Nat) (d1 d2 : Dev) (e : Err), d1.failAt = none → d1.fault ≠ none →
      run (freeClusterChain c) d1 ≠ (.error e, d2))
    (hE : EntryRollbackNeverFails) :
    Propagates (createDir env fuel d path) := by
  refine (createDir_propagatesX env fuel d path).toPropagates ?_
  intro f e hx
  unfold ApiX at hx
  rcases hx with ⟨c, d1, d2, h1, h2, h3⟩ | hx
  · exact hfree c d1 d2 e h1 (by rw [h2]; simp) h3
  · exact hE.noX f e hx

/-! ### what the partial theorems do guarantee, unconditionally

`PropagatesX X p` never lets a fault outside a destructor go unnoticed: the result is an error — `io k`, or the error of a
roll-back step run after the fault. The residual case in real-world terms: the storage failed ONCE, while `write_entry`
was writing a slot (possibly inside the FAT update that grows the directory); the operation then re-positions the
directory stream on the first slot it wrote and overwrites one byte per slot (resp. `create_dir` frees the one cluster it
had allocated) — with the storage working again. That roll-back can only fail for a non-storage reason: the cluster chain
of the directory, re-walked from the FAT by `seek`, is inconsistent (`CorruptedFileSystem`/`UnexpectedEof` from a FAT the
failed write left half-updated in the first copy), a seek target beyond 4 GiB, or one of the model's panics. Excluding these
needs an invariant of the directory stream and of the FAT (the range `[start_pos, cur)` was just traversed by the same
stream; the only FAT write in between is the appended cluster), which the error-flow proof does not carry.

Under a PERSISTENT fault (every device call from the failing one on fails) the picture is not better for `Propagates` as
stated: the roll-back's first device call fails as well and ITS error `io k'` (`k' > k`) is returned by
`free_written_entries(..)?` — an I/O error, but not the one of call `k`; so the one-shot schedule is the reading under which
"the error of the failed call surfaces" is the sharper statement, and the persistent reading would weaken the conclusion
to "some `io`". (Not formalised: it needs a second interpreter with a persistent schedule.) -/

/-- after a fault outside a destructor the result of a `PropagatesX` program is never `ok` -/
theorem PropagatesX.faulted_is_error {α} {X : Fault → Err → Prop} {p : Prog α} (hp : PropagatesX X p)
    {d : Dev} (hd : d.fault = none) {r d'} (hr : run p d = (r, d')) {f : Fault} (hf : d'.fault = some f)
    (hnd : f.inDrop = false) : ∃ e, r = .error e ∧ (e = .io f.k ∨ X f e) := by
  rcases hp d hd r d' hr with h | ⟨_, f', h2, h3⟩
  · cases h.symm.trans hf
  · cases h2.symm.trans hf
    rcases h3 hnd with h | ⟨e', h, hx⟩ <;> cases r <;> cases h
    · exact ⟨_, rfl, Or.inl rfl⟩
    · exact ⟨_, rfl, Or.inr hx⟩

/-- `create_file`, `rename`, `create_dir`: a fault outside a destructor always yields an error — `io k`, or the error of
    a roll-back (`write_entry`'s `free_written_entries`, `create_dir`'s `free_cluster_chain`) run after the fault -/
theorem createFile_faulted_is_error (env : Env) (fuel : Nat) (dir : DirStream) (path : String) {d : Dev}
    (hd : d.fault = none) {r d'} (hr : run (createFile env fuel dir path) d = (r, d')) {f : Fault}
    (hf : d'.fault = some f) (hnd : f.inDrop = false) : ∃ e, r = .error e ∧ (e = .io f.k ∨ EntryRollbackX f e) :=
  (createFile_propagatesX env fuel dir path).faulted_is_error hd hr hf hnd

theorem rename_faulted_is_error (env : Env) (fuel : Nat) (dir : DirStream) (src : String) (dst : DirStream)
    (dstPath : String) {d : Dev} (hd : d.fault = none) {r d'}
    (hr : run (rename env fuel dir src dst dstPath) d = (r, d')) {f : Fault} (hf : d'.fault = some f)
    (hnd : f.inDrop = false) : ∃ e, r = .error e ∧ (e = .io f.k ∨ EntryRollbackX f e) :=
  (rename_propagatesX env fuel dir src dst dstPath).faulted_is_error hd hr hf hnd

theorem createDir_faulted_is_error (env : Env) (fuel : Nat) (dir : DirStream) (path : String) {d : Dev}
    (hd : d.fault = none) {r d'} (hr : run (createDir env fuel dir path) d = (r, d')) {f : Fault}
    (hf : d'.fault = some f) (hnd : f.inDrop = false) : ∃ e, r = .error e ∧ (e = .io f.k ∨ ApiX f e) :=
  (createDir_propagatesX env fuel dir path).faulted_is_error hd hr hf hnd

/-! ## summary -/

/-- the programs `Session.step` runs, operation by operation (Model/Api.lean); the users of `write_entry`
    (`createDir`, `createFile`, `rename`) are listed separately in `ApiProgAll` -/
inductive ApiProg : {α : Type} → Prog α → Prop where
  | format (o : Format.FormatOpts) : ApiProg (formatVolume o)
  | mount (strict accDate lfnAlloc unicode : Bool) : ApiProg (FatVerif.mount strict accDate lfnAlloc unicode)
  | unmount (root : DirStream) : ApiProg (do root.drop; FatVerif.unmount)
  | dropfs (root : DirStream) : ApiProg (do root.drop; dropFs)
  | openDir (env : Env) (fuel : Nat) (d : DirStream) (path : String) : ApiProg (FatVerif.openDir env fuel d path)
  | openFile (env : Env) (fuel : Nat) (d : DirStream) (path : String) : ApiProg (FatVerif.openFile env fuel d path)
  | remove (env : Env) (fuel : Nat) (d : DirStream) (path : String) : ApiProg (FatVerif.remove env fuel d path)
  | list (d : DirStream) : ApiProg (listDir d)
  | read (f : FileH) (n : Nat) : ApiProg (f.read n)            -- also each iteration of `readx`, `readall`
  | write (f : FileH) (bs : List Nat) : ApiProg (f.write bs)   -- also each iteration of `writeall`
  | seek (f : FileH) (p : SeekFrom) : ApiProg (f.seek p)
  | truncate (f : FileH) : ApiProg f.truncate
  | flush (f : FileH) : ApiProg f.flush
  | dropf (f : FileH) : ApiProg f.drop
  | dropd (d : DirStream) : ApiProg d.drop
  | extents (f : FileH) : ApiProg f.extents
  | stats : ApiProg FatVerif.stats
  | status : ApiProg readStatusFlags
  | labelRoot : ApiProg readVolumeLabelFromRootDir

/-- `p` is not the mount program -/
def NotMount {α : Type} (p : Prog α) : Prop := ∀ a b c d, ¬ HEq p (FatVerif.mount a b c d)

/-- every program of the API never swallows an I/O error and, unless it is `mount`, keeps the immutable part of the
    mounted state: one case analysis for C09 and C12 -/
theorem api_safe {α : Type} {p : Prog α} (h : ApiProg p) : IoSafe p ∧ (NotMount p → Steps GeoRel p) := by
  have both : ∀ {β} {q : Prog β}, Safe q → IoSafe q ∧ (NotMount q → Steps GeoRel q) := fun hq => ⟨hq.io, fun _ => hq.geo⟩
  cases h with
  | format o => exact both (formatVolume_safe o)
  | mount a b c d => exact ⟨mount_ioSafe _ _ _ _, fun hnm => absurd HEq.rfl (hnm a b c d)⟩
  | unmount root => exact both (Safe.bind _ _ root.drop_safe (fun _ => unmount_safe))
  | dropfs root => exact both (Safe.bind _ _ root.drop_safe (fun _ => dropFs_safe))
  | openDir => exact both (openDir_safe _ _ _ _)
  | openFile => exact both (openFile_safe _ _ _ _)
  | remove => exact both (remove_safe _ _ _ _)
  | list => exact both (listDir_safe _)
  | read f n => exact both (f.read_safe n)
  | write f bs => exact both (f.write_safe bs)
  | seek f p => exact both (f.seek_safe p)
  | truncate f => exact both f.truncate_safe
  | flush f => exact both f.flush_safe
  | dropf f => exact both f.drop_safe
  | dropd d => exact both d.drop_safe
  | extents f => exact both f.extents_safe
  | stats => exact both stats_safe
  | status => exact both readStatusFlags_safe
  | labelRoot => exact both readVolumeLabelFromRootDir_safe

theorem api_ioSafe {α : Type} {p : Prog α} (h : ApiProg p) : IoSafe p := (api_safe h).1

/-- **C09**: every program a public operation runs (other than `create_dir`, `create_file`, `rename`, see the
    `…_propagates_partial` theorems)
    reports a storage error that occurs outside a destructor as `Err.io k`, `k` the index of the failed call -/
theorem api_propagates {α : Type} {p : Prog α} (h : ApiProg p) : Propagates p := ioSafe_propagates (api_ioSafe h)

/-- all programs of the API, `create_dir`, `create_file` and `rename` included -/
inductive ApiProgAll : {α : Type} → Prog α → Prop where
  | base {α : Type} {p : Prog α} : ApiProg p → ApiProgAll p
  | createDir (env : Env) (fuel : Nat) (d : DirStream) (path : String) : ApiProgAll (FatVerif.createDir env fuel d path)
  | createFile (env : Env) (fuel : Nat) (d : DirStream) (path : String) : ApiProgAll (FatVerif.createFile env fuel d path)
  | rename (env : Env) (fuel : Nat) (d : DirStream) (src : String) (d2 : DirStream) (dst : String) :
      ApiProgAll (FatVerif.rename env fuel d src d2 dst)

/-- the whole API, up to the outcomes of the two roll-backs (`ApiX`) -/
theorem api_propagates_all {α : Type} {p : Prog α} (h : ApiProgAll p) : PropagatesX ApiX p := by
  cases h with
  | base h => exact (api_propagates h).toX
  | createDir env fuel d path => exact createDir_propagatesX env fuel d path
  | createFile env fuel d path => exact (createFile_propagatesX env fuel d path).mono (fun _ _ h => Or.inr h)
  | rename env fuel d src d2 dst => exact (rename_propagatesX env fuel d src d2 dst).mono (fun _ _ h => Or.inr h)

/-! ## `Session.step` runs nothing else

The device after `Session.step s op` is obtained from `s.dev` by runs of programs listed in `ApiProgAll` (one run
for most operations, one per iteration for `readx`/`readall`/`writeall`, none for the pure ones) and the rewinding of
the device position that precedes `format`/`mount`. So the per-program theorems above cover every device access the
API model makes. -/

inductive ApiRuns : Dev → Dev → Prop where
  | refl (d : Dev) : ApiRuns d d
  | run {α : Type} (p : Prog α) (d : Dev) (r : Except Err α) (d' : Dev) : ApiProgAll p → run p d = (r, d') → ApiRuns d d'
  | rewind (d : Dev) : ApiRuns d { d with pos := 0 }
  | trans {a b c : Dev} : ApiRuns a b → ApiRuns b c → ApiRuns a c

namespace Session

theorem apiLift : Lift (fun _ => True) ApiRuns (fun _ => True) :=
  ⟨.refl, .trans, fun _ _ => trivial, fun _ _ => trivial, fun _ _ _ => trivial⟩

theorem apiRun {α : Type} (s : Session) {p : Prog α} (hp : ApiProgAll p) : RunOK ApiRuns s p fun _ => True :=
  fun r d hr => ⟨.run p _ r d hp hr, fun _ _ => trivial⟩

theorem runOp_apiRuns {α : Type} (s : Session) {p : Prog α} (hp : ApiProgAll p)
    {k : Session → α → Session × ApiRes} (hk : ∀ s' a, (k s' a).1.dev = s'.dev) :
    Keeps (fun _ => True) ApiRuns s (s.runOp p k) :=
  apiLift.runOp trivial (apiRun s hp) fun s' a _ _ => ⟨trivial, hk s' a ▸ .refl _⟩

/-- every device access of `Session.step` is a run of a listed program -/
theorem step_apiRuns (s : Session) (op : ApiOp) : ApiRuns s.dev (s.step op).1.dev := by
  suffices h : Keeps (fun _ => True) ApiRuns s (s.step op) from h.2
  have L := apiLift
  have t : True := trivial
  unfold step
  split
  · exact L.same t _
  cases op with
  | format o =>
    exact L.guard t _ (L.after (.rewind _) (runOp_apiRuns _ (.base (.format o)) fun _ _ => rfl))
  | mount =>
    exact L.guard t _ (L.after (.rewind _) (runOp_apiRuns _ (.base (.mount _ _ _ _)) fun _ _ => rfl))
  | unmount =>
    refine L.guard t _ ?_
    have h1 := apiRun s (.base (.unmount s.root))
    unfold exec
    rcases hr : run (do s.root.drop; FatVerif.unmount) s.dev with ⟨r, d⟩
    cases r with
    | ok v => exact ⟨t, (h1 _ _ hr).1⟩
    | error e => simp only [fatal_eq]; exact ⟨t, (h1 _ _ hr).1⟩
  | dropfs => exact L.guard t _ (runOp_apiRuns s (.base (.dropfs s.root)) fun _ _ => rfl)
  | forget => exact L.guard t _ ⟨t, .refl _⟩
  | openDir d path dnew =>
    exact L.withDir t d fun h _ => L.guard t _ (runOp_apiRuns s (.base (.openDir _ _ _ _)) fun _ _ => rfl)
  | createDir d path dnew =>
    exact L.withDir t d fun h _ => L.guard t _ (runOp_apiRuns s (.createDir _ _ _ _) fun _ _ => rfl)
  | openFile d path fnew =>
    exact L.withDir t d fun h _ => L.guard t _ (runOp_apiRuns s (.base (.openFile _ _ _ _)) fun _ _ => rfl)
  | createFile d path fnew =>
    exact L.withDir t d fun h _ => L.guard t _ (runOp_apiRuns s (.createFile _ _ _ _) fun _ _ => rfl)
  | remove d path => exact L.withDir t d fun h _ => runOp_apiRuns s (.base (.remove _ _ _ _)) fun _ _ => rfl
  | rename d src d2 dst =>
    exact L.withDir t d fun h _ => L.withDir t d2 fun h2 _ => runOp_apiRuns s (.rename _ _ _ _ _ _) fun _ _ => rfl
  | list d => exact L.withDir t d fun h _ => runOp_apiRuns s (.base (.list _)) fun _ _ => rfl
  | read f n => exact L.withFile t f fun h _ => runOp_apiRuns s (.base (.read _ _)) fun _ _ => rfl
  | readx f n =>
    exact L.withFile t f fun h _ => L.readxLoop (fun n _ _ => apiRun _ (.base (.read _ n))) f _ s h n [] t t
  | readall f =>
    exact L.withFile t f fun h _ => L.readAllLoopS (fun n _ _ => apiRun _ (.base (.read _ n))) f _ s h [] t t
  | write f bs => exact L.withFile t f fun h _ => runOp_apiRuns s (.base (.write _ _)) fun _ _ => rfl
  | writeall f bs =>
    exact L.withFile t f fun h _ => L.writeAllLoopS (fun bs _ _ => apiRun _ (.base (.write _ bs))) f _ s h bs t t
  | seek f k n => exact L.withFile t f fun h _ => runOp_apiRuns s (.base (.seek _ _)) fun _ _ => rfl
  | truncate f => exact L.withFile t f fun h _ => runOp_apiRuns s (.base (.truncate _)) fun _ _ => rfl
  | flush f => exact L.withFile t f fun h _ => runOp_apiRuns s (.base (.flush _)) fun _ _ => rfl
  | dropf f => exact L.withFile t f fun h _ => runOp_apiRuns s (.base (.dropf _)) fun _ _ => rfl
  | dropd d =>
    exact L.guard t _ (L.withDir t d fun h _ => runOp_apiRuns s (.base (.dropd _)) fun _ _ => rfl)
  | setCreated f y m d h mi sec ms => exact L.withFile t f fun fh _ => by split <;> exact ⟨t, .refl _⟩
  | setModified f y m d h mi sec ms => exact L.withFile t f fun fh _ => by split <;> exact ⟨t, .refl _⟩
  | setAccessed f y m d => exact L.withFile t f fun fh _ => by split <;> exact ⟨t, .refl _⟩
  | extents f => exact L.withFile t f fun h _ => runOp_apiRuns s (.base (.extents _)) fun _ _ => rfl
  | stats => exact L.guard t _ (runOp_apiRuns s (.base .stats) fun _ a => by obtain ⟨_, _, _⟩ := a; rfl)
  | status => exact L.guard t _ (runOp_apiRuns s (.base .status) fun _ a => by obtain ⟨_, _⟩ := a; rfl)
  | label => exact L.guard t _ (L.same t _)
  | labelRoot => exact L.guard t _ (runOp_apiRuns s (.base .labelRoot) fun _ _ => rfl)
  | volid => exact L.guard t _ (L.same t _)
  | fattype => exact L.guard t _ (L.same t _)

end Session

/-! ## the statements are not vacuous: concrete faulted runs -/

namespace C09ex

def fs16 : FsState :=
  { fatType := .fat16, bps := 512, spc := 1, reserved := 1, fats := 1, spf := 1, totalClusters := 5,
    firstDataSector := 2, rootEntries := 16, rootDirSectors := 1 }

/-- a 4 KiB all-zero device with `fs16` mounted; device call number `k` (counted from 1) is scheduled to fail -/
def dev (k : Nat) : Dev := { img := Img.empty 4096, fs := fs16, failAt := some k }

/-- a clean handle on a 100-byte file starting in cluster 2 -/
def file : FileH :=
  { firstCluster := some 2, entry := some (DirEntryEditor.new { DirFileEntryData.new [] 0 with size := 100 } 1024) }

/-- a dirty file handle (32-byte record to be written back at offset 1024) -/
def dirtyFile : FileH :=
  { firstCluster := some 2, entry := some { data := DirFileEntryData.new [] 0, pos := 1024, dirty := true } }

end C09ex

/-- `read_status_flags`: the first device call (a seek into the FAT) fails; the result is `io 1`, recorded outside a
    destructor; the hypothesis `fault = none` of `Propagates` holds of the start state -/
example : (C09ex.dev 1).fault = none ∧ resErr (run readStatusFlags (C09ex.dev 1)).1 = some (.io 1) ∧
    (run readStatusFlags (C09ex.dev 1)).2.fault = some ⟨1, .s, false⟩ := by decide

/-- `File::read`: call 1 is the seek to the data cluster, call 2 the read; failing the read gives `io 2` -/
example : resErr (run (C09ex.file.read 10) (C09ex.dev 2)).1 = some (.io 2) ∧
    (run (C09ex.file.read 10) (C09ex.dev 2)).2.fault = some ⟨2, .r, false⟩ := by decide

/-- `File::flush` (explicit): failing the first `write_all` chunk (call 2; call 1 is the seek) surfaces as `io 2` -/
example : resErr (run C09ex.dirtyFile.flush (C09ex.dev 2)).1 = some (.io 2) ∧
    (run C09ex.dirtyFile.flush (C09ex.dev 2)).2.fault = some ⟨2, .w, false⟩ := by decide

/-- the exemption: the same failure inside `impl Drop for File` is swallowed (result `ok`), and recorded as in-drop -/
example : resErr (run C09ex.dirtyFile.drop (C09ex.dev 2)).1 = none ∧
    (run C09ex.dirtyFile.drop (C09ex.dev 2)).2.fault = some ⟨2, .w, true⟩ := by decide

/-- `unmount` with a changed status flag: the seek to the status byte is call 1 -/
example : resErr (run unmount { C09ex.dev 1 with fs := { C09ex.fs16 with curDirty := true } }).1 = some (.io 1) := by
  decide

/-- `stats` on a volume without cached free count scans the FAT; failing its 4th call gives `io 4` and the schedule
    is spent -/
example : resErr (run stats (C09ex.dev 4)).1 = some (.io 4) ∧ (run stats (C09ex.dev 4)).2.failAt = none := by decide

/-- `createDir_propagates_partial` has no hypothesis beyond a fault-free start; a faulted run of its last-component
    case needs a populated image, so only the fuel-exhaustion case is evaluated here -/
example : resErr (run (createDir ⟨fun c => [c]⟩ 0 (.root (rootSliceOf C09ex.fs16)) "a") (C09ex.dev 1)).1 = some .hang := by
  decide

end FatVerif
