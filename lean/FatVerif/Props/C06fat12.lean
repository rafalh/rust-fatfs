import FatVerif.Props.C06fat
/-!
# C06 — `C06fat.formatted_fat` read per width (`formatFat_view_fat12/16/32`), and a concrete FAT12 volume that meets its
hypotheses

`Fat12::set` is a read-modify-write, so what `format_fat` leaves in a FAT12 table depends on what the device reads
return; the entry values are therefore proved on the IMAGE, for the three widths at once, in `Props/C06fat.lean`.
-/
namespace FatVerif.C06fat12
open FatVerif FatVerif.Format FatVerif.C06image FatVerif.C06mount

/-! ## `formatFat_view` per width: the cases of `C06fat.formatted_fat_copies`, in every FAT copy of the image: the
    reserved entries 0 and 1, the data entries `[2, total+2)` free (FAT32: entry 2, the root directory cluster,
    end-of-chain), the padding entries `[total+2, capacity)` end-of-chain, and the copy holds the bytes of the first -/

theorem formatFat_view_fat12 (o : FormatOpts) (d0 d1 : Dev) (hpre : Formattable o d0)
    (hrun : run (formatVolume o) d0 = (.ok (), d1)) (boot : FBoot)
    (hc : formatChecked o (fmtTotal o d0) = .ok (boot, .fat12)) :
    ∃ tc, boot.bpb.totalClusters = .ok tc ∧ ∀ i, i < boot.bpb.fats →
      Fat.getRaw .fat12 (fatBytes (boot.bpb.reserved * boot.bpb.bps + i * (boot.bpb.sectorsPerFat * boot.bpb.bps))
        (boot.bpb.sectorsPerFat * boot.bpb.bps) d1.img) 0 = .ok (0xF00 + o.media % 256) ∧
      Fat.getRaw .fat12 (fatBytes (boot.bpb.reserved * boot.bpb.bps + i * (boot.bpb.sectorsPerFat * boot.bpb.bps))
        (boot.bpb.sectorsPerFat * boot.bpb.bps) d1.img) 1 = .ok 0xFFF ∧
      (∀ c, 2 ≤ c → c < tc + 2 → Fat.view .fat12 (fatBytes (boot.bpb.reserved * boot.bpb.bps + i * (boot.bpb.sectorsPerFat * boot.bpb.bps))
        (boot.bpb.sectorsPerFat * boot.bpb.bps) d1.img) c = .free) ∧
      (∀ c, tc + 2 ≤ c → c < boot.bpb.sectorsPerFat * boot.bpb.bps * 8 / 12 →
        Fat.view .fat12 (fatBytes (boot.bpb.reserved * boot.bpb.bps + i * (boot.bpb.sectorsPerFat * boot.bpb.bps))
        (boot.bpb.sectorsPerFat * boot.bpb.bps) d1.img) c = .eoc) ∧
      fatBytes (boot.bpb.reserved * boot.bpb.bps + i * (boot.bpb.sectorsPerFat * boot.bpb.bps))
        (boot.bpb.sectorsPerFat * boot.bpb.bps) d1.img =
        fatBytes (boot.bpb.reserved * boot.bpb.bps) (boot.bpb.sectorsPerFat * boot.bpb.bps) d1.img := by
  obtain ⟨boot', ft', h⟩ := hpre.formatted hrun
  obtain ⟨rfl, rfl⟩ := h.unique hc
  obtain ⟨tc, htc, hall⟩ := C06fat.formatted_fat_copies h (fun hh => by cases hh)
  have hcapc := h.geom.cap_tc htc
  refine ⟨tc, htc, fun i hi => ?_⟩
  obtain ⟨h0, h1, hv, he⟩ := hall i hi
  refine ⟨h0, h1, fun c h2 hlt => ?_, fun c h1 hlt => ?_, he⟩
  · rw [hv c h2 (Nat.lt_of_lt_of_le hlt hcapc), if_neg (fun hh => hh.elim (fun a => by cases a.1) (by omega))]
  · rw [hv c (by omega) hlt, if_pos (Or.inr h1)]

theorem formatFat_view_fat16 (o : FormatOpts) (d0 d1 : Dev) (hpre : Formattable o d0)
    (hrun : run (formatVolume o) d0 = (.ok (), d1)) (boot : FBoot)
    (hc : formatChecked o (fmtTotal o d0) = .ok (boot, .fat16)) :
    ∃ tc, boot.bpb.totalClusters = .ok tc ∧ ∀ i, i < boot.bpb.fats →
      Fat.getRaw .fat16 (fatBytes (boot.bpb.reserved * boot.bpb.bps + i * (boot.bpb.sectorsPerFat * boot.bpb.bps))
        (boot.bpb.sectorsPerFat * boot.bpb.bps) d1.img) 0 = .ok ((o.media ||| 0xFF00) % 65536) ∧
      Fat.getRaw .fat16 (fatBytes (boot.bpb.reserved * boot.bpb.bps + i * (boot.bpb.sectorsPerFat * boot.bpb.bps))
        (boot.bpb.sectorsPerFat * boot.bpb.bps) d1.img) 1 = .ok 0xFFFF ∧
      (∀ c, 2 ≤ c → c < tc + 2 → Fat.view .fat16 (fatBytes (boot.bpb.reserved * boot.bpb.bps + i * (boot.bpb.sectorsPerFat * boot.bpb.bps))
        (boot.bpb.sectorsPerFat * boot.bpb.bps) d1.img) c = .free) ∧
      (∀ c, tc + 2 ≤ c → c < boot.bpb.sectorsPerFat * boot.bpb.bps * 8 / 16 →
        Fat.view .fat16 (fatBytes (boot.bpb.reserved * boot.bpb.bps + i * (boot.bpb.sectorsPerFat * boot.bpb.bps))
        (boot.bpb.sectorsPerFat * boot.bpb.bps) d1.img) c = .eoc) ∧
      fatBytes (boot.bpb.reserved * boot.bpb.bps + i * (boot.bpb.sectorsPerFat * boot.bpb.bps))
        (boot.bpb.sectorsPerFat * boot.bpb.bps) d1.img =
        fatBytes (boot.bpb.reserved * boot.bpb.bps) (boot.bpb.sectorsPerFat * boot.bpb.bps) d1.img := by
  obtain ⟨boot', ft', h⟩ := hpre.formatted hrun
  obtain ⟨rfl, rfl⟩ := h.unique hc
  obtain ⟨tc, htc, hall⟩ := C06fat.formatted_fat_copies h (fun hh => by cases hh)
  have hcapc := h.geom.cap_tc htc
  refine ⟨tc, htc, fun i hi => ?_⟩
  obtain ⟨h0, h1, hv, he⟩ := hall i hi
  refine ⟨h0, h1, fun c h2 hlt => ?_, fun c h1 hlt => ?_, he⟩
  · rw [hv c h2 (Nat.lt_of_lt_of_le hlt hcapc), if_neg (fun hh => hh.elim (fun a => by cases a.1) (by omega))]
  · rw [hv c (by omega) hlt, if_pos (Or.inr h1)]

theorem formatFat_view_fat32 (o : FormatOpts) (d0 d1 : Dev) (hpre : Formattable o d0)
    (hrun : run (formatVolume o) d0 = (.ok (), d1)) (boot : FBoot)
    (hc : formatChecked o (fmtTotal o d0) = .ok (boot, .fat32))
    (hcap : boot.bpb.sectorsPerFat * boot.bpb.bps * 8 / 32 ≤ 0x0FFFFFF0) :
    ∃ tc, boot.bpb.totalClusters = .ok tc ∧ ∀ i, i < boot.bpb.fats →
      Fat.getRaw .fat32 (fatBytes (boot.bpb.reserved * boot.bpb.bps + i * (boot.bpb.sectorsPerFat * boot.bpb.bps))
        (boot.bpb.sectorsPerFat * boot.bpb.bps) d1.img) 0 = .ok ((o.media ||| 0x0FFFFF00) % 4294967296) ∧
      Fat.getRaw .fat32 (fatBytes (boot.bpb.reserved * boot.bpb.bps + i * (boot.bpb.sectorsPerFat * boot.bpb.bps))
        (boot.bpb.sectorsPerFat * boot.bpb.bps) d1.img) 1 = .ok 0xFFFFFFFF ∧
      Fat.view .fat32 (fatBytes (boot.bpb.reserved * boot.bpb.bps + i * (boot.bpb.sectorsPerFat * boot.bpb.bps))
        (boot.bpb.sectorsPerFat * boot.bpb.bps) d1.img) 2 = .eoc ∧
      (∀ c, 3 ≤ c → c < tc + 2 → Fat.view .fat32 (fatBytes (boot.bpb.reserved * boot.bpb.bps + i * (boot.bpb.sectorsPerFat * boot.bpb.bps))
        (boot.bpb.sectorsPerFat * boot.bpb.bps) d1.img) c = .free) ∧
      (∀ c, tc + 2 ≤ c → c < boot.bpb.sectorsPerFat * boot.bpb.bps * 8 / 32 →
        Fat.view .fat32 (fatBytes (boot.bpb.reserved * boot.bpb.bps + i * (boot.bpb.sectorsPerFat * boot.bpb.bps))
        (boot.bpb.sectorsPerFat * boot.bpb.bps) d1.img) c = .eoc) ∧
      fatBytes (boot.bpb.reserved * boot.bpb.bps + i * (boot.bpb.sectorsPerFat * boot.bpb.bps))
        (boot.bpb.sectorsPerFat * boot.bpb.bps) d1.img =
        fatBytes (boot.bpb.reserved * boot.bpb.bps) (boot.bpb.sectorsPerFat * boot.bpb.bps) d1.img := by
  obtain ⟨boot', ft', h⟩ := hpre.formatted hrun
  obtain ⟨rfl, rfl⟩ := h.unique hc
  obtain ⟨tc, htc, hall⟩ := C06fat.formatted_fat_copies h (fun _ => hcap)
  have htc1 := h.geom.tc32 rfl htc
  have hcapc := h.geom.cap_tc htc
  refine ⟨tc, htc, fun i hi => ?_⟩
  obtain ⟨h0, h1, hv, he⟩ := hall i hi
  refine ⟨h0, h1, ?_, fun c h3 hlt => ?_, fun c h1 hlt => ?_, he⟩
  · rw [hv 2 (Nat.le_refl _) (Nat.lt_of_lt_of_le (by omega) hcapc), if_pos (Or.inl ⟨rfl, rfl⟩)]
  · rw [hv c (by omega) (Nat.lt_of_lt_of_le hlt hcapc), if_neg (fun hh => hh.elim (fun a => by omega) (by omega))]
  · rw [hv c (by omega) hlt, if_pos (Or.inr h1)]

/-! ## non-vacuity -/

theorem ex_formattable12 : Formattable Ex.o12 Ex.d12 := by
  refine ⟨⟨by simp [Ex.o12], ?_, Or.inr rfl, by simp [Ex.o12]⟩,
    Ex.inRange_of _ (by simp [Ex.o12]) (by simp [Ex.o12]) (by simp [Ex.o12]) rfl (by simp [Ex.o12]) ?_, ?_,
    rfl, Img.wf_empty _, by decide, by decide⟩
  · intro c h; cases h
  · intro l h; cases h
  · intro l h; cases h

set_option maxRecDepth 100000 in
/-- the hypotheses hold of a concrete FAT12 volume (343 sectors; `C06image.Ex`): the run succeeds (`Ex.run12_ok`)
    and chose FAT12 -/
example : ∃ d1 boot, run (formatVolume Ex.o12) Ex.d12 = (.ok (), d1) ∧
    formatChecked Ex.o12 (fmtTotal Ex.o12 Ex.d12) = .ok (boot, .fat12) := by
  obtain ⟨boot, ft, Lb, Lk, Lz, Lf, Lr, Lt, hf⟩ := (ex_formattable12.run Ex.run12_ok).facts
  have hft : ft = .fat12 := by
    have h1 : ((formatChecked Ex.o12 343).toOption.map (·.2)) = some .fat12 := by decide +kernel
    have h2 := hf.checked
    have h3 : fmtTotal Ex.o12 Ex.d12 = 343 := rfl
    rw [h3] at h2; rw [h2] at h1
    simpa [Except.toOption] using h1
  subst hft
  exact ⟨_, boot, Ex.run12_ok, hf.checked⟩

end FatVerif.C06fat12
