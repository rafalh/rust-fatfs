import FatVerif.Props.C09
import FatVerif.Proofs.FaultCreateDir
import FatVerif.Props.C01sim
import FatVerif.Proofs.RunFn
/-! # C09, continued: the roll-back of `write_entry` never fails on a writable directory

(A separate file from Props/C09.lean because of its imports: the simulation layer and `GeoModel`, whose predicate
`FatVerif.Geo` would shadow `FileSim.Geo` in the files that build on C09/C11.) -/
namespace FatVerif

/-! ## the residual case excluded: directories that are writable on the image (`WView`)

`…_propagates_partial` leave one case open: the fault hit a slot write of `write_entry` and the roll-back
`free_written_entries`, run afterwards, itself ended in an error. On every device on which the directory is writable in
the sense of the simulation layer (`DirSim.WView`, stated of the DISARMED device `d.disarm = { d with failAt := none }`;
the fault schedule of `d` itself is arbitrary) that cannot happen — Proofs/FaultRun, Proofs/FaultWriteEntry:

* `run_disarm`: a run during which the fault does not fire is the run on the disarmed device, so up to the failing call
  the forward-evaluation theorems of the simulation layer apply;
* `writeSlotsKeep_armed`: after `j` complete slot writes the fault fires inside slot `j`: `writeSlotsKeep` returns
  `(some (io k), stream before slot j)` on a device on which the directory is still writable (`FaultOK`);
* `freeWrittenEntries_ok`: on that device `free_written_entries` SUCCEEDS (it asks for the position, then for each of
  the `j` slots seeks to its start and writes `0xE5`), so `write_entry` returns exactly `io k`.

`DirSim.FaultOK V` is the per-kind obligation "a slot write hit by the fault leaves the directory's invariant intact":
PROVED for all three kinds — the fixed root (`faultOK_ofRoot`: size, well-formedness of the page table and geometry
survive every run), the root of FAT32 (`faultOK_ofChain`) and sub-directories (`faultOK_ofSub`): a `File::write` inside
the allocated clusters that is hit by the fault leaves the first FAT copy alone (`fileWrite_fatKept`: the status byte,
then reads, then one device write in the data region — the allocation branch is not taken, as on the disarmed device),
hence the chain of the directory is still in the FAT (Proofs/FaultDirKinds). The fault may hit ANY device call of the operation. Single-component paths; the new
entry fits into the allocated slots (no growth). -/

open DirSim in
/-- **`create_file`, plain `Propagates` on writable directories** (the outcome part of `Propagates` for this device) -/
theorem createFile_propagates_wview {d : Dev} {st : DirStream} (V : WView d.disarm st) (hd : d.fault = none)
    (hOK : FaultOK V) (env : Env) (path name : String) (hsp : Names.splitPath path = (name, none))
    (ha : d.fs.lfnAlloc = true)
    (hfit : ∀ a, DirAlias.checkForExistenceL env.upper (V.slots d.img) name (some false) 70000 = .ok (.alias a) →
      DirSlots.findFree (V.slots d.img) (Lfn.numParts (Names.encodeUtf16 name.toList).length + 1) +
        (Lfn.numParts (Names.encodeUtf16 name.toList).length + 1) ≤ V.N) (fuel : Nat) :
    ∀ r d', run (createFile env (fuel + 1) st path) d = (r, d') → FaultOutcome (resErr r) d' :=
  open FileSim DirAlias in by
  intro r d' hr
  unfold FatVerif.createFile at hr
  rw [run_bind_ok (run_getFs d), hsp] at hr
  simp only at hr
  cases hdot : (name = "." || name = "..") with
  | true =>
    rw [if_pos hdot] at hr
    exact ioSafe_propagates (IoSafe.fail _) d hd _ _ hr
  | false =>
    rw [if_neg (by rw [hdot]; exact Bool.false_ne_true)] at hr
    refine faultOutcome_bind' (ioSafe_propagates (checkForExistence_safe _ _ _ _).io) hd hr (fun rr d1 h1 hf1 r2 d2' hr2 => ?_)
    obtain ⟨x, hc, rfl, hs1⟩ := (V.toDirView.checkForExistence_sim ha env name (some false) d.disarm
      (SameVol.refl _)).unfired hd h1 hf1
    have hinv1 : V.Inv d1.disarm := V.io.vol _ _ V.here hs1 (run_clock _ d _ d1 h1)
    cases x with
    | entry le => exact ioSafe_propagates (DirEntry.toFile_safe _ _).io d1 hf1 _ _ hr2
    | alias a =>
      simp only [liftEOA] at hr2
      obtain ⟨hcan, hl11, _⟩ := C16dir.dir_alias_canon env.upper _ name (some false) 70000 a hc
      rw [run_bind_ok (run_createSfnEntry a 0 none d1)] at hr2
      refine faultOutcome_bind_at (fun r3 d3 h => ?_) hr2 (fun e d3 _ hf3 r4 d4 hr4 =>
        ioSafe_propagates (DirEntry.toFile_safe _ _).io d3 hf3 _ _ hr4)
      refine V.writeEntry_fo hf1 hinv1 hOK name _
        (sfnAt_wf d1.fs d1.clock a 0 none hl11 (canon_lt hcan) (by omega)) false hdot ?_ h
      rw [V.slots_sameVol hs1]
      exact hfit a hc

open DirSim in
/-- **`rename` (both paths single components), plain `Propagates`**: source readable (`V1`), destination writable
    (`V2`); a directory to be moved comes with the climb from the destination to the root (`Climbs`) -/
theorem rename_propagates_wview {d : Dev} {st1 st2 : DirStream} (V1 : DirView d.disarm st1) (V2 : WView d.disarm st2)
    (hd : d.fault = none) (hOK : FaultOK V2) (env : Env) (srcPath dstPath srcName dstName : String)
    (hs1 : Names.splitPath srcPath = (srcName, none)) (hs2 : Names.splitPath dstPath = (dstName, none))
    (ha : d.fs.lfnAlloc = true)
    (hclimb : ∀ e, V1.lookup env srcName none = .ok e → e.isDir = true →
      ∃ n, Climbs d.disarm env (e.firstCluster d.fs) st2 0 n ∧ n < d.fs.totalClusters + 3)
    (hfit : ∀ a, DirAlias.checkForExistenceL env.upper (V2.slots d.img) dstName none 70000 = .ok (.alias a) →
      DirSlots.findFree (V2.slots d.img) (Lfn.numParts (Names.encodeUtf16 dstName.toList).length + 1) +
        (Lfn.numParts (Names.encodeUtf16 dstName.toList).length + 1) ≤ V2.N) (fuel : Nat) :
    ∀ r d', run (rename env (fuel + 1) st1 srcPath st2 dstPath) d = (r, d') → FaultOutcome (resErr r) d' := by
  intro r d' hr
  unfold rename at hr
  refine faultOutcome_bind' (ioSafe_propagates IoSafe.progGetFs) hd hr (fun fs d0 h0 _ r1 d1 hr1 => ?_)
  have hd0 : d0 = d := by
    have := FileSim.run_getFs d
    rw [this] at h0
    exact (congrArg Prod.snd h0).symm
  rw [hd0, hs1] at hr1
  simp only [hs2] at hr1
  exact WView.renameInternal_fo V1 V2 hd hOK env srcName dstName ha hclimb hfit hr1

open DirSim in
/-- the fixed root directory: `create_file(name)` propagates a storage error on EVERY device (any fault schedule) whose
    root region is readable and whose image is well formed -/
theorem createFile_propagates_root {d : Dev} {N : Nat} (h : RootReadable d.disarm N) (hwf : d.img.WF)
    (hB : 0x42 ≤ (rootSliceOf d.fs).beginOff) (hd : d.fault = none) (env : Env) (path name : String)
    (hsp : Names.splitPath path = (name, none)) (ha : d.fs.lfnAlloc = true)
    (hfit : ∀ a, DirAlias.checkForExistenceL env.upper (rootDirSlots d.fs d.img) name (some false) 70000 = .ok (.alias a) →
      DirSlots.findFree (rootDirSlots d.fs d.img) (Lfn.numParts (Names.encodeUtf16 name.toList).length + 1) +
        (Lfn.numParts (Names.encodeUtf16 name.toList).length + 1) ≤ N) (fuel : Nat) :
    ∀ r d', run (createFile env (fuel + 1) (rootAt d.fs 0) path) d = (r, d') → FaultOutcome (resErr r) d' := by
  have hsl : srcSlots d.img (fun o => (rootSliceOf d.fs).beginOff + o) N = rootDirSlots d.fs d.img :=
    srcSlots_root (d := d.disarm) h
  rw [← hsl] at hfit
  exact createFile_propagates_wview
    (WView.ofRoot (rootSliceOf d.fs) N h.slots rfl rfl hB d.disarm h.noFault h.inside hwf h.fuel) hd
    (faultOK_ofRoot _ _ _ _ _ _ _ _ _ _ _) env path name hsp ha hfit fuel

/-! ### non-vacuity: `create_file("New file.txt")` on the root of `Ex4` with the fault scheduled at ANY call `k` -/

open DirSim in
/-- the hypotheses of `createFile_propagates_root` hold of `Ex4.dev` armed with a fault at call `k`, for every `k` -/
example (k : Nat) : ∀ r d', run (createFile DirSim.Ex3.env 1 (rootAt Ex4.dev.fs 0) "New file.txt")
      { Ex4.dev with failAt := some k } = (r, d') → FaultOutcome (resErr r) d' :=
  createFile_propagates_root (d := { Ex4.dev with failAt := some k }) (N := 16)
    ⟨rfl, Ex4.readable.inside, Ex4.readable.slots, Ex4.readable.fuel⟩
    Ex4.wf (show 0x42 ≤ (rootSliceOf Ex4.dev.fs).beginOff by decide) rfl Ex3.env "New file.txt" "New file.txt" (by decide +kernel) rfl
    (fun a _ => by
      have : DirSlots.findFree (rootDirSlots Ex4.dev.fs Ex4.dev.img)
          (Lfn.numParts (Names.encodeUtf16 "New file.txt".toList).length + 1) +
          (Lfn.numParts (Names.encodeUtf16 "New file.txt".toList).length + 1) ≤ 16 := by
        rw [Ex4.root_slots]; decide +kernel
      exact this) 0

/-- a byte of a list that is zeros, `mid`, zeros -/
theorem getD_padded (a b : Nat) (mid : List Nat) (k : Nat) :
    (List.replicate a 0 ++ mid ++ List.replicate b 0).getD k 0 =
      if a ≤ k ∧ k < a + mid.length then mid.getD (k - a) 0 else 0 := by
  rw [List.getD_eq_getElem?_getD, List.getD_eq_getElem?_getD]
  by_cases h1 : k < a
  · rw [if_neg (by omega), List.append_assoc, List.getElem?_append_left (by simpa using h1), List.getElem?_replicate,
      if_pos h1]; rfl
  · by_cases h2 : k < a + mid.length
    · rw [if_pos ⟨by omega, h2⟩, List.getElem?_append_left (by simp; omega),
        List.getElem?_append_right (by simp; omega), List.length_replicate]
    · rw [if_neg (by omega), List.getElem?_append_right (by simp; omega), List.getElem?_replicate]; split <;> rfl

open DirSim in
/-- a device whose image is one page given by its byte list agrees with the state that keeps those bytes as a function -/
theorem agree_ofBytes (bytes : List Nat) (size : Nat) (hl : bytes.length = 4096) (d : Dev)
    (hd : d.img = Img.ofBytes bytes size) : SDev.Agree ⟨fun k => bytes.getD k 0 % 256, d.strip⟩ d := by
  refine ⟨hd ▸ Img.ofBytes_wf _ _ hl, funext fun k => ?_, rfl⟩
  rw [hd]
  by_cases hk : k < 4096
  · exact Img.ofBytes_getByte_mod _ _ _ hk
  · show _ = bytes.getD k 0 % 256
    rw [List.getD_eq_getElem?_getD, List.getElem?_eq_none (by omega)]
    unfold Img.getByte Img.ofBytes pageSize
    have hne : ¬ (0 = k / 4096) := fun h => hk (by have := Nat.div_eq_zero_iff.1 h.symm; omega)
    simp [hne]

open DirSim in
/-- `Ex4.dev`, whatever its fault schedule, by its bytes: the three slots at 1024, zeros elsewhere (the function looks
    at the 96 bytes only; through the 4096-byte list every byte read would walk to its offset) -/
theorem agreeEx4 (fa : Option Nat) :
    SDev.Agree ⟨fun k => if 1024 ≤ k ∧ k < 1024 + 96 then Ex.slots.flatten.getD (k - 1024) 0 % 256 else 0,
      Dev.strip { Ex4.dev with failAt := fa }⟩ { Ex4.dev with failAt := fa } := by
  have h := agree_ofBytes Ex4.bytes 8192 (by decide +kernel) { Ex4.dev with failAt := fa } rfl
  have e : (fun k => Ex4.bytes.getD k 0 % 256) =
      fun k => if 1024 ≤ k ∧ k < 1024 + 96 then Ex.slots.flatten.getD (k - 1024) 0 % 256 else 0 := by
    funext k
    rw [Ex4.bytes, getD_padded, show Ex.slots.flatten.length = 96 by decide]
    split <;> rfl
  rw [e] at h
  exact h

open DirSim in
/-- … and the run evaluated for `k = 340` (the fault hits a later `write` of the SHORT slot, after the long-name slot
    was written): the result is `io 340`; the long-name slot (slot 3) carries the deleted mark `0xE5` — the roll-back ran
    and succeeded. (In the MODEL the partially written short slot, slot 4, keeps its new first bytes: `writeSlotsKeep`
    hands the roll-back the stream as it was BEFORE the failing slot, whereas in Rust the stream has advanced into that
    slot and `free_written_entries` marks it too.) Evaluated through `runS` on the bytes of the device. -/
example :
    let d' := (run (createFile Ex3.env 1 (rootAt Ex4.dev.fs 0) "New file.txt") { Ex4.dev with failAt := some 340 })
    resErr d'.1 = some (.io 340) ∧ ((rootDirSlots d'.2.fs d'.2.img).getD 3 []).getD 0 0 = 0xE5 ∧
      ((rootDirSlots d'.2.fs d'.2.img).getD 4 []).take 2 = [78, 69] := by
  obtain ⟨d1, e, ha⟩ := run_eq_runS (createFile Ex3.env 1 (rootAt Ex4.dev.fs 0) "New file.txt") (agreeEx4 (some 340))
  rw [e]
  dsimp only
  unfold rootDirSlots rootSlots Img.read
  rw [ha.get, ha.fs]
  decide +kernel

/-! ## `create_dir`

`create_dir` writes three entries with `write_entry` (one in the parent, `.` and `..` in the new directory) and gives the
new cluster back when the first cannot be written. On writable directories the roll-back of `write_entry` never fails
(for `.` and `..` nothing has to be rolled back: one slot; only `seek(Current(0))` runs, which does not touch the device
for a cluster-chain handle), so of `ApiX = RollbackErr ∨ EntryRollbackX` only `RollbackErr` remains: the error of
`free_cluster_chain(cluster)` run after the fault. For the FIXED ROOT as parent that case is excluded too
(`createDir_propagates_root_plain`): EVERY run of `write_entry` on the root — also one hit by the fault — appends only
records inside the root region or on the status byte (`writeEntry_root_gs`, the descent of WriteEntryGS for the record
class `SliceOrStatus (rootSliceOf fs0) fs0`), so the FAT entry of the new cluster still ends a chain and `free_cluster_chain` succeeds
(`run_freeClusterChain_ok`, no hypothesis on the FS-info cache). For cluster-chain parents it is excluded by a different
argument at the end of this file (`createDir_propagates_wview_plain`, `createDir_propagates_chain_plain`). -/

open DirSim FileSim Fat in
/-- **`create_dir`, `Propagates` up to `RollbackErr` only** on writable directories (hypotheses of `WView.createDir_sim`,
    stated of the device without its fault schedule, plus `FaultOK`) -/
theorem createDir_propagates_wview {d : Dev} {st : DirStream} (V : WView d.disarm st) (hd : d.fault = none)
    (hOK : FaultOK V) (env : Env) (path name : String)
    (hsp : Names.splitPath path = (name, none)) (hdot : (name = "." || name = "..") = false)
    (hval : Names.validateLongName name = .ok ()) (hla : d.fs.lfnAlloc = true)
    (hgeo : FileSim.Geo d.fs d.img.size) (hinfo : InfoOk d.fs d.img) (hacc : d.fs.accDate = false)
    (hcs32 : d.fs.clusterSize % 32 = 0) (hcs64 : 64 ≤ d.fs.clusterSize) (hu32 : d.fs.clusterSize < 4294967296)
    (hfuelN : d.fs.clusterSize / 32 < dirFuel d.fs) (a : List Nat)
    (hchk : DirAlias.checkForExistenceL env.upper (V.slots d.img) name (some true) 70000 = .ok (.alias a))
    (c : Nat) (hfind : allocFindV (tabView d.fs d.img) d.fs.fsInfo.next d.fs.totalClusters = some c)
    (hfit : DirSlots.findFree (V.slots d.img) (Lfn.numParts (Names.encodeUtf16 name.toList).length + 1) +
      (Lfn.numParts (Names.encodeUtf16 name.toList).length + 1) ≤ V.N)
    (hkeepA : ∀ d1 d2, SameVol d.disarm d1 → d1.clock = d.clock → AllocStep d1 d2 c → V.Inv d2)
    (hslots : ∀ i, i < V.N →
      (fatSliceOf d.fs).beginOff + (fatSliceOf d.fs).mirrors * (fatSliceOf d.fs).size ≤ V.src (32 * i) ∧
      V.src (32 * i) + 32 ≤ d.img.size ∧
      (V.src (32 * i) + 32 ≤ clusterOff d.fs c ∨ clusterOff d.fs c + d.fs.clusterSize ≤ V.src (32 * i)))
    (hextra : ∀ q, V.Extra q →
      (fatSliceOf d.fs).beginOff + (fatSliceOf d.fs).mirrors * (fatSliceOf d.fs).size ≤ q ∧
      ¬ (clusterOff d.fs c ≤ q ∧ q < clusterOff d.fs c + d.fs.clusterSize))
    (fuel : Nat) :
    ∀ r d', run (createDir env (fuel + 1) st path) d = (r, d') → FaultOutcomeX RollbackErr (resErr r) d' :=
  fun _ _ hr => V.createDir_foX RollbackErr hd hOK
    ⟨hsp, hdot, hval, hla, hgeo, hinfo, hacc, hcs32, hcs64, hu32, hfuelN, hchk, hfind⟩ hfit hkeepA ⟨hslots, hextra⟩
    (fun _ d3 d4 _ _ _ _ _ _ _ _ _ _ hfa hff hfree _ _ _ _ => ⟨c, d3, d4, hfa, hff, hfree⟩) fuel hr

open DirSim FileSim Fat in
/-- **`create_dir` in the fixed root: plain `Propagates`** on every device (any fault schedule) whose root region is
    readable — neither roll-back can fail -/
theorem createDir_propagates_root_plain {d : Dev} {N : Nat} (h : RootReadable d.disarm N) (hwf : d.img.WF)
    (hB : 0x42 ≤ (rootSliceOf d.fs).beginOff) (hd : d.fault = none) (hgeo : FileSim.Geo d.fs d.img.size)
    (hinfo : InfoOk d.fs d.img)
    (hout : (fatSliceOf d.fs).beginOff + (fatSliceOf d.fs).mirrors * (fatSliceOf d.fs).size ≤ (rootSliceOf d.fs).beginOff)
    (hend : (rootSliceOf d.fs).beginOff + (rootSliceOf d.fs).size ≤ d.fs.firstDataSector * d.fs.bps)
    (ha : d.fs.lfnAlloc = true) (hacc : d.fs.accDate = false) (hcs32 : d.fs.clusterSize % 32 = 0)
    (hcs64 : 64 ≤ d.fs.clusterSize) (hu32 : d.fs.clusterSize < 4294967296)
    (hfuelN : d.fs.clusterSize / 32 < dirFuel d.fs) (env : Env) (path name : String)
    (hsp : Names.splitPath path = (name, none)) (hdot : (name = "." || name = "..") = false)
    (hval : Names.validateLongName name = .ok ()) (a : List Nat)
    (hchk : DirAlias.checkForExistenceL env.upper (rootDirSlots d.fs d.img) name (some true) 70000 = .ok (.alias a))
    (c : Nat) (hfind : allocFindV (tabView d.fs d.img) d.fs.fsInfo.next d.fs.totalClusters = some c)
    (hfit : DirSlots.findFree (rootDirSlots d.fs d.img) (Lfn.numParts (Names.encodeUtf16 name.toList).length + 1) +
      (Lfn.numParts (Names.encodeUtf16 name.toList).length + 1) ≤ N) (fuel : Nat) :
    ∀ r d', run (createDir env (fuel + 1) (rootAt d.fs 0) path) d = (r, d') → FaultOutcome (resErr r) d' := by
  intro r d' hr
  have hsl : srcSlots d.img (fun o => (rootSliceOf d.fs).beginOff + o) N = rootDirSlots d.fs d.img :=
    srcSlots_root (d := d.disarm) h
  have h0 : RootInv d.fs (rootSliceOf d.fs) N d.disarm := ⟨h.noFault, h.inside, hwf, FsGeomEq.refl _, h.fuel⟩
  have hsz := h.slots
  have hin : (rootSliceOf d.fs).beginOff + (rootSliceOf d.fs).size ≤ d.img.size := h.inside
  obtain ⟨hc2, hct, _⟩ := allocFindV_some _ _ _ _ hinfo.hint hfind
  refine faultOutcome_of_X ((WView.ofRoot (rootSliceOf d.fs) N h.slots rfl rfl hB d.disarm h.noFault h.inside hwf
      h.fuel).createDir_foX (fun _ _ => False) hd
    (faultOK_ofRoot _ _ _ _ _ _ _ _ _ _ _)
    ⟨hsp, hdot, hval, ha, hgeo, hinfo, hacc, hcs32, hcs64, hu32, hfuelN, by rw [← hsl] at hchk; exact hchk, hfind⟩
    (by rw [← hsl] at hfit; exact hfit)
    (fun d1 d2 hv _ hal => h0.of_alloc hv hal)
    ⟨fun i hi => by
      have hi' : i < N := hi
      have hs : (rootSliceOf d.fs).size = 32 * N := hsz
      have := FileSim.dataStart_le_clusterOff d.fs c
      exact ⟨by show _ ≤ _ + 32 * i; omega, by show _ + 32 * i + 32 ≤ _; omega,
        Or.inl (by show _ + 32 * i + 32 ≤ _; omega)⟩,
    fun q hq => hq.elim⟩
    (fun d2 d3 d4 raw rw f e _ hg2 hsz2 hwf2 htv2 hw hfa3 _ hfree _ _ _ _ =>
      root_free_after_writeEntry d hin hgeo hout c hct d2 d3 d4 name raw rw e hg2 hsz2 hwf2 htv2 hw hfa3 hfree)
    fuel hr)

open DirSim FileSim Fat in
/-- non-vacuity: for EVERY `k`, `create_dir("New dir")` on the root of `Ex4` armed with a fault at call `k` -/
theorem createDir_root_ex4 (k : Nat) : ∀ r d', run (createDir Ex3.env 1 (rootAt Ex4.dev.fs 0) "New dir")
      { Ex4.dev with failAt := some k } = (r, d') → FaultOutcome (resErr r) d' :=
  createDir_propagates_root_plain (d := { Ex4.dev with failAt := some k }) (N := 16)
    ⟨rfl, Ex4.readable.inside, Ex4.readable.slots, Ex4.readable.fuel⟩ Ex4.wf
    (show 0x42 ≤ (rootSliceOf Ex4.dev.fs).beginOff by decide) rfl Ex4.geo
    ⟨fun n hn => (by cases hn), fun n hn => (by cases hn)⟩
    (show (fatSliceOf Ex4.dev.fs).beginOff + (fatSliceOf Ex4.dev.fs).mirrors * (fatSliceOf Ex4.dev.fs).size ≤
      (rootSliceOf Ex4.dev.fs).beginOff by decide)
    (show (rootSliceOf Ex4.dev.fs).beginOff + (rootSliceOf Ex4.dev.fs).size ≤
      Ex4.dev.fs.firstDataSector * Ex4.dev.fs.bps by decide)
    rfl rfl (show Ex4.dev.fs.clusterSize % 32 = 0 by decide) (show 64 ≤ Ex4.dev.fs.clusterSize by decide)
    (show Ex4.dev.fs.clusterSize < 4294967296 by decide) (show Ex4.dev.fs.clusterSize / 32 < dirFuel Ex4.dev.fs by decide)
    Ex3.env "New dir" "New dir" (by decide +kernel) (by decide) (by decide +kernel)
    [78, 69, 87, 68, 73, 82, 126, 49, 32, 32, 32]
    (show DirAlias.checkForExistenceL Ex3.env.upper (rootDirSlots Ex4.dev.fs Ex4.dev.img) "New dir" (some true) 70000 = _
      by rw [Ex4.root_slots]; decide +kernel) 2
    (show allocFindV (tabView Ex4.dev.fs Ex4.dev.img) Ex4.dev.fs.fsInfo.next Ex4.dev.fs.totalClusters = some 2
      by rw [Ex4.fat]; decide +kernel)
    (show DirSlots.findFree (rootDirSlots Ex4.dev.fs Ex4.dev.img)
      (Lfn.numParts (Names.encodeUtf16 "New dir".toList).length + 1) +
      (Lfn.numParts (Names.encodeUtf16 "New dir".toList).length + 1) ≤ 16 by rw [Ex4.root_slots]; decide +kernel) 0

open DirSim FileSim Fat in
example (k : Nat) : ∀ r d', run (createDir Ex3.env 1 (rootAt Ex4.dev.fs 0) "New dir") { Ex4.dev with failAt := some k }
      = (r, d') → FaultOutcome (resErr r) d' :=
  createDir_root_ex4 k

open DirSim FileSim Fat in
/-- … and so up to `RollbackErr` (`createDir_propagates_root` has the same hypotheses) -/
example (k : Nat) : ∀ r d', run (createDir Ex3.env 1 (rootAt Ex4.dev.fs 0) "New dir") { Ex4.dev with failAt := some k }
      = (r, d') → FaultOutcomeX RollbackErr (resErr r) d' :=
  fun r d' hr => (createDir_root_ex4 k r d' hr).toX

open DirSim FileSim Fat in
/-- the fixed root as parent, a fortiori up to `RollbackErr` -/
theorem createDir_propagates_root {d : Dev} {N : Nat} (h : RootReadable d.disarm N) (hwf : d.img.WF)
    (hB : 0x42 ≤ (rootSliceOf d.fs).beginOff) (hd : d.fault = none) (hgeo : FileSim.Geo d.fs d.img.size)
    (hinfo : InfoOk d.fs d.img)
    (hout : (fatSliceOf d.fs).beginOff + (fatSliceOf d.fs).mirrors * (fatSliceOf d.fs).size ≤ (rootSliceOf d.fs).beginOff)
    (hend : (rootSliceOf d.fs).beginOff + (rootSliceOf d.fs).size ≤ d.fs.firstDataSector * d.fs.bps)
    (ha : d.fs.lfnAlloc = true) (hacc : d.fs.accDate = false) (hcs32 : d.fs.clusterSize % 32 = 0)
    (hcs64 : 64 ≤ d.fs.clusterSize) (hu32 : d.fs.clusterSize < 4294967296)
    (hfuelN : d.fs.clusterSize / 32 < dirFuel d.fs) (env : Env) (path name : String)
    (hsp : Names.splitPath path = (name, none)) (hdot : (name = "." || name = "..") = false)
    (hval : Names.validateLongName name = .ok ()) (a : List Nat)
    (hchk : DirAlias.checkForExistenceL env.upper (rootDirSlots d.fs d.img) name (some true) 70000 = .ok (.alias a))
    (c : Nat) (hfind : allocFindV (tabView d.fs d.img) d.fs.fsInfo.next d.fs.totalClusters = some c)
    (hfit : DirSlots.findFree (rootDirSlots d.fs d.img) (Lfn.numParts (Names.encodeUtf16 name.toList).length + 1) +
      (Lfn.numParts (Names.encodeUtf16 name.toList).length + 1) ≤ N) (fuel : Nat) :
    ∀ r d', run (createDir env (fuel + 1) (rootAt d.fs 0) path) d = (r, d') → FaultOutcomeX RollbackErr (resErr r) d' :=
  fun r d' hr => (createDir_propagates_root_plain h hwf hB hd hgeo hinfo hout hend ha hacc hcs32 hcs64 hu32 hfuelN env path
    name hsp hdot hval a hchk c hfind hfit fuel r d' hr).toX

/-- an outcome up to `RollbackErr` is a plain `FaultOutcome` (at this device) under the hypothesis that freeing the new
    cluster cannot fail once the fault has fired -/
theorem faultOutcome_of_rollbackErr {e? : Option Err} {d' : Dev} (h : FaultOutcomeX RollbackErr e? d')
    (hfree : ∀ (c : Nat) (d1 d2 : Dev) (e : Err), d1.failAt = none → d1.fault ≠ none →
      run (freeClusterChain c) d1 ≠ (.error e, d2)) : FaultOutcome e? d' := by
  rcases h with h | ⟨h1, f, h2, h3⟩
  · exact Or.inl h
  · refine Or.inr ⟨h1, f, h2, fun hf => ?_⟩
    rcases h3 hf with h4 | ⟨e, _, c, d1, d2, h5, h6, h7⟩
    · exact h4
    · exact absurd h7 (hfree c d1 d2 e h5 (by rw [h6]; simp))

open DirSim in
/-- **`rename` inside the fixed root: plain `Propagates`** on every device (any fault schedule) whose root region is
    readable; `hfc`: a directory to be renamed has a first cluster (otherwise `rename` fails with `InvalidInput` in the
    ancestor walk — not covered here) -/
theorem rename_propagates_root {d : Dev} {N : Nat} (h : RootReadable d.disarm N) (hwf : d.img.WF)
    (hB : 0x42 ≤ (rootSliceOf d.fs).beginOff) (hd : d.fault = none) (env : Env)
    (srcPath dstPath srcName dstName : String)
    (hs1 : Names.splitPath srcPath = (srcName, none)) (hs2 : Names.splitPath dstPath = (dstName, none))
    (ha : d.fs.lfnAlloc = true)
    (hfc : ∀ e, (DirView.ofRoot h).lookup env srcName none = .ok e → e.isDir = true → e.firstCluster d.fs ≠ none)
    (hfit : ∀ a, DirAlias.checkForExistenceL env.upper (rootDirSlots d.fs d.img) dstName none 70000 = .ok (.alias a) →
      DirSlots.findFree (rootDirSlots d.fs d.img) (Lfn.numParts (Names.encodeUtf16 dstName.toList).length + 1) +
        (Lfn.numParts (Names.encodeUtf16 dstName.toList).length + 1) ≤ N) (fuel : Nat) :
    ∀ r d', run (rename env (fuel + 1) (rootAt d.fs 0) srcPath (rootAt d.fs 0) dstPath) d = (r, d') →
      FaultOutcome (resErr r) d' := by
  have hsl : srcSlots d.img (fun o => (rootSliceOf d.fs).beginOff + o) N = rootDirSlots d.fs d.img :=
    srcSlots_root (d := d.disarm) h
  rw [← hsl] at hfit
  exact rename_propagates_wview (DirView.ofRoot h)
    (WView.ofRoot (rootSliceOf d.fs) N h.slots rfl rfl hB d.disarm h.noFault h.inside hwf h.fuel) hd
    (faultOK_ofRoot _ _ _ _ _ _ _ _ _ _ _) env srcPath dstPath srcName dstName hs1 hs2 ha
    (fun e hl hdir => ⟨0, Climbs.top (DirView.ofRoot h) (by
        have := hfc e hl hdir
        show ((rootAt d.disarm.fs 0).firstCluster == e.firstCluster d.fs) = false
        cases hc : e.firstCluster d.fs with
        | none => exact absurd hc this
        | some c => rfl) rfl, by omega⟩) hfit fuel

open DirSim in
/-- non-vacuity: for EVERY `k`, `rename("hello.txt", "Moved.txt")` on the root of `Ex4` armed with a fault at call `k` -/
example (k : Nat) : ∀ r d', run (rename Ex3.env 1 (rootAt Ex4.dev.fs 0) "hello.txt" (rootAt Ex4.dev.fs 0) "Moved.txt")
      { Ex4.dev with failAt := some k } = (r, d') → FaultOutcome (resErr r) d' :=
  rename_propagates_root (d := { Ex4.dev with failAt := some k }) (N := 16)
    ⟨rfl, Ex4.readable.inside, Ex4.readable.slots, Ex4.readable.fuel⟩ Ex4.wf
    (show 0x42 ≤ (rootSliceOf Ex4.dev.fs).beginOff by decide) rfl Ex3.env "hello.txt" "Moved.txt" "hello.txt" "Moved.txt"
    (by decide +kernel) (by decide +kernel) rfl
    (fun e hl hdir => by
      have h1 : (DirView.ofRoot Ex4.readable).lookup Ex3.env "hello.txt" none =
          .ok (toDirEntryS (DirView.ofRoot Ex4.readable).src Ex4.hello) := by
        unfold DirView.lookup DirView.lfnEntries
        rw [DirView.slots_ofRoot, Ex4.root_slots]
        decide +kernel
      have hl' : (DirView.ofRoot Ex4.readable).lookup Ex3.env "hello.txt" none = .ok e := hl
      rw [h1] at hl'
      injection hl' with h2
      subst h2
      have : (toDirEntryS (DirView.ofRoot Ex4.readable).src Ex4.hello).isDir = false := by decide +kernel
      rw [this] at hdir; cases hdir)
    (fun a _ => by
      have : DirSlots.findFree (rootDirSlots Ex4.dev.fs Ex4.dev.img)
          (Lfn.numParts (Names.encodeUtf16 "Moved.txt".toList).length + 1) +
          (Lfn.numParts (Names.encodeUtf16 "Moved.txt".toList).length + 1) ≤ 16 := by
        rw [Ex4.root_slots]; decide +kernel
      exact this) 0

/-! ## cluster-chain directories -/

open DirSim FileSim in
/-- **`create_file` in a cluster-chain directory without an entry (the root of FAT32): plain `Propagates`** on every
    device (any fault schedule) on which the directory is readable; the entry fits into the allocated clusters -/
theorem createFile_propagates_chain {d : Dev} {c0 : Nat} {chain : List Nat} (h : ChainReadable d.disarm c0 none chain)
    (hwf : d.img.WF) (hd : d.fault = none) (env : Env) (path name : String)
    (hsp : Names.splitPath path = (name, none)) (ha : d.fs.lfnAlloc = true)
    (hfit : ∀ a, DirAlias.checkForExistenceL env.upper (chainSlots d.fs d.img chain) name (some false) 70000 = .ok (.alias a) →
      DirSlots.findFree (chainSlots d.fs d.img chain) (Lfn.numParts (Names.encodeUtf16 name.toList).length + 1) +
        (Lfn.numParts (Names.encodeUtf16 name.toList).length + 1) ≤ chain.length * (d.fs.clusterSize / 32)) (fuel : Nat) :
    ∀ r d', run (createFile env (fuel + 1) (.file (FileH.new (some c0) none)) path) d = (r, d') →
      FaultOutcome (resErr r) d' := by
  have hsl : srcSlots d.img (chainSrc d.fs chain) (chain.length * (d.fs.clusterSize / 32)) = chainSlots d.fs d.img chain :=
    h.slots_eq
  rw [← hsl] at hfit
  exact createFile_propagates_wview (WView.ofChain d.disarm c0 chain h.dir hwf h.fuel) hd
    (faultOK_ofChain _ _ _ _ _ _) env path name hsp ha hfit fuel

open DirSim in
/-- non-vacuity: for EVERY `k`, `create_file("N")` in the two-cluster directory of `Ex5` armed with a fault at call `k` -/
example (k : Nat) : ∀ r d', run (createFile Ex3.env 1 (.file (FileH.new (some 2) none)) "N")
      { Ex5.dev with failAt := some k } = (r, d') → FaultOutcome (resErr r) d' :=
  createFile_propagates_chain (d := { Ex5.dev with failAt := some k }) (c0 := 2) (chain := [2, 3])
    ⟨Ex5.readable.dir, Ex5.readable.fuel⟩ Ex5.wf rfl Ex3.env "N" "N" (by decide +kernel) rfl
    (fun a _ => by
      have : DirSlots.findFree (chainSlots Ex5.dev.fs Ex5.dev.img [2, 3])
          (Lfn.numParts (Names.encodeUtf16 "N".toList).length + 1) +
          (Lfn.numParts (Names.encodeUtf16 "N".toList).length + 1) ≤ [2, 3].length * (Ex5.dev.fs.clusterSize / 32) := by
        rw [Ex5.chain_slots]; decide +kernel
      exact this) 0

open DirSim in
/-- non-vacuity for a SUB-DIRECTORY: for EVERY `k`, `create_file("H")` in the directory `A` of `Ex8` armed with a fault at
    call `k` (`Ex8.VA` with `faultOK_ofSub`) -/
example (k : Nat) : ∀ r d', run (createFile Ex3.env 1 (.file (FileH.new (some 2) (some Ex8.edA))) "H")
      { Ex8.dev with failAt := some k } = (r, d') → FaultOutcome (resErr r) d' :=
  createFile_propagates_wview (d := { Ex8.dev with failAt := some k }) Ex8.VA rfl
    (faultOK_ofSub _ _ _ _ _ _ _ _ _ _ _) Ex3.env "H" "H" (by decide +kernel) rfl
    (fun a _ => by
      have : DirSlots.findFree (Ex8.VA.slots Ex8.dev.img) (Lfn.numParts (Names.encodeUtf16 "H".toList).length + 1) +
          (Lfn.numParts (Names.encodeUtf16 "H".toList).length + 1) ≤ Ex8.VA.N := by rw [Ex8.slotsA]; decide +kernel
      exact this) 0

/-! ## `create_dir` with a cluster-chain parent: plain `Propagates`

The remaining tolerated outcome of `createDir_propagates_wview` — an error of the roll-back `free_cluster_chain(cluster)`
after a failed `write_entry` in the parent — cannot happen either when the parent is a cluster-chain directory
(Proofs/FaultWriteEntry): a `write_entry` hit by the fault outside destructors ends on a device on which the directory is
still writable AND whose decoded FAT is the one before the call (`WView.writeEntry_keepsTv`: `find_free_entries` and the
position query are read-only on the clean handle, a faulted slot write keeps the first FAT copy, the roll-back writes
into the slots, the destructor of the clone at most rewrites the directory's own entry), so the freshly allocated
cluster is still an end-of-chain there and freeing it succeeds. `DirSim.TvKeep V fs` is the per-kind obligation, PROVED
for the root of FAT32 (`tvKeep_ofChain`) and for sub-directories (`tvKeep_ofSub`). -/

open DirSim FileSim Fat in
/-- **`create_dir`, plain `Propagates` on writable directories whose writes keep the FAT** -/
theorem createDir_propagates_wview_plain {d : Dev} {st : DirStream} (V : WView d.disarm st) (hd : d.fault = none)
    (hOK : FaultOK V) (K : TvKeep V d.fs) (env : Env) (path name : String)
    (hsp : Names.splitPath path = (name, none)) (hdot : (name = "." || name = "..") = false)
    (hval : Names.validateLongName name = .ok ()) (hla : d.fs.lfnAlloc = true)
    (hgeo : FileSim.Geo d.fs d.img.size) (hinfo : InfoOk d.fs d.img) (hacc : d.fs.accDate = false)
    (hcs32 : d.fs.clusterSize % 32 = 0) (hcs64 : 64 ≤ d.fs.clusterSize) (hu32 : d.fs.clusterSize < 4294967296)
    (hfuelN : d.fs.clusterSize / 32 < dirFuel d.fs) (a : List Nat)
    (hchk : DirAlias.checkForExistenceL env.upper (V.slots d.img) name (some true) 70000 = .ok (.alias a))
    (c : Nat) (hfind : allocFindV (tabView d.fs d.img) d.fs.fsInfo.next d.fs.totalClusters = some c)
    (hfit : DirSlots.findFree (V.slots d.img) (Lfn.numParts (Names.encodeUtf16 name.toList).length + 1) +
      (Lfn.numParts (Names.encodeUtf16 name.toList).length + 1) ≤ V.N)
    (hkeepA : ∀ d1 d2, SameVol d.disarm d1 → d1.clock = d.clock → AllocStep d1 d2 c → V.Inv d2)
    (hslots : ∀ i, i < V.N →
      (fatSliceOf d.fs).beginOff + (fatSliceOf d.fs).mirrors * (fatSliceOf d.fs).size ≤ V.src (32 * i) ∧
      V.src (32 * i) + 32 ≤ d.img.size ∧
      (V.src (32 * i) + 32 ≤ clusterOff d.fs c ∨ clusterOff d.fs c + d.fs.clusterSize ≤ V.src (32 * i)))
    (hextra : ∀ q, V.Extra q →
      (fatSliceOf d.fs).beginOff + (fatSliceOf d.fs).mirrors * (fatSliceOf d.fs).size ≤ q ∧
      ¬ (clusterOff d.fs c ≤ q ∧ q < clusterOff d.fs c + d.fs.clusterSize))
    (fuel : Nat) :
    ∀ r d', run (createDir env (fuel + 1) st path) d = (r, d') → FaultOutcome (resErr r) d' :=
  by
  intro r d' hr
  obtain ⟨hc2, hct, _⟩ := allocFindV_some _ _ _ _ hinfo.hint hfind
  refine faultOutcome_of_X (V.createDir_foX (fun _ _ => False) hd hOK
    ⟨hsp, hdot, hval, hla, hgeo, hinfo, hacc, hcs32, hcs64, hu32, hfuelN, hchk, hfind⟩ hfit hkeepA ⟨hslots, hextra⟩
    (fun d2 d3 d4 raw rw f e hf2 hg2 hsz2 hwf2 htv2 hw hfa3 hff hfree hinv2 hrawwf hslots2 hdrop => ?_) fuel hr)
  obtain ⟨hinv3, htv3⟩ := V.writeEntry_keepsTv hf2 hinv2 hOK K name raw hdot hrawwf
    (by rw [hslots2]; exact hfit) hw hff hdrop
  obtain ⟨d4', h4⟩ := run_freeCluster_ok c d3 hfa3 (V.io.wf d3 hinv3) (K.geo d3 hinv3) (htv3.trans htv2)
    (by rw [(K.geom d3 hinv3).totalClusters]; exact hct)
  cases h4.symm.trans hfree

open DirSim FileSim Fat in
/-- **`create_dir` in a cluster-chain directory without an entry (the root of FAT32): plain `Propagates`** on every
    device (any fault schedule) on which the directory is readable; the entry fits into the allocated clusters
    (`hlastv`: the last cluster of the chain is not marked free, as in `createDir_chain_sim`) -/
theorem createDir_propagates_chain_plain {d : Dev} {c0 : Nat} {chain : List Nat}
    (h : ChainReadable d.disarm c0 none chain) (hwf : d.img.WF) (hd : d.fault = none) (hinfo : InfoOk d.fs d.img)
    (ha : d.fs.lfnAlloc = true) (hacc : d.fs.accDate = false)
    (hcs64 : 64 ≤ d.fs.clusterSize) (hu32 : d.fs.clusterSize < 4294967296)
    (hfuelN : d.fs.clusterSize / 32 < dirFuel d.fs) (env : Env) (path name : String)
    (hsp : Names.splitPath path = (name, none)) (hdot : (name = "." || name = "..") = false)
    (hval : Names.validateLongName name = .ok ()) (a : List Nat)
    (hchk : DirAlias.checkForExistenceL env.upper (chainSlots d.fs d.img chain) name (some true) 70000 = .ok (.alias a))
    (c : Nat) (hfind : allocFindV (tabView d.fs d.img) d.fs.fsInfo.next d.fs.totalClusters = some c)
    (hlastv : ∀ l, chain.getLast? = some l → tabView d.fs d.img l ≠ .free)
    (hfit : DirSlots.findFree (chainSlots d.fs d.img chain) (Lfn.numParts (Names.encodeUtf16 name.toList).length + 1) +
      (Lfn.numParts (Names.encodeUtf16 name.toList).length + 1) ≤ chain.length * (d.fs.clusterSize / 32)) (fuel : Nat) :
    ∀ r d', run (createDir env (fuel + 1) (.file (FileH.new (some c0) none)) path) d = (r, d') →
      FaultOutcome (resErr r) d' := by
  have hgeo : FileSim.Geo d.fs d.img.size := h.dir.geo
  obtain ⟨hc2, hct, hcf⟩ := allocFindV_some _ _ _ _ hinfo.hint hfind
  have hcnot : c ∉ chain := free_not_in_chain h.dir.link hcf hlastv
  have hsl : srcSlots d.img (chainSrc d.fs chain) (chain.length * (d.fs.clusterSize / 32)) = chainSlots d.fs d.img chain :=
    h.slots_eq
  have hinv0 := h.inv hwf
  exact createDir_propagates_wview_plain (WView.ofChain d.disarm c0 chain h.dir hwf h.fuel) hd
    (faultOK_ofChain _ _ _ _ _ _) (tvKeep_ofChain d.disarm c0 chain h.dir hwf h.fuel hacc) env path name hsp hdot hval ha
    hgeo hinfo hacc h.dir.cs32 hcs64 hu32 hfuelN a (by rw [← hsl] at hchk; exact hchk) c hfind
    (by rw [← hsl] at hfit; exact hfit)
    (fun d1 d2 hv _ hal => hinv0.of_alloc hv hal hcnot)
    (chainSrc_clear hgeo h.dir.cs32 chain h.dir.inTab hc2 hcnot)
    (fun q hq => hq.elim) fuel

open DirSim FileSim Fat in
/-- non-vacuity: for EVERY `k`, `create_dir("N")` in the two-cluster directory of `Ex5` armed with a fault at call `k` -/
example (k : Nat) : ∀ r d', run (createDir Ex3.env 1 (.file (FileH.new (some 2) none)) "N")
      { Ex5.dev with failAt := some k } = (r, d') → FaultOutcome (resErr r) d' := by
  have h3 : FileSim.tabView Ex5.dev.fs Ex5.dev.img 3 = .eoc := congrFun Ex5.fat 3
  exact createDir_propagates_chain_plain (d := { Ex5.dev with failAt := some k }) (c0 := 2) (chain := [2, 3])
    ⟨Ex5.readable.dir, Ex5.readable.fuel⟩ Ex5.wf rfl ⟨fun n hn => (by cases hn), fun n hn => (by cases hn)⟩ rfl rfl
    (show 64 ≤ Ex5.dev.fs.clusterSize by decide) (show Ex5.dev.fs.clusterSize < 4294967296 by decide)
    (show Ex5.dev.fs.clusterSize / 32 < dirFuel Ex5.dev.fs by decide) Ex3.env "N" "N" (by decide +kernel) (by decide)
    (by decide +kernel)
    [78, 32, 32, 32, 32, 32, 32, 32, 32, 32, 32]
    (show DirAlias.checkForExistenceL Ex3.env.upper (DirSim.chainSlots Ex5.dev.fs Ex5.dev.img [2, 3]) "N" (some true) 70000 = _
      by rw [Ex5.chain_slots]; decide +kernel) 4
    (show allocFindV (tabView Ex5.dev.fs Ex5.dev.img) Ex5.dev.fs.fsInfo.next Ex5.dev.fs.totalClusters = some 4
      by rw [Ex5.fat]; decide +kernel)
    (fun l hl => by
      have : l = 3 := by simpa using hl.symm
      rw [this]; show FileSim.tabView Ex5.dev.fs Ex5.dev.img 3 ≠ _; rw [h3]; exact fun h => by cases h)
    (show DirSlots.findFree (DirSim.chainSlots Ex5.dev.fs Ex5.dev.img [2, 3])
      (Lfn.numParts (Names.encodeUtf16 "N".toList).length + 1) +
      (Lfn.numParts (Names.encodeUtf16 "N".toList).length + 1) ≤ [2, 3].length * (Ex5.dev.fs.clusterSize / 32)
      by rw [Ex5.chain_slots]; decide +kernel) 0

open DirSim FileSim Fat in
/-- non-vacuity for a SUB-DIRECTORY as parent: for EVERY `k`, `create_dir("N")` in the directory `A` of `Ex8` armed with
    a fault at call `k` (`Ex8.VA` with `faultOK_ofSub`, `tvKeep_ofSub`) -/
example (k : Nat) : ∀ r d', run (createDir Ex3.env 1 (.file (FileH.new (some 2) (some Ex8.edA))) "N")
      { Ex8.dev with failAt := some k } = (r, d') → FaultOutcome (resErr r) d' := by
  have hhere : SubInv Ex8.dev.fs Ex8.edA 2 [2] Ex8.dev.clock Ex8.dev := Ex8.VA.here
  have hfe : (fatSliceOf Ex8.dev.fs).beginOff + (fatSliceOf Ex8.dev.fs).mirrors * (fatSliceOf Ex8.dev.fs).size = 1024 := by
    decide
  have hcs : Ex8.dev.fs.clusterSize = 512 := by decide
  have hsz : Ex8.dev.img.size = 4096 := by decide
  exact createDir_propagates_wview_plain (d := { Ex8.dev with failAt := some k }) Ex8.VA rfl
    (faultOK_ofSub _ _ _ _ _ _ _ _ _ _ _) (tvKeep_ofSub _ _ _ _ _ _ _ _ _ _ _) Ex3.env "N" "N" (by decide +kernel)
    (by decide) (by decide +kernel) rfl Ex8.geo ⟨fun n hn => (by cases hn), fun n hn => (by cases hn)⟩ rfl
    (show Ex8.dev.fs.clusterSize % 32 = 0 by decide) (show 64 ≤ Ex8.dev.fs.clusterSize by decide)
    (show Ex8.dev.fs.clusterSize < 4294967296 by decide) (show Ex8.dev.fs.clusterSize / 32 < dirFuel Ex8.dev.fs by decide)
    [78, 32, 32, 32, 32, 32, 32, 32, 32, 32, 32]
    (show DirAlias.checkForExistenceL Ex3.env.upper (Ex8.VA.slots Ex8.dev.img) "N" (some true) 70000 = _
      by rw [Ex8.slotsA]; decide +kernel) 5
    (show allocFindV (tabView Ex8.dev.fs Ex8.dev.img) Ex8.dev.fs.fsInfo.next Ex8.dev.fs.totalClusters = some 5
      by rw [Ex8.fat]; decide +kernel)
    (show DirSlots.findFree (Ex8.VA.slots Ex8.dev.img) (Lfn.numParts (Names.encodeUtf16 "N".toList).length + 1) +
      (Lfn.numParts (Names.encodeUtf16 "N".toList).length + 1) ≤ Ex8.VA.N by rw [Ex8.slotsA]; decide +kernel)
    (fun d1 d2 hv hc hal => SubInv.of_alloc hhere hv hc hal (by decide))
    (fun i hi => by
      have hi' : i < 16 := hi
      have e : Ex8.VA.src (32 * i) = chainSrc Ex8.dev.fs [2] (32 * i) := rfl
      rw [e, Ex8.src 2 i hi', Ex8.off]
      show _ ≤ _ ∧ _ ≤ Ex8.dev.img.size ∧ (_ ≤ clusterOff Ex8.dev.fs 5 ∨ clusterOff Ex8.dev.fs 5 + Ex8.dev.fs.clusterSize ≤ _)
      rw [Ex8.off, hfe, hcs, hsz]
      omega)
    (fun q hq => by
      have hq' : subExtra Ex8.edA q := hq
      unfold subExtra at hq'
      have : Ex8.edA.pos = 1024 := rfl
      show _ ≤ q ∧ ¬ (clusterOff Ex8.dev.fs 5 ≤ q ∧ q < clusterOff Ex8.dev.fs 5 + Ex8.dev.fs.clusterSize)
      rw [Ex8.off, hfe, hcs]
      omega) 0

end FatVerif
