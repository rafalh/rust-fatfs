import FatVerif.Proofs.DirSlotsFind
import FatVerif.Props.C15
/-!
# C01 (items 2–5), C03.5, C05.4 — the slot-list algebra of one directory

`slots : List (List Nat)` = the 32-byte slots of the directory's allocated space.  Model: `Model/DirSlots.lean`
(`findFree`, `writeEntry`, `deleteRange`, `findEntry`, `createEntry`/`removeEntry`/`renameEntry`); the listing is
`readDirEntries` of C17 (both buffer variants).

`DirWf upper slots` (Proofs/DirSlotsOps.lean):
* `Shape`: the slots are a sequence of items — a deleted slot, a label, or an entry = (no run, or a `CompleteRun` of
  long-name slots carrying the checksum of the short name) + a file-class short slot — followed only by end markers;
* no two listed entries with the same raw short name;
* no two listed entries that one query can hit (long name or alias, up to the build's case folding `upper`) — the form of
  "no duplicate names" that makes lookups unique.
-/
namespace FatVerif
open Lfn DirSlots

namespace C01
def sfnOf (name : String) : List Nat := name.toList.map Char.toNat ++ 0x20 :: List.replicate 20 0
def del : List Nat := 0xE5 :: List.replicate 31 7
def zero : List Nat := List.replicate 32 0
/-- entry A, three deleted slots, entry B, one trailing deleted slot, end region -/
def dir0 : List (List Nat) :=
  [sfnOf "A          ", del, del, del, sfnOf "B          ", del, zero, zero, zero]
def long30 : List Nat := (List.range 30).map (· + 0x61)
end C01

/-! ## 1. `write_entry` -/

/-- **C01.2** `writeEntry_listing`.  On a directory of well-formed shape, writing an entry for a name of 1 … 255 units
    (none of them `0x0000`) with a file-class short slot inserts EXACTLY ONE entry
    `⟨sfn, units, p, p + n⟩` (`p = findFree slots n`, `n = ⌈len/13⌉ + 1`) into the listing, between the entries ending at
    or before `p` and those beginning at or after `p + n`; all other entries are unchanged (same short slot, same
    units, same range); every slot outside `[p, p + n)` is byte-identical, the slots inside are the generated run and
    the short slot; the shape is preserved.  Both buffer variants; whether the run lands in reclaimed deleted slots,
    at the end marker, or (the Rust quirk) starts inside the deleted run that precedes the end marker. -/
theorem writeEntry_listing (alloc : Bool) (slots : List (List Nat)) (units sfn : List Nat) (hs : Shape slots)
    (h1 : 1 ≤ units.length) (h255 : units.length ≤ 255) (hu : ∀ x ∈ units, x < 65536)
    (hnz : ∀ x ∈ units, x ≠ 0) (hsfn : slotClass sfn = .file) :
    let n := numParts units.length + 1
    let p := findFree slots n
    (∃ L1 L2, readDirEntries alloc true slots = L1 ++ L2 ∧
      readDirEntries alloc true (writeEntry slots units sfn) = L1 ++ ⟨sfn, units, p, p + n⟩ :: L2 ∧
      (∀ e ∈ L1, e.endIdx ≤ p) ∧ (∀ e ∈ L2, p + n ≤ e.beginIdx)) ∧
    p ≤ slots.length ∧
    (∀ i, i < p ∨ p + n ≤ i → (writeEntry slots units sfn).getD i [] = slots.getD i []) ∧
    (∀ k, k < n → (writeEntry slots units sfn).getD (p + k) [] = (entrySlots units sfn).getD k []) ∧
    Shape (writeEntry slots units sfn) := by
  intro n p
  obtain ⟨L1, L2, e1, e2, e3, e4, e5⟩ := writeEntry_insert alloc slots units sfn hs ⟨h1, h255, hu, hnz⟩ hsfn
  obtain ⟨b1, b2, b3⟩ := writeEntry_bytes slots units sfn
  exact ⟨⟨L1, L2, e1, e2, e3, e4⟩, b1, b2, b3, e5⟩

/-- `DirWf` is preserved when the raw short name is new and no existing entry answers to the new long name or alias -/
theorem writeEntry_dirWf (upper : Char → List Char) (slots : List (List Nat)) (name : List Char) (sfn : List Nat)
    (hwf : DirWf upper slots) (hname : name ≠ [])
    (h1 : 1 ≤ (Names.encodeUtf16 name).length) (h255 : (Names.encodeUtf16 name).length ≤ 255)
    (hu : ∀ x ∈ Names.encodeUtf16 name, x < 65536)
    (hnz : ∀ x ∈ Names.encodeUtf16 name, x ≠ 0)
    (hsfn : slotClass sfn = .file)
    (hnf : findEntry upper slots name = none)
    (hraw : ∀ e ∈ listing slots, sfnName e.sfn ≠ sfnName sfn)
    (halias : ∀ e ∈ listing slots, matchesName upper e (Names.aliasDisplay (sfnName sfn)) = false) :
    DirWf upper (writeEntry slots (Names.encodeUtf16 name) sfn) := by
  apply writeEntry_wf upper slots _ sfn hwf ⟨h1, h255, hu, hnz⟩ hsfn hraw
  intro e he q hq
  obtain ⟨hq1, hq2⟩ := hq
  have hnone := (findEntry_none_iff upper slots name).1 hnf e he
  rcases (C15.lookup_stored_iff upper hname (sfnName sfn) q).1 hq2 with hf | hf
  · have := C15.lookup_congr upper e.units (sfnName e.sfn) hf
    unfold matchesName at hq1 hnone
    rw [this, hnone] at hq1
    exact absurd hq1 (by simp)
  · have := C15.lookup_congr upper e.units (sfnName e.sfn) hf
    have ha := halias e he
    unfold matchesName at hq1 ha
    rw [this, ha] at hq1
    exact absurd hq1 (by simp)

/-- placement 1: a 1-slot name (2 slots) goes into the reclaimed run of three deleted slots at index 1 -/
example : findFree C01.dir0 2 = 1 ∧
    (listing (writeEntry C01.dir0 [0x61, 0x62] (C01.sfnOf "AB         "))).map (fun e => (e.units, e.beginIdx, e.endIdx)) =
      [([], 0, 1), ([0x61, 0x62], 1, 3), ([], 4, 5)] := by decide +kernel

/-- placement 2 (the quirk): a 30-unit name (4 slots) does not fit the three deleted slots; it starts in the trailing
    deleted slot 5 that precedes the end marker and runs over the end marker -/
example : findFree C01.dir0 4 = 5 ∧
    (listing (writeEntry C01.dir0 C01.long30 (C01.sfnOf "AB         "))).map (fun e => (e.units.length, e.beginIdx, e.endIdx)) =
      [(0, 0, 1), (0, 4, 5), (30, 5, 9)] := by decide +kernel

/-- placement 3: at the end marker; the list grows when the run reaches beyond the allocated space -/
example : findFree [C01.sfnOf "A          ", C01.zero] 4 = 1 ∧
    (writeEntry [C01.sfnOf "A          ", C01.zero] C01.long30 (C01.sfnOf "AB         ")).length = 5 := by decide +kernel

/-! ## 2. the delete loop -/

/-- **C01.3** `deleteRange_listing` (DESIGN.md §6: `markDeleted_listing`).  Deleting the slot range of a listed entry removes exactly
    that entry from the listing (all others unchanged, ranges included); slots outside the range are byte-identical,
    slots inside get first byte `0xE5` (and the attribute byte masked with `0x3F`, as the re-serialisation does); the
    shape is preserved.  Both buffer variants. -/
theorem deleteRange_listing (alloc : Bool) (slots : List (List Nat)) (hs : Shape slots) (e : LfnEntry)
    (he : e ∈ readDirEntries alloc true slots) :
    (∃ L1 L2, readDirEntries alloc true slots = L1 ++ e :: L2 ∧
      readDirEntries alloc true (deleteRange slots e.beginIdx e.endIdx) = L1 ++ L2) ∧
    (∀ i, (deleteRange slots e.beginIdx e.endIdx).getD i [] =
      if e.beginIdx ≤ i ∧ i < e.endIdx ∧ i < slots.length then markDeleted (slots.getD i []) else slots.getD i []) ∧
    (deleteRange slots e.beginIdx e.endIdx).length = slots.length ∧
    Shape (deleteRange slots e.beginIdx e.endIdx) := by
  obtain ⟨L1, L2, e1, e2, e3⟩ := deleteRange_remove alloc slots hs e he
  exact ⟨⟨L1, L2, e1, e2⟩, deleteRange_bytes slots _ _, deleteRange_length slots _ _, e3⟩

theorem deleteRange_dirWf (upper : Char → List Char) (slots : List (List Nat)) (hwf : DirWf upper slots)
    (e : LfnEntry) (he : e ∈ listing slots) : DirWf upper (deleteRange slots e.beginIdx e.endIdx) :=
  deleteRange_wf upper slots hwf e he

example : (listing (deleteRange C01.dir0 4 5)).map (fun e => (e.beginIdx, e.endIdx)) = [(0, 1)] ∧
    findFree (deleteRange C01.dir0 4 5) 4 = 1 := by decide +kernel

/-! ## 3. lookup -/

/-- **C01.4** `findEntry_spec`.  `find_entry` returns the FIRST listed entry that the query hits; `NotFound` iff no
    listed entry is hit; "hit" means: the long name decodes (no unpaired surrogate) to a string with the same case
    folding as the query, or the query folds like the displayed alias; with the kind filter, `InvalidInput` iff the
    first hit has the other kind. -/
theorem findEntry_spec (upper : Char → List Char) (slots : List (List Nat)) (q : List Char) :
    (∀ e, findEntry upper slots q = some e ↔
      ∃ L1 L2, listing slots = L1 ++ e :: L2 ∧ matchesName upper e q = true ∧
        ∀ x ∈ L1, matchesName upper x q = false) ∧
    (findEntry upper slots q = none ↔ ∀ e ∈ listing slots, matchesName upper e q = false) ∧
    (∀ e : LfnEntry, matchesName upper e q = true ↔
      (e.units ≠ [] ∧ ∃ long : List Char, Names.decodeUtf16 e.units = long.map some ∧
          Names.fold upper q = Names.fold upper long) ∨
        Names.fold upper q = Names.fold upper (Names.aliasDisplay (sfnName e.sfn))) ∧
    (∀ isDir, findEntryKind upper slots q isDir = .error .notFound ↔ findEntry upper slots q = none) ∧
    (∀ d, findEntryKind upper slots q (some d) = .error .invalidInput ↔
      ∃ e, findEntry upper slots q = some e ∧ Lfn.isDir e.sfn ≠ d) := by
  refine ⟨findEntry_some_iff upper slots q, findEntry_none_iff upper slots q,
    fun e => C15.lookup_iff upper e.units (sfnName e.sfn) q, ?_, ?_⟩
  · intro isDir
    unfold findEntryKind
    cases hf : findEntry upper slots q with
    | none => simp
    | some e =>
      cases isDir with
      | none => simp
      | some d => by_cases hd : Lfn.isDir e.sfn = d <;> simp [hd]
  · intro d
    unfold findEntryKind
    cases hf : findEntry upper slots q with
    | none => simp
    | some e => by_cases hd : Lfn.isDir e.sfn = d <;> simp [hd]

/-- with the no-duplicates invariant the hit is unique: ANY listed entry the query hits is the one returned -/
theorem findEntry_unique (upper : Char → List Char) (slots : List (List Nat)) (hwf : DirWf upper slots)
    (q : List Char) (e : LfnEntry) (he : e ∈ listing slots) (hm : matchesName upper e q = true) :
    findEntry upper slots q = some e :=
  DirSlots.findEntry_unique upper slots hwf q e he hm

example : (findEntry Names.upperAscii C01.dir0 "b".toList).map (·.beginIdx) = some 4 ∧
    findEntry Names.upperAscii C01.dir0 "c".toList = none := by decide +kernel

/-! ## 4. refinement of a case-insensitive finite map -/

/-- **C01.5** `dir_refines_map`.  Abstraction: `absDir slots : List (units × short slot)` (the listing), looked up by
    `amFind upper m q` = first pair the query hits.  The three directory-local operations commute with
    insert / erase / rename on that association list, error kinds included:
    * lookup: `findEntry` is `amFind` on the abstraction;
    * create: `AlreadyExists` iff the name is found; otherwise the new abstraction is a permutation of
      `(units, sfn) :: old` (exactly one pair added);
    * remove: `NotFound` iff the name is not found; otherwise the new abstraction is the old one with the first hit
      erased (`eraseP`), order of the others kept;
    * rename within the directory: `NotFound` if the source is not found; destination found = same entry → no
      change, another entry → `AlreadyExists`; otherwise the new abstraction is a permutation of
      `(dst units, short slot with the new alias and the OLD body) :: (old with the source erased)`.
    The results have well-formed shape again (`DirWf` is preserved by create and remove: `writeEntry_dirWf`,
    `deleteRange_dirWf`). -/
theorem dir_refines_map (upper : Char → List Char) (slots : List (List Nat)) (hs : Shape slots) :
    -- lookup
    (∀ q, amFind upper (absDir slots) q = (findEntry upper slots q).map absEntry) ∧
    -- create
    (∀ name sfn, amFind upper (absDir slots) name ≠ none → createEntry upper slots name sfn = .error .alreadyExists) ∧
    (∀ name sfn, amFind upper (absDir slots) name = none →
      1 ≤ (Names.encodeUtf16 name).length → (Names.encodeUtf16 name).length ≤ 255 →
      (∀ x ∈ Names.encodeUtf16 name, x < 65536) → (∀ x ∈ Names.encodeUtf16 name, x ≠ 0) →
      slotClass sfn = .file →
      ∃ slots', createEntry upper slots name sfn = .ok slots' ∧
        (absDir slots').Perm ((Names.encodeUtf16 name, sfn) :: absDir slots) ∧ Shape slots') ∧
    -- remove
    (∀ name, amFind upper (absDir slots) name = none → removeEntry upper slots name = .error .notFound) ∧
    (∀ name, amFind upper (absDir slots) name ≠ none →
      ∃ slots', removeEntry upper slots name = .ok slots' ∧
        absDir slots' = (absDir slots).eraseP (amMatch upper name) ∧ Shape slots') ∧
    -- rename within the directory
    (∀ src dst alias, amFind upper (absDir slots) src = none →
      renameEntry upper slots src dst alias = .error .notFound) ∧
    (∀ src dst alias e d, findEntry upper slots src = some e → findEntry upper slots dst = some d →
      renameEntry upper slots src dst alias = if d.endIdx = e.endIdx then .ok slots else .error .alreadyExists) ∧
    (∀ src dst alias e, findEntry upper slots src = some e →
      findEntry upper slots dst = none →
      1 ≤ (Names.encodeUtf16 dst).length → (Names.encodeUtf16 dst).length ≤ 255 →
      (∀ x ∈ Names.encodeUtf16 dst, x < 65536) → (∀ x ∈ Names.encodeUtf16 dst, x ≠ 0) →
      slotClass (renamedSfn e.sfn alias) = .file →
      ∃ slots', renameEntry upper slots src dst alias = .ok slots' ∧
        (absDir slots').Perm
          ((Names.encodeUtf16 dst, renamedSfn e.sfn alias) :: (absDir slots).eraseP (amMatch upper src)) ∧
        Shape slots') := by
  have hnone : ∀ q, amFind upper (absDir slots) q = none ↔ findEntry upper slots q = none := by
    intro q; rw [abs_lookup]; cases findEntry upper slots q <;> simp
  refine ⟨abs_lookup upper slots, ?_, ?_, ?_, ?_, ?_, ?_, ?_⟩
  · intro name sfn h
    unfold createEntry
    cases hf : findEntry upper slots name with
    | none => exact absurd ((hnone name).2 hf) h
    | some e => rfl
  · intro name sfn h h1 h255 hu hnz hsfn
    obtain ⟨c1, c2⟩ := absDir_create slots _ sfn hs ⟨h1, h255, hu, hnz⟩ hsfn
    exact ⟨_, by unfold createEntry; rw [(hnone name).1 h], c1, c2⟩
  · intro name h
    unfold removeEntry; rw [(hnone name).1 h]
  · intro name h
    cases hf : findEntry upper slots name with
    | none => exact absurd ((hnone name).2 hf) h
    | some e =>
      obtain ⟨d1, d2⟩ := absDir_remove upper slots hs name e hf
      exact ⟨_, by unfold removeEntry; rw [hf], d1, d2⟩
  · intro src dst alias h
    unfold renameEntry; rw [(hnone src).1 h]
  · intro src dst alias e d h1 h2
    unfold renameEntry; rw [h1, h2]
  · intro src dst alias e hsrc hdst h1 h255 hu hnz hcls
    obtain ⟨r1, r2⟩ := absDir_rename upper slots src dst alias hs e hsrc ⟨h1, h255, hu, hnz⟩ hcls
    exact ⟨_, by unfold renameEntry; rw [hsrc, hdst], r1, r2⟩

/-! ## 5. completeness of `find_free_entries` for runs (C05.4) -/

/-- a slot index is free: a deleted slot before the first end marker, or anything from the first end marker on
    (the end of the list counts as end marker) — `DirSlots.FreeAt` -/
example : FreeAt C01.dir0 1 ∧ FreeAt C01.dir0 7 ∧ ¬ FreeAt C01.dir0 4 := by
  refine ⟨Or.inl ⟨by decide, ?_⟩, Or.inr ⟨6, by omega, by decide⟩, ?_⟩
  · intro e he
    have : e = 0 ∨ e = 1 := by omega
    rcases this with rfl | rfl <;> decide
  · rintro (⟨h, _⟩ | ⟨e, he, h⟩)
    · exact absurd h (by decide)
    · have : e = 0 ∨ e = 1 ∨ e = 2 ∨ e = 3 ∨ e = 4 := by omega
      rcases this with rfl | rfl | rfl | rfl | rfl <;> exact absurd h (by decide)

/-- the slots `find_free_entries(num)` hands out are free -/
theorem findFree_sound (slots : List (List Nat)) (num : Nat) (hnum : 1 ≤ num) :
    findFree slots num ≤ slots.length ∧ ∀ k, k < num → FreeAt slots (findFree slots num + k) := by
  refine ⟨findFree_le slots num, ?_⟩
  obtain ⟨U, D, rest, h1, h2, h3, h4, h5, h6, h7⟩ := findFree_spec slots num hnum
  intro k hk
  rw [h5]
  by_cases hin : U.length + k < (U ++ D).length
  · left
    have e1 : slots.getD (U.length + k) [] = (U ++ D).getD (U.length + k) [] := by
      rw [h1]; exact getD_append_left' _ _ _ hin
    refine ⟨?_, ?_⟩
    · rw [e1]
      have : (U ++ D).getD (U.length + k) [] = D.getD k [] := by
        simp [List.getD_eq_getElem?_getD, List.getElem?_append_right (Nat.le_add_right _ _)]
      rw [this]
      exact h3 _ (getD_mem' D k (by simp at hin; omega))
    · intro e he
      have : slots.getD e [] = (U ++ D).getD e [] := by rw [h1]; exact getD_append_left' _ _ _ (by omega)
      rw [this]
      exact h2 _ (getD_mem' _ e (by omega))
  · right
    rcases h6 with h6 | ⟨_, h6⟩
    · simp at hin; omega
    · rcases h6 with rfl | ⟨r, rs, rfl, hr⟩
      · refine ⟨U.length + k, Nat.le_refl _, ?_⟩
        have : slots.length ≤ U.length + k := by rw [h1]; simp at hin ⊢; omega
        simp [List.getD_eq_getElem?_getD, List.getElem?_eq_none this, isEnd, byte]
      · refine ⟨(U ++ D).length, by omega, ?_⟩
        rw [h1]
        simp only [List.getD_eq_getElem?_getD, List.getElem?_append_right (Nat.le_refl _)]
        simpa using hr

/-- **C05.4 (fixed root)** `findFree_complete`.  `slots` = all slots of the directory's fixed capacity.  If the run
    `find_free_entries(num)` hands out does not fit (`findFree slots num + num > capacity`, the creating call then fails
    when it writes past the end), then NO window of `num` consecutive free slots exists within the capacity: the call
    fails for lack of room only when there really is no room.  (No well-formedness needed.) -/
theorem findFree_complete (slots : List (List Nat)) (num : Nat) (hnum : 1 ≤ num)
    (h : findFree slots num + num > slots.length) :
    ¬ ∃ j, j + num ≤ slots.length ∧ ∀ k, k < num → FreeAt slots (j + k) := by
  obtain ⟨U, D, rest, h1, h2, h3, h4, h5, h6, h7⟩ := findFree_spec slots num hnum
  rintro ⟨j, hj, hfree⟩
  rw [h5] at h
  have hUend : ∀ e, e < U.length → isEnd (slots.getD e []) = false := by
    intro e he
    have : slots.getD e [] = U.getD e [] := by
      rw [h1, List.append_assoc]; exact getD_append_left' _ _ _ he
    rw [this]
    exact h2 _ (List.mem_append_left _ (getD_mem' U e he))
  have hdel : ∀ i, i < U.length → FreeAt slots i → isDeleted (U.getD i []) = true := by
    intro i hi hf
    have e1 : slots.getD i [] = U.getD i [] := by
      rw [h1, List.append_assoc]; exact getD_append_left' _ _ _ hi
    rcases hf with ⟨hd, _⟩ | ⟨e, he, hend⟩
    · rwa [e1] at hd
    · rw [hUend e (by omega)] at hend; exact absurd hend (by simp)
  by_cases hjU : j < U.length
  · by_cases hcov : U.length ≤ j + num
    · -- the window contains the last slot of `U`, which is used
      obtain ⟨U', u, e1, e2⟩ := h4 (by intro hU; rw [hU] at hjU; simp at hjU)
      have hlen : U.length = U'.length + 1 := by rw [e1]; simp
      have := hdel (U.length - 1) (by omega) (by
        have := hfree (U.length - 1 - j) (by omega)
        rwa [show j + (U.length - 1 - j) = U.length - 1 by omega] at this)
      rw [e1] at this
      have hu : (U' ++ [u]).getD ((U' ++ [u]).length - 1) [] = u := by
        simp [List.getD_eq_getElem?_getD]
      rw [hu, e2] at this
      exact absurd this (by simp)
    · -- the window lies inside `U`: first fit would have taken it
      have := h7 j num (by omega) (by
        intro t ht
        exact hdel (j + t) (by omega) (hfree t ht))
      omega
  · omega

example : findFree C01.dir0 5 + 5 > C01.dir0.length := by decide +kernel

/-! ## satisfiability of `DirWf` -/

theorem C01.dirA_listing :
    listing [C01.sfnOf "A          ", C01.zero] = [⟨C01.sfnOf "A          ", [], 0, 1⟩] := by decide +kernel

/-- a one-entry directory is well-formed -/
theorem C01.dirA_wf : DirWf Names.upperAscii [C01.sfnOf "A          ", C01.zero] := by
  refine ⟨⟨[.entry [] (C01.sfnOf "A          ")], [C01.zero], rfl, ?_, ?_⟩, ?_, ?_⟩
  · intro it hit
    rw [List.mem_singleton.1 hit]
    exact ⟨Or.inl rfl, by simp, by decide⟩
  · intro t ht
    rw [List.mem_singleton.1 ht]; decide
  · rw [C01.dirA_listing]; simp
  · rw [C01.dirA_listing]; simp

/-- creating a second entry ("bb", alias `BB`) in it: all hypotheses of `writeEntry_dirWf` hold, so the two-entry
    directory is well-formed, and so is what remains after deleting the first entry -/
example : DirWf Names.upperAscii
    (writeEntry [C01.sfnOf "A          ", C01.zero] (Names.encodeUtf16 "bb".toList) (C01.sfnOf "BB         ")) := by
  refine writeEntry_dirWf Names.upperAscii _ "bb".toList _ C01.dirA_wf (by decide) (by decide) (by decide) (by decide)
    (by decide) (by decide) (by decide +kernel) ?_ ?_
  · intro e he
    rw [C01.dirA_listing, List.mem_singleton] at he
    rw [he]; decide
  · intro e he
    rw [C01.dirA_listing, List.mem_singleton] at he
    rw [he]; decide +kernel

end FatVerif
