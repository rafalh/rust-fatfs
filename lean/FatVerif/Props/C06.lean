import FatVerif.Proofs.FormatDefault
import FatVerif.Proofs.FormatBytes
/-!
# C06 — formatting yields a valid empty volume (boot-sector / sizing part: C06.1 – C06.4)

Model: `Model/Format.lean` (`formatChecked` = `format_boot_sector` + strict `validate`, i.e. everything `format_volume`
does before its first device write; `formatBootSectorBytes` = the hook `fatfs::verif::format_boot_sector_bytes`).
Spec: `Spec/ValidBpb.lean`. Quantification: every option set the builder methods accept (`Accepted`), every
`total_sectors < 2^32`.
-/
namespace FatVerif.C06
open FatVerif.Format FatVerif.FormatSpec

def isPanic {α : Type} : Except Err α → Bool
  | .error .panic => true
  | _ => false

def isInvalidInput {α : Type} : Except Err α → Bool
  | .error .invalidInput => true
  | _ => false

/-! ## C06.1 `format_no_panic`

History: false of the original code in two ways — F11 (`bytes_per_cluster < bytes_per_sector` ⇒ `sectors_per_cluster = 0`
⇒ subtraction overflow / ÷0 in `try_fs_layout`) and the `u32` overflow of `sectors_per_fat * bytes_per_sector * 8` in
`validate_total_clusters` for FAT32 layouts with ≥ 2^27 FAT entries. Both are repaired in /repo (46e44d0, faa778e);
the model follows the repaired code and the theorem holds at full strength. The former counterexamples are kept as
regression examples. -/

/-- under the builder's constraints, for every sector count, formatting never panics -/
theorem format_no_panic (o : FormatOpts) (t : Nat) (hacc : Accepted o) (ht : t < 4294967296) :
    formatChecked o t ≠ .error .panic :=
  formatChecked_not_panic hacc ht

/-- …and the library's `validate` never panics on any BPB at all (used for the self-check of `format_volume`) -/
theorem validate_no_panic (b : FBpb) : validateBpb b ≠ .error .panic :=
  validateBpb_not_panic b

/-- a non-default request used by the satisfiability examples -/
def exOpts : FormatOpts := { bps := 1024, bpc := some 4096, fatType := some .fat16, rootEntries := 17, fats := 1 }

theorem accepted_exOpts : Accepted exOpts := by
  refine ⟨by simp [exOpts], ?_, Or.inl rfl, by simp [exOpts]⟩
  intro c h; cases h; simp [bpcValues]

example : Accepted exOpts ∧ (100000 : Nat) < 4294967296 := ⟨accepted_exOpts, by omega⟩

/-- regression (F11, the instance of DESIGN.md §7): `bytes_per_sector(4096).bytes_per_cluster(512)` is now rejected -/
example : Accepted { bps := 4096, bpc := some 512 } ∧
    isInvalidInput (formatChecked { bps := 4096, bpc := some 512 } 100000) = true := by
  refine ⟨⟨by simp, ?_, Or.inr rfl, by simp⟩, by decide +kernel⟩
  intro c h; cases h; simp [bpcValues]

/-- regression (FAT-capacity overflow): 512-byte clusters on 136 314 757 sectors (65 GiB), and plain
    `bytes_per_sector(4096)` on a 4 TiB volume, used to panic in `validate`; now they format as FAT32 -/
example : ((formatChecked { bpc := some 512 } 136314757).toOption.map (·.2)) = some .fat32 ∧
    ((formatChecked { bps := 4096 } 1073995767).toOption.map (·.2)) = some .fat32 := by
  constructor <;> decide +kernel

/-! ## C06.2 `format_valid` -/

/-- whenever the request is accepted, the boot sector is a `ValidBpb` answer to it, and it passes the library's own
    strict validation -/
theorem format_valid (o : FormatOpts) (t : Nat) (boot : FBoot) (ft : FatType) (hacc : Accepted o)
    (ht : t < 4294967296) (h : formatChecked o t = .ok (boot, ft)) :
    ValidBpb (viewOfBoot boot) (FormatDriver.requestOf o t) ft.bits ∧ validateBoot boot = .ok () :=
  ⟨formatChecked_valid hacc ht h, (formatChecked_ok h).2⟩

/-- result of a run as (spec view, width) -/
def okView : Except Err (FBoot × FatType) → Option (BpbView × FatType)
  | .ok (boot, ft) => some (viewOfBoot boot, ft)
  | .error _ => none

theorem okView_some {r : Except Err (FBoot × FatType)} {v : BpbView} {ft : FatType} (h : okView r = some (v, ft)) :
    ∃ boot, r = .ok (boot, ft) ∧ viewOfBoot boot = v := by
  unfold okView at h
  split at h
  · cases h; exact ⟨_, rfl, rfl⟩
  · cases h

example : ∃ boot, formatChecked exOpts 100000 = .ok (boot, .fat16) := by
  have : ((okView (formatChecked exOpts 100000)).map (·.2)) = some .fat16 := by decide +kernel
  cases h : okView (formatChecked exOpts 100000) with
  | none => rw [h] at this; cases this
  | some p =>
    obtain ⟨v, ft⟩ := p
    rw [h] at this; cases this
    obtain ⟨boot, hb, _⟩ := okView_some h
    exact ⟨boot, hb⟩

/-- the same at the level of the 512 bytes the hook returns — exactly what the driver's oracle evaluates on the
    implementation's bytes: decode with the spec's own decoder, then `ValidBpb` -/
theorem format_valid_bytes (o : FormatOpts) (t : Nat) (bytes : List Nat) (ft : FatType) (hacc : Accepted o)
    (hr : InRange o) (ht : t < 4294967296) (h : formatBootSectorBytes o t = .ok (bytes, ft)) :
    bytes.length = 512 ∧ ValidBpb (decodeBoot bytes) (FormatDriver.requestOf o t) ft.bits := by
  unfold formatBootSectorBytes at h
  obtain ⟨⟨boot, ft2⟩, hc, h⟩ := ebind_eq_ok.mp h
  simp only [Except.ok.injEq, Prod.mk.injEq] at h
  obtain ⟨hbytes, hft⟩ := h
  subst hft
  subst hbytes
  obtain ⟨hd, hl⟩ := decode_of_ok hacc hr ht hc
  rw [hd]
  exact ⟨hl, formatChecked_valid hacc ht hc⟩

example : Accepted exOpts ∧ InRange exOpts := by
  refine ⟨⟨by simp [exOpts], ?_, Or.inl rfl, by simp [exOpts]⟩,
    ⟨by simp [exOpts], by simp [exOpts], by simp [exOpts], ?_, by simp [exOpts], ?_⟩⟩
  · intro c h; cases h; simp [bpcValues]
  · intro d h; cases h
  · intro l h; cases h

/-- "root entries fill whole sectors" is NOT guaranteed by `format_volume` (it is the caller's documented
    responsibility; `validate` only warns): it holds exactly when the request has it -/
theorem format_root_fills_sectors (o : FormatOpts) (t : Nat) (boot : FBoot) (ft : FatType) (hacc : Accepted o)
    (ht : t < 4294967296) (h : formatChecked o t = .ok (boot, ft)) (hreq : (o.rootEntries * 32) % o.bps = 0) :
    RootFillsSectors (viewOfBoot boot) := by
  obtain ⟨hv, _⟩ := format_valid o t boot ft hacc ht h
  obtain ⟨hb, _, _, _, _, _, _, _, _, _, _, h1x, _, _⟩ := hv
  intro hw
  rw [(h1x hw).1, hb.2]
  exact hreq

theorem format_root_fill_counterexample :
    ∃ boot, formatChecked { rootEntries := 17 } 20000 = .ok (boot, .fat16) ∧ ¬ RootFillsSectors (viewOfBoot boot) := by
  have : (match okView (formatChecked { rootEntries := 17 } 20000) with
      | some (v, ft) => decide (ft = .fat16 ∧ ¬ RootFillsSectors v)
      | none => false) = true := by decide +kernel
  cases h : okView (formatChecked { rootEntries := 17 } 20000) with
  | none => rw [h] at this; cases this
  | some p =>
    obtain ⟨v, ft⟩ := p
    rw [h] at this
    simp only [decide_eq_true_eq] at this
    obtain ⟨rfl, hnr⟩ := this
    obtain ⟨boot, hb, rfl⟩ := okView_some h
    exact ⟨boot, hb, hnr⟩

/-! ## C06.3 `format_rejects` -/

/-- every failure that is not a panic is `InvalidInput` (no other error kind can come out of formatting before the
    first device access) -/
theorem format_rejects (o : FormatOpts) (t : Nat) (e : Err) (h : formatChecked o t = .error e) (hp : e ≠ .panic) :
    e = .invalidInput := by
  rcases formatChecked_err h with h | h
  · exact absurd h hp
  · exact h

example : isInvalidInput (formatChecked { fatType := some .fat32 } 1000) = true := by decide +kernel

/-- conversely, the only ways an accepted request is rejected are: no FAT width is consistent with its own cluster
    count (`determine_fs_layout` fails), a sector size above 4096, a FAT12/16 layout with zero root entries, or a
    FAT12/16 table above 65535 sectors; otherwise formatting succeeds with exactly that layout -/
theorem format_accepts (o : FormatOpts) (t : Nat) (L : FsLayout) (hacc : Accepted o) (ht : t < 4294967296)
    (hbps : o.bps ∈ [512, 1024, 2048, 4096]) (hL : determineFsLayout o t = .ok L)
    (hroot : L.fatType ≠ .fat32 → o.rootEntries ≠ 0) (h16 : L.fatType ≠ .fat32 → L.spf ≤ 65535) :
    formatChecked o t = .ok (bootOf o t L.fatType L.spf L.spc, L.fatType) := by
  -- `h16` holds of every layout (`spfOf_le_of_clusters_le`), so it is not needed
  have _ := h16
  exact formatChecked_of_layout hacc ht hbps hL hroot

/-! ## C06.4 `format_default_total` -/

theorem default_small : ∀ t, t < 42 → isInvalidInput (formatChecked defaultOpts t) = true := by
  decide +kernel

/-- default options (`FormatVolumeOptions::new()`, 512-byte sectors): formatting succeeds for every size from 42
    sectors up to 2^32 − 1, and is rejected with `InvalidInput` below 42 -/
theorem format_default_total (t : Nat) (ht : t < 4294967296) :
    (42 ≤ t → ∃ r, formatChecked defaultOpts t = .ok r) ∧
    (t < 42 → formatChecked defaultOpts t = .error .invalidInput) := by
  refine ⟨fun h => default_ok t h ht, fun h => ?_⟩
  have := default_small t h
  unfold isInvalidInput at this
  split at this
  · assumption
  · cases this

example : ∃ r, formatChecked defaultOpts 42 = .ok r := (format_default_total 42 (by omega)).1 (by omega)

/-- consequence used by the driver's `format.sweepblock` handler: with default options the failing sizes in
    `[a, b)` are exactly those below 42 -/
theorem format_default_fails_iff (t : Nat) (ht : t < 4294967296) :
    (∀ r, formatChecked defaultOpts t ≠ .ok r) ↔ t < 42 := by
  obtain ⟨h1, h2⟩ := format_default_total t ht
  constructor
  · intro h
    apply Nat.lt_of_not_le; intro h42
    obtain ⟨r, hr⟩ := h1 h42
    exact h r hr
  · intro h r hr
    rw [h2 h] at hr; cases hr

end FatVerif.C06
