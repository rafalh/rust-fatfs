import FatVerif.Proofs.Stamping
import FatVerif.Props.C14
import FatVerif.Props.C18
import FatVerif.Proofs.ImgReplay
/-!
# C18.4 — the stamping rules, as theorems about the model's programs

All time values come from the configured clock: the primitive ops `Op.now` / `Op.today` return the device's clock
counter `d.clock` and change nothing.  The counter advances once per API operation, at its start (`Dev.resetOp`,
`resetOp_clock`), never inside one (`NoClockChange`): whatever an operation does, every stamp it writes is derived from
the one value `d.clock` it started with, however many `TimeProvider` calls it makes.  `clockDateTime`/`clockDate`
(Model/File.lean) turn the counter into the `DateTime`/`Date` the harness' `TimeProvider` returns; they always lie in
the ranges `Date::new`/`Time::new` accept.
-/
namespace FatVerif.C18

/-! ## (0) one clock value per API operation -/

/-- **`NoClockChange`** — no program changes the clock: for EVERY program `p` (device calls, clock reads, error
    handlers, destructors), every device and every outcome, the clock counter and mode after the run are those before.
    Hence all `now`/`today` reads inside one API operation return the same value. -/
theorem NoClockChange {α : Type} (p : Prog α) (d : Dev) {r : Except Err α} {d' : Dev} (hr : run p d = (r, d')) :
    d'.clock = d.clock ∧ d'.tick = d.tick :=
  run_sameClock hr

/-- **`resetOp_clock`** — the only place the clock moves: the start of an API operation advances it by one step in
    tick mode and not at all with the constant clock. -/
theorem resetOp_clock (d : Dev) (failAt : Option Nat) :
    (d.resetOp failAt).clock = (if d.tick then d.clock + Dev.clockStep else d.clock) ∧
    (d.resetOp failAt).tick = d.tick :=
  FatVerif.resetOp_clock d failAt

/-- a clock read is a pure observation of the operation's clock value -/
theorem clock_read (d : Dev) : run Prog.now d = (.ok d.clock, d) ∧ run Prog.today d = (.ok d.clock, d) :=
  ⟨run_now d, run_today d⟩

/-! ## (1) creation stamps all three from ONE clock value -/

/-- **`createSfnEntry_stamps`** — on any device `create_sfn_entry` succeeds and leaves the device exactly as it was
    (no device call, clock untouched); the record has created = the operation's clock value at 10 ms, accessed = its
    date, modified = the clock value at 2 s — all three from the single value `d.clock`. -/
theorem createSfnEntry_stamps (sn : List Nat) (attrs : Nat) (first : Option Nat) (d : Dev) :
    ∃ r : DirFileEntryData, run (createSfnEntry sn attrs first) d = (.ok r, d) ∧
      r.created = ⟨clockDate d.clock, (clockTime d.clock).round10⟩ ∧
      r.accessed = clockDate d.clock ∧
      r.modified = ⟨clockDate d.clock, (clockTime d.clock).round2s⟩ ∧
      r.name = sn ∧ r.attrs = attrs := by
  refine ⟨_, createSfnEntry_run sn attrs first d, ?_, ?_, ?_, rfl, rfl⟩
  · exact DirFileEntryData.created_setCreated ((DirFileEntryData.new sn attrs).setFirstCluster first d.fs.fatType)
      (clockDateTime d.clock) (clockDate_inRange _) (clockTime_inRange _)
  · exact DirFileEntryData.accessed_setAccessed
      (((DirFileEntryData.new sn attrs).setFirstCluster first d.fs.fatType).setCreated (clockDateTime d.clock))
      (clockDate d.clock) (clockDate_inRange _)
  · exact DirFileEntryData.modified_setModified _ (clockDateTime d.clock) (clockDate_inRange _) (clockTime_inRange _)

/-- what the per-operation clock buys: a record created ANYWHERE inside an operation — after any prefix program `p`,
    whatever `p` did and however often it read the clock — is stamped with the value the operation started with -/
theorem createSfnEntry_after {β : Type} (p : Prog β) (sn : List Nat) (attrs : Nat) (first : Option Nat) (d : Dev)
    {r : DirFileEntryData} {d' : Dev}
    (hr : run (Prog.bind p fun _ => createSfnEntry sn attrs first) d = (.ok r, d')) :
    r.created = ⟨clockDate d.clock, (clockTime d.clock).round10⟩ ∧ r.accessed = clockDate d.clock ∧
    r.modified = ⟨clockDate d.clock, (clockTime d.clock).round2s⟩ := by
  obtain ⟨b, d1, h1, h2⟩ := run_bind_ok_inv hr
  -- `create_sfn_entry` runs on `d1`, whose clock is still `d`'s
  obtain ⟨r', hrun, hc, ha, hm, _⟩ := createSfnEntry_stamps sn attrs first d1
  rw [hrun] at h2
  cases h2
  rw [← (run_sameClock h1).1]
  exact ⟨hc, ha, hm⟩

/-- a device in tick mode whose clock reads 2020-02-02 12:34:57.789 during the current operation -/
def tickDev : Dev := { C14ex.dev16 with tick := true, clock := 45297789 }

example : clockDateTime tickDev.clock = ⟨⟨2020, 2, 2⟩, ⟨12, 34, 57, 789⟩⟩ := by decide

example :
    ((run (createSfnEntry (List.replicate 11 65) 0x20 none) tickDev).1.toOption.map fun r =>
        (r.created, r.accessed, r.modified)) =
      some (⟨⟨2020, 2, 2⟩, ⟨12, 34, 57, 780⟩⟩, ⟨2020, 2, 2⟩, ⟨⟨2020, 2, 2⟩, ⟨12, 34, 56, 0⟩⟩) ∧
    (run (createSfnEntry (List.replicate 11 65) 0x20 none) tickDev).2.clock = 45297789 ∧
    (tickDev.resetOp none).clock = 45297789 + 2010 ∧ ((C14ex.dev16).resetOp none).clock = C14ex.dev16.clock := by
  decide +kernel

/-! ## (2) a write that stores data stamps modified -/

/-- **`write_stamps_modified`** — a successful `File::write` never changes the clock; returning `n > 0` on a handle
    with a directory entry it leaves the editor's modified stamp reading back the operation's clock value `d.clock` at
    2 s resolution, and created, accessed and the entry position as before.  Returning 0 leaves every time field (and
    the position) of the editor as it was.
    (The editor itself may still change on a 0-byte return: if a first cluster was allocated before a device write
    that stored nothing, `first_cluster` is already recorded — as in `file.rs`.) -/
theorem write_stamps_modified (f : FileH) (buf : List Nat) (d : Dev) {n : Nat} {f' : FileH} {d' : Dev}
    (hr : run (f.write buf) d = (.ok (n, f'), d')) :
    (d'.clock = d.clock ∧ d'.tick = d.tick) ∧
    (n = 0 → SameStamps f.entry f'.entry) ∧
    (0 < n → ∀ e, f.entry = some e →
      ∃ e', f'.entry = some e' ∧
        e'.data.modified = ⟨clockDate d.clock, (clockTime d.clock).round2s⟩ ∧
        e'.data.created = e.data.created ∧ e'.data.accessed = e.data.accessed ∧ e'.pos = e.pos) := by
  have h := write_stamps f buf d hr
  exact ⟨h.1, h.2.1, fun hn => (h.2.2 hn).2⟩

/-- the root-directory handle has no entry to stamp, before or after -/
theorem write_no_entry (f : FileH) (buf : List Nat) (d : Dev) {n : Nat} {f' : FileH} {d' : Dev}
    (hr : run (f.write buf) d = (.ok (n, f'), d')) (hf : f.entry = none) : f'.entry = none := by
  have h := write_stamps f buf d hr
  rcases Nat.eq_zero_or_pos n with hn | hn
  · have hs := h.2.1 hn
    rw [hf] at hs
    exact hs.none_inv
  · exact (h.2.2 hn).1 hf

/-- an empty buffer stores nothing: handle and clock exactly as before -/
theorem write_empty (f : FileH) (d : Dev) : run (f.write []) d = (.ok (0, f), d) := by
  simp [FileH.write, bind, pure, Prog.getFs, run, stepOp]

/-- a successful 3-byte write: 3 bytes stored, modified := 12:34:56 (2 s) of the operation's clock, clock unchanged -/
example :
    ((run (C14ex.dirtyFile.write [7, 8, 9]) tickDev).1.toOption.map fun r =>
        (r.1, r.2.entry.map fun e => (e.data.modified, e.data.created, e.dirty))) =
      some (3, some (⟨⟨2020, 2, 2⟩, ⟨12, 34, 56, 0⟩⟩, ⟨⟨1980, 0, 0⟩, ⟨0, 0, 0, 0⟩⟩, true)) ∧
    (run (C14ex.dirtyFile.write [7, 8, 9]) tickDev).2.clock = 45297789 := by
  decide +kernel

/-! ## (3) a read stamps accessed only under the option -/

/-- **`read_stamps_accessed`** — a successful `File::read` never changes the clock, and
    * with `update_accessed_date` off the editor is unchanged;
    * in general, if the editor changed at all then the option is on, data was returned, and the new editor is the old
      one after `set_accessed (date of the operation's clock value d.clock)`: its record differs from the old one in
      no field other than `access_date`, `accessed()` returns the clock's date, created / modified / position are as
      before. -/
theorem read_stamps_accessed (f : FileH) (n : Nat) (d : Dev) {bs : List Nat} {f' : FileH} {d' : Dev}
    (hr : run (f.read n) d = (.ok (bs, f'), d')) :
    (d'.clock = d.clock ∧ d'.tick = d.tick) ∧
    (d.fs.accDate = false → f'.entry = f.entry) ∧
    (f'.entry = f.entry ∨
     (d.fs.accDate = true ∧ bs ≠ [] ∧
      ∃ e e', f.entry = some e ∧ f'.entry = some e' ∧ e' = e.setAccessed (clockDate d.clock) ∧
        e'.data = { e.data with accessDate := e'.data.accessDate } ∧
        e'.data.accessed = clockDate d.clock ∧
        e'.data.created = e.data.created ∧ e'.data.modified = e.data.modified ∧ e'.pos = e.pos)) := by
  obtain ⟨hclk, h⟩ := read_stamps f n d hr
  refine ⟨hclk, fun hoff => ?_, ?_⟩
  · rcases h with h | ⟨hon, _⟩
    · exact h
    · rw [hoff] at hon; cases hon
  · rcases h with h | ⟨hon, hbs, e, he, he'⟩
    · exact Or.inl h
    · have hrd := DirEntryEditor.setAccessed_reads e (clockDate d.clock) (clockDate_inRange _)
      exact Or.inr ⟨hon, hbs, e, _, he, he', rfl, DirEntryEditor.setAccessed_data e _, hrd.1, hrd.2.1,
        hrd.2.2.1, hrd.2.2.2⟩

/-- a 5-byte file at cluster 2, clean entry -/
def dataFile : FileH :=
  { firstCluster := some 2, currentCluster := none, offset := 0,
    entry := some { data := { DirFileEntryData.new (List.replicate 11 65) 0x20 with size := 5 }, pos := 1056,
                    dirty := false } }

/-- option on: 3 bytes read, accessed := the clock's date, latch set; option off: editor unchanged; clock unchanged -/
example :
    ((run (dataFile.read 3) { tickDev with fs := { tickDev.fs with accDate := true } }).1.toOption.map fun r =>
        (r.1.length, r.2.entry.map fun e => (e.data.accessed, e.dirty))) = some (3, some (⟨2020, 2, 2⟩, true)) ∧
    (run (dataFile.read 3) { tickDev with fs := { tickDev.fs with accDate := true } }).2.clock = 45297789 ∧
    ((run (dataFile.read 3) tickDev).1.toOption.map fun r => (r.1.length, decide (r.2.entry = dataFile.entry))) =
      some (3, true) ∧
    (run (dataFile.read 3) tickDev).2.clock = 45297789 := by
  decide +kernel

/-! ## (4) an explicit `set_*` followed by a write-less flush is what gets stored -/

/-- `File::flush` on a handle whose editor is `ed` (32-byte record): the editor ends up clean; if it was dirty the
    record is written at its position (tiled by the write records just before the closing device flush), if it was
    clean nothing but the device flush happens; the clock is unchanged. -/
theorem flush_with_entry (f1 : FileH) (ed : DirEntryEditor) (h1 : f1.entry = some ed)
    (hlen : ed.data.serialize.length = 32) (d : Dev) {f' : FileH} {d' : Dev}
    (hr : run f1.flush d = (.ok f', d')) :
    f'.entry = some { ed with dirty := false } ∧
    (ed.dirty = true →
      ∃ items, d'.log = .flush :: (items.reverse ++ d.log) ∧ Pieces ed.pos ed.data.serialize items) ∧
    (ed.dirty = false → d'.log = .flush :: d.log) ∧
    SameClock d d' := by
  obtain ⟨_, _, hd, hc⟩ := flush_persists f1 d hr
  have htake : ed.data.serialize.take 32 = ed.data.serialize := List.take_of_length_le (by omega)
  refine ⟨?_, fun hdirty => ?_, fun hclean => ?_, run_sameClock hr⟩
  · cases hdd : ed.dirty with
    | true => rw [(hd ed h1 hdd).1]
    | false =>
      have := (hc (fun e0 he0 => by rw [h1] at he0; cases he0; exact hdd)).1
      rw [this, h1]
      congr 1
      cases ed; simp only at hdd; subst hdd; rfl
  · obtain ⟨_, items, hl, hp⟩ := hd ed h1 hdirty
    rw [htake] at hp
    exact ⟨items, hl, hp⟩
  · exact (hc (fun e0 he0 => by rw [h1] at he0; cases he0; exact hclean)).2

/-- **an edited entry, flushed**: the handle holds `e'` where the directory entry held `e` (same position; `e'` still a
    well-formed short record).  The flush leaves the editor clean, writes the record of `e'` at the position iff `e'` is
    dirty, and those 32 bytes read back as `e'.data`.  The three `set_*_survives_flush` theorems are this for
    `e' := e.set* v`, with what that setter leaves in the record (`set*_reads`, `serialize_set*`). -/
theorem flush_edited {e : DirEntryEditor} (e' : DirEntryEditor) (hpos : e'.pos = e.pos)
    (hw : e'.data.WF ∧ attrsIsLfn e'.data.attrs = false) (f1 : FileH) (h1 : f1.entry = some e') (d : Dev)
    {f' : FileH} {d' : Dev} (hr : run f1.flush d = (.ok f', d')) :
    f'.entry = some { e' with dirty := false } ∧
    (e'.dirty = true → ∃ items, d'.log = .flush :: (items.reverse ++ d.log) ∧ Pieces e.pos e'.data.serialize items) ∧
    (e'.dirty = false → d'.log = .flush :: d.log) ∧
    DirEntryData.deserialize e'.data.serialize = .file e'.data ∧ SameClock d d' := by
  obtain ⟨h1, h2, h3, h4⟩ := flush_with_entry _ _ h1 (DirFileEntryData.serialize_length _ hw.1.name_len) d hr
  rw [hpos] at h2
  exact ⟨h1, h2, h3, DirEntryData.deserialize_serialize_file _ hw.1 hw.2, h4⟩

/-- **`set_created_survives_flush`** — `f.set_created(dt)` then `flush` with no write in between:
    the handle ends up clean; if the value differs from the stored one, the record written at the entry position is
    the old record with bytes 13–17 replaced by the encoded hi-res byte, time and date, nothing else; whatever was
    written, the 32 bytes the entry now consists of deserialize to a short entry whose `created()` is `dt` at 10 ms
    and whose accessed / modified are as before (set → flush → reopen at model level). -/
theorem set_created_survives_flush (f : FileH) (e : DirEntryEditor) (hf : f.entry = some e) (hw : e.data.WF)
    (hl : attrsIsLfn e.data.attrs = false) (y m dd h mi s ms : Nat) (dt : DateTime)
    (hdt : DateTime.new? y m dd h mi s ms = some dt) (d : Dev) {f' : FileH} {d' : Dev}
    (hr : run (f.setCreated dt).flush d = (.ok f', d')) :
    f'.entry = some { e.setCreated dt with dirty := false } ∧ (e.setCreated dt).pos = e.pos ∧
    ((e.setCreated dt).dirty = true →
      ∃ items, d'.log = .flush :: (items.reverse ++ d.log) ∧ Pieces e.pos (e.setCreated dt).data.serialize items) ∧
    ((e.setCreated dt).dirty = false → d'.log = .flush :: d.log) ∧
    (dt ≠ e.data.created → (e.setCreated dt).dirty = true ∧
      (e.setCreated dt).data.serialize =
        e.data.serialize.take 13 ++ ([dt.time.encode.2] ++ bytesLe16 dt.time.encode.1 ++ bytesLe16 dt.date.encode) ++
          e.data.serialize.drop 18) ∧
    (∃ g, DirEntryData.deserialize (e.setCreated dt).data.serialize = .file g ∧
      g.created = ⟨⟨y, m, dd⟩, ⟨h, mi, s, ms / 10 * 10⟩⟩ ∧ g.accessed = e.data.accessed ∧
      g.modified = e.data.modified) ∧
    SameClock d d' := by
  obtain ⟨rd, rt, rfl⟩ := DateTime.new?_eq_some hdt
  have rd' := rd; have rt' := rt
  unfold Date.inRange at rd'; unfold Time.inRange at rt'
  have hreads := DirEntryEditor.setCreated_reads e ⟨⟨y, m, dd⟩, ⟨h, mi, s, ms⟩⟩ rd rt
  obtain ⟨h1, h2, h3, h4, h5⟩ := flush_edited (e := e) (e.setCreated ⟨⟨y, m, dd⟩, ⟨h, mi, s, ms⟩⟩) hreads.2.2.2
    (by unfold DirEntryEditor.setCreated; split
        · exact ⟨hw.setCreated _ (by simp only; omega) (by simp only; omega), hl⟩
        · exact ⟨hw, hl⟩)
    (f.setCreated _) (by simp [FileH.setCreated, hf]) d hr
  refine ⟨h1, hreads.2.2.2, h2, h3, fun hne => ?_, ⟨_, h4, ?_, hreads.2.1, hreads.2.2.1⟩, h5⟩
  · rw [show e.setCreated ⟨⟨y, m, dd⟩, ⟨h, mi, s, ms⟩⟩ = { e with data := e.data.setCreated _, dirty := true } by
      unfold DirEntryEditor.setCreated; rw [if_pos hne]]
    exact ⟨rfl, DirFileEntryData.serialize_setCreated e.data _ hw.name_len⟩
  · rw [hreads.1]; rfl

/-- **`set_modified_survives_flush`** — as above for `set_modified`: bytes 22–25, read back at 2 s. -/
theorem set_modified_survives_flush (f : FileH) (e : DirEntryEditor) (hf : f.entry = some e) (hw : e.data.WF)
    (hl : attrsIsLfn e.data.attrs = false) (y m dd h mi s ms : Nat) (dt : DateTime)
    (hdt : DateTime.new? y m dd h mi s ms = some dt) (d : Dev) {f' : FileH} {d' : Dev}
    (hr : run (f.setModified dt).flush d = (.ok f', d')) :
    f'.entry = some { e.setModified dt with dirty := false } ∧ (e.setModified dt).pos = e.pos ∧
    ((e.setModified dt).dirty = true →
      ∃ items, d'.log = .flush :: (items.reverse ++ d.log) ∧ Pieces e.pos (e.setModified dt).data.serialize items) ∧
    ((e.setModified dt).dirty = false → d'.log = .flush :: d.log) ∧
    (dt ≠ e.data.modified → (e.setModified dt).dirty = true ∧
      (e.setModified dt).data.serialize =
        e.data.serialize.take 22 ++ (bytesLe16 dt.time.encode.1 ++ bytesLe16 dt.date.encode) ++
          e.data.serialize.drop 26) ∧
    (∃ g, DirEntryData.deserialize (e.setModified dt).data.serialize = .file g ∧
      g.modified = ⟨⟨y, m, dd⟩, ⟨h, mi, s / 2 * 2, 0⟩⟩ ∧ g.created = e.data.created ∧
      g.accessed = e.data.accessed) ∧
    SameClock d d' := by
  obtain ⟨rd, rt, rfl⟩ := DateTime.new?_eq_some hdt
  have rd' := rd; have rt' := rt
  unfold Date.inRange at rd'; unfold Time.inRange at rt'
  have hreads := DirEntryEditor.setModified_reads e ⟨⟨y, m, dd⟩, ⟨h, mi, s, ms⟩⟩ rd rt
  obtain ⟨h1, h2, h3, h4, h5⟩ := flush_edited (e := e) (e.setModified ⟨⟨y, m, dd⟩, ⟨h, mi, s, ms⟩⟩) hreads.2.2.2
    (by unfold DirEntryEditor.setModified; split
        · exact ⟨hw.setModified _ (by simp only; omega) (by simp only; omega), hl⟩
        · exact ⟨hw, hl⟩)
    (f.setModified _) (by simp [FileH.setModified, hf]) d hr
  refine ⟨h1, hreads.2.2.2, h2, h3, fun hne => ?_, ⟨_, h4, ?_, hreads.2.1, hreads.2.2.1⟩, h5⟩
  · rw [show e.setModified ⟨⟨y, m, dd⟩, ⟨h, mi, s, ms⟩⟩ = { e with data := e.data.setModified _, dirty := true } by
      unfold DirEntryEditor.setModified; rw [if_pos hne]]
    exact ⟨rfl, DirFileEntryData.serialize_setModified e.data _ hw.name_len⟩
  · rw [hreads.1]; rfl

/-- **`set_accessed_survives_flush`** — as above for `set_accessed`: bytes 18–19, the date exactly. -/
theorem set_accessed_survives_flush (f : FileH) (e : DirEntryEditor) (hf : f.entry = some e) (hw : e.data.WF)
    (hl : attrsIsLfn e.data.attrs = false) (y m dd : Nat) (dte : Date) (hdt : Date.new? y m dd = some dte) (d : Dev)
    {f' : FileH} {d' : Dev} (hr : run (f.setAccessed dte).flush d = (.ok f', d')) :
    f'.entry = some { e.setAccessed dte with dirty := false } ∧ (e.setAccessed dte).pos = e.pos ∧
    ((e.setAccessed dte).dirty = true →
      ∃ items, d'.log = .flush :: (items.reverse ++ d.log) ∧ Pieces e.pos (e.setAccessed dte).data.serialize items) ∧
    ((e.setAccessed dte).dirty = false → d'.log = .flush :: d.log) ∧
    (dte ≠ e.data.accessed → (e.setAccessed dte).dirty = true ∧
      (e.setAccessed dte).data.serialize =
        e.data.serialize.take 18 ++ bytesLe16 dte.encode ++ e.data.serialize.drop 20) ∧
    (∃ g, DirEntryData.deserialize (e.setAccessed dte).data.serialize = .file g ∧
      g.accessed = ⟨y, m, dd⟩ ∧ g.created = e.data.created ∧ g.modified = e.data.modified) ∧
    SameClock d d' := by
  obtain ⟨rd, rfl⟩ := Date.new?_eq_some hdt
  have rd' := rd
  unfold Date.inRange at rd'
  have hreads := DirEntryEditor.setAccessed_reads e ⟨y, m, dd⟩ rd
  obtain ⟨h1, h2, h3, h4, h5⟩ := flush_edited (e := e) (e.setAccessed ⟨y, m, dd⟩) hreads.2.2.2
    (by unfold DirEntryEditor.setAccessed; split
        · exact ⟨hw.setAccessed _ (by simp only; omega), hl⟩
        · exact ⟨hw, hl⟩)
    (f.setAccessed _) (by simp [FileH.setAccessed, hf]) d hr
  refine ⟨h1, hreads.2.2.2, h2, h3, fun hne => ?_, ⟨_, h4, hreads.1, hreads.2.1, hreads.2.2.1⟩, h5⟩
  rw [show e.setAccessed ⟨y, m, dd⟩ = { e with data := e.data.setAccessed _, dirty := true } by
    unfold DirEntryEditor.setAccessed; rw [if_pos hne]]
  exact ⟨rfl, DirFileEntryData.serialize_setAccessed e.data _ hw.name_len⟩

/-- the image after a run that started from a well-formed image with an empty log, read through the run's log: no
    page of the image has to be looked at (what makes the example below cheap to evaluate) -/
theorem img_read_of_run {α} (p : Prog α) (d : Dev) (hw : d.img.WF) (hlog : d.log = []) (off n : Nat) :
    (run p d).2.img.read off n =
      (List.range n).map fun k => replay d.img.getByte ((run p d).2.log.map LogItem.norm) (off + k) := by
  obtain ⟨_, items, hl, hb⟩ := run_img_eq_replay p d _ _ rfl hw
  rw [hlog, List.append_nil] at hl
  unfold Img.read
  simp only [hb, hl]

/-- a clean handle on `README.TXT` (the sample record of `Props/C18.lean`) at device offset 1056 -/
def cleanFile : FileH :=
  { firstCluster := some 2, currentCluster := none, offset := 0,
    entry := some { data := sampleEntry, pos := 1056, dirty := false } }

/-- `set_created(2021-03-04 05:06:07.089)` + flush on `tickDev`: succeeds, 12 chunk writes from offset 1056 then the
    device flush, the bytes at 1069.. are hi-res 108, time 0x28C3, date 0x5264, and the clock is unchanged -/
example :
    resErr (run (cleanFile.setCreated ⟨⟨2021, 3, 4⟩, ⟨5, 6, 7, 89⟩⟩).flush tickDev).1 = none ∧
    (run (cleanFile.setCreated ⟨⟨2021, 3, 4⟩, ⟨5, 6, 7, 89⟩⟩).flush tickDev).2.log.length = 13 ∧
    (run (cleanFile.setCreated ⟨⟨2021, 3, 4⟩, ⟨5, 6, 7, 89⟩⟩).flush tickDev).2.img.read 1069 5 =
      [108, 0xC3, 0x28, 0x64, 0x52] ∧
    (run (cleanFile.setCreated ⟨⟨2021, 3, 4⟩, ⟨5, 6, 7, 89⟩⟩).flush tickDev).2.clock = tickDev.clock ∧
    DateTime.new? 2021 3 4 5 6 7 89 = some ⟨⟨2021, 3, 4⟩, ⟨5, 6, 7, 89⟩⟩ ∧
    sampleEntry.WF ∧ attrsIsLfn sampleEntry.attrs = false := by
  refine ⟨by decide +kernel, by decide +kernel, ?_, by decide +kernel, by decide, sampleEntry_wf, by decide⟩
  rw [img_read_of_run _ _ (Img.wf_empty _) rfl]
  decide +kernel

/-! ## (5) rename keeps the time stamps -/

/-- **`rename_keeps_times`** — `renamed` changes the 11 name bytes only: all time fields, hence all three getters, and
    bytes 11–31 of the serialised record (in particular 13–19 and 22–25) are the source's. -/
theorem rename_keeps_times (e : DirFileEntryData) (sn : List Nat) (he : e.name.length = 11) (hs : sn.length = 11) :
    (e.renamed sn).timeFields = e.timeFields ∧
    (e.renamed sn).created = e.created ∧ (e.renamed sn).accessed = e.accessed ∧
    (e.renamed sn).modified = e.modified ∧
    (e.renamed sn).serialize = sn ++ e.serialize.drop 11 ∧
    (e.renamed sn).serialize.drop 11 = e.serialize.drop 11 := by
  have h1 : (e.renamed sn).serialize = sn ++ e.serialize.drop 11 := by
    simp only [DirFileEntryData.serialize, DirFileEntryData.renamed]
    rw [List.drop_left' he]
    rfl
  refine ⟨rfl, rfl, rfl, rfl, h1, ?_⟩
  rw [h1, List.drop_left' hs]

/-- the record `rename_internal` writes for the moved entry is the source's record under the new short name: a
    successful `rename_internal` either found the destination name to denote the source entry itself (nothing is
    written) or wrote, through `write_entry`, a `DirEntry` whose record has the source's time fields and getters. -/
theorem rename_record_keeps_times (env : Env) (st : DirStream) (srcName : String) (dst : DirStream)
    (dstName : String) (d : Dev) {d' : Dev}
    (hr : run (renameInternal env st srcName dst dstName) d = (.ok (), d')) :
    ∃ e dA, run (findEntry env st srcName none) d = (.ok e, dA) ∧
      ((∃ dstE : DirEntry, e.entryPos = dstE.entryPos) ∨
       (∃ sn dB newEntry dC, run (writeEntry dst dstName (e.data.renamed sn)) dB = (.ok newEntry, dC) ∧
          newEntry.data = e.data.renamed sn ∧
          newEntry.data.timeFields = e.data.timeFields ∧ newEntry.data.created = e.data.created ∧
          newEntry.data.accessed = e.data.accessed ∧ newEntry.data.modified = e.data.modified)) := by
  obtain ⟨e, dA, hf, h⟩ := renameInternal_record env st srcName dst dstName d hr
  refine ⟨e, dA, hf, ?_⟩
  rcases h with h | ⟨sn, dB, ne, dC, hw, hd⟩
  · exact Or.inl h
  · exact Or.inr ⟨sn, dB, ne, dC, hw, hd, by rw [hd]; rfl, by rw [hd]; rfl, by rw [hd]; rfl, by rw [hd]; rfl⟩

example : (sampleEntry.renamed [78, 69, 87, 32, 32, 32, 32, 32, 66, 73, 78]).serialize =
    [78, 69, 87, 32, 32, 32, 32, 32, 66, 73, 78] ++ sampleEntry.serialize.drop 11 ∧
    (sampleEntry.renamed [78, 69, 87, 32, 32, 32, 32, 32, 66, 73, 78]).created = ⟨⟨2020, 2, 2⟩, ⟨12, 37, 47, 230⟩⟩ := by
  decide

/-! ## (6) setting the stored value is not a change -/

/-- **`set_same_value_not_dirty`** — each setter called with the value its getter returns is the identity on the
    editor (the latch stays as it was, so a clean editor stays clean); called with any other value it stores the
    encoded value and sets the latch. -/
theorem set_same_value_not_dirty (ed : DirEntryEditor) :
    ed.setCreated ed.data.created = ed ∧ ed.setAccessed ed.data.accessed = ed ∧
    ed.setModified ed.data.modified = ed ∧
    (∀ dt, dt ≠ ed.data.created →
      ed.setCreated dt = { ed with data := ed.data.setCreated dt, dirty := true }) ∧
    (∀ dd, dd ≠ ed.data.accessed →
      ed.setAccessed dd = { ed with data := ed.data.setAccessed dd, dirty := true }) ∧
    (∀ dt, dt ≠ ed.data.modified →
      ed.setModified dt = { ed with data := ed.data.setModified dt, dirty := true }) := by
  refine ⟨DirEntryEditor.setCreated_same ed, DirEntryEditor.setAccessed_same ed, DirEntryEditor.setModified_same ed,
    fun dt h => ?_, fun dd h => ?_, fun dt h => ?_⟩
  · unfold DirEntryEditor.setCreated; rw [if_pos h]
  · unfold DirEntryEditor.setAccessed; rw [if_pos h]
  · unfold DirEntryEditor.setModified; rw [if_pos h]

/-- consequence at the handle: re-setting all three stamps of a clean handle to their stored values and flushing
    writes nothing back — the only log item is the device flush, and the handle is unchanged -/
theorem set_same_value_no_writeback (f : FileH) (e : DirEntryEditor) (hf : f.entry = some e) (hclean : e.dirty = false)
    (d : Dev) {f' : FileH} {d' : Dev}
    (hr : run (((f.setCreated e.data.created).setAccessed e.data.accessed).setModified e.data.modified).flush d =
      (.ok f', d')) :
    f' = f ∧ d'.log = .flush :: d.log := by
  have hsame : ((f.setCreated e.data.created).setAccessed e.data.accessed).setModified e.data.modified = f := by
    cases f with
    | mk fc cc off entry =>
      simp only at hf
      subst hf
      simp [FileH.setCreated, FileH.setAccessed, FileH.setModified, DirEntryEditor.setCreated_same,
        DirEntryEditor.setAccessed_same, DirEntryEditor.setModified_same]
  rw [hsame] at hr
  obtain ⟨_, _, _, hc⟩ := flush_persists f d hr
  exact hc (fun e0 he0 => by rw [hf] at he0; cases he0; exact hclean)

/-- the converse at the handle: a different value makes the next flush write the record back -/
theorem set_other_value_writeback (f : FileH) (e : DirEntryEditor) (hf : f.entry = some e) (hn : e.data.name.length = 11)
    (dt : DateTime) (hne : dt ≠ e.data.modified) (d : Dev) {f' : FileH} {d' : Dev}
    (hr : run (f.setModified dt).flush d = (.ok f', d')) :
    ∃ items, d'.log = .flush :: (items.reverse ++ d.log) ∧ Pieces e.pos (e.data.setModified dt).serialize items := by
  have hed := (set_same_value_not_dirty e).2.2.2.2.2 dt hne
  have hentry : (f.setModified dt).entry = some (e.setModified dt) := by simp [FileH.setModified, hf]
  have hlen : (e.setModified dt).data.serialize.length = 32 := by
    rw [hed]; exact DirFileEntryData.serialize_length _ hn
  obtain ⟨_, h2, _, _⟩ := flush_with_entry _ _ hentry hlen d hr
  obtain ⟨items, hl, hp⟩ := h2 (by rw [hed])
  rw [hed] at hp
  exact ⟨items, hl, hp⟩

example : cleanFile.entry.map (fun e => decide (e.setModified e.data.modified = e)) = some true ∧
    cleanFile.entry.map (fun e => (e.setModified ⟨⟨2021, 3, 4⟩, ⟨5, 6, 7, 89⟩⟩).dirty) = some true ∧
    (run (cleanFile.setModified ⟨⟨2020, 2, 2⟩, ⟨12, 34, 56, 0⟩⟩).flush tickDev).2.log = [.flush] := by
  refine ⟨by decide, by decide, by decide +kernel⟩

end FatVerif.C18
