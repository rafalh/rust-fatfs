import FatVerif.Proofs.Time
import FatVerif.Proofs.DirEntry
/-!
# C18 — timestamps (DESIGN.md §6 C18 items 1–3) and C08.2 `shortName_spec`

Every theorem is about the executable model in `FatVerif/Model/{Time,DirEntry}.lean`, which the `time` pure suite
compares with the real `time.rs` / `dir_entry.rs` on the complete date domain, the complete 10 ms time domain
(thorough tier) and ~10^5 directory slots.  Each theorem is followed by an `example` showing that its hypotheses are
satisfiable by a concrete, non-trivial value.
-/
namespace FatVerif.C18

/-! ## 1. dates -/

/-- **C18.1 `date_roundtrip`** — every date `Date::new` accepts (1980..2107 × 1..12 × 1..31, all 47 616 of them, by
    arithmetic) is stored in 16 bits and read back exactly. -/
theorem date_roundtrip (y m d : Nat) (dt : Date) (h : Date.new? y m d = some dt) :
    dt = ⟨y, m, d⟩ ∧ dt.encode < 65536 ∧ Date.decode dt.encode = dt := by
  obtain ⟨r, rfl⟩ := Date.new?_eq_some h
  unfold Date.inRange at r
  exact ⟨rfl, Date.encode_lt _ (by simp only; omega),
    Date.decode_encode _ (by simp only; omega) (by simp only; omega) (by simp only; omega) (by simp only; omega)⟩

example : Date.new? 2024 2 29 = some ⟨2024, 2, 29⟩ ∧ (⟨2024, 2, 29⟩ : Date).encode = 22621 := by decide

/-- one date of the sweep below: `Date.decode (Date.encode ⟨y, m, d⟩)` compared field by field with `⟨y, m, d⟩`,
    written with the `Nat` primitives, each of which the kernel evaluates in one step on numerals (through `+`, `%`,
    `|||` it would unfold the instances 47 616 times); `dateSurvives_eq` ties it to the model's two functions by
    unfolding alone -/
def dateSurvives (y m d : Nat) : Bool :=
  let raw := Nat.lor (Nat.lor (Nat.mod (Nat.mul (Nat.sub y 1980) 512) 65536) (Nat.mod (Nat.mul m 32) 65536)) d
  Nat.beq (Nat.add (Nat.div raw 512) 1980) y && Nat.beq (Nat.mod (Nat.div raw 32) 16) m && Nat.beq (Nat.mod raw 32) d

theorem dateSurvives_eq {y m d : Nat} (h : dateSurvives y m d = true) :
    Date.decode (Date.encode ⟨y, m, d⟩) = ⟨y, m, d⟩ := by
  simp only [dateSurvives, Bool.and_eq_true] at h
  have e1 := Nat.eq_of_beq_eq_true h.1.1
  have e2 := Nat.eq_of_beq_eq_true h.1.2
  have e3 := Nat.eq_of_beq_eq_true h.2
  change Date.mk _ _ _ = _
  congr 1

/-- `p k` for every `k < n`, by recursion on the numeral (the kernel steps through it without building a list) -/
def allBelow (p : Nat → Bool) (n : Nat) : Bool := Nat.rec true (fun k ih => p k && ih) n

theorem allBelow_spec {p : Nat → Bool} : ∀ {n : Nat}, allBelow p n = true → ∀ k < n, p k = true
  | 0, _, k, hk => absurd hk (Nat.not_lt_zero k)
  | n + 1, h, k, hk => by
    have h' : (p n && allBelow p n) = true := h
    rw [Bool.and_eq_true] at h'
    rcases Nat.lt_succ_iff_lt_or_eq.1 hk with hk | rfl
    · exact allBelow_spec h'.2 k hk
    · exact h'.1

theorem dateSurvives_sweep :
    allBelow (fun y => allBelow (fun m => allBelow (fun d => dateSurvives (1980 + y) (1 + m) (1 + d)) 31) 12) 128 =
      true := by
  decide +kernel

/-- the same statement by kernel evaluation over the complete domain (independent of the arithmetic lemmas) -/
theorem date_roundtrip_enum :
    ∀ y : Fin 128, ∀ m : Fin 12, ∀ d : Fin 31,
      Date.decode (Date.encode ⟨1980 + y.val, 1 + m.val, 1 + d.val⟩) = ⟨1980 + y.val, 1 + m.val, 1 + d.val⟩ :=
  fun y m d => dateSurvives_eq
    (allBelow_spec (allBelow_spec (allBelow_spec dateSurvives_sweep y y.isLt) m m.isLt) d d.isLt)

/-- `Date::new` accepts exactly the documented ranges (anything else is the documented panic) -/
theorem date_new_range (y m d : Nat) :
    (Date.new? y m d).isSome ↔ (1980 ≤ y ∧ y ≤ 2107 ∧ 1 ≤ m ∧ m ≤ 12 ∧ 1 ≤ d ∧ d ≤ 31) := by
  unfold Date.new? Date.inRange
  by_cases hr : 1980 ≤ y ∧ y ≤ 2107 ∧ 1 ≤ m ∧ m ≤ 12 ∧ 1 ≤ d ∧ d ≤ 31
  · simp only [hr, if_true, Option.isSome_some, and_self]
  · simp only [hr, if_false, Option.isSome_none, Bool.false_eq_true]

example : Date.new? 1979 12 31 = none ∧ Date.new? 2108 1 1 = none ∧ Date.new? 2000 13 1 = none ∧
    Date.new? 2000 0 1 = none ∧ Date.new? 2000 1 32 = none ∧ Date.new? 2000 1 0 = none := by decide

/-- conversely every stored u16 survives decode → encode, so `decode` loses nothing -/
theorem date_raw_roundtrip (raw : Nat) (h : raw < 65536) : (Date.decode raw).encode = raw :=
  Date.encode_decode raw h

example : (Date.decode 0xFFFF).encode = 0xFFFF := by decide

/-! ## 2. times -/

/-- **C18.2 `time_roundtrip`** (creation stamp, time + hi-res byte) — for all h < 24, mi < 60, s < 60, ms < 1000 the
    stored pair fits u16 × u8 (hi-res ≤ 199) and decodes to the same time with the milliseconds rounded down to
    10 ms. -/
theorem time_roundtrip (h mi s ms : Nat) (t : Time) (ht : Time.new? h mi s ms = some t) :
    t.encode.1 < 65536 ∧ t.encode.2 < 200 ∧
    Time.decode t.encode.1 t.encode.2 = ⟨h, mi, s, ms / 10 * 10⟩ := by
  obtain ⟨r, rfl⟩ := Time.new?_eq_some ht
  have r' := r
  unfold Time.inRange at r'
  refine ⟨Time.encodeLo_lt _ (by simp only; omega), ?_, ?_⟩
  · simp only [Time.encode]
    rw [Time.encodeHi_eq _ (by simp only; omega)]
    simp only; omega
  · simp only [Time.encode]
    rw [Time.decode_encode _ r]; rfl

example : Time.new? 23 59 59 999 = some ⟨23, 59, 59, 999⟩ ∧ (⟨23, 59, 59, 999⟩ : Time).encode = (0xBF7D, 199) ∧
    Time.decode 0xBF7D 199 = ⟨23, 59, 59, 990⟩ := by decide

/-- the loss is less than 10 ms and never moves the stamp forward -/
theorem time_roundtrip_error (h mi s ms : Nat) (t : Time) (ht : Time.new? h mi s ms = some t) :
    (Time.decode t.encode.1 t.encode.2).millis ≤ ms ∧ ms < (Time.decode t.encode.1 t.encode.2).millis + 10 := by
  rw [(time_roundtrip h mi s ms t ht).2.2]
  simp only; omega

/-- **C18.2 `mtime_roundtrip`** (modification stamp: hi-res byte dropped by `set_modified`, `modified()` decodes with
    0) — 2-second resolution, milliseconds 0. -/
theorem mtime_roundtrip (h mi s ms : Nat) (t : Time) (ht : Time.new? h mi s ms = some t) :
    Time.decode t.encode.1 0 = ⟨h, mi, s / 2 * 2, 0⟩ := by
  obtain ⟨r, rfl⟩ := Time.new?_eq_some ht
  simp only [Time.encode]
  rw [Time.decode_encode_mod _ r]; rfl

example : Time.new? 12 34 57 780 = some ⟨12, 34, 57, 780⟩ ∧
    Time.decode (⟨12, 34, 57, 780⟩ : Time).encode.1 0 = ⟨12, 34, 56, 0⟩ := by decide

/-- the loss is less than 2 s and never moves the stamp forward -/
theorem mtime_roundtrip_error (h mi s ms : Nat) (t : Time) (ht : Time.new? h mi s ms = some t) :
    (Time.decode t.encode.1 0).sec ≤ s ∧ s < (Time.decode t.encode.1 0).sec + 2 := by
  rw [mtime_roundtrip h mi s ms t ht]
  simp only; omega

/-- `Time::new` accepts exactly the documented ranges -/
theorem time_new_range (h mi s ms : Nat) :
    (Time.new? h mi s ms).isSome ↔ (h ≤ 23 ∧ mi ≤ 59 ∧ s ≤ 59 ∧ ms ≤ 999) := by
  unfold Time.new? Time.inRange
  by_cases hr : h ≤ 23 ∧ mi ≤ 59 ∧ s ≤ 59 ∧ ms ≤ 999
  · simp only [hr, if_true, Option.isSome_some, and_self]
  · simp only [hr, if_false, Option.isSome_none, Bool.false_eq_true]

example : Time.new? 24 0 0 0 = none ∧ Time.new? 0 60 0 0 = none ∧ Time.new? 0 0 60 0 = none ∧
    Time.new? 0 0 0 1000 = none := by decide

/-- **C18.2 `adate`** — the access stamp is a date only: `set_accessed` then `accessed()` returns the date exactly, and
    carries no time of day (the field is the 16-bit date). -/
theorem adate (e : DirFileEntryData) (y m d : Nat) (dt : Date) (h : Date.new? y m d = some dt) :
    (e.setAccessed dt).accessed = ⟨y, m, d⟩ ∧ (e.setAccessed dt).accessDate = dt.encode ∧
    (e.setAccessed dt).accessDate < 65536 := by
  obtain ⟨r, rfl⟩ := Date.new?_eq_some h
  have r' := r
  unfold Date.inRange at r'
  exact ⟨DirFileEntryData.accessed_setAccessed e _ r, rfl, Date.encode_lt _ (by simp only; omega)⟩

example : ((DirFileEntryData.new [70, 79, 79, 32, 32, 32, 32, 32, 66, 65, 82] 0x20).setAccessed ⟨2107, 12, 31⟩).accessed
    = ⟨2107, 12, 31⟩ := by decide

/-! ## 3. the time fields of the 32-byte record -/

/-- **C18.3 `entry_time_fields`, frame part** — on the serialised slot `set_created` rewrites exactly bytes 13 (10 ms
    count), 14–15 (time), 16–17 (date); `set_accessed` exactly bytes 18–19; `set_modified` exactly bytes 22–23 (time),
    24–25 (date).  Every other byte of the 32 is the byte that was there. -/
theorem entry_time_fields_frame (e : DirFileEntryData) (hn : e.name.length = 11) (dt : DateTime) (d : Date) :
    (e.setCreated dt).serialize =
      e.serialize.take 13 ++ ([dt.time.encode.2] ++ bytesLe16 dt.time.encode.1 ++ bytesLe16 dt.date.encode) ++
        e.serialize.drop 18 ∧
    (e.setAccessed d).serialize = e.serialize.take 18 ++ bytesLe16 d.encode ++ e.serialize.drop 20 ∧
    (e.setModified dt).serialize =
      e.serialize.take 22 ++ (bytesLe16 dt.time.encode.1 ++ bytesLe16 dt.date.encode) ++ e.serialize.drop 26 :=
  ⟨DirFileEntryData.serialize_setCreated e dt hn, DirFileEntryData.serialize_setAccessed e d hn,
   DirFileEntryData.serialize_setModified e dt hn⟩

/-- the same, pointwise: a byte index outside the stamp's bytes reads the same before and after -/
theorem entry_time_fields_untouched (e : DirFileEntryData) (hn : e.name.length = 11) (dt : DateTime) (d : Date)
    (i : Nat) :
    ((i < 13 ∨ 18 ≤ i) → (e.setCreated dt).serialize.getD i 0 = e.serialize.getD i 0) ∧
    ((i < 18 ∨ 20 ≤ i) → (e.setAccessed d).serialize.getD i 0 = e.serialize.getD i 0) ∧
    ((i < 22 ∨ 26 ≤ i) → (e.setModified dt).serialize.getD i 0 = e.serialize.getD i 0) := by
  have hl := DirFileEntryData.serialize_length e hn
  obtain ⟨h1, h2, h3⟩ := entry_time_fields_frame e hn dt d
  refine ⟨fun hi => ?_, fun hi => ?_, fun hi => ?_⟩
  · rw [h1]; exact splice_getD _ _ 13 18 i (by simp [bytesLe16]) (by omega) hi
  · rw [h2]; exact splice_getD _ _ 18 20 i (by simp [bytesLe16]) (by omega) hi
  · rw [h3]; exact splice_getD _ _ 22 26 i (by simp [bytesLe16]) (by omega) hi

/-- **C18.3, getter part** — after a setter the matching getter returns the rounded value (created: 10 ms, accessed:
    exact date, modified: 2 s / millis 0) and the other two getters are unchanged. -/
theorem entry_time_fields_get (e : DirFileEntryData) (y m d h mi s ms : Nat) (dt : DateTime)
    (hdt : DateTime.new? y m d h mi s ms = some dt) :
    (e.setCreated dt).created = ⟨⟨y, m, d⟩, ⟨h, mi, s, ms / 10 * 10⟩⟩ ∧
    (e.setCreated dt).accessed = e.accessed ∧ (e.setCreated dt).modified = e.modified ∧
    (e.setAccessed dt.date).accessed = ⟨y, m, d⟩ ∧
    (e.setAccessed dt.date).created = e.created ∧ (e.setAccessed dt.date).modified = e.modified ∧
    (e.setModified dt).modified = ⟨⟨y, m, d⟩, ⟨h, mi, s / 2 * 2, 0⟩⟩ ∧
    (e.setModified dt).created = e.created ∧ (e.setModified dt).accessed = e.accessed := by
  obtain ⟨rd, rt, rfl⟩ := DateTime.new?_eq_some hdt
  exact ⟨DirFileEntryData.created_setCreated e _ rd rt, rfl, rfl,
    DirFileEntryData.accessed_setAccessed e _ rd, rfl, rfl,
    DirFileEntryData.modified_setModified e _ rd rt, rfl, rfl⟩

/-- **C18.3, codec part** — `deserialize ∘ serialize` is the identity on short entries whose attribute byte uses only
    defined bits and is not long-name patterned; the setters keep an entry in that class, so setting a stamp commutes
    with a trip through the 32 bytes. -/
theorem entry_time_fields_codec (e : DirFileEntryData) (hw : e.WF) (hl : attrsIsLfn e.attrs = false)
    (y m d h mi s ms : Nat) (dt : DateTime) (hdt : DateTime.new? y m d h mi s ms = some dt) :
    e.serialize.length = 32 ∧
    DirEntryData.deserialize e.serialize = .file e ∧
    DirEntryData.deserialize (e.setCreated dt).serialize = .file (e.setCreated dt) ∧
    DirEntryData.deserialize (e.setAccessed dt.date).serialize = .file (e.setAccessed dt.date) ∧
    DirEntryData.deserialize (e.setModified dt).serialize = .file (e.setModified dt) := by
  obtain ⟨rd, rt, rfl⟩ := DateTime.new?_eq_some hdt
  unfold Date.inRange at rd
  unfold Time.inRange at rt
  exact ⟨DirFileEntryData.serialize_length e hw.name_len,
    DirEntryData.deserialize_serialize_file e hw hl,
    DirEntryData.deserialize_serialize_file _ (hw.setCreated _ (by simp only; omega) (by simp only; omega)) hl,
    DirEntryData.deserialize_serialize_file _ (hw.setAccessed _ (by simp only; omega)) hl,
    DirEntryData.deserialize_serialize_file _ (hw.setModified _ (by simp only; omega) (by simp only; omega)) hl⟩

/-- **C18.3 `entry_time_fields`** — the three parts together. -/
theorem entry_time_fields (e : DirFileEntryData) (hw : e.WF) (hl : attrsIsLfn e.attrs = false)
    (y m d h mi s ms : Nat) (dt : DateTime) (hdt : DateTime.new? y m d h mi s ms = some dt) :
    -- frame: exactly bytes 13–17 / 18–19 / 22–25
    ((e.setCreated dt).serialize =
        e.serialize.take 13 ++ ([dt.time.encode.2] ++ bytesLe16 dt.time.encode.1 ++ bytesLe16 dt.date.encode) ++
          e.serialize.drop 18 ∧
      (e.setAccessed dt.date).serialize =
        e.serialize.take 18 ++ bytesLe16 dt.date.encode ++ e.serialize.drop 20 ∧
      (e.setModified dt).serialize =
        e.serialize.take 22 ++ (bytesLe16 dt.time.encode.1 ++ bytesLe16 dt.date.encode) ++ e.serialize.drop 26) ∧
    -- getters after setters, also after a trip through the 32 bytes
    (∀ f, DirEntryData.deserialize (e.setCreated dt).serialize = .file f →
        f.created = ⟨⟨y, m, d⟩, ⟨h, mi, s, ms / 10 * 10⟩⟩ ∧ f.accessed = e.accessed ∧ f.modified = e.modified) ∧
    (∀ f, DirEntryData.deserialize (e.setAccessed dt.date).serialize = .file f →
        f.accessed = ⟨y, m, d⟩ ∧ f.created = e.created ∧ f.modified = e.modified) ∧
    (∀ f, DirEntryData.deserialize (e.setModified dt).serialize = .file f →
        f.modified = ⟨⟨y, m, d⟩, ⟨h, mi, s / 2 * 2, 0⟩⟩ ∧ f.created = e.created ∧ f.accessed = e.accessed) ∧
    -- codec
    DirEntryData.deserialize e.serialize = .file e := by
  obtain ⟨_, c0, c1, c2, c3⟩ := entry_time_fields_codec e hw hl y m d h mi s ms dt hdt
  obtain ⟨g1, g2, g3, g4, g5, g6, g7, g8, g9⟩ := entry_time_fields_get e y m d h mi s ms dt hdt
  refine ⟨entry_time_fields_frame e hw.name_len dt dt.date, ?_, ?_, ?_, c0⟩
  · intro f hf; rw [c1] at hf; cases hf; exact ⟨g1, g2, g3⟩
  · intro f hf; rw [c2] at hf; cases hf; exact ⟨g4, g5, g6⟩
  · intro f hf; rw [c3] at hf; cases hf; exact ⟨g7, g8, g9⟩

/-- a concrete well-formed entry: `README.TXT`, archive, cluster 0x0001_1234, size 0x12345678 -/
def sampleEntry : DirFileEntryData :=
  { name := [82, 69, 65, 68, 77, 69, 32, 32, 84, 88, 84], attrs := 0x20, reserved0 := 0x18, createTime0 := 123,
    createTime1 := 0x64B7, createDate := 0x5042, accessDate := 0x5042, firstClusterHi := 1, modifyTime := 0x645C,
    modifyDate := 0x5042, firstClusterLo := 0x1234, size := 0x12345678 }

theorem sampleEntry_wf : sampleEntry.WF := by
  constructor <;> decide

example : sampleEntry.WF ∧ attrsIsLfn sampleEntry.attrs = false ∧
    DateTime.new? 2020 2 2 12 34 57 789 = some ⟨⟨2020, 2, 2⟩, ⟨12, 34, 57, 789⟩⟩ ∧
    (sampleEntry.setCreated ⟨⟨2020, 2, 2⟩, ⟨12, 34, 57, 789⟩⟩).created = ⟨⟨2020, 2, 2⟩, ⟨12, 34, 57, 780⟩⟩ ∧
    (sampleEntry.setModified ⟨⟨2020, 2, 2⟩, ⟨12, 34, 57, 789⟩⟩).modified = ⟨⟨2020, 2, 2⟩, ⟨12, 34, 56, 0⟩⟩ ∧
    (sampleEntry.setCreated ⟨⟨2020, 2, 2⟩, ⟨12, 34, 57, 789⟩⟩).serialize =
      [82, 69, 65, 68, 77, 69, 32, 32, 84, 88, 84, 0x20, 0x18, 178, 0x5C, 0x64, 0x42, 0x50, 0x42, 0x50, 1, 0,
       0x5C, 0x64, 0x42, 0x50, 0x34, 0x12, 0x78, 0x56, 0x34, 0x12] :=
  ⟨sampleEntry_wf, by decide, by decide, by decide, by decide, by decide⟩

/-- reading any 32 bytes and writing them back changes at most the two undefined bits of the attribute byte (so
    re-serialising a foreign slot never disturbs its time bytes either) -/
theorem slot_reserialize (bs : List Nat) (hlen : bs.length = 32) (hb : ∀ b ∈ bs, b < 256) :
    (DirEntryData.deserialize bs).serialize = bs.set 11 (bs.getD 11 0 % 64) :=
  DirEntryData.serialize_deserialize bs hlen hb

example : (DirEntryData.deserialize (sampleEntry.serialize.set 11 0xE0)).serialize = sampleEntry.serialize := by
  decide

/-- long-name slots round-trip too -/
theorem lfn_codec (l : DirLfnEntryData) (hw : l.WF) (hl : attrsIsLfn l.attrs = true) :
    l.serialize.length = 32 ∧ DirEntryData.deserialize l.serialize = .lfn l :=
  ⟨DirLfnEntryData.serialize_length l hw.units_len, DirEntryData.deserialize_serialize_lfn l hw hl⟩

example : ∃ l : DirLfnEntryData, l.WF ∧ attrsIsLfn l.attrs = true ∧ l.order = 0x41 :=
  ⟨(DirLfnEntryData.new 0x41 0x5A).copyNameFromSlice [97, 98, 99, 0, 0xFFFF, 0xFFFF, 0xFFFF, 0xFFFF, 0xFFFF, 0xFFFF,
      0xFFFF, 0xFFFF, 0xFFFF],
    by constructor <;> decide, by decide, rfl⟩

/-! ## C08.2 `shortName_spec` -/

/-- specification: strip trailing spaces -/
def specRstrip (l : List Nat) : List Nat := (l.reverse.dropWhile (· == 32)).reverse

/-- specification of the displayed short name of an 11-byte raw name (FAT spec §6.1): base without trailing spaces,
    then `.` and the extension without trailing spaces if that is non-empty; a first byte 0x05 stands for 0xE5 -/
def specShortName (raw : List Nat) : List Nat :=
  let base := specRstrip (raw.take 8)
  let ext := specRstrip (raw.drop 8)
  let s := if ext.isEmpty then base else base ++ [46] ++ ext
  match s with
  | 5 :: t => 0xE5 :: t
  | _ => s

theorem fixE5_eq (s : List Nat) : Names.fixE5 s = (match s with | 5 :: t => 0xE5 :: t | _ => s) := by
  unfold Names.fixE5
  split
  · rfl
  · rename_i hne
    split
    · rename_i t; exact absurd rfl (hne t)
    · rfl

/-- a display name assembled from the first `n` bytes of the base field and the first `e` of the extension field is
    the specification's as soon as these are the fields without their trailing spaces -/
theorem specShortName_of_takes (raw : List Nat) {n e : Nat} (hn : raw.take n = specRstrip (raw.take 8))
    (he : (raw.drop 8).take e = specRstrip (raw.drop 8)) (hlen : (specRstrip (raw.drop 8)).length = e) :
    Names.fixE5 (raw.take n ++ if e > 0 then 46 :: (raw.drop 8).take e else []) = specShortName raw := by
  unfold specShortName
  rw [hn, he, fixE5_eq]
  by_cases h0 : e = 0
  · have hnil : specRstrip (raw.drop 8) = [] := List.eq_nil_of_length_eq_zero (by omega)
    simp only [h0, hnil, Nat.lt_irrefl, if_false, List.append_nil, List.isEmpty_nil, if_true]
  · have hne : specRstrip (raw.drop 8) ≠ [] := by
      intro hn0; rw [hn0] at hlen; exact h0 hlen.symm
    simp only [Nat.pos_of_ne_zero h0, if_true, List.isEmpty_iff, hne, if_false, List.append_assoc,
      List.singleton_append]

/-- **C08.2 `shortName_spec`** — `ShortName::new(raw).as_bytes()` is the specification's display name, for every
    11-byte raw name. -/
theorem shortName_spec (raw : List Nat) (h : raw.length = 11) : shortDisplay raw = specShortName raw := by
  have he := ShortName.take_trimLen (raw.drop 8) 3 (by simp [h])
  rw [List.take_of_length_le (l := raw.drop 8) (i := 3) (by simp [h])] at he
  have hle := ShortName.trimLen_le (raw.drop 8) 3
  unfold shortDisplay
  rw [ShortName.asBytes_new]
  exact specShortName_of_takes raw (ShortName.take_trimLen raw 8 (by omega)) he
    (by unfold specRstrip; rw [← he, List.length_take]; simp [h]; omega)

example : shortDisplay [70, 79, 79, 32, 32, 32, 32, 32, 66, 65, 82] = [70, 79, 79, 46, 66, 65, 82] ∧   -- "FOO.BAR"
    shortDisplay [5, 79, 79, 32, 32, 32, 32, 32, 32, 32, 32] = [0xE5, 79, 79] ∧                          -- 0x05 → 0xE5
    shortDisplay [76, 79, 79, 75, 32, 65, 84, 32, 77, 32, 69] = [76, 79, 79, 75, 32, 65, 84, 46, 77, 32, 69] ∧
    shortDisplay [32, 32, 32, 32, 32, 32, 32, 32, 32, 32, 32] = [] := by decide

/-- specification of `make_ascii_lowercase` on one byte -/
def specLower (b : Nat) : Nat := if 65 ≤ b ∧ b ≤ 90 then b + 32 else b

/-- specification of the displayed name under the Windows-NT case flags of byte 12: bit 3 = base in lower case,
    bit 4 = extension in lower case -/
def specLowercaseName (flags : Nat) (raw : List Nat) : List Nat :=
  specShortName ((if flags / 8 % 2 = 1 then (raw.take 8).map specLower else raw.take 8) ++
                 (if flags / 16 % 2 = 1 then (raw.drop 8).map specLower else raw.drop 8))

/-- **C08.2, case flags** — `lowercase_name()` is the specification's display name under the case flags. -/
theorem lowercaseName_spec (e : DirFileEntryData) (h : e.name.length = 11) :
    e.lowercaseName.asBytes = specLowercaseName e.reserved0 e.name := by
  have hlen : e.lowercaseRaw.length = 11 := by
    unfold DirFileEntryData.lowercaseRaw
    split <;> split <;> simp [h]
  have := shortName_spec e.lowercaseRaw hlen
  unfold shortDisplay at this
  unfold DirFileEntryData.lowercaseName specLowercaseName
  rw [this]
  unfold DirFileEntryData.lowercaseRaw
  rw [DirFileEntryData.lowercaseBasename_eq, DirFileEntryData.lowercaseExt_eq]
  simp only [decide_eq_true_eq]
  rfl

example : (sampleEntry.lowercaseName).asBytes = [114, 101, 97, 100, 109, 101, 46, 116, 120, 116] ∧   -- "readme.txt"
    ({ sampleEntry with reserved0 := 0x08 }.lowercaseName).asBytes = [114, 101, 97, 100, 109, 101, 46, 84, 88, 84] := by
  decide

end FatVerif.C18
