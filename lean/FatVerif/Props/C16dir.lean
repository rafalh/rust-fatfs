import FatVerif.Proofs.DirAliasCount
import FatVerif.Props.C18
import FatVerif.Props.C16
import FatVerif.Props.C15lfn
import FatVerif.Props.C01dir
/-!
# C16 at directory level — the alias `check_for_existence` chooses from a directory scan

Model: `DirAlias.checkForExistenceL upper slots name isDir fuel` (Model/DirAlias.lean), the pure mirror of
`check_for_existence` + `find_entry` over the listing of a slot list (`DirSlots.listing = readDirEntries true true`);
the effectful transliteration is `checkForExistence` (Model/DirOps).  All theorems hold for every slot list (no
well-formedness needed unless stated), every name and every case folding `upper`.
-/
namespace FatVerif
namespace C16dir
open Lfn DirSlots DirAlias

/-! ## (5) an existing entry is returned iff the lookup finds one -/

/-- with at least one round of fuel: the result is the entry `e` iff `find_entry(name, is_dir)` returns `e` (first
    listed entry whose long name or alias matches ignoring case — `findEntry_spec` — and of the requested kind);
    it is `InvalidInput` iff `find_entry` says so; and an alias is generated (or the fuel runs out) iff NO listed entry
    matches.  So a creating call never makes a second entry for a name that an existing long name or alias answers to. -/
theorem dir_existing_returned_iff (upper : Char → List Char) (slots : List (List Nat)) (name : String)
    (isDir : Option Bool) (fuel : Nat) (hfuel : 1 ≤ fuel) :
    (∀ e, checkForExistenceL upper slots name isDir fuel = .ok (.entry e) ↔
      findEntryKind upper slots name.toList isDir = .ok e) ∧
    (checkForExistenceL upper slots name isDir fuel = .error .invalidInput ↔
      findEntryKind upper slots name.toList isDir = .error .invalidInput) ∧
    (((∃ a, checkForExistenceL upper slots name isDir fuel = .ok (.alias a)) ∨
        checkForExistenceL upper slots name isDir fuel = .error .hang) ↔
      findEntry upper slots name.toList = none) := by
  obtain ⟨f, rfl⟩ : ∃ f, fuel = f + 1 := ⟨fuel - 1, by omega⟩
  rw [findEntryKind_eq]
  cases hf : findEntry upper slots name.toList with
  | some e0 =>
    rw [check_found upper slots name isDir f e0 hf]
    cases hk : kindResult isDir (some e0) with
    | ok e1 => simp
    | error x =>
      cases kindResult_error hk; simp
  | none =>
    obtain ⟨g, _, hc⟩ := check_notfound upper slots name isDir (f + 1)
    rw [hc]
    rcases loop_none_cases upper (listing slots) name.toList isDir hf (f + 1) g with ⟨a, ha⟩ | hh
    · rw [ha]; simp [kindResult]
    · rw [hh]; simp [kindResult]

/-! ## (1) freshness -/

/-- if the result is an alias `a`, no LISTED entry has raw short name `a` (in every round nothing matched, so the
    round's population is the whole listing; `C16.alias_fresh`) -/
theorem dir_alias_fresh (upper : Char → List Char) (slots : List (List Nat)) (name : String) (isDir : Option Bool)
    (fuel : Nat) (a : List Nat) (h : checkForExistenceL upper slots name isDir fuel = .ok (.alias a)) :
    ∀ e ∈ listing slots, sfnName e.sfn ≠ a := by
  obtain ⟨_, g, g', hg, r, hgen, _⟩ := check_alias upper slots name isDir fuel a h
  have := C16.alias_fresh name g hg g' r (population slots) a hgen
  intro e he heq
  exact this (List.mem_map.2 ⟨e, he, heq⟩)

/-! ## (2) legality -/

/-- for a name `validate_long_name` accepts, the alias is a legal 8.3 name (`C16.alias_legal`) -/
theorem dir_alias_legal (upper : Char → List Char) (slots : List (List Nat)) (name : String) (isDir : Option Bool)
    (fuel : Nat) (a : List Nat) (hv : Names.validateLongName name = .ok ())
    (h : checkForExistenceL upper slots name isDir fuel = .ok (.alias a)) : Names.LegalAlias a := by
  obtain ⟨_, g, g', hg, r, hgen, _⟩ := check_alias upper slots name isDir fuel a h
  refine C16.alias_legal name hv g hg _ (r.addAll (population slots)) a hgen

/-- for every name (also the empty one) the alias has the canonical shape (two padded fields of legal bytes), hence 11
    bytes, and its display form is ASCII -/
theorem dir_alias_canon (upper : Char → List Char) (slots : List (List Nat)) (name : String) (isDir : Option Bool)
    (fuel : Nat) (a : List Nat) (h : checkForExistenceL upper slots name isDir fuel = .ok (.alias a)) :
    Canon a ∧ a.length = 11 ∧ displayAscii a = true := by
  obtain ⟨_, g, g', hg, r, hgen, _⟩ := check_alias upper slots name isDir fuel a h
  have hw := (r.addAll (population slots)).wf (Names.newL_wf hg)
  have hc := generate_canon hw hgen
  exact ⟨hc, generate_length hw hgen, displayAscii_of_canon hc⟩

theorem dir_alias_length (upper : Char → List Char) (slots : List (List Nat)) (name : String) (isDir : Option Bool)
    (fuel : Nat) (a : List Nat) (h : checkForExistenceL upper slots name isDir fuel = .ok (.alias a)) :
    a.length = 11 := (dir_alias_canon upper slots name isDir fuel a h).2.1

/-- **the repair of F23**: no listed entry answers to the display form of the returned alias — neither by its long
    name nor by its own alias, ignoring case (every name, every `upper`) -/
theorem dir_alias_display_free (upper : Char → List Char) (slots : List (List Nat)) (name : String)
    (isDir : Option Bool) (fuel : Nat) (a : List Nat)
    (h : checkForExistenceL upper slots name isDir fuel = .ok (.alias a)) :
    ∀ e ∈ listing slots, matchesName upper e (Names.aliasDisplay a) = false := by
  obtain ⟨_, g, g', hg, r, hgen, hd⟩ := check_alias upper slots name isDir fuel a h
  exact (findEntry_none_iff upper slots _).1 (hd (dir_alias_canon upper slots name isDir fuel a h).2.2)

/-! ## (3) termination -/

/-- **termination of the repaired loop.**  Hypothesis on the case folding: it leaves the characters of short names
    (`A–Z 0–9 ! # $ % & ' ( ) - @ ^ _ ` { } ~` and `.`) alone — true of `to_ascii_uppercase` and of
    `char::to_uppercase` (`upperAscii_fixes`); without it one entry could answer to every candidate.
    On a directory listing `n < 3·65536` entries, fuel `15·(n/3) + 15` never yields the fuel-exhaustion outcome: the
    result is an existing entry, `InvalidInput`, or an alias.
    Accounting: every `continue` marks a so far unmarked candidate of the current checksum epoch (1 exact + 4 `~N` + 9
    hash forms, so ≤ 14 `continue`s and one failing round per epoch); an epoch fails only if its nine hash candidates
    are marked, each by a listed raw short name parsing to that checksum or by a candidate a listed entry answers to;
    different epochs (< 65536) have different checksums, an entry supplies at most three such marks (raw name, long
    name, alias) over the whole run: at most `n/3` failed epochs. -/
theorem dir_alias_terminates (upper : Char → List Char) (hup : UpperFixes upper) (slots : List (List Nat))
    (name : String) (isDir : Option Bool) (fuel : Nat) (hn : (listing slots).length < 3 * 65536)
    (hfuel : 15 * ((listing slots).length / 3) + 15 ≤ fuel) :
    checkForExistenceL upper slots name isDir fuel ≠ .error .hang ∧
    ((∃ e, checkForExistenceL upper slots name isDir fuel = .ok (.entry e)) ∨
     checkForExistenceL upper slots name isDir fuel = .error .invalidInput ∨
     (∃ a, checkForExistenceL upper slots name isDir fuel = .ok (.alias a))) := by
  obtain ⟨f, rfl⟩ : ∃ f, fuel = f + 1 := ⟨fuel - 1, by omega⟩
  cases hf : findEntry upper slots name.toList with
  | some e0 =>
    rw [check_found upper slots name isDir f e0 hf]
    cases hk : kindResult isDir (some e0) with
    | ok e1 => exact ⟨by simp, Or.inl ⟨e1, rfl⟩⟩
    | error x =>
      cases kindResult_error hk; exact ⟨by simp, Or.inr (Or.inl rfl)⟩
  | none =>
    obtain ⟨g, hg, hc⟩ := check_notfound upper slots name isDir (f + 1)
    have hnh := loop_no_hang upper hup (listing slots) name.toList isDir hf g (Names.newL_wf hg)
      (Names.newL_bitmaps hg).2.1 hn (f + 1) hfuel
    rw [hc]
    rcases loop_none_cases upper (listing slots) name.toList isDir hf (f + 1) g with ⟨a, ha⟩ | hh
    · exact ⟨hnh, Or.inr (Or.inr ⟨a, ha⟩)⟩
    · exact absurd hh hnh

/-- the hypothesis on the case folding cannot be dropped: under the (absurd) folding that maps every character to `X`
    names are compared by length only; two entries with long names of 4 and 8 characters then answer to every `~N` and
    every hash candidate of `"b c"`, and the repaired loop never ends (here: 200 rounds) -/
def upperConst (_ : Char) : List Char := ['X']
def dirX : List (List Nat) :=
  writeEntry (writeEntry [C01.zero] (Names.encodeUtf16 "wxyz".toList) (C01.sfnOf "QQQQQ      "))
    (Names.encodeUtf16 "stuvwxyz".toList) (C01.sfnOf "RRRRR      ")
example : checkForExistenceL upperConst dirX "b c" none 200 = .error .hang ∧
    checkForExistenceL Names.upperAscii dirX "b c" none 200 = .ok (.alias ("BC~1       ".toList.map Char.toNat)) := by
  decide +kernel

/-- both build variants satisfy the hypothesis on the case folding: the ASCII one here, any table in which the
    characters of short names are their own upper case likewise -/
example : UpperFixes Names.upperAscii := upperAscii_fixes


/-! ## the looked-up string is `ShortName::new(&alias).as_bytes()` -/

theorem rstrip_take (l : List Nat) : C18.specRstrip l = l.take (Names.fieldLen l) := by
  unfold C18.specRstrip Names.fieldLen
  have h := List.takeWhile_append_dropWhile (p := (· == 32)) (l := l.reverse)
  have hl : l = (l.reverse.dropWhile (· == 32)).reverse ++ (l.reverse.takeWhile (· == 32)).reverse := by
    have := congrArg List.reverse h
    rw [List.reverse_append, List.reverse_reverse] at this
    exact this.symm
  conv => rhs; arg 2; rw [hl]
  rw [List.take_left' (by simp)]

/-- the model's display bytes are the specification's (`C18.specShortName`), hence (`C18.shortName_spec`) exactly
    `ShortName::new(raw).as_bytes()` of the dir-entry model that `checkForExistenceLoop` (Model/DirOps) uses -/
theorem shortDisplay_eq_shortName (raw : List Nat) (h : raw.length = 11) :
    Names.shortDisplay raw = (ShortName.new raw).asBytes := by
  have e := C18.shortName_spec raw h
  unfold FatVerif.shortDisplay at e
  rw [e]
  unfold Names.shortDisplay
  have d3 : (raw.drop 8).take 3 = raw.drop 8 := List.take_of_length_le (by simp; omega)
  have t1 : raw.take (Names.fieldLen (raw.take 8)) = C18.specRstrip (raw.take 8) := by
    rw [rstrip_take, List.take_take]
    congr 1
    have : Names.fieldLen (raw.take 8) ≤ (raw.take 8).length := by
      unfold Names.fieldLen
      have := (List.dropWhile_sublist (fun x => x == 32) (l := (raw.take 8).reverse)).length_le
      simpa using this
    simp at this
    omega
  simp only [d3]
  exact C18.specShortName_of_takes raw t1 (rstrip_take _).symm (by unfold C18.specRstrip Names.fieldLen; simp)

/-- for a generated alias the string `DirOps` looks up, `String.ofList ((ShortName.new a).asBytes.map Char.ofNat)`, is
    `Names.aliasDisplay a`, and its guard (`all (· < 128)`, i.e. `str::from_utf8` succeeds) holds -/
theorem alias_lookup_string (upper : Char → List Char) (slots : List (List Nat)) (name : String) (isDir : Option Bool)
    (fuel : Nat) (a : List Nat) (h : checkForExistenceL upper slots name isDir fuel = .ok (.alias a)) :
    (ShortName.new a).asBytes.all (· < 128) = true ∧
    (String.ofList ((ShortName.new a).asBytes.map Char.ofNat)).toList = Names.aliasDisplay a := by
  obtain ⟨_, hl, hd⟩ := dir_alias_canon upper slots name isDir fuel a h
  rw [← shortDisplay_eq_shortName a hl]
  refine ⟨hd, ?_⟩
  rw [String.toList_ofList]
  unfold Names.aliasDisplay
  apply List.map_congr_left
  intro y hy
  unfold displayAscii at hd
  have := List.all_eq_true.1 hd y hy
  simp only [decide_eq_true_eq] at this
  unfold Names.oemDecode
  rw [if_pos (by omega)]

/-! ## (4) the alias is tied to its long name by the checksum -/

/-- all slots of a generated long-name run carry the checksum they were generated with (`lfn_run_wf`) -/
theorem lfnGenerate_chk (units : List Nat) (c : Nat) (h1 : 1 ≤ units.length) (h255 : units.length ≤ 255)
    (hu : ∀ x ∈ units, x < 65536) : ∀ s ∈ lfnGenerate units c, Lfn.chk s = c := by
  intro s hs
  obtain ⟨i, hi, rfl⟩ := List.mem_iff_getElem.1 hs
  obtain ⟨hlen, hall, _⟩ := lfn_run_wf units c h1 h255 hu
  obtain ⟨s', e1, _, _, _, _, e2, _⟩ := hall i (by rw [← hlen]; exact hi)
  rw [List.getElem?_eq_getElem hi] at e1
  cases e1; exact e2

/-- the slots `write_entry` produces for a valid `name` and a short slot carrying the chosen alias `a` (any 21 body
    bytes): `⌈len/13⌉` long-name slots, each with checksum byte `lfnChecksum a`, forming a complete run for that
    checksum, then the short slot whose raw name is `a` -/
theorem dir_alias_checksum (upper : Char → List Char) (slots : List (List Nat)) (name : String) (isDir : Option Bool)
    (fuel : Nat) (a : List Nat) (body : List Nat) (hv : Names.validateLongName name = .ok ())
    (h : checkForExistenceL upper slots name isDir fuel = .ok (.alias a)) :
    sfnName (sfnWith a body) = a ∧
    entrySlots (Names.encodeUtf16 name.toList) (sfnWith a body) =
      lfnGenerate (Names.encodeUtf16 name.toList) (lfnChecksum a) ++ [sfnWith a body] ∧
    (lfnGenerate (Names.encodeUtf16 name.toList) (lfnChecksum a)).length =
      numParts (Names.encodeUtf16 name.toList).length ∧
    (∀ s ∈ lfnGenerate (Names.encodeUtf16 name.toList) (lfnChecksum a), Lfn.chk s = lfnChecksum a) ∧
    CompleteRun (lfnChecksum a) (lfnGenerate (Names.encodeUtf16 name.toList) (lfnChecksum a)) := by
  have hlen := dir_alias_length upper slots name isDir fuel a h
  have hs := sfnName_sfnWith a body hlen
  obtain ⟨_, _, h1, h255, hu, _⟩ := valid_units (cs := name.toList) hv
  obtain ⟨r1, _, _, _, r5, _⟩ := lfn_run_wf (Names.encodeUtf16 name.toList) (lfnChecksum a) h1 h255 hu
  refine ⟨hs, by unfold entrySlots; rw [hs], r1, lfnGenerate_chk _ _ h1 h255 hu, r5⟩

/-! ## (6) creating the entry keeps the directory well-formed -/

/-- the alias `check_for_existence` returns discharges ALL freshness hypotheses of `writeEntry_dirWf`
    (`find_entry … name = none`; raw short name new; no listed entry answers to the alias's display form), and the side
    conditions on the units and the slot class -/
theorem dir_create_hyps (upper : Char → List Char) (slots : List (List Nat)) (name : String) (isDir : Option Bool)
    (fuel : Nat) (a : List Nat) (attr : Nat) (rest : List Nat) (hv : Names.validateLongName name = .ok ())
    (hattr : attr % 64 / 8 % 2 = 0)
    (h : checkForExistenceL upper slots name isDir fuel = .ok (.alias a)) :
    name.toList ≠ [] ∧
    1 ≤ (Names.encodeUtf16 name.toList).length ∧ (Names.encodeUtf16 name.toList).length ≤ 255 ∧
    (∀ x ∈ Names.encodeUtf16 name.toList, x < 65536) ∧ (∀ x ∈ Names.encodeUtf16 name.toList, x ≠ 0) ∧
    slotClass (sfnWith a (attr :: rest)) = .file ∧
    findEntry upper slots name.toList = none ∧
    (∀ e ∈ listing slots, sfnName e.sfn ≠ sfnName (sfnWith a (attr :: rest))) ∧
    (∀ e ∈ listing slots, matchesName upper e (Names.aliasDisplay (sfnName (sfnWith a (attr :: rest)))) = false) := by
  obtain ⟨v0, _, v1, v2, v3, v4⟩ := valid_units (cs := name.toList) hv
  have hleg := dir_alias_legal upper slots name isDir fuel a hv h
  refine ⟨v0, v1, v2, v3, v4, slotClass_sfnWith a attr rest hleg hattr, (check_alias upper slots name isDir fuel a h).1, ?_, ?_⟩
  · rw [sfnName_sfnWith a _ hleg.1]
    exact dir_alias_fresh upper slots name isDir fuel a h
  · rw [sfnName_sfnWith a _ hleg.1]
    exact dir_alias_display_free upper slots name isDir fuel a h

/-- **full strength** (holds since the repair of F23): on a well-formed directory, writing the entry for a valid
    name with the alias `check_for_existence` returned (any body whose attribute byte has no VOLUME_ID bit) gives a
    well-formed directory again — no duplicate raw short names, no two entries answering to one query. -/
theorem dir_create_wf (upper : Char → List Char) (slots : List (List Nat)) (name : String)
    (isDir : Option Bool) (fuel : Nat) (a : List Nat) (attr : Nat) (rest : List Nat)
    (hwf : DirWf upper slots) (hv : Names.validateLongName name = .ok ()) (hattr : attr % 64 / 8 % 2 = 0)
    (h : checkForExistenceL upper slots name isDir fuel = .ok (.alias a)) :
    DirWf upper (writeEntry slots (Names.encodeUtf16 name.toList) (sfnWith a (attr :: rest))) := by
  obtain ⟨c0, c1, c2, c3, c4, c5, c6, c7, c8⟩ := dir_create_hyps upper slots name isDir fuel a attr rest hv hattr h
  exact writeEntry_dirWf upper slots name.toList _ hwf c0 c1 c2 c3 c4 c5 c6 c7 c8

/-- the third hypothesis spelled out: no listed entry's LONG name folds like the display form of the new alias, and no
    listed entry's own alias display folds like it (the second part is not implied by raw-name freshness either when
    foreign raw names contain lower-case letters or bytes ≥ 0x80, which all display as U+FFFD) -/
theorem dir_alias_display_hyp_iff (upper : Char → List Char) (slots : List (List Nat)) (a : List Nat) :
    (∀ e ∈ listing slots, matchesName upper e (Names.aliasDisplay a) = false) ↔
      (∀ e ∈ listing slots, ¬ (e.units ≠ [] ∧ ∃ long : List Char, Names.decodeUtf16 e.units = long.map some ∧
          Names.fold upper (Names.aliasDisplay a) = Names.fold upper long)) ∧
      (∀ e ∈ listing slots,
          Names.fold upper (Names.aliasDisplay a) ≠ Names.fold upper (Names.aliasDisplay (sfnName e.sfn))) := by
  have key : ∀ e : LfnEntry, matchesName upper e (Names.aliasDisplay a) = false ↔
      ¬ ((e.units ≠ [] ∧ ∃ long : List Char, Names.decodeUtf16 e.units = long.map some ∧
          Names.fold upper (Names.aliasDisplay a) = Names.fold upper long) ∨
        Names.fold upper (Names.aliasDisplay a) = Names.fold upper (Names.aliasDisplay (sfnName e.sfn))) := by
    intro e
    rw [← C15.lookup_iff upper e.units (sfnName e.sfn) (Names.aliasDisplay a)]
    unfold matchesName
    cases Names.eqName upper e.units (sfnName e.sfn) (Names.aliasDisplay a) <;> simp
  constructor
  · intro h
    exact ⟨fun e he hc => (key e).1 (h e he) (Or.inl hc), fun e he hc => (key e).1 (h e he) (Or.inr hc)⟩
  · rintro ⟨h1, h2⟩ e he
    exact (key e).2 (fun hc => hc.elim (h1 e he) (h2 e he))

/-! ## examples and the F23 regression -/

/-- directory with entry `A` and an entry whose long name is `test~1` but whose raw short name is `ABC` (possible on a
    volume written by another implementation; well-formed in every sense of `DirWf`) -/
def dirB : List (List Nat) :=
  writeEntry [C01.sfnOf "A          ", C01.zero] (Names.encodeUtf16 "test~1".toList) (C01.sfnOf "ABC        ")

theorem dirB_wf : DirWf Names.upperAscii dirB := by
  have hl : listing [C01.sfnOf "A          ", C01.zero] = [⟨C01.sfnOf "A          ", [], 0, 1⟩] := by decide +kernel
  refine writeEntry_dirWf Names.upperAscii _ "test~1".toList _ C01.dirA_wf (by decide) (by decide) (by decide)
    (by decide) (by decide) (by decide) (by decide +kernel) ?_ ?_
  · intro e he
    rw [hl, List.mem_singleton] at he
    rw [he]; decide
  · intro e he
    rw [hl, List.mem_singleton] at he
    rw [he]; decide +kernel

def body20 : List Nat := 0x20 :: List.replicate 20 0
def aliasTest1 : List Nat := "TEST~1     ".toList.map Char.toNat
def aliasTest2 : List Nat := "TEST~2     ".toList.map Char.toNat

/-- satisfiability of (1)–(5): looking up / creating in `dirB` -/
example :
    checkForExistenceL Names.upperAscii dirB "TEST~1" none 3 =
      .ok (.entry ⟨C01.sfnOf "ABC        ", Names.encodeUtf16 "test~1".toList, 1, 3⟩) ∧   -- found by long name
    checkForExistenceL Names.upperAscii dirB "abc" (some false) 3 =
      .ok (.entry ⟨C01.sfnOf "ABC        ", Names.encodeUtf16 "test~1".toList, 1, 3⟩) ∧   -- found by alias
    checkForExistenceL Names.upperAscii dirB "abc" (some true) 3 = .error .invalidInput ∧    -- kind mismatch
    checkForExistenceL Names.upperAscii dirB "a b" none 3 =
      .ok (.alias ("AB~1       ".toList.map Char.toNat)) ∧                                    -- lossy ⇒ `~1`
    checkForExistenceL Names.upperAscii dirB "b" none 3 =
      .ok (.alias ("B          ".toList.map Char.toNat)) ∧                                    -- exact form
    checkForExistenceL Names.upperAscii dirB "b" none 0 = .error .hang := by
  decide +kernel

/-- if no two listed entries can be hit by one query, at most one listed entry answers to any query -/
theorem keys_filter_le_one (upper : Char → List Char) (q : List Char) :
    ∀ L : List LfnEntry, L.Pairwise (KeysDisjoint upper) → (L.filter fun e => matchesName upper e q).length ≤ 1
  | [], _ => by simp
  | e :: es, h => by
    obtain ⟨h1, h2⟩ := List.pairwise_cons.1 h
    have ih := keys_filter_le_one upper q es h2
    by_cases hm : matchesName upper e q = true
    · have : (es.filter fun e => matchesName upper e q) = [] := by
        rw [List.filter_eq_nil_iff]
        intro x hx hxm
        exact h1 x hx q ⟨hm, hxm⟩
      simp only [List.filter_cons, hm, if_true, this]; simp
    · simp only [List.filter_cons, hm, Bool.false_eq_true, if_false]; exact ih

/-- **F23 regression (foreign directory).**  In `dirB` the long name `test~1` belongs to the entry `ABC`.  Creating
    `"te st"`: the first candidate `TEST~1` is answered by that long name, so it is fed back and the NEXT candidate
    `TEST~2` is returned (one extra round); writing the entry leaves exactly one entry answering to `test~1` and one to
    `test~2`, and the directory stays well-formed (before commit 4df4d32: alias `TEST~1`, two entries answering to
    `test~1`). -/
theorem dir_alias_display_collision_regression :
    DirWf Names.upperAscii dirB ∧ Names.validateLongName "te st" = .ok () ∧
    checkForExistenceL Names.upperAscii dirB "te st" (some false) 3 = .ok (.alias aliasTest2) ∧
    checkForExistenceL Names.upperAscii dirB "te st" (some false) 1 = .error .hang ∧
    ((listing (writeEntry dirB (Names.encodeUtf16 "te st".toList) (sfnWith aliasTest2 body20))).filter
      fun e => matchesName Names.upperAscii e "test~1".toList).length = 1 ∧
    ((listing (writeEntry dirB (Names.encodeUtf16 "te st".toList) (sfnWith aliasTest2 body20))).filter
      fun e => matchesName Names.upperAscii e "test~2".toList).length = 1 ∧
    DirWf Names.upperAscii (writeEntry dirB (Names.encodeUtf16 "te st".toList) (sfnWith aliasTest2 body20)) := by
  have h3 : checkForExistenceL Names.upperAscii dirB "te st" (some false) 3 = .ok (.alias aliasTest2) := by
    decide +kernel
  refine ⟨dirB_wf, rfl, h3, by decide +kernel, by decide +kernel, by decide +kernel, ?_⟩
  exact dir_create_wf Names.upperAscii dirB "te st" (some false) 3 aliasTest2 0x20 (List.replicate 20 0) dirB_wf rfl
    (by decide) h3

/-- `dir_alias_terminates` instantiated: two listed entries, fuel 15 -/
example : checkForExistenceL Names.upperAscii dirB "te st" (some false) 15 ≠ .error .hang :=
  (dir_alias_terminates Names.upperAscii upperAscii_fixes dirB "te st" (some false) 15 (by decide +kernel)
    (by decide +kernel)).1

/-- a case folding that, like `char::to_uppercase` (feature `unicode`), maps U+017F LATIN SMALL LETTER LONG S to `S` -/
def upperLongS (c : Char) : List Char := if c = 'ſ' then ['S'] else Names.upperAscii c

def dirS1 : List (List Nat) :=
  writeEntry [C01.zero] (Names.encodeUtf16 "teſt~1".toList) (sfnWith ("TE_T~1~1   ".toList.map Char.toNat) body20)
def dirS2 : List (List Nat) :=
  writeEntry dirS1 (Names.encodeUtf16 "te st".toList) (sfnWith aliasTest2 body20)

/-- **F23 regression (reachable through creating calls, case folding with `ſ ↦ S`).**  Create `"teſt~1"` (alias
    `TE_T~1~1`), then `"te st"`: the candidate `TEST~1` is answered by the first entry's long name, the alias becomes
    `TEST~2`; `test~1` answers to exactly one entry. -/
theorem dir_alias_collision_reachable_regression :
    checkForExistenceL upperLongS [C01.zero] "teſt~1" (some false) 3 =
      .ok (.alias ("TE_T~1~1   ".toList.map Char.toNat)) ∧
    checkForExistenceL upperLongS dirS1 "te st" (some false) 3 = .ok (.alias aliasTest2) ∧
    ((listing dirS2).filter fun e => matchesName upperLongS e "test~1".toList).length = 1 ∧
    (findEntry upperLongS dirS2 "test~2".toList).map (·.units) = some (Names.encodeUtf16 "te st".toList) := by
  decide +kernel

end C16dir
end FatVerif
