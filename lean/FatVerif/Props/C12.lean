import FatVerif.Proofs.ReadOnlySession
import FatVerif.Proofs.Geom
/-! # C12 — the dirty bit (program-level facts about the model's status-flag handling)

`setDirtyFlag b` (`FileSystem::set_dirty_flag`) makes the on-disk status byte equal to
`encode(mount_time_dirty || b, mount_time_io_error)`, writing that one byte (offset 0x25, FAT32: 0x41) iff it differs from
the current one. `FsIoAdapter::write` calls it BEFORE its first modifying write (fix f695ddf), `File::write` and
`File::truncate` before anything else,
`unmount` calls it with `false` (restoring the mount-time value). All statements are about the write log of the
device (`Dev.log`, newest first). -/
namespace FatVerif

/-- byte offset of the status flags in the boot sector -/
def statusOff (fs : FsState) : Nat := if fs.fatType == .fat32 then 0x41 else 0x25

/-- the status byte `set_dirty_flag(dirty)` writes: the two flag bits, and bits 2–7 of the byte read at mount
    (`flags.encode() | (reserved_1 & !0x03)`, as a `u8`) -/
def statusByte (fs : FsState) (dirty : Bool) : Nat :=
  (encodeStatus (fs.bpbDirty || dirty) fs.bpbIoErr ||| (fs.statusRaw / 4 * 4)) % 256

/-- the log record of a status-byte update -/
def statusWrite (fs : FsState) (dirty : Bool) : LogItem :=
  .write (statusOff fs) [statusByte fs dirty]

theorem encodeStatus_lt (a b : Bool) : encodeStatus a b % 256 = encodeStatus a b := by
  cases a <;> cases b <;> rfl

/-- the update `set_dirty_flag(b)` asks for is already in place -/
def StatusCurrent (fs : FsState) (b : Bool) : Prop := (fs.bpbDirty || b) = fs.curDirty ∧ fs.bpbIoErr = fs.curIoErr

theorem setDirtyFlag_unfold (b : Bool) : setDirtyFlag b =
    Prog.bind Prog.getFs (fun fs =>
      if ((fs.bpbDirty || b) == fs.curDirty && fs.bpbIoErr == fs.curIoErr) = true then Prog.pure ()
      else Prog.bind (Prog.seekStart (statusOff fs)) (fun _ =>
        Prog.bind (writeU8 devStrm () (encodeStatus (fs.bpbDirty || b) fs.bpbIoErr ||| (fs.statusRaw / 4 * 4))) (fun _ =>
          Prog.modifyFs fun fs' => { fs' with curDirty := fs.bpbDirty || b, curIoErr := fs.bpbIoErr }))) := rfl

theorem statusCurrent_iff (fs : FsState) (b : Bool) :
    (((fs.bpbDirty || b) == fs.curDirty && fs.bpbIoErr == fs.curIoErr) = true) ↔ StatusCurrent fs b := by
  simp [StatusCurrent]

/-! `setDirtyFlag` and `markDirtyBeforeWrite` are walked through once, as triples whose precondition names the mounted
    state, the log and the position (ghosts `fs0`, `l0`, `p0`); the failing branches are the business of `Tri.bind`. -/

/-- leaf triples about the device: the precondition names the mounted state and the log (ghost `fs0`, `l0`) -/
theorem Tri.modifyFs {R : Dev → Dev → Prop} (f : FsState → FsState) (fs0 : FsState) (l0 : List LogItem)
    (hq : ∀ d : Dev, d.fs = fs0 → R d { d with fs := f d.fs }) :
    Tri R (fun d => d.fs = fs0 ∧ d.log = l0) (Prog.modifyFs f) (fun _ d' => d'.fs = f fs0 ∧ d'.log = l0) :=
  ⟨fun d _ _ hp hr => by
    rw [run_modifyFs] at hr; cases hr
    exact ⟨hq d hp.1, fun _ _ => ⟨by rw [← hp.1], hp.2⟩⟩⟩

/-- one byte written to the raw device at position `p` -/
theorem Tri.devWriteU8 (v p : Nat) (fs0 : FsState) (l0 : List LogItem) :
    Tri (fun d d' => d'.fs = d.fs ∧ LogWithin p (p + 1) d d') (fun d => (d.fs = fs0 ∧ d.log = l0) ∧ d.pos = p)
      (writeU8 devStrm () v) (fun _ d' => d'.fs = fs0 ∧ d'.log = .write p [v % 256] :: l0) :=
  ⟨fun d r d' hp hr => by
    have hw := writeAll_dev_within _ d hr
    rw [hp.2] at hw
    refine ⟨⟨hw.1, hw.2.1⟩, fun u hu => ?_⟩
    subst hu
    obtain ⟨items, hl, hpc, _, hfs⟩ := writeAll_dev_pieces _ d hr
    rw [hpc.single, hp.2, hp.1.2] at hl
    exact ⟨hfs.trans hp.1.1, hl⟩⟩

/-- what runs of `set_dirty_flag` on a volume mounted as `fs0` do -/
def StatusRel (fs0 : FsState) (d d' : Dev) : Prop :=
  SameGeom d.fs d'.fs ∧ LogWithin (statusOff fs0) (statusOff fs0 + 1) d d'

theorem statusRel_ok (fs0 : FsState) : RelOK (StatusRel fs0) :=
  ⟨fun d => ⟨SameGeom.refl _, LogWithin.refl _ _ d⟩, fun _ _ _ h1 h2 => ⟨h1.1.trans h2.1, h1.2.trans h2.2⟩,
   fun _ _ => ⟨SameGeom.refl _, LogWithin.of_log_eq rfl⟩⟩

theorem statusRel_of_eq {fs0 : FsState} {d d' : Dev} (hfs : d'.fs = d.fs) (hl : d'.log = d.log) : StatusRel fs0 d d' :=
  ⟨by rw [hfs]; exact SameGeom.refl _, LogWithin.of_log_eq hl⟩

theorem fsLog_keep {fs0 : FsState} {l0 : List LogItem} (d d' : Dev) (h : d.fs = fs0 ∧ d.log = l0) (hfs : d'.fs = d.fs)
    (hl : d'.log = d.log) : d'.fs = fs0 ∧ d'.log = l0 :=
  ⟨hfs.trans h.1, hl.trans h.2⟩

theorem setDirtyFlag_tri (b : Bool) (fs0 : FsState) (l0 : List LogItem) :
    Tri (StatusRel fs0) (fun d => d.fs = fs0 ∧ d.log = l0) (setDirtyFlag b)
      (fun _ d' => d'.fs = { fs0 with curDirty := fs0.bpbDirty || b, curIoErr := fs0.bpbIoErr } ∧
        (StatusCurrent fs0 b → d'.log = l0) ∧ (¬ StatusCurrent fs0 b → d'.log = statusWrite fs0 b :: l0)) := by
  have hR := statusRel_ok fs0
  rw [setDirtyFlag_unfold]
  refine Tri.bindGetFs (F := fun fs => fs = fs0) (fun _ h => h.1) (fun fs hfs => ?_)
  subst hfs
  split
  · rename_i hc
    have hcur := (statusCurrent_iff fs b).mp hc
    have heta : ∀ x y : Bool, x = fs.curDirty → y = fs.curIoErr → fs = { fs with curDirty := x, curIoErr := y } := by
      rintro _ _ rfl rfl; rfl
    exact Tri.pure hR (fun d hd => ⟨hd.1.trans (heta _ _ hcur.1 hcur.2), fun _ => hd.2, fun h => absurd hcur h⟩)
  · rename_i hc
    have hncur : ¬ StatusCurrent fs b := fun h => hc ((statusCurrent_iff fs b).mpr h)
    refine Tri.bind hR (Tri.seekStart (fun _ _ => statusRel_of_eq) fsLog_keep _) (fun _ => ?_)
    refine Tri.bind hR ((Tri.devWriteU8 _ _ fs l0).mono (fun d d' h => ⟨by rw [h.1]; exact SameGeom.refl _, h.2⟩)) (fun _ => ?_)
    exact (Tri.modifyFs _ fs _ (fun d _ => ⟨rfl, LogWithin.of_log_eq rfl⟩)).conseq (fun _ h => h)
      (fun _ d' h => ⟨h.1, fun hcur => absurd hcur hncur, fun _ => h.2⟩)

/-- **`setDirtyFlag_spec`**: after `set_dirty_flag(b)` succeeded the current flags are `(mount_dirty || b,
    mount_io_error)`; nothing was written if they already were, otherwise exactly one record was appended to the log:
    the one status byte at 0x25/0x41 -/
theorem setDirtyFlag_spec (b : Bool) (d : Dev) {u : Unit} {d' : Dev} (hr : run (setDirtyFlag b) d = (.ok u, d')) :
    d'.fs = { d.fs with curDirty := d.fs.bpbDirty || b, curIoErr := d.fs.bpbIoErr } ∧
    (StatusCurrent d.fs b → d'.log = d.log) ∧
    (¬ StatusCurrent d.fs b → d'.log = statusWrite d.fs b :: d.log) := by
  exact ((setDirtyFlag_tri b d.fs d.log).out d _ d' ⟨rfl, rfl⟩ hr).2 u rfl

/-- every outcome of `set_dirty_flag`: whatever it writes lies in the status byte -/
theorem setDirtyFlag_within (b : Bool) (d : Dev) {r d'} (hr : run (setDirtyFlag b) d = (r, d')) :
    LogWithin (statusOff d.fs) (statusOff d.fs + 1) d d' := by
  exact ((setDirtyFlag_tri b d.fs d.log).out d _ d' ⟨rfl, rfl⟩ hr).1.2

theorem run_seekCur0_spec (d : Dev) {r d1} (hr : run (Prog.seek (.cur 0)) d = (r, d1)) :
    d1.fs = d.fs ∧ d1.log = d.log ∧ (∀ v, r = .ok v → v = d.pos ∧ d1.pos = d.pos) := by
  have hc : (d.count .s).fs = d.fs ∧ (d.count .s).log = d.log ∧ (d.count .s).pos = d.pos := by unfold Dev.count; simp
  simp only [Prog.seek, run, stepOp, devCall, devCallCore] at hr
  split at hr
  · cases hr; exact ⟨hc.1, hc.2.1, fun v hv => by cases hv⟩
  · simp only [Int.add_zero] at hr
    have hnn : ¬ (((d.count .s).pos : Int) < 0) := by omega
    simp only [hnn, if_false, Int.toNat_natCast] at hr
    cases hr
    exact ⟨hc.1, hc.2.1, fun v hv => by cases hv; exact ⟨hc.2.2, hc.2.2⟩⟩

theorem Tri.seekCur0 {R : Dev → Dev → Prop} (hq : ∀ d d' : Dev, d'.fs = d.fs → d'.log = d.log → R d d')
    (fs0 : FsState) (l0 : List LogItem) (p0 : Nat) :
    Tri R (fun d => d.fs = fs0 ∧ d.log = l0 ∧ d.pos = p0) (Prog.seek (.cur 0))
      (fun v d' => (d'.fs = fs0 ∧ d'.log = l0) ∧ v = p0) :=
  ⟨fun d _ _ hp hr =>
    let a := run_seekCur0_spec d hr
    ⟨hq _ _ a.1 a.2.1, fun v hv => ⟨⟨a.1.trans hp.1, a.2.1.trans hp.2.1⟩, ((a.2.2 v hv).1).trans hp.2.2⟩⟩⟩

/-- `set_dirty_flag_before_write` on a volume not yet marked dirty, mounted as `fs0`, log `l0`, position `p0` -/
theorem markDirtyBeforeWrite_tri (fs0 : FsState) (l0 : List LogItem) (p0 : Nat) (hcl : fs0.curDirty = false) :
    Tri (StatusRel fs0) (fun d => d.fs = fs0 ∧ d.log = l0 ∧ d.pos = p0) markDirtyBeforeWrite
      (fun _ d' => d'.fs = { fs0 with curDirty := fs0.bpbDirty || true, curIoErr := fs0.bpbIoErr } ∧
        d'.log = statusWrite fs0 true :: l0 ∧ d'.pos = p0) := by
  have hR := statusRel_ok fs0
  have hncur : ¬ StatusCurrent fs0 true := by rintro ⟨h, _⟩; rw [hcl] at h; simp at h
  unfold markDirtyBeforeWrite
  refine Tri.bindGetFs (F := fun fs => fs = fs0) (fun _ h => h.1) (fun fs hfs => ?_)
  subst hfs
  rw [if_neg (by rw [hcl]; decide)]
  refine Tri.bind hR (Tri.seekCur0 (fun _ _ => statusRel_of_eq) fs l0 p0) (fun pos => ?_)
  refine (Tri.of_imp (P := fun d => d.fs = fs ∧ d.log = l0) (A := pos = p0) (fun hpos => ?_))
  subst hpos
  refine Tri.bind hR (setDirtyFlag_tri true fs l0) (fun _ => ?_)
  refine Tri.bind hR ((Tri.seekStart (fun _ _ => statusRel_of_eq) fsLog_keep pos).conseq
    (fun _ h => ⟨h.1, h.2.2 hncur⟩) (fun _ _ h => h)) (fun _ => ?_)
  exact Tri.pure hR (fun _ h => ⟨h.1.1, h.1.2, h.2⟩)

/-- **`set_dirty_flag_before_write`** (fix f695ddf), every outcome: nothing happens on a volume already marked dirty;
    otherwise whatever is written lies in the status byte, on success the flag is set, exactly the status record
    was appended, and the storage position is the one the caller had set up -/
theorem markDirtyBeforeWrite_spec (d : Dev) {r d'} (hr : run markDirtyBeforeWrite d = (r, d')) :
    (d.fs.curDirty = true → r = .ok () ∧ d' = d) ∧
    (d.fs.curDirty = false →
      LogWithin (statusOff d.fs) (statusOff d.fs + 1) d d' ∧
      (∀ u, r = .ok u → d'.fs = { d.fs with curDirty := d.fs.bpbDirty || true, curIoErr := d.fs.bpbIoErr } ∧
        d'.log = statusWrite d.fs true :: d.log ∧ d'.pos = d.pos)) := by
  refine ⟨fun h => ?_, fun h => ?_⟩
  · simp only [markDirtyBeforeWrite, bind, run_getFs_bind, h, if_true, pure, run] at hr
    cases hr; exact ⟨rfl, rfl⟩
  · have a := (markDirtyBeforeWrite_tri d.fs d.log d.pos h).out d r d' ⟨rfl, rfl, rfl⟩ hr
    exact ⟨a.1.2, a.2⟩

theorem adapterStrm_write_unfold (bs : List Nat) : adapterStrm.write () bs =
    if bs.length > 0 then Prog.bind markDirtyBeforeWrite (fun _ => Prog.bind (Prog.write bs) (fun n => Prog.pure (n, ())))
    else Prog.bind (Prog.write bs) (fun n => Prog.pure (n, ())) := rfl

/-- **`adapter_write_marks_dirty_first`** (fix f695ddf; stronger than `adapter_write_sets_dirty` below, which only
    says that the flag is set once a write of `n > 0` bytes has succeeded): every outcome of `FsIoAdapter::write` with a
    non-empty buffer on a volume whose dirty flag is not yet set. Either the call fails and whatever it wrote lies
    inside the status byte (so: if marking the volume dirty fails, no data is written; if the data write fails, only
    the status byte was written) — or it succeeds, the flag is set, and it appended exactly two records: the
    status-byte record with the dirty bit, and AFTER it the data record at the position the caller had set up. -/
theorem adapter_write_marks_dirty_first (bs : List Nat) (hne : bs ≠ []) (d : Dev) (hclean : d.fs.curDirty = false)
    {r d'} (hr : run (adapterStrm.write () bs) d = (r, d')) :
    ((∃ e, r = .error e) ∧ LogWithin (statusOff d.fs) (statusOff d.fs + 1) d d') ∨
    (∃ m, r = .ok (m, ()) ∧ d'.fs.curDirty = true ∧
      d'.log = .write d.pos (bs.take m) :: statusWrite d.fs true :: d.log) := by
  have hlen : bs.length > 0 := List.length_pos_iff.mpr hne
  rw [adapterStrm_write_unfold, if_pos hlen] at hr
  rcases run_bind_cases hr with ⟨u, d1, h1, h2⟩ | ⟨e, h1, he⟩
  · have hm := (markDirtyBeforeWrite_spec d h1).2 hclean
    obtain ⟨hfs1, hlog1, hpos1⟩ := hm.2 _ rfl
    rcases run_bind_cases h2 with ⟨m, d2, h3, h4⟩ | ⟨e, h3, he⟩
    · simp only [run] at h4; cases h4
      simp only [Prog.write, run] at h3
      rcases stepOp_write_exact bs d1 h3 with ⟨hfs, ⟨e, he, _⟩ | ⟨hm', hlog, _⟩⟩
      · cases he
      · cases hm'
        refine Or.inr ⟨_, rfl, by rw [hfs, hfs1]; simp, ?_⟩
        rw [hlog, hlog1, hpos1]
    · subst he
      simp only [Prog.write, run] at h3
      rcases stepOp_write_exact bs d1 h3 with ⟨hfs, ⟨e', _, hlog⟩ | ⟨hm', _, _⟩⟩
      · exact Or.inl ⟨⟨_, rfl⟩, hm.1.trans (LogWithin.of_log_eq hlog)⟩
      · cases hm'
  · subst he
    exact Or.inl ⟨⟨_, rfl⟩, ((markDirtyBeforeWrite_spec d h1).2 hclean).1⟩

/-- **`adapter_write_sets_dirty`**: once `FsIoAdapter::write` has written `n > 0` bytes the dirty flag is set (it was
    set BEFORE the bytes went out: `adapter_write_marks_dirty_first`) -/
theorem adapter_write_sets_dirty (bs : List Nat) (d : Dev) {n : Nat} {d' : Dev}
    (hr : run (adapterStrm.write () bs) d = (.ok (n, ()), d')) (hn : n > 0) : d'.fs.curDirty = true := by
  have hne : bs ≠ [] := by
    rintro rfl
    rw [adapterStrm_write_unfold] at hr
    rw [if_neg (by simp)] at hr
    obtain ⟨m, d2, h3, h4⟩ := run_bind_ok_inv hr
    simp only [run] at h4; cases h4
    simp only [Prog.write, run] at h3
    rcases stepOp_write_exact [] d h3 with ⟨_, ⟨e, he, _⟩ | ⟨hm', _, _⟩⟩
    · cases he
    · simp at hm'; omega
  cases hcd : d.fs.curDirty with
  | false =>
    rcases adapter_write_marks_dirty_first bs hne d hcd hr with ⟨⟨e, he⟩, _⟩ | ⟨m, _, h, _⟩
    · cases he
    · exact h
  | true =>
    have hlen : bs.length > 0 := List.length_pos_iff.mpr hne
    rw [adapterStrm_write_unfold, if_pos hlen] at hr
    obtain ⟨u, d1, h1, h2⟩ := run_bind_ok_inv hr
    obtain ⟨_, hd1⟩ := (markDirtyBeforeWrite_spec d h1).1 hcd
    subst hd1
    rcases run_bind_cases h2 with ⟨m, d2, h3, h4⟩ | ⟨e, _, he⟩
    · simp only [run] at h4; cases h4
      simp only [Prog.write, run] at h3
      rw [(stepOp_write_exact bs d1 h3).1]; exact hcd
    · cases he

/-- `flush_fs_info` touches only the FS-info part of the mounted state -/
theorem flushFsInfo_fs (d : Dev) {r d'} (hr : run flushFsInfo d = (r, d')) :
    d'.fs = { d.fs with fsInfo := d'.fs.fsInfo } := by
  obtain ⟨i, hi⟩ := ((flushFsInfo_tri d.fs).out d r d' rfl hr).1.1
  rw [hi]

/-- **`unmount_restores`**: after `unmount_internal` succeeded the current status flags are the mount-time ones; the
    status byte was written — as the LAST record of the log — iff they differed before (`d1` is the device after the
    FS-info flush, which does not touch the flags) -/
theorem unmount_restores (d : Dev) {u : Unit} {d' : Dev} (hr : run unmountInternal d = (.ok u, d')) :
    d'.fs.curDirty = d.fs.bpbDirty ∧ d'.fs.curIoErr = d.fs.bpbIoErr ∧ d'.fs.bpbDirty = d.fs.bpbDirty ∧
    ∃ d1 : Dev, run flushFsInfo d = (.ok (), d1) ∧
      ((d.fs.curDirty = d.fs.bpbDirty ∧ d.fs.curIoErr = d.fs.bpbIoErr) → d'.log = d1.log) ∧
      (¬ (d.fs.curDirty = d.fs.bpbDirty ∧ d.fs.curIoErr = d.fs.bpbIoErr) →
        d'.log = .write (statusOff d.fs) [statusByte d.fs false] :: d1.log) := by
  have hr' : run (Prog.bind flushFsInfo (fun _ => setDirtyFlag false)) d = (.ok u, d') := hr
  obtain ⟨_, d1, h1, h2⟩ := run_bind_ok_inv hr'
  -- `flush_fs_info` touches only the FS-info part of the mounted state
  obtain ⟨i, hi⟩ := ((flushFsInfo_tri d.fs).out d _ d1 rfl h1).1.1
  have hsp := setDirtyFlag_spec false d1 h2
  have hcur : StatusCurrent d1.fs false ↔ (d.fs.curDirty = d.fs.bpbDirty ∧ d.fs.curIoErr = d.fs.bpbIoErr) := by
    simp only [StatusCurrent, Bool.or_false, hi]
    constructor <;> rintro ⟨a, b⟩ <;> exact ⟨a.symm, b.symm⟩
  refine ⟨by rw [hsp.1]; simp [hi], by rw [hsp.1]; simp [hi], by rw [hsp.1]; simp [hi], d1, h1, ?_, ?_⟩
  · intro h; exact hsp.2.1 (hcur.mpr h)
  · intro h
    have := hsp.2.2 (fun hc => h (hcur.mp hc))
    rw [this]
    simp only [statusWrite, statusByte, statusOff, hi]

theorem statusByte_table : ∀ r, r < 256 →
    (encodeStatus ((r % 2 == 1) || false) (r / 2 % 2 == 1) ||| (r / 4 * 4)) % 256 = r := by decide +kernel

/-- if the mounted state records the mount-time status byte (`statusRaw`, one byte) and `bpbDirty`/`bpbIoErr` are its
    bits 0 and 1 — what `mount` sets up (`Bpb.statusDirty`, `Bpb.statusIoError`, `statusRaw := reserved_1`) — the byte
    `set_dirty_flag(false)` writes is exactly the mount-time byte -/
theorem statusByte_restores (fs : FsState) (hraw : fs.statusRaw < 256)
    (hd : fs.bpbDirty = (fs.statusRaw % 2 == 1)) (hi : fs.bpbIoErr = (fs.statusRaw / 2 % 2 == 1)) :
    statusByte fs false = fs.statusRaw := by
  unfold statusByte
  rw [hd, hi]
  exact statusByte_table _ hraw

/-- **`unmount_restores_mount_byte`** (closes the former finding F16: bits 2–7 of the status byte were cleared): under
    those hypotheses the status record `unmount_internal` appends — when the current flags differ from the mount-time
    ones — carries the mount-time byte, bits 2–7 included -/
theorem unmount_restores_mount_byte (d : Dev) {u : Unit} {d' : Dev} (hr : run unmountInternal d = (.ok u, d'))
    (hraw : d.fs.statusRaw < 256) (hd : d.fs.bpbDirty = (d.fs.statusRaw % 2 == 1))
    (hi : d.fs.bpbIoErr = (d.fs.statusRaw / 2 % 2 == 1))
    (hdiff : ¬ (d.fs.curDirty = d.fs.bpbDirty ∧ d.fs.curIoErr = d.fs.bpbIoErr)) :
    ∃ d1 : Dev, run flushFsInfo d = (.ok (), d1) ∧ d'.log = .write (statusOff d.fs) [d.fs.statusRaw] :: d1.log := by
  obtain ⟨_, _, _, d1, h1, _, h2⟩ := unmount_restores d hr
  exact ⟨d1, h1, by rw [h2 hdiff, statusByte_restores d.fs hraw hd hi]⟩

/-- `set_dirty_flag(true)` on a volume whose dirty flag is not yet set, then anything: the records appended are either
    all inside the status byte (setting the flag failed), or the OLDEST of them is the status-byte record with the
    dirty bit set -/
theorem setDirty_then_first {α} (k : Unit → Prog α) (d : Dev) (hclean : d.fs.curDirty = false)
    {r d'} (hr : run (Prog.bind (setDirtyFlag true) k) d = (r, d')) :
    ∃ items, d'.log = items ++ d.log ∧
      ((∀ it ∈ items, it.within (statusOff d.fs) (statusOff d.fs + 1)) ∨
       (∃ rest, items = rest ++ [.write (statusOff d.fs) [statusByte d.fs true]])) := by
  rcases run_bind_cases hr with ⟨_, d1, h1, h2⟩ | ⟨e, h1, _⟩
  · have hncur : ¬ StatusCurrent d.fs true := by
      rintro ⟨h, _⟩; rw [hclean] at h; simp at h
    have hlog := (setDirtyFlag_spec true d h1).2.2 hncur
    obtain ⟨items2, h3⟩ := run_logExtends _ _ _ _ h2
    exact ⟨items2 ++ [statusWrite d.fs true], by rw [h3, hlog]; simp, Or.inr ⟨items2, rfl⟩⟩
  · obtain ⟨items, h3, h4⟩ := setDirtyFlag_within true d h1
    exact ⟨items, h3, Or.inl h4⟩

/-- **`file_write_marks_dirty_first`**: in `File::write` on a volume whose dirty flag is not yet set, the status byte is
    the first thing written: the records the call appends to the log are either all inside the status byte (the call
    failed while setting the flag, or wrote nothing), or the OLDEST of them is the status-byte record with the dirty
    bit set -/
theorem file_write_marks_dirty_first (f : FileH) (buf : List Nat) (d : Dev) (hclean : d.fs.curDirty = false)
    {r d'} (hr : run (f.write buf) d = (r, d')) :
    ∃ items, d'.log = items ++ d.log ∧
      ((∀ it ∈ items, it.within (statusOff d.fs) (statusOff d.fs + 1)) ∨
       (∃ rest, items = rest ++ [.write (statusOff d.fs) [statusByte d.fs true]])) := by
  unfold FileH.write at hr
  replace hr : run (Prog.bind Prog.getFs _) d = (r, d') := hr
  rw [run_getFs_bind] at hr
  dsimp only at hr
  split at hr
  · cases run_pure_cases hr
    exact ⟨[], rfl, Or.inl (by simp)⟩
  · exact setDirty_then_first _ d hclean hr

/-- **`truncate_marks_dirty_first`** (fix f695ddf): the same for `File::truncate` — before the fix the first record of
    a truncation was a FAT entry; now the records the call appends are either all inside the status byte (it failed
    while setting the flag), or the OLDEST of them is the status-byte record with the dirty bit set -/
theorem truncate_marks_dirty_first (f : FileH) (d : Dev) (hclean : d.fs.curDirty = false)
    {r d'} (hr : run f.truncate d = (r, d')) :
    ∃ items, d'.log = items ++ d.log ∧
      ((∀ it ∈ items, it.within (statusOff d.fs) (statusOff d.fs + 1)) ∨
       (∃ rest, items = rest ++ [.write (statusOff d.fs) [statusByte d.fs true]])) := by
  unfold FileH.truncate at hr
  exact setDirty_then_first _ d hclean hr

/-- **`mount_reports_dirty`** (mounted-state level): after a successful mount the current flags equal the mount-time
    flags, and when the volume was marked dirty the FS-info free count is discarded. PARTIAL with respect to the
    intended statement: that `bpbDirty` is bit 0 of byte 0x25/0x41 of the image is a fact about `Bpb.geometry`
    (`statusDirty`), proved with the boot-sector codec, not here. -/
theorem mount_reports_dirty {fs0 : FsState} (strict accDate lfnAlloc unicode : Bool) :
    NW fs0 (mount strict accDate lfnAlloc unicode)
      (fun fs fs1 => fs1 = fs ∧ fs.curDirty = fs.bpbDirty ∧ fs.curIoErr = fs.bpbIoErr ∧
        (fs.bpbDirty = true → fs.fsInfo.free = none)) :=
  (mount_nw strict accDate lfnAlloc unicode).weaken (fun _ _ h => ⟨h.1, h.2.1.1, h.2.1.2.1, h.2.2.2⟩)

/-! ## the statements are not vacuous -/

namespace C12ex
def fs16 : FsState :=
  { fatType := .fat16, bps := 512, spc := 1, reserved := 1, fats := 1, spf := 1, totalClusters := 5,
    firstDataSector := 2, rootEntries := 16, rootDirSectors := 1 }
def dev16 : Dev := { img := Img.empty 4096, fs := fs16 }
end C12ex

/-- `set_dirty_flag(true)` on a clean FAT16 volume succeeds and logs the byte 1 at 0x25 -/
example : resErr (run (setDirtyFlag true) C12ex.dev16).1 = none ∧
    (run (setDirtyFlag true) C12ex.dev16).2.log = [.write 0x25 [1]] ∧
    (run (setDirtyFlag true) C12ex.dev16).2.fs.curDirty = true := by decide

/-- … and `unmount_internal` afterwards restores it: byte 0 at 0x25, flags as at mount -/
example : (run unmountInternal (run (setDirtyFlag true) C12ex.dev16).2).2.log = [.write 0x25 [0], .write 0x25 [1]] ∧
    (run unmountInternal (run (setDirtyFlag true) C12ex.dev16).2).2.fs.curDirty = false := by decide

/-- `File::write` of 3 bytes into a fresh file on a volume with a free count cached: the oldest record is the
    status byte (hypothesis `curDirty = false` of `file_write_marks_dirty_first` holds of `dev16`) -/
example : C12ex.dev16.fs.curDirty = false ∧
    ((run ((FileH.new none (some (DirEntryEditor.new (DirFileEntryData.new [] 0) 1024))).write [7, 8, 9])
      C12ex.dev16).2.log.getLast? = some (.write 0x25 [1])) := by decide +kernel

/-- a volume mounted with status byte 0x84 (bits 2 and 7 set, clean): `set_dirty_flag(true)` writes 0x85, and
    `unmount_internal` writes 0x84 back — the hypotheses of `unmount_restores_mount_byte` hold of this state -/
example :
    let d : Dev := { C12ex.dev16 with fs := { C12ex.fs16 with statusRaw := 0x84 } }
    d.fs.statusRaw < 256 ∧ d.fs.bpbDirty = (d.fs.statusRaw % 2 == 1) ∧ d.fs.bpbIoErr = (d.fs.statusRaw / 2 % 2 == 1) ∧
    (run unmountInternal (run (setDirtyFlag true) d).2).2.log = [.write 0x25 [0x84], .write 0x25 [0x85]] := by
  decide

/-- `FsIoAdapter::write` of two bytes at position 1000 of a clean volume (the hypotheses of
    `adapter_write_marks_dirty_first` hold): the status byte goes out first, then the data -/
example :
    let d : Dev := { C12ex.dev16 with pos := 1000 }
    d.fs.curDirty = false ∧
    (run (adapterStrm.write () [7, 8]) d).1.toOption = some (2, ()) ∧
    (run (adapterStrm.write () [7, 8]) d).2.log = [.write 1000 [7, 8], .write 0x25 [1]] ∧
    (run (adapterStrm.write () [7, 8]) d).2.fs.curDirty = true := by decide

/-- … and when the status write fails (device call 3: the seek to query the position, the seek to 0x25, the write)
    the call fails and NOTHING has been written — the first disjunct of `adapter_write_marks_dirty_first` -/
example :
    let d : Dev := { C12ex.dev16 with pos := 1000, failAt := some 3 }
    resErr (run (adapterStrm.write () [7, 8]) d).1 = some (.io 3) ∧
    (run (adapterStrm.write () [7, 8]) d).2.log = [] := by decide

/-- … on a volume already marked dirty no status record and no extra seek: one device call -/
example :
    let d : Dev := (run (setDirtyFlag true) { C12ex.dev16 with pos := 1000 }).2
    (run (adapterStrm.write () [7, 8]) d).2.log = [.write 0x26 [7, 8], .write 0x25 [1]] ∧
    (run (adapterStrm.write () [7, 8]) d).2.calls = d.calls + 1 := by decide

/-- `File::truncate` at offset 0 of an empty file on a clean volume: the status byte is written (and nothing else) -/
example : C12ex.dev16.fs.curDirty = false ∧
    (run (FileH.new none (some (DirEntryEditor.new (DirFileEntryData.new [] 0) 1024))).truncate C12ex.dev16).2.log
      = [.write 0x25 [1]] := by decide +kernel

/-- LIMIT of the dirty-first property (why `file_write_marks_dirty_first` has no whole-session form): the write-back
    of a directory entry (`DirEntryEditor::flush`) goes to the raw storage, not through `FsIoAdapter`. A session that only
    changes a time stamp (`set_modified`, here; likewise `set_created`, `set_accessed`, a `read` with
    `update_accessed_date`) and flushes writes the 32-byte record of the entry and NEVER touches the status byte: the
    cached flag stays clean. (`File::write` and `File::truncate` mark the volume dirty first; every FAT and
    root-directory write goes through the adapter.) -/
example :
    let f : FileH := (FileH.new none (some (DirEntryEditor.new (DirFileEntryData.new [] 0) 1024))).setModified
      ⟨⟨2001, 2, 3⟩, ⟨4, 5, 6, 0⟩⟩
    resErr (run f.flush C12ex.dev16).1 = none ∧
    (run f.flush C12ex.dev16).2.fs.curDirty = false ∧
    (run f.flush C12ex.dev16).2.log.length = 9 ∧
    (run f.flush C12ex.dev16).2.log.all (fun it => match it with
      | .write o b => 1024 ≤ o && o + b.length ≤ 1056
      | .flush => true) = true := by decide +kernel

end FatVerif
