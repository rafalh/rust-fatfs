import FatVerif.Proofs.ReadOnlySession
import FatVerif.Proofs.FileWriteForm
/-! # C14 — flushed data survives a power cut (program-level facts about the model: what is in the device log when
`flush` / `write` return)

The device log (`Dev.log`, newest first) is the ordered sequence of device writes and device flushes a crash model
consumes. `flush_persists`: a successful `File::flush` ends with a device flush, and if the handle's directory-entry
editor was dirty its 32-byte record has been written at the entry's position before that flush. `write_through`:
`File::write` never buffers — when it returns `n > 0` the data bytes are the newest write record of the log. -/
namespace FatVerif

theorem run_pure_inv {α} {x : α} {d d' : Dev} {r : Except Err α} (h : run (Prog.pure x) d = (r, d')) :
    r = .ok x ∧ d' = d := by
  cases run_pure_cases h; exact ⟨rfl, rfl⟩


theorem run_flush_spec (d : Dev) {u : Unit} {d' : Dev} (hr : run Prog.flush d = (.ok u, d')) :
    d'.log = .flush :: d.log ∧ d'.fs = d.fs := by
  have hc : (d.count .f).fs = d.fs ∧ (d.count .f).log = d.log := by unfold Dev.count; simp
  simp only [Prog.flush, run, stepOp, devCall, devCallCore] at hr
  split at hr
  · cases hr
  · cases hr; exact ⟨by simp [hc.2], hc.1⟩

/-- `DirEntryEditor::flush`, successful: a clean editor writes nothing; a dirty one writes its serialized record, as
    pieces tiling `[pos, pos + 32)`, and becomes clean -/
theorem flushDirEntry_spec (f : FileH) (d : Dev) {f' : FileH} {d' : Dev}
    (hr : run f.flushDirEntry d = (.ok f', d')) :
    (∀ e, f.entry = some e → e.dirty = true →
      f' = { f with entry := some { e with dirty := false } } ∧
      ∃ items, d'.log = items.reverse ++ d.log ∧ Pieces e.pos (e.data.serialize.take 32) items) ∧
    ((∀ e, f.entry = some e → e.dirty = false) → f' = f ∧ d'.log = d.log) := by
  unfold FileH.flushDirEntry at hr
  split at hr
  · rename_i e he
    split at hr
    · rename_i hdirty
      obtain ⟨_, d1, h1, h2⟩ := run_bind_ok_inv hr
      obtain ⟨u2, d2, h3, h4⟩ := run_bind_ok_inv h2
      have hs := run_seekStart_spec _ d h1
      obtain ⟨items, hl, hp, _⟩ := writeChunks_dev_pieces _ d1 _ _ h3
      obtain ⟨hf, rfl⟩ := run_pure_inv h4
      cases hf
      refine ⟨fun e0 he0 _ => ?_, fun hcl => ?_⟩
      · rw [he] at he0; cases he0
        refine ⟨rfl, items, by rw [hl, hs.2.1], ?_⟩
        rw [flatten_chunksOf, entryChunks_sum, hs.2.2 _ rfl] at hp
        exact hp
      · have := hcl e he; rw [hdirty] at this; cases this
    · rename_i hnd
      obtain ⟨hf, rfl⟩ := run_pure_inv hr
      cases hf
      refine ⟨fun e0 he0 hd0 => ?_, fun _ => ⟨rfl, rfl⟩⟩
      rw [he] at he0; cases he0; exact absurd hd0 hnd
  · rename_i hnone
    obtain ⟨hf, rfl⟩ := run_pure_inv hr
    cases hf
    refine ⟨fun e0 he0 _ => ?_, fun _ => ⟨rfl, rfl⟩⟩
    rw [hnone] at he0; cases he0

/-- **`flush_persists`**: after `File::flush` succeeded the handle's editor is not dirty, the newest log item is a
    device flush, and — if the editor was dirty — the record `e.data.serialize` (its first 32 bytes, i.e. all of it
    for a well-formed entry: `DirFileEntryData.serialize_length`) was written at `e.pos`, tiled by the write records
    `items` (oldest first) that immediately precede that flush -/
theorem flush_persists (f : FileH) (d : Dev) {f' : FileH} {d' : Dev} (hr : run f.flush d = (.ok f', d')) :
    CleanFile f' ∧ d'.log.head? = some .flush ∧
    (∀ e, f.entry = some e → e.dirty = true →
      f' = { f with entry := some { e with dirty := false } } ∧
      ∃ items, d'.log = .flush :: (items.reverse ++ d.log) ∧ Pieces e.pos (e.data.serialize.take 32) items) ∧
    ((∀ e, f.entry = some e → e.dirty = false) → f' = f ∧ d'.log = .flush :: d.log) := by
  unfold FileH.flush at hr
  obtain ⟨f1, d1, h1, h2⟩ := run_bind_ok_inv hr
  obtain ⟨u, d2, h3, h4⟩ := run_bind_ok_inv h2
  obtain ⟨hf, rfl⟩ := run_pure_inv h4
  cases hf
  have hfl := run_flush_spec d1 h3
  have hsp := flushDirEntry_spec f d h1
  refine ⟨?_, by rw [hfl.1]; rfl, fun e he hd => ?_, fun hcl => ?_⟩
  · intro e he
    cases hfe : f.entry with
    | none =>
      have := (hsp.2 (fun e0 he0 => by rw [hfe] at he0; cases he0)).1
      rw [this, hfe] at he; cases he
    | some e0 =>
      cases hd0 : e0.dirty with
      | true =>
        have := (hsp.1 e0 hfe hd0).1
        rw [this] at he; cases he; rfl
      | false =>
        have := (hsp.2 (fun e1 he1 => by rw [hfe] at he1; cases he1; exact hd0)).1
        rw [this, hfe] at he; cases he; exact hd0
  · obtain ⟨hf, items, hl, hp⟩ := hsp.1 e he hd
    exact ⟨hf, items, by rw [hfl.1, hl], hp⟩
  · obtain ⟨hf, hl⟩ := hsp.2 hcl
    exact ⟨hf, by rw [hfl.1, hl]⟩

/-- `update_dir_entry_after_write` reads the clock only -/
theorem updateAfterWrite_log (f : FileH) (d : Dev) {r d'} (hr : run f.updateAfterWrite d = (r, d')) :
    d'.log = d.log := by
  unfold FileH.updateAfterWrite at hr
  split at hr
  · rcases run_bind_cases hr with ⟨t, d1, h1, h2⟩ | ⟨e', h1, _⟩
    · simp only [Prog.now, run, stepOp] at h1
      cases h1
      rw [(run_pure_inv h2).2]
    · simp only [Prog.now, run, stepOp] at h1; cases h1
  · rw [(run_pure_inv hr).2]

theorem run_write_ok_spec (bs : List Nat) (d : Dev) {m : Nat} {d1 : Dev} (hr : run (Prog.write bs) d = (.ok m, d1)) :
    m ≤ bs.length ∧ d1.log = .write d.pos (bs.take m) :: d.log := by
  simp only [Prog.write, run] at hr
  rcases stepOp_write_spec bs d hr with ⟨_, ⟨e, he, _⟩ | ⟨m', hm, hle, hlog, _⟩⟩
  · cases he
  · cases hm; exact ⟨hle, hlog⟩

/-- a successful `File::write` returning `n > 0`, walked through once: the runs of `set_dirty_flag`, of the choice of
    the cluster and of `offset_from_cluster` it went through; after them it appends ONE record, the data, at the cursor's
    position in the cluster -/
theorem file_write_run (f : FileH) (buf : List Nat) (d : Dev) {n : Nat} {f' : FileH} {d' : Dev}
    (hr : run (f.write buf) d = (.ok (n, f'), d')) (hn : n > 0) :
    ∃ (d1 d2 d3 : Dev) (cur : Nat) (f1 : FileH) (off : Nat),
      run (setDirtyFlag true) d = (.ok (), d1) ∧ run (FileSim.selCluster f d.fs) d1 = (.ok (cur, f1), d2) ∧
      run (offsetFromClusterP d.fs cur) d2 = (.ok off, d3) ∧
      d'.log = .write (off + f.offset % d.fs.clusterSize) (buf.take n) :: d3.log ∧
      f.offset % d.fs.clusterSize + n ≤ d.fs.clusterSize := by
  unfold FileH.write at hr
  obtain ⟨fs, d0, h0, hr⟩ := run_bind_ok_inv hr
  simp only [Prog.getFs, run, stepOp] at h0
  cases h0
  dsimp only at hr
  split at hr
  · cases (run_pure_inv hr).1; omega
  · obtain ⟨_, d1, h1, hr⟩ := run_bind_ok_inv hr
    obtain ⟨⟨cur, f1⟩, d2, h2, hr⟩ := run_bind_ok_inv hr
    dsimp only at hr
    obtain ⟨off, d3, h3, hr⟩ := run_bind_ok_inv hr
    obtain ⟨_, d4, h4, hr⟩ := run_bind_ok_inv hr
    have a4 := run_seekStart_spec _ d3 h4
    obtain ⟨m, d5, hw, hr⟩ := run_bind_ok_inv hr
    have hws := run_write_ok_spec _ d4 hw
    split at hr
    · cases (run_pure_inv hr).1; omega
    · obtain ⟨f2, d6, hu, hr⟩ := run_bind_ok_inv hr
      obtain ⟨hf, rfl⟩ := run_pure_inv hr
      cases hf
      have hmle := hws.1
      simp only [List.length_take] at hmle
      refine ⟨d1, d2, d3, cur, f1, off, h1, h2, h3, ?_, ?_⟩
      · rw [updateAfterWrite_log _ d5 hu, hws.2, a4.2.2 _ rfl, a4.2.1, List.take_take, Nat.min_eq_left (by omega)]
      · have hm : f.offset % d.fs.clusterSize < d.fs.clusterSize ∨ d.fs.clusterSize = 0 := by
          rcases Nat.eq_zero_or_pos d.fs.clusterSize with h | h
          · exact Or.inr h
          · exact Or.inl (Nat.mod_lt _ h)
        omega

/-- **`write_through`**: the model never buffers file data — when `File::write` returns `n > 0`, the `n` bytes
    `buf.take n` are the NEWEST record of the device log (a single device write at some offset `off`), i.e. they reached
    the device before the call returned (only the handle's 32-byte directory record is deferred to `flush`) -/
theorem write_through (f : FileH) (buf : List Nat) (d : Dev) {n : Nat} {f' : FileH} {d' : Dev}
    (hr : run (f.write buf) d = (.ok (n, f'), d')) (hn : n > 0) :
    ∃ off, d'.log.head? = some (.write off (buf.take n)) :=
  let ⟨_, _, _, _, _, _, _, _, _, hlog, _⟩ := file_write_run f buf d hr hn
  ⟨_, by rw [hlog]; rfl⟩

/-! ## the statements are not vacuous -/

namespace C14ex
def fs16 : FsState :=
  { fatType := .fat16, bps := 512, spc := 1, reserved := 1, fats := 1, spf := 1, totalClusters := 5,
    firstDataSector := 2, rootEntries := 16, rootDirSectors := 1, fsInfo := { free := some 4 } }
def dev16 : Dev := { img := Img.empty 4096, fs := fs16 }
def dirtyFile : FileH :=
  { firstCluster := some 2, currentCluster := none, offset := 0,
    entry := some { data := DirFileEntryData.new (List.replicate 11 65) 0, pos := 1024, dirty := true } }
end C14ex

/-- flushing a dirty handle succeeds here: 12 chunk writes (11+1+1+1+2+2+2+2+2+2+2+4 bytes from offset 1024), then
    the device flush -/
example : resErr (run C14ex.dirtyFile.flush C14ex.dev16).1 = none ∧
    (run C14ex.dirtyFile.flush C14ex.dev16).2.log.length = 13 ∧
    (run C14ex.dirtyFile.flush C14ex.dev16).2.log.head? = some .flush ∧
    (run C14ex.dirtyFile.flush C14ex.dev16).2.log.getLast? = some (.write 1024 (List.replicate 11 65)) := by
  decide +kernel

/-- a successful 3-byte `File::write` at offset 0 of cluster 2: the data is the newest log record -/
example : ((run (({ C14ex.dirtyFile with currentCluster := none }).write [7, 8, 9]) C14ex.dev16).2.log.head? =
    some (.write 1024 [7, 8, 9])) := by
  decide +kernel

end FatVerif
