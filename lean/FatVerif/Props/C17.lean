import FatVerif.Proofs.LfnGen
import FatVerif.Proofs.LfnFallback
/-!
# C17 — directory decoding is total on arbitrary slot contents

`readDirEntries alloc skipVolume slots` is the model of `DirIter` (dir.rs) over a list of 32-byte slots, in both
`LfnBuffer` variants (`alloc = true`: `Vec`; `alloc = false`: `[u16; 260]` + `len`).
-/
namespace FatVerif
open Lfn

/-! ## witnesses -/

namespace C17
/-- a short slot: 11 name bytes, attribute 0x20, 20 zero bytes -/
def sfnOf (name : List Nat) : List Nat := name ++ 0x20 :: List.replicate 20 0

/-- "LONG260 TXT" -/
def longName : List Nat := [76, 79, 78, 71, 50, 54, 48, 32, 84, 88, 84]
/-- "LEAK    TXT" -/
def leakName : List Nat := [76, 69, 65, 75, 32, 32, 32, 32, 84, 88, 84]

/-- former F17 witness (regression input): ordinals `0x54, 19, …, 1`, every unit `'A'`, then the short entry whose checksum they carry -/
def f17Witness : List (List Nat) :=
  ((List.range 20).map fun i =>
      lfnSlotBytes (if i = 0 then 0x54 else 20 - i) (lfnChecksum longName) (List.replicate 13 0x41)) ++
    [sfnOf longName]

/-- former F18 witness (regression input): an abandoned 2-slot run (`0x42`, units `'X'`) directly followed by a complete 1-slot run
    (`0x41`, units `'a'`) and the short entry -/
def f18Witness : List (List Nat) :=
  [lfnSlotBytes 0x42 (lfnChecksum leakName) (List.replicate 13 0x58),
   lfnSlotBytes 0x41 (lfnChecksum leakName) (List.replicate 13 0x61),
   sfnOf leakName]
end C17

/-! ## 1. totality -/

/-- **C17.1** The reader is a structural recursion on the slot list (so it terminates), and none of its explicit
    panic sites fires: `readDirEntries?` is the same loop with the bounds checks of `buf[pos..pos+13]` (`process`) and
    `ucs2_units[..len]` (`as_ucs2_units`, in `truncate` and on the returned buffer) written out (`none` = panic);
    it never returns `none`. -/
theorem dirIter_total (alloc skipVolume : Bool) (slots : List (List Nat)) :
    readDirEntries? alloc skipVolume slots = some (readDirEntries alloc skipVolume slots) :=
  (readLoop_ok alloc skipVolume slots 0 0 _ (WF_new alloc)).1

/-- the single step: in a reachable builder state the slice `[13·(index−1), 13·index)` is inside the buffer —
    `Vec`: after `set_len(index·13)`; fixed: `260 ≥ 20·13` -/
theorem process_slice_in_range (alloc : Bool) (b : LongNameBuilder) (s : List Nat) (h : WF alloc b) :
    b.process? alloc s = some (b.process alloc s) ∧ WF alloc (b.process alloc s) :=
  process?_eq alloc b s h

example : readDirEntries? false true C17.f18Witness ≠ none := by
  rw [dirIter_total]; simp

/-! ## 2. name length -/

/-- **C17.2** a returned long name has at most 255 units — every slot list, both buffer variants
    (since commit 6c58f9d; before it the bound was 260: F17) -/
theorem name_len_le_255 (alloc skipVolume : Bool) (slots : List (List Nat)) :
    ∀ e ∈ readDirEntries alloc skipVolume slots, e.units.length ≤ 255 :=
  (readLoop_ok alloc skipVolume slots 0 0 _ (WF_new alloc)).2

/-- regression (former F17 witness): the crafted 20-slot run of 260 × `'A'` now yields no long name — the entry falls
    back to its short name — in both variants -/
theorem name_len_255_regression :
    ∀ alloc, readDirEntries alloc true C17.f17Witness = [⟨C17.sfnOf C17.longName, [], 0, 21⟩] := by
  decide +kernel

example : ∀ alloc, ∀ e ∈ readDirEntries alloc true C17.f17Witness, e.longName = none := by
  intro alloc e he
  rw [name_len_255_regression alloc] at he
  rw [List.mem_singleton.1 he]; rfl

/-! ## 3. a long name comes from a complete run directly before the short entry -/

/-- **C17.3** (both buffer variants, every slot list) if an entry carries a long name then the slots directly before
    its short slot form a complete run (first slot `0x40 | n`, `n = ` number of slots `≤ 20`, then ordinals `n−1 … 1`
    unflagged, one checksum, equal to `lfnChecksum(sfn)`), and the name is that run's units up to (excluding) the first
    `0x0000` unit — all of them if there is none —, at most 255 of them.  (Otherwise `units = []`: the short name is
    used.) -/
theorem broken_run_falls_back (alloc skipVolume : Bool) (slots : List (List Nat)) :
    ∀ e ∈ readDirEntries alloc skipVolume slots, e.units ≠ [] →
      ∃ pre R post, slots = pre ++ R ++ e.sfn :: post ∧ e.endIdx = pre.length + R.length + 1 ∧
        CompleteRun (lfnChecksum (sfnName e.sfn)) R ∧ (∀ s ∈ R, slotClass s = .lfn) ∧
        e.units = cutAtNul (runUnits R) ∧ e.units.length ≤ 255 := by
  intro e he hne
  have hlen := name_len_le_255 alloc skipVolume slots e he
  have hspec := readLoop_spec alloc skipVolume slots 0 [] (LongNameBuilder.new alloc) (WF_new alloc) rfl (Nat.le_refl 0)
  simp only [List.length_nil, Nat.sub_zero] at hspec
  unfold readDirEntries at he
  rw [hspec] at he
  obtain ⟨e', he', rfl⟩ := List.mem_map.1 he
  cases hr : e'.run with
  | none => simp [specToModel, DirSpec.SpecEntry.name, hr] at hne
  | some r =>
    obtain ⟨pre, R, post, h1, h2, h3, h4, h5⟩ :=
      specLoop_run_sound skipVolume slots 0 [] [] rfl ⟨[], rfl⟩ (by simp) e' he' r hr
    refine ⟨pre, R, post, by simpa [specToModel] using h1, h2, h3, h4, ?_, hlen⟩
    simp only [specToModel, DirSpec.SpecEntry.name, hr] at hne ⊢
    split at hne
    · rename_i hle
      rw [if_pos hle, Option.getD_some, ← cutAtNul_eq_spec, h5]
    · exact absurd rfl hne

/-- the converse: a complete run directly before a file entry whose checksum it carries IS honoured (both variants):
    the name is the run's units before the first `0x0000` — unless more than 255 units remain (then: no long name).
    In particular a run WITHOUT terminator whose tail is `0xFFFF` "padding" has those `0xFFFF` units as part of its
    name (on the implementation's and on the specification's side alike). -/
theorem complete_run_honoured (alloc skipVolume : Bool) (R : List (List Nat)) (sfn : List Nat)
    (hR : CompleteRun (lfnChecksum (sfnName sfn)) R) (hl : ∀ s ∈ R, slotClass s = .lfn)
    (hsfn : slotClass sfn = .file) :
    readDirEntries alloc skipVolume (R ++ [sfn]) =
      [⟨sfn, if (cutAtNul (runUnits R)).length > 255 then [] else cutAtNul (runUnits R), 0,
        R.length + 1⟩] :=
  read_complete_run alloc skipVolume R sfn hR hl hsfn

/-- regression (former F18 witness): an abandoned longer run directly followed by a complete 1-slot run — both variants
    return the 13 × `'a'` of the complete run and nothing of the abandoned one -/
theorem fixedbuf_leak_regression :
    ∀ alloc, readDirEntries alloc true C17.f18Witness =
      [⟨C17.sfnOf C17.leakName, List.replicate 13 0x61, 0, 3⟩] := by
  decide +kernel

/-! ## 4. model = independent specification parser (C01.1 `dirIter_spec`) -/

/-- **C17.4 / C01.1** On EVERY slot list, in BOTH buffer variants, the reader returns exactly the entries of the
    independent backward-scanning specification parser `DirSpec.specEntries` — same short slots, same ranges, and as
    long name the specification's own `SpecEntry.name` (the units of the complete run before the first `0x0000`,
    1 … 255 of them; `[]` = no long name).  No convention gap is left: since commit 712f847 the implementation cuts at
    the first NUL exactly as the specification parser does. -/
theorem dirIter_spec (alloc skipVolume : Bool) (slots : List (List Nat)) :
    readDirEntries alloc skipVolume slots =
      (DirSpec.specEntries skipVolume slots).map fun e => ⟨e.sfn, e.name.getD [], e.beginIdx, e.endIdx⟩ :=
  readLoop_spec alloc skipVolume slots 0 [] (LongNameBuilder.new alloc) (WF_new alloc) rfl (Nat.le_refl 0)

/-- the cut rule on the two shapes of a run: name + terminator + anything, and name filling the run completely
    (trailing `0xFFFF` units included) -/
theorem cut_rule (name : List Nat) (hnz : ∀ x ∈ name, x ≠ 0) (pad : List Nat) :
    cutAtNul (name ++ 0 :: pad) = name ∧ cutAtNul name = name :=
  ⟨cutAtNul_append_nul name pad hnz, cutAtNul_of_nonzero name hnz⟩

example : cutAtNul [0x61, 0xFFFF, 0xFFFF] = [0x61, 0xFFFF, 0xFFFF] ∧ cutAtNul [0x61, 0xFFFF, 0, 0xFFFF] = [0x61, 0xFFFF] := by
  decide

end FatVerif
