import FatVerif.Proofs.DecodeRows
import FatVerif.Proofs.DecodeContent
import FatVerif.Proofs.OracleRead
/-!
# C04 — what the session observes = what an independent decoder reads from the image

Composition of
* Props/C01sim: `run (listDir …)` on a fault-free device = the pure reader `DirSlots.listing` on the 32-byte
  records of the directory read from the IMAGE (`rootDirSlots` / `chainSlots`), mapped to the library's `DirEntry`;
* C17 `dirIter_spec`: the pure reader = the independent backward-scanning specification parser `DirSpec.specEntries`;
* C18 `shortName_spec`, `lowercaseName_spec` and the field layout of `DirEntryData::deserialize`: the accessors of a
  `DirEntry` = the specification's reading of the 32 bytes (`DirSpec.rowOf`);
* `read_sim` (Proofs/FileSimRead): one `File::read` = the cursor machine's step on `absFile`;
* Props/C03img / `view_spec` (Proofs/FatMore): the table the programs follow = `FatSpec.specValue` of the FAT bytes of
  the image.

Fields covered by (a) — `DirSpec.Row`: long name (UTF-16 units, `None` when there is no valid run), displayed short name,
short name under the NT case flags (the fallback of `file_name()`), `is_dir`, attribute bits, size, first cluster
(FAT32 high word included), created / accessed / modified (decoded), and the entry's slot range.  `file_name()` itself is
a function of the row (`fileName_of_row`).  Not covered: `entry_pos` (a device offset, no specification counterpart).
-/
namespace FatVerif
open DirSim FileSim DecodeAgree

/-! ## (a) listings -/

/-- **C04 (a), fixed root.**  On a fault-free device whose root region is readable (`RootReadable`), with the default
    heap long-name buffer, `Dir::iter()` on the root directory returns entries whose observable rows are EXACTLY the rows
    the independent specification parser `DirSpec.specRows` computes from the slots of the root region of the image;
    image, log, mounted state untouched. -/
theorem list_equals_decode_root {d : Dev} {N : Nat} (h : RootReadable d N) (ha : d.fs.lfnAlloc = true) :
    ∃ L d', run (listDir (rootAt d.fs 0)) d = (.ok L, d') ∧
      L.map (libRow d.fs.fatType) = DirSpec.specRows (d.fs.fatType == .fat32) (rootDirSlots d.fs d.img) ∧
      d'.img = d.img ∧ d'.log = d.log ∧ d'.fs = d.fs ∧ d'.failAt = none := by
  obtain ⟨L, ⟨d', hr, hs⟩, -, hrows⟩ := h.dirSrcK.list_decodes h.fuel ha d (SameVol.refl d)
  rw [srcSlots_root h] at hrows
  exact ⟨L, d', hr, hrows, hs.img, hs.log, hs.fs, by rw [hs.failAt]; exact h.noFault⟩

/-- **C04 (a), cluster-chain directories** (sub-directories, the FAT32 root): the same for the slots of the clusters of
    the directory's chain, in chain order (the log gains `flush` records only: the iterator's clone is dropped). -/
theorem list_equals_decode_chain {d : Dev} {c0 : Nat} {ent : Option DirEntryEditor} {chain : List Nat}
    (h : ChainReadable d c0 ent chain) (ha : d.fs.lfnAlloc = true) :
    ∃ L d', run (listDir (.file (FileH.new (some c0) ent))) d = (.ok L, d') ∧
      L.map (libRow d.fs.fatType) = DirSpec.specRows (d.fs.fatType == .fat32) (chainSlots d.fs d.img chain) ∧
      d'.img = d.img ∧ d'.writesOf = d.writesOf ∧ d'.fs = d.fs ∧ d'.failAt = none := by
  obtain ⟨L, ⟨d', hr, hs⟩, -, hrows⟩ := (DirView.ofChain h).list_decodes ha d (SameVol.refl d)
  rw [DirView.slots, DirView.slots_ofChain h] at hrows
  exact ⟨L, d', hr, hrows, hs.img, hs.writesOf, hs.fs, by rw [hs.failAt]; exact h.dir.failAt⟩

/-- the chain of such a directory IS the chain the specification's FAT decoder walks from its first cluster -/
theorem chainReadable_specChain {d : Dev} {c0 : Nat} {ent : Option DirEntryEditor} {chain : List Nat}
    (h : ChainReadable d c0 ent chain) (hnd : chain.Nodup) : specChainOf d.fs d.img c0 = some chain := by
  unfold specChainOf
  exact specChain_of_chain _ _ _ (tabView d.fs d.img) (fun c hc => tabView_spec h.dir.geo d.img c hc) c0 chain
    h.dir.link h.dir.inTab _ (nodup_length_le hnd (fun c hc => (h.dir.inTab c hc).2))

/-- the example of C01sim: two rows, the first with the long name "Hello.txt" (units), both with their decoded fields -/
example : DirSpec.specRows false (rootDirSlots Ex.dev.fs Ex.dev.img) =
    [ { longName := some (Names.encodeUtf16 "Hello.txt".toList), shortName := "HELLO.TXT".toList.map Char.toNat,
        shortNameNT := "HELLO.TXT".toList.map Char.toNat, isDir := false, attrs := 0x20, size := 0,
        firstCluster := none, created := ((1980, 0, 0), (0, 0, 0, 0)), accessed := (1980, 0, 0),
        modified := ((1980, 0, 0), (0, 0, 0, 0)), beginIdx := 0, endIdx := 2 },
      { longName := none, shortName := [66], shortNameNT := [66], isDir := true, attrs := 0x10, size := 0,
        firstCluster := none, created := ((1980, 0, 0), (0, 0, 0, 0)), accessed := (1980, 0, 0),
        modified := ((1980, 0, 0), (0, 0, 0, 0)), beginIdx := 2, endIdx := 3 } ] := by
  rw [Ex.root_slots]; decide +kernel

/-! ## (b) file contents -/

/-- **C04 (b).**  For a represented file handle at offset 0 (`FileRep`: what `open_file`/`to_file` build from a slot —
    first cluster and size from the 32-byte record), on a fault-free device with layout `Geo`: `readall` (`read(4096)`
    until it returns nothing) returns exactly `specContent`: the clusters of the chain that the SPECIFICATION's FAT
    decoder (`FatSpec.specChain` on the FAT bytes of the image, `FatSpec.specValue` entry by entry) walks from the
    first cluster, concatenated and cut at the recorded size; image, log and mounted state untouched. -/
theorem read_equals_decode (f : FileH) (d : Dev) (hfa : d.failAt = none) (hg : Geo d.fs d.img.size)
    (hrep : FileRep d.fs d.img f) (h0 : f.offset = 0) (fuel : Nat) (hfuel : f.size?.getD 0 < fuel) :
    ∃ f' d', run (Session.readAllLoop fuel f []) d =
        (.ok (specContent d.fs d.img f.firstCluster (f.size?.getD 0), f'), d') ∧
      d'.img = d.img ∧ d'.log = d.log ∧ d'.fs = d.fs ∧ FileRep d.fs d.img f' := by
  obtain ⟨f', d', hr, hs, hrep'⟩ := readAll_specContent f d hfa hg hrep h0 fuel hfuel
  exact ⟨f', d', hr, hs.img, hs.log, hs.fs, hrep'⟩

/-- … for the handle `to_file` builds from a listed FILE entry: first cluster and size are those of the
    specification's row of that entry -/
theorem read_listed_equals_decode (e : DirSpec.SpecEntry) (src : Nat → Nat) (d : Dev) (hlen : 11 ≤ e.sfn.length)
    (hfile : (DirSpec.rowOf (d.fs.fatType == .fat32) e).isDir = false)
    (hfa : d.failAt = none) (hg : Geo d.fs d.img.size)
    (hrep : FileRep d.fs d.img
      (FileH.new ((toDirEntryS src ⟨e.sfn, e.name.getD [], e.beginIdx, e.endIdx⟩).firstCluster d.fs)
        (some (toDirEntryS src ⟨e.sfn, e.name.getD [], e.beginIdx, e.endIdx⟩).editor)))
    (fuel : Nat) (hfuel : (DirSpec.rowOf (d.fs.fatType == .fat32) e).size < fuel) :
    ∃ f' d', run (Session.readAllLoop fuel
        (FileH.new ((toDirEntryS src ⟨e.sfn, e.name.getD [], e.beginIdx, e.endIdx⟩).firstCluster d.fs)
          (some (toDirEntryS src ⟨e.sfn, e.name.getD [], e.beginIdx, e.endIdx⟩).editor)) []) d =
        (.ok (specContent d.fs d.img (DirSpec.rowOf (d.fs.fatType == .fat32) e).firstCluster
          (DirSpec.rowOf (d.fs.fatType == .fat32) e).size, f'), d') ∧
      d'.img = d.img ∧ d'.log = d.log ∧ d'.fs = d.fs := by
  obtain ⟨E, hE⟩ : ∃ E, E = toDirEntryS src ⟨e.sfn, e.name.getD [], e.beginIdx, e.endIdx⟩ := ⟨_, rfl⟩
  have hrow : libRow d.fs.fatType E = DirSpec.rowOf (d.fs.fatType == .fat32) e := by
    rw [hE]; exact libRow_toDirEntryS d.fs.fatType src e hlen
  rw [← hE] at hrep ⊢
  rw [← hrow] at hfile hfuel ⊢
  -- the handle's size is the row's: the entry is a file
  have hsz : (FileH.new (E.firstCluster d.fs) (some E.editor)).size?.getD 0 = (libRow d.fs.fatType E).size := by
    rw [size?_new_file _ E.editor hfile]; rfl
  obtain ⟨f', d', hr, h1, h2, h3, _⟩ := read_equals_decode _ d hfa hg hrep rfl fuel (by rw [hsz]; exact hfuel)
  rw [hsz] at hr
  exact ⟨f', d', hr, h1, h2, h3⟩

/-- non-vacuity on the FAT16 volume `FileSim.Ex.img16` (Props/C02sim): the two-cluster file (chain `3 → 5`, 1020 bytes)
    read from offset 0 -/
example : specChainOf Ex.fs16 Ex.img16 3 = some [3, 5] ∧
    (specContent Ex.fs16 Ex.img16 (some 3) 1020).length = 1020 ∧
    ((specContent Ex.fs16 Ex.img16 (some 3) 1020).drop 509).take 6 = [11, 12, 13, 21, 22, 23] := by
  -- the chain once, from the image's byte function (`Ex.read16`); then the content given the chain
  -- (evaluating `specContent` whole, through its `match` on the decoded chain, is ~15x slower to check)
  have hc : specChainOf Ex.fs16 Ex.img16 3 = some [3, 5] := by
    simp only [specChainOf, imgFatBytes, fatBytes, Img.read, Ex.read16.2]; decide +kernel
  rw [specContent_of_chain hc]
  simp only [Img.read, Ex.read16.2]
  exact ⟨hc, by decide +kernel⟩

/-! ## (c) the EXECUTABLE decoder of the run-time oracle (`Spec/FatSpec.lean`)

The run-time oracle decodes images with `Spec.listDir` / `Spec.fileContent` / `Spec.chainOf` (array- and loop-based, with
Brent cycle detection, page-wise reads).  A general proof that these agree with `DirSpec.specRows` / `specContent` /
`FatSpec.specChain` is NOT given here.  Of the three things that would have to be related: the oracle's entry and chain
decoders are related to `FatSpec.specValue` / `specChain` over the bytes of a FAT copy (`Spec.fatEntryRawF`, `chainOfF`:
Props/SpecFatEntry, SpecChainEq; not instantiated at `Spec.fatEntry g img`); the `for`-loops of `readSlotRange` /
`readExtents` are the list of the directory's records for every image (Proofs/OracleRead; `listDir_root_slots`,
`listDir_chain_slots` below put the model's `rootDirSlots` / `chainSlots` there); the gap is `Spec.scanDir`/`runName`
against `DirSpec.specLoop`/`specRun`, and the `ByteArray` loop of `fileContent`.  What IS checked, by kernel evaluation
of the two parsers on the same records, is their agreement on the example images of C01sim / C02sim, field by field. -/

namespace C04
open Spec

/-- the fields of an entry of the executable decoder that `DirSpec` also computes, slot position as an index -/
structure Key where
  longName : Option (List Nat)
  shortRaw : List Nat
  attrs : Nat
  ntRes : Nat
  size : Nat
  firstCluster : Nat
  crt : Nat × Nat × Nat
  acc : Nat
  wrt : Nat × Nat
  endIdx : Nat
  deriving DecidableEq, Repr

def metaKey (base : Nat) (m : EntryMeta) : Key :=
  ⟨m.longName, m.shortRaw, m.attrs % 64, m.ntRes, m.size, m.firstCluster,
   (m.crtDate, m.crtTime, m.crtTenth), m.accDate, (m.wrtDate, m.wrtTime), (m.slotPos - base) / 32 + 1⟩

def specKey (fat32 : Bool) (e : DirSpec.SpecEntry) : Key :=
  ⟨e.name, DirSpec.shortName e.sfn, DirSpec.b e.sfn 11 % 64, DirSpec.b e.sfn 12, DirSpec.d32 e.sfn 28,
   DirSpec.w e.sfn 26 + 65536 * (if fat32 then DirSpec.w e.sfn 20 else 0),
   (DirSpec.w e.sfn 16, DirSpec.w e.sfn 14, DirSpec.b e.sfn 13), DirSpec.w e.sfn 18,
   (DirSpec.w e.sfn 24, DirSpec.w e.sfn 22), e.endIdx⟩

def okEntries (base : Nat) : Except String ParsedDir → Option (List Key)
  | .ok p => some (p.entries.map (metaKey base))
  | .error _ => none

/-- the geometry of the example volumes of C01sim as the executable decoder wants it -/
def geomEx (totalClusters : Nat) : Geom :=
  { bps := 512, spc := 1, reserved := 1, fats := 1, rootEntries := 16, totalSectors := 3 + totalClusters, spf := 1,
    fatBits := 16, rootCluster := 0, fsInfoSector := 0, backupSector := 0, extFlags := 0, media := 0xF8,
    statusByteOffset := 0x25 }

/-- the executable decoder on the fixed root parses the records the model's reader sees (`rootDirSlots`), each at its
    position, through the end marker -/
theorem listDir_root_slots {g : Geom} {fs : FsState} (img : Img) (ho : g.rootStart = (rootSliceOf fs).beginOff)
    (hn : g.rootDirBytes = (rootSliceOf fs).size) :
    Spec.listDir g img .fixedRoot = .ok (parseDir g.fatBits
      (throughEnd true (mkSlots (extPos [(g.rootStart, g.rootDirBytes)]) (rootDirSlots fs img))).1) := by
  rw [listDir_fixedRoot, ho, hn]
  simp [extRecs, rootDirSlots, rootSlots]

/-- ... and on a cluster chain, `chainSlots` of the chain its own walk returns -/
theorem listDir_chain_slots {g : Geom} {fs : FsState} {img : Img} {first : Nat} {cs : List Nat}
    (h : chainOf g img first = .ok cs.toArray) (ho : ∀ c ∈ cs, g.clusterOff c = clusterOff fs c)
    (hn : g.clusterSize = fs.clusterSize) :
    Spec.listDir g img (.chain first) = .ok (parseDir g.fatBits
      (throughEnd true (mkSlots (extPos (cs.map fun c => (g.clusterOff c, g.clusterSize))) (chainSlots fs img cs))).1) := by
  rw [listDir_chain h]
  congr 5
  simp only [extRecs, chainSlots, hn, List.flatMap_def, List.map_map]
  congr 1
  exact List.map_congr_left fun c hc => by simp only [Function.comp, ho c hc]

/-- `Ex` (fixed root with a long-named and a short-named entry): executable decoder = `DirSpec` -/
example : okEntries 1024 (Spec.listDir (geomEx 8) DirSim.Ex.dev.img .fixedRoot) =
    some ((DirSpec.specEntries true (rootDirSlots DirSim.Ex.dev.fs DirSim.Ex.dev.img)).map (specKey false)) := by
  -- both parsers on the literal records of `Ex.root_slots`; the image's pages are not evaluated
  rw [listDir_root_slots (fs := DirSim.Ex.dev.fs) _ (by decide) (by decide), Ex.root_slots]; decide +kernel

/-- `Ex2` (a directory of two clusters, listing crosses the cluster boundary through the FAT): the executable chain walk
    = `FatSpec.specChain`, the executable listing = `DirSpec` on `chainSlots` -/
example : (match Spec.chainOf (geomEx 4) DirSim.Ex2.dev.img 2 with | .ok a => some a.toList | .error _ => none) =
      specChainOf DirSim.Ex2.dev.fs DirSim.Ex2.dev.img 2 ∧
    okEntries 1536 (Spec.listDir (geomEx 4) DirSim.Ex2.dev.img (.chain 2)) =
      some ((DirSpec.specEntries true (chainSlots DirSim.Ex2.dev.fs DirSim.Ex2.dev.img [2, 3])).map (specKey false)) := by
  have hc : Spec.chainOf (geomEx 4) DirSim.Ex2.dev.img 2 = .ok [2, 3].toArray := by decide +kernel
  rw [listDir_chain_slots (fs := DirSim.Ex2.dev.fs) hc (by decide) (by decide), hc,
    Ex2.chain_slots, chainReadable_specChain Ex2.readable (by decide)]
  decide +kernel

/-- the FAT16 volume `FileSim.Ex.img16` as the executable decoder wants it, and the entry of the two-cluster file -/
def geom16 : Geom :=
  { bps := 512, spc := 1, reserved := 1, fats := 2, rootEntries := 16, totalSectors := 9, spf := 1,
    fatBits := 16, rootCluster := 0, fsInfoSector := 0, backupSector := 0, extFlags := 0, media := 0xF8,
    statusByteOffset := 0x25 }

def meta16 : EntryMeta := { (default : EntryMeta) with size := 1020, firstCluster := 3 }

def okBytes : Except String ByteArray → Option (List Nat)
  | .ok b => some (b.toList.map (·.toNat))
  | .error _ => none

/- `Spec.fileContent` = `specContent` on that file (evaluated by the compiler: `#guard`, not a kernel proof — the
   page-wise `ByteArray` loops of `readBytes` do not reduce in the kernel in reasonable time) -/
#guard okBytes (Spec.fileContent geom16 FileSim.Ex.img16 meta16) ==
  some (specContent FileSim.Ex.fs16 FileSim.Ex.img16 (some 3) 1020)

#guard (match Spec.chainOf geom16 FileSim.Ex.img16 3 with | .ok a => some a.toList | .error _ => none) ==
  specChainOf FileSim.Ex.fs16 FileSim.Ex.img16 3

end C04

end FatVerif
