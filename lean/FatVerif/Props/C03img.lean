import FatVerif.Proofs.FatImgOps
import FatVerif.Proofs.FatImgDisjoint
import FatVerif.Proofs.FsCountOps
import FatVerif.Props.C03fat
import FatVerif.Props.C05
import FatVerif.Proofs.RunFn
/-!
# C03 / C05 / C10 on the device image

The table programs of `Model/Table.lean`, run through the FAT slice of a device (`DiskSlice.strm`, mirrored or not,
through `FsIoAdapter` or raw), related to the decoded FAT of the IMAGE.

* `imgTable fs img = Fat.view fs.fatType (imgFatBytes fs img)`: the decoded FAT of the image, clipped to the FAT
  window (entries outside the window read `bad`). `imgFatView_eq_view`: it coincides with `imgFatView fs img` on every
  entry inside the window, for FAT12/16/32 and every image.
* every successful run of `get` / `count_free` / `alloc_cluster` / `ClusterIterator::free` / `truncate` computes on the
  window's bytes exactly what the pure functions of `Model/FatAlgo.lean` compute (`Proofs/FatImg*.lean`); hence all
  theorems of `C03fat`, `C05`, `C05count`, `C10` about those functions and about `Fat.view` hold of the image's table.

Hypotheses: `FatDev` (page table well formed, all FAT copies inside the device, status byte before the FAT, a FAT
copy `< 4 GiB`), `SliceInv` (the slice handed to the program is the FAT window at some offset), and `TableOk` of the
window's bytes for `total` clusters (the window holds `total+2` entries and `total+2 ≤ 0x?FF7`).
-/
namespace FatVerif.C03img
open FatVerif.Fat

/-- the decoded FAT of the image of a mounted volume, clipped to the FAT window -/
def imgTable (fs : FsState) (img : Img) : Nat → FatValue := view fs.fatType (imgFatBytes fs img)

/-- **imgFatView_eq_view** (all widths, all images): inside the window `imgFatView` IS `Fat.view` of the window bytes -/
theorem imgFatView_eq_view (fs : FsState) (img : Img) (c : Nat) (h : InRange fs.fatType (imgFatBytes fs img) c) :
    imgFatView fs img c = imgTable fs img c :=
  FatVerif.imgFatView_eq_view fs img c h

/-- in particular on all entries `[0, total+2)` of a window that holds them -/
theorem imgFatView_eq_view_table (fs : FsState) (img : Img) (total : Nat)
    (ht : TableOk fs.fatType (imgFatBytes fs img) total) (c : Nat) (hc : c < total + 2) :
    imgFatView fs img c = imgTable fs img c :=
  FatVerif.imgFatView_eq_view fs img c (ht.covers c hc)

/-- outside the window the two differ by design: `Fat.view` says `bad`, `imgFatView` decodes the bytes that follow the
    FAT copy. Consequence: `FatWf (imgFatView fs img) total` constrains those foreign bytes too (with mirroring, entry
    `c + entriesPerCopy` aliases entry `c` of the second copy, which contradicts `no_cross` as soon as one chain
    exists) — state invariants on `imgTable`, and use `imgFatView_eq_view_table` to read entries. -/
theorem imgTable_outside (fs : FsState) (img : Img) (c : Nat) (h : ¬ InRange fs.fatType (imgFatBytes fs img) c) :
    imgTable fs img c = .bad :=
  view_outside _ _ c h

/-- `TableOk` from the geometry: the window holds `total+2` entries, is shorter than 4 GiB, and `total+2 ≤ 0x?FF7` -/
theorem tableOk_img (fs : FsState) (img : Img) (total : Nat)
    (hfit : off fs.fatType (total + 1) + width fs.fatType ≤ (fatSliceOf fs).size)
    (hZ : (fatSliceOf fs).size < u32Lim) (hsmall : total + 2 ≤ badMark fs.fatType) :
    TableOk fs.fatType (imgFatBytes fs img) total :=
  ⟨wf_fatBytes _ _ _, fun c hc => inRange_of_fits _ _ _ img (total + 2) c hc hfit hZ, hsmall⟩

section programs
variable (fs : FsState)
local notation "S0" => fatSliceOf fs

/-- **get** — a successful `Table.get` of entry `c` returns the image's decoded entry and changes nothing -/
theorem get_image {s : DiskSlice} (hs : SliceInv S0 s) (c : Nat) (d : Dev) (hd : FatDev S0 d)
    {v : FatValue} {s' : DiskSlice} {d' : Dev}
    (hr : run (Table.get DiskSlice.strm fs.fatType s c) d = (.ok (v, s'), d')) :
    imgTable fs d.img c = v ∧ SameBytes d d' :=
  ⟨(get_img fs.fatType hs c d hd.wf hd.dev1 hd.small hr).2.1, (get_img fs.fatType hs c d hd.wf hd.dev1 hd.small hr).2.2.2⟩

/-- **countFree_img** — a successful `count_free_clusters` returns the number of free entries `[2,total+2)` of the
    image's table (= the count of the independent specification decoder) and changes nothing -/
theorem countFree_img {s : DiskSlice} (hs : SliceInv S0 s) (total : Nat) (d : Dev) (hd : FatDev S0 d)
    (ht : TableOk fs.fatType (imgFatBytes fs d.img) total) {n : Nat} {s' : DiskSlice} {d' : Dev}
    (hr : run (Table.countFree DiskSlice.strm fs.fatType s total) d = (.ok (n, s'), d')) :
    n = countFreeV (imgTable fs d.img) total ∧
    n = FatSpec.specCountFree fs.fatType.bits (imgFatBytes fs d.img) total ∧ SameBytes d d' := by
  have htot := ht.lt_u32
  obtain ⟨h1, h2, _⟩ := FatVerif.countFree_img fs.fatType hs total d hd.wf hd.dev1 htot hr
  have h1 := h1 n s' rfl
  have h3 := C05.countFree_spec fs.fatType (imgFatBytes fs d.img) total ht
  have h1' : Fat.countFree fs.fatType (imgFatBytes fs d.img) total = .ok n := h1
  rw [h3.1] at h1'
  cases h1'
  exact ⟨rfl, h3.2, h2⟩

/-- **alloc_cluster on the image** — a successful run returns the cluster the view-level allocator finds in the image's
    table; afterwards the image's table is the point update `c := EOC, prev := Data c`; the table stays sane; outside
    the FAT copies only the status byte may have changed -/
theorem alloc_image {s : DiskSlice} (hs : SliceInv S0 s) (prev hint : Option Nat) (total : Nat) (d : Dev)
    (hd : FatDev S0 d) (ht : TableOk fs.fatType (imgFatBytes fs d.img) total)
    (hh : ∀ n, hint = some n → 2 ≤ n) (hp : ∀ p, prev = some p → p < total + 2)
    {c : Nat} {s' : DiskSlice} {d' : Dev}
    (hr : run (Table.allocCluster DiskSlice.strm fs.fatType s prev hint total) d = (.ok (c, s'), d')) :
    allocFindV (imgTable fs d.img) hint total = some c ∧ 2 ≤ c ∧ c < total + 2 ∧ imgTable fs d.img c = .free ∧
    imgTable fs d'.img = allocLinkV (imgTable fs d.img) prev c ∧
    TableOk fs.fatType (imgFatBytes fs d'.img) total ∧ FatFrame S0 d d' := by
  have htot := ht.lt_u32
  obtain ⟨h1, _, h3⟩ := allocCluster_img fs.fatType hs prev hint total d hd htot hr
  have h1' : Fat.allocCluster (imgFatBytes fs d.img) fs.fatType prev hint total = ⟨.ok c, imgFatBytes fs d'.img⟩ := h1
  cases hfind : allocFindV (view fs.fatType (imgFatBytes fs d.img)) hint total with
  | none => rw [allocCluster_noSpace ht prev hint hfind] at h1'; cases h1'
  | some c' =>
    obtain ⟨f', e1, e2, e3, _, _⟩ := allocCluster_ok ht prev hint hh hp hfind
    rw [e1] at h1'
    cases h1'
    obtain ⟨a, b, cf⟩ := allocFindV_some _ _ _ _ hh hfind
    exact ⟨hfind, a, b, cf, e2, e3, h3⟩

/-- **ClusterIterator::free on the image** -/
theorem free_image (s : DiskSlice) (hs : SliceInv S0 s) (c fuel total : Nat) (cs : List Nat) (d : Dev)
    (hd : FatDev S0 d) (ht : TableOk fs.fatType (imgFatBytes fs d.img) total)
    (hch : Chain (imgTable fs d.img) c cs) (hnd : cs.Nodup) (hin : ∀ k, k ∈ cs → k < total + 2)
    (hfuel : cs.length ≤ fuel) {n : Nat} {it' : Table.CIter DiskSlice} {d' : Dev}
    (hr : run (Table.CIter.free DiskSlice.strm fs.fatType fuel ⟨s, some c, false⟩) d = (.ok (n, it'), d')) :
    n = cs.length ∧ (∀ i, i ∈ cs → imgTable fs d'.img i = .free) ∧
    (∀ i, i ∉ cs → imgTable fs d'.img i = imgTable fs d.img i) ∧
    TableOk fs.fatType (imgFatBytes fs d'.img) total ∧ FatFrame S0 d d' := by
  obtain ⟨h1, h2⟩ := free_img fs.fatType fuel s c hs d hd hr
  have h1' : Fat.freeChain fs.fatType (imgFatBytes fs d.img) c fuel = ⟨.ok n, imgFatBytes fs d'.img⟩ := h1
  obtain ⟨f', e1, _, e3, e4, e5⟩ := C03fat.free_spec fs.fatType _ total c cs ht hch hnd hin fuel hfuel
  rw [e1] at h1'
  cases h1'
  exact ⟨rfl, e4, fun i hi => view_eq_of_getRaw_eq (e5 i hi), e3, h2⟩

/-- **ClusterIterator::truncate on the image** -/
theorem truncate_image (s : DiskSlice) (hs : SliceInv S0 s) (c fuel total : Nat) (t : List Nat) (d : Dev)
    (hd : FatDev S0 d) (ht : TableOk fs.fatType (imgFatBytes fs d.img) total)
    (hch : Chain (imgTable fs d.img) c (c :: t)) (hnd : (c :: t).Nodup) (hin : ∀ k, k ∈ c :: t → k < total + 2)
    (hfuel : t.length ≤ fuel) {n : Nat} {it' : Table.CIter DiskSlice} {d' : Dev}
    (hr : run (Table.CIter.truncate DiskSlice.strm fs.fatType fuel ⟨s, some c, false⟩) d = (.ok (n, it'), d')) :
    n = t.length ∧ imgTable fs d'.img c = .eoc ∧ (∀ i, i ∈ t → imgTable fs d'.img i = .free) ∧
    (∀ i, i ≠ c → i ∉ t → imgTable fs d'.img i = imgTable fs d.img i) ∧
    TableOk fs.fatType (imgFatBytes fs d'.img) total ∧ FatFrame S0 d d' := by
  obtain ⟨h1, h2⟩ := truncate_img fs.fatType fuel s c hs d hd hr
  have h1' : Fat.truncateChain fs.fatType (imgFatBytes fs d.img) c fuel = ⟨.ok n, imgFatBytes fs d'.img⟩ := h1
  obtain ⟨f', e1, _, e3, e4, e5, e6⟩ := C03fat.truncate_spec fs.fatType _ total c t ht hch hnd hin fuel hfuel
  rw [e1] at h1'
  cases h1'
  exact ⟨rfl, e4, e5, fun i hi hit => view_eq_of_getRaw_eq (e6 i hi hit), e3, h2⟩

/-- **fatwf_preserved_img_alloc / _free / _truncate** — the structural invariant of the image's table (`FatWf`: links in range and to allocated
    entries, no cross-links, no cycles) is preserved by every successful run of `alloc_cluster` (prev = EOC tail of a
    chain, hint absent or ≥ 2) … -/
theorem fatwf_preserved_img_alloc {s : DiskSlice} (hs : SliceInv S0 s) (prev hint : Option Nat) (total : Nat) (d : Dev)
    (hd : FatDev S0 d) (ht : TableOk fs.fatType (imgFatBytes fs d.img) total)
    (hw : FatWf (imgTable fs d.img) total) (hh : ∀ n, hint = some n → 2 ≤ n)
    (hp : ∀ p, prev = some p → p < total + 2 ∧ imgTable fs d.img p = .eoc)
    {c : Nat} {s' : DiskSlice} {d' : Dev}
    (hr : run (Table.allocCluster DiskSlice.strm fs.fatType s prev hint total) d = (.ok (c, s'), d')) :
    FatWf (imgTable fs d'.img) total ∧ TableOk fs.fatType (imgFatBytes fs d'.img) total := by
  obtain ⟨h1, h2, h3, h4, h5, h6, _⟩ := alloc_image fs hs prev hint total d hd ht hh (fun p h => (hp p h).1) hr
  refine ⟨?_, h6⟩
  rw [h5]
  exact fatWf_alloc hw prev c h4 h2 h3 (fun p h => (hp p h).2)

/-- … of `ClusterIterator::free` started at the head `c` of a chain of allocated clusters (fuel `≥ total+2`, as
    `chainFuel = total+4` provides) … -/
theorem fatwf_preserved_img_free (s : DiskSlice) (hs : SliceInv S0 s) (c fuel total : Nat) (d : Dev)
    (hd : FatDev S0 d) (ht : TableOk fs.fatType (imgFatBytes fs d.img) total)
    (hw : FatWf (imgTable fs d.img) total) (hc1 : 2 ≤ c) (hc2 : c < total + 2) (hc3 : imgTable fs d.img c ≠ .free)
    (hhead : ∀ a, imgTable fs d.img a ≠ .data c) (hfuel : total + 2 ≤ fuel)
    {n : Nat} {it' : Table.CIter DiskSlice} {d' : Dev}
    (hr : run (Table.CIter.free DiskSlice.strm fs.fatType fuel ⟨s, some c, false⟩) d = (.ok (n, it'), d')) :
    FatWf (imgTable fs d'.img) total ∧ TableOk fs.fatType (imgFatBytes fs d'.img) total ∧
    countFreeV (imgTable fs d'.img) total = countFreeV (imgTable fs d.img) total + n := by
  obtain ⟨cs, hch, hnd⟩ := chain_exists hw c
  have hmem := FsCount.chain_members_ok hw hch hc1 hc2 hc3
  have hlen := FsCount.length_le_of_range hnd (fun i hi => (hmem i hi).2.1)
  obtain ⟨e1, e2, e3, e4, _⟩ := free_image fs s hs c fuel total cs d hd ht hch hnd (fun i hi => (hmem i hi).2.1)
    (by omega) hr
  refine ⟨fatWf_free hw hch hhead e2 e3, e4, ?_⟩
  rw [e1]
  exact countFreeV_free_list cs _ _ total hnd hmem e2 (fun i hi => by rw [e3 i hi])

/-- … and of `ClusterIterator::truncate` at an allocated cluster `c` -/
theorem fatwf_preserved_img_truncate (s : DiskSlice) (hs : SliceInv S0 s) (c fuel total : Nat) (d : Dev)
    (hd : FatDev S0 d) (ht : TableOk fs.fatType (imgFatBytes fs d.img) total)
    (hw : FatWf (imgTable fs d.img) total) (hc1 : 2 ≤ c) (hc2 : c < total + 2) (hc3 : imgTable fs d.img c ≠ .free)
    (hfuel : total + 2 ≤ fuel) {n : Nat} {it' : Table.CIter DiskSlice} {d' : Dev}
    (hr : run (Table.CIter.truncate DiskSlice.strm fs.fatType fuel ⟨s, some c, false⟩) d = (.ok (n, it'), d')) :
    FatWf (imgTable fs d'.img) total ∧ TableOk fs.fatType (imgFatBytes fs d'.img) total := by
  obtain ⟨cs, hch, hnd⟩ := chain_exists hw c
  obtain ⟨t, rfl⟩ := chain_head hch
  have hmem := FsCount.chain_members_ok hw hch hc1 hc2 hc3
  have hlen := FsCount.length_le_of_range hnd (fun i hi => (hmem i hi).2.1)
  simp only [List.length_cons] at hlen
  obtain ⟨_, e2, e3, e4, e5, _⟩ := truncate_image fs s hs c fuel total t d hd ht hch hnd
    (fun i hi => (hmem i hi).2.1) (by omega) hr
  exact ⟨fatWf_truncate hw hch e2 e3 e4, e5⟩

end programs

/-! ## frame facts for compositions: the chains of the image table

The general lemmas (any view `g`, both vocabularies — the predicate `Chain g a cs` and the list
`chainFrom g (total + 2) a`) are in `Proofs/FatImgDisjoint.lean` (namespace `FatVerif.FatDisjoint`); here they are
stated on the image: `tabView fs img` (the decoded FAT clipped to `[0, total+2)`), in the `chainFrom` vocabulary of
`FileSim.fileChain`, with the views after alloc / free / truncate given as the step lemmas give them
(`tabView fs' img' = allocLinkV … / freedView …`, `fs'.totalClusters = fs.totalClusters`). -/
section frame
open FatVerif.FileSim FatVerif.FatDisjoint

/-- the clipped view inherits `FatWf` from the decoded window -/
theorem fatWf_tabView {fs : FsState} {sz : Nat} (hg : Geo fs sz) (img : Img)
    (hw : FatWf (imgTable fs img) fs.totalClusters) : FatWf (tabView fs img) fs.totalClusters := by
  have e : ∀ c, c < fs.totalClusters + 2 → tabView fs img c = imgTable fs img c :=
    fun c hc => tabView_eq_view hg img hc
  have lk : ∀ c n, tabView fs img c = .data n → imgTable fs img c = .data n := by
    intro c n h
    by_cases hc : c < fs.totalClusters + 2
    · rw [← e c hc]; exact h
    · unfold tabView at h; rw [if_neg hc] at h; cases h
  obtain ⟨rank, hr⟩ := hw.acyclic
  refine ⟨fun c n h => hw.link_range c n (lk c n h), ?_, fun a b n ha hb => hw.no_cross a b n (lk a n ha) (lk b n hb),
    ⟨rank, fun c n h => hr c n (lk c n h)⟩⟩
  intro c n h
  have h' := lk c n h
  rw [e n (hw.link_range c n h').2]
  exact hw.link_alloc c n h'

variable {fs fs' : FsState} {img img' : Img}

/-- **free_not_in_any_chain**: a free cluster lies on the chain of no other head -/
theorem free_not_in_any_chain (hw : FatWf (tabView fs img) fs.totalClusters) {a x : Nat}
    (hf : tabView fs img x = .free) (hne : x ≠ a) : x ∉ chainFrom (tabView fs img) (fs.totalClusters + 2) a :=
  chainFrom_free_not_mem hw hf hne

/-- **chains_disjoint**: two chains neither of whose heads lies on the other share no cluster -/
theorem chains_disjoint (hw : FatWf (tabView fs img) fs.totalClusters) {a b : Nat}
    (hab : a ∉ chainFrom (tabView fs img) (fs.totalClusters + 2) b)
    (hba : b ∉ chainFrom (tabView fs img) (fs.totalClusters + 2) a) :
    ∀ x, x ∈ chainFrom (tabView fs img) (fs.totalClusters + 2) a → x ∉ chainFrom (tabView fs img) (fs.totalClusters + 2) b :=
  chainFrom_disjoint hw hab hba

/-- **alloc_keeps_other_chains**: after `alloc_cluster(prev)` → `c`, the chain of every head `a ≠ c` that does not
    contain `prev` is the same list -/
theorem alloc_keeps_other_chains (hw : FatWf (tabView fs img) fs.totalClusters) {prev : Option Nat} {c a : Nat}
    (htv : tabView fs' img' = allocLinkV (tabView fs img) prev c) (ht : fs'.totalClusters = fs.totalClusters)
    (hf : tabView fs img c = .free) (hac : a ≠ c)
    (hp : ∀ p, prev = some p → p ∉ chainFrom (tabView fs img) (fs.totalClusters + 2) a) :
    chainFrom (tabView fs' img') (fs'.totalClusters + 2) a = chainFrom (tabView fs img) (fs.totalClusters + 2) a := by
  rw [htv, ht]; exact chainFrom_alloc_other hw hf hac hp

/-- **alloc_extends_chain**: … and the chain that ends in `prev` (an end-of-chain entry) is extended by `c` -/
theorem alloc_extends_chain (hw : FatWf (tabView fs img) fs.totalClusters) {p c a : Nat}
    (htv : tabView fs' img' = allocLinkV (tabView fs img) (some p) c) (ht : fs'.totalClusters = fs.totalClusters)
    (hf : tabView fs img c = .free) (hc1 : 2 ≤ c) (hc2 : c < fs.totalClusters + 2) (hpe : tabView fs img p = .eoc)
    (hac : a ≠ c) (hlast : (chainFrom (tabView fs img) (fs.totalClusters + 2) a).getLast? = some p) :
    chainFrom (tabView fs' img') (fs'.totalClusters + 2) a =
      chainFrom (tabView fs img) (fs.totalClusters + 2) a ++ [c] := by
  rw [htv, ht]; exact chainFrom_alloc_extend hw hf hc1 hc2 hpe hac hlast

/-- **free_keeps_other_chains**: after the clusters `cs` are freed every chain disjoint from `cs` is the same list -/
theorem free_keeps_other_chains (hw : FatWf (tabView fs img) fs.totalClusters) {cs : List Nat} {a : Nat}
    (htv : tabView fs' img' = freedView (tabView fs img) cs) (ht : fs'.totalClusters = fs.totalClusters)
    (hd : ∀ x ∈ chainFrom (tabView fs img) (fs.totalClusters + 2) a, x ∉ cs) :
    chainFrom (tabView fs' img') (fs'.totalClusters + 2) a = chainFrom (tabView fs img) (fs.totalClusters + 2) a := by
  rw [htv, ht]; exact chainFrom_free_other hw hd

/-- **truncate_keeps_other_chains**: after `truncate` at `cur` (tail `t` freed) every chain disjoint from `cur :: t` is
    the same list -/
theorem truncate_keeps_other_chains (hw : FatWf (tabView fs img) fs.totalClusters) {cur : Nat} {t : List Nat} {a : Nat}
    (htv : tabView fs' img' = freedView (updV (tabView fs img) cur .eoc) t) (ht : fs'.totalClusters = fs.totalClusters)
    (hd : ∀ x ∈ chainFrom (tabView fs img) (fs.totalClusters + 2) a, x ∉ cur :: t) :
    chainFrom (tabView fs' img') (fs'.totalClusters + 2) a = chainFrom (tabView fs img) (fs.totalClusters + 2) a := by
  rw [htv, ht]; exact chainFrom_truncate_other hw hd

/-- **truncate_cuts_chain**: … and the chain through `cur` is cut after `cur` -/
theorem truncate_cuts_chain (hw : FatWf (tabView fs img) fs.totalClusters) {cur : Nat} {pre t : List Nat} {a : Nat}
    (htv : tabView fs' img' = freedView (updV (tabView fs img) cur .eoc) t) (ht : fs'.totalClusters = fs.totalClusters)
    (he : chainFrom (tabView fs img) (fs.totalClusters + 2) a = pre ++ cur :: t) :
    chainFrom (tabView fs' img') (fs'.totalClusters + 2) a = pre ++ [cur] := by
  rw [htv, ht]; exact chainFrom_truncate_cut hw he

/-- **fatwf re-established** on the clipped view after alloc / free of a head's chain / truncate -/
theorem fatwf_tabView_alloc (hw : FatWf (tabView fs img) fs.totalClusters) {prev : Option Nat} {c : Nat}
    (htv : tabView fs' img' = allocLinkV (tabView fs img) prev c) (ht : fs'.totalClusters = fs.totalClusters)
    (hf : tabView fs img c = .free) (hc1 : 2 ≤ c) (hc2 : c < fs.totalClusters + 2)
    (hp : ∀ p, prev = some p → tabView fs img p = .eoc) : FatWf (tabView fs' img') fs'.totalClusters := by
  rw [htv, ht]; exact fatWf_alloc hw prev _ hf hc1 hc2 hp

theorem fatwf_tabView_free (hw : FatWf (tabView fs img) fs.totalClusters) {n : Nat} {cs : List Nat}
    (htv : tabView fs' img' = freedView (tabView fs img) cs) (ht : fs'.totalClusters = fs.totalClusters)
    (hch : Chain (tabView fs img) n cs) (hhead : ∀ a, tabView fs img a ≠ .data n) :
    FatWf (tabView fs' img') fs'.totalClusters := by
  rw [htv, ht]; exact fatWf_freedView hw hch hhead

theorem fatwf_tabView_truncate (hw : FatWf (tabView fs img) fs.totalClusters) {cur : Nat} {t : List Nat}
    (htv : tabView fs' img' = freedView (updV (tabView fs img) cur .eoc) t) (ht : fs'.totalClusters = fs.totalClusters)
    (hch : Chain (tabView fs img) cur (cur :: t)) : FatWf (tabView fs' img') fs'.totalClusters := by
  rw [htv, ht]; exact fatWf_truncView hw hch

end frame

/-! ## the statements are not vacuous: a concrete FAT16 image -/
namespace Ex

/-- a miniature geometry (kept tiny so that the kernel can evaluate runs): 32-byte sectors, two reserved sectors, two
    mirrored FAT copies of one sector (16 entries) each at bytes 64 and 96, 6 data clusters; status byte at 0x25 -/
def fs16 : FsState :=
  { fatType := .fat16, bps := 32, spc := 1, reserved := 2, fats := 2, spf := 1, totalClusters := 6,
    firstDataSector := 5, rootEntries := 1, rootDirSectors := 1 }

/-- the example table of `C03fat` (chains 2→3, 5→7; clusters 4, 6 free) in both FAT copies of a 512-byte image -/
def img0 : Img := ((Img.empty 512).write 64 C03fat.exTab.toList).write 96 C03fat.exTab.toList

def dev : Dev := { img := img0, fs := fs16 }

theorem dev_ok : FatDev (fatSliceOf fs16) dev :=
  ⟨Img.wf_write _ (Img.wf_write _ (Img.wf_empty _) _ _) _ _, by decide, by decide, by decide, by decide⟩

theorem table_ok : TableOk .fat16 (imgFatBytes fs16 img0) 6 :=
  tableOk_img fs16 img0 6 (by decide) (by decide) (by decide)

/-- `dev` by its bytes: the two copies of the example table over zeros -/
def sdev : SDev := ⟨DirSim.putBytes (DirSim.putBytes (fun _ => 0) 64 C03fat.exTab.toList) 96 C03fat.exTab.toList, dev.strip⟩

theorem agree16 : sdev.Agree dev :=
  ((SDev.Agree.empty 512 { img := Img.empty 512, fs := fs16 } rfl).write 64 _).write 96 _

/-- the FAT window of the image, read once: the example table and 16 zero bytes. What is said below of the image's
    table is evaluated on these bytes. -/
theorem fatBytes16 : imgFatBytes fs16 img0 = C03fat.exTab ++ Array.replicate 16 0 := by
  rw [imgFatBytes, fatBytes, show img0.read _ _ = _ from agree16.read _ _]; decide +kernel

/-- the image's table is the example table -/
example : (List.range 8).map (imgTable fs16 img0) =
    [.eoc, .eoc, .data 3, .eoc, .free, .data 7, .free, .eoc] := by rw [imgTable, fatBytes16]; decide +kernel

/-- one `alloc_cluster(prev = 7, hint = 7)` through the mirrored FAT slice, evaluated once (through `runS`, on the bytes
    of the device); the examples below read off
    its result, the table, the two FAT copies, the status byte and the bytes behind the FAT area afterwards -/
theorem alloc16 :
    (run (Table.allocCluster DiskSlice.strm .fat16 (fatSliceOf fs16) (some 7) (some 7) 6) dev).1.toOption.map (·.1) =
      some 4 ∧
    (List.range 8).map (imgTable fs16
        (run (Table.allocCluster DiskSlice.strm .fat16 (fatSliceOf fs16) (some 7) (some 7) 6) dev).2.img) =
      [.eoc, .eoc, .data 3, .eoc, .eoc, .data 7, .free, .data 4] ∧
    (run (Table.allocCluster DiskSlice.strm .fat16 (fatSliceOf fs16) (some 7) (some 7) 6) dev).2.img.read 64 32 =
      (run (Table.allocCluster DiskSlice.strm .fat16 (fatSliceOf fs16) (some 7) (some 7) 6) dev).2.img.read 96 32 ∧
    ((run (Table.allocCluster DiskSlice.strm .fat16 (fatSliceOf fs16) (some 7) (some 7) 6) dev).2.img.getByte 0x25 = 1 ∧
      img0.getByte 0x25 = 0) ∧
    (run (Table.allocCluster DiskSlice.strm .fat16 (fatSliceOf fs16) (some 7) (some 7) 6) dev).2.img.read 128 32 =
      img0.read 128 32 := by
  obtain ⟨d1, e1, a1⟩ :=
    run_eq_runS (Table.allocCluster DiskSlice.strm .fat16 (fatSliceOf fs16) (some 7) (some 7) 6) agree16
  rw [e1]
  dsimp only
  unfold imgTable imgFatBytes fatBytes
  rw [a1.read, a1.read, a1.read, a1.read, show img0.read 128 32 = _ from agree16.read 128 32,
    show img0.getByte = _ from agree16.get, a1.get]
  decide +kernel

/-- one `alloc_cluster(prev = 7, hint = 7)` through the mirrored FAT slice, evaluated: it returns cluster 4, … -/
example : (run (Table.allocCluster DiskSlice.strm .fat16 (fatSliceOf fs16) (some 7) (some 7) 6) dev).1.toOption.map
    (·.1) = some 4 := alloc16.1

/-- … which is what the view-level allocator finds in the image's table, … -/
example : allocFindV (imgTable fs16 img0) (some 7) 6 = some 4 := by rw [imgTable, fatBytes16]; decide +kernel

/-- … afterwards the image's table is the point update `7 ↦ Data 4, 4 ↦ EOC` of the table before, … -/
example : (List.range 8).map (imgTable fs16
      (run (Table.allocCluster DiskSlice.strm .fat16 (fatSliceOf fs16) (some 7) (some 7) 6) dev).2.img) =
    [.eoc, .eoc, .data 3, .eoc, .eoc, .data 7, .free, .data 4] := alloc16.2.1

example : (List.range 8).map (allocLinkV (imgTable fs16 img0) (some 7) 4) =
    [.eoc, .eoc, .data 3, .eoc, .eoc, .data 7, .free, .data 4] := by rw [imgTable, fatBytes16]; decide +kernel

/-- … both FAT copies hold the same bytes, the status byte 0x25 was set to "dirty" (by `FsIoAdapter`, before the first
    FAT write), and the bytes before and after the FAT area are untouched -/
example : (run (Table.allocCluster DiskSlice.strm .fat16 (fatSliceOf fs16) (some 7) (some 7) 6) dev).2.img.read 64 32 =
    (run (Table.allocCluster DiskSlice.strm .fat16 (fatSliceOf fs16) (some 7) (some 7) 6) dev).2.img.read 96 32 :=
  alloc16.2.2.1

example : (run (Table.allocCluster DiskSlice.strm .fat16 (fatSliceOf fs16) (some 7) (some 7) 6) dev).2.img.getByte 0x25 = 1 ∧
    img0.getByte 0x25 = 0 := alloc16.2.2.2.1

example : (run (Table.allocCluster DiskSlice.strm .fat16 (fatSliceOf fs16) (some 7) (some 7) 6) dev).2.img.read 128 32 =
    img0.read 128 32 := alloc16.2.2.2.2

/-- the hypotheses of `alloc_image` / `fatwf_preserved_img_alloc` hold of the example -/
example : FatDev (fatSliceOf fs16) dev ∧ TableOk .fat16 (imgFatBytes fs16 dev.img) 6 ∧
    SliceInv (fatSliceOf fs16) (fatSliceOf fs16) ∧ imgTable fs16 dev.img 7 = .eoc :=
  ⟨dev_ok, table_ok, SliceInv.self (by decide), by rw [imgTable, show dev.img = img0 from rfl, fatBytes16]; decide +kernel⟩

/-! the frame facts on the example: chains 2→3 and 5→7, clusters 4 and 6 free -/

/-- the clipped view of the image as a function of the cluster number -/
theorem tab16 : FileSim.tabView fs16 img0 =
    ([FatValue.eoc, .eoc, .data 3, .eoc, .free, .data 7, .free, .eoc].getD · .bad) := by
  funext c
  unfold FileSim.tabView
  split
  next hc =>
    rw [imgFatView_eq_view_table fs16 img0 6 table_ok c hc, imgTable, fatBytes16]
    revert c; decide +kernel
  next hc => rw [List.getD_eq_getElem?_getD, List.getElem?_eq_none (Nat.le_of_not_lt hc)]; rfl

theorem fatwf16 : FatWf (FileSim.tabView fs16 img0) fs16.totalClusters := by
  rw [tab16, ← C03fat.exTab_view]; exact C03fat.exTab_wf

example : FileSim.chainFrom (FileSim.tabView fs16 img0) 8 2 = [2, 3] ∧
    FileSim.chainFrom (FileSim.tabView fs16 img0) 8 5 = [5, 7] := by rw [tab16]; decide +kernel

/-- cluster 4 is free, hence on neither chain; the two chains are disjoint -/
example : 4 ∉ FileSim.chainFrom (FileSim.tabView fs16 img0) (fs16.totalClusters + 2) 5 :=
  free_not_in_any_chain fatwf16 (congrFun tab16 4) (by decide)

example : ∀ x, x ∈ FileSim.chainFrom (FileSim.tabView fs16 img0) (fs16.totalClusters + 2) 2 →
    x ∉ FileSim.chainFrom (FileSim.tabView fs16 img0) (fs16.totalClusters + 2) 5 :=
  chains_disjoint fatwf16 (by rw [tab16]; decide +kernel) (by rw [tab16]; decide +kernel)

/-- after the allocation `alloc_cluster(Some(7))` → 4 of the example above the chain of 5 is `[5, 7, 4]` and the chain
    of 2 is what it was — as `alloc_extends_chain` / `alloc_keeps_other_chains` say -/
example : FileSim.chainFrom (allocLinkV (FileSim.tabView fs16 img0) (some 7) 4) 8 5 = [5, 7, 4] ∧
    FileSim.chainFrom (allocLinkV (FileSim.tabView fs16 img0) (some 7) 4) 8 2 = [2, 3] := by rw [tab16]; decide +kernel

end Ex
end FatVerif.C03img
