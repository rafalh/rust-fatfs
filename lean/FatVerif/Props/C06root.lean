import FatVerif.Props.C06mount
import FatVerif.Props.C01sim
import FatVerif.Proofs.FreshVolume
/-!
# C06 — the root directory of the formatted IMAGE: `format_root_image`, `format_root_first_slots`,
`format_then_list_root_empty`

Image-level version of `C06image.format_root_empty`, and what a directory scan sees first: without a label the first
slot of the root directory is the END marker (`DirEntryData::is_end`), so every scan (`list`, `find_entry`) stops at
once; with a label the first slot is the volume-label entry (skipped by listings: `read_dir_entry(skip_volume = true)`)
and the second slot is the END marker.

The program-level statement `format_then_list_root_empty` (`run (listDir (rootDirStream fs)) d = (.ok [], _)` after
format + mount, from `Formattable` alone) is at the end of the file: FAT12/16 on the simulation of the fixed root in
Props/C01sim (`DirSim.listDir_root_empty`), FAT32 on the cluster-chain simulation (`DirSim.listDir_chain_sim`) with
FAT[2] = end-of-chain (`C06vol.Fresh.table`) and the layout facts `C06vol.Fresh.geo`.
-/
namespace FatVerif.C06root
open FatVerif FatVerif.Format FatVerif.C06image FatVerif.C06mount

/-- byte offset of the root directory: the fixed region after the FATs (FAT12/16), the first data cluster (FAT32) -/
def rootPos (b : FBpb) : Nat := (b.reserved + b.fats * b.sectorsPerFat) * b.bps

/-- size of the region `format_volume` initialises there -/
def rootLen (b : FBpb) (ft : FatType) : Nat := (if ft = .fat32 then b.spc else b.rootDirSectors) * b.bps

theorem rootByte_lt (o : FormatOpts) (hl : ∀ l, o.label = some l → l.length = 11 ∧ ∀ b ∈ l, b < 256) (x : Nat) :
    rootByte o x < 256 := by
  unfold rootByte
  split
  · rename_i lbl h
    split
    · apply getD_lt_allB
      unfold DirFileEntryData.serialize DirFileEntryData.serializeTail
      simp only [allB_append, allB_cons]
      refine ⟨(hl lbl h).2, ⟨⟨⟨⟨⟨⟨⟨⟨?_, allB_le16 _⟩, allB_le16 _⟩, allB_le16 _⟩, allB_le16 _⟩, allB_le16 _⟩,
        allB_le16 _⟩, allB_le16 _⟩, allB_le32 _⟩⟩
      exact ⟨by show ATTR_VOLUME_ID < 256; decide, by show (0 : Nat) < 256; omega, by show (0 : Nat) < 256; omega, allB_nil⟩
    · omega
  · omega

section formatted
variable {o : FormatOpts} {d0 d1 : Dev} {boot : FBoot} {ft : FatType}

/-- **the root directory in the image**: `rootByte` (the 32-byte label entry, if any, then zeros) -/
theorem format_root_image (h : Formatted o d0 d1 boot ft) :
    64 ≤ rootLen boot.bpb ft ∧
      ∀ x, x < rootLen boot.bpb ft → d1.img.getByte (rootPos boot.bpb + x) = rootByte o x := by
  have hg := h.geom
  refine ⟨?_, fun x hx => ?_⟩
  · unfold rootLen
    have hB := hg.bps_ge
    by_cases h32 : ft = .fat32
    · rw [if_pos h32]
      have := Nat.mul_le_mul hg.spc_pos hB; omega
    · rw [if_neg h32]
      have := Nat.mul_le_mul (hg.rds1 h32) hB; omega
  · unfold rootPos
    rw [h.img, format_root_empty h d0.img.getByte hx]
    exact Nat.mod_eq_of_lt (rootByte_lt o (fun l hl => ⟨h.pre.rng.label l hl, h.pre.labelBytes l hl⟩) x)

/-- what a scan of that region meets first: the END marker, or the volume label and then the END marker -/
theorem root_scan (h : Formatted o d0 d1 boot ft) {img : Img} {base : Nat}
    (hb : ∀ x, x < rootLen boot.bpb ft → img.getByte (base + x) = rootByte o x) :
    Lfn.isEnd (img.read base 32) = true ∨
      (img.getByte (base + 11) = 8 ∧ Lfn.isEnd (img.read (base + 32) 32) = true) := by
  have h64 := (format_root_image h).1
  have hzero : ∀ (off : Nat), off + 32 ≤ rootLen boot.bpb ft → rootByte o off = 0 →
      Lfn.isEnd (img.read (base + off) 32) = true := by
    intro off hoff hz
    simp only [Lfn.isEnd, Lfn.byte]
    rw [Img.read_getD _ _ _ _ (by omega), Nat.add_zero, hb off (by omega), hz]; rfl
  cases hl : o.label with
  | none =>
    left
    have := hzero 0 (by omega) (by unfold rootByte; rw [hl])
    rwa [Nat.add_zero] at this
  | some lbl =>
    right
    refine ⟨?_, hzero 32 (by omega) (by unfold rootByte; rw [hl]; rfl)⟩
    rw [hb 11 (by omega)]
    unfold rootByte; rw [hl]
    simp only [show (11 : Nat) < 32 by omega, if_true]
    have hll := h.pre.rng.label lbl hl
    unfold DirFileEntryData.serialize
    rw [List.getD_eq_getElem?_getD, List.getElem?_append_right (by simp [DirFileEntryData.new]; omega)]
    simp [DirFileEntryData.new, DirFileEntryData.serializeTail, hll, ATTR_VOLUME_ID]

end formatted

/-- a 32-byte slot read from the image -/
def slotAt (d : Dev) (pos : Nat) : List Nat := d.img.read pos 32

/-- **what a directory scan sees first**: no label ⇒ slot 0 of the root is all zero, i.e. the END marker; a label ⇒
    slot 0 is `DirFileEntryData::new(label, VOLUME_ID)` serialised and slot 1 is the END marker -/
theorem format_root_first_slots (o : FormatOpts) (d0 d1 : Dev) (hpre : Formattable o d0)
    (hrun : run (formatVolume o) d0 = (.ok (), d1)) :
    ∃ boot ft, formatChecked o (fmtTotal o d0) = .ok (boot, ft) ∧
      (o.label = none → slotAt d1 (rootPos boot.bpb) = List.replicate 32 0) ∧
      (∀ lbl, o.label = some lbl →
        slotAt d1 (rootPos boot.bpb) = (DirFileEntryData.new lbl ATTR_VOLUME_ID).serialize ∧
        slotAt d1 (rootPos boot.bpb + 32) = List.replicate 32 0) ∧
      (DirEntryData.deserialize (List.replicate 32 0)).isEnd = true := by
  obtain ⟨boot, ft, h⟩ := hpre.formatted hrun
  obtain ⟨h64, hb⟩ := format_root_image h
  refine ⟨boot, ft, h.checked, ?_, ?_, by decide⟩
  · intro hnone
    apply read_eq_of_bytes _ _ _ _ (by simp)
    intro k hk
    rw [hb k (by omega)]
    unfold rootByte; rw [hnone]
    exact (getD_replicate_zero 32 k).symm
  · intro lbl hl
    have hlen : (DirFileEntryData.new lbl ATTR_VOLUME_ID).serialize.length = 32 :=
      DirFileEntryData.serialize_length _ (hpre.rng.label lbl hl)
    constructor
    · apply read_eq_of_bytes _ _ _ _ hlen
      intro k hk
      rw [hb k (by omega)]
      unfold rootByte; rw [hl]
      simp only [if_pos hk]
    · apply read_eq_of_bytes _ _ _ _ (by simp)
      intro k hk
      rw [Nat.add_assoc, hb (32 + k) (by omega)]
      unfold rootByte; rw [hl]
      simp only [if_neg (show ¬ 32 + k < 32 by omega)]
      exact (getD_replicate_zero 32 k).symm

/-! ## non-vacuity: `C06mount.ex_formattable` (FAT16 with the label "ABC") meets the hypotheses and the run succeeds
    (`C06mount`); the END-marker fact is closed by evaluation above. -/
example : Formattable Ex.o16 Ex.d16 ∧ Ex.o16.label = some [65, 66, 67, 32, 32, 32, 32, 32, 32, 32, 32] :=
  ⟨ex_formattable, rfl⟩

/-! ## the program-level statement (on the directory-read simulation of `Props/C01sim`) -/

theorem bps_mul32 {b : Nat} (hb : b ∈ [512, 1024, 2048, 4096]) : ∃ m, b = 32 * m ∧ 16 ≤ m ∧ m ≤ 128 := by
  simp only [List.mem_cons, List.mem_nil_iff, or_false] at hb
  rcases hb with rfl | rfl | rfl | rfl
  · exact ⟨16, rfl, by omega, by omega⟩
  · exact ⟨32, rfl, by omega, by omega⟩
  · exact ⟨64, rfl, by omega, by omega⟩
  · exact ⟨128, rfl, by omega, by omega⟩

section fresh
open FatVerif.C06vol FatVerif.FileSim
variable {o : FormatOpts} {d0 d1 : Dev} {strict accDate lfnAlloc unicode : Bool}
  {boot : FBoot} {ft : FatType} {fs : FsState} {d2 : Dev}

/-- `format_then_list_root_empty`, FAT12/16 part: on the formatted and mounted volume the listing of the root
    directory is empty (a volume label is skipped by listings), and nothing is written -/
theorem format_then_list_root_empty_fixed (h : Formatted o d0 d1 boot ft)
    (F : Fresh o d0 d1 strict accDate lfnAlloc unicode boot ft fs d2) (h32 : ft ≠ .fat32) :
    ∃ d3, run (listDir (rootDirStream fs)) d2 = (.ok [], d3) ∧ d3.img = d2.img ∧ d3.log = d2.log := by
  obtain ⟨h64, hb⟩ := format_root_image h
  have hg := h.geom
  obtain ⟨m, hm32, hm16, hm128⟩ := bps_mul32 hg.bps_mem
  have hlenE : rootLen boot.bpb ft = boot.bpb.rootDirSectors * boot.bpb.bps := by
    unfold rootLen; rw [if_neg h32]
  have hpos : (rootSliceOf fs).beginOff = rootPos boot.bpb := by
    show (fs.firstDataSector - fs.rootDirSectors) * fs.bps = _
    rw [F.extra.firstDataSector, F.extra.rootDirSectors, F.bps]
    unfold rootPos
    rw [Nat.add_sub_cancel]
  have hlen : (rootSliceOf fs).size = rootLen boot.bpb ft := by
    show fs.rootDirSectors * fs.bps = _
    rw [F.extra.rootDirSectors, F.bps, hlenE]
  have hR : DirSim.RootReadable d2 (boot.bpb.rootDirSectors * m) := by
    have hR := DirSim.RootReadable.of_layout (d := d2) (m := m) F.extra.failAt
    rw [F.fsEq, F.bps, F.spc, F.extra.rootDirSectors, F.extra.firstDataSector, F.rootEntries, F.img, h.size] at hR
    refine hR hm32 hg.spc_pos (Nat.le_add_left _ _) ?_ (Nat.div_mul_le_self _ _)
    have := Nat.mul_le_mul_right boot.bpb.bps (Nat.le_of_lt hg.fit)
    have := h.pre.size
    rw [← h.bps] at this; omega
  have hN := hR.slots
  rw [F.fsEq, hlen] at hN
  have hstream : rootDirStream fs = DirSim.rootAt d2.fs 0 := by
    rw [F.fsEq]
    unfold rootDirStream
    cases hft' : fs.fatType with
    | fat32 => rw [F.fatType] at hft'; exact absurd hft' h32
    | fat12 => rfl
    | fat16 => rfl
  have hscan := root_scan h (img := d2.img) (base := (rootSliceOf d2.fs).beginOff)
    (fun x hx => by rw [F.fsEq, hpos, F.img]; exact hb x hx)
  obtain ⟨d3, hr3, hs3⟩ := DirSim.listDir_root_empty hR
    (hscan.imp (fun a => ⟨by omega, a⟩) (fun a => ⟨by omega, a⟩))
  rw [← hstream] at hr3
  exact ⟨d3, hr3, hs3.img, hs3.log⟩

/-! ## FAT32: the root directory is the cluster chain of cluster 2 -/

/-- a directory whose first slot is an END marker — or a volume label followed by an END marker — lists as empty -/
theorem readDirEntries_empty (alloc : Bool) (L : List (List Nat))
    (h : (1 ≤ L.length ∧ Lfn.isEnd (L.getD 0 []) = true) ∨
      (2 ≤ L.length ∧ (L.getD 0 []).getD 11 0 = 8 ∧ Lfn.isEnd (L.getD 1 []) = true)) :
    readDirEntries alloc true L = [] := by
  match L, h with
  | [], .inl h => simp at h
  | [], .inr h => simp at h
  | s0 :: rest, .inl ⟨_, h0⟩ => exact DirSim.readDirEntries_end_first _ _ _ _ h0
  | [_], .inr h => simp at h
  | s0 :: s1 :: rest, .inr ⟨_, h0, h1⟩ => exact DirSim.readDirEntries_label_then_end _ _ _ _ h0 h1

/-- core of the FAT32 case: on the freshly formatted and mounted FAT32 volume the root directory (the chain `[2]`:
    FAT[2] is end-of-chain, `Fresh.table`) is readable in the sense of `Props/C01sim` -/
theorem fresh_root_chain (h : Formatted o d0 d1 boot .fat32)
    (F : Fresh o d0 d1 strict accDate lfnAlloc unicode boot .fat32 fs d2)
    (hcap : boot.bpb.sectorsPerFat * boot.bpb.bps * 8 / 32 ≤ 0x0FFFFFF0) :
    fs.rootCluster = 2 ∧ DirSim.ChainReadable d2 2 none [2] := by
  have hg := h.geom
  have hgeo : Geo d2.fs d2.img.size := by rw [F.fsEq]; exact F.geo h (fun _ => hcap)
  obtain ⟨_, h2⟩ := F.table h (fun _ => hcap)
  have htc := hg.tc32 rfl F.tc
  have hbps := hg.bps_ge
  have hbps4 := hg.bps_le
  have hcs : d2.fs.clusterSize = boot.bpb.bps * boot.bpb.spc := by
    rw [F.fsEq]; unfold FsState.clusterSize; rw [F.bps, F.spc]
  have hcs1 : 512 ≤ boot.bpb.bps * boot.bpb.spc := by
    have := Nat.mul_le_mul hbps hg.spc_pos; omega
  have hcs2 : boot.bpb.bps * boot.bpb.spc ≤ 4096 * 128 :=
    Nat.mul_le_mul hbps4 hg.spc_le
  have hcs32 : boot.bpb.bps * boot.bpb.spc % 32 = 0 := by
    obtain ⟨m, hm, _, _⟩ := bps_mul32 hg.bps_mem
    rw [hm, Nat.mul_assoc]; exact Nat.mul_mod_right _ _
  refine ⟨by rw [F.rootCluster]; exact (hg.f32 rfl).2.2, ⟨⟨F.extra.failAt, hgeo, rfl, ?_, ?_, rfl, Or.inr rfl, ?_, ?_, ?_⟩, ?_⟩⟩
  · apply Fat.Chain.last
    intro n hn
    rw [tabView_eq_view hgeo d2.img (by rw [F.fsEq]; omega), F.fsEq] at hn
    have := h2 rfl
    unfold C03img.imgTable at this
    rw [this] at hn
    cases hn
  · intro c hc
    simp only [List.mem_cons, List.mem_nil_iff, or_false] at hc
    rw [F.fsEq]; omega
  · intro e he; cases he
  · rw [hcs]; exact hcs32
  · rw [hcs]; simp only [List.length_cons, List.length_nil]; omega
  · unfold dirFuel
    rw [hcs, F.fsEq]
    simp only [List.length_cons, List.length_nil]
    have : 2 * (boot.bpb.bps * boot.bpb.spc / 32) ≤ (fs.totalClusters + 2) * (boot.bpb.bps * boot.bpb.spc / 32) :=
      Nat.mul_le_mul_right _ (by omega)
    omega

/-- `format_then_list_root_empty`, FAT32 part (volumes whose FAT has no room for the BAD markers, as in
    `C06fat.formatted_fat`): the listing of the root directory is empty, no byte changes and nothing is written -/
theorem list_root_empty_fat32 (h : Formatted o d0 d1 boot .fat32)
    (F : Fresh o d0 d1 strict accDate lfnAlloc unicode boot .fat32 fs d2)
    (hcap : boot.bpb.sectorsPerFat * boot.bpb.bps * 8 / 32 ≤ 0x0FFFFFF0) :
    ∃ d3, run (listDir (rootDirStream fs)) d2 = (.ok [], d3) ∧ d3.img = d2.img ∧ d3.writesOf = d2.writesOf := by
  obtain ⟨hrc, hR⟩ := fresh_root_chain h F hcap
  have hg := h.geom
  obtain ⟨h64, hb⟩ := format_root_image h
  have hlenE : rootLen boot.bpb .fat32 = boot.bpb.bps * boot.bpb.spc := by
    unfold rootLen; rw [if_pos rfl, Nat.mul_comm]
  have hcs : d2.fs.clusterSize = boot.bpb.bps * boot.bpb.spc := by
    rw [F.fsEq]; unfold FsState.clusterSize; rw [F.bps, F.spc]
  have hoff : clusterOff d2.fs 2 = rootPos boot.bpb := by
    unfold clusterOff rootPos
    rw [F.fsEq, F.extra.firstDataSector, hg.rds32 rfl, F.bps]
    simp only [Nat.sub_self, Nat.zero_mul, Nat.add_zero]
  have hsim := DirSim.listDir_chain_sim hR
  -- the slots of the root cluster
  generalize hK : boot.bpb.bps * boot.bpb.spc / 32 = K at *
  have hK2 : 2 ≤ K := by rw [← hK, ← hlenE]; omega
  have hslots : DirSim.chainSlots d2.fs d2.img [2] =
      (List.range K).map fun j => d2.img.read (rootPos boot.bpb + 32 * j) 32 := by
    unfold DirSim.chainSlots
    simp only [List.flatMap_cons, List.flatMap_nil, List.append_nil]
    rw [hcs, hK, hoff]
  have hget : ∀ j, j < K → (DirSim.chainSlots d2.fs d2.img [2]).getD j [] = d2.img.read (rootPos boot.bpb + 32 * j) 32 := by
    intro j hj
    rw [hslots, List.getD_eq_getElem?_getD, List.getElem?_map, List.getElem?_range hj]
    rfl
  have hempty : readDirEntries d2.fs.lfnAlloc true (DirSim.chainSlots d2.fs d2.img [2]) = [] := by
    apply readDirEntries_empty
    have hlen : (DirSim.chainSlots d2.fs d2.img [2]).length = K := by rw [hslots]; simp
    rw [hlen, hget 0 (by omega), hget 1 (by omega), Nat.mul_zero, Nat.add_zero, Nat.mul_one,
      Img.read_getD _ _ _ _ (by omega)]
    exact (root_scan h (fun x hx => by rw [F.img]; exact hb x hx)).imp (fun a => ⟨by omega, a⟩)
      (fun a => ⟨hK2, a⟩)
  rw [hempty] at hsim
  obtain ⟨d3, hr3, hs3⟩ := hsim
  refine ⟨d3, ?_, hs3.img, hs3.writesOf⟩
  rw [DirSim.rootDirStream_fat32 fs F.fatType, hrc]
  exact hr3

/-- the listing of the root directory of the formatted and mounted volume is empty (a volume label is skipped by
    listings), the image is unchanged and nothing is written. FAT12/16: the fixed root region; FAT32: the cluster chain
    of the root cluster (for volumes whose FAT has no room for the BAD markers) -/
theorem list_root_empty (h : Formatted o d0 d1 boot ft) (F : Fresh o d0 d1 strict accDate lfnAlloc unicode boot ft fs d2)
    (hcap : ft = .fat32 → boot.bpb.sectorsPerFat * boot.bpb.bps * 8 / 32 ≤ 0x0FFFFFF0) :
    ∃ d3, run (listDir (rootDirStream fs)) d2 = (.ok [], d3) ∧ d3.img = d2.img ∧ d3.writesOf = d2.writesOf := by
  by_cases h32 : ft = .fat32
  · subst h32
    exact list_root_empty_fat32 h F (hcap rfl)
  · obtain ⟨d3, h1, h2, h3⟩ := format_then_list_root_empty_fixed h F h32
    exact ⟨d3, h1, h2, by unfold Dev.writesOf; rw [h3]⟩

end fresh

open FatVerif.C06vol in
/-- **`format_then_list_root_empty`**, from `Formattable` alone: format a device, mount it as the next call sees it,
    list the root directory — `list_root_empty` (FAT32: `capacity ≤ 0x0FFFFFF0`, the hypothesis of
    `C06fat.formatted_fat`). -/
theorem format_then_list_root_empty (o : FormatOpts) (d0 d1 : Dev) (hpre : Formattable o d0)
    (hrun : run (formatVolume o) d0 = (.ok (), d1)) (strict accDate lfnAlloc unicode : Bool) :
    ∃ boot ft fs d2, formatChecked o (fmtTotal o d0) = .ok (boot, ft) ∧
      run (mount strict accDate lfnAlloc unicode) (nextOp d1) = (.ok fs, d2) ∧
      ((ft = .fat32 → boot.bpb.sectorsPerFat * boot.bpb.bps * 8 / 32 ≤ 0x0FFFFFF0) →
        ∃ d3, run (listDir (rootDirStream fs)) d2 = (.ok [], d3) ∧ d3.img = d2.img ∧ d3.writesOf = d2.writesOf) := by
  obtain ⟨boot, ft, fs, d2, h, F⟩ := fresh_of_run hpre hrun strict accDate lfnAlloc unicode
  exact ⟨boot, ft, fs, d2, F.checked, F.mounted, list_root_empty h F⟩

/-! ## non-vacuity of `format_then_list_root_empty` -/

set_option maxRecDepth 100000 in
/-- on the concrete FAT16 device of `C06image.Ex` (label "ABC"; the run succeeds, `Ex.run16_ok`) the theorem
    applies: the root directory of the freshly formatted volume lists as empty although slot 0 holds the label -/
example : ∃ fs d2 d3, run (mount true false true true) (nextOp (run (formatVolume Ex.o16) Ex.d16).2) = (.ok fs, d2) ∧
    run (listDir (rootDirStream fs)) d2 = (.ok [], d3) ∧ d3.img = d2.img := by
  obtain ⟨boot, ft, fs, d2, hc, hm, hl⟩ :=
    format_then_list_root_empty Ex.o16 Ex.d16 _ ex_formattable Ex.run16_ok true false true true
  have hft : ft = .fat16 := formatChecked_asked ex_formattable.acc ex_formattable.tot hc rfl
  subst hft
  obtain ⟨d3, h1, h2, _⟩ := hl (fun h => by cases h)
  exact ⟨fs, d2, d3, hm, h1, h2⟩

end FatVerif.C06root
