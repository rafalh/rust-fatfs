import FatVerif.Proofs.FileSimFrame
import FatVerif.Proofs.FileSimHistLoops
import FatVerif.Proofs.FileSimCut
import FatVerif.Props.C14sim
/-!
# C11 at byte level for the file operations; non-interference between files

* `file_write_footprint`: where the image may differ after `write` / `truncate` / `flush` / drop of a handle.
* `other_file_untouched`: an operation of a history on `f` leaves every other represented file `g` (disjoint chain, slot
  not among the positions `f` may write) represented, with the same abstraction.
* `two_files_refine_bytefiles`: an interleaved history on two handles of one volume = two independent byte arrays with
  a cursor (C02's "several files open and modified in interleaved order", at byte level).
* `durable_across_other_files_partial`: flush `g`, then any history on `f`: re-opening `g` reads the flushed content;
  `durable_across_other_files`: the same after any PREFIX of the device write records of that history.
-/
namespace FatVerif.FileSim
open FatVerif FatVerif.Fat

/-- **`file_write_footprint`** (C11 for the file operations, at byte level).  For `write` (with or without
    allocation; buffer of bytes), `truncate`, `flush` and drop of a represented handle whose record lives in a slot:
    every byte position in which the image after the call differs from the image before is (a) the status byte, or
    (b) inside a cluster of the handle's chain, or (c) inside a cluster that was free in the decoded FAT before the
    call, or (d) inside the window of the FAT entry — in any FAT copy — of a cluster of (b)/(c), or (e) inside the
    handle's own 32-byte slot; and it lies inside the device. -/
theorem file_write_footprint (op : MOp) (f : FileH) (e : DirEntryEditor) (d : Dev) (h : SimInv f d)
    (he : EntryRep d.fs d.img f e) (hbytes : ∀ bs, op = .write bs → ∀ b ∈ bs, b < 256) :
    ∀ q, (op.devAfter f d).img.getByte q ≠ d.img.getByte q → MayTouch d.fs d.img f e q ∧ q < d.img.size := by
  -- `flush` / drop: a device that differs from `d` inside the slot only
  have slot : ∀ d' : Dev, (∀ q, ¬ (e.pos ≤ q ∧ q < e.pos + 32) → d'.img.getByte q = d.img.getByte q) →
      ∀ q, d'.img.getByte q ≠ d.img.getByte q → MayTouch d.fs d.img f e q :=
    fun d' hout q hq => Or.inr (Decidable.by_contra fun hin => hq (hout q hin))
  have key : ∀ q, (op.devAfter f d).img.getByte q ≠ d.img.getByte q → MayTouch d.fs d.img f e q := by
    cases op with
    | write bs => exact fun q hq => Or.inl (write_footprint f bs d h (hbytes bs rfl) q hq)
    | truncate => exact fun q hq => Or.inl (truncate_footprint f d h q hq)
    | flush =>
      obtain ⟨d', hr, _, _, hout, _⟩ := flush_sim f e d h he
      rw [show MOp.flush.devAfter f d = d' from congrArg Prod.snd hr]
      exact slot d' hout
    | drop =>
      obtain ⟨d', hr, _, _, hout, _⟩ := drop_sim f e d h he
      rw [show MOp.drop.devAfter f d = d' from congrArg Prod.snd hr]
      exact slot d' hout
  exact fun q hq => ⟨key q hq, mayTouch_in_device h.geo h.rep he.inDev (key q hq)⟩

/-- **`other_file_untouched`.**  One operation (`read` / `seek` / `write` / `truncate` / the loops `read_exact` /
    `write_all`) of a history on `f`; `g` is
    another represented file of the volume whose chain is disjoint from `f`'s and whose slot is not a position `f` may
    write.  Afterwards `g` is represented on the new image with the same chain and the same abstraction (`CoreEq`: same
    content, same cursor), its slot still carries its record, the chains are still disjoint and the slot is still
    outside what `f` may write. -/
theorem other_file_untouched (op : HOp) (f g : FileH) (eg : DirEntryEditor) (d : Dev) (h : SimInv f d)
    (hok : op.BytesOk)
    (hrepg : FileRep d.fs d.img g) (heg : EntryRep d.fs d.img g eg)
    (hap : ∀ c ∈ fileChain d.fs d.img f, c ∉ fileChain d.fs d.img g)
    (hslot : ∀ q, eg.pos ≤ q → q < eg.pos + 32 → ¬ MayTouchData d.fs d.img f q) :
    FileRep (execH op f d).2.2.fs (execH op f d).2.2.img g ∧
    EntryRep (execH op f d).2.2.fs (execH op f d).2.2.img g eg ∧
    CoreEq (absFile (execH op f d).2.2.fs (execH op f d).2.2.img g) (absFile d.fs d.img g) ∧
    (∀ c ∈ fileChain (execH op f d).2.2.fs (execH op f d).2.2.img (execH op f d).2.1,
      c ∉ fileChain (execH op f d).2.2.fs (execH op f d).2.2.img g) ∧
    (∀ q, eg.pos ≤ q → q < eg.pos + 32 →
      ¬ MayTouchData (execH op f d).2.2.fs (execH op f d).2.2.img (execH op f d).2.1 q) := by
  have hsum := execH_summary op f d h hok
  have hfr := hsum.frame h.wf fun _ => False
  obtain ⟨hsim', _, _⟩ := execH_refines op f d h hok
  obtain ⟨hrep', hcore, hch, hap'⟩ := hfr.other_file h.geo h.rep hrepg hap fun _ hq => hq.elim
  exact ⟨hrep', hfr.other_entry heg hch fun q h1 h2 => ⟨hslot q h1 h2, id⟩, hcore, hap',
    fun q h1 h2 hm => hslot q h1 h2 (mayTouchData_mono hsum hsim'.rep hm)⟩

/-! ### two handles, interleaved -/

/-- one operation on the first (`true`) or the second handle -/
def exec2H (w : Bool) (op : HOp) (f g : FileH) (d : Dev) : Cursor.FileRes × FileH × FileH × Dev :=
  if w then ((execH op f d).1, (execH op f d).2.1, g, (execH op f d).2.2)
  else ((execH op g d).1, f, (execH op g d).2.1, (execH op g d).2.2)

def run2H : List (Bool × HOp) → FileH → FileH → Dev → List Cursor.FileRes × FileH × FileH × Dev
  | [], f, g, d => ([], f, g, d)
  | (w, op) :: ops, f, g, d =>
    ((exec2H w op f g d).1 ::
      (run2H ops (exec2H w op f g d).2.1 (exec2H w op f g d).2.2.1 (exec2H w op f g d).2.2.2).1,
     (run2H ops (exec2H w op f g d).2.1 (exec2H w op f g d).2.2.1 (exec2H w op f g d).2.2.2).2)

/-- two represented handles of one volume with disjoint chains -/
structure PairInvH (f g : FileH) (d : Dev) : Prop where
  left : SimInv f d
  right : SimInv g d
  apart : ∀ c ∈ fileChain d.fs d.img f, c ∉ fileChain d.fs d.img g

theorem PairInvH.symm {f g : FileH} {d : Dev} (h : PairInvH f g d) : PairInvH g f d :=
  ⟨h.right, h.left, fun c hc hf => h.apart c hf hc⟩

def BytesOk2 : List (Bool × HOp) → Prop
  | [] => True
  | (_, .write bs) :: ops => (∀ b ∈ bs, b < 256) ∧ BytesOk2 ops
  | (_, .writeAll bs) :: ops => (∀ b ∈ bs, b < 256) ∧ BytesOk2 ops
  | _ :: ops => BytesOk2 ops

theorem BytesOk2.cons {w : Bool} {op : HOp} {ops : List (Bool × HOp)} (h : BytesOk2 ((w, op) :: ops)) :
    op.BytesOk ∧ BytesOk2 ops := by
  cases op with
  | write bs => exact ⟨.of_write h.1, h.2⟩
  | writeAll bs => exact ⟨.of_writeAll h.1, h.2⟩
  | read n => exact ⟨.of_ne nofun nofun, h⟩
  | seek p => exact ⟨.of_ne nofun nofun, h⟩
  | truncate => exact ⟨.of_ne nofun nofun, h⟩
  | readExact n => exact ⟨.of_ne nofun nofun, h⟩

/-- one step on the first handle -/
theorem pair_step_left (op : HOp) (f g : FileH) (d : Dev) (h : PairInvH f g d)
    (hok : op.BytesOk) :
    PairInvH (execH op f d).2.1 g (execH op f d).2.2 ∧
    (execH op f d).2.2.fs.clusterSize = d.fs.clusterSize ∧
    Cursor.ByteFile.check d.fs.clusterSize op.toOp (execH op f d).1 (absFile d.fs d.img f).abs =
      .ok (absFile (execH op f d).2.2.fs (execH op f d).2.2.img (execH op f d).2.1).abs ∧
    (absFile (execH op f d).2.2.fs (execH op f d).2.2.img g).abs = (absFile d.fs d.img g).abs := by
  have hsum := execH_summary op f d h.left hok
  obtain ⟨hsim', hcs, hchk⟩ := execH_refines op f d h.left hok
  obtain ⟨hrep', hcore, _, hap'⟩ := (hsum.frame h.left.wf fun _ => False).other_file h.left.geo h.left.rep h.right.rep
    h.apart fun _ hq => hq.elim
  exact ⟨⟨hsim', ⟨hsim'.nofault, hsim'.wf, hsim'.geo, hrep', hsim'.info⟩, hap'⟩, hcs, hchk,
    hcore.abs_eq h.right.rep.inv.cs_pos h.right.rep.inv.cover⟩

/-- **`two_files_refine_bytefiles`.**  Any interleaving of `read` / `seek` / `write` / `truncate` / `read_exact` /
    `write_all` on two represented
    handles of one volume (disjoint chains, shared device, shared FAT and FS-info): every result is the one the byte
    array with a cursor prescribes for the file it was issued on (`Cursor.checkRun2`: two independent `ByteFile`s),
    as if the other file did not exist; the invariants hold again. -/
theorem two_files_refine_bytefiles : ∀ (ops : List (Bool × HOp)) (f g : FileH) (d : Dev), PairInvH f g d →
    BytesOk2 ops →
    PairInvH (run2H ops f g d).2.1 (run2H ops f g d).2.2.1 (run2H ops f g d).2.2.2 ∧
    (run2H ops f g d).2.2.2.fs.clusterSize = d.fs.clusterSize ∧
    Cursor.checkRun2 d.fs.clusterSize d.fs.clusterSize (ops.map fun o => (o.1, o.2.toOp)) (run2H ops f g d).1
      (absFile d.fs d.img f).abs (absFile d.fs d.img g).abs =
      .ok ((absFile (run2H ops f g d).2.2.2.fs (run2H ops f g d).2.2.2.img (run2H ops f g d).2.1).abs,
           (absFile (run2H ops f g d).2.2.2.fs (run2H ops f g d).2.2.2.img (run2H ops f g d).2.2.1).abs)
  | [], f, g, d, h, _ => ⟨h, rfl, rfl⟩
  | (w, op) :: ops, f, g, d, h, hok => by
    have hop := hok.cons
    cases w with
    | true =>
      obtain ⟨hp, hcs, hchk, hother⟩ := pair_step_left op f g d h hop.1
      obtain ⟨ri, rcs, rchk⟩ := two_files_refine_bytefiles ops _ _ _ hp hop.2
      have hexec : exec2H true op f g d = ((execH op f d).1, (execH op f d).2.1, g, (execH op f d).2.2) := rfl
      simp only [run2H, hexec, List.map]
      refine ⟨ri, rcs.trans hcs, ?_⟩
      simp only [Cursor.checkRun2, if_true, hchk]
      rw [hcs, hother] at rchk
      exact rchk
    | false =>
      obtain ⟨hp, hcs, hchk, hother⟩ := pair_step_left op g f d h.symm hop.1
      obtain ⟨ri, rcs, rchk⟩ := two_files_refine_bytefiles ops _ _ _ hp.symm hop.2
      have hexec : exec2H false op f g d = ((execH op g d).1, f, (execH op g d).2.1, (execH op g d).2.2) := rfl
      simp only [run2H, hexec, List.map]
      refine ⟨ri, rcs.trans hcs, ?_⟩
      simp only [Cursor.checkRun2, Bool.false_eq_true, if_false, hchk]
      rw [hcs, hother] at rchk
      exact rchk

/-- one step of an interleaved history, as a step of `hist` on the pair of handles -/
def pairStep {D : Type} (exec : HOp → FileH → D → Cursor.FileRes × FileH × D) (x : Bool × HOp) (fg : FileH × FileH)
    (d : D) : Cursor.FileRes × (FileH × FileH) × D :=
  if x.1 then ((exec x.2 fg.1 d).1, ((exec x.2 fg.1 d).2.1, fg.2), (exec x.2 fg.1 d).2.2)
  else ((exec x.2 fg.2 d).1, (fg.1, (exec x.2 fg.2 d).2.1), (exec x.2 fg.2 d).2.2)

theorem run2H_fst : ∀ (ops : List (Bool × HOp)) (f g : FileH) (d : Dev),
    (run2H ops f g d).1 = (hist (pairStep execH) ops (f, g) d).1
  | [], _, _, _ => rfl
  | (w, op) :: ops, f, g, d => by
    cases w <;> simp only [run2H, exec2H, hist, pairStep, run2H_fst ops] <;> rfl

/-- the results of an interleaved history, from the device given by its bytes (`Proofs/RunFn.lean`) -/
theorem run2H_sim (ops : List (Bool × HOp)) (f g : FileH) {s : SDev} {d : Dev} (ha : s.Agree d) :
    (hist (pairStep execHS) ops (f, g) s).1 = (run2H ops f g d).1 := by
  rw [run2H_fst]
  refine (hist_sim (fun x fg s d ha => ?_) ops (f, g) ha).1
  unfold pairStep
  split
  · obtain ⟨h1, h2, h3⟩ := execHS_sim x.2 fg.1 ha
    exact ⟨h1, by rw [h2], h3⟩
  · obtain ⟨h1, h2, h3⟩ := execHS_sim x.2 fg.2 ha
    exact ⟨h1, by rw [h2], h3⟩

/-! ### durability across operations on other files -/

/-- a represented handle with a clean editor: re-opening the file from its slot and reading to the end gives its
    content -/
theorem reopen_reads (g : FileH) (eg : DirEntryEditor) (d : Dev) (h : SimInv g d) (he : EntryRep d.fs d.img g eg)
    (hcl : eg.dirty = false) :
    ∃ g' d', run (readExact FileH.strm (reopen d.fs d.img eg.pos) (absFile d.fs d.img g).size) d =
      (.ok ((absFile d.fs d.img g).content, g'), d') :=
  reopen_reads_keeps h.geo h.rep he hcl d (Keeps.refl _ _ _ _ h.wf) rfl h.nofault

/-- a whole history on `f` leaves `g` alone -/
theorem other_file_untouched_run : ∀ (ops : List HOp) (f g : FileH) (eg : DirEntryEditor) (d : Dev), SimInv f d →
    BytesOk ops → FileRep d.fs d.img g → EntryRep d.fs d.img g eg →
    (∀ c ∈ fileChain d.fs d.img f, c ∉ fileChain d.fs d.img g) →
    (∀ q, eg.pos ≤ q → q < eg.pos + 32 → ¬ MayTouchData d.fs d.img f q) →
    SimInv g (runH ops f d).2.2 ∧
    EntryRep (runH ops f d).2.2.fs (runH ops f d).2.2.img g eg ∧
    CoreEq (absFile (runH ops f d).2.2.fs (runH ops f d).2.2.img g) (absFile d.fs d.img g) := by
  intro ops f g eg d h hok hrepg heg hap hslot
  have hfr := (runH_summary ops f d h hok).frame h.wf fun _ => False
  obtain ⟨hsim', _, _⟩ := fileh_refines_bytefile ops f d h hok
  obtain ⟨hrep', hcore, hch, _⟩ := hfr.other_file h.geo h.rep hrepg hap fun _ hq => hq.elim
  exact ⟨⟨hsim'.nofault, hsim'.wf, hsim'.geo, hrep', hsim'.info⟩,
    hfr.other_entry heg hch fun q h1 h2 => ⟨hslot q h1 h2, id⟩, hcore⟩

/-- `MayTouchData` only looks at the geometry, the decoded FAT and the chain -/
theorem mayTouchData_congr {fs : FsState} {img img' : Img} {f f' : FileH} (htv : tabView fs img' = tabView fs img)
    (hch : fileChain fs img' f' = fileChain fs img f) (q : Nat) :
    MayTouchData fs img' f' q ↔ MayTouchData fs img f q := by
  unfold MayTouchData FreeCluster
  rw [hch, htv]

/-- flushing `g` does not disturb `f`: the common first step of the two durability statements below -/
theorem flush_other_setup (f g : FileH) (eg : DirEntryEditor) (d : Dev) (hf : SimInv f d)
    (hgs : SimInv g d) (heg : EntryRep d.fs d.img g eg)
    (hap : ∀ c ∈ fileChain d.fs d.img f, c ∉ fileChain d.fs d.img g)
    (hslot : ∀ q, eg.pos ≤ q → q < eg.pos + 32 → ¬ MayTouchData d.fs d.img f q) :
    ∃ d1, run g.flush d = (.ok { g with entry := some { eg with dirty := false } }, d1) ∧
      SimInv f d1 ∧ SimInv { g with entry := some { eg with dirty := false } } d1 ∧
      EntryRep d1.fs d1.img { g with entry := some { eg with dirty := false } } { eg with dirty := false } ∧
      CoreEq (absFile d1.fs d1.img { g with entry := some { eg with dirty := false } }) (absFile d.fs d.img g) ∧
      (∀ c ∈ fileChain d1.fs d1.img f, c ∉ fileChain d1.fs d1.img { g with entry := some { eg with dirty := false } }) ∧
      (∀ q, eg.pos ≤ q → q < eg.pos + 32 → ¬ MayTouchData d1.fs d1.img f q) := by
  obtain ⟨d1, hr, hfs, hfr, htv, hsim1, hent1, hcore1⟩ := flush_frame g eg d hgs heg
  obtain ⟨hrepf1, _, hchf, hap1⟩ := hfr.other_file hgs.geo hgs.rep hf.rep (fun c hc hcf => hap c hcf hc)
    fun q hq c hc hin => hslot q hq.1 hq.2 (Or.inr (Or.inl ⟨c, hc, hin⟩))
  refine ⟨d1, hr, ⟨hsim1.nofault, hsim1.wf, hsim1.geo, hrepf1, hsim1.info⟩, hsim1, hent1, hcore1,
    fun c hc hcg => hap1 c hcg hc, fun q h1 h2 hm => hslot q h1 h2 ?_⟩
  rw [hfs] at hm htv hchf
  exact (mayTouchData_congr htv hchf q).mp hm

/-- **`durable_across_other_files_partial`.**  `g` is flushed; then any history of `read` / `seek` / `write` /
    `truncate` / `read_exact` / `write_all` runs on ANOTHER represented file `f` (disjoint chain; `g`'s slot is not a
    position `f` may write).  Re-opening `g` from its slot on the resulting device and reading to the end returns exactly
    the content `g` had when it was flushed.

    PARTIAL: the cut point is an operation boundary of the later history.  In `durable_across_other_files` below the
    cut may fall between any two device writes of the later history. -/
theorem durable_across_other_files_partial (f g : FileH) (eg : DirEntryEditor) (d : Dev) (hf : SimInv f d)
    (hgs : SimInv g d) (heg : EntryRep d.fs d.img g eg)
    (hap : ∀ c ∈ fileChain d.fs d.img f, c ∉ fileChain d.fs d.img g)
    (hslot : ∀ q, eg.pos ≤ q → q < eg.pos + 32 → ¬ MayTouchData d.fs d.img f q)
    (ops : List HOp) (hok : BytesOk ops) :
    ∃ d1, run g.flush d = (.ok { g with entry := some { eg with dirty := false } }, d1) ∧
      ∃ g' d', run (readExact FileH.strm
          (reopen (runH ops f d1).2.2.fs (runH ops f d1).2.2.img eg.pos) (absFile d.fs d.img g).size)
          (runH ops f d1).2.2 = (.ok ((absFile d.fs d.img g).content, g'), d') := by
  obtain ⟨d1, hr, hsimf1, hsim1, hent1, hcore1, hap1, hslot1⟩ := flush_other_setup f g eg d hf hgs heg hap hslot
  refine ⟨d1, hr, ?_⟩
  generalize hg1 : ({ g with entry := some { eg with dirty := false } } : FileH) = g1 at hsim1 hent1 hcore1 hap1
  obtain ⟨r1, r2, r3⟩ := other_file_untouched_run ops f g1 { eg with dirty := false } d1 hsimf1 hok hsim1.rep hent1
    hap1 hslot1
  obtain ⟨g', d', hrd⟩ := reopen_reads g1 { eg with dirty := false } (runH ops f d1).2.2 r1 r2 rfl
  have habs1 := r3.abs_eq hsim1.rep.inv.cs_pos hsim1.rep.inv.cover
  have habs0 := hcore1.abs_eq hgs.rep.inv.cs_pos hgs.rep.inv.cover
  have hcont : (absFile (runH ops f d1).2.2.fs (runH ops f d1).2.2.img g1).content = (absFile d.fs d.img g).content :=
    (congrArg Cursor.ByteFile.content habs1).trans (congrArg Cursor.ByteFile.content habs0)
  have hsize : (absFile (runH ops f d1).2.2.fs (runH ops f d1).2.2.img g1).size = (absFile d.fs d.img g).size :=
    r3.size.trans hcore1.size
  rw [hcont, hsize] at hrd
  exact ⟨g', d', hrd⟩

/-- **`file_write_records_in_footprint`** (record-level `file_write_footprint`).  One operation `read` / `seek` / `write`
    / `truncate` / `read_exact` / `write_all` on a represented handle appends the device write records `recs` (in this
    order) to the log; the image afterwards is the image before with them applied; each record is the status byte, a
    piece of ONE cluster of the handle's chain or of a cluster that was free, or the complete window of the FAT entry of
    such a cluster in one FAT copy written as a read-modify-write that keeps the decoded value of every other entry
    (`Classified`); in particular every position of every record is one the handle may write (`MayTouchData`).
    (`flush` / drop: `flush_sim` / `drop_sim` give the records — the pieces of the 32-byte slot.) -/
theorem file_write_records_in_footprint (op : HOp) (f : FileH) (d : Dev) (h : SimInv f d) (hok : op.BytesOk) :
    ∃ recs : List Rec, (execH op f d).2.2.log = recItems recs ++ d.log ∧
      (execH op f d).2.2.img = applyRecs d.img recs ∧
      Classified d.fs (OwnOrFree d.fs d.img f) (OwnOrFree d.fs d.img f) d.img recs ∧
      ∀ r ∈ recs, ∀ q, r.1 ≤ q → q < r.1 + r.2.length → MayTouchData d.fs d.img f q := by
  obtain ⟨recs, hl, hi, hc⟩ := (execH_summary op f d h hok).trace
  exact ⟨recs, hl, hi, hc, classified_positions recs d.img hc⟩

/-- **`durable_across_other_files`.**  `g` is flushed; then any history of `read` / `seek` / `write` / `truncate` /
    `read_exact` / `write_all` runs on ANOTHER represented file `f` (disjoint chain; `g`'s slot is not a position `f` may
    write).  Let `recs` be ALL device write records of that history, in order (the log grew by exactly these; the final
    image is the flushed image with them applied).  For EVERY cut point `k` — also between two device writes of one
    call, e.g. between the two FAT copies of one entry update, or between the allocation and the data write — and every
    fault-free device `dk` holding the flushed image with the surviving prefix `recs.take k` applied: re-opening `g` from
    its slot on `dk` and reading to the end returns exactly the content `g` had when it was flushed.
    Records are atomic (the granularity of the device log).  All three FAT types: on FAT12 the record that updates an
    entry of `f` next to an entry of `g` rewrites the shared byte with `g`'s nibble unchanged (read-modify-write), which
    is what `Classified` records and `Keeps` uses. -/
theorem durable_across_other_files (f g : FileH) (eg : DirEntryEditor) (d : Dev) (hf : SimInv f d)
    (hgs : SimInv g d) (heg : EntryRep d.fs d.img g eg)
    (hap : ∀ c ∈ fileChain d.fs d.img f, c ∉ fileChain d.fs d.img g)
    (hslot : ∀ q, eg.pos ≤ q → q < eg.pos + 32 → ¬ MayTouchData d.fs d.img f q)
    (ops : List HOp) (hok : BytesOk ops) :
    ∃ d1, run g.flush d = (.ok { g with entry := some { eg with dirty := false } }, d1) ∧
      ∃ recs : List Rec, (runH ops f d1).2.2.log = recItems recs ++ d1.log ∧
        (runH ops f d1).2.2.img = applyRecs d1.img recs ∧
        ∀ (k : Nat) (dk : Dev), dk.img = applyRecs d1.img (recs.take k) → dk.fs = d1.fs → dk.failAt = none →
          ∃ g' d', run (readExact FileH.strm (reopen dk.fs dk.img eg.pos) (absFile d.fs d.img g).size) dk =
            (.ok ((absFile d.fs d.img g).content, g'), d') := by
  obtain ⟨d1, hr, hsimf1, hsim1, hent1, hcore1, hap1, hslot1⟩ := flush_other_setup f g eg d hf hgs heg hap hslot
  refine ⟨d1, hr, ?_⟩
  generalize hg1 : ({ g with entry := some { eg with dirty := false } } : FileH) = g1 at hsim1 hent1 hcore1 hap1
  obtain ⟨recs, hl, hi, hc⟩ := (runH_summary ops f d1 hsimf1 hok).trace
  refine ⟨recs, hl, hi, fun k dk himg hfsk hfak => ?_⟩
  have hkeeps := classified_keeps (fs := d1.fs) (pos := eg.pos) (L := fileChain d1.fs d1.img g1)
    (fun c hc => by
      obtain ⟨a, b⟩ := hsim1.rep.inTab c hc
      have hlive : tabView d1.fs d1.img c ≠ .free := hsim1.rep.inv.live c hc
      refine ⟨a, b, ?_, ?_⟩ <;>
      · rintro (h | ⟨_, _, h⟩)
        · exact hap1 c h hc
        · exact hlive h)
    (fun q h1 h2 => by
      have hn := hslot1 q h1 h2
      refine ⟨fun e => hn (Or.inl e), fun c hcD c2 ct hin => ?_, fun c hcE hfe => hn (Or.inr (Or.inr (Or.inr ⟨c, hcE, hfe⟩)))⟩
      rcases hcD with hcD | hcD
      · exact hn (Or.inr (Or.inl ⟨c, hcD, hin⟩))
      · exact hn (Or.inr (Or.inr (Or.inl ⟨c, hcD, hin⟩))))
    recs d1.img hsim1.geo hsim1.wf hc k
  rw [← himg] at hkeeps
  obtain ⟨g', d', hrd⟩ := reopen_reads_keeps hsim1.geo hsim1.rep hent1 rfl dk hkeeps hfsk hfak
  have habs0 := hcore1.abs_eq hgs.rep.inv.cs_pos hgs.rep.inv.cover
  have hcont : (absFile d1.fs d1.img g1).content = (absFile d.fs d.img g).content :=
    congrArg Cursor.ByteFile.content habs0
  rw [hcont, hcore1.size] at hrd
  exact ⟨g', d', hrd⟩

end FatVerif.FileSim

namespace FatVerif.FileSim
open FatVerif FatVerif.Fat

/-! ### the loops of the history driver -/

/-- the history driver's `readx` on an open file handle is the `readExact` operation of `execH`, plus bookkeeping -/
theorem session_readx (s : Session) (f n : Nat) (h : FileH) (hd : s.dead = false) (hf : s.files[f]? = some h) :
    s.step (.readx f n) = fileOut s f (execH (.readExact n) h s.dev) := by
  unfold Session.step
  simp only [hd, Bool.false_eq_true, if_false, Session.withFile, hf]
  exact readxLoop_eq (n + 1) s f h n []

/-- the history driver's `writeall` on an open file handle is the `writeAll` operation of `execH`, plus bookkeeping -/
theorem session_writeall (s : Session) (f : Nat) (bs : List Nat) (h : FileH) (hd : s.dead = false)
    (hf : s.files[f]? = some h) :
    s.step (.writeall f bs) = fileOut s f (execH (.writeAll bs) h s.dev) := by
  unfold Session.step
  simp only [hd, Bool.false_eq_true, if_false, Session.withFile, hf]
  exact writeAllLoopS_eq (bs.length + 1) s f h bs

/-- a slot in the fixed root-directory area (between the FAT copies and the data region) is never a position a file
    operation may write -/
theorem rootSlot_not_mayTouchData {fs : FsState} {img : Img} {f : FileH} (hg : Geo fs img.size)
    (hrep : FileRep fs img f) {pos : Nat}
    (h1 : (fatSliceOf fs).beginOff + (fatSliceOf fs).mirrors * (fatSliceOf fs).size ≤ pos)
    (h2 : pos + 32 ≤ fs.firstDataSector * fs.bps) :
    ∀ q, pos ≤ q → q < pos + 32 → ¬ MayTouchData fs img f q := by
  intro q hq1 hq2
  have hst := hg.status_lt
  have hco := dataStart_le_clusterOff fs
  intro hm
  rcases mayTouchData_iff.mp hm with hs | ⟨c, hc, h' | hp⟩
  · have := statusOff_lt fs
    omega
  · have := hco c; have := h'.1; omega
  · have := hg.fatEntry_in_fat (hc.inTab hrep).2 hp
    omega

end FatVerif.FileSim

/-! ## the statements are not vacuous: two files on the FAT16 volume -/

namespace FatVerif.FileSim.Ex11
open FatVerif FatVerif.Fat FatVerif.FileSim FatVerif.FileSim.Ex FatVerif.FileSim.Ex14

/-- the image of `Props/C02sim.lean` with a second chain: cluster 4, end of chain; its first bytes marked -/
def img17 : Img := (img16.write 520 [0xFF, 0xFF]).write 3072 [41, 42, 43]

/-- two free clusters remain (2 and 6) -/
def fs17 : FsState := { fs16 with fsInfo := { free := some 2 } }
def dev17 : Dev := { img := img17, fs := fs17 }

/-- the second file: cluster 4, 100 bytes, record in the second slot of the root directory -/
def entryG : DirFileEntryData :=
  { DirFileEntryData.new (List.replicate 11 66) 0 with size := 100, firstClusterLo := 4 }
def fileG : FileH := { firstCluster := some 4, entry := some ⟨entryG, 1568, true⟩ }

/-- the bytes of the image, read off its definition -/
def bytes17 : Nat → Nat := readAfter bytes16 [(520, [0xFF, 0xFF]), (3072, [41, 42, 43])]

theorem read17 : img17.WF ∧ img17.getByte = bytes17 := by
  have h := applyRecs_read [(520, [0xFF, 0xFF]), (3072, [41, 42, 43])] img16 wf16
  rw [read16.2] at h
  exact h

/-- the device by its bytes -/
def s17 : SDev := ⟨bytes17, dev17.strip⟩

theorem agree17 : s17.Agree dev17 := ⟨read17.1, read17.2, rfl⟩

theorem wf17 : img17.WF := read17.1

theorem size17 : img17.size = 8192 := by
  show ((img16.write 520 _).write 3072 _).size = _
  rw [Img.write_size, Img.write_size]; rfl

/-- the decoded FAT of the image, from its bytes -/
theorem tab17 : tabView fs17 img17 = tabViewS fs17 bytes17 := by rw [tabView_eq_tabViewS, read17.2]

theorem geo17 : Geo fs17 img17.size := by
  rw [size17]
  exact geo16.frame rfl

theorem repChainF17 : FileRep fs17 img17 file14 ∧ fileChain fs17 img17 file14 = [3, 5] :=
  have t3 : tabView fs17 img17 3 = .data 5 := by rw [tab17]; decide
  have t5 : tabView fs17 img17 5 = .eoc := by rw [tab17]; decide
  FileRep.of_chain (c := 3) (sz := 1020) rfl rfl (.cons 3 5 [5] t3 (.last 5 (by rw [t5]; nofun)))
    (fun l hl => by cases hl; exact t5) (by rw [tab17]; decide)
    (by decide) (by decide) (by decide) (by decide) (by decide) (by decide) (by decide) rfl

theorem repChainG17 : FileRep fs17 img17 fileG ∧ fileChain fs17 img17 fileG = [4] :=
  have t4 : tabView fs17 img17 4 = .eoc := by rw [tab17]; decide
  FileRep.of_chain (c := 4) (sz := 100) rfl rfl (.last 4 (by rw [t4]; nofun))
    (fun l hl => by cases hl; exact t4) (by rw [tab17]; decide)
    (by decide) (by decide) (by decide) (by decide) (by decide) (by decide) (by decide) rfl

theorem repF17 : FileRep fs17 img17 file14 := repChainF17.1
theorem repG17 : FileRep fs17 img17 fileG := repChainG17.1

theorem info17 : InfoOk fs17 img17 where
  hint := by intro n h; cases h
  count := by intro n h; cases h; rw [tab17]; decide

theorem pair17 : PairInvH file14 fileG dev17 where
  left := ⟨rfl, wf17, geo17, repF17, info17⟩
  right := ⟨rfl, wf17, geo17, repG17, info17⟩
  apart := by
    intro c hc hg
    have hc' : c ∈ fileChain fs17 img17 file14 := hc
    have hg' : c ∈ fileChain fs17 img17 fileG := hg
    rw [repChainF17.2] at hc'; rw [repChainG17.2] at hg'
    have h1 : c = 3 ∨ c = 5 := by simpa using hc'
    have h2 : c = 4 := by simpa using hg'
    omega

/-- an interleaved history: `f` grows by a cluster in the middle of a `write_all` (the allocator takes cluster 2, not
    `g`'s cluster 4), `g` is read (`read_exact`), overwritten and read back, `f` is truncated -/
def ops17 : List (Bool × HOp) :=
  [(true, .seek (.start 1020)), (false, .readExact 3), (true, .writeAll [1, 2, 3, 4, 5, 6]),
   (false, .seek (.start 1)), (false, .write [7]), (false, .seek (.start 0)), (false, .read 4),
   (true, .seek (.start 600)), (true, .truncate), (false, .read 2)]

theorem bytesOk17 : BytesOk2 ops17 := ⟨by decide, by decide, trivial⟩

/-- the byte-level model, evaluated -/
theorem run17 : (run2H ops17 file14 fileG dev17).1 =
    [.pos 1020, .bytes [41, 42, 43], .unit, .pos 1, .count 1, .pos 0, .bytes [41, 7, 43, 0],
     .pos 600, .unit, .bytes [0, 0]] := by
  rw [← run2H_sim ops17 file14 fileG agree17]
  decide +kernel

/-- `two_files_refine_bytefiles` applied: the evaluated results are those of two independent byte arrays -/
theorem spec17 :
    Cursor.checkRun2 512 512 (ops17.map fun o => (o.1, o.2.toOp))
      [.pos 1020, .bytes [41, 42, 43], .unit, .pos 1, .count 1, .pos 0, .bytes [41, 7, 43, 0],
       .pos 600, .unit, .bytes [0, 0]]
      (absFile fs17 img17 file14).abs (absFile fs17 img17 fileG).abs =
    .ok ((absFile (run2H ops17 file14 fileG dev17).2.2.2.fs (run2H ops17 file14 fileG dev17).2.2.2.img
            (run2H ops17 file14 fileG dev17).2.1).abs,
         (absFile (run2H ops17 file14 fileG dev17).2.2.2.fs (run2H ops17 file14 fileG dev17).2.2.2.img
            (run2H ops17 file14 fileG dev17).2.2.1).abs) := by
  have := (two_files_refine_bytefiles ops17 file14 fileG dev17 pair17 bytesOk17).2.2
  rw [run17] at this
  exact this

/-- `EntryRep` for the second file: its slot `[1568, 1600)` lies in the root-directory sector -/
theorem entryRepG : EntryRep fs17 img17 fileG ⟨entryG, 1568, true⟩ where
  entry := rfl
  wf := ⟨by decide, by decide, by decide, by decide, by decide, by decide, by decide, by decide, by decide, by decide,
    by decide, by decide, by decide⟩
  notLfn := by decide
  inDev := by rw [size17]; decide
  offFat := by decide
  offData := by
    intro c hc
    rw [repChainG17.2] at hc
    have : c = 4 := by simpa using hc
    subst this; decide
  first := by decide
  sync := by intro h; cases h

/-- `durable_across_other_files_partial` applied: flush the second file, then let the first one grow by a cluster (`ops14`);
    re-opening the second file reads its 100 bytes -/
theorem durable17 :
    ∃ d1, run fileG.flush dev17 = (.ok { fileG with entry := some ⟨entryG, 1568, false⟩ }, d1) ∧
      ∃ g' d', run (readExact FileH.strm
          (reopen (runH ops14 file14 d1).2.2.fs (runH ops14 file14 d1).2.2.img 1568)
            (absFile fs17 img17 fileG).size)
          (runH ops14 file14 d1).2.2 = (.ok ((absFile fs17 img17 fileG).content, g'), d') :=
  durable_across_other_files_partial file14 fileG ⟨entryG, 1568, true⟩ dev17 pair17.left pair17.right entryRepG
    pair17.apart
    (rootSlot_not_mayTouchData (fs := fs17) (img := img17) geo17 repF17 (by decide) (by decide))
    ops14 ⟨by decide, by decide, trivial⟩

theorem entryRepF : EntryRep fs17 img17 file14 ⟨entry14, 1536, true⟩ where
  entry := rfl
  wf := ⟨by decide, by decide, by decide, by decide, by decide, by decide, by decide, by decide, by decide,
    by decide, by decide, by decide, by decide⟩
  notLfn := by decide
  inDev := by rw [size17]; decide
  offFat := by decide
  offData := by
    intro c hc
    rw [repChainF17.2] at hc
    have : c = 3 ∨ c = 5 := by simpa using hc
    rcases this with rfl | rfl <;> decide
  first := by decide
  sync := by intro h; cases h

/-- `file_write_footprint` applied to the allocating write of the first file -/
theorem footprint17 : ∀ q,
    ((MOp.write [1, 2]).devAfter file14 dev17).img.getByte q ≠ dev17.img.getByte q →
      MayTouch fs17 img17 file14 ⟨entry14, 1536, true⟩ q ∧ q < img17.size :=
  file_write_footprint (.write [1, 2]) file14 ⟨entry14, 1536, true⟩ dev17 pair17.left entryRepF
    (fun bs e => by cases e; decide)

/-- `other_file_untouched` applied: the allocating write of the first file keeps the second file's representation,
    record and content -/
theorem untouched17 :
    CoreEq (absFile (execH (.write [1, 2]) file14 dev17).2.2.fs (execH (.write [1, 2]) file14 dev17).2.2.img fileG)
      (absFile fs17 img17 fileG) :=
  (other_file_untouched (.write [1, 2]) file14 fileG ⟨entryG, 1568, true⟩ dev17 pair17.left
    (.of_write (by decide)) repG17 entryRepG pair17.apart
    (rootSlot_not_mayTouchData (fs := fs17) (img := img17) geo17 repF17 (by decide) (by decide))).2.2.1

/-- `durable_across_other_files` applied: flush the second file; then the first one grows by a cluster; the cut may
    fall between any two of the device writes of that history -/
theorem durableFull17 :
    ∃ d1, run fileG.flush dev17 = (.ok { fileG with entry := some ⟨entryG, 1568, false⟩ }, d1) ∧
      ∃ recs : List Rec, (runH ops14 file14 d1).2.2.log = recItems recs ++ d1.log ∧
        (runH ops14 file14 d1).2.2.img = applyRecs d1.img recs ∧
        ∀ (k : Nat) (dk : Dev), dk.img = applyRecs d1.img (recs.take k) → dk.fs = d1.fs → dk.failAt = none →
          ∃ g' d', run (readExact FileH.strm (reopen dk.fs dk.img 1568) (absFile fs17 img17 fileG).size) dk =
            (.ok ((absFile fs17 img17 fileG).content, g'), d') :=
  durable_across_other_files file14 fileG ⟨entryG, 1568, true⟩ dev17 pair17.left pair17.right entryRepG
    pair17.apart
    (rootSlot_not_mayTouchData (fs := fs17) (img := img17) geo17 repF17 (by decide) (by decide))
    ops14 ⟨by decide, by decide, trivial⟩

/-- the device after the flush of the second file -/
def dG1 : Dev := (run fileG.flush dev17).2

/-- the seven write records of the history `ops14` on the first file: status byte; 4 data bytes up to the cluster
    boundary; the end-of-chain mark of the new cluster 2 in both FAT copies; the link `5 → 2` in both FAT copies; the
    remaining 2 data bytes in cluster 2 -/
def recsF : List Rec :=
  [(37, [1]), (4092, [1, 2, 3, 4]), (516, [255, 255]), (1028, [255, 255]), (522, [2, 0]), (1034, [2, 0]),
   (2048, [5, 6])]

theorem log17 : (runH ops14 file14 dG1).2.2.log = recItems recsF ++ dG1.log := by
  obtain ⟨d1, e1, ha1⟩ := run_eq_runS fileG.flush agree17
  rw [dG1, e1, (runH_sim ops14 file14 ha1).2.2.log, ha1.log]
  decide +kernel

/-- power cut after the third record: cluster 2 is marked in the first FAT copy only, not yet linked -/
def dCutF : Dev := { dG1 with img := applyRecs dG1.img (recsF.take 3) }

/-- … and the second file reads back as flushed -/
theorem cutF17 :
    ((run (readExact FileH.strm (reopen dCutF.fs dCutF.img 1568) 100) dCutF).1.toOption.map
      fun r => (r.1.length, r.1.take 4)) = some (100, [41, 42, 43, 0]) := by
  obtain ⟨d1, e1, ha1⟩ := run_eq_runS fileG.flush agree17
  rw [dCutF, dG1, e1]
  have hc := ha1.applyRecs (recsF.take 3)
  obtain ⟨dr, er, _⟩ := run_eq_runS (readExact FileH.strm (reopenS d1.fs _ 1568) 100) hc
  rw [reopen_eq_reopenS, hc.get, er, ha1.fs]
  dsimp only
  decide +kernel

end FatVerif.FileSim.Ex11
