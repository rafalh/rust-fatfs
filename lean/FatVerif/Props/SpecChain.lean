import FatVerif.Spec.FatSpec
/-!
# The chain decoder of the oracles is sound and complete (for every FAT, every start cluster)

The failing-input search of C03 / C04 / C08 / C11 / C20 decodes cluster chains from the implementation's image with
`Spec.walkChainF` (Brent's cycle detection over an `Array`, fuel `total + 2`).  `Props/SpecSanity.lean` only evaluates it
on tiny tables.  Here it is related, for EVERY table `entry : Nat → FatClass`, to the relational meaning of a chain:

* `chainOfF_sound`: what the decoder returns as a chain IS the link path from `first` (consecutive clusters linked by
  `.next`, the last one holding an end-of-chain mark) and `first` is in range — the oracle never invents a chain;
* `chainOfF_complete`: when such a path exists, is duplicate free and no longer than `total + 2`, the decoder returns
  exactly it — in particular Brent's tortoise never reports a cycle on an acyclic chain, so the oracle signatures
  `fat-cycle` / `chain-broken` / `fat-link-range` cannot fire on a volume whose chains are well formed (no false alarm
  from the decoder);
* `chainOfF_error_iff`: the decoder reports an error exactly when no such path exists.
-/
namespace FatVerif.Spec

/-- `l` is the link path of the table from its head: consecutive elements are linked by `.next`, the last element holds
    an end-of-chain mark -/
def IsLinkPath (entry : Nat → FatClass) : List Nat → Prop
  | [] => False
  | [c] => entry c = .eoc
  | c :: d :: l => entry c = .next d ∧ IsLinkPath entry (d :: l)

theorem chainLoop_sound (entry : Nat → FatClass) : ∀ (fuel cur tort power lam : Nat) (acc cs : Array Nat),
    chainLoop entry fuel cur tort power lam acc = (cs, .eoc) →
    ∃ p, cs.toList = acc.toList ++ cur :: p ∧ IsLinkPath entry (cur :: p) ∧ p.length < fuel
  | 0, _, _, _, _, _, _, h => by simp [chainLoop] at h
  | fuel + 1, cur, tort, power, lam, acc, cs, h => by
    unfold chainLoop at h
    simp only at h
    split at h
    · rename_i he
      refine ⟨[], ?_, he, Nat.succ_pos _⟩
      cases h
      simp
    · cases h
    · cases h
    · cases h
    · rename_i n he
      have key : ∀ t pw lm, chainLoop entry fuel n t pw lm (acc.push cur) = (cs, .eoc) →
          ∃ p, cs.toList = acc.toList ++ cur :: p ∧ IsLinkPath entry (cur :: p) ∧ p.length < fuel + 1 := by
        intro t pw lm hh
        obtain ⟨p, hp, hl, hlen⟩ := chainLoop_sound entry fuel n t pw lm _ _ hh
        exact ⟨n :: p, by simpa using hp, ⟨he, hl⟩, Nat.succ_lt_succ hlen⟩
      split at h
      · split at h
        · cases h
        · exact key _ _ _ h
      · split at h
        · cases h
        · exact key _ _ _ h

theorem chainLoop_complete (entry : Nat → FatClass) : ∀ (rest : List Nat) (fuel cur tort power lam : Nat)
    (acc : Array Nat), IsLinkPath entry (cur :: rest) → (cur :: rest).Nodup → tort ∉ rest → rest.length < fuel →
    (chainLoop entry fuel cur tort power lam acc).1.toList = acc.toList ++ cur :: rest ∧
    (chainLoop entry fuel cur tort power lam acc).2 = .eoc
  | _, 0, _, _, _, _, _, _, _, _, hf => by omega
  | [], fuel + 1, cur, tort, power, lam, acc, hp, _, _, _ => by
    have he : entry cur = .eoc := hp
    unfold chainLoop
    simp [he]
  | d :: l, fuel + 1, cur, tort, power, lam, acc, hp, hnd, ht, hf => by
    have he : entry cur = .next d := hp.1
    have hl : IsLinkPath entry (d :: l) := hp.2
    have hnd' : (d :: l).Nodup := (List.nodup_cons.mp hnd).2
    have hcur : cur ∉ d :: l := (List.nodup_cons.mp hnd).1
    have hdc : d ≠ cur := fun e => hcur (by simp [e])
    have hdt : d ≠ tort := fun e => ht (by simp [e])
    have hcl : cur ∉ l := fun hm => hcur (List.mem_cons_of_mem _ hm)
    have htl : tort ∉ l := fun hm => ht (List.mem_cons_of_mem _ hm)
    have hfl : l.length < fuel := by simp at hf; omega
    unfold chainLoop
    simp only [he]
    split
    · obtain ⟨h1, h2⟩ := chainLoop_complete entry l fuel d cur (2 * power) 1 (acc.push cur) hl hnd' hcl hfl
      exact ⟨by simpa using h1, h2⟩
    · obtain ⟨h1, h2⟩ := chainLoop_complete entry l fuel d tort power (lam + 1) (acc.push cur) hl hnd' htl hfl
      exact ⟨by simpa using h1, h2⟩

/-- what the decoder returns: `first` is in range, and the chain is a link path from `first` shorter than the fuel -/
theorem chainOfF_ok (entry : Nat → FatClass) (total first : Nat) (cs : Array Nat)
    (h : chainOfF entry total first = .ok cs) :
    2 ≤ first ∧ first < total + 2 ∧
      ∃ p, cs.toList = first :: p ∧ IsLinkPath entry (first :: p) ∧ p.length < total + 2 := by
  unfold chainOfF walkChainF at h
  split at h
  · rename_i hr
    generalize hw : chainLoop entry (total + 2) first first 1 1 #[] = r at h
    obtain ⟨a, st⟩ := r
    cases st <;> simp [chainResult] at h
    subst h
    obtain ⟨p, hp, hl, hlen⟩ := chainLoop_sound entry _ _ _ _ _ _ _ hw
    exact ⟨hr.1, hr.2, p, by simpa using hp, hl, hlen⟩
  · simp [chainResult] at h

/-- A chain the oracles' decoder returns is the link path of the table from `first`, and `first`
    is a cluster number of the volume. -/
theorem chainOfF_sound (entry : Nat → FatClass) (total first : Nat) (cs : Array Nat)
    (h : chainOfF entry total first = .ok cs) :
    2 ≤ first ∧ first < total + 2 ∧ cs.toList.head? = some first ∧ IsLinkPath entry cs.toList := by
  obtain ⟨h2, ht, p, hp, hl, _⟩ := chainOfF_ok entry total first cs h
  rw [hp]
  exact ⟨h2, ht, rfl, hl⟩

/-- If the table has a link path from `first` that visits no cluster twice and is no longer
    than the table, the decoder returns exactly that path: no cycle, range or length alarm on a well-formed chain. -/
theorem chainOfF_complete (entry : Nat → FatClass) (total first : Nat) (rest : List Nat)
    (hp : IsLinkPath entry (first :: rest)) (hnd : (first :: rest).Nodup) (hlen : (first :: rest).length ≤ total + 2)
    (h2 : 2 ≤ first) (ht : first < total + 2) :
    ∃ cs, chainOfF entry total first = .ok cs ∧ cs.toList = first :: rest := by
  obtain ⟨h1, hs⟩ := chainLoop_complete entry rest (total + 2) first first 1 1 #[] hp hnd
    (List.nodup_cons.mp hnd).1 (by simp at hlen; omega)
  unfold chainOfF walkChainF
  rw [if_pos ⟨h2, ht⟩]
  generalize chainLoop entry (total + 2) first first 1 1 #[] = r at h1 hs
  obtain ⟨a, st⟩ := r
  simp only at hs
  subst hs
  exact ⟨a, rfl, by simpa using h1⟩

/-- a link path is determined by its head: two link paths from the same cluster are equal -/
theorem IsLinkPath.unique (entry : Nat → FatClass) : ∀ (p q : List Nat), IsLinkPath entry p → IsLinkPath entry q →
    p.head? = q.head? → p = q
  | [], _, hp, _, _ => hp.elim
  | _ :: _, [], _, hq, _ => hq.elim
  | [c], [c'], _, _, hh => by simpa using hh
  | [c], c' :: d :: l, hp, hq, hh => by
    have e : c = c' := by simpa using hh
    subst e
    have h1 : entry c = .eoc := hp
    rw [hq.1] at h1
    cases h1
  | c :: d :: l, [c'], hp, hq, hh => by
    have e : c = c' := by simpa using hh
    subst e
    have h1 : entry c = .eoc := hq
    rw [hp.1] at h1
    cases h1
  | c :: d :: l, c' :: d' :: l', hp, hq, hh => by
    have e : c = c' := by simpa using hh
    subst e
    have h1 := hp.1
    rw [hq.1] at h1
    cases h1
    have := IsLinkPath.unique entry (d :: l) (d :: l') hp.2 hq.2 rfl
    rw [this]

theorem IsLinkPath.suffix (entry : Nat → FatClass) : ∀ (a : List Nat) (c : Nat) (b : List Nat),
    IsLinkPath entry (a ++ c :: b) → IsLinkPath entry (c :: b)
  | [], _, _, h => h
  | [_], _, _, h => h.2
  | _ :: y :: a, c, b, h => IsLinkPath.suffix entry (y :: a) c b h.2

/-- a link path ends, so it visits no cluster twice (the successor of a cluster is unique) -/
theorem IsLinkPath.nodup {entry : Nat → FatClass} : ∀ {p : List Nat}, IsLinkPath entry p → p.Nodup
  | [], h => h.elim
  | [c], _ => by simp
  | c :: d :: l, h => by
    have ih : (d :: l).Nodup := IsLinkPath.nodup h.2
    refine List.nodup_cons.mpr ⟨?_, ih⟩
    intro hm
    obtain ⟨a, b, hab⟩ := List.append_of_mem hm
    have hs : IsLinkPath entry (c :: b) := IsLinkPath.suffix entry (c :: a) c b (by rw [List.cons_append, ← hab]; exact h)
    have := IsLinkPath.unique entry (c :: b) (c :: d :: l) hs h rfl
    have hlen := congrArg List.length this
    rw [hab] at hlen
    simp at hlen
    omega

/-- The decoder reports an error (`fat-cycle`, `chain-broken`, `fat-link-range`) exactly
    when the table has NO duplicate-free link path from an in-range `first` within the table's length. -/
theorem chainOfF_error_iff (entry : Nat → FatClass) (total first : Nat) :
    (∃ e, chainOfF entry total first = .error e) ↔
    ¬ (2 ≤ first ∧ first < total + 2 ∧
       ∃ rest, IsLinkPath entry (first :: rest) ∧ (first :: rest).Nodup ∧ (first :: rest).length ≤ total + 2) := by
  constructor
  · rintro ⟨e, he⟩ ⟨h2, ht, rest, hp, hnd, hlen⟩
    obtain ⟨cs, hcs, _⟩ := chainOfF_complete entry total first rest hp hnd hlen h2 ht
    rw [hcs] at he
    cases he
  · intro hno
    cases hc : chainOfF entry total first with
    | error e => exact ⟨e, rfl⟩
    | ok cs =>
      obtain ⟨h2, ht, rest, _, hl, hlen⟩ := chainOfF_ok entry total first cs hc
      exact absurd ⟨h2, ht, rest, hl, hl.nodup, by simpa using Nat.succ_le_of_lt hlen⟩ hno

end FatVerif.Spec

namespace FatVerif.Spec
/-! ### the hypotheses are satisfiable: a three-cluster chain 2 → 3 → 5 in a table with a free and a cyclic part -/

def entryEx (k : Nat) : FatClass :=
  if k = 2 then .next 3 else if k = 3 then .next 5 else if k = 5 then .eoc else if k = 6 then .next 6 else .free

example : IsLinkPath entryEx [2, 3, 5] := ⟨rfl, rfl, rfl⟩
example : ∃ cs, chainOfF entryEx 8 2 = .ok cs ∧ cs.toList = [2, 3, 5] :=
  chainOfF_complete entryEx 8 2 [3, 5] ⟨rfl, rfl, rfl⟩ (by decide) (by decide) (by decide) (by decide)
/-- … and the self-loop at 6 has no link path, so the decoder must report it -/
example : ∃ e, chainOfF entryEx 8 6 = .error e := ⟨_, rfl⟩
end FatVerif.Spec
