import FatVerif.Proofs.ReadOnlySession
/-! # C13 — read-only use never writes

Definitions (Proofs/ReadOnlyDir, ReadOnlyFs, FsInfoWrites): `CleanFile f` (the handle's entry editor is not dirty), `CleanStream`,
`CleanFs fs` (status flags as read at mount, FS-info latch not set), `FlagsClean fs` (`CleanFs` without the latch).
`SameWrites d d'` (Proofs/Prog.lean): same image, same write records in the log.

Judgements: `RO fs0 p Post` — run on a device whose mounted state is `fs0`, `p` writes nothing, leaves the mounted
state unchanged, and a successful result satisfies `Post`; `NW fs0 p Post` — the same, but the mounted state may change
and `Post` sees the final one. -/
namespace FatVerif

/-! ## (1) the read paths: nothing is written, handles stay clean -/

/-- `File::read` with `update_accessed_date = false`: no write, mounted state unchanged, the handle stays clean.
    (Whatever the option is, `read` contains no write operation: `FileH.read_quiet`.) -/
theorem fileRead_readonly {fs0 : FsState} (hacc : fs0.accDate = false) {f : FileH} (hf : CleanFile f) (n : Nat) :
    RO fs0 (f.read n) (fun r => CleanFile r.2) :=
  (FileH.read_ro hacc f n).weaken (fun _ h => cleanFile_of_entry_eq h hf)

theorem fileSeek_readonly {fs0 : FsState} {f : FileH} (hf : CleanFile f) (p : SeekFrom) :
    RO fs0 (f.seek p) (fun r => CleanFile r.2) :=
  (FileH.seek_ro f p).weaken (fun _ h => cleanFile_of_entry_eq h hf)

theorem dirStreamRead_readonly {fs0 : FsState} (hacc : fs0.accDate = false) {st : DirStream} (hst : CleanStream st)
    (n : Nat) : RO fs0 (st.read n) (fun r => CleanStream r.2) := DirStream.read_ro hacc hst n

theorem dirStreamSeek_readonly {fs0 : FsState} {st : DirStream} (hst : CleanStream st) (p : SeekFrom) :
    RO fs0 (st.seek p) (fun r => CleanStream r.2) := DirStream.seek_ro hst p

theorem readSlot_readonly {fs0 : FsState} (hacc : fs0.accDate = false) {st : DirStream} (hst : CleanStream st) :
    RO fs0 (readSlot st) (fun r => CleanStream r.2) := readSlot_ro hacc hst

theorem readDirEntry_readonly {fs0 : FsState} (hacc : fs0.accDate = false) (skipVolume : Bool) {st : DirStream}
    (hst : CleanStream st) : RO fs0 (readDirEntry skipVolume st) (fun r => CleanStream r.2) :=
  ro_iff_tri.2 (readDirEntry_tri (roDir hacc) skipVolume hst)

theorem listDir_readonly {fs0 : FsState} (hacc : fs0.accDate = false) {d : DirStream} (hd : CleanStream d) :
    RO fs0 (listDir d) (fun _ => True) := listDir_ro hacc hd

theorem findEntry_readonly {fs0 : FsState} (hacc : fs0.accDate = false) (env : Env) {d : DirStream}
    (hd : CleanStream d) (name : String) (isDir : Option Bool) : RO fs0 (findEntry env d name isDir) (fun _ => True) :=
  findEntry_ro hacc env hd name isDir

theorem openDir_readonly {fs0 : FsState} (hacc : fs0.accDate = false) (env : Env) (fuel : Nat) {d : DirStream}
    (hd : CleanStream d) (path : String) : RO fs0 (openDir env fuel d path) CleanStream :=
  openDir_ro hacc env fuel d path hd

theorem openFile_readonly {fs0 : FsState} (hacc : fs0.accDate = false) (env : Env) (fuel : Nat) {d : DirStream}
    (hd : CleanStream d) (path : String) : RO fs0 (openFile env fuel d path) CleanFile :=
  openFile_ro hacc env fuel d path hd

theorem findVolumeEntry_readonly {fs0 : FsState} (hacc : fs0.accDate = false) {d : DirStream} (hd : CleanStream d) :
    RO fs0 (findVolumeEntry d) (fun _ => True) := findVolumeEntry_ro hacc hd

theorem readVolumeLabel_readonly {fs0 : FsState} (hacc : fs0.accDate = false) :
    RO fs0 readVolumeLabelFromRootDir (fun _ => True) := readVolumeLabelFromRootDir_ro hacc

theorem readStatusFlags_readonly {fs0 : FsState} : RO fs0 readStatusFlags (fun _ => True) :=
  RO.of_quiet readStatusFlags_quiet

theorem fileExtents_readonly {fs0 : FsState} (f : FileH) : RO fs0 f.extents (fun _ => True) :=
  RO.of_quiet f.extents_quiet

/-- `File::flush` on a clean handle: only the device flush, the handle is returned unchanged -/
theorem fileFlush_clean_readonly {fs0 : FsState} {f : FileH} (hf : CleanFile f) : RO fs0 f.flush (fun f' => f' = f) :=
  FileH.flush_clean_ro hf

theorem fileDrop_clean_readonly {fs0 : FsState} {f : FileH} (hf : CleanFile f) : RO fs0 f.drop (fun _ => True) :=
  FileH.drop_clean_ro hf

theorem dirDrop_clean_readonly {fs0 : FsState} {d : DirStream} (hd : CleanStream d) : RO fs0 d.drop (fun _ => True) :=
  DirStream.drop_clean_ro hd

/-- `FileSystem::new` writes nothing; the mounted state it installs and returns is clean -/
theorem mount_readonly {fs0 : FsState} (strict accDate lfnAlloc unicode : Bool) :
    NW fs0 (mount strict accDate lfnAlloc unicode) (fun fs fs1 => fs1 = fs ∧ CleanFs fs ∧ fs.accDate = accDate) :=
  (mount_nw strict accDate lfnAlloc unicode).weaken (fun _ _ h => ⟨h.1, h.2.1, h.2.2.1⟩)

/-! ## (2) `stats` -/

/-- `stats` writes nothing. The mounted state is unchanged if a free count is cached; otherwise (the documented
    exception) the count is cached and the FS-info latch `fsInfo.dirty` is set -/
theorem stats_readonly {fs0 : FsState} : NW fs0 stats (fun _ fs1 => StatsStep fs0 fs1) := stats_nw

theorem stats_keeps_cleanFs {fs0 : FsState} (hfree : fs0.fsInfo.free ≠ none) (hc : CleanFs fs0) :
    NW fs0 stats (fun _ fs1 => CleanFs fs1) :=
  stats_nw.weaken (fun _ fs1 h => by
    rcases h with h | ⟨h, _⟩
    · rw [h]; exact hc
    · exact absurd h hfree)

/-! ## (3) `unmount` / `Drop for FileSystem` -/

theorem unmount_clean_readonly {fs0 : FsState} (h : CleanFs fs0) : RO fs0 unmount (fun _ => True) := unmount_clean_ro h

theorem dropFs_clean_readonly {fs0 : FsState} (h : CleanFs fs0) : RO fs0 dropFs (fun _ => True) := dropFs_clean_ro h

/-- with the status flags as at mount (but possibly the FS-info latch set, e.g. by `stats`), `unmount` writes only
    inside the FS-info sector: every write record it adds to the log lies in
    `[fsInfoSector * bps, fsInfoSector * bps + 512)` -/
theorem unmount_writes_only_fsinfo {d : Dev} (hfl : FlagsClean d.fs) {r d'} (hr : run unmount d = (r, d')) :
    ∃ items, d'.log = items ++ d.log ∧ ∀ off bs, LogItem.write off bs ∈ items →
      d.fs.fsInfoSector * d.fs.bps ≤ off ∧ off + bs.length ≤ d.fs.fsInfoSector * d.fs.bps + 512 := by
  obtain ⟨_, _, _, items, h1, h2⟩ := unmount_steps.out d r d' hr hfl
  exact ⟨items, h1, fun off bs h => h2 _ h⟩

theorem dropFs_writes_only_fsinfo {d : Dev} (hfl : FlagsClean d.fs) {r d'} (hr : run dropFs d = (r, d')) :
    ∃ items, d'.log = items ++ d.log ∧ ∀ off bs, LogItem.write off bs ∈ items →
      d.fs.fsInfoSector * d.fs.bps ≤ off ∧ off + bs.length ≤ d.fs.fsInfoSector * d.fs.bps + 512 := by
  obtain ⟨_, _, _, items, h1, h2⟩ := dropFs_steps.out d r d' hr hfl
  exact ⟨items, h1, fun off bs h => h2 _ h⟩

/-! ## (4) a whole read-only session

`ROOp` (Proofs/ReadOnlySession.lean) lists the read-only operations of the API (`list`, `openDir`, `openFile`, `seek`,
`read`, `readx`, `readall`, `extents`, `label`, `labelRoot`, `status`, `stats`, `volid`, `fattype`, `dropf`, `dropd`);
`ROInv s`: `update_accessed_date` is off, the status flags are as at mount, every open handle is clean. -/

/-- **C13**: a session of read-only operations run by `Session.step` from a state satisfying `ROInv` leaves the image
    and the write records of the log as they were; the mounted state is unchanged or took the one documented step
    (`stats` cached a missing free count and set the FS-info latch); the invariant still holds afterwards -/
theorem readonly_session_no_write (s : Session) (h : ROInv s) (ops : List ROOp) :
    (s.steps (ops.map ROOp.toApi)).dev.img = s.dev.img ∧
    (s.steps (ops.map ROOp.toApi)).dev.writesOf = s.dev.writesOf ∧
    StatsStep s.dev.fs (s.steps (ops.map ROOp.toApi)).dev.fs ∧
    ROInv (s.steps (ops.map ROOp.toApi)) := by
  have := steps_good ops s h
  exact ⟨this.2.1.1, this.2.1.2, this.2.2, this.1⟩

/-- … and the `unmount` that ends such a session writes, if anything, only inside the FS-info sector -/
theorem readonly_session_then_unmount (s : Session) (h : ROInv s) (ops : List ROOp) {r d'}
    (hr : run unmount (s.steps (ops.map ROOp.toApi)).dev = (r, d')) :
    ∃ items, d'.log = items ++ (s.steps (ops.map ROOp.toApi)).dev.log ∧ ∀ off bs, LogItem.write off bs ∈ items →
      s.dev.fs.fsInfoSector * s.dev.fs.bps ≤ off ∧ off + bs.length ≤ s.dev.fs.fsInfoSector * s.dev.fs.bps + 512 := by
  obtain ⟨_, _, hst, hinv⟩ := readonly_session_no_write s h ops
  have hgeo : (s.steps (ops.map ROOp.toApi)).dev.fs.fsInfoSector = s.dev.fs.fsInfoSector ∧
      (s.steps (ops.map ROOp.toApi)).dev.fs.bps = s.dev.fs.bps := by
    rcases hst with h1 | ⟨_, n, h1⟩ <;> simp [h1]
  have := unmount_writes_only_fsinfo hinv.flags hr
  rw [hgeo.1, hgeo.2] at this
  exact this

/-- without the exception — a free count is cached (`hfree`), so `stats` leaves the mounted state as it is — and from a
    clean mounted state, the final `unmount` writes nothing at all -/
theorem readonly_session_then_unmount_clean (s : Session) (h : ROInv s) (hc : CleanFs s.dev.fs)
    (hfree : s.dev.fs.fsInfo.free ≠ none) (ops : List ROOp) {r d'}
    (hr : run unmount (s.steps (ops.map ROOp.toApi)).dev = (r, d')) :
    SameWrites s.dev d' := by
  obtain ⟨h1, h2, hst, _⟩ := readonly_session_no_write s h ops
  have hfs : (s.steps (ops.map ROOp.toApi)).dev.fs = s.dev.fs := by
    rcases hst with h3 | ⟨h3, _⟩
    · exact h3
    · exact absurd h3 hfree
  have := (unmount_clean_ro (fs0 := s.dev.fs) hc).out _ r d' hfs hr
  exact SameWrites.trans ⟨h1, h2⟩ this.1

/-- how a read-only session starts: a successful `mount` (with `update_accessed_date` off) writes nothing and
    establishes the invariant and a clean mounted state -/
theorem mount_step_establishes (s : Session) (hacc : s.cfgAccDate = false)
    (hfiles : ∀ (f : Nat) (h : FileH), s.files[f]? = some h → CleanFile h)
    (hdirs : ∀ (d : Nat) (h : DirStream), s.dirs[d]? = some h → CleanStream h)
    {vals rows} (hok : (s.step .mount).2 = .ok vals rows) :
    ROInv (s.step .mount).1 ∧ CleanFs (s.step .mount).1.dev.fs ∧
    (s.step .mount).1.dev.img = s.dev.img ∧ (s.step .mount).1.dev.writesOf = s.dev.writesOf := by
  revert hok
  simp only [Session.step]
  split
  · intro hok; cases hok
  split
  · intro hok; cases hok
  refine Session.runOp_cases (Q := fun x => x.2 = .ok vals rows → ROInv x.1 ∧ CleanFs x.1.dev.fs ∧
    x.1.dev.img = s.dev.img ∧ x.1.dev.writesOf = s.dev.writesOf) _ _ _ (fun fs d hr _ => ?_) (fun e d _ hok => ?_)
  · have h1 := (mount_nw (fs0 := s.dev.fs) s.cfgStrict s.cfgAccDate s.cfgAlloc s.cfgUnicode).out
      { s.dev with pos := 0 } _ d rfl hr
    obtain ⟨hfs, hclean, hacc', _⟩ := h1.2 fs rfl
    have hd : d.fs = fs := hfs
    exact ⟨⟨by rw [hd, hacc', hacc], by rw [hd]; exact hclean.flags, hfiles, hdirs⟩, by rw [hd]; exact hclean,
      h1.1.1, h1.1.2⟩
  · rw [Session.fatal_eq] at hok; cases hok

/-! ## the statements are not vacuous -/

namespace C13ex

def fs16 : FsState :=
  { fatType := .fat16, bps := 512, spc := 1, reserved := 1, fats := 1, spf := 1, totalClusters := 5,
    firstDataSector := 2, rootEntries := 16, rootDirSectors := 1 }

def dev16 : Dev := { img := Img.empty 4096, fs := fs16 }

/-- a clean handle on a 100-byte file in cluster 2 -/
def file : FileH :=
  { firstCluster := some 2, entry := some (DirEntryEditor.new { DirFileEntryData.new [] 0 with size := 100 } 1024) }

/-- FAT32 state with the FS-info latch set (as `stats` leaves it), status flags as at mount -/
def fs32 : FsState :=
  { fatType := .fat32, bps := 512, spc := 1, reserved := 32, fats := 1, spf := 1, totalClusters := 5,
    firstDataSector := 33, rootCluster := 2, fsInfoSector := 1,
    fsInfo := { free := some 3, next := some 4, dirty := true } }

def dev32 : Dev := { img := Img.empty 65536, fs := fs32 }

def sess : Session := { dev := dev16, env := ⟨fun c => [c]⟩, mounted := true }

def inFsInfo : LogItem → Bool
  | .write off bs => 512 ≤ off && off + bs.length ≤ 1024
  | .flush => true

end C13ex

/-- the hypotheses of the per-program theorems are satisfiable -/
example : C13ex.fs16.accDate = false ∧ CleanFile C13ex.file ∧ CleanFs C13ex.fs16 ∧ FlagsClean C13ex.fs32 :=
  ⟨rfl, cleanFile_new _ _ _, ⟨rfl, rfl, rfl⟩, ⟨rfl, rfl⟩⟩

/-- a concrete read: 10 bytes are returned through two device calls, nothing is logged -/
example : (run (C13ex.file.read 10) C13ex.dev16).2.log = [] ∧ (run (C13ex.file.read 10) C13ex.dev16).2.calls = 2 := by
  decide

/-- `ROInv` is satisfiable (a mounted session without open handles) -/
example : ROInv C13ex.sess :=
  ⟨rfl, ⟨rfl, rfl⟩, fun f h hf => by simp [C13ex.sess] at hf, fun d h hd => by simp [C13ex.sess] at hd⟩

/-- the exception is real: `stats` on a volume without cached free count sets the latch (and writes nothing) -/
example : (run stats C13ex.dev16).2.fs.fsInfo.dirty = true ∧ (run stats C13ex.dev16).2.log = [] := by
  decide +kernel

/-- … and `unmount` then writes the 7 chunks of the FS-info sector, all inside `[512, 1024)`, and clears the latch -/
example : (run unmount C13ex.dev32).2.log.length = 7 ∧ (run unmount C13ex.dev32).2.log.all C13ex.inFsInfo = true ∧
    (run unmount C13ex.dev32).2.fs.fsInfo.dirty = false := by
  decide +kernel

end FatVerif
