import FatVerif.Proofs.GeoModel
import FatVerif.Props.C07run
import FatVerif.Props.C09
/-! # C12 on the programs: the mount-time status byte survives a whole session

`Geo p` (Proofs/GeoModel.lean): every run of `p`, whatever its outcome, keeps the immutable part of the mounted state
(`SameGeom`: everything but the FS-info cache and the current status flags) — proved for every program of the model by
structural descent (Proofs/SafeIo, SafeFile, SafeDir, SafeFs, GeoModel), without any hypothesis on device, handles or geometry. Hence every API program other than `mount`
keeps `statusRaw`, `bpbDirty`, `bpbIoErr`, `fatType`; combined with `C07run.mount_run_status` and
`unmount_restores_mount_byte` (Props/C12): the byte `unmount` writes back is the byte the image held when it was mounted. -/
namespace FatVerif

theorem apiProg_geo {α : Type} {p : Prog α} (h : ApiProg p) (hnm : NotMount p) : Geo p := (api_safe h).2 hnm

theorem apiProgAll_geo {α : Type} {p : Prog α} (h : ApiProgAll p) (hnm : NotMount p) : Geo p := by
  cases h with
  | base h => exact apiProg_geo h hnm
  | createDir env fuel d path => exact createDir_geo env fuel d path
  | createFile env fuel d path => exact createFile_geo env fuel d path
  | rename env fuel d src d2 dst => exact rename_geo env fuel d src d2 dst

/-- **`geometry_preserved`**: every API program other than `mount` — whatever its arguments and outcome — leaves the
    immutable part of the mounted state as it was -/
theorem geometry_preserved {α : Type} {p : Prog α} (h : ApiProgAll p) (hnm : NotMount p) (d : Dev) {r d'}
    (hr : run p d = (r, d')) : SameGeom d.fs d'.fs :=
  (apiProgAll_geo h hnm).out d r d' hr

/-- … in particular the mount-time status fields -/
theorem mount_time_fields_preserved {α : Type} {p : Prog α} (h : ApiProgAll p) (hnm : NotMount p) (d : Dev) {r d'}
    (hr : run p d = (r, d')) :
    d'.fs.statusRaw = d.fs.statusRaw ∧ d'.fs.bpbDirty = d.fs.bpbDirty ∧ d'.fs.bpbIoErr = d.fs.bpbIoErr ∧
    d'.fs.fatType = d.fs.fatType := by
  have hg := geometry_preserved h hnm d hr
  exact ⟨(hg.proj FsState.statusRaw).symm, (hg.proj FsState.bpbDirty).symm, (hg.proj FsState.bpbIoErr).symm,
    (hg.proj FsState.fatType).symm⟩

/-- any sequence of runs of API programs other than `mount` -/
inductive VolRuns : Dev → Dev → Prop where
  | refl (d : Dev) : VolRuns d d
  | run {α : Type} (p : Prog α) (d : Dev) (r : Except Err α) (d' : Dev) : ApiProgAll p → NotMount p →
      run p d = (r, d') → VolRuns d d'
  | trans {a b c : Dev} : VolRuns a b → VolRuns b c → VolRuns a c

theorem volRuns_geometry {d d' : Dev} (h : VolRuns d d') : SameGeom d.fs d'.fs := by
  induction h with
  | refl d => exact SameGeom.refl _
  | run p d r d' hp hnm hr => exact geometry_preserved hp hnm d hr
  | trans _ _ ih1 ih2 => exact ih1.trans ih2

/-- **`mounted_unmount_restores_status`** (closes F16 on the programs, no frame hypothesis): mount a volume
    successfully; run any sequence of API programs (any arguments, any outcomes, faults included); if `unmount_internal`
    then succeeds and has to write the status byte (the current flags differ from the mount-time ones), the record it
    appends carries exactly the byte the image held at 0x41 / 0x25 when it was mounted — all eight bits -/
theorem mounted_unmount_restores_status (strict accDate lfnAlloc unicode : Bool) {d : Dev} (hd : C07run.Mountable d)
    {fs : FsState} {d1 : Dev} (hrun : run (mount strict accDate lfnAlloc unicode) d = (.ok fs, d1))
    {dl : Dev} (hsess : VolRuns d1 dl) {u : Unit} {d' : Dev} (hu : run unmountInternal dl = (.ok u, d'))
    (hdiff : ¬ (dl.fs.curDirty = dl.fs.bpbDirty ∧ dl.fs.curIoErr = dl.fs.bpbIoErr)) :
    ∃ dm : Dev, run flushFsInfo dl = (.ok (), dm) ∧
      d'.log = .write (statusOff fs) [d.img.getByte (statusOff fs)] :: dm.log := by
  have hfs : d1.fs = fs := (C07run.mount_run_status strict accDate lfnAlloc unicode hd hrun).2.2.2.2.2.2
  have hg := volRuns_geometry hsess
  rw [hfs] at hg
  exact C07run.unmount_restores_mount_byte_run strict accDate lfnAlloc unicode hd hrun dl
    (hg.proj FsState.statusRaw).symm (hg.proj FsState.bpbDirty).symm (hg.proj FsState.bpbIoErr).symm
    (hg.proj FsState.fatType).symm hu hdiff

/-- the hypotheses are satisfiable: the 16 MiB FAT16 example device of `C07run` is mountable, and the empty session is a
    session -/
example : C07run.Mountable C07run.Ex.dev16 ∧ VolRuns C07run.Ex.dev16 C07run.Ex.dev16 :=
  ⟨C07run.Ex.mountable16, VolRuns.refl _⟩

end FatVerif
