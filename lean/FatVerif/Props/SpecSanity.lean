import FatVerif.Model.Basic
import FatVerif.Spec.SpecTest
/-! Kernel-checked sanity facts about the executable specifications on tiny hand-made structures: the predicates are
    not vacuous (they accept what they should and reject what they should), by `decide` / `rfl`; and the specification's
    short-name checksum is the model's, for every input. -/
namespace FatVerif.Spec.Sanity
open FatVerif FatVerif.Spec FatVerif.Spec.Test

/-! ## FAT entries and chains -/

/-- a 6-entry FAT16: media, EOC, 2→3, 3→5, 4 free, 5 EOC -/
def fat16 : List Nat := [0xF8, 0xFF, 0xFF, 0xFF, 0x03, 0x00, 0x05, 0x00, 0x00, 0x00, 0xFF, 0xFF]
def rd16fat (k : Nat) : Nat := fat16.getD k 0
def entry16 (k : Nat) : FatClass := classifyRaw 16 4 (fatEntryRawF 16 rd16fat 0 k)

theorem fat16_entries :
    (List.range 6).map entry16 = [.eoc, .eoc, .next 3, .next 5, .free, .eoc] := by decide

theorem fat16_chain : walkChainF entry16 4 2 = (#[2, 3, 5], .eoc) := by decide

theorem fat16_chain_free : (walkChainF entry16 4 4).2 = .free 4 := by decide

theorem fat16_first_out_of_range : walkChainF entry16 4 6 = (#[], .range 6) := by decide

/-- the same FAT with 5→2: a cycle, detected -/
def entryCyc (k : Nat) : FatClass := if k = 5 then .next 2 else entry16 k
theorem fat16_cycle : (walkChainF entryCyc 4 2).2 = .cycle 3 := by decide

/-- a self-loop -/
theorem self_loop : (walkChainF (fun _ => .next 2) 4 2).2 = .cycle 2 := by decide

/-- FAT12: two entries share the middle byte -/
theorem fat12_pair : fatEntryRawF 12 ([0x23, 0x61, 0x45].getD · 0) 0 0 = 0x123 ∧
                     fatEntryRawF 12 ([0x23, 0x61, 0x45].getD · 0) 0 1 = 0x456 := by decide

/-- FAT32: the top nibble is not part of the value -/
theorem fat32_top_nibble : classifyRaw 32 100 0xF0000000 = .free ∧ classifyRaw 32 100 0xA0000007 = .next 7 ∧
    classifyRaw 32 100 0x1FFFFFF8 = .eoc ∧ classifyRaw 32 100 0x0FFFFFF7 = .bad ∧
    classifyRaw 32 100 1 = .reserved ∧ classifyRaw 32 100 102 = .reserved ∧ classifyRaw 32 100 101 = .next 101 := by
  decide

def fat12Expected (v : Nat) : FatClass :=
  if v = 0 then .free else if v ≥ 0xFF8 then .eoc else if v = 0xFF7 then .bad
  else if 2 ≤ v ∧ v < 2002 then .next v else .reserved

/-- complete classification of all 4096 FAT12 values on a volume with 2000 clusters -/
theorem fat12_classes : (List.range 4096).all (fun v => classifyRaw 12 2000 v == fat12Expected v) = true := by
  rw [List.all_eq_true]
  intro v hv
  rw [List.mem_range] at hv
  -- with mask `0xFFF` and `v` below 4096 the two definitions make the same tests in the same order
  have e : classifyRaw 12 2000 v = fat12Expected v := by
    unfold classifyRaw fat12Expected
    simp only [show fatMask 12 = 4095 from rfl, Nat.reduceAdd, Nat.reduceSub, Nat.mod_eq_of_lt hv]
  rw [e]
  exact beq_self_eq_true _

/-! ## Short-name checksum: the specification's definition agrees with the model's for every input -/

theorem checksum_step (s c : Nat) :
    ((if s % 2 = 1 then 0x80 else 0) + s / 2 + c) % 256 = lfnChecksumStep s c := by
  unfold lfnChecksumStep
  split <;> omega

theorem checksum_fold (l : List Nat) (a : Nat) :
    l.foldl (fun sum c => ((if sum % 2 = 1 then 0x80 else 0) + sum / 2 + c) % 256) a = l.foldl lfnChecksumStep a := by
  induction l generalizing a with
  | nil => rfl
  | cons x xs ih => simp only [List.foldl_cons, checksum_step]

theorem sfnChecksum_eq_model (l : List Nat) : sfnChecksum l = lfnChecksum l := checksum_fold l 0

/-! ## Long-name runs -/

def sfnA : List Nat := name11Of "HELLOW~1TXT"
def nameA : List Nat := asciiUnits "Hello World.txt"        -- 15 units: 2 slots, terminator, 10 × 0xFFFF
def runA : List Slot := mkSlots 0 (genRun nameA sfnA)
def slotA : Slot := { pos := 64, bytes := (sfnSlotBytes sfnA 0x20 0 2 700).toArray }

theorem runA_shape : runA.map Slot.lfnOrd = [0x42, 0x01] ∧ runA.all (fun s => s.bytes.size == 32) = true := by decide

theorem runA_valid : lfnName runA slotA = some nameA := by decide

theorem runA_strict : strictRun runA slotA = none := by decide

/-- a 13-unit name fills its slot exactly: no terminator, no padding, still valid and strictly well-formed -/
def name13 : List Nat := asciiUnits "thirteen_char"
theorem run13_valid : lfnName (mkSlots 0 (genRun name13 sfnA)) slotA = some name13 ∧
    strictRun (mkSlots 0 (genRun name13 sfnA)) slotA = none := by decide

/-- wrong checksum (different short name) → no long name, and the strict check complains -/
def slotB : Slot := { pos := 64, bytes := (sfnSlotBytes (name11Of "HELLOW~2TXT") 0x20 0 2 700).toArray }
theorem runA_wrong_sfn : lfnName runA slotB = none ∧ (strictRun runA slotB).isSome = true := by decide

/-- a run without its first (0x40) slot is not a name -/
theorem runA_truncated : lfnName (runA.drop 1) slotA = none ∧ (strictRun (runA.drop 1) slotA).isSome = true := by
  decide

/-- garbage after the terminator is tolerated by the decoder and rejected by the strict check -/
def runBadPad : List Slot :=
  match runA with
  | s :: rest => { s with bytes := s.bytes.set! 30 0x41 } :: rest
  | [] => []
theorem badPad : lfnName runBadPad slotA = some nameA ∧ (strictRun runBadPad slotA).isSome = true := by decide

/-- directory parsing: run + entry, a deleted slot, an orphan slot, a label, the end marker, and a slot after it -/
def dirSlots : List Slot :=
  mkSlots 1000 (genRun nameA sfnA ++
    [sfnSlotBytes sfnA 0x20 0 2 700,
     0xE5 :: List.replicate 31 0x11,
     lfnSlotBytes 0x41 0 (List.replicate 13 0x41),
     sfnSlotBytes (name11Of "MY LABEL   ") 0x08 0 0 0,
     sfnSlotBytes (name11Of "LOWER   TXT") 0x20 0x18 0 0,
     List.replicate 32 0,
     0x41 :: List.replicate 31 0])

theorem dir_parse :
    (parseDir 12 dirSlots).entries.map (fun e => (e.name, e.shortName, e.size, e.firstCluster, e.slotPos, e.slotCount)) =
      [("Hello World.txt", "HELLOW~1.TXT", 700, 2, 1064, 3), ("lower.txt", "lower.txt", 0, 0, 1192, 1)] := by
  decide

theorem dir_scan : (scanDir dirSlots).orphans.map Slot.pos = #[1128] ∧ (scanDir dirSlots).endPos = some 1224 ∧
    (scanDir dirSlots).afterEnd.map Slot.pos = #[1256] ∧ (scanDir dirSlots).labels.size = 1 := by decide +kernel

/-- short-name display: 0x05 lead byte, OEM byte, case flags -/
theorem short_display : shortDisplay [0x05, 0x41, 0x80, 0x20, 0x20, 0x20, 0x20, 0x20, 0x54, 0x20, 0x20] 0x10 =
    String.ofList [replChar, 'A', replChar, '.', 't'] := by decide

/-! ## Geometry and regions -/

theorem tiny_geom : (parseGeomF (tinyBoot.getD · 0)).toOption = some
    { bps := 512, spc := 1, reserved := 1, fats := 2, rootEntries := 16, totalSectors := 24, spf := 1, fatBits := 12
      rootCluster := 0, fsInfoSector := 0, backupSector := 0, extFlags := 0, media := 0xF8, statusByteOffset := 0x25 } := by
  decide +kernel

def g0 : Geom :=
  { bps := 512, spc := 1, reserved := 1, fats := 2, rootEntries := 16, totalSectors := 24, spf := 1, fatBits := 12
    rootCluster := 0, fsInfoSector := 0, backupSector := 0, extFlags := 0, media := 0xF8, statusByteOffset := 0x25 }

theorem g0_layout : g0.fatStart = 512 ∧ g0.rootStart = 1536 ∧ g0.dataStart = 2048 ∧ g0.totalClusters = 20 ∧
    g0.clusterOff 2 = 2048 ∧ g0.clusterOff 21 = 11776 ∧ g0.volumeBytes = 12288 := by decide

theorem regions_split : classify g0 1000 1100 =
    [(.fat 0, 1000, 24), (.fat 1, 1024, 512), (.rootDir, 1536, 512), (.cluster 2, 2048, 52)] := by decide

theorem regions_boot : (classify g0 0x24 3).map (·.1) = [.bootOther, .bootStatusByte, .bootOther] := by decide

theorem regions_end : (classify g0 12287 2).map (·.1) = [.cluster 21, .beyondVolume] := by decide

end FatVerif.Spec.Sanity
