import FatVerif.Props.C06fat12
import FatVerif.Proofs.StatsRun
import FatVerif.Props.C06root
/-!
# C06 — "all clusters free": `stats` on the freshly formatted and mounted volume

The last clause of C06 ("formatting yields a valid empty volume: … `stats` reports every cluster free") as theorems:

* `format_then_free_count`: after a successful `format_volume` and mount, the number of free entries of the decoded FAT
  of the image (`C03img.imgTable`, the reading of "the on-disk allocation table") is `total_clusters` on
  FAT12/16 and `total_clusters - 1` on FAT32 (the root directory occupies cluster 2); the layout facts `FileSim.Geo`
  hold. FAT32: for volumes whose FAT has no room for the BAD markers (`capacity ≤ 0x0FFFFFF0`, as in
  `C06fat.formatted_fat`).
* `format_then_stats`: `stats` SUCCEEDS and returns `(bytes_per_sector * sectors_per_cluster, total_clusters, free)`
  with that number — on FAT12/16 by the recount over the FAT (`C06vol.run_stats_ok` for success,
  `C05img.stats_img` for the value), on FAT32 from the FS-info sector format wrote (`total - 1`, read by mount) — and
  does not change the image. No hypothesis besides `Formattable` (the FAT32 answer comes from the cache; that it agrees
  with the table is `format_then_free_count`).
* `format_end_to_end`: the whole chain in one statement.
-/
namespace FatVerif.C06stats
open FatVerif FatVerif.Format FatVerif.C06image FatVerif.C06mount FatVerif.C06vol FatVerif.FileSim

/-- the number of free clusters of a freshly formatted volume -/
def freshFree (ft : FatType) (total : Nat) : Nat := if ft = .fat32 then total - 1 else total

section fresh
variable {o : FormatOpts} {d0 d1 : Dev} {strict accDate lfnAlloc unicode : Bool}
  {boot : FBoot} {ft : FatType} {fs : FsState} {d2 : Dev}

/-- the free entries of the image's table after format and mount: all, on FAT32 all but the root directory's -/
theorem fresh_freeCount (h : Formatted o d0 d1 boot ft) (F : Fresh o d0 d1 strict accDate lfnAlloc unicode boot ft fs d2)
    (hcap : ft = .fat32 → boot.bpb.sectorsPerFat * boot.bpb.bps * 8 / 32 ≤ 0x0FFFFFF0) :
    Fat.countFreeV (C03img.imgTable fs d2.img) fs.totalClusters = freshFree ft fs.totalClusters := by
  obtain ⟨hfree, h2⟩ := F.table h hcap
  unfold freshFree
  by_cases h32 : ft = .fat32
  · rw [if_pos h32]
    apply countFreeV_tail_free _ 1
    · intro c hc1 hc2
      exact hfree c (by omega) hc2 (fun _ => by omega)
    · intro c hc1 hc2
      have : c = 2 := by omega
      subst this
      rw [h2 h32]
      exact fun h' => by cases h'
  · rw [if_neg h32]
    apply countFreeV_tail_free _ 0
    · intro c hc1 hc2
      exact hfree c (by omega) hc2 (fun h' => absurd h' h32)
    · intro c hc1 hc2; omega

/-- `stats` on it succeeds with that number: on FAT32 from the cache (the count format wrote, read by mount), on
    FAT12/16 by the recount over the FAT -/
theorem fresh_stats (h : Formatted o d0 d1 boot ft) (F : Fresh o d0 d1 strict accDate lfnAlloc unicode boot ft fs d2) :
    ∃ d3, run stats d2 = (.ok (boot.bpb.bps * boot.bpb.spc, fs.totalClusters, freshFree ft fs.totalClusters), d3) ∧
      d3.img = d2.img := by
  have hcs : fs.clusterSize = boot.bpb.bps * boot.bpb.spc := by
    unfold FsState.clusterSize; rw [F.bps, F.spc]
  by_cases h32 : ft = .fat32
  · refine ⟨d2, ?_, rfl⟩
    unfold stats
    have h0 : run Prog.getFs d2 = (.ok d2.fs, d2) := rfl
    rw [run_bind_ok h0, F.fsEq, (F.info.1 h32).1, ← hcs]
    unfold freshFree
    rw [if_pos h32]
    rfl
  · have hcap : ft = .fat32 → boot.bpb.sectorsPerFat * boot.bpb.bps * 8 / 32 ≤ 0x0FFFFFF0 := fun h' => absurd h' h32
    have hgeo : Geo d2.fs d2.img.size := by rw [F.fsEq]; exact F.geo h hcap
    have hinfo : InfoOk d2.fs d2.img := by
      rw [F.fsEq]
      obtain ⟨hf, hn⟩ := F.info.2 h32
      exact ⟨fun n h' => (by rw [hn] at h'; cases h'), fun n h' => (by rw [hf] at h'; cases h')⟩
    have hwf2 : d2.img.WF := by rw [F.img]; exact h.wf
    obtain ⟨a, b, n, d3, hr⟩ := run_stats_ok d2 F.extra.failAt hwf2 hgeo
    obtain ⟨ha, hb, hn, himg, _⟩ := C05img.stats_img d2 hwf2 hgeo hinfo hr
    refine ⟨d3, ?_, himg⟩
    rw [hr, ha, hb, hn, F.fsEq, fresh_freeCount h F hcap, hcs]

end fresh

/-- **`format_then_free_count`**: format a device and mount it as the next call sees it — the layout facts `Geo` hold and
    the FAT of the image has `freshFree` free entries: every cluster (FAT32: all but the root directory's) -/
theorem format_then_free_count (o : FormatOpts) (d0 d1 : Dev) (hpre : Formattable o d0)
    (hrun : run (formatVolume o) d0 = (.ok (), d1)) (strict accDate lfnAlloc unicode : Bool) :
    ∃ boot ft fs d2, formatChecked o (fmtTotal o d0) = .ok (boot, ft) ∧
      run (mount strict accDate lfnAlloc unicode) (nextOp d1) = (.ok fs, d2) ∧
      ((ft = .fat32 → boot.bpb.sectorsPerFat * boot.bpb.bps * 8 / 32 ≤ 0x0FFFFFF0) →
        Geo fs d2.img.size ∧
        Fat.countFreeV (C03img.imgTable fs d2.img) fs.totalClusters = freshFree ft fs.totalClusters) := by
  obtain ⟨boot, ft, fs, d2, h, F⟩ := fresh_of_run hpre hrun strict accDate lfnAlloc unicode
  exact ⟨boot, ft, fs, d2, F.checked, F.mounted, fun hcap => ⟨F.geo h hcap, fresh_freeCount h F hcap⟩⟩

/-- **`format_then_stats`**: format a device, mount it as the next call sees it, ask for the statistics — the call
    succeeds, reports the cluster size and the cluster count format chose and EVERY cluster free (FAT32: all but the
    root directory's), and leaves the image as it is -/
theorem format_then_stats (o : FormatOpts) (d0 d1 : Dev) (hpre : Formattable o d0)
    (hrun : run (formatVolume o) d0 = (.ok (), d1)) (strict accDate lfnAlloc unicode : Bool) :
    ∃ boot ft fs d2, formatChecked o (fmtTotal o d0) = .ok (boot, ft) ∧
      run (mount strict accDate lfnAlloc unicode) (nextOp d1) = (.ok fs, d2) ∧
      boot.bpb.totalClusters = .ok fs.totalClusters ∧
      ∃ d3, run stats d2 =
          (.ok (boot.bpb.bps * boot.bpb.spc, fs.totalClusters, freshFree ft fs.totalClusters), d3) ∧
        d3.img = d2.img := by
  obtain ⟨boot, ft, fs, d2, h, F⟩ := fresh_of_run hpre hrun strict accDate lfnAlloc unicode
  exact ⟨boot, ft, fs, d2, F.checked, F.mounted, F.tc, fresh_stats h F⟩

/-- **`format_then_sess`**: the freshly formatted and mounted volume is a session state in the sense of
    Proofs/FsInfoImg (`Sess`: fault-free, well-formed image, layout `Geo`, FS-info bookkeeping consistent with the FAT of the
    image — on FAT32 the cached count `total - 1` IS the number of free entries and the hint `3` is in range). So
    `C05img.session_free_count_exact` applies to every session started on a freshly formatted volume. -/
theorem format_then_sess (o : FormatOpts) (d0 d1 : Dev) (hpre : Formattable o d0)
    (hrun : run (formatVolume o) d0 = (.ok (), d1)) (strict accDate lfnAlloc unicode : Bool) :
    ∃ boot ft fs d2, formatChecked o (fmtTotal o d0) = .ok (boot, ft) ∧
      run (mount strict accDate lfnAlloc unicode) (nextOp d1) = (.ok fs, d2) ∧
      ((ft = .fat32 → boot.bpb.sectorsPerFat * boot.bpb.bps * 8 / 32 ≤ 0x0FFFFFF0) → FsInfoImg.Sess d2) := by
  obtain ⟨boot, ft, fs, d2, h, F⟩ := fresh_of_run hpre hrun strict accDate lfnAlloc unicode
  refine ⟨boot, ft, fs, d2, F.checked, F.mounted, fun hcap => ?_⟩
  have hgeo : Geo fs d2.img.size := F.geo h hcap
  have hg := h.geom
  -- on FAT32 the hint is the cluster after the root directory's, `3`; on FAT12/16 there is none
  have hhint : ∀ n, fs.fsInfo.next = some n → ft = .fat32 ∧ n = 3 := by
    intro n hn
    by_cases h32 : ft = .fat32
    · rw [(F.info.1 h32).2, F.rootCluster, (hg.f32 h32).2.2] at hn
      exact ⟨h32, (Option.some.inj hn).symm⟩
    · rw [(F.info.2 h32).2] at hn; cases hn
  refine ⟨F.extra.failAt, by rw [F.img]; exact h.wf, by rw [F.fsEq]; exact hgeo, ⟨?_, ?_⟩, ?_⟩
  all_goals rw [F.fsEq]
  · intro n hn
    have := (hhint n hn).2
    omega
  · intro n hn
    rw [C05img.count_tab_eq hgeo, fresh_freeCount h F hcap]
    by_cases h32 : ft = .fat32
    · rw [(F.info.1 h32).1] at hn
      unfold freshFree; rw [if_pos h32]; exact (Option.some.inj hn).symm
    · rw [(F.info.2 h32).1] at hn; cases hn
  · intro n hn
    obtain ⟨h32, rfl⟩ := hhint n hn
    have := hg.tc32 h32 F.tc
    omega

/-- **C06 end to end**: on a device that meets `Formattable`, a successful `format_volume` leaves a device that
    (1) mounts — for every strictness and option setting — with the geometry format chose, as a clean volume;
    (2) whose root directory lists as empty, without any write;
    (3) on which `stats` succeeds and reports every cluster free (FAT32: all but the root directory's cluster);
    (4) whose on-disk table has exactly that many free entries.
    (2) and (4) on FAT32 for volumes whose FAT has no room for the BAD markers (`capacity ≤ 0x0FFFFFF0`). -/
theorem format_end_to_end (o : FormatOpts) (d0 d1 : Dev) (hpre : Formattable o d0)
    (hrun : run (formatVolume o) d0 = (.ok (), d1)) (strict accDate lfnAlloc unicode : Bool) :
    ∃ boot ft fs d2, formatChecked o (fmtTotal o d0) = .ok (boot, ft) ∧
      run (mount strict accDate lfnAlloc unicode) (nextOp d1) = (.ok fs, d2) ∧
      d2.fs = fs ∧ d2.img = d1.img ∧ fs.fatType = ft ∧ boot.bpb.totalClusters = .ok fs.totalClusters ∧
      fs.curDirty = false ∧ fs.curIoErr = false ∧
      (∃ d3, run stats d2 =
          (.ok (boot.bpb.bps * boot.bpb.spc, fs.totalClusters, freshFree ft fs.totalClusters), d3) ∧
        d3.img = d2.img) ∧
      ((ft = .fat32 → boot.bpb.sectorsPerFat * boot.bpb.bps * 8 / 32 ≤ 0x0FFFFFF0) →
        (∃ d3, run (listDir (rootDirStream fs)) d2 = (.ok [], d3) ∧ d3.img = d2.img ∧ d3.writesOf = d2.writesOf) ∧
        Fat.countFreeV (C03img.imgTable fs d2.img) fs.totalClusters = freshFree ft fs.totalClusters) := by
  obtain ⟨boot, ft, fs, d2, h, F⟩ := fresh_of_run hpre hrun strict accDate lfnAlloc unicode
  refine ⟨boot, ft, fs, d2, F.checked, F.mounted, F.fsEq, F.img, F.fatType, F.tc, F.curDirty, F.curIoErr,
    fresh_stats h F, fun hcap => ⟨C06root.list_root_empty h F hcap, fresh_freeCount h F hcap⟩⟩

/-! ## non-vacuity -/

set_option maxRecDepth 100000 in
/-- on the concrete FAT16 device of `C06image.Ex` (`Formattable`: `C06mount.ex_formattable`; the run succeeds, `Ex.run16_ok`) the theorems apply: the strict mount of the formatted device answers `stats` with all clusters free and
    lists an empty root directory (the volume label is skipped) -/
example : ∃ fs d2 d3 d4 cs total,
    run (mount true false true true) (nextOp (run (formatVolume Ex.o16) Ex.d16).2) = (.ok fs, d2) ∧
    run stats d2 = (.ok (cs, total, total), d3) ∧ run (listDir (rootDirStream fs)) d2 = (.ok [], d4) := by
  obtain ⟨boot, ft, fs, d2, hc, hm, _, _, _, _, _, _, ⟨d3, hs, _⟩, hrest⟩ :=
    format_end_to_end Ex.o16 Ex.d16 _ ex_formattable Ex.run16_ok true false true true
  have hft : ft = .fat16 := formatChecked_asked ex_formattable.acc ex_formattable.tot hc rfl
  subst hft
  obtain ⟨⟨d4, hl, _⟩, _⟩ := hrest (fun h => by cases h)
  exact ⟨fs, d2, d3, d4, _, fs.totalClusters, hm, hs, hl⟩

set_option maxRecDepth 100000 in
/-- … and on the FAT12 device of `C06image.Ex` (343 sectors, no label; `C06fat12.ex_formattable12`): here `stats` walks
    the packed 12-bit entries (`Table.countFree12Loop`) -/
example : ∃ fs d2 d3 d4 cs total,
    run (mount false false true true) (nextOp (run (formatVolume Ex.o12) Ex.d12).2) = (.ok fs, d2) ∧
    fs.fatType = .fat12 ∧
    run stats d2 = (.ok (cs, total, total), d3) ∧ run (listDir (rootDirStream fs)) d2 = (.ok [], d4) := by
  obtain ⟨boot, ft, fs, d2, hc, hm, _, _, hfs, _, _, _, ⟨d3, hs, _⟩, hrest⟩ :=
    format_end_to_end Ex.o12 Ex.d12 _ C06fat12.ex_formattable12 Ex.run12_ok false false true true
  have hft : ft = .fat12 := by
    have h1 : ((formatChecked Ex.o12 343).toOption.map (·.2)) = some .fat12 := by decide +kernel
    have h3 : fmtTotal Ex.o12 Ex.d12 = 343 := rfl
    rw [h3] at hc; rw [hc] at h1
    simpa [Except.toOption] using h1
  subst hft
  obtain ⟨⟨d4, hl, _⟩, _⟩ := hrest (fun h => by cases h)
  exact ⟨fs, d2, d3, d4, _, fs.totalClusters, hm, hfs, hs, hl⟩

end FatVerif.C06stats
