import FatVerif.Props.C05img
/-! Non-vacuity of `unmount_fsinfo_img` / `session_free_count_exact` on the FAT32 miniature of `C05img.Ex`: the run
    `stats; alloc_cluster(None); unmount`. -/
namespace FatVerif.C05img.Ex
open FatVerif FatVerif.Fat FatVerif.FileSim FatVerif.FsInfoImg

/-- `unmount_fsinfo_img` at a session state on the geometry of `fs32` whose cache says 1 free, hint 5. (For a variable
    `d`: with the concrete run in its place the kernel, comparing terms that mention it, would evaluate it.) -/
theorem unmount32 (d : Dev) (hs : Sess d) (hg : FsGeomEq fs32 d.fs) (hi : d.fs.fsInfo = ⟨some 1, some 5, true⟩)
    (hu : (run unmount d).1 = .ok ()) :
    FsInfo.deserialize ((run unmount d).2.img.read 1024 512) =
      .ok { freeClusterCount := some 1, nextFreeCluster := some 5, dirty := false } := by
  have h := unmount_fsinfo_img d hs
  rw [show d.fs = _ from hg, hi] at h
  exact ((h (.inl place32.1) (.inr place32.2) (run_of_fst hu)).1 ⟨rfl, rfl⟩).1

/-- after `unmount` the FS-info sector of the image deserialises to count 1 — the number of free entries of the image's
    table — and hint 5 ∈ [2, total+1]: the state after `stats; alloc_cluster(None)` is a session state (`reach2`) with
    that cache (`session_dev`). Evaluating the 512-byte write and the read back instead takes the kernel minutes. -/
example : FsInfo.deserialize (devEnd.img.read 1024 512) =
    .ok { freeClusterCount := some 1, nextFreeCluster := some 5, dirty := false } := by
  obtain ⟨hs, hg⟩ := sess_reach sess32 reach2
  rw [devEnd]
  exact unmount32 _ hs hg session_dev.2.1.2 session_dev.2.2

end FatVerif.C05img.Ex
