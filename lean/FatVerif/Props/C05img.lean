import FatVerif.Proofs.FsInfoImg
import FatVerif.Proofs.FatImgAllocLog
import FatVerif.Props.C03img
import FatVerif.Props.C07run
import FatVerif.Proofs.RunFn
/-!
# C05 end-to-end at image level

"The free-cluster count reported by the statistics call always equals the number of free entries in the on-disk
allocation table, and on FAT32 the information sector written at unmount carries that same count and an in-range
next-free hint. Removing or truncating a file gives back all of its clusters."

* the free-entry count of the image: `countFreeV (imgTable fs img) fs.totalClusters` (`imgTable` of `Props/C03img`:
  the decoded FAT of the image, clipped to the FAT window); `count_tab_eq` says it is also the count over
  `FileSim.tabView` (Proofs/FileSimIter; same entries `[2,total+2)`), on which the preservation lemmas of `Proofs/FileSimFatAlloc/Free` are stated;
* `InfoOk2 fs img` (Proofs/FsInfoImg): hint in `[2, total+2]`, cached count (if any) = that count. "Count unknown" is
  the special case `fs.fsInfo.free = none`;
* `Sess d`: fault-free device, well-formed page table, layout `Geo`, `InfoOk2`.
-/
namespace FatVerif.C05img
open FatVerif FatVerif.Fat FatVerif.FileSim FatVerif.FsInfoImg FatVerif.C03img FatVerif.C07run

/-- the two readings of "the number of free entries of the image's table" coincide -/
theorem count_tab_eq {fs : FsState} {sz : Nat} (g : Geo fs sz) (img : Img) :
    countFreeV (tabView fs img) fs.totalClusters = countFreeV (imgTable fs img) fs.totalClusters :=
  countFreeV_congr _ _ _ (fun i _ h2 => by rw [tabView_eq_view g img h2]; rfl)

/-! ## (1) stats -/

/-- **stats_img.** On a mounted volume whose bookkeeping is consistent (`InfoOk`; includes "count unknown"), a
    successful `stats` returns `(cluster_size, total_clusters, n)` with `n` = the number of free entries of the image's
    table — read from the cache, or computed by the recount program `count_free_clusters` over the FAT slice
    (`countFree_img`) —, leaves the image as it is, and leaves `some n` in the cache (so `InfoOk` holds from then on,
    `sess_stats`). No fault hypothesis: success is the hypothesis. -/
theorem stats_img (d : Dev) (hwf : d.img.WF) (hg : Geo d.fs d.img.size) (hinfo : InfoOk d.fs d.img)
    {a b n : Nat} {d' : Dev} (hr : run stats d = (.ok (a, b, n), d')) :
    a = d.fs.clusterSize ∧ b = d.fs.totalClusters ∧
    n = countFreeV (imgTable d.fs d.img) d.fs.totalClusters ∧
    d'.img = d.img ∧ d'.fs.fsInfo.free = some n ∧ d'.fs.fsInfo.next = d.fs.fsInfo.next ∧
    d'.fs = { d.fs with fsInfo := d'.fs.fsInfo } := by
  obtain ⟨h1, h2, h3, h4, h5, h6, h7, _⟩ := FsInfoImg.stats_img d hwf hg hinfo hr
  exact ⟨h1, h2, by rw [h3, count_tab_eq hg], h4, h6, h7, h5⟩

/-! ## (2) mount -/

/-- **mount_infoOk.** After a successful mount (fault-free device, FS-info sector inside the device):
    * the image is untouched;
    * a cached count exists only on a FAT32 volume that is not marked dirty and only if the stored count is
      `≤ total_clusters` (dirty volume / FAT12/16 / out-of-range count → unknown);
    * the hint, if any, is in `[2, total_clusters + 2]`;
    * hence `InfoOk2` holds provided a count that survived these filters is correct (`hcount` — the library documents
      that a wrong foreign FS-info count is reported as is; cf. `C05count.mount_establishes`). -/
theorem mount_infoOk (strict accDate lfnAlloc unicode : Bool) {d : Dev} (hd : Mountable d) (hfi : FsInfoInside strict d)
    {fs : FsState} {d' : Dev} (hrun : run (mount strict accDate lfnAlloc unicode) d = (.ok fs, d')) :
    d'.img = d.img ∧
    (∀ n, fs.fsInfo.free = some n → n ≤ fs.totalClusters ∧ fs.bpbDirty = false ∧ fs.fatType = .fat32) ∧
    (fs.bpbDirty = true → fs.fsInfo.free = none) ∧
    (fs.fatType ≠ .fat32 → fs.fsInfo.free = none ∧ fs.fsInfo.next = none) ∧
    (∀ n, fs.fsInfo.next = some n → 2 ≤ n ∧ n ≤ fs.totalClusters + 2) ∧
    ((∀ n, fs.fsInfo.free = some n → n = countFreeV (tabView fs d.img) fs.totalClusters) → InfoOk2 fs d'.img) := by
  obtain ⟨h1, h2, h3⟩ := mount_run_fsinfo strict accDate lfnAlloc unicode hd hfi hrun
  have himg := (mount_run_writes_nothing strict accDate lfnAlloc unicode d hrun).1
  refine ⟨himg, ?_, ?_, h3, h2, ?_⟩
  · intro n hn
    refine ⟨(h1 n hn).1, (h1 n hn).2, ?_⟩
    apply Classical.byContradiction
    intro hne
    rw [(h3 hne).1] at hn; cases hn
  · intro hdirty
    cases hf : fs.fsInfo.free with
    | none => rfl
    | some n => have := (h1 n hf).2; rw [hdirty] at this; cases this
  · intro hcount
    exact ⟨⟨fun n hn => (h2 n hn).1, fun n hn => by rw [himg]; exact hcount n hn⟩, fun n hn => (h2 n hn).2⟩

/-! ## (3) unmount -/

theorem countFreeV_le (g : Nat → FatValue) (total : Nat) : countFreeV g total ≤ total := by
  unfold countFreeV
  have := List.countP_le_length (p := fun i => decide (g (i + 2) = .free)) (l := List.range total)
  simpa using this

/-- **unmount_fsinfo_img.** After a successful `unmount` from a session state (`InfoOk2`) of a FAT32 volume with a dirty
    FS-info, the FS-info sector of the image deserialises (`FsInfoSector::deserialize`) to exactly the cached values:
    the count — if known — is the number of free entries of the image's table, the hint — if any — is in
    `[2, total+2]` (in `[2, total+1]` after any alloc of the session: `session_hint_exact`). When the FS-info is not
    dirty, or the volume is FAT12/16, no byte other than the status byte changes. (`hso`: the status byte does not lie in
    the FS-info sector; `hdis`: the FS-info sector does not overlap the FAT window — it lies in the reserved area.) -/
theorem unmount_fsinfo_img (d : Dev) (hs : Sess d)
    (hso : statusOff d.fs + 1 ≤ d.fs.fsInfoSector * d.fs.bps ∨ d.fs.fsInfoSector * d.fs.bps + 512 ≤ statusOff d.fs)
    (hdis : d.fs.fsInfoSector * d.fs.bps + 512 ≤ (fatSliceOf d.fs).beginOff ∨
      (fatSliceOf d.fs).beginOff + (fatSliceOf d.fs).size ≤ d.fs.fsInfoSector * d.fs.bps)
    {u : Unit} {d' : Dev} (hr : run unmount d = (.ok u, d')) :
    ((d.fs.fatType = .fat32 ∧ d.fs.fsInfo.dirty = true) →
      FsInfo.deserialize (d'.img.read (d.fs.fsInfoSector * d.fs.bps) 512) =
        .ok { freeClusterCount := d.fs.fsInfo.free, nextFreeCluster := d.fs.fsInfo.next, dirty := false } ∧
      (∀ n, d.fs.fsInfo.free = some n → n = countFreeV (imgTable d.fs d.img) d.fs.totalClusters) ∧
      (∀ h, d.fs.fsInfo.next = some h → 2 ≤ h ∧ h ≤ d.fs.totalClusters + 2) ∧
      imgTable d.fs d'.img = imgTable d.fs d.img) ∧
    (¬ (d.fs.fatType = .fat32 ∧ d.fs.fsInfo.dirty = true) →
      ∀ q, q ≠ statusOff d.fs → d'.img.getByte q = d.img.getByte q) := by
  obtain ⟨_, hb⟩ := unmount_img d hs.wf hr
  refine ⟨fun hc => ?_, fun hc q hq => by rw [hb q hq, afterFlush_none hc]⟩
  have hsmall := hs.geo.small
  have hbm : badMark d.fs.fatType ≤ 268435447 := by cases d.fs.fatType <;> decide
  have hcnt : ∀ n, d.fs.fsInfo.free = some n → n = countFreeV (imgTable d.fs d.img) d.fs.totalClusters :=
    fun n hn => by rw [← count_tab_eq hs.geo]; exact hs.info.ok.count n hn
  refine ⟨?_, hcnt, fun h hh => ⟨hs.info.ok.hint h hh, hs.info.hintLe h hh⟩, ?_⟩
  · rw [read_afterFlush hc hso hb]
    apply fsInfo_roundtrip
    · intro a ha
      have := hcnt a ha
      have := countFreeV_le (imgTable d.fs d.img) d.fs.totalClusters
      omega
    · intro n hn
      have := hs.info.hintLe n hn
      exact ⟨hs.info.ok.hint n hn, by omega⟩
  · -- the FAT window is disjoint from the FS-info sector (`hdis`) and from the status byte (`Geo.status_lt`)
    unfold imgTable imgFatBytes
    rw [fatBytes_congr _ _ d.img d'.img]
    intro i hi
    have hst := hs.geo.status_lt
    have hso' : statusOff d.fs < 0x42 := by unfold statusOff; split <;> decide
    rw [hb _ (by omega), afterFlush_outside (by omega)]

/-! ## (4) `alloc_cluster(prev, zero)` end to end -/

/-- **alloc_cluster_img.** `FileSystem::alloc_cluster(prev, zero)` — `zero = true` is the call that grows a directory —
    on a session state (`Sess d`: fault-free device, well-formed image, layout, consistent bookkeeping), the volume marked
    dirty or not, `prev` an allocated cluster of the table:

    * if the table has no free entry the call fails with `NotEnoughSpace` and nothing at all changes (`SameStore`);
    * otherwise it succeeds, returns the cluster `c` the search of the decoded table finds (`allocFindV`: first free
      entry from the hint, wrapping once), and afterwards
      - the session facts hold again; the mounted state is the old one, marked dirty, with the cached count decremented,
        the hint `c + 1` (wrapped to 2 at the end of the table) and the FS-info dirty latch set;
      - the decoded table is `allocLinkV g prev c` (`c := EOC`, then `prev := Data c`);
      - `zero = true`: every byte of cluster `c` is zero;
      - every byte from 0x42 on outside the FAT copies and — `zero = true` — outside cluster `c` is unchanged;
      - if the volume was not marked dirty the status byte of the image now carries the dirty encoding;
      - the write records: up to an intermediate device `d1` a sequence of mirrored FAT writes (`MirroredSeq`: each one
        the same bytes at the same relative offset of every copy, copy 0 first) whose first new record is the status
        record if the volume was not marked dirty and which contains no status record if it was; after `d1` nothing
        (`zero = false`) or exactly the records tiling cluster `c` with zeros (`Pieces`, in device order). -/
theorem alloc_cluster_img (d : Dev) (hs : Sess d) (prev : Option Nat) (zero : Bool)
    (hp : ∀ p, prev = some p → 2 ≤ p ∧ p < d.fs.totalClusters + 2 ∧ tabView d.fs d.img p ≠ .free) :
    ((∀ i, 2 ≤ i → i < d.fs.totalClusters + 2 → tabView d.fs d.img i ≠ .free) ∧
      ∃ d', run (allocClusterFs prev zero) d = (.error .noSpace, d') ∧ SameStore d d') ∨
    (∃ c d', allocFindV (tabView d.fs d.img) d.fs.fsInfo.next d.fs.totalClusters = some c ∧
      2 ≤ c ∧ c < d.fs.totalClusters + 2 ∧ tabView d.fs d.img c = .free ∧
      run (allocClusterFs prev zero) d = (.ok c, d') ∧ Sess d' ∧
      d'.fs = { markedFs d.fs with fsInfo := ({ d.fs.fsInfo with
        next := some (hintAfter d.fs.totalClusters c), dirty := true }).mapFree (· - 1) } ∧
      tabView d'.fs d'.img = allocLinkV (tabView d.fs d.img) prev c ∧
      (zero = true → ∀ q, clusterOff d.fs c ≤ q → q < clusterOff d.fs c + d.fs.clusterSize → d'.img.getByte q = 0) ∧
      (∀ q, 0x42 ≤ q → OutsideFat d.fs q →
        (zero = true → ¬ (clusterOff d.fs c ≤ q ∧ q < clusterOff d.fs c + d.fs.clusterSize)) →
        d'.img.getByte q = d.img.getByte q) ∧
      (d.fs.curDirty = false → d'.img.getByte (statusOff d.fs) = statusByte d.fs true) ∧
      ∃ d1, MirroredSeq (fatSliceOf d.fs) d d1 ∧
        (d.fs.curDirty = false → ∃ l, d1.writesOf = l ++ statusWrite d.fs true :: d.writesOf ∧
          ∀ off b, LogItem.write off b ∈ l → (fatSliceOf d.fs).beginOff ≤ off) ∧
        (d.fs.curDirty = true → ∃ l, d1.writesOf = l ++ d.writesOf ∧
          ∀ off b, LogItem.write off b ∈ l → (fatSliceOf d.fs).beginOff ≤ off) ∧
        (zero = false → d'.log = d1.log) ∧
        (zero = true → ∃ items, d'.log = items.reverse ++ d1.log ∧
          Pieces (clusterOff d.fs c) (List.replicate d.fs.clusterSize 0) items)) := by
  rcases run_allocClusterFs_any prev zero d hs.nofault hs.wf hs.geo hs.info.ok hp with
    ⟨hnone, dx, hx, hsame⟩ | ⟨c, d', hfind, hr, hst, hfs, htv, _, hz, hfr⟩
  · exact Or.inl ⟨allocFindV_none _ _ _ hnone, dx, hx, hsame⟩
  · right
    obtain ⟨hc2, hct, hcf⟩ := allocFindV_some _ _ _ _ hs.info.ok.hint hfind
    obtain ⟨hs', hcd', _⟩ := sess_alloc hs prev zero hp hr
    have hg := hs.geo
    obtain ⟨d1, hms, hcd1, hz0, hz1⟩ := allocClusterFs_log prev zero d hg.mirrors_pos hg.fats_dev hr
    refine ⟨c, d', hfind, hc2, hct, hcf, hr, hs', hfs, htv, hz, hfr,
      fun hcl => allocClusterFs_status_byte prev zero d hs.wf hg hcl hr hcd', d1, hms, ?_, ?_, hz0, hz1⟩
    · intro hcl
      exact mirroredSeq_status_first hms (fatSliceOf_viaFs _) hcl (by rw [← hcd1]; exact hcd')
    · intro hdirty
      exact (mirroredSeq_of_dirty hms hdirty).2

/-! ## (5) sessions -/

/-- one FsState-level operation of a session, run successfully, under the conditions its callers in `file.rs`/`dir.rs`
    establish: `alloc_cluster(prev, zero)` (`zero = true`: directory growth) with `prev` an allocated cluster of the
    table; `free_cluster_chain(n)` / `truncate_cluster_chain(n)` on the duplicate-free chain of allocated clusters
    starting at `n`; `stats`. The volume may or may not be marked dirty when a modifying operation starts
    (`FsIoAdapter` marks it before the first modifying write). -/
inductive Step : Dev → Dev → Prop
  | alloc {d d' : Dev} (prev : Option Nat) (zero : Bool) (c : Nat)
      (hp : ∀ p, prev = some p → 2 ≤ p ∧ p < d.fs.totalClusters + 2 ∧ tabView d.fs d.img p ≠ .free)
      (hr : run (allocClusterFs prev zero) d = (.ok c, d')) : Step d d'
  | free {d d' : Dev} (n : Nat) (cs : List Nat)
      (hch : Chain (tabView d.fs d.img) n cs) (hnd : cs.Nodup)
      (hin : ∀ x ∈ cs, 2 ≤ x ∧ x < d.fs.totalClusters + 2 ∧ tabView d.fs d.img x ≠ .free)
      (hr : run (freeClusterChain n) d = (.ok (), d')) : Step d d'
  | truncate {d d' : Dev} (cur : Nat) (t : List Nat)
      (hch : Chain (tabView d.fs d.img) cur (cur :: t)) (hnd : (cur :: t).Nodup)
      (hin : ∀ x ∈ cur :: t, 2 ≤ x ∧ x < d.fs.totalClusters + 2 ∧ tabView d.fs d.img x ≠ .free)
      (hr : run (truncateClusterChain cur) d = (.ok (), d')) : Step d d'
  | stats {d d' : Dev} (a b n : Nat) (hr : run stats d = (.ok (a, b, n), d')) : Step d d'

/-- any sequence of such operations -/
inductive Reach : Dev → Dev → Prop
  | refl (d : Dev) : Reach d d
  | step {a b c : Dev} : Reach a b → Step b c → Reach a c

/-- a step keeps the session facts, the geometry and the dirty mark (`stats` does not change it, the others set it); it
    leaves the hint alone or (alloc) sets it to a valid cluster -/
theorem sess_step {d d' : Dev} (hs : Sess d) (h : Step d d') :
    Sess d' ∧ FsGeomEq d.fs d'.fs ∧ (d.fs.curDirty = true → d'.fs.curDirty = true) ∧
    (d'.fs.fsInfo.next = d.fs.fsInfo.next ∨
      ∃ n, d'.fs.fsInfo.next = some n ∧ 2 ≤ n ∧ n ≤ d.fs.totalClusters + 1) := by
  cases h with
  | alloc prev zero c hp hr =>
    obtain ⟨h1, hcd, hg, hn⟩ := sess_alloc hs prev zero hp hr
    exact ⟨h1, hg, fun _ => hcd, .inr hn⟩
  | free n cs hch hnd hin hr =>
    obtain ⟨_, h0, hfs, _, hinfo', hst⟩ :=
      run_freeClusterChain_fine n cs d hs.nofault hs.wf hs.geo hs.info.ok hch hnd hin
    cases hr.symm.trans h0
    obtain ⟨h1, hcd, hg, hn⟩ := hs.of_devStep hst.step hfs hinfo' (.inl (mapFree_next _ _))
    exact ⟨h1, hg, fun _ => hcd, hn⟩
  | truncate cur t hch hnd hin hr =>
    obtain ⟨_, h0, hfs, _, hinfo', hst⟩ :=
      run_truncateClusterChain_fine cur t d hs.nofault hs.wf hs.geo hs.info.ok hch hnd hin
    cases hr.symm.trans h0
    obtain ⟨h1, hcd, hg, hn⟩ := hs.of_devStep hst.step hfs hinfo' (.inl (mapFree_next _ _))
    exact ⟨h1, hg, fun _ => hcd, hn⟩
  | stats a b n hr =>
    obtain ⟨h1, _, _, hg, hcd, _, hn⟩ := sess_stats hs hr
    exact ⟨h1, hg, hcd.trans, .inl hn⟩

theorem sess_reach {d0 d : Dev} (hs : Sess d0) (h : Reach d0 d) : Sess d ∧ FsGeomEq d0.fs d.fs := by
  induction h with
  | refl => exact ⟨hs, .refl _⟩
  | step _ hst ih => exact ⟨(sess_step ih.1 hst).1, ih.2.trans (sess_step ih.1 hst).2.1⟩

/-- a modifying step leaves the volume marked dirty; `stats` does not change the mark -/
theorem dirty_step {d d' : Dev} (hs : Sess d) (h : Step d d') : d.fs.curDirty = true → d'.fs.curDirty = true :=
  (sess_step hs h).2.2.1

/-- the hint names a valid cluster -/
def HintStrict (d : Dev) : Prop := ∀ h, d.fs.fsInfo.next = some h → 2 ≤ h ∧ h ≤ d.fs.totalClusters + 1

/-- a hint that is there and names a valid cluster stays so -/
theorem hint_step {d d' : Dev} (hs : Sess d) (h : Step d d') (hh : HintStrict d ∧ d.fs.fsInfo.next.isSome = true) :
    HintStrict d' ∧ d'.fs.fsInfo.next.isSome = true := by
  obtain ⟨_, hg, _, hn | ⟨n, hn, hb⟩⟩ := sess_step hs h
  · rw [HintStrict, hn, hg.totalClusters]; exact hh
  · rw [HintStrict, hn, hg.totalClusters]; exact ⟨fun y hy => by cases hy; exact hb, rfl⟩

/-- **session_free_count_exact.** From a mounted state with consistent bookkeeping (`Sess d0`: `InfoOk2`, which includes
    "count unknown"; the volume marked dirty or not), along ANY sequence of successful `alloc_cluster(prev, zero)` —
    file growth and directory growth — / `free_cluster_chain` / `truncate_cluster_chain` / `stats` operations (each
    invoked as its callers do):
    * the session facts hold in every state reached;
    * every `stats` answer there is the number of free entries of the image's table AT THAT MOMENT;
    * a final successful `unmount` of a FAT32 volume with dirty FS-info leaves an FS-info sector that deserialises to the
      cached count — if known (it is after any `stats`): exactly that number — and a hint in `[2, total+2]`. -/
theorem session_free_count_exact {d0 d : Dev} (hs0 : Sess d0) (hreach : Reach d0 d) :
    Sess d ∧
    (∀ a b n d', run stats d = (.ok (a, b, n), d') →
      n = countFreeV (imgTable d.fs d.img) d.fs.totalClusters ∧ d'.img = d.img) ∧
    (∀ u d', d.fs.fatType = .fat32 → d.fs.fsInfo.dirty = true →
      (statusOff d.fs + 1 ≤ d.fs.fsInfoSector * d.fs.bps ∨ d.fs.fsInfoSector * d.fs.bps + 512 ≤ statusOff d.fs) →
      (d.fs.fsInfoSector * d.fs.bps + 512 ≤ (fatSliceOf d.fs).beginOff ∨
        (fatSliceOf d.fs).beginOff + (fatSliceOf d.fs).size ≤ d.fs.fsInfoSector * d.fs.bps) →
      run unmount d = (.ok u, d') →
      ∃ fi, FsInfo.deserialize (d'.img.read (d.fs.fsInfoSector * d.fs.bps) 512) = .ok fi ∧
        (∀ n, fi.freeClusterCount = some n → n = countFreeV (imgTable d.fs d'.img) d.fs.totalClusters) ∧
        (∀ h, fi.nextFreeCluster = some h → 2 ≤ h ∧ h ≤ d.fs.totalClusters + 2) ∧
        fi.freeClusterCount = d.fs.fsInfo.free ∧ fi.nextFreeCluster = d.fs.fsInfo.next) := by
  have hs := (sess_reach hs0 hreach).1
  refine ⟨hs, ?_, ?_⟩
  · intro a b n d' hr
    obtain ⟨_, hn, himg, _⟩ := sess_stats hs hr
    exact ⟨by rw [hn, count_tab_eq hs.geo], himg⟩
  · intro u d' hft hdirty hso hdis hr
    obtain ⟨hyes, _⟩ := unmount_fsinfo_img d hs hso hdis hr
    obtain ⟨h1, h2, h3, h4⟩ := hyes ⟨hft, hdirty⟩
    exact ⟨_, h1, fun n hn => by rw [h4]; exact h2 n hn, h3, rfl, rfl⟩

/-- … and if at least one `alloc_cluster` happened in the session, the hint written names a valid cluster,
    `2 ≤ h ≤ total+1` (F13 repaired) -/
theorem session_hint_exact {d0 d1 d : Dev} (hs0 : Sess d0) (prev : Option Nat) (zero : Bool) (c : Nat)
    (hp : ∀ p, prev = some p → 2 ≤ p ∧ p < d0.fs.totalClusters + 2 ∧ tabView d0.fs d0.img p ≠ .free)
    (hr : run (allocClusterFs prev zero) d0 = (.ok c, d1)) (hreach : Reach d1 d) :
    HintStrict d ∧ d.fs.fsInfo.next.isSome = true := by
  obtain ⟨hs1, _, hg, n, hx, hb⟩ := sess_alloc hs0 prev zero hp hr
  have h1 : HintStrict d1 ∧ d1.fs.fsInfo.next.isSome = true := by
    rw [HintStrict, hx, hg.totalClusters]; exact ⟨fun y hy => by cases hy; exact hb, rfl⟩
  clear hx
  induction hreach with
  | refl => exact h1
  | step hr' hst ih => exact hint_step (sess_reach hs1 hr').1 hst ih

/-! ## the statements are not vacuous -/

namespace Ex

/-- a FAT32 miniature (kept tiny so that the kernel can evaluate runs): 64-byte sectors, two reserved sectors, two
    mirrored FAT copies of one sector (16 entries) at bytes 128 and 192, 6 data clusters from byte 256, the FS-info
    sector at byte 1024, a 2 KiB device; already marked dirty (`devZ` below: not marked), nothing cached -/
def fs32 : FsState :=
  { fatType := .fat32, bps := 64, spc := 1, reserved := 2, fats := 2, spf := 1, totalClusters := 6,
    firstDataSector := 4, fsInfoSector := 16, curDirty := true, bpbDirty := false }

/-- chains 2→3 and 5→7, clusters 4 and 6 free (entry 1 carries reserved top bits) -/
def tab32 : List Nat :=
  [0xF8, 0xFF, 0xFF, 0x0F, 0xFF, 0xFF, 0xFF, 0xFF, 3, 0, 0, 0, 0xFF, 0xFF, 0xFF, 0x0F,
   0, 0, 0, 0, 7, 0, 0, 0, 0, 0, 0, 0xA0, 0xFF, 0xFF, 0xFF, 0x0F]

def img0 : Img := ((Img.empty 2048).write 128 tab32).write 192 tab32
def dev : Dev := { img := img0, fs := fs32 }

/-- the device after `stats`, one `alloc_cluster(None)` and `unmount` -/
def devEnd : Dev := (run unmount (run (allocClusterFs none false) (run stats dev).2).2).2

/-- `dev` by its bytes: the two copies of the table over zeros -/
def sdev : SDev := ⟨DirSim.putBytes (DirSim.putBytes (fun _ => 0) 128 tab32) 192 tab32, dev.strip⟩

theorem agree_dev : sdev.Agree dev :=
  ((SDev.Agree.empty 2048 { img := Img.empty 2048, fs := fs32 } rfl).write 128 tab32).write 192 tab32

/-- the results of the three calls and the cache after the first two, evaluated through `runS` -/
theorem session_dev :
    ((run stats dev).1 = .ok (64, 6, 2) ∧ (run stats dev).2.fs.fsInfo = ⟨some 2, none, true⟩) ∧
    ((run (allocClusterFs none false) (run stats dev).2).1 = .ok 4 ∧
      (run (allocClusterFs none false) (run stats dev).2).2.fs.fsInfo = ⟨some 1, some 5, true⟩) ∧
    (run unmount (run (allocClusterFs none false) (run stats dev).2).2).1 = .ok () := by
  obtain ⟨d1, e1, a1⟩ := run_eq_runS stats agree_dev
  rw [e1]
  dsimp only
  obtain ⟨d2, e2, a2⟩ := run_eq_runS (allocClusterFs none false) a1
  rw [e2]
  dsimp only
  obtain ⟨d3, e3, _⟩ := run_eq_runS unmount a2
  rw [e3, a1.fs, a2.fs]
  dsimp only
  decide +kernel

/-- `stats` with nothing cached recounts: 2 free clusters; afterwards the count is cached -/
example : (run stats dev).1 = .ok (64, 6, 2) ∧ (run stats dev).2.fs.fsInfo = ⟨some 2, none, true⟩ := session_dev.1

/-- the allocation takes cluster 4; the cache then says 1 free, hint 5 -/
example : (run (allocClusterFs none false) (run stats dev).2).1 = .ok 4 ∧
    (run (allocClusterFs none false) (run stats dev).2).2.fs.fsInfo = ⟨some 1, some 5, true⟩ := session_dev.2.1

/-- the hypotheses of the theorems hold of the example: layout, session facts, the two placement conditions of the
    FS-info sector -/
theorem geo32 : Geo fs32 dev.img.size :=
  ⟨by decide, by decide, by decide, fun c hc => by simp only [fs32, entOff, entWidth, fatSliceOf] at *; simp; omega, by decide,
   by decide, by decide, by decide, by decide, by decide, by decide⟩

theorem sess32 : Sess dev :=
  ⟨rfl, Img.wf_write _ (Img.wf_write _ (Img.wf_empty _) _ _) _ _, geo32,
   ⟨⟨fun n h => (by cases h), fun n h => (by cases h)⟩, fun n h => (by cases h)⟩⟩

/-- the first two calls are a session from `dev` -/
theorem reach2 : Reach dev (run (allocClusterFs none false) (run stats dev).2).2 :=
  .step (.step (.refl _) (.stats 64 6 2 (run_of_fst session_dev.1.1)))
    (.alloc none false 4 (fun _ h => nomatch h) (run_of_fst session_dev.2.1.1))

/-- … which is the number of free entries of the image's table after the allocation (`unmount` does not touch the FAT):
    in a session state the cached count is that number -/
example : countFreeV (imgTable fs32 (run (allocClusterFs none false) (run stats dev).2).2.img) 6 = 1 := by
  obtain ⟨hs, hg⟩ := sess_reach sess32 reach2
  have h := hs.info.ok.count 1 (by rw [session_dev.2.1.2])
  rw [hg.tabView, hg.totalClusters, count_tab_eq sess32.geo] at h
  exact h.symm

/-- directory growth on a volume NOT yet marked dirty: cluster 4 (bytes 384 … 447) holds stale data -/
def devZ : Dev :=
  { img := img0.write 384 (List.replicate 64 0xAA), fs := { fs32 with curDirty := false } }

theorem geoZ : Geo devZ.fs devZ.img.size := by
  rw [show devZ.img.size = dev.img.size from Img.write_size _ _ _]
  exact geo32.frame rfl

theorem sessZ : Sess devZ :=
  ⟨rfl, Img.wf_write _ (Img.wf_write _ (Img.wf_write _ (Img.wf_empty _) _ _) _ _) _ _, geoZ,
   ⟨⟨fun n h => (by cases h), fun n h => (by cases h)⟩, fun n h => (by cases h)⟩⟩

/-- `devZ` by its bytes -/
def sdevZ : SDev := ⟨DirSim.putBytes sdev.get 384 (List.replicate 64 0xAA), devZ.strip⟩

theorem agree_devZ : sdevZ.Agree devZ :=
  (((SDev.Agree.empty 2048 { img := Img.empty 2048, fs := { fs32 with curDirty := false } } rfl).write 128 tab32).write
    192 tab32).write 384 _

theorem allocZ : (run (allocClusterFs none true) devZ).1 = .ok 4 ∧
    (run (allocClusterFs none true) devZ).2.log.reverse =
      [.write 0x41 [1], .write 144 [0xFF, 0xFF, 0xFF, 0x0F], .write 208 [0xFF, 0xFF, 0xFF, 0x0F],
       .write 384 (List.replicate 64 0)] := by
  obtain ⟨d1, e1, a1⟩ := run_eq_runS (allocClusterFs none true) agree_devZ
  rw [e1, a1.log]
  dsimp only
  decide +kernel

/-- `alloc_cluster(None, zero = true)` there takes cluster 4, marks the volume, sets the status byte (0x41) to "dirty",
    zeroes the 64 bytes of cluster 4 and leaves the neighbouring cluster alone; the records, oldest first: the status
    byte, the FAT entry in copy 0, the same in copy 1, the 64 zeros. The result and the records are evaluated
    (`allocZ`); the state and the image after the call are what `alloc_cluster_img` says; the image before is read off
    the writes that make it. -/
example : (run (allocClusterFs none true) devZ).1 = .ok 4 ∧
    (run (allocClusterFs none true) devZ).2.fs.curDirty = true ∧
    (run (allocClusterFs none true) devZ).2.fs.fsInfo = ⟨none, some 5, true⟩ ∧
    devZ.img.getByte 0x41 = 0 ∧ (run (allocClusterFs none true) devZ).2.img.getByte 0x41 = 1 ∧
    (List.range 64).all (fun i => devZ.img.getByte (384 + i) == 0xAA) = true ∧
    (List.range 64).all (fun i => (run (allocClusterFs none true) devZ).2.img.getByte (384 + i) == 0) = true ∧
    (run (allocClusterFs none true) devZ).2.log.reverse =
      [.write 0x41 [1], .write 144 [0xFF, 0xFF, 0xFF, 0x0F], .write 208 [0xFF, 0xFF, 0xFF, 0x0F],
       .write 384 (List.replicate 64 0)] := by
  rcases alloc_cluster_img devZ sessZ none true (fun _ h => nomatch h) with
    ⟨_, _, hx, _⟩ | ⟨c, d', _, _, _, _, hr, _, hfs, _, hz, _, hst, _⟩
  · cases hx.symm.trans (run_of_fst allocZ.1)
  · cases hr.symm.trans (run_of_fst allocZ.1)
    have hw0 : img0.WF := sess32.wf
    refine ⟨allocZ.1, by rw [hfs]; rfl, by rw [hfs]; rfl, ?_, hst rfl, ?_, ?_, allocZ.2⟩
    · show (img0.write 384 _).getByte 0x41 = 0
      rw [Img.getByte_write_of_not_mem _ hw0 384 (List.replicate 64 0xAA) 0x41 (by decide), img0,
        Img.getByte_write_of_not_mem _ (Img.wf_write _ (Img.wf_empty _) _ _) 192 tab32 0x41 (by decide),
        Img.getByte_write_of_not_mem _ (Img.wf_empty _) 128 tab32 0x41 (by decide)]
      decide +kernel
    · rw [List.all_eq_true]
      intro i hi
      rw [List.mem_range] at hi
      show ((img0.write 384 _).getByte (384 + i) == 0xAA) = true
      rw [beq_iff_eq, Img.getByte_write _ hw0, if_pos ⟨Nat.le_add_right _ _, Nat.add_lt_add_left hi _⟩,
        Nat.add_sub_cancel_left, List.getD_eq_getElem?_getD, List.getElem?_replicate, if_pos hi]; rfl
    · rw [List.all_eq_true]
      intro i hi
      rw [List.mem_range] at hi
      rw [beq_iff_eq]
      exact hz rfl _ (Nat.le_add_right 384 i) (Nat.add_lt_add_left hi 384)

/-- … and this is a `Step` of a session from `devZ` (`session_free_count_exact` applies to what follows) -/
example : Reach devZ (run (allocClusterFs none true) devZ).2 :=
  .step (.refl _) (.alloc none true 4 (fun p h => (by cases h)) (run_of_fst allocZ.1))

/-- `free_cluster_chain(2)` (chain 2→3) and `truncate_cluster_chain(5)` (chain 5→7) on the volume not marked dirty: both
    succeed, mark the volume — status record first —, and the free-entry count of the image goes from 2 to 4 resp. 3 -/
example : (run (freeClusterChain 2) devZ).1 = .ok () ∧ (run (freeClusterChain 2) devZ).2.fs.curDirty = true ∧
    countFreeV (imgTable fs32 devZ.img) 6 = 2 ∧
    countFreeV (imgTable fs32 (run (freeClusterChain 2) devZ).2.img) 6 = 4 ∧
    (run (freeClusterChain 2) devZ).2.log.reverse.head? = some (.write 0x41 [1]) ∧
    (run (truncateClusterChain 5) devZ).1 = .ok () ∧ (run (truncateClusterChain 5) devZ).2.fs.curDirty = true ∧
    countFreeV (imgTable fs32 (run (truncateClusterChain 5) devZ).2.img) 6 = 3 ∧
    (run (truncateClusterChain 5) devZ).2.log.reverse.head? = some (.write 0x41 [1]) := by
  obtain ⟨d1, e1, a1⟩ := run_eq_runS (freeClusterChain 2) agree_devZ
  obtain ⟨d2, e2, a2⟩ := run_eq_runS (truncateClusterChain 5) agree_devZ
  rw [e1, e2]
  dsimp only
  unfold imgTable imgFatBytes fatBytes
  rw [a1.fs, a1.log, a1.read, a2.fs, a2.log, a2.read, agree_devZ.read]
  decide +kernel

/-- a full table -/
def devFull : Dev :=
  { img := ((Img.empty 2048).write 128 (List.replicate 32 0xFF)).write 192 (List.replicate 32 0xFF),
    fs := { fs32 with curDirty := false } }

/-- … `alloc_cluster` answers `NotEnoughSpace`, writes nothing and does not mark the volume -/
example : (run (allocClusterFs none true) devFull).1 = .error .noSpace ∧
    (run (allocClusterFs none true) devFull).2.log = [] ∧
    (run (allocClusterFs none true) devFull).2.fs.curDirty = false := by
  have ha : SDev.Agree ⟨_, devFull.strip⟩ devFull :=
    ((SDev.Agree.empty 2048 { img := Img.empty 2048, fs := { fs32 with curDirty := false } } rfl).write 128
      (List.replicate 32 0xFF)).write 192 (List.replicate 32 0xFF)
  obtain ⟨d1, e1, a1⟩ := run_eq_runS (allocClusterFs none true) ha
  rw [e1, a1.fs, a1.log]
  dsimp only
  decide +kernel

theorem place32 : statusOff fs32 + 1 ≤ fs32.fsInfoSector * fs32.bps ∧
    (fatSliceOf fs32).beginOff + (fatSliceOf fs32).size ≤ fs32.fsInfoSector * fs32.bps := by decide

example : statusOff fs32 + 1 ≤ fs32.fsInfoSector * fs32.bps ∧
    (fatSliceOf fs32).beginOff + (fatSliceOf fs32).size ≤ fs32.fsInfoSector * fs32.bps := place32

end Ex
end FatVerif.C05img
