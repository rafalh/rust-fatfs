import FatVerif.Proofs.FsCountSession
import FatVerif.Props.C03fat
/-!
# C05 items 2, 3, 5 — free-space accounting of `fs.rs` (`FsCount` machine over the decoded FAT view)

`CountOk s`  : a cached free count is the number of free entries of `[2,total+2)`.
`HintOk s`   : a hint is in `[2, total+2]` (what mount guarantees); `HintStrict s`: in `[2, total+1]` (after any alloc).
`Inv s`      : `FatWf` (disjoint acyclic in-range chains) ∧ `CountOk` ∧ `HintOk`.
`OpOk s op`  : the conditions under which `file.rs`/`dir.rs` call the operation (`prev` is the EOC tail of a chain,
               `free` gets a chain head, `truncate` an allocated cluster, a count found on a clean FAT32 volume is
               correct); `AllOk s ops`: every operation of a run under its `OpOk` (Proofs/FsCountOps.lean).
`allocMany` (Proofs/FsCountCycle.lean): `k` allocations on one chain, as `File::write` makes them;
`isSessionOp` / `isNonAllocOp` (Proofs/FsCountSession.lean): the operations between mount and unmount.
-/
namespace FatVerif.C05count
open FatVerif.Fat FatVerif.FsCount

/-! ## free_count_inv -/

/-- after mount (`deserialize` maps 0/1/0xFFFFFFFF to None, `validate_and_fix` drops `> total+2`) the hint, if
    present, is in `[2, total+2]`; `total+2` itself — one past the last cluster — IS accepted from disk -/
theorem hint_in_range_mount (s : FsCountState) (d : Bool) (rf rn : Nat) :
    HintOk { s with info := mountInfo s.fat32 d s.total (deserializeInfo rf rn) } := by
  intro h hh
  simp only [mountInfo] at hh
  obtain ⟨h1, h2⟩ := fixNext_some hh
  refine ⟨?_, h2⟩
  split at h1
  · exact deserialize_next_ge2 rf rn h h1
  · cases h1

/-- mount establishes the invariant from any structurally sound table when the on-disk count is absent
    (0xFFFFFFFF / not FAT32), discarded (dirty volume, or `> total`), or correct. The last is a hypothesis: the library
    documents that a wrong foreign FS-info count is reported as is. -/
theorem mount_establishes (s : FsCountState) (d : Bool) (rf rn : Nat) (hw : FatWf s.fat s.total)
    (hdisk : d = false → s.fat32 = true → ∀ n, (deserializeInfo rf rn).free = some n → n ≤ s.total →
      n = countFreeV s.fat s.total) :
    Inv { s with info := mountInfo s.fat32 d s.total (deserializeInfo rf rn) } :=
  ⟨hw, mount_countOk s d rf rn hdisk, hint_in_range_mount s d rf rn⟩

/-- a dirty volume never trusts the stored count; nor does a FAT12/16 volume -/
theorem mount_dirty_forgets (fat32 : Bool) (total : Nat) (disk : Info) :
    (mountInfo fat32 true total disk).free = none ∧ (mountInfo false false total disk).free = none :=
  ⟨rfl, rfl⟩

/-- `stats`: lazy recount, afterwards cached; the answer is exact -/
theorem stats_preserves (s : FsCountState) (h : CountOk s) :
    CountOk (statsOp s).1 ∧ (statsOp s).2 = countFreeV s.fat s.total ∧ (statsOp s).1.info.free = some (statsOp s).2 :=
  ⟨statsOp_countOk s h, statsOp_value s h, statsOp_cached s⟩

/-- `alloc`: cached count − 1 (only if cached); the table's free count drops by exactly one; the checked
    subtraction cannot panic -/
theorem alloc_preserves (s s' : FsCountState) (prev : Option Nat) (c : Nat) (hc : CountOk s) (hh : HintOk s)
    (hp : ∀ p, prev = some p → s.fat p ≠ .free) (h : allocOp s prev = .ok (s', c)) :
    CountOk s' ∧ countFreeV s'.fat s'.total + 1 = countFreeV s.fat s.total ∧ s'.info.free = s.info.free.map (· - 1) :=
  ⟨(allocOp_countOk hc (fun n hn => (hh n hn).1) hp h).1, (allocOp_countOk hc (fun n hn => (hh n hn).1) hp h).2,
   (allocOp_ok h).2.2.2.2.2.1⟩

/-- the checked `n - 1` cannot panic under the invariant: a successful scan found a free cluster, so `n ≥ 1` -/
theorem alloc_no_underflow (s : FsCountState) (prev : Option Nat) (hc : CountOk s) (hh : HintOk s) :
    allocOp s prev ≠ .error .panic := by
  intro h
  unfold allocOp allocV at h
  cases hf : allocFindV s.fat s.info.next s.total with
  | none => rw [hf] at h; cases h
  | some c =>
    rw [hf] at h
    simp only at h
    obtain ⟨h1, h2, h3⟩ := allocFindV_some _ _ _ _ (fun n hn => (hh n hn).1) hf
    have hpos := countFreeV_pos s.fat s.total c h1 h2 h3
    cases hfree : s.info.free with
    | none => rw [hfree] at h; cases h
    | some n =>
      rw [hfree] at h
      have := hc n hfree
      cases n with
      | zero => omega
      | succ m => cases h

/-- without the invariant the subtraction does panic: cached count 0 although cluster 2 is free -/
theorem alloc_underflow_counterexample :
    allocOp ⟨fun _ => .free, 1, true, { free := some 0 }⟩ none = .error .panic := rfl

/-- **free_count_inv**: every operation, invoked as the library invokes it, preserves
    `FatWf ∧ CountOk ∧ HintOk` (and the geometry) -/
theorem free_count_inv (s s' : FsCountState) (op : Op) (out : Out) (hi : Inv s) (hok : OpOk s op)
    (h : step s op = .ok (s', out)) : Inv s' ∧ s'.total = s.total ∧ s'.fat32 = s.fat32 := by
  obtain ⟨hw, hc, hh⟩ := hi
  cases op with
  | mount d rf rn =>
    simp only [step] at h; cases h
    exact ⟨⟨hw, mount_countOk s d rf rn hok, hint_in_range_mount s d rf rn⟩, rfl, rfl⟩
  | stats =>
    simp only [step] at h; cases h
    obtain ⟨e1, e2, e3, e4⟩ := statsOp_fat s
    refine ⟨⟨by rw [e1, e2]; exact hw, statsOp_countOk s hc, ?_⟩, e2, e3⟩
    intro x hx; rw [e4] at hx; rw [e2]; exact hh x hx
  | alloc prev =>
    simp only [step] at h
    cases ha : allocOp s prev with
    | error e => rw [ha] at h; cases h
    | ok r =>
      obtain ⟨s1, c⟩ := r
      rw [ha] at h; cases h
      have hge : ∀ n, s.info.next = some n → 2 ≤ n := fun n hn => (hh n hn).1
      obtain ⟨hf, hfat, htot, h32, _⟩ := allocOp_ok ha
      obtain ⟨hs, h1, h2, h3⟩ := allocOp_hintStrict hge ha
      have hp' : ∀ p, prev = some p → s.fat p ≠ .free := fun p hp => by rw [hok p hp]; intro e; cases e
      refine ⟨⟨?_, (allocOp_countOk hc hge hp' ha).1, hs.hintOk⟩, htot, h32⟩
      rw [hfat, htot]
      exact fatWf_alloc hw prev c h3 h1 h2 hok
  | free c =>
    simp only [step] at h
    obtain ⟨h1, h2, h3, hhead⟩ := hok
    obtain ⟨cs, hch, hnd⟩ := chain_exists hw c
    have hmem := chain_members_ok hw hch h1 h2 h3
    obtain ⟨s1, e1, e2, e3, e4, e5, e6⟩ := freeOp_spec s c cs hch hnd (fun i hi => (hmem i hi).2.1)
    rw [e1] at h; cases h
    refine ⟨⟨?_, ?_, ?_⟩, e4, e5⟩
    · rw [e4]; exact fatWf_free hw hch hhead e2 e3
    · apply countOk_mapFree_add s s' cs.length hc e4 e6
      exact countFreeV_free_list cs s.fat s'.fat s.total hnd hmem e2 (fun i hi => by rw [e3 i hi])
    · intro x hx; rw [e6, mapFree_next] at hx; rw [e4]; exact hh x hx
  | truncate c =>
    simp only [step] at h
    obtain ⟨h1, h2, h3⟩ := hok
    obtain ⟨cs, hch, hnd⟩ := chain_exists hw c
    obtain ⟨t, rfl⟩ := chain_head hch
    have hmem := chain_members_ok hw hch h1 h2 h3
    obtain ⟨s1, e1, e2, e3, e4, e5, e6, e7⟩ := truncateOp_spec s c t hch hnd (fun i hi => (hmem i hi).2.1)
    rw [e1] at h; cases h
    have hct : c ∉ t := (List.nodup_cons.mp hnd).1
    refine ⟨⟨?_, ?_, ?_⟩, e5, e6⟩
    · rw [e5]; exact fatWf_truncate hw hch e2 e3 e4
    · apply countOk_mapFree_add s s' t.length hc e5 e7
      apply countFreeV_free_list t s.fat s'.fat s.total (List.nodup_cons.mp hnd).2
        (fun i hi => hmem i (List.mem_cons_of_mem _ hi)) e3
      intro i hi
      by_cases hic : i = c
      · subst hic
        rw [e2]
        constructor
        · intro e; cases e
        · intro e; exact absurd e h3
      · rw [e4 i hic hi]
    · intro x hx; rw [e7, mapFree_next] at hx; rw [e5]; exact hh x hx
  | unmount =>
    simp only [step] at h; cases h
    unfold unmountOp
    split
    · exact ⟨⟨hw, hc, hh⟩, rfl, rfl⟩
    · exact ⟨⟨hw, hc, hh⟩, rfl, rfl⟩

/-- … hence along any operation list … -/
theorem free_count_inv_run (ops : List Op) (s s' : FsCountState) (hi : Inv s) (hall : AllOk s ops)
    (h : runOps s ops = .ok s') : Inv s' ∧ s'.total = s.total :=
  runOps_preserves (J := fun x => Inv x ∧ x.total = s.total) (C := AllOk)
    (fun _ _ _ x out hj hc hs =>
      have ⟨hi1, ht1, _⟩ := free_count_inv _ _ _ _ hj.1 hc.1 hs
      ⟨⟨hi1, ht1.trans hj.2⟩, hc.2 x out hs⟩)
    ops s s' ⟨hi, rfl⟩ hall h

/-- **stats_exact**: in every reachable state `stats` returns the number of free entries of the table -/
theorem stats_exact (ops : List Op) (s s' : FsCountState) (hi : Inv s) (hall : AllOk s ops)
    (h : runOps s ops = .ok s') : (statsOp s').2 = countFreeV s'.fat s'.total :=
  statsOp_value s' (free_count_inv_run ops s s' hi hall h).1.2.1

/-- FAT16 example table of `C03fat` (chains 2→3, 5→7; 4 and 6 free), freshly mounted FAT16: nothing cached -/
def exState : FsCountState := ⟨view .fat16 C03fat.exTab, 6, false, {}⟩

theorem exState_inv : Inv exState :=
  ⟨C03fat.exTab_wf, fun n h => (by cases h), fun n h => (by cases h)⟩

/-- stats, grow the chain ending at 7 by one cluster, stats, free the chain 2→3, stats: the side conditions hold … -/
example : OpOk exState (.alloc (some 7)) ∧ (step exState .stats).toOption.map (·.2) = some (.num 2) ∧
    (runOps exState [.stats, .alloc (some 7), .free 2]).toOption.map (fun s => (statsOp s).2) = some 3 :=
  ⟨fun p h => by cases h; rfl, rfl, rfl⟩

/-! ## hint_in_range (after mount: `hint_in_range_mount` above) -/

example : (mountInfo true false 10 (deserializeInfo 5 12)).next = some 12 ∧
    (mountInfo true false 10 (deserializeInfo 5 13)).next = none ∧
    (mountInfo true false 10 (deserializeInfo 5 1)).next = none := ⟨rfl, rfl, rfl⟩

/-- after every successful alloc the hint is present and names a valid cluster: `2 ≤ h ≤ total+1`
    (F13 repaired: `cluster+1` only if `< total+2`, else 2) -/
theorem hint_in_range_alloc (s s' : FsCountState) (prev : Option Nat) (c : Nat) (hh : HintOk s)
    (h : allocOp s prev = .ok (s', c)) :
    HintStrict s' ∧ s'.info.next = some (nextHint s.total c) ∧ 2 ≤ c ∧ c < s.total + 2 :=
  ⟨(allocOp_hintStrict (fun n hn => (hh n hn).1) h).1, (allocOp_ok h).2.2.2.2.1,
   (allocOp_hintStrict (fun n hn => (hh n hn).1) h).2.1, (allocOp_hintStrict (fun n hn => (hh n hn).1) h).2.2.1⟩

/-- allocating the last cluster wraps the hint to 2 -/
example : nextHint 6 7 = 2 ∧ nextHint 6 6 = 7 := ⟨rfl, rfl⟩

/-- in every state satisfying `HintOk` (all reachable ones, `free_count_inv`) the hint handed to
    `table.rs::alloc_cluster` meets the hypothesis `hint ≥ 2` of `C03fat.alloc_wraparound` / `alloc_spec` -/
theorem hint_ge_2 (s : FsCountState) (hh : HintOk s) : ∀ n, s.info.next = some n → 2 ≤ n :=
  fun n hn => (hh n hn).1

/-- so at the byte level the allocation succeeds iff a free cluster exists, and returns a free cluster of `[2,total+2)` -/
theorem alloc_with_fs_hint (ft : FatType) (f : Array Nat) (s : FsCountState) (ht : TableOk ft f s.total)
    (hh : HintOk s) (prev : Option Nat) (hp : ∀ p, prev = some p → p < s.total + 2) :
    ((∃ c, (allocCluster f ft prev s.info.next s.total).out = .ok c) ↔
        ∃ i, 2 ≤ i ∧ i < s.total + 2 ∧ view ft f i = .free) ∧
    (∀ c, (allocCluster f ft prev s.info.next s.total).out = .ok c → 2 ≤ c ∧ c < s.total + 2 ∧ view ft f c = .free) :=
  ⟨(C03fat.alloc_wraparound ft f s.total ht prev s.info.next (hint_ge_2 s hh) hp).1,
   (C03fat.alloc_wraparound ft f s.total ht prev s.info.next (hint_ge_2 s hh) hp).2.1⟩

/-! ## fsinfo_written -/

/-- whatever `flush_fs_info` writes: only on FAT32 and only if something changed; the count is absent or exact; the
    hint is absent or in `[2, total+2]` -/
theorem fsinfo_written (s : FsCountState) (hc : CountOk s) (hh : HintOk s) (w : Option Nat × Option Nat)
    (h : unmountInfo s = some w) :
    s.fat32 = true ∧ (∀ n, w.1 = some n → n = countFreeV s.fat s.total) ∧
    (∀ x, w.2 = some x → 2 ≤ x ∧ x ≤ s.total + 2) := by
  unfold unmountInfo at h
  split at h
  · rename_i hcond; cases h; exact ⟨hcond.1, hc, hh⟩
  · cases h

/-- after `stats` the count that will be written is present and exact -/
theorem fsinfo_written_count (s : FsCountState) (hc : CountOk s) (h32 : s.fat32 = true) :
    ∃ nx, unmountInfo (statsOp s).1 = some (some (countFreeV s.fat s.total), nx) ∨
      (unmountInfo (statsOp s).1 = none ∧ s.info.dirty = false ∧ s.info.free = some (countFreeV s.fat s.total)) := by
  refine ⟨s.info.next, ?_⟩
  cases hf : s.info.free with
  | none => left; simp [statsOp, unmountInfo, hf, h32]
  | some n =>
    have hn := hc n hf
    subst hn
    cases hd : s.info.dirty with
    | true => left; simp [statsOp, unmountInfo, hf, h32, hd]
    | false => right; exact ⟨by simp [statsOp, unmountInfo, hf, hd], rfl, rfl⟩

/-- if at least one alloc happened in the session (followed by any stats/alloc/free/truncate calls), unmount of a
    FAT32 volume writes a hint that names a valid cluster: `2 ≤ h ≤ total+1` … -/
theorem fsinfo_written_hint (s0 s1 s' : FsCountState) (prev : Option Nat) (c : Nat) (ops : List Op) (hh : HintOk s0)
    (ha : allocOp s0 prev = .ok (s1, c)) (hops : ∀ op, op ∈ ops → isSessionOp op = true)
    (hr : runOps s1 ops = .ok s') (h32 : s'.fat32 = true) :
    ∃ fr x, unmountInfo s' = some (fr, some x) ∧ 2 ≤ x ∧ x ≤ s'.total + 1 := by
  obtain ⟨⟨hs, hn, hd⟩, _, _⟩ := afterAlloc_runOps ops s1 s' (afterAlloc_of_alloc (hint_ge_2 s0 hh) ha) hops hr
  cases hx : s'.info.next with
  | none => rw [hx] at hn; cases hn
  | some x =>
    refine ⟨s'.info.free, x, ?_, hs x hx⟩
    unfold unmountInfo
    rw [if_pos ⟨h32, hd⟩, hx]

/-- … and otherwise the hint keeps its mount-time value -/
theorem fsinfo_written_hint_unchanged (s s' : FsCountState) (ops : List Op)
    (hops : ∀ op, op ∈ ops → isNonAllocOp op = true) (hr : runOps s ops = .ok s') : s'.info.next = s.info.next :=
  runOps_preserves (J := fun x => x.info.next = s.info.next)
    (C := fun _ ops => ∀ op, op ∈ ops → isNonAllocOp op = true)
    (fun _ _ _ _ _ hj hc hs =>
      ⟨(next_unchanged_step (hc _ (by simp)) hs).trans hj, fun o ho => hc o (List.mem_cons_of_mem _ ho)⟩)
    ops s s' rfl hops hr

/-- FAT32 flavour of the example: mount with count 2 and hint 8 (= total+2, accepted), allocate, unmount -/
def exState32 : FsCountState := { exState with fat32 := true }

example : (step exState32 (.mount false 2 8)).toOption.map (·.1.info) = some ⟨some 2, some 8, false⟩ ∧
    (runOps exState32 [.mount false 2 8, .alloc none]).toOption.map unmountInfo = some (some (some 1, some 5)) ∧
    (runOps exState32 [.mount false 2 8, .stats]).toOption.map unmountInfo = some none :=
  ⟨rfl, rfl, rfl⟩

/-! ## fill_delete_cycle -/

/-- allocating `k ≥ 1` clusters into one new chain (each hung on the previous one) and then freeing that chain gives
    back the very same table — entry by entry —, hence the same free count; in between the count is exactly `k` lower;
    `CountOk` holds throughout. No capacity is lost by fill/delete cycles. -/
theorem fill_delete_cycle (k : Nat) (s s2 : FsCountState) (cs : List Nat) (hk : 0 < k) (hh : HintOk s)
    (h : allocMany k s none = .ok (s2, cs)) :
    ∃ c r s3, cs = c :: r ∧ cs.length = k ∧ freeOp s2 c = .ok s3 ∧ (∀ i, s3.fat i = s.fat i) ∧ s3.total = s.total ∧
      countFreeV s3.fat s3.total = countFreeV s.fat s.total ∧
      countFreeV s2.fat s2.total + k = countFreeV s.fat s.total ∧ (CountOk s → CountOk s2 ∧ CountOk s3) := by
  obtain ⟨i1, i2, i3, i4, i5, _, i7, _, _, i10, _⟩ := allocMany_spec k s none s2 cs (hint_ge_2 s hh) (fun p e => by cases e) h
  cases cs with
  | nil => simp at i1; omega
  | cons c r =>
    have hseg := i5 (by simp)
    have hch := seg_chain s2.fat r c hseg
    have hin2 : ∀ i, i ∈ c :: r → i < s2.total + 2 := fun i hi => by rw [i7]; exact (i3 i hi).2.1
    obtain ⟨s3, e1, e2, e3, e4, _, e6⟩ := freeOp_spec s2 c (c :: r) hch i2 hin2
    have hfat : ∀ i, s3.fat i = s.fat i := by
      intro i
      by_cases hi : i ∈ c :: r
      · rw [e2 i hi, (i3 i hi).2.2]
      · rw [e3 i hi, i4 i hi (by intro e; cases e)]
    have hmem2 : ∀ i, i ∈ c :: r → 2 ≤ i ∧ i < s2.total + 2 ∧ s2.fat i ≠ .free :=
      fun i hi => ⟨(i3 i hi).1, hin2 i hi, seg_not_free s2.fat _ hseg i hi⟩
    have hcnt3 : countFreeV s3.fat s2.total = countFreeV s2.fat s2.total + (c :: r).length :=
      countFreeV_free_list (c :: r) s2.fat s3.fat s2.total i2 hmem2 e2 (fun i hi => by rw [e3 i hi])
    have hsame : countFreeV s3.fat s3.total = countFreeV s.fat s.total := by
      rw [e4, i7]; exact countFreeV_congr _ _ _ (fun i _ _ => by rw [hfat i])
    refine ⟨c, r, s3, rfl, i1, e1, hfat, by rw [e4, i7], hsame, ?_, ?_⟩
    · have b : countFreeV s3.fat s2.total = countFreeV s.fat s.total := by rw [← e4]; exact hsame
      have hc3 := hcnt3
      rw [i1] at hc3; omega
    · intro hc
      exact ⟨i10 hc, countOk_mapFree_add s2 s3 (c :: r).length (i10 hc) e4 e6 hcnt3⟩

/-- the cached count itself returns to its old value -/
theorem fill_delete_cycle_count (k : Nat) (s s2 : FsCountState) (cs : List Nat) (hk : 0 < k) (hh : HintOk s)
    (hc : CountOk s) (h : allocMany k s none = .ok (s2, cs)) (n : Nat) (hn : s.info.free = some n) :
    ∃ c r s3, cs = c :: r ∧ freeOp s2 c = .ok s3 ∧ s3.info.free = some n := by
  obtain ⟨c, r, s3, e1, e2, e3, e4, e5, e6, e7, e8⟩ := fill_delete_cycle k s s2 cs hk hh h
  refine ⟨c, r, s3, e1, e3, ?_⟩
  obtain ⟨n', hi, _, _⟩ := freeOp_info e3
  have hc3 := (e8 hc).2
  -- the count stays cached through alloc and free, and `CountOk` pins its value
  have h2 : s2.info.free.isSome = true := by
    rw [(allocMany_spec k s none s2 cs (hint_ge_2 s hh) (fun p e => by cases e) h).2.2.2.2.2.2.2.2.2.2, hn]; rfl
  cases hm : s2.info.free with
  | none => rw [hm] at h2; cases h2
  | some m =>
    have h3 : s3.info.free = some (m + n') := by rw [hi, mapFree_free, hm]; rfl
    have := hc3 (m + n') h3
    have hn' := hc n hn
    rw [h3]; congr 1; omega

/-- two clusters into a new chain on the example table: clusters 4 and 6, count 2 → 0, freeing the chain gives 2 back -/
example : (allocMany 2 exState none).toOption.map (·.2) = some [4, 6] ∧ HintOk exState ∧
    (allocMany 2 exState none).toOption.map (fun r => countFreeV r.1.fat r.1.total) = some 0 ∧
    countFreeV exState.fat exState.total = 2 :=
  ⟨rfl, exState_inv.2.2, rfl, rfl⟩

/-! ## runtime tie -/

/-- `checkStep` accepts exactly what the machine does: the machine's own successor passes, a wrong observed `stats`
    value or a stale cached count is reported -/
example : checkStep exState (statsOp exState).1 .stats (some (.num 2)) = none ∧
    (checkStep exState (statsOp exState).1 .stats (some (.num 3))).isSome = true ∧
    (checkStep exState { exState with info := { free := some 5, dirty := true } } .stats).isSome = true :=
  ⟨rfl, rfl, rfl⟩

end FatVerif.C05count
