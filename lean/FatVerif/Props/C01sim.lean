import FatVerif.Proofs.DirCreate
import FatVerif.Proofs.DirRename
import FatVerif.Proofs.DirWriteFail
/-! # C01 (simulation) — the effectful directory code is the slot-list algebra on the bytes of the image

The directory code of the model (`Model/DirOps.lean`, programs over a device) and the slot-list algebra
(`Model/Lfn.lean`, `DirSlots.lean`, `DirAlias.lean`, on which the C01/C03/C16/C17 theorems are stated) are tied here by
forward evaluation theorems, on a device on which no fault is scheduled. In order:

* READERS. `readSlot`, `readDirEntry`, `listDir`, `findEntryG`, `findEntry` RETURN what the pure functions compute from
  the slots of the image. The theorems are the instances, for the two kinds of directory, of the generic ones
  (`DirSrcK.readDirEntry_sim`, `listDir_sim`, `findEntryG_sim`, …: Proofs/DirReadStream, DirReadEntries, DirReadKinds):
  - the FIXED ROOT of a FAT12/16 volume (`RootReadable`; `rootDirStream fs = .root (rootSliceOf fs)`), whose slots
    `rootDirSlots` are the 32-byte records of the root region `[(firstDataSector - rootDirSectors) * bps, +
    rootDirSectors * bps)`. Image, log, mounted state and fault schedule are left alone
    (`Evals p d v := ∃ d', run p d = (.ok v, d') ∧ SameStore d d'`);
  - CLUSTER-CHAIN directories (`ChainReadable`; sub-directories and the root of FAT32): `File::read` across cluster
    boundaries, following the chain of the decoded FAT of the image (`FileSim.tabView`); the slots are those of the
    clusters of the chain, in chain order (`chainSlots`). The evaluation relation is `Reads`: the destructor of the
    iterator's clone of a cluster-chain directory calls `flush` on the storage, so the log gains `flush` records; image,
    mounted state, fault schedule and WRITE records are untouched (`SameVol`). Hypothesis: `update_accessed_date`
    is off or the handle has no directory entry (FAT32 root) — with the option on, reading a sub-directory stamps its
    entry and the destructor WRITES it (that is the library's behaviour, not covered here).
* READING A CONCRETE IMAGE `Img.ofBytes bytes size` (`ofBytes_records`, `rootDirSlots_ofBytes`, `chainSlots_ofBytes`,
  `tabView_ofBytes`): slots and FAT entries of an example image, from its byte list.
* `check_for_existence` and the directory views (`DirView.ofRoot`, `DirView.ofChain`) that path walks go through.
* WRITES: forward simulation of the mutating directory code on the image, for the fixed root, cluster chains without an
  entry (root of FAT32) and sub-directories (generic layer `WView`, Proofs/DirWriteFamily and the modules on top of it):
  `deleteEntry`, `write_entry` (also `.`/`..`, also across one growth of a chain directory), and the whole operations
  `create_file`, `create_dir`, `remove` (file / empty directory), `rename` (file or directory, inside one directory or
  between two directories), on single-component paths; and the outcomes that change nothing (Proofs/DirWriteFail: the
  name exists, wrong kind, `NotFound`, `DirNotEmpty`, `AlreadyExists`; `create_dir` on a full volume: `NotEnoughSpace`).
* Non-vacuity: the example volumes `Ex`, `Ex2`, …, `Ex11`, each next to the theorems it instantiates. -/
namespace FatVerif.DirSim

/-- the slots of the fixed root directory of a volume with geometry `fs`, as a function of the image -/
def rootDirSlots (fs : FsState) (img : Img) : List (List Nat) := rootSlots img (rootSliceOf fs)

/-- the standing hypotheses: no fault scheduled, the root region inside the device, made of `N` whole slots, and
    fewer slots than the scan fuel `dirFuel` (true of every volume `mount` accepts: `N ≤ root_entries + bps/32`) -/
structure RootReadable (d : Dev) (N : Nat) : Prop where
  noFault : d.failAt = none
  inside : (rootSliceOf d.fs).beginOff + (rootSliceOf d.fs).size ≤ d.img.size
  slots : (rootSliceOf d.fs).size = 32 * N
  fuel : N < dirFuel d.fs

theorem rootDirSlots_length {d : Dev} {N : Nat} (h : RootReadable d N) : (rootDirSlots d.fs d.img).length = N := by
  unfold rootDirSlots; rw [rootSlots_length, h.slots]; omega

theorem rootDirSlots_get {d : Dev} {N : Nat} (h : RootReadable d N) (j : Nat) (hj : j < N) :
    (rootDirSlots d.fs d.img).getD j [] = d.img.read ((rootSliceOf d.fs).beginOff + 32 * j) 32 := by
  have := rootSlots_drop_getD (rootSliceOf d.fs) N h.slots d.img 0 j (by
    rw [List.drop_zero, rootSlots_length, h.slots]; omega)
  unfold rootDirSlots
  simpa using this

/-- the slots of the root region as the generic layer names them -/
theorem srcSlots_root {d : Dev} {N : Nat} (h : RootReadable d N) :
    srcSlots d.img (fun o => (rootSliceOf d.fs).beginOff + o) N = rootDirSlots d.fs d.img := by
  unfold srcSlots rootDirSlots rootSlots
  rw [h.slots, Nat.mul_div_cancel_left N (by omega : 0 < 32)]

/-- the fixed root as a directory source; its calls keep the store. The theorems from here to `findEntry_root_sim_error`
    are `ByteSrcK.readSlot`, `readSlot_end` (Proofs/DirReadStream) and `DirSrcK.readDirEntry_sim`, `listDir_sim`,
    `findEntryG_sim`, `findEntry_ok`, `findEntry_error` (Proofs/DirReadEntries) of this source, with its `srcSlots`
    rewritten to `rootDirSlots` (`srcSlots_root`) -/
theorem RootReadable.dirSrcK {d : Dev} {N : Nat} (h : RootReadable d N) :
    DirSrcK SameStore d (fun o => .root (sliceAt (rootSliceOf d.fs) o)) N (fun o => (rootSliceOf d.fs).beginOff + o)
      (fun o => (rootSliceOf d.fs).size - o) :=
  root_dirSrcK Keeps.store (rootSliceOf d.fs) N h.slots d h.noFault h.inside

/-- the root stream positioned at slot `i` -/
def rootAt (fs : FsState) (i : Nat) : DirStream := .root (sliceAt (rootSliceOf fs) (32 * i))

theorem rootAt_zero (fs : FsState) : rootAt fs 0 = .root (rootSliceOf fs) := rfl

/-- **`readSlot_root_sim`** (inside the region): at slot `i < N`, `DirEntryData::deserialize` returns slot `i` of the image
    (read as 11 + 1 + 20 bytes) and the stream stands at slot `i + 1` -/
theorem readSlot_root_sim {d : Dev} {N : Nat} (h : RootReadable d N) (i : Nat) (hi : i < N) :
    Evals (readSlot (rootAt d.fs i)) d ((rootDirSlots d.fs d.img).getD i [], rootAt d.fs (i + 1)) := by
  rw [rootDirSlots_get h i hi]
  have := h.dirSrcK.toByteSrcK.readSlot d (SameVol.refl d) (32 * i) (by omega) (by omega)
  rw [show 32 * i + 32 = 32 * (i + 1) by omega] at this
  exact this

/-- **`readSlot_root_end`** (at the end of the allocated space): at slot `N` the `UnexpectedEof` of the first `read_exact` is
    caught by `deserialize`, which returns the all-zero record — an end-of-directory marker — and the stream stays -/
theorem readSlot_root_end {d : Dev} {N : Nat} (h : RootReadable d N) :
    Evals (readSlot (rootAt d.fs N)) d (List.replicate 32 0, rootAt d.fs N) :=
  h.dirSrcK.toByteSrcK.readSlot_end d (SameVol.refl d)

/-- **`readDirEntry_root_sim`**: one `DirIter::next` from slot `i` = one `nextEntry` of the pure reader on the remaining
    slots (fresh long-name builder, `begin_offset` = the position) -/
theorem readDirEntry_root_sim {d : Dev} {N : Nat} (h : RootReadable d N) (skipVolume : Bool) (i : Nat) (hi : i ≤ N) :
    Evals (readDirEntry skipVolume (rootAt d.fs i)) d
      (((nextEntry d.fs.lfnAlloc skipVolume ((rootDirSlots d.fs d.img).drop i) i i (LongNameBuilder.new d.fs.lfnAlloc)).1).map
          (toDirEntry (rootSliceOf d.fs).beginOff),
       rootAt d.fs (nextEntry d.fs.lfnAlloc skipVolume ((rootDirSlots d.fs d.img).drop i) i i
          (LongNameBuilder.new d.fs.lfnAlloc)).2) := by
  have := h.dirSrcK.readDirEntry_sim skipVolume i hi d (SameVol.refl d) h.fuel
  rw [srcSlots_root h, Option.map_congr (fun e he => toDirEntryS_root _ e (by
    have := ((nextEntry_idx _ _ _ _ _ _).2.2 e he).2; omega))] at this
  exact this

/-- **`listDir_root_sim`**: `Dir::iter()` on the root directory yields exactly the entries the pure reader
    `readDirEntries` finds in the slots of the image, each turned into the library's `DirEntry` by `toDirEntry` (the short
    record decoded field by field, the collected long name, entry position and slot range); image, log, mounted state and
    fault schedule are untouched -/
theorem listDir_root_sim {d : Dev} {N : Nat} (h : RootReadable d N) :
    Evals (listDir (rootAt d.fs 0)) d
      ((readDirEntries d.fs.lfnAlloc true (rootDirSlots d.fs d.img)).map (toDirEntry (rootSliceOf d.fs).beginOff)) := by
  have := h.dirSrcK.listDir_sim h.fuel d (SameVol.refl d)
  rw [srcSlots_root h, List.map_congr_left (fun e he => toDirEntryS_root_mem _ he)] at this
  exact this

/-- … with the heap-allocated long-name buffer (`alloc` feature, the default) these are the entries of
    `DirSlots.listing` -/
theorem listDir_root_listing {d : Dev} {N : Nat} (h : RootReadable d N) (ha : d.fs.lfnAlloc = true) :
    ∃ d', run (listDir (rootAt d.fs 0)) d =
        (.ok ((DirSlots.listing (rootDirSlots d.fs d.img)).map (toDirEntry (rootSliceOf d.fs).beginOff)), d') ∧
      d'.img = d.img ∧ d'.log = d.log ∧ d'.fs = d.fs ∧ d'.failAt = none := by
  obtain ⟨d', hr, hs⟩ := listDir_root_sim h
  rw [ha] at hr
  exact ⟨d', hr, hs.img, hs.log, hs.fs, by rw [hs.failAt]; exact h.noFault⟩

/-- **`findEntryG_root_sim`**: `find_entry(name, is_dir, Some(gen))` on the root directory = `DirAlias.scan` over the listed
    entries — the lookup outcome AND the short-name generator as the scan leaves it -/
theorem findEntryG_root_sim {d : Dev} {N : Nat} (h : RootReadable d N) (env : Env) (name : String)
    (isDir : Option Bool) (g : Names.Gen) :
    Evals (findEntryG env (rootAt d.fs 0) name isDir (some g)) d
      (((DirAlias.scan env.upper name.toList isDir (readDirEntries d.fs.lfnAlloc true (rootDirSlots d.fs d.img)) g).1).map
          (toDirEntry (rootSliceOf d.fs).beginOff),
       some (DirAlias.scan env.upper name.toList isDir (readDirEntries d.fs.lfnAlloc true (rootDirSlots d.fs d.img)) g).2) := by
  have := h.dirSrcK.findEntryG_sim h.fuel env name isDir (some g) d (SameVol.refl d)
  rw [srcSlots_root h, lookupL_map_root, ← scan_fst _ _ _ _ g] at this
  exact this

/-- **`findEntry_root_sim_ok`** (`find_entry(..)?`, the step of every path walk): succeeds with the entry the scan
    finds … -/
theorem findEntry_root_sim_ok {d : Dev} {N : Nat} (h : RootReadable d N) (env : Env) (name : String)
    (isDir : Option Bool) (g : Names.Gen) {e : LfnEntry}
    (hs : (DirAlias.scan env.upper name.toList isDir (readDirEntries d.fs.lfnAlloc true (rootDirSlots d.fs d.img)) g).1 = .ok e) :
    Evals (findEntry env (rootAt d.fs 0) name isDir) d (toDirEntry (rootSliceOf d.fs).beginOff e) := by
  have hl := (scan_fst _ _ _ _ g).symm.trans hs
  have := h.dirSrcK.findEntry_ok h.fuel env name isDir (e := e) (by rw [srcSlots_root h]; exact hl) d (SameVol.refl d)
  rw [toDirEntryS_root_mem _ (lookupL_ok _ _ _ _ _ hl).1] at this
  exact this

/-- … and fails with the scan's error (`NotFound`, or `InvalidInput` for the wrong kind) otherwise -/
theorem findEntry_root_sim_error {d : Dev} {N : Nat} (h : RootReadable d N) (env : Env) (name : String)
    (isDir : Option Bool) (g : Names.Gen) {err : Err}
    (hs : (DirAlias.scan env.upper name.toList isDir (readDirEntries d.fs.lfnAlloc true (rootDirSlots d.fs d.img)) g).1 = .error err) :
    Fails (findEntry env (rootAt d.fs 0) name isDir) d err :=
  h.dirSrcK.findEntry_error h.fuel env name isDir (by rw [srcSlots_root h, ← scan_fst _ _ _ _ g]; exact hs) d
    (SameVol.refl d)

/-! ## an empty root directory lists as empty -/

theorem readDirEntries_end_first (alloc sv : Bool) (s0 : List Nat) (rest : List (List Nat)) (h0 : Lfn.isEnd s0 = true) :
    readDirEntries alloc sv (s0 :: rest) = [] := by
  simp [readDirEntries, Lfn.readLoop, slotClass, h0]

/-- a volume-label slot (attribute byte `VOLUME_ID`) followed by an end marker: `Dir::iter()` (which skips volume
    entries) yields nothing — whatever the first byte of the label -/
theorem readDirEntries_label_then_end (alloc : Bool) (s0 s1 : List Nat) (rest : List (List Nat))
    (h0 : s0.getD 11 0 = 8) (h1 : Lfn.isEnd s1 = true) : readDirEntries alloc true (s0 :: s1 :: rest) = [] := by
  have hl : Lfn.isLfn s0 = false := by simp only [Lfn.isLfn, Lfn.attrs, Lfn.byte, h0]; decide
  have hv : Lfn.isVolume s0 = true := by simp only [Lfn.isVolume, Lfn.attrs, Lfn.byte, h0]; decide
  unfold readDirEntries Lfn.readLoop slotClass
  by_cases hE : Lfn.isEnd s0 = true
  · simp [hE]
  · by_cases hD : Lfn.isDeleted s0 = true
    · simp [hE, hD, Lfn.readLoop, slotClass, h1]
    · simp [hE, hD, hl, hv, Lfn.readLoop, slotClass, h1]

/-- **an empty root lists as empty**: if slot 0 of the root region of the image is an end marker — or a volume-label
    slot followed by an end marker — then `Dir::iter()` on the root directory returns `[]` -/
theorem listDir_root_empty {d : Dev} {N : Nat} (h : RootReadable d N)
    (hslots : (1 ≤ N ∧ Lfn.isEnd (d.img.read (rootSliceOf d.fs).beginOff 32) = true) ∨
      (2 ≤ N ∧ d.img.getByte ((rootSliceOf d.fs).beginOff + 11) = 8 ∧
        Lfn.isEnd (d.img.read ((rootSliceOf d.fs).beginOff + 32) 32) = true)) :
    Evals (listDir (rootAt d.fs 0)) d [] := by
  have hsim := listDir_root_sim h
  have hlen := rootDirSlots_length h
  have hempty : readDirEntries d.fs.lfnAlloc true (rootDirSlots d.fs d.img) = [] := by
    rcases hslots with ⟨hN1, h0⟩ | ⟨hN2, h0, h1⟩
    · have hg := rootDirSlots_get h 0 (by omega)
      cases hL : rootDirSlots d.fs d.img with
      | nil => rw [hL] at hlen; simp at hlen; omega
      | cons s0 rest =>
        rw [hL] at hg
        simp only [List.getD_cons_zero, Nat.mul_zero, Nat.add_zero] at hg
        exact readDirEntries_end_first _ _ _ _ (by rw [hg]; exact h0)
    · have hg0 := rootDirSlots_get h 0 (by omega)
      have hg1 := rootDirSlots_get h 1 (by omega)
      cases hL : rootDirSlots d.fs d.img with
      | nil => rw [hL] at hlen; simp at hlen; omega
      | cons s0 rest =>
        cases rest with
        | nil => rw [hL] at hlen; simp at hlen; omega
        | cons s1 rest =>
          rw [hL] at hg0 hg1
          simp only [List.getD_cons_zero, List.getD_cons_succ, Nat.mul_zero, Nat.add_zero, Nat.mul_one] at hg0 hg1
          refine readDirEntries_label_then_end _ _ _ _ ?_ (by rw [hg1]; exact h1)
          rw [hg0, Img.read_getD _ _ _ _ (by omega)]; exact h0
  rw [hempty] at hsim
  exact hsim

/-! ## cluster-chain directories (sub-directories, the root of FAT32) -/

open FatVerif.FileSim FatVerif.Fat in
/-- the standing hypotheses for the directory whose first cluster is `c0` and whose handle carries the editor `ent`
    (`none`: the root of FAT32): `ChainDir` (no fault scheduled, layout `Geo`, `chain` is the chain of `c0` in the
    decoded FAT of the image and lies inside the table, cluster size a multiple of 32, the handle is a directory's,
    reads do not stamp it) and fewer slots than the scan fuel -/
structure ChainReadable (d : Dev) (c0 : Nat) (ent : Option DirEntryEditor) (chain : List Nat) : Prop where
  dir : ChainDir d (FileH.new (some c0) ent) c0 chain
  fuel : chain.length * (d.fs.clusterSize / 32) < dirFuel d.fs

/-- the stream of that directory positioned at slot `i` -/
def chainAt (fs : FsState) (c0 : Nat) (ent : Option DirEntryEditor) (chain : List Nat) (i : Nat) : DirStream :=
  chainS (FileH.new (some c0) ent) chain fs.clusterSize (32 * i)

/-- at slot 0 this is the freshly opened directory (`Dir::new(File::new(Some(c0), entry))`) -/
theorem chainAt_zero (fs : FsState) (c0 : Nat) (ent : Option DirEntryEditor) (chain : List Nat) :
    chainAt fs c0 ent chain 0 = .file (FileH.new (some c0) ent) := rfl

section chain
variable {d : Dev} {c0 : Nat} {ent : Option DirEntryEditor} {chain : List Nat}

theorem ChainReadable.slots_eq (h : ChainReadable d c0 ent chain) :
    srcSlots d.img (chainSrc d.fs chain) (chain.length * (d.fs.clusterSize / 32)) = chainSlots d.fs d.img chain :=
  srcSlots_chain d.fs d.img h.dir.geo.cs_pos h.dir.cs32 chain

/-- **`readSlot_chain_sim`** (inside the allocated space): slot `i` of the clusters of the chain — also when
    the slot is the first of the next cluster (the stream then follows the FAT link) -/
theorem readSlot_chain_sim (h : ChainReadable d c0 ent chain) (i : Nat)
    (hi : i < chain.length * (d.fs.clusterSize / 32)) :
    Reads (readSlot (chainAt d.fs c0 ent chain i)) d
      ((chainSlots d.fs d.img chain).getD i [], chainAt d.fs c0 ent chain (i + 1)) := by
  have := h.dir.dirSrc.toByteSrc.readSlot d (SameVol.refl d) (32 * i) (by omega) (by omega)
  rw [← h.slots_eq]
  have hg := srcSlots_drop_getD d.img (chainSrc d.fs chain) (chain.length * (d.fs.clusterSize / 32)) 0 i
    (by rw [List.drop_zero, srcSlots_length]; exact hi)
  simp only [List.drop_zero, Nat.zero_add] at hg
  rw [hg]
  unfold chainAt
  rw [show 32 * (i + 1) = 32 * i + 32 by omega]
  exact this

/-- **`readSlot_chain_end`** (at the end of the chain): the end-of-chain mark makes `File::read` return 0
    bytes, `read_exact` fails with `UnexpectedEof`, `deserialize` returns the all-zero record and the stream stays -/
theorem readSlot_chain_end (h : ChainReadable d c0 ent chain) :
    Reads (readSlot (chainAt d.fs c0 ent chain (chain.length * (d.fs.clusterSize / 32)))) d
      (List.replicate 32 0, chainAt d.fs c0 ent chain (chain.length * (d.fs.clusterSize / 32))) :=
  h.dir.dirSrc.toByteSrc.readSlot_end d (SameVol.refl d)

/-- **`readDirEntry_chain_sim`** -/
theorem readDirEntry_chain_sim (h : ChainReadable d c0 ent chain) (skipVolume : Bool) (i : Nat)
    (hi : i ≤ chain.length * (d.fs.clusterSize / 32)) :
    Reads (readDirEntry skipVolume (chainAt d.fs c0 ent chain i)) d
      (((nextEntry d.fs.lfnAlloc skipVolume ((chainSlots d.fs d.img chain).drop i) i i
          (LongNameBuilder.new d.fs.lfnAlloc)).1).map (toDirEntryS (chainSrc d.fs chain)),
       chainAt d.fs c0 ent chain (nextEntry d.fs.lfnAlloc skipVolume ((chainSlots d.fs d.img chain).drop i) i i
          (LongNameBuilder.new d.fs.lfnAlloc)).2) := by
  rw [← h.slots_eq]
  exact h.dir.dirSrc.toK.readDirEntry_sim skipVolume i hi d (SameVol.refl d) h.fuel

/-- **`listDir_chain_sim`**: `Dir::iter()` on a sub-directory (or the FAT32 root) yields exactly the entries the
    pure reader finds in the slots of the clusters of its chain; an entry's `entryPos` is the device offset of its short
    slot (`chainSrc`: cluster offset + offset in the cluster) -/
theorem listDir_chain_sim (h : ChainReadable d c0 ent chain) :
    Reads (listDir (.file (FileH.new (some c0) ent))) d
      ((readDirEntries d.fs.lfnAlloc true (chainSlots d.fs d.img chain)).map (toDirEntryS (chainSrc d.fs chain))) := by
  rw [← h.slots_eq]
  exact h.dir.dirSrc.toK.listDir_sim h.fuel d (SameVol.refl d)

/-- … in terms of the run: the result, and what is kept -/
theorem listDir_chain_listing (h : ChainReadable d c0 ent chain) (ha : d.fs.lfnAlloc = true) :
    ∃ d', run (listDir (.file (FileH.new (some c0) ent))) d =
        (.ok ((DirSlots.listing (chainSlots d.fs d.img chain)).map (toDirEntryS (chainSrc d.fs chain))), d') ∧
      d'.img = d.img ∧ d'.writesOf = d.writesOf ∧ d'.fs = d.fs ∧ d'.failAt = none := by
  obtain ⟨d', hr, hs⟩ := listDir_chain_sim h
  rw [ha] at hr
  exact ⟨d', hr, hs.img, hs.writesOf, hs.fs, by rw [hs.failAt]; exact h.dir.failAt⟩

/-- **`findEntryG_chain_sim`** -/
theorem findEntryG_chain_sim (h : ChainReadable d c0 ent chain) (env : Env) (name : String) (isDir : Option Bool)
    (g : Names.Gen) :
    Reads (findEntryG env (.file (FileH.new (some c0) ent)) name isDir (some g)) d
      (((DirAlias.scan env.upper name.toList isDir
          (readDirEntries d.fs.lfnAlloc true (chainSlots d.fs d.img chain)) g).1).map (toDirEntryS (chainSrc d.fs chain)),
       some (DirAlias.scan env.upper name.toList isDir
          (readDirEntries d.fs.lfnAlloc true (chainSlots d.fs d.img chain)) g).2) := by
  rw [← h.slots_eq, scan_fst]
  exact h.dir.dirSrc.toK.findEntryG_sim h.fuel env name isDir (some g) d (SameVol.refl d)

/-- **`findEntry_chain_sim_ok`** (`find_entry(..)?`): succeeds with the entry the scan finds … -/
theorem findEntry_chain_sim_ok (h : ChainReadable d c0 ent chain) (env : Env) (name : String) (isDir : Option Bool)
    (g : Names.Gen) {e : LfnEntry}
    (hs : (DirAlias.scan env.upper name.toList isDir
      (readDirEntries d.fs.lfnAlloc true (chainSlots d.fs d.img chain)) g).1 = .ok e) :
    Reads (findEntry env (.file (FileH.new (some c0) ent)) name isDir) d (toDirEntryS (chainSrc d.fs chain) e) := by
  rw [← h.slots_eq, scan_fst] at hs
  exact h.dir.dirSrc.toK.findEntry_ok h.fuel env name isDir hs d (SameVol.refl d)

/-- … and fails with the scan's error otherwise -/
theorem findEntry_chain_sim_error (h : ChainReadable d c0 ent chain) (env : Env) (name : String) (isDir : Option Bool)
    (g : Names.Gen) {err : Err}
    (hs : (DirAlias.scan env.upper name.toList isDir
      (readDirEntries d.fs.lfnAlloc true (chainSlots d.fs d.img chain)) g).1 = .error err) :
    FailsV (findEntry env (.file (FileH.new (some c0) ent)) name isDir) d err := by
  rw [← h.slots_eq, scan_fst] at hs
  exact h.dir.dirSrc.toK.findEntry_error h.fuel env name isDir hs d (SameVol.refl d)

end chain

/-- the root directory of a FAT32 volume is the cluster-chain directory of `root_cluster`, without an entry -/
theorem rootDirStream_fat32 (fs : FsState) (h : fs.fatType = .fat32) :
    rootDirStream fs = .file (FileH.new (some fs.rootCluster) none) := by
  unfold rootDirStream; rw [h]

/-! ## reading a concrete image `Img.ofBytes bytes size`

For the kernel every `Img.getByte` walks the page from its start. The slots and the FAT of the example devices below are
therefore first rewritten to functions of the byte LIST (one pass over it), and only these are evaluated.
`Img.ofBytes` keeps the whole list as page 0, and a page has 4096 bytes: hence the bound 4096 on the offsets below
(`Img.ofBytes_getByte_mod`). -/

/-- `n` records of 32 bytes from the front of a byte list, each byte as a `u8`, the last ones filled up with zeros -/
def records (l : List Nat) : Nat → List (List Nat)
  | 0 => []
  | n + 1 => ((l.take 32).map (· % 256) ++ List.replicate (32 - (l.take 32).length) 0) :: records (l.drop 32) n

theorem ofBytes_records (bytes : List Nat) (size : Nat) : ∀ (n B : Nat), B + 32 * n ≤ 4096 →
    (List.range n).map (fun j => (Img.ofBytes bytes size).read (B + 32 * j) 32) = records (bytes.drop B) n := by
  intro n
  induction n with
  | zero => intros; rfl
  | succ n ih =>
    intro B hB
    rw [List.range_succ_eq_map, List.map_cons, List.map_map, records, List.drop_drop]
    congr 1
    · apply List.ext_getElem?
      intro i
      simp only [Img.read, Nat.mul_zero, Nat.add_zero]
      by_cases hi : i < 32
      · rw [List.getElem?_map, List.getElem?_range hi, Option.map_some, Img.ofBytes_getByte_mod _ _ _ (by omega)]
        by_cases hl : i < ((bytes.drop B).take 32).length
        · rw [List.getElem?_append_left (by simpa using hl), List.getElem?_map, List.getElem?_take_of_lt hi,
            List.getElem?_drop, List.getD_eq_getElem?_getD]
          have : B + i < bytes.length := by simp at hl; omega
          rw [List.getElem?_eq_getElem this]; rfl
        · have hl' : bytes.length ≤ B + i := by simp at hl; omega
          rw [List.getElem?_append_right (by simpa using hl), List.getD_eq_getElem?_getD,
            List.getElem?_eq_none hl', List.getElem?_replicate]
          simp; omega
      · rw [List.getElem?_eq_none (by simp; omega), List.getElem?_eq_none (by simp; omega)]
    · rw [← ih (B + 32) (by omega)]
      apply List.map_congr_left
      intro j _
      show (Img.ofBytes bytes size).read (B + 32 * (j + 1)) 32 = _
      rw [show B + 32 * (j + 1) = B + 32 + 32 * j by omega]

/-- the slots of the fixed root directory of the image are `L`, if the records of the list there are `L` -/
theorem rootDirSlots_ofBytes (fs : FsState) (bytes : List Nat) (size : Nat)
    (h : (rootSliceOf fs).beginOff + 32 * ((rootSliceOf fs).size / 32) ≤ 4096) (L : List (List Nat))
    (hL : records (bytes.drop (rootSliceOf fs).beginOff) ((rootSliceOf fs).size / 32) = L) :
    rootDirSlots fs (Img.ofBytes bytes size) = L :=
  (ofBytes_records bytes size _ _ h).trans hL

/-- the same for a cluster chain -/
theorem chainSlots_ofBytes (fs : FsState) (bytes : List Nat) (size : Nat) (chain : List Nat)
    (h : ∀ c ∈ chain, clusterOff fs c + 32 * (fs.clusterSize / 32) ≤ 4096) (L : List (List Nat))
    (hL : (chain.flatMap fun c => records (bytes.drop (clusterOff fs c)) (fs.clusterSize / 32)) = L) :
    chainSlots fs (Img.ofBytes bytes size) chain = L := by
  subst hL
  induction chain with
  | nil => rfl
  | cons c t ih =>
    rw [List.flatMap_cons, ← ih (fun x hx => h x (List.mem_cons_of_mem _ hx)),
      ← ofBytes_records bytes size _ _ (h c List.mem_cons_self)]
    rfl

open FatVerif.FileSim in
/-- the decoded FAT16 of the image is the list `L` of values, if decoding the bytes of the list gives `L` -/
theorem tabView_ofBytes (fs : FsState) (bytes : List Nat) (size : Nat) (hft : fs.fatType = .fat16)
    (h : (fatSliceOf fs).beginOff + 2 * (fs.totalClusters + 2) ≤ 4096) (L : List FatValue)
    (hL : (List.range (fs.totalClusters + 2)).map (fun c =>
      Table.classify .fat16 c ((bytes.drop (fatSliceOf fs).beginOff).getD (c * 2) 0 % 256 +
        256 * ((bytes.drop (fatSliceOf fs).beginOff).getD (c * 2 + 1) 0 % 256))) = L) :
    tabView fs (Img.ofBytes bytes size) = (L.getD · .bad) := by
  funext c
  subst hL
  unfold tabView imgFatView imgFatRaw Img.le16
  by_cases hc : c < fs.totalClusters + 2
  · rw [if_pos hc, hft]
    simp only
    rw [Img.ofBytes_getByte_mod _ _ _ (by omega), Img.ofBytes_getByte_mod _ _ _ (by omega)]
    simp [List.getD_eq_getElem?_getD, hc, Nat.add_assoc]
  · rw [if_neg hc, List.getD_eq_getElem?_getD, List.getElem?_eq_none (by simp; omega)]
    rfl

/-! Filling the byte list up with zeros changes no byte of the image (unwritten bytes read as 0), and slots and FAT are
    functions of the bytes: the page-filled example volumes (`Ex5`, `Ex7`: the write theorems ask for a well-formed image, a full
    page) inherit their slots and FAT from the volumes they pad. -/

theorem Img.ofBytes_pad (bytes : List Nat) (n size k : Nat) :
    (Img.ofBytes (bytes ++ List.replicate n 0) size).getByte k = (Img.ofBytes bytes size).getByte k := by
  by_cases hk : k < 4096
  · rw [Img.ofBytes_getByte_mod _ _ _ hk, Img.ofBytes_getByte_mod _ _ _ hk, List.getD_eq_getElem?_getD,
      List.getD_eq_getElem?_getD, List.getElem?_append]
    split
    · rfl
    · rw [List.getElem?_eq_none (l := bytes) (by omega), List.getElem?_replicate]
      split <;> rfl
  · have h0 : ¬ 0 = k / 4096 := fun h => hk (by omega)
    unfold Img.getByte Img.ofBytes pageSize
    simp [h0]

section views
variable {a b : Img} (h : ∀ k, a.getByte k = b.getByte k)
include h

theorem read_of_bytes (off len : Nat) : a.read off len = b.read off len := by
  unfold Img.read; simp only [h]

theorem chainSlots_of_bytes (fs : FsState) (chain : List Nat) : chainSlots fs a chain = chainSlots fs b chain := by
  unfold chainSlots; simp only [read_of_bytes h]

theorem rootDirSlots_of_bytes (fs : FsState) : rootDirSlots fs a = rootDirSlots fs b := by
  unfold rootDirSlots rootSlots; simp only [read_of_bytes h]

open FatVerif.FileSim in
theorem tabView_of_bytes (fs : FsState) : tabView fs a = tabView fs b := by
  funext c
  unfold tabView imgFatView imgFatRaw Img.le16 Img.le32
  simp only [h]

end views

/-! ## non-vacuity: a small FAT16 root directory with a long-named and a short-named entry -/

namespace Ex

/-- geometry: 512-byte sectors, root region = sector 2 (`[1024, 1536)`, 16 slots) -/
def fs : FsState :=
  { fatType := .fat16, bps := 512, spc := 1, reserved := 1, fats := 1, spf := 1, totalClusters := 8,
    firstDataSector := 3, rootEntries := 16, rootDirSectors := 1 }

def sfn1 : List Nat := [72, 69, 76, 76, 79, 32, 32, 32, 84, 88, 84]     -- "HELLO   TXT"
def sfn2 : List Nat := [66, 32, 32, 32, 32, 32, 32, 32, 32, 32, 32]     -- "B          "

/-- the slots: the long-name slot of "Hello.txt", its short slot, the short slot of "B", then zeros -/
def slots : List (List Nat) :=
  lfnGenerate (Names.encodeUtf16 "Hello.txt".toList) (lfnChecksum sfn1) ++
    [(DirFileEntryData.new sfn1 0x20).serialize, (DirFileEntryData.new sfn2 0x10).serialize]

def dev : Dev := { img := Img.ofBytes (List.replicate 1024 0 ++ slots.flatten) 8192, fs := fs }

end Ex

/-- the hypotheses hold of the example device (16 slots) -/
theorem Ex.readable : RootReadable Ex.dev 16 := ⟨rfl, by decide, by decide, by decide⟩

theorem Ex.root_slots : rootDirSlots Ex.dev.fs Ex.dev.img = Ex.slots ++ List.replicate 13 DirSlots.zeroSlot :=
  rootDirSlots_ofBytes _ (List.replicate 1024 0 ++ Ex.slots.flatten) _ (by decide) _ (by decide +kernel)

/-- the run of `listDir` on it, evaluated, IS the pure listing of its root slots mapped to the library's entries: two
    entries, the first carrying the 9 UTF-16 units of "Hello.txt" collected from the long-name slot before it -/
example : (run (listDir (rootAt Ex.dev.fs 0)) Ex.dev).1 =
      .ok ((DirSlots.listing (rootDirSlots Ex.dev.fs Ex.dev.img)).map (toDirEntry (rootSliceOf Ex.dev.fs).beginOff)) ∧
    ((DirSlots.listing (rootDirSlots Ex.dev.fs Ex.dev.img)).map (·.units)) =
      [Names.encodeUtf16 "Hello.txt".toList, []] := by
  obtain ⟨d', hr, _⟩ := listDir_root_listing Ex.readable rfl
  refine ⟨by rw [hr], ?_⟩
  rw [Ex.root_slots]
  decide +kernel

/-! ## `check_for_existence` and path walks (both kinds of directory) -/

/-- the fixed root directory as a `DirView` -/
def DirView.ofRoot {d : Dev} {N : Nat} (h : RootReadable d N) : DirView d (rootAt d.fs 0) where
  S := fun o => .root (sliceAt (rootSliceOf d.fs) o)
  N := N
  src := fun o => (rootSliceOf d.fs).beginOff + o
  room := fun o => (rootSliceOf d.fs).size - o
  start := rfl
  dir := root_dirSrc (rootSliceOf d.fs) N h.slots d h.noFault h.inside
  fuel := h.fuel

/-- a cluster-chain directory as a `DirView` -/
def DirView.ofChain {d : Dev} {c0 : Nat} {ent : Option DirEntryEditor} {chain : List Nat}
    (h : ChainReadable d c0 ent chain) : DirView d (.file (FileH.new (some c0) ent)) where
  S := chainS (FileH.new (some c0) ent) chain d.fs.clusterSize
  N := chain.length * (d.fs.clusterSize / 32)
  src := chainSrc d.fs chain
  room := chainRoom d.fs chain
  start := rfl
  dir := h.dir.dirSrc
  fuel := h.fuel

/-- **`checkForExistence_root_sim`**: `check_for_existence(name, is_dir)` on the root directory does what
    `DirAlias.checkForExistenceL` computes from the root slots of the image — the existing entry, the alias chosen
    (the one the C16 theorems `dir_alias_fresh`, `dir_alias_legal`, `dir_alias_display_free` are about), or its error -/
theorem checkForExistence_root_sim {d : Dev} {N : Nat} (h : RootReadable d N) (ha : d.fs.lfnAlloc = true) (env : Env)
    (name : String) (isDir : Option Bool) :
    Outcome (checkForExistence env (rootAt d.fs 0) name isDir) d (liftEOA (fun o => (rootSliceOf d.fs).beginOff + o))
      (DirAlias.checkForExistenceL env.upper
        (srcSlots d.img (fun o => (rootSliceOf d.fs).beginOff + o) N) name isDir 70000) :=
  (root_dirSrc (rootSliceOf d.fs) N h.slots d h.noFault h.inside).checkForExistence_sim h.fuel ha env name isDir d
    (SameVol.refl d)

/-- **`checkForExistence_chain_sim`** -/
theorem checkForExistence_chain_sim {d : Dev} {c0 : Nat} {ent : Option DirEntryEditor} {chain : List Nat}
    (h : ChainReadable d c0 ent chain) (ha : d.fs.lfnAlloc = true) (env : Env) (name : String) (isDir : Option Bool) :
    Outcome (checkForExistence env (.file (FileH.new (some c0) ent)) name isDir) d (liftEOA (chainSrc d.fs chain))
      (DirAlias.checkForExistenceL env.upper (chainSlots d.fs d.img chain) name isDir 70000) := by
  rw [← h.slots_eq]
  exact h.dir.dirSrc.checkForExistence_sim h.fuel ha env name isDir d (SameVol.refl d)

/-! the slots of the views (`DirView.lfnEntries`, `lookup`, `check`, `isEmptyV`, `WView.slots` are functions of them) -/

theorem DirView.slots_ofRoot {d : Dev} {N : Nat} (h : RootReadable d N) :
    srcSlots d.img (DirView.ofRoot h).src (DirView.ofRoot h).N = rootDirSlots d.fs d.img :=
  srcSlots_root h

theorem DirView.slots_ofChain {d : Dev} {c0 : Nat} {ent : Option DirEntryEditor} {chain : List Nat}
    (h : ChainReadable d c0 ent chain) :
    srcSlots d.img (DirView.ofChain h).src (DirView.ofChain h).N = chainSlots d.fs d.img chain :=
  h.slots_eq

/-- the fixed root directory of a readable device as a `WView` (cf. `DirView.ofRoot`) -/
def RootReadable.wview {d : Dev} {N : Nat} (h : RootReadable d N) (hB : 0x42 ≤ (rootSliceOf d.fs).beginOff) (hwf : d.img.WF) :
    WView d (rootAt d.fs 0) :=
  WView.ofRoot (rootSliceOf d.fs) N h.slots rfl rfl hB d h.noFault h.inside hwf h.fuel

theorem WView.slots_ofRoot {d : Dev} {N : Nat} (h : RootReadable d N) (hB : 0x42 ≤ (rootSliceOf d.fs).beginOff)
    (hwf : d.img.WF) : (h.wview hB hwf).slots d.img = rootDirSlots d.fs d.img :=
  srcSlots_root h

open FatVerif.FileSim in
theorem WView.slots_ofSub {d : Dev} {c0 : Nat} {ed0 : DirEntryEditor} {chain : List Nat}
    (C : ChainDir d (FileH.new (some c0) (some ed0)) c0 chain) (hwf : d.img.WF)
    (hfuel : chain.length * (d.fs.clusterSize / 32) < dirFuel d.fs) (hname : ed0.data.name.length = 11)
    (hepos : (fatSliceOf d.fs).beginOff + (fatSliceOf d.fs).mirrors * (fatSliceOf d.fs).size ≤ ed0.pos)
    (hein : ed0.pos + 32 ≤ d.img.size)
    (heout : ∀ i, i < chain.length * (d.fs.clusterSize / 32) →
      chainSrc d.fs chain (32 * i) + 32 ≤ ed0.pos ∨ ed0.pos + 32 ≤ chainSrc d.fs chain (32 * i)) :
    (WView.ofSub d c0 ed0 chain C hwf hfuel hname hepos hein heout).slots d.img = chainSlots d.fs d.img chain :=
  srcSlots_chain d.fs d.img C.geo.cs_pos C.cs32 chain

/-! ## WRITES: removing an entry from the fixed root directory

`deleteEntry` (the slot-deleting loop of `remove` and `rename`: read a slot, `set_deleted`, seek back, write it, for
every slot of the entry) is simulated by `DirSlots.deleteRange` on the root slots of the image. The statement is about
the image AFTER the run (the bytes behind the status byte): the image must be well formed (`Img.WF`: all pages have the
page size — true of `Img.empty` and preserved by every run) and the root region must lie behind the status byte. -/

open FatVerif.FileSim in
theorem rootSliceOf_geomEq {a b : FsState} (h : FsGeomEq a b) : rootSliceOf b = rootSliceOf a := by rw [h]; rfl

open FatVerif.FileSim in
/-- **`deleteEntry_root_sim`**: for a listed entry `le`, `deleteEntry(root, entry)` succeeds on a fault-free
    device; afterwards the root slots of the image are `DirSlots.deleteRange` of the slots before over the slot range
    of the entry, the volume is marked dirty, the bytes from `0x42` on outside the root region are untouched, and the
    root directory is readable again (so the read theorems above apply to the new device) -/
theorem deleteEntry_root_sim {d : Dev} {N : Nat} (h : RootReadable d N) (hwf : d.img.WF)
    (hB : 0x42 ≤ (rootSliceOf d.fs).beginOff) (le : LfnEntry)
    (hmem : le ∈ readDirEntries d.fs.lfnAlloc true (rootDirSlots d.fs d.img)) :
    ∃ d', run (deleteEntry (rootAt d.fs 0) (toDirEntry (rootSliceOf d.fs).beginOff le)) d = (.ok (), d') ∧
      rootDirSlots d'.fs d'.img = DirSlots.deleteRange (rootDirSlots d.fs d.img) le.beginIdx le.endIdx ∧
      d'.fs.curDirty = true ∧ d'.img.WF ∧ RootReadable d' N ∧
      (∀ q, 0x42 ≤ q → ¬ ((rootSliceOf d.fs).beginOff ≤ q ∧ q < (rootSliceOf d.fs).beginOff + (rootSliceOf d.fs).size) →
        d'.img.getByte q = d.img.getByte q) := by
  have hb := readLoop_bounds d.fs.lfnAlloc true (rootDirSlots d.fs d.img) 0 0 _ (Nat.le_refl _) le hmem
  have hsl0 := srcSlots_root h
  obtain ⟨d', hr, hs, hd, _, hsl, hfr, _⟩ := (h.wview hB hwf).deleteEntry_sim d ⟨h.noFault, h.inside, hwf, FileSim.FsGeomEq.refl _, h.fuel⟩ le (by
      show le ∈ readDirEntries d.fs.lfnAlloc true (srcSlots d.img (fun o => (rootSliceOf d.fs).beginOff + o) N)
      rw [hsl0]; exact hmem)
  have hsl' : srcSlots d'.img (fun o => (rootSliceOf d.fs).beginOff + o) N =
      DirSlots.deleteRange (srcSlots d.img (fun o => (rootSliceOf d.fs).beginOff + o) N) le.beginIdx le.endIdx := hsl
  have hfr' : FrameOutE N (fun o => (rootSliceOf d.fs).beginOff + o) (fun _ => False) d d' := hfr
  have hg := rootSliceOf_geomEq hs.geom
  have hR' : RootReadable d' N := ⟨by rw [hs.failAt]; exact h.noFault, by rw [hg, hs.size]; exact h.inside,
    by rw [hg]; exact h.slots, by rw [dirFuel_geom hs.geom]; exact h.fuel⟩
  refine ⟨d', by rw [← toDirEntryS_root _ le (by omega)]; exact hr, ?_, hd, hs.wf hwf, hR', fun q hq hn =>
    hfr' q hq (fun i hi (hc : (rootSliceOf d.fs).beginOff + 32 * i ≤ q ∧ q < (rootSliceOf d.fs).beginOff + 32 * i + 32) =>
      hn ⟨by omega, by have := h.slots; omega⟩) (fun hf => hf)⟩
  rw [← srcSlots_root hR', hg, hsl', hsl0]

/-! ## WRITES: `write_entry` and `create_file` in the fixed root directory -/

/-- a device after a root-directory write: readable again -/
theorem RootReadable.of_volStep {d d' : Dev} {N : Nat} (h : RootReadable d N) (hs : VolStep d d') : RootReadable d' N :=
  ⟨by rw [hs.failAt]; exact h.noFault, by rw [rootSliceOf_geomEq hs.geom, hs.size]; exact h.inside,
   by rw [rootSliceOf_geomEq hs.geom]; exact h.slots, by rw [dirFuel_geom hs.geom]; exact h.fuel⟩

/-- **`writeEntry_root_sim`**: `write_entry(name, raw)` for an ordinary valid name whose slots fit into the root
    region (`find_free_entries` position + number of slots ≤ `N`; otherwise the call fails — not covered) succeeds;
    the root slots of the image afterwards are `DirSlots.writeEntry` of those before, with the UTF-16 units of the name
    and the serialised short record -/
theorem writeEntry_root_sim {d : Dev} {N : Nat} (h : RootReadable d N) (hwf : d.img.WF)
    (hB : 0x42 ≤ (rootSliceOf d.fs).beginOff) (name : String) (raw : DirFileEntryData)
    (hval : Names.validateLongName name = .ok ()) (hdot : (name = "." || name = "..") = false) (hraw : raw.WF)
    (hfit : DirSlots.findFree (rootDirSlots d.fs d.img) (Lfn.numParts (Names.encodeUtf16 name.toList).length + 1) +
      (Lfn.numParts (Names.encodeUtf16 name.toList).length + 1) ≤ N) :
    ∃ (d' : Dev) (e : DirEntry), run (writeEntry (rootAt d.fs 0) name raw) d = (.ok e, d') ∧
      e.data = raw ∧ e.lfn = Names.encodeUtf16 name.toList ∧
      rootDirSlots d'.fs d'.img =
        DirSlots.writeEntry (rootDirSlots d.fs d.img) (Names.encodeUtf16 name.toList) raw.serialize ∧
      d'.fs.curDirty = true ∧ d'.img.WF ∧ RootReadable d' N := by
  have hsl0 := srcSlots_root h
  rw [← hsl0] at hfit
  obtain ⟨d', hr, hs, hd, _, hsl, _⟩ := (root_wfam (fs0 := d.fs) h.slots rfl rfl hB).writeEntry rootInv_ok
    (root_slotGeo hB) (root_wfam h.slots rfl rfl hB) (root_wops h.slots) name raw hval hdot hraw d
    ⟨h.noFault, h.inside, hwf, FileSim.FsGeomEq.refl _, h.fuel⟩ hfit
  have hR' := h.of_volStep hs
  refine ⟨d', _, hr, rfl, rfl, ?_, hd, hs.wf hwf, hR'⟩
  rw [← srcSlots_root hR', rootSliceOf_geomEq hs.geom, hsl, hsl0]

/-- **`createFile_root_sim`** (end to end, single-component path, free name, `alloc` feature): the alias is the one
    `DirAlias.checkForExistenceL` chooses from the root slots of the image — the alias of the C16 theorems —, the short
    record is `sfnAt` (attributes 0, no cluster, the three time stamps from the clock), and the root slots afterwards
    are `DirSlots.writeEntry` of those before -/
theorem createFile_root_sim {d : Dev} {N : Nat} (h : RootReadable d N) (hwf : d.img.WF)
    (hB : 0x42 ≤ (rootSliceOf d.fs).beginOff) (ha : d.fs.lfnAlloc = true) (env : Env) (path name : String)
    (hsp : Names.splitPath path = (name, none)) (hdot : (name = "." || name = "..") = false)
    (hval : Names.validateLongName name = .ok ()) (a : List Nat)
    (hchk : DirAlias.checkForExistenceL env.upper (rootDirSlots d.fs d.img) name (some false) 70000 = .ok (.alias a))
    (hfit : DirSlots.findFree (rootDirSlots d.fs d.img) (Lfn.numParts (Names.encodeUtf16 name.toList).length + 1) +
      (Lfn.numParts (Names.encodeUtf16 name.toList).length + 1) ≤ N) (fuel : Nat) :
    ∃ (d' : Dev) (e : DirEntry), run (createFile env (fuel + 1) (rootAt d.fs 0) path) d =
        (.ok (FileH.new (e.firstCluster d.fs) (some e.editor)), d') ∧
      e.data = sfnAt d.fs d.clock a 0 none ∧ e.lfn = Names.encodeUtf16 name.toList ∧
      rootDirSlots d'.fs d'.img = DirSlots.writeEntry (rootDirSlots d.fs d.img) (Names.encodeUtf16 name.toList)
        (sfnAt d.fs d.clock a 0 none).serialize ∧
      d'.fs.curDirty = true ∧ d'.img.WF ∧ RootReadable d' N := by
  have hsl0 := srcSlots_root h
  rw [← hsl0] at hfit hchk
  obtain ⟨d', e, hr, he1, he2, hs, hd, _, hsl, _⟩ := (root_wfam (fs0 := d.fs) h.slots rfl rfl hB).createFile rootInv_ok
    (root_slotGeo hB) (root_wfam h.slots rfl rfl hB) (root_wops h.slots) env path name hsp hdot hval d
    ⟨h.noFault, h.inside, hwf, FileSim.FsGeomEq.refl _, h.fuel⟩ ha a hchk hfit fuel
  have hR' := h.of_volStep hs
  refine ⟨d', e, hr, he1, he2, ?_, hd, hs.wf hwf, hR'⟩
  rw [← srcSlots_root hR', rootSliceOf_geomEq hs.geom, hsl, hsl0]

/-! ## WRITES: a cluster-chain directory without a directory entry (the root of FAT32), inside its allocated clusters

Generic layer: Proofs/DirWriteFamily (`WFam`, `WOps`; the fixed root and the chain directories share the proofs from
`write_all` up). `File::write` marks the volume dirty (`set_dirty_flag(true)`), finds the cluster through the FAT at a
cluster boundary, and writes to the raw storage; `seek` back over a slot walks the chain from its start when the slot
was the first of a cluster. Growth (a write at the end of the chain allocates a cluster) and directories WITH an entry
(sub-directories: the write stamps the directory's own entry, which the clone's destructor writes back) have sections of
their own below. -/

open FatVerif.FileSim in
theorem ChainReadable.inv {d : Dev} {c0 : Nat} {chain : List Nat} (h : ChainReadable d c0 none chain) (hwf : d.img.WF) :
    ChainInv d.fs (FileH.new (some c0) none) c0 chain d :=
  ⟨h.dir, hwf, FsGeomEq.refl _, h.fuel⟩

open FatVerif.FileSim in
theorem ChainReadable.of_inv {d d' : Dev} {c0 : Nat} {chain : List Nat}
    (h : ChainInv d.fs (FileH.new (some c0) none) c0 chain d') : ChainReadable d' c0 none chain :=
  ⟨h.dir, by rw [h.geom.clusterSize, dirFuel_geom h.geom]; exact h.fuel⟩

open FatVerif.FileSim in
theorem chainSlots_of_inv {d d' : Dev} {c0 : Nat} {chain : List Nat}
    (h : ChainInv d.fs (FileH.new (some c0) none) c0 chain d') :
    chainSlots d'.fs d'.img chain =
      srcSlots d'.img (chainSrc d.fs chain) (chain.length * (d.fs.clusterSize / 32)) := by
  rw [← srcSlots_chain d'.fs d'.img h.dir.geo.cs_pos h.dir.cs32 chain, chainSrc_geom h.geom, h.geom.clusterSize]

/-- **`deleteEntry_chain_sim`, cluster chain without an entry** (the root of FAT32) -/
theorem deleteEntry_chain_sim {d : Dev} {c0 : Nat} {chain : List Nat} (h : ChainReadable d c0 none chain)
    (hwf : d.img.WF) (le : LfnEntry)
    (hmem : le ∈ readDirEntries d.fs.lfnAlloc true (chainSlots d.fs d.img chain)) :
    ∃ d', run (deleteEntry (.file (FileH.new (some c0) none)) (toDirEntryS (chainSrc d.fs chain) le)) d = (.ok (), d') ∧
      chainSlots d'.fs d'.img chain = DirSlots.deleteRange (chainSlots d.fs d.img chain) le.beginIdx le.endIdx ∧
      d'.fs.curDirty = true ∧ d'.img.WF ∧ ChainReadable d' c0 none chain := by
  have hinv := h.inv hwf
  have hsl0 := chainSlots_of_inv hinv
  have hb := readLoop_bounds d.fs.lfnAlloc true (chainSlots d.fs d.img chain) 0 0 _ (Nat.le_refl _) le hmem
  rw [hsl0, srcSlots_length, Nat.zero_add] at hb
  obtain ⟨k, hk⟩ : ∃ k, le.endIdx = le.beginIdx + k := ⟨le.endIdx - le.beginIdx, by omega⟩
  obtain ⟨d', hr, _, hd, hinv', hsl, _⟩ := (chain_wfam rfl).deleteEntry chainInv_ok h.dir.slotGeo (chain_wfam rfl)
    (chain_wops rfl) (toDirEntryS (chainSrc d.fs chain) le) le.beginIdx k (by omega) rfl
    (by simp only [toDirEntryS]; rw [hk]) (by omega) d hinv
  refine ⟨d', hr, ?_, hd, hinv'.wf, ChainReadable.of_inv hinv'⟩
  rw [chainSlots_of_inv hinv', hsl, hsl0, hk]

/-- **`writeEntry_chain_sim`, cluster chain without an entry**, when the entry fits into the allocated clusters -/
theorem writeEntry_chain_sim {d : Dev} {c0 : Nat} {chain : List Nat} (h : ChainReadable d c0 none chain)
    (hwf : d.img.WF) (name : String) (raw : DirFileEntryData)
    (hval : Names.validateLongName name = .ok ()) (hdot : (name = "." || name = "..") = false) (hraw : raw.WF)
    (hfit : DirSlots.findFree (chainSlots d.fs d.img chain) (Lfn.numParts (Names.encodeUtf16 name.toList).length + 1) +
      (Lfn.numParts (Names.encodeUtf16 name.toList).length + 1) ≤ chain.length * (d.fs.clusterSize / 32)) :
    ∃ (d' : Dev) (e : DirEntry), run (writeEntry (.file (FileH.new (some c0) none)) name raw) d = (.ok e, d') ∧
      e.data = raw ∧ e.lfn = Names.encodeUtf16 name.toList ∧
      chainSlots d'.fs d'.img chain =
        DirSlots.writeEntry (chainSlots d.fs d.img chain) (Names.encodeUtf16 name.toList) raw.serialize ∧
      d'.fs.curDirty = true ∧ d'.img.WF ∧ ChainReadable d' c0 none chain := by
  have hinv := h.inv hwf
  have hsl0 := chainSlots_of_inv hinv
  rw [hsl0] at hfit
  obtain ⟨d', hr, _, hd, hinv', hsl, _⟩ := (chain_wfam rfl).writeEntry chainInv_ok h.dir.slotGeo (chain_wfam rfl)
    (chain_wops rfl) name raw hval hdot hraw d hinv hfit
  refine ⟨d', _, hr, rfl, rfl, ?_, hd, hinv'.wf, ChainReadable.of_inv hinv'⟩
  rw [chainSlots_of_inv hinv', hsl, hsl0]

/-- **`createFile_chain_sim`, cluster chain without an entry** (`create_file(name)` in the root of a FAT32 volume), end to
    end -/
theorem createFile_chain_sim {d : Dev} {c0 : Nat} {chain : List Nat} (h : ChainReadable d c0 none chain)
    (hwf : d.img.WF) (ha : d.fs.lfnAlloc = true) (env : Env) (path name : String)
    (hsp : Names.splitPath path = (name, none)) (hdot : (name = "." || name = "..") = false)
    (hval : Names.validateLongName name = .ok ()) (a : List Nat)
    (hchk : DirAlias.checkForExistenceL env.upper (chainSlots d.fs d.img chain) name (some false) 70000 = .ok (.alias a))
    (hfit : DirSlots.findFree (chainSlots d.fs d.img chain) (Lfn.numParts (Names.encodeUtf16 name.toList).length + 1) +
      (Lfn.numParts (Names.encodeUtf16 name.toList).length + 1) ≤ chain.length * (d.fs.clusterSize / 32))
    (fuel : Nat) :
    ∃ (d' : Dev) (e : DirEntry), run (createFile env (fuel + 1) (.file (FileH.new (some c0) none)) path) d =
        (.ok (FileH.new (e.firstCluster d.fs) (some e.editor)), d') ∧
      e.data = sfnAt d.fs d.clock a 0 none ∧ e.lfn = Names.encodeUtf16 name.toList ∧
      chainSlots d'.fs d'.img chain = DirSlots.writeEntry (chainSlots d.fs d.img chain) (Names.encodeUtf16 name.toList)
        (sfnAt d.fs d.clock a 0 none).serialize ∧
      d'.fs.curDirty = true ∧ d'.img.WF ∧ ChainReadable d' c0 none chain := by
  have hinv := h.inv hwf
  have hsl0 := chainSlots_of_inv hinv
  rw [hsl0] at hfit hchk
  obtain ⟨d', e, hr, he1, he2, _, hd, hinv', hsl, _⟩ := (chain_wfam rfl).createFile chainInv_ok h.dir.slotGeo
    (chain_wfam rfl) (chain_wops rfl) env path name hsp hdot hval d hinv ha a hchk hfit fuel
  refine ⟨d', e, hr, he1, he2, ?_, hd, hinv'.wf, ChainReadable.of_inv hinv'⟩
  rw [chainSlots_of_inv hinv', hsl, hsl0]

/-! ## a whole operation: `remove(name)` of a file in the fixed root directory -/

open FatVerif.FileSim FatVerif.Fat in
/-- **`remove_root_file_sim`** (a file in the fixed root, single-component path): `find_entry` finds the listed entry
    `le` (a file), `free_cluster_chain` releases its chain `cs` in the FAT (every copy; `tabView` becomes
    `freedView … cs`; `run_freeClusterChain_fine`, Proofs/FileSimFatFree), `deleteEntry` marks its slots deleted.
    Hypotheses besides `RootReadable`:
    well-formed image, layout `Geo`, FS-info cache consistent (`InfoOk`), the FAT copies end before the root region,
    and `cs` is the duplicate-free chain of the entry's first cluster inside the table (`[]` if it has none) -/
theorem remove_root_file_sim {d : Dev} {N : Nat} (h : RootReadable d N) (hwf : d.img.WF)
    (hB : 0x42 ≤ (rootSliceOf d.fs).beginOff) (hgeo : Geo d.fs d.img.size) (hinfo : InfoOk d.fs d.img)
    (hout : (fatSliceOf d.fs).beginOff + (fatSliceOf d.fs).mirrors * (fatSliceOf d.fs).size ≤ (rootSliceOf d.fs).beginOff)
    (env : Env) (path name : String) (hsp : Names.splitPath path = (name, none))
    (hdot : (name = "." || name = "..") = false) (le : LfnEntry)
    (hl : lookupL env.upper name.toList none (readDirEntries d.fs.lfnAlloc true (rootDirSlots d.fs d.img)) = .ok le)
    (hfile : Lfn.isDir le.sfn = false) (cs : List Nat)
    (hcs : match (toDirEntry (rootSliceOf d.fs).beginOff le).firstCluster d.fs with
      | some n => Chain (tabView d.fs d.img) n cs ∧ cs.Nodup ∧
          ∀ x ∈ cs, 2 ≤ x ∧ x < d.fs.totalClusters + 2 ∧ tabView d.fs d.img x ≠ .free
      | none => cs = []) (fuel : Nat) :
    ∃ d', run (remove env (fuel + 1) (rootAt d.fs 0) path) d = (.ok (), d') ∧
      rootDirSlots d'.fs d'.img = DirSlots.deleteRange (rootDirSlots d.fs d.img) le.beginIdx le.endIdx ∧
      tabView d'.fs d'.img = freedView (tabView d.fs d.img) cs ∧
      d'.fs.curDirty = true ∧ d'.img.WF ∧ RootReadable d' N := by
  have hsl0 := srcSlots_root h
  obtain ⟨hmem, _, _⟩ := lookupL_ok _ _ _ _ _ hl
  have hb := readLoop_bounds d.fs.lfnAlloc true (rootDirSlots d.fs d.img) 0 0 _ (Nat.le_refl _) le hmem
  have hms : (fatSliceOf d.fs).size ≤ (fatSliceOf d.fs).mirrors * (fatSliceOf d.fs).size :=
    Nat.le_mul_of_pos_left _ hgeo.mirrors_pos
  obtain ⟨d', hr, hs, hd, _, hsl, dm, htvm, hsm, hfr, _⟩ := (h.wview hB hwf).remove_file_sim env path name hsp hdot hgeo hinfo le
    (by show lookupL env.upper name.toList none (readDirEntries d.fs.lfnAlloc true
          (srcSlots d.img (fun o => (rootSliceOf d.fs).beginOff + o) N)) = .ok le
        rw [hsl0]; exact hl) hfile cs
    (by rw [← toDirEntryS_root _ le (by omega)] at hcs; exact hcs)
    (fun d1 d2 hv _ hf => RootInv.of_freed ⟨h.noFault, h.inside, hwf, FsGeomEq.refl _, h.fuel⟩ hv hf)
    (fun i _ => Or.inr (show _ ≤ (rootSliceOf d.fs).beginOff + 32 * i by omega)) fuel
  have hsl' : srcSlots d'.img (fun o => (rootSliceOf d.fs).beginOff + o) N =
      DirSlots.deleteRange (srcSlots d.img (fun o => (rootSliceOf d.fs).beginOff + o) N) le.beginIdx le.endIdx := hsl
  have hfr' : FrameOutE N (fun o => (rootSliceOf d.fs).beginOff + o) (fun _ => False) dm d' := hfr
  have hR' := h.of_volStep hs
  refine ⟨d', hr, by rw [← srcSlots_root hR', rootSliceOf_geomEq hs.geom, hsl', hsl0], ?_, hd, hs.wf hwf, hR'⟩
  rw [hs.geom.tabView, tabView_congr (sz := dm.img.size) (by rw [hsm.size]; exact hgeo)
    (fatAgree_of_frameE hfr' d.fs hgeo.status_lt (fun j _ => by omega) (fun _ hf => hf.elim)), ← hsm.geom.tabView, htvm]

/-! ## WRITES: GROWTH of a cluster-chain directory by one cluster

When the new entry does not fit into the allocated clusters of the directory but fits after one more, `File::write` at
the end of the chain allocates a cluster (`alloc_cluster(Some(last), zero = true)`:
`run_allocClusterFs_any`, Proofs/FileSimFatAlloc), links it behind the last cluster of the chain, zero-fills it and
continues there (Proofs/DirWriteGrow). -/

open FatVerif.FileSim FatVerif.Fat in
/-- **`writeEntry_chain_grow_sim`, cluster chain without an entry** (the root of FAT32): `c` is the cluster the
    allocator finds (`allocFindV` on the decoded FAT of the image and the FS-info hint), `last` the last cluster of
    the chain (not free). Afterwards the directory has the chain `chain ++ [c]`, the FAT of the image is
    `allocLinkV … (some last) c` (part of `ChainReadable` of the new device through its `Chain`), and its slots are
    `DirSlots.writeEntry` of the old ones followed by the zero slots that remain in the new cluster -/
theorem writeEntry_chain_grow_sim {d : Dev} {c0 : Nat} {chain : List Nat} (h : ChainReadable d c0 none chain)
    (hwf : d.img.WF) (hinfo : InfoOk d.fs d.img) (c last : Nat) (hlast : chain.getLast? = some last)
    (hlv : tabView d.fs d.img last ≠ .free)
    (hfind : allocFindV (tabView d.fs d.img) d.fs.fsInfo.next d.fs.totalClusters = some c)
    (hu32 : (chain.length + 1) * d.fs.clusterSize < 4294967296)
    (hfuel' : (chain.length + 1) * (d.fs.clusterSize / 32) < dirFuel d.fs)
    (name : String) (raw : DirFileEntryData) (hval : Names.validateLongName name = .ok ())
    (hdot : (name = "." || name = "..") = false) (hraw : raw.WF) (hlfn : attrsIsLfn raw.attrs = false)
    (hgrow : chain.length * (d.fs.clusterSize / 32) <
      DirSlots.findFree (chainSlots d.fs d.img chain) (Lfn.numParts (Names.encodeUtf16 name.toList).length + 1) +
        (Lfn.numParts (Names.encodeUtf16 name.toList).length + 1))
    (hfit : DirSlots.findFree (chainSlots d.fs d.img chain) (Lfn.numParts (Names.encodeUtf16 name.toList).length + 1) +
        (Lfn.numParts (Names.encodeUtf16 name.toList).length + 1) ≤
      chain.length * (d.fs.clusterSize / 32) + d.fs.clusterSize / 32) :
    ∃ (d' : Dev) (e : DirEntry), run (writeEntry (.file (FileH.new (some c0) none)) name raw) d = (.ok e, d') ∧
      e.data = raw ∧ e.lfn = Names.encodeUtf16 name.toList ∧
      chainSlots d'.fs d'.img (chain ++ [c]) =
        DirSlots.writeEntry (chainSlots d.fs d.img chain) (Names.encodeUtf16 name.toList) raw.serialize ++
          List.replicate (chain.length * (d.fs.clusterSize / 32) + d.fs.clusterSize / 32 -
            (DirSlots.findFree (chainSlots d.fs d.img chain) (Lfn.numParts (Names.encodeUtf16 name.toList).length + 1) +
              (Lfn.numParts (Names.encodeUtf16 name.toList).length + 1))) DirSlots.zeroSlot ∧
      d'.fs.curDirty = true ∧ d'.img.WF ∧ ChainReadable d' c0 none (chain ++ [c]) := by
  have hinv := h.inv hwf
  have hsl0 := chainSlots_of_inv hinv
  rw [hsl0] at hgrow hfit
  obtain ⟨d', e, hr, he, _, hd, hinv', hsl, _⟩ := (chainKind (fs0 := d.fs) (f0 := FileH.new (some c0) none) (c0 := c0)
    rfl).writeEntry_grow rfl rfl c last name raw hval hdot hraw hlfn d hinv hinfo hlast hlv hfind hu32 hfuel'
    (fun _ _ _ _ hf => hf) (fun _ _ _ _ hf => hf) _ _ rfl rfl hgrow hfit
  have hdata : e.data = raw := by
    rw [he]
    have := writeEntry_result (chainSrc d.fs (chain ++ [c])) raw hraw hlfn (Names.encodeUtf16 name.toList) 0 1
    simp only [toDirEntryS] at this ⊢
    injection this with h1
    exact h1.symm
  refine ⟨d', e, hr, hdata, by rw [he]; rfl, ?_, hd, hinv'.wf, ChainReadable.of_inv hinv'⟩
  rw [chainSlots_of_inv hinv', hsl0]
  have hNK : (chain ++ [c]).length * (d.fs.clusterSize / 32) =
      chain.length * (d.fs.clusterSize / 32) + d.fs.clusterSize / 32 := by
    rw [List.length_append, List.length_singleton, Nat.add_mul, Nat.one_mul]
  rw [hNK]
  exact hsl

/-! ## carrying the OTHER directories over a write

After a write into one directory (`VolStep d d'` + the frame `FrameOutG`), every other directory is readable on the new
device, with the same slot geometry: -/

open FatVerif.FileSim in
/-- a cluster-chain directory (any handle) stays readable across a step that keeps fault schedule, size, geometry and
    the first FAT copy -/
theorem ChainReadable.of_volStep {d d' : Dev} {c0 : Nat} {ent : Option DirEntryEditor} {chain : List Nat}
    (h : ChainReadable d c0 ent chain) (hs : VolStep d d') (hfat : FatAgree d.fs d.img d'.img) :
    ChainReadable d' c0 ent chain :=
  ⟨h.dir.of_agree hs.failAt hs.size hs.geom hfat, by
    rw [hs.geom.clusterSize, dirFuel_geom hs.geom]; exact h.fuel⟩

open FatVerif.FileSim in
/-- … and its slot offsets on the device are the same function -/
theorem chainSrc_of_volStep {d d' : Dev} (hs : VolStep d d') (chain : List Nat) :
    chainSrc d'.fs chain = chainSrc d.fs chain := chainSrc_geom hs.geom chain

/-! ## non-vacuity: a sub-directory of two clusters (the listing crosses the cluster boundary through the FAT) -/

namespace Ex2

/-- geometry: 512-byte sectors and clusters, FAT = sector 1, root region = sector 2, clusters 2..5 = sectors 3..6 -/
def fs : FsState :=
  { fatType := .fat16, bps := 512, spc := 1, reserved := 1, fats := 1, spf := 1, totalClusters := 4,
    firstDataSector := 3, rootEntries := 16, rootDirSectors := 1 }

def deleted : List Nat := 0xE5 :: List.replicate 31 0

/-- FAT: cluster 2 → 3 → end of chain. Cluster 2: the short slot of "B" and 15 deleted slots; cluster 3: the long-name
    slot of "Hello.txt" and its short slot, then zeros -/
def bytes : List Nat :=
  List.replicate 512 0 ++
  ([0xF8, 0xFF, 0xFF, 0xFF, 3, 0, 0xFF, 0xFF] ++ List.replicate 504 0) ++
  List.replicate 512 0 ++
  ((DirFileEntryData.new Ex.sfn2 0x10).serialize ++ (List.replicate 15 deleted).flatten) ++
  ((lfnGenerate (Names.encodeUtf16 "Hello.txt".toList) (lfnChecksum Ex.sfn1)).flatten ++
    (DirFileEntryData.new Ex.sfn1 0x20).serialize)

def dev : Dev := { img := Img.ofBytes bytes 4096, fs := fs }

end Ex2

/-- the slots of clusters 2 and 3 (also in `Ex3`, `Ex5`, `Ex7`) -/
def Ex2.slots : List (List Nat) :=
  (DirFileEntryData.new Ex.sfn2 0x10).serialize :: List.replicate 15 Ex2.deleted ++
    lfnGenerate (Names.encodeUtf16 "Hello.txt".toList) (lfnChecksum Ex.sfn1) ++
    (DirFileEntryData.new Ex.sfn1 0x20).serialize :: List.replicate 14 DirSlots.zeroSlot

open FatVerif.FileSim FatVerif.Fat in
/-- the layout of all example volumes but `Ex` and `Ex4` -/
theorem Ex2.geo : Geo Ex2.fs 4096 :=
  ⟨by decide, by decide, by decide, by decide, by decide, by decide, by decide, by decide, by decide, by decide, by decide⟩

open FatVerif.Fat in
/-- in the FAT of `Ex2` (`Ex3`, `Ex5`, `Ex7`) the chain of cluster 2 is `[2, 3]` -/
theorem Ex2.chain {g : Nat → FatValue} (h : g = ([.eoc, .eoc, .data 3, .eoc, .free, .free].getD · .bad)) :
    Chain g 2 [2, 3] := by
  subst h
  exact Chain.cons 2 3 [3] rfl (Chain.last 3 (fun n hn => by cases hn))

open FatVerif.FileSim in
theorem Ex2.fat : tabView Ex2.dev.fs Ex2.dev.img = ([.eoc, .eoc, .data 3, .eoc, .free, .free].getD · .bad) :=
  tabView_ofBytes _ Ex2.bytes _ rfl (by decide) _ (by decide +kernel)

open FatVerif.FileSim FatVerif.Fat in
/-- the hypotheses hold of the example: the directory starting at cluster 2 has the chain `[2, 3]` -/
theorem Ex2.readable : ChainReadable Ex2.dev 2 none [2, 3] :=
  ⟨⟨rfl, Ex2.geo, rfl, Ex2.chain Ex2.fat, by decide, rfl, Or.inr rfl, (fun e he => by cases he), by decide, by decide⟩,
    by decide⟩

theorem Ex2.chain_slots : chainSlots Ex2.dev.fs Ex2.dev.img [2, 3] = Ex2.slots :=
  chainSlots_ofBytes _ Ex2.bytes _ _ (by decide) _ (by decide +kernel)

/-- the run of `listDir` on it IS the pure listing of the slots of clusters 2 and 3: "B", then (from cluster 3, reached
    through the FAT) the entry carrying the units of "Hello.txt"; its `entryPos` is byte 32 of cluster 3 = 2080 -/
example : (run (listDir (.file (FileH.new (some 2) none))) Ex2.dev).1 =
      .ok ((DirSlots.listing (chainSlots Ex2.dev.fs Ex2.dev.img [2, 3])).map
        (toDirEntryS (chainSrc Ex2.dev.fs [2, 3]))) ∧
    ((DirSlots.listing (chainSlots Ex2.dev.fs Ex2.dev.img [2, 3])).map (·.units)) =
      [[], Names.encodeUtf16 "Hello.txt".toList] ∧
    ((DirSlots.listing (chainSlots Ex2.dev.fs Ex2.dev.img [2, 3])).map
        (fun e => (toDirEntryS (chainSrc Ex2.dev.fs [2, 3]) e).entryPos)) = [1536, 2080] := by
  obtain ⟨d', hr, _⟩ := listDir_chain_listing Ex2.readable rfl
  refine ⟨by rw [hr], ?_⟩
  rw [Ex2.chain_slots]
  decide +kernel

/-! ## non-vacuity: a path walk from the fixed root into that sub-directory -/

namespace Ex3

def sfnSub : List Nat := [83, 85, 66, 32, 32, 32, 32, 32, 32, 32, 32]     -- "SUB        "

/-- the short record of the directory `SUB`, first cluster 2 -/
def subData : DirFileEntryData := (DirFileEntryData.new sfnSub 0x10).setFirstCluster (some 2) .fat16

/-- the volume of `Ex2` with `SUB` as the first slot of the root region (sector 2) -/
def bytes : List Nat :=
  List.replicate 512 0 ++
  ([0xF8, 0xFF, 0xFF, 0xFF, 3, 0, 0xFF, 0xFF] ++ List.replicate 504 0) ++
  (subData.serialize ++ List.replicate 480 0) ++
  ((DirFileEntryData.new Ex.sfn2 0x10).serialize ++ (List.replicate 15 Ex2.deleted).flatten) ++
  ((lfnGenerate (Names.encodeUtf16 "Hello.txt".toList) (lfnChecksum Ex.sfn1)).flatten ++
    (DirFileEntryData.new Ex.sfn1 0x20).serialize)

def dev : Dev := { img := Img.ofBytes bytes 4096, fs := Ex2.fs }

def env : Env := ⟨fun c => [c.toUpper]⟩

/-- the entry of `SUB` as the library reads it from the root -/
def subE : DirEntry := { data := subData, lfn := [], entryPos := 1024, rangeBegin := 0, rangeEnd := 32 }

/-- the entry of `Hello.txt` as the library reads it from `SUB`: slots 16 (long name) and 17 (short record, at byte 32
    of cluster 3) -/
def fileE : DirEntry :=
  { data := DirFileEntryData.new Ex.sfn1 0x20, lfn := Names.encodeUtf16 "Hello.txt".toList, entryPos := 2080,
    rangeBegin := 512, rangeEnd := 576 }

end Ex3

theorem Ex3.root : RootReadable Ex3.dev 16 := ⟨rfl, by decide, by decide, by decide⟩

open FatVerif.FileSim in
theorem Ex3.fat : tabView Ex3.dev.fs Ex3.dev.img = ([.eoc, .eoc, .data 3, .eoc, .free, .free].getD · .bad) :=
  tabView_ofBytes _ Ex3.bytes _ rfl (by decide) _ (by decide +kernel)

open FatVerif.FileSim FatVerif.Fat in
theorem Ex3.sub : ChainReadable Ex3.dev 2 (some Ex3.subE.editor) [2, 3] :=
  ⟨⟨rfl, Ex2.geo, rfl, Ex2.chain Ex3.fat, by decide, by decide, Or.inl rfl, (fun e he => by cases he; rfl), by decide,
    by decide⟩, by decide⟩

theorem Ex3.root_slots :
    rootDirSlots Ex3.dev.fs Ex3.dev.img = Ex3.subData.serialize :: List.replicate 15 DirSlots.zeroSlot :=
  rootDirSlots_ofBytes _ Ex3.bytes _ (by decide) _ (by decide +kernel)

theorem Ex3.chain_slots : chainSlots Ex3.dev.fs Ex3.dev.img [2, 3] = Ex2.slots :=
  chainSlots_ofBytes _ Ex3.bytes _ _ (by decide) _ (by decide +kernel)

theorem Ex3.sub_stream : DirEntry.dirStream Ex3.dev.fs Ex3.subE = .file (FileH.new (some 2) (some Ex3.subE.editor)) := by
  decide +kernel

/-- the pure resolution of `SUB/hello.TXT` (names match ignoring case) from the root finds the file entry in cluster 3 -/
theorem Ex3.resolves :
    ResolvesTo Ex3.dev Ex3.env (some false) 3 (rootAt Ex3.dev.fs 0) "SUB/hello.TXT" Ex3.fileE := by
  have h1 : (DirView.ofRoot Ex3.root).lookup Ex3.env "SUB" (some true) = .ok Ex3.subE := by
    unfold DirView.lookup DirView.lfnEntries
    rw [DirView.slots_ofRoot, Ex3.root_slots]
    decide +kernel
  have h2 : (DirView.ofChain Ex3.sub).lookup Ex3.env "hello.TXT" (some false) = .ok Ex3.fileE := by
    unfold DirView.lookup DirView.lfnEntries
    rw [DirView.slots_ofChain, Ex3.chain_slots]
    decide +kernel
  refine ResolvesTo.step (name := "SUB") (rest := "hello.TXT") (by decide +kernel) (DirView.ofRoot Ex3.root) h1 ?_
  rw [Ex3.sub_stream]
  exact ResolvesTo.last (name := "hello.TXT") (by decide +kernel) (DirView.ofChain Ex3.sub) h2

/-- … so (`openFile_sim`) `open_file("SUB/hello.TXT")` on the root returns the handle of that file, keeping the volume -/
example : Reads (openFile Ex3.env 3 (rootAt Ex3.dev.fs 0) "SUB/hello.TXT") Ex3.dev
    (FileH.new (Ex3.fileE.firstCluster Ex3.dev.fs) (some Ex3.fileE.editor)) :=
  openFile_sim Ex3.resolves Ex3.dev (SameVol.refl _)

/-! ## non-vacuity: removing "Hello.txt" (slots 0–1) from the root directory of `Ex` -/

namespace Ex4
/-- the volume of `Ex`, its first page filled up to the page size (a well-formed image) -/
def bytes : List Nat := List.replicate 1024 0 ++ Ex.slots.flatten ++ List.replicate (4096 - 1024 - 96) 0
def dev : Dev := { img := Img.ofBytes bytes 8192, fs := Ex.fs }
/-- the listed entry of "Hello.txt": long-name slot 0, short slot 1 -/
def hello : LfnEntry := ⟨(DirFileEntryData.new Ex.sfn1 0x20).serialize, Names.encodeUtf16 "Hello.txt".toList, 0, 2⟩
end Ex4

theorem Ex4.readable : RootReadable Ex4.dev 16 := ⟨rfl, by decide, by decide, by decide⟩

theorem Ex4.wf : Ex4.dev.img.WF :=
  Img.ofBytes_wf _ _ (by simp only [Ex4.bytes, List.length_append, List.length_replicate]; decide +kernel)

theorem Ex4.root_slots : rootDirSlots Ex4.dev.fs Ex4.dev.img = Ex.slots ++ List.replicate 13 DirSlots.zeroSlot :=
  rootDirSlots_ofBytes _ Ex4.bytes _ (by decide) _ (by decide +kernel)

open FatVerif.FileSim in
theorem Ex4.fat : tabView Ex4.dev.fs Ex4.dev.img = ((List.replicate 10 .free).getD · .bad) :=
  tabView_ofBytes _ Ex4.bytes _ rfl (by decide) _ (by decide +kernel)

/-- the hypotheses of `deleteEntry_root_sim` hold of `Ex4.dev` and the entry of "Hello.txt"; the slots it predicts for
    the image after the run: slots 0 and 1 marked deleted (first byte `0xE5`), "B" still listed -/
example : 0x42 ≤ (rootSliceOf Ex4.dev.fs).beginOff ∧
    Ex4.hello ∈ readDirEntries Ex4.dev.fs.lfnAlloc true (rootDirSlots Ex4.dev.fs Ex4.dev.img) ∧
    ((DirSlots.deleteRange (rootDirSlots Ex4.dev.fs Ex4.dev.img) 0 2).take 3).map (·.getD 0 0) = [0xE5, 0xE5, 66] ∧
    (DirSlots.listing (DirSlots.deleteRange (rootDirSlots Ex4.dev.fs Ex4.dev.img) 0 2)).map (fun e => Lfn.sfnName e.sfn)
      = [Ex.sfn2] := by
  rw [Ex4.root_slots]
  decide +kernel

/-- … and the theorem applied to it -/
example : ∃ d', run (deleteEntry (rootAt Ex4.dev.fs 0) (toDirEntry (rootSliceOf Ex4.dev.fs).beginOff Ex4.hello)) Ex4.dev
      = (.ok (), d') ∧
    rootDirSlots d'.fs d'.img = DirSlots.deleteRange (rootDirSlots Ex4.dev.fs Ex4.dev.img) 0 2 ∧
    d'.fs.curDirty = true := by
  obtain ⟨d', h1, h2, h3, _⟩ := deleteEntry_root_sim Ex4.readable Ex4.wf (by decide) Ex4.hello
    (by rw [Ex4.root_slots]; decide +kernel)
  exact ⟨d', h1, h2, h3⟩

/-- the hypotheses of `createFile_root_sim` hold of `Ex4.dev` and the new name "New file.txt": the alias chosen from
    the root slots is `NEWFIL~1TXT`, the entry (2 slots) goes to slots 3–4 (from the first end marker on), which fits -/
example :
    Names.splitPath "New file.txt" = ("New file.txt", none) ∧ Names.validateLongName "New file.txt" = .ok () ∧
    DirAlias.checkForExistenceL Ex3.env.upper (rootDirSlots Ex4.dev.fs Ex4.dev.img) "New file.txt" (some false) 70000 =
      .ok (.alias [78, 69, 87, 70, 73, 76, 126, 49, 84, 88, 84]) ∧
    DirSlots.findFree (rootDirSlots Ex4.dev.fs Ex4.dev.img)
      (Lfn.numParts (Names.encodeUtf16 "New file.txt".toList).length + 1) = 3 ∧
    Lfn.numParts (Names.encodeUtf16 "New file.txt".toList).length + 1 = 2 := by
  rw [Ex4.root_slots]
  decide +kernel

/-! ## non-vacuity: deleting "B" from the two-cluster directory of `Ex2` (image filled up to the page size) -/

namespace Ex5
def bytes : List Nat := Ex2.bytes ++ List.replicate (4096 - Ex2.bytes.length) 0
def dev : Dev := { img := Img.ofBytes bytes 4096, fs := Ex2.fs }
/-- the listed entry of "B": slot 0 -/
def b : LfnEntry := ⟨(DirFileEntryData.new Ex.sfn2 0x10).serialize, [], 0, 1⟩
end Ex5

theorem Ex5.wf : Ex5.dev.img.WF :=
  Img.ofBytes_wf _ _ (by simp only [Ex5.bytes, Ex2.bytes, List.length_append, List.length_replicate]; decide +kernel)

open FatVerif.FileSim in
theorem Ex5.fat : tabView Ex5.dev.fs Ex5.dev.img = ([.eoc, .eoc, .data 3, .eoc, .free, .free].getD · .bad) :=
  (tabView_of_bytes (Img.ofBytes_pad Ex2.bytes _ 4096) Ex2.fs).trans Ex2.fat

open FatVerif.FileSim FatVerif.Fat in
theorem Ex5.readable : ChainReadable Ex5.dev 2 none [2, 3] :=
  ⟨⟨rfl, Ex2.geo, rfl, Ex2.chain Ex5.fat, by decide, rfl, Or.inr rfl, (fun e he => by cases he), by decide, by decide⟩,
    by decide⟩

theorem Ex5.chain_slots : chainSlots Ex5.dev.fs Ex5.dev.img [2, 3] = Ex2.slots :=
  (chainSlots_of_bytes (Img.ofBytes_pad Ex2.bytes _ 4096) Ex2.fs [2, 3]).trans Ex2.chain_slots

/-- `deleteEntry_chain_sim` applied: the run succeeds and slot 0 of the directory is marked deleted; what remains listed
    is "Hello.txt" (in cluster 3) -/
example : ∃ d', run (deleteEntry (.file (FileH.new (some 2) none))
      (toDirEntryS (chainSrc Ex5.dev.fs [2, 3]) Ex5.b)) Ex5.dev = (.ok (), d') ∧
    chainSlots d'.fs d'.img [2, 3] = DirSlots.deleteRange (chainSlots Ex5.dev.fs Ex5.dev.img [2, 3]) 0 1 ∧
    d'.fs.curDirty = true := by
  obtain ⟨d', h1, h2, h3, _⟩ := deleteEntry_chain_sim Ex5.readable Ex5.wf Ex5.b
    (by rw [Ex5.chain_slots]; decide +kernel)
  exact ⟨d', h1, h2, h3⟩

example : (DirSlots.listing (DirSlots.deleteRange (chainSlots Ex5.dev.fs Ex5.dev.img [2, 3]) 0 1)).map (·.units) =
    [Names.encodeUtf16 "Hello.txt".toList] := by rw [Ex5.chain_slots]; decide +kernel

/-! ## WRITES: `create_dir` as a whole operation (Proofs/DirCreate)

`create_dir(name)` (single-component path, free name): `check_for_existence` chooses the alias, `alloc_cluster(None, true)`
takes the cluster `c` the allocator finds and zero-fills it (`run_allocClusterFs_any`, Proofs/FileSimFatAlloc), the parent gets
the
entry (`write_entry`, inside its allocated slots), the new directory gets `.` and `..` through its own handle (whose
clones, when dropped, write the unchanged stamped entry back to the parent's slot). Generic statement for every writable
directory: `WView.createDir_sim`; here the instance for the fixed root as parent. -/

open FatVerif.FileSim FatVerif.Fat in
/-- **`createDir_root_sim`, fixed root as parent**: afterwards the root slots are `DirSlots.writeEntry` of those before (short
    record: alias, attribute `DIRECTORY`, first cluster `c`, stamps from the clock), the decoded FAT has `c ↦ EOC`, the
    slots of cluster `c` are the `.` entry (first cluster `c`), the `..` entry (no cluster: the parent is the root) and
    zero slots, and the returned handle is a readable one-cluster directory -/
theorem createDir_root_sim {d : Dev} {N : Nat} (h : RootReadable d N) (hwf : d.img.WF)
    (hB : 0x42 ≤ (rootSliceOf d.fs).beginOff) (hgeo : Geo d.fs d.img.size) (hinfo : InfoOk d.fs d.img)
    (hout : (fatSliceOf d.fs).beginOff + (fatSliceOf d.fs).mirrors * (fatSliceOf d.fs).size ≤ (rootSliceOf d.fs).beginOff)
    (hend : (rootSliceOf d.fs).beginOff + (rootSliceOf d.fs).size ≤ d.fs.firstDataSector * d.fs.bps)
    (ha : d.fs.lfnAlloc = true) (hacc : d.fs.accDate = false) (hcs32 : d.fs.clusterSize % 32 = 0)
    (hcs64 : 64 ≤ d.fs.clusterSize) (hu32 : d.fs.clusterSize < 4294967296)
    (hfuelN : d.fs.clusterSize / 32 < dirFuel d.fs) (env : Env) (path name : String)
    (hsp : Names.splitPath path = (name, none)) (hdot : (name = "." || name = "..") = false)
    (hval : Names.validateLongName name = .ok ()) (a : List Nat)
    (hchk : DirAlias.checkForExistenceL env.upper (rootDirSlots d.fs d.img) name (some true) 70000 = .ok (.alias a))
    (c : Nat) (hfind : allocFindV (tabView d.fs d.img) d.fs.fsInfo.next d.fs.totalClusters = some c)
    (hfit : DirSlots.findFree (rootDirSlots d.fs d.img) (Lfn.numParts (Names.encodeUtf16 name.toList).length + 1) +
      (Lfn.numParts (Names.encodeUtf16 name.toList).length + 1) ≤ N) (fuel : Nat) :
    ∃ (d' : Dev) (ed0 : DirEntryEditor),
      run (createDir env (fuel + 1) (rootAt d.fs 0) path) d = (.ok (.file (FileH.new (some c) (some ed0))), d') ∧
      ed0.data = sfnAt d.fs d.clock a 16 (some c) ∧
      rootDirSlots d'.fs d'.img = DirSlots.writeEntry (rootDirSlots d.fs d.img) (Names.encodeUtf16 name.toList)
        (DirAlias.sfnWith a (16 :: sfnStamp d.fs d.clock (some c))) ∧
      tabView d'.fs d'.img = updV (tabView d.fs d.img) c .eoc ∧
      chainSlots d'.fs d'.img [c] =
        DirAlias.sfnWith (46 :: List.replicate 10 32) (16 :: sfnStamp d.fs d.clock (some c)) ::
        DirAlias.sfnWith (46 :: 46 :: List.replicate 9 32) (16 :: sfnStamp d.fs d.clock none) ::
        List.replicate (d.fs.clusterSize / 32 - 2) (List.replicate 32 0) ∧
      ChainReadable d' c (some ed0) [c] ∧ d'.fs.curDirty = true ∧ d'.img.WF ∧ RootReadable d' N := by
  obtain ⟨V, hN, hsrc, hEx, hInv⟩ : ∃ V : WView d (rootAt d.fs 0), V.N = N ∧
      V.src = (fun o => (rootSliceOf d.fs).beginOff + o) ∧ V.Extra = (fun _ => False) ∧
      V.Inv = RootInv d.fs (rootSliceOf d.fs) N :=
    ⟨h.wview hB hwf, rfl, rfl, rfl, rfl⟩
  have hsl : V.slots d.img = rootDirSlots d.fs d.img := by
    unfold WView.slots; rw [hN, hsrc]; exact srcSlots_root h
  have h0 : RootInv d.fs (rootSliceOf d.fs) N d := ⟨h.noFault, h.inside, hwf, FsGeomEq.refl _, h.fuel⟩
  have hsz := h.slots
  have hin := h.inside
  obtain ⟨d', hr, hs, hd, _, hsl', htv, hnew, hC, _⟩ := V.createDir_sim
    ⟨hsp, hdot, hval, ha, hgeo, hinfo, hacc, hcs32, hcs64, hu32, hfuelN, by rw [hsl]; exact hchk, hfind⟩
    (by rw [hsl, hN]; exact hfit)
    (fun d1 d2 hv _ hal => by rw [hInv]; exact h0.of_alloc hv hal)
    (fun d1 d2 hi hs _ _ => by rw [hInv] at hi ⊢; exact hi.of_volStep hs)
    ⟨fun i hi => by
      rw [hN] at hi
      rw [hsrc]
      have := FileSim.dataStart_le_clusterOff d.fs c
      exact ⟨by show _ ≤ _ + 32 * i; omega, by show _ + 32 * i + 32 ≤ _; omega,
        Or.inl (by show _ + 32 * i + 32 ≤ _; omega)⟩,
    fun q hq => by rw [hEx] at hq; exact hq.elim⟩ fuel
  have hroot' := h.of_volStep hs
  have hdd : (if (rootAt d.fs 0).isRootDir then none else (rootAt d.fs 0).firstCluster) = none := rfl
  rw [hdd] at hnew
  refine ⟨d', _, hr, rfl, ?_, htv, ?_, ⟨hC, ?_⟩, hd, hs.wf hwf, hroot'⟩
  · rw [← hsl, ← hsl', ← srcSlots_root hroot', rootSliceOf_geomEq hs.geom]
    unfold WView.slots; rw [hN, hsrc]
  · rw [← hnew, ← srcSlots_chain d'.fs d'.img hC.geo.cs_pos hC.cs32 [c], chainSrc_geom hs.geom, hs.geom.clusterSize,
      List.length_singleton, Nat.one_mul]
  · rw [List.length_singleton, Nat.one_mul, hs.geom.clusterSize, dirFuel_geom hs.geom]; exact hfuelN

/-! ## non-vacuity: `create_dir("New dir")` in the root directory of `Ex4` -/

open FatVerif.FileSim in
/-- a volume mounted without FS-info (FAT12/16: all example volumes) has nothing to keep consistent -/
theorem infoOk_none {fs : FsState} {img : Img} (h1 : fs.fsInfo.next = none) (h2 : fs.fsInfo.free = none) :
    InfoOk fs img :=
  ⟨fun n hn => (by rw [h1] at hn; cases hn), fun n hn => (by rw [h2] at hn; cases hn)⟩

open FatVerif.FileSim FatVerif.Fat in
theorem Ex4.geo : Geo Ex4.dev.fs Ex4.dev.img.size :=
  ⟨by decide, by decide, by decide, by decide, by decide, by decide, by decide, by decide, by decide, by decide, by decide⟩

open FatVerif.FileSim FatVerif.Fat in
/-- all hypotheses of `createDir_root_sim` hold of `Ex4.dev` and the name "New dir": alias `NEWDIR~1`, the allocator finds
    cluster 2 (the FAT is empty), the entry (2 slots) goes to slots 3–4; hence the run succeeds and returns the directory
    of cluster 2, whose chain in the FAT of the image afterwards is `[2]` -/
example : ∃ (d' : Dev) (ed0 : DirEntryEditor),
    run (createDir Ex3.env 1 (rootAt Ex4.dev.fs 0) "New dir") Ex4.dev = (.ok (.file (FileH.new (some 2) (some ed0))), d') ∧
    rootDirSlots d'.fs d'.img = DirSlots.writeEntry (rootDirSlots Ex4.dev.fs Ex4.dev.img)
      (Names.encodeUtf16 "New dir".toList)
      (DirAlias.sfnWith [78, 69, 87, 68, 73, 82, 126, 49, 32, 32, 32] (16 :: sfnStamp Ex4.dev.fs Ex4.dev.clock (some 2))) ∧
    tabView d'.fs d'.img 2 = .eoc ∧ ChainReadable d' 2 (some ed0) [2] ∧
    (chainSlots d'.fs d'.img [2]).length = 16 := by
  obtain ⟨d', ed0, hr, _, hsl, htv, hnew, hC, _⟩ := createDir_root_sim Ex4.readable Ex4.wf (by decide) Ex4.geo
    (infoOk_none rfl rfl) (by decide) (by decide) rfl rfl (by decide) (by decide) (by decide)
    (by decide) Ex3.env "New dir" "New dir" (by decide +kernel) (by decide) (by decide +kernel)
    [78, 69, 87, 68, 73, 82, 126, 49, 32, 32, 32] (by rw [Ex4.root_slots]; decide +kernel) 2
    (by rw [Ex4.fat]; decide +kernel) (by rw [Ex4.root_slots]; decide +kernel) 0
  refine ⟨d', ed0, hr, hsl, by rw [htv]; rfl, hC, ?_⟩
  rw [hnew]
  decide

/-- the listing the theorem predicts for the root afterwards: "Hello.txt", "B", and the new directory "New dir" -/
example : (DirSlots.listing (DirSlots.writeEntry (rootDirSlots Ex4.dev.fs Ex4.dev.img)
      (Names.encodeUtf16 "New dir".toList)
      (DirAlias.sfnWith [78, 69, 87, 68, 73, 82, 126, 49, 32, 32, 32] (16 :: sfnStamp Ex4.dev.fs Ex4.dev.clock (some 2))))).map
        (fun e => (e.units, Lfn.isDir e.sfn)) =
    [(Names.encodeUtf16 "Hello.txt".toList, false), ([], true), (Names.encodeUtf16 "New dir".toList, true)] := by
  rw [Ex4.root_slots]
  decide +kernel

/-! ## WRITES: `remove` of an empty directory (Proofs/DirRemove)

`remove(name)` where `name` is a directory: `find_entry`, `to_dir`, `is_empty` (the listing of the directory through its
own stream: only `.` and `..`), `free_cluster_chain` of its chain, `deleteEntry` of its slots in the parent. Generic:
`WView.remove_dir_sim` (+ `DirView.isEmpty_sim`); here the fixed root as parent. -/

open FatVerif.FileSim FatVerif.Fat in
/-- **`remove_root_dir_sim`, an empty sub-directory of the fixed root**: `le` is the listed entry found (a directory with first
    cluster `c0`), `chain` its cluster chain (readable through the handle `to_dir` opens), whose slots list only dot
    entries (`emptyD`); afterwards the root slots are `deleteRange`, the FAT is `freedView … chain` -/
theorem remove_root_dir_sim {d : Dev} {N : Nat} (h : RootReadable d N) (hwf : d.img.WF)
    (hB : 0x42 ≤ (rootSliceOf d.fs).beginOff) (hgeo : Geo d.fs d.img.size) (hinfo : InfoOk d.fs d.img)
    (hout : (fatSliceOf d.fs).beginOff + (fatSliceOf d.fs).mirrors * (fatSliceOf d.fs).size ≤ (rootSliceOf d.fs).beginOff)
    (env : Env) (path name : String) (hsp : Names.splitPath path = (name, none))
    (hdot : (name = "." || name = "..") = false) (le : LfnEntry)
    (hl : lookupL env.upper name.toList none (readDirEntries d.fs.lfnAlloc true (rootDirSlots d.fs d.img)) = .ok le)
    (hdir : Lfn.isDir le.sfn = true) (c0 : Nat)
    (hfc : (toDirEntryS (fun o => (rootSliceOf d.fs).beginOff + o) le).firstCluster d.fs = some c0) (chain : List Nat)
    (hsub : ChainReadable d c0 (some (toDirEntryS (fun o => (rootSliceOf d.fs).beginOff + o) le).editor) chain)
    (hemp : emptyD ((readDirEntries d.fs.lfnAlloc true (chainSlots d.fs d.img chain)).map
      (toDirEntryS (chainSrc d.fs chain))) = true)
    (hnf : ∀ x ∈ chain, tabView d.fs d.img x ≠ .free) (fuel : Nat) :
    ∃ d', run (remove env (fuel + 1) (rootAt d.fs 0) path) d = (.ok (), d') ∧
      rootDirSlots d'.fs d'.img = DirSlots.deleteRange (rootDirSlots d.fs d.img) le.beginIdx le.endIdx ∧
      tabView d'.fs d'.img = freedView (tabView d.fs d.img) chain ∧
      d'.fs.curDirty = true ∧ d'.img.WF ∧ RootReadable d' N := by
  obtain ⟨V, hN, hsrc, hEx, hInv⟩ : ∃ V : WView d (rootAt d.fs 0), V.N = N ∧
      V.src = (fun o => (rootSliceOf d.fs).beginOff + o) ∧ V.Extra = (fun _ => False) ∧
      V.Inv = RootInv d.fs (rootSliceOf d.fs) N :=
    ⟨h.wview hB hwf, rfl, rfl, rfl, rfl⟩
  have hsl : V.slots d.img = rootDirSlots d.fs d.img := by
    unfold WView.slots; rw [hN, hsrc]; exact srcSlots_root h
  have h0 : RootInv d.fs (rootSliceOf d.fs) N d := ⟨h.noFault, h.inside, hwf, FsGeomEq.refl _, h.fuel⟩
  have hds : DirEntry.dirStream d.fs (toDirEntryS V.src le) =
      .file (FileH.new (some c0) (some (toDirEntryS (fun o => (rootSliceOf d.fs).beginOff + o) le).editor)) := by
    rw [hsrc]; exact DirEntry.dirStream_of_cluster _ _ c0 hfc
  obtain ⟨Vs, hVs⟩ : ∃ Vs : DirView d (DirEntry.dirStream d.fs (toDirEntryS V.src le)), Vs.isEmptyV = true := by
    rw [hds]
    refine ⟨DirView.ofChain hsub, ?_⟩
    unfold DirView.isEmptyV DirView.lfnEntries
    show emptyD ((readDirEntries d.fs.lfnAlloc true (srcSlots d.img (chainSrc d.fs chain)
      (chain.length * (d.fs.clusterSize / 32)))).map (toDirEntryS (chainSrc d.fs chain))) = true
    rw [hsub.slots_eq]; exact hemp
  obtain ⟨dm, d', hr, htv, hsm, hs2, hd, _, (hsl' : V.slots d'.img = _), hfr, _⟩ := V.remove_dir_sim
    ⟨hsp, hdot, hgeo, hinfo, by rw [hsl]; exact hl, fun d1 d2 hv _ hf => by rw [hInv]; exact h0.of_freed hv hf,
      fun i hi => by
        rw [hsrc]
        exact Or.inr (by show _ ≤ _ + 32 * i; omega)⟩
    (by
      rw [hsrc, hfc]
      exact ⟨hsub.dir.link, chain_nodup' hsub.dir.link, fun x hx => ⟨(hsub.dir.inTab x hx).1, (hsub.dir.inTab x hx).2, hnf x hx⟩⟩)
    hdir Vs hVs fuel
  have hs := hsm.trans hs2
  have hroot' := h.of_volStep hs
  refine ⟨d', hr, ?_, ?_, hd, hs.wf hwf, hroot'⟩
  · rw [← hsl, ← hsl', ← srcSlots_root hroot', rootSliceOf_geomEq hs.geom]
    unfold WView.slots; rw [hN, hsrc]
  · -- the FAT after `deleteEntry` is the FAT after the release: the root region lies behind the FAT copies
    have hms : (fatSliceOf d.fs).size ≤ (fatSliceOf d.fs).mirrors * (fatSliceOf d.fs).size :=
      Nat.le_mul_of_pos_left _ hgeo.mirrors_pos
    rw [tabView_of_frameE hgeo hsm hs2 hfr (fun j _ => by rw [hsrc]; show _ ≤ _ + 32 * j; omega)
      (fun q hq => by rw [hEx] at hq; exact hq.elim), htv]

/-! ## non-vacuity: removing the empty directory `SUB` (cluster 2: `.`, `..`) from the root -/

namespace Ex6
def dot : DirFileEntryData := (DirFileEntryData.new (46 :: List.replicate 10 32) 0x10).setFirstCluster (some 2) .fat16
def dotdot : DirFileEntryData := DirFileEntryData.new (46 :: 46 :: List.replicate 9 32) 0x10
/-- the geometry of `Ex2`; FAT: cluster 2 = end of chain; root: the entry of `SUB` (first cluster 2); cluster 2: the two
    dot entries, then zeros; filled up to the page size -/
def bytes : List Nat :=
  List.replicate 512 0 ++
  ([0xF8, 0xFF, 0xFF, 0xFF, 0xFF, 0xFF] ++ List.replicate 506 0) ++
  (Ex3.subData.serialize ++ List.replicate 480 0) ++
  (dot.serialize ++ dotdot.serialize ++ List.replicate 448 0) ++
  List.replicate 2048 0
def dev : Dev := { img := Img.ofBytes bytes 4096, fs := Ex2.fs }
def sub : LfnEntry := ⟨Ex3.subData.serialize, [], 0, 1⟩
end Ex6

theorem Ex6.wf : Ex6.dev.img.WF :=
  Img.ofBytes_wf _ _ (by simp only [Ex6.bytes, List.length_append, List.length_replicate]; decide +kernel)

theorem Ex6.root : RootReadable Ex6.dev 16 := ⟨rfl, by decide, by decide, by decide⟩

open FatVerif.FileSim FatVerif.Fat in
theorem Ex6.geo : Geo Ex6.dev.fs Ex6.dev.img.size := Ex2.geo

open FatVerif.FileSim in
theorem Ex6.fat : tabView Ex6.dev.fs Ex6.dev.img = ([.eoc, .eoc, .eoc, .free, .free, .free].getD · .bad) :=
  tabView_ofBytes _ Ex6.bytes _ rfl (by decide) _ (by decide +kernel)

open FatVerif.FileSim FatVerif.Fat in
theorem Ex6.subReadable : ChainReadable Ex6.dev 2
    (some (toDirEntryS (fun o => (rootSliceOf Ex6.dev.fs).beginOff + o) Ex6.sub).editor) [2] :=
  ⟨⟨rfl, Ex6.geo, rfl, Chain.last 2 (fun n hn => by rw [Ex6.fat] at hn; cases hn), by decide, by decide +kernel,
    Or.inl rfl, (fun e he => by cases he; rfl), by decide, by decide⟩, by decide⟩

theorem Ex6.root_slots :
    rootDirSlots Ex6.dev.fs Ex6.dev.img = Ex3.subData.serialize :: List.replicate 15 DirSlots.zeroSlot :=
  rootDirSlots_ofBytes _ Ex6.bytes _ (by decide) _ (by decide +kernel)

theorem Ex6.chain_slots : chainSlots Ex6.dev.fs Ex6.dev.img [2] =
    Ex6.dot.serialize :: Ex6.dotdot.serialize :: List.replicate 14 DirSlots.zeroSlot :=
  chainSlots_ofBytes _ Ex6.bytes _ _ (by decide) _ (by decide +kernel)

open FatVerif.FileSim FatVerif.Fat in
/-- all hypotheses of `remove_root_dir_sim` hold of `Ex6.dev` and the name "sub" (found ignoring case): the run succeeds,
    slot 0 of the root is marked deleted and cluster 2 is free again -/
example : ∃ d', run (remove Ex3.env 1 (rootAt Ex6.dev.fs 0) "sub") Ex6.dev = (.ok (), d') ∧
    rootDirSlots d'.fs d'.img = DirSlots.deleteRange (rootDirSlots Ex6.dev.fs Ex6.dev.img) 0 1 ∧
    tabView d'.fs d'.img 2 = .free ∧ d'.fs.curDirty = true := by
  obtain ⟨d', hr, hsl, htv, hd, _⟩ := remove_root_dir_sim Ex6.root Ex6.wf (by decide) Ex6.geo
    (infoOk_none rfl rfl) (by decide) Ex3.env "sub" "sub" (by decide +kernel) (by decide)
    Ex6.sub (by rw [Ex6.root_slots]; decide +kernel) (by decide +kernel) 2 (by decide +kernel) [2] Ex6.subReadable
    (by rw [Ex6.chain_slots]; decide +kernel)
    (fun x hx => by
      simp only [List.mem_singleton] at hx
      subst hx
      rw [Ex6.fat]; decide) 0
  refine ⟨d', hr, hsl, ?_, hd⟩
  rw [htv]
  simp [freedView]

/-! ## WRITES: `rename` of a file from one directory into another (Proofs/DirRename)

Generic: `WView.rename_file_across_sim` (source `V1`, destination `V2`; the new entry is written in the destination, then
the old one deleted in the source; each step stated relative to the device before it, since one directory may hold the
other's own entry) and `WView.rename_file_apart_sim` (directories that lie apart: both slot lists relative to the start).

Non-vacuity: moving `SUB/Hello.txt` of `Ex3` to the root as `Moved.txt` (the source is a child of the destination). -/

namespace Ex7
def bytes : List Nat := Ex3.bytes ++ List.replicate (4096 - Ex3.bytes.length) 0
def dev : Dev := { img := Img.ofBytes bytes 4096, fs := Ex2.fs }
/-- the listed entry of "Hello.txt" in `SUB`: slots 16–17 (cluster 3) -/
def hello : LfnEntry := ⟨(DirFileEntryData.new Ex.sfn1 0x20).serialize, Names.encodeUtf16 "Hello.txt".toList, 16, 18⟩
end Ex7

theorem Ex7.wf : Ex7.dev.img.WF :=
  Img.ofBytes_wf _ _ (by simp only [Ex7.bytes, Ex3.bytes, List.length_append, List.length_replicate]; decide +kernel)

theorem Ex7.root : RootReadable Ex7.dev 16 := ⟨rfl, by decide, by decide, by decide⟩

open FatVerif.FileSim FatVerif.Fat in
theorem Ex7.geo : Geo Ex7.dev.fs Ex7.dev.img.size := Ex2.geo

open FatVerif.FileSim in
theorem Ex7.fat : tabView Ex7.dev.fs Ex7.dev.img = ([.eoc, .eoc, .data 3, .eoc, .free, .free].getD · .bad) :=
  (tabView_of_bytes (Img.ofBytes_pad Ex3.bytes _ 4096) Ex2.fs).trans Ex3.fat

open FatVerif.FileSim FatVerif.Fat in
theorem Ex7.sub : ChainDir Ex7.dev (FileH.new (some 2) (some Ex3.subE.editor)) 2 [2, 3] :=
  ⟨rfl, Ex7.geo, rfl, Ex2.chain Ex7.fat, by decide, by decide, Or.inl rfl, (fun e he => by cases he; rfl), by decide,
    by decide⟩

theorem Ex7.root_slots :
    rootDirSlots Ex7.dev.fs Ex7.dev.img = Ex3.subData.serialize :: List.replicate 15 DirSlots.zeroSlot :=
  (rootDirSlots_of_bytes (Img.ofBytes_pad Ex3.bytes _ 4096) Ex2.fs).trans Ex3.root_slots

theorem Ex7.chain_slots : chainSlots Ex7.dev.fs Ex7.dev.img [2, 3] = Ex2.slots :=
  (chainSlots_of_bytes (Img.ofBytes_pad Ex3.bytes _ 4096) Ex2.fs [2, 3]).trans Ex3.chain_slots

open FatVerif.FileSim FatVerif.Fat in
/-- all hypotheses of `rename_file_across_sim` hold: the run of `rename_internal(SUB, "hello.txt", root, "Moved.txt")`
    succeeds, the FAT after the first step is unchanged, the volume is marked dirty -/
example : ∃ (dm d' : Dev), run (renameInternal Ex3.env (.file (FileH.new (some 2) (some Ex3.subE.editor))) "hello.txt"
      (rootAt Ex7.dev.fs 0) "Moved.txt") Ex7.dev = (.ok (), d') ∧
    tabView dm.fs dm.img = tabView Ex7.dev.fs Ex7.dev.img ∧ d'.fs.curDirty = true := by
  have hS := (WView.slots_ofSub Ex7.sub Ex7.wf (by decide) (by decide) (by decide) (by decide) (by decide)).trans
    Ex7.chain_slots
  have hR := (WView.slots_ofRoot Ex7.root (by decide) Ex7.wf).trans Ex7.root_slots
  obtain ⟨dm, d', hr, _, _, htv, _, _, hd, _⟩ :=
    (WView.ofSub Ex7.dev 2 Ex3.subE.editor [2, 3] Ex7.sub Ex7.wf (by decide) (by decide) (by decide) (by decide)
      (by decide)).rename_file_across_sim
    (Ex7.root.wview (by decide) Ex7.wf) (env := Ex3.env) (srcName := "hello.txt") (dstName := "Moved.txt") (le := Ex7.hello)
    (a := [77, 79, 86, 69, 68, 32, 32, 32, 84, 88, 84])
    ⟨by decide, by decide +kernel, rfl, by rw [hS]; decide +kernel, by rw [hR]; decide +kernel,
      by rw [hR]; decide +kernel⟩ Ex7.geo (by decide +kernel)
    (fun d2 d3 hi hs hc htv => SubInv.of_volStep hi hs hc htv) (by decide) (fun q hq => hq.elim)
  exact ⟨dm, d', hr, htv, hd⟩

/-! ## WRITES: `rename` of a directory inside one directory (Proofs/DirRename)

`rename_internal` for a directory first climbs from the destination directory through the `..` entries to the root
(`ancestorWalk_sim` along `Climbs`: the moved directory must not be met), then writes the new entry, deletes the old one,
and looks up `..` in the moved directory through its NEW entry (`fixDotDot_same`: the parent stays, nothing is written;
`fixDotDot_move`: the record of `..` is rewritten raw). Generic: `WView.rename_dir_sim`.

Non-vacuity: renaming the empty directory `SUB` of `Ex6` (fixed root) to "Sub two". -/

open FatVerif.FileSim FatVerif.Fat in
example : ∃ d' : Dev, run (renameInternal Ex3.env (rootAt Ex6.dev.fs 0) "sub" (rootAt Ex6.dev.fs 0) "Sub two") Ex6.dev
      = (.ok (), d') ∧ d'.fs.curDirty = true ∧ tabView d'.fs d'.img = tabView Ex6.dev.fs Ex6.dev.img := by
  have hR := (WView.slots_ofRoot Ex6.root (by decide) Ex6.wf).trans Ex6.root_slots
  obtain ⟨d', hr, _, hd, _, _, htv⟩ :=
    (Ex6.root.wview (by decide) Ex6.wf).rename_dir_sim Ex3.env "sub" "Sub two" (by decide) (by decide +kernel) rfl Ex6.geo Ex6.sub
      (by rw [hR]; decide +kernel) (by decide +kernel) 0
      (Climbs.top (DirView.ofRoot Ex6.root) (by decide +kernel) rfl) (by decide)
      [83, 85, 66, 84, 87, 79, 126, 49, 32, 32, 32] (by rw [hR]; decide +kernel) (by rw [hR]; decide +kernel) (by decide)
      (fun q hq => hq.elim) 2 (by decide +kernel) [2] Ex6.subReadable.dir (by decide)
      (fun i hi x hx => ⟨fun h => h, fun j hj hc => by
        have h1 := chainSrc_ge Ex6.dev.fs [2] (32 * i)
        have h2 : Ex6.dev.fs.firstDataSector * Ex6.dev.fs.bps = 1536 := by decide
        have hb : (rootSliceOf Ex6.dev.fs).beginOff = 1024 := by decide
        have hj' : j < 16 := hj
        have hc' : (rootSliceOf Ex6.dev.fs).beginOff + 32 * j ≤ chainSrc Ex6.dev.fs [2] (32 * i) + x ∧
            chainSrc Ex6.dev.fs [2] (32 * i) + x < (rootSliceOf Ex6.dev.fs).beginOff + 32 * j + 32 := hc
        rw [hb] at hc'
        omega⟩)
      ⟨Ex6.dotdot.serialize, [], 1, 2⟩ (by rw [Ex6.subReadable.slots_eq, Ex6.chain_slots]; decide +kernel)
      (by decide +kernel)
  exact ⟨d', hr, hd, htv⟩

/-! ## WRITES: moves between two directories that lie apart (Proofs/DirRename)

`WView.rename_file_apart_sim`, `WView.rename_dir_apart_sim` (the latter rewrites the `..` record of the moved directory).
Non-vacuity on a volume with the directories `A` (cluster 2: the file `F`, the directory `D` in cluster 4) and `B`
(cluster 3) in the fixed root: `A/F → B/G` and `A/D → B/E`. -/

section Ex8
open FatVerif.FileSim FatVerif.Fat

namespace Ex8
def nameA : List Nat := [65, 32, 32, 32, 32, 32, 32, 32, 32, 32, 32]
def nameB : List Nat := [66, 32, 32, 32, 32, 32, 32, 32, 32, 32, 32]
def nameD : List Nat := [68, 32, 32, 32, 32, 32, 32, 32, 32, 32, 32]
def nameF : List Nat := [70, 32, 32, 32, 32, 32, 32, 32, 32, 32, 32]
def dotN : List Nat := 46 :: List.replicate 10 32
def ddN : List Nat := 46 :: 46 :: List.replicate 9 32
def dirRec (nm : List Nat) (c : Option Nat) : DirFileEntryData := (DirFileEntryData.new nm 0x10).setFirstCluster c .fat16
/-- root: `A` (cluster 2), `B` (cluster 3); `A`: `.`, `..`, the file `F`, the directory `D` (cluster 4); `B`: `.`, `..`;
    `D`: `.`, `..` (naming `A`) -/
def bytes : List Nat :=
  List.replicate 512 0 ++
  ([0xF8, 0xFF, 0xFF, 0xFF, 0xFF, 0xFF, 0xFF, 0xFF, 0xFF, 0xFF] ++ List.replicate 502 0) ++
  ((dirRec nameA (some 2)).serialize ++ (dirRec nameB (some 3)).serialize ++ List.replicate 448 0) ++
  ((dirRec dotN (some 2)).serialize ++ (dirRec ddN none).serialize ++ (DirFileEntryData.new nameF 0x20).serialize ++
    (dirRec nameD (some 4)).serialize ++ List.replicate 384 0) ++
  ((dirRec dotN (some 3)).serialize ++ (dirRec ddN none).serialize ++ List.replicate 448 0) ++
  ((dirRec dotN (some 4)).serialize ++ (dirRec ddN (some 2)).serialize ++ List.replicate 448 0) ++
  List.replicate 1024 0
def dev : Dev := { img := Img.ofBytes bytes 4096, fs := Ex2.fs }
def edA : DirEntryEditor := DirEntryEditor.new (dirRec nameA (some 2)) 1024
def edB : DirEntryEditor := DirEntryEditor.new (dirRec nameB (some 3)) 1056
def f : LfnEntry := ⟨(DirFileEntryData.new nameF 0x20).serialize, [], 2, 3⟩
def dE : LfnEntry := ⟨(dirRec nameD (some 4)).serialize, [], 3, 4⟩
end Ex8

theorem Ex8.wf : Ex8.dev.img.WF :=
  Img.ofBytes_wf _ _ (by simp only [Ex8.bytes, List.length_append, List.length_replicate]; decide +kernel)

theorem Ex8.geo : Geo Ex8.dev.fs Ex8.dev.img.size := Ex2.geo

theorem Ex8.root : RootReadable Ex8.dev 16 := ⟨rfl, by decide, by decide, by decide⟩

/-- a one-cluster directory of `Ex8` read through a clean editor of a directory record -/
theorem Ex8.chainDir (c : Nat) (ed : DirEntryEditor) (hc : 2 ≤ c ∧ c < 6) (htv : tabView Ex8.dev.fs Ex8.dev.img c = .eoc)
    (hsz : ed.data.size? = none) (hcl : ed.dirty = false) : ChainDir Ex8.dev (FileH.new (some c) (some ed)) c [c] := by
  refine ⟨rfl, Ex8.geo, rfl, Chain.last c (fun n hn => by rw [htv] at hn; cases hn), ?_, hsz, Or.inl rfl,
    (fun e he => by cases he; exact hcl), by decide, by rw [List.length_singleton]; decide⟩
  intro x hx
  simp only [List.mem_singleton] at hx
  subst hx
  exact hc

theorem Ex8.src (c i : Nat) (hi : i < 16) : chainSrc Ex8.dev.fs [c] (32 * i) = clusterOff Ex8.dev.fs c + 32 * i :=
  chainSrc_single Ex8.dev.fs c i (by
    have : Ex8.dev.fs.clusterSize = 512 := by decide
    omega)

theorem Ex8.off (c : Nat) : clusterOff Ex8.dev.fs c = (3 + (c - 2)) * 512 := by
  unfold clusterOff
  show (3 + (c - 2) * 1) * 512 = (3 + (c - 2)) * 512
  rw [Nat.mul_one]

/-- two different one-cluster directories of `Ex8`, and an own entry in the root region, lie apart -/
theorem Ex8.apart (c c' p : Nat) (hc : 2 ≤ c) (hc' : 2 ≤ c') (hne : c ≠ c') (hp : p + 32 ≤ 1536) (i : Nat) (hi : i < 16)
    (x : Nat) (hx : x < 32) :
    ¬ (p ≤ chainSrc Ex8.dev.fs [c] (32 * i) + x ∧ chainSrc Ex8.dev.fs [c] (32 * i) + x < p + 32) ∧
    ∀ j, j < 16 → ¬ (chainSrc Ex8.dev.fs [c'] (32 * j) ≤ chainSrc Ex8.dev.fs [c] (32 * i) + x ∧
      chainSrc Ex8.dev.fs [c] (32 * i) + x < chainSrc Ex8.dev.fs [c'] (32 * j) + 32) := by
  rw [Ex8.src c i hi, Ex8.off]
  refine ⟨by omega, fun j hj => ?_⟩
  rw [Ex8.src c' j hj, Ex8.off]
  omega

theorem Ex8.fat : tabView Ex8.dev.fs Ex8.dev.img = ([.eoc, .eoc, .eoc, .eoc, .eoc, .free].getD · .bad) :=
  tabView_ofBytes _ Ex8.bytes _ rfl (by decide) _ (by decide +kernel)

def Ex8.VA : WView Ex8.dev (.file (FileH.new (some 2) (some Ex8.edA))) :=
  WView.ofSub Ex8.dev 2 Ex8.edA [2] (Ex8.chainDir 2 Ex8.edA (by decide) (by decide +kernel) (by decide) rfl) Ex8.wf
    (by decide) (by decide) (by decide) (by decide)
    (fun i hi => by
      have hi' : i < 16 := hi
      rw [Ex8.src 2 i hi', Ex8.off]
      right; show 1024 + 32 ≤ _; omega)

def Ex8.VB : WView Ex8.dev (.file (FileH.new (some 3) (some Ex8.edB))) :=
  WView.ofSub Ex8.dev 3 Ex8.edB [3] (Ex8.chainDir 3 Ex8.edB (by decide) (by rw [Ex8.fat]; rfl) (by decide) rfl) Ex8.wf
    (by decide) (by decide) (by decide) (by decide)
    (fun i hi => by
      have hi' : i < 16 := hi
      rw [Ex8.src 3 i hi', Ex8.off]
      right; show 1056 + 32 ≤ _; omega)

theorem Ex8.slotsA : Ex8.VA.slots Ex8.dev.img =
    (Ex8.dirRec Ex8.dotN (some 2)).serialize :: (Ex8.dirRec Ex8.ddN none).serialize ::
      (DirFileEntryData.new Ex8.nameF 0x20).serialize :: (Ex8.dirRec Ex8.nameD (some 4)).serialize ::
      List.replicate 12 DirSlots.zeroSlot :=
  (WView.slots_ofSub _ _ _ _ _ _ _).trans (chainSlots_ofBytes _ Ex8.bytes _ _ (by decide) _ (by decide +kernel))

theorem Ex8.slotsB : Ex8.VB.slots Ex8.dev.img =
    (Ex8.dirRec Ex8.dotN (some 3)).serialize :: (Ex8.dirRec Ex8.ddN none).serialize ::
      List.replicate 14 DirSlots.zeroSlot :=
  (WView.slots_ofSub _ _ _ _ _ _ _).trans (chainSlots_ofBytes _ Ex8.bytes _ _ (by decide) _ (by decide +kernel))

/-- the slots of the directory `D` (cluster 4) -/
theorem Ex8.slotsD : srcSlots Ex8.dev.img (chainSrc Ex8.dev.fs [4]) ([4].length * (Ex8.dev.fs.clusterSize / 32)) =
    (Ex8.dirRec Ex8.dotN (some 4)).serialize :: (Ex8.dirRec Ex8.ddN (some 2)).serialize ::
      List.replicate 14 DirSlots.zeroSlot :=
  (srcSlots_chain _ _ (by decide) (by decide) _).trans
    (chainSlots_ofBytes _ Ex8.bytes _ _ (by decide) _ (by decide +kernel))

theorem Ex8.behind (c : Nat) (hc : 2 ≤ c) (j : Nat) (hj : j < 16) :
    (fatSliceOf Ex8.dev.fs).beginOff + (fatSliceOf Ex8.dev.fs).size ≤ chainSrc Ex8.dev.fs [c] (32 * j) := by
  rw [Ex8.src c j hj, Ex8.off]
  have : (fatSliceOf Ex8.dev.fs).beginOff + (fatSliceOf Ex8.dev.fs).size = 1024 := by decide
  omega

/-- the own entry of a sub-directory of the root lies behind the FAT -/
theorem Ex8.extra_behind (ed : DirEntryEditor) (h : 1024 ≤ ed.pos) (q : Nat) (hq : subExtra ed q) :
    (fatSliceOf Ex8.dev.fs).beginOff + (fatSliceOf Ex8.dev.fs).size ≤ q := by
  have : (fatSliceOf Ex8.dev.fs).beginOff + (fatSliceOf Ex8.dev.fs).size = 1024 := by decide
  have := hq.1
  omega

/-- moving the file `A/F` to `B/G`: all hypotheses of `rename_file_apart_sim` hold -/
example : ∃ d' : Dev, run (renameInternal Ex3.env (.file (FileH.new (some 2) (some Ex8.edA))) "f"
      (.file (FileH.new (some 3) (some Ex8.edB))) "G") Ex8.dev = (.ok (), d') ∧
    Ex8.VA.slots d'.img = DirSlots.deleteRange (Ex8.VA.slots Ex8.dev.img) 2 3 ∧
    d'.fs.curDirty = true ∧ tabView d'.fs d'.img = tabView Ex8.dev.fs Ex8.dev.img := by
  obtain ⟨d', hr, _, hd, _, _, h1, _, htv⟩ := Ex8.VA.rename_file_apart_sim Ex8.VB Ex3.env "f" "G" (by decide)
    (by decide +kernel) rfl Ex8.geo Ex8.f (by rw [Ex8.slotsA]; decide +kernel) (by decide +kernel)
    [71, 32, 32, 32, 32, 32, 32, 32, 32, 32, 32] (by rw [Ex8.slotsB]; decide +kernel) (by rw [Ex8.slotsB]; decide +kernel)
    (fun d2 d3 hi hs hc htv => SubInv.of_volStep hi hs hc htv) (fun d2 d3 hi hs hc htv => SubInv.of_volStep hi hs hc htv)
    (fun j hj => Ex8.behind 2 (by omega) j hj)
    (Ex8.extra_behind Ex8.edA (by decide))
    (fun j hj => Ex8.behind 3 (by omega) j hj)
    (Ex8.extra_behind Ex8.edB (by decide))
    (fun i hi x hx => Ex8.apart 2 3 1056 (by omega) (by omega) (by omega) (by omega) i hi x hx)
    (fun i hi x hx => Ex8.apart 3 2 1024 (by omega) (by omega) (by omega) (by omega) i hi x hx)
  exact ⟨d', hr, h1, hd, htv⟩

/-- the `..` entry of `B` as the library reads it: it names the root -/
def Ex8.ddB : DirEntry := toDirEntryS (chainSrc Ex8.dev.fs [3]) ⟨(Ex8.dirRec Ex8.ddN none).serialize, [], 1, 2⟩

/-- the climb from `B` to the root (one step) never meets `D` (cluster 4) -/
theorem Ex8.climb : Climbs Ex8.dev Ex3.env (some 4) (.file (FileH.new (some 3) (some Ex8.edB))) 0 1 := by
  have hl : Ex8.VB.toDirView.lookup Ex3.env ".." (some true) = .ok Ex8.ddB := by
    show (lookupL _ _ _ (readDirEntries _ _ (Ex8.VB.slots Ex8.dev.img))).map _ = _
    rw [Ex8.slotsB]
    decide +kernel
  have hs : DirEntry.dirStream Ex8.dev.fs Ex8.ddB = rootAt Ex8.dev.fs 0 := by decide +kernel
  refine Climbs.up Ex8.VB.toDirView (by decide) rfl (by decide) hl ?_
  rw [hs]
  exact Climbs.top (DirView.ofRoot Ex8.root) (by decide) rfl

/-- moving the directory `A/D` to `B/E`: all hypotheses of `rename_dir_apart_sim` hold; the `..` record of `D` (slot 1 of
    cluster 4) is rewritten with cluster 3 -/
example : ∃ d' : Dev, run (renameInternal Ex3.env (.file (FileH.new (some 2) (some Ex8.edA))) "d"
      (.file (FileH.new (some 3) (some Ex8.edB))) "E") Ex8.dev = (.ok (), d') ∧
    Ex8.VA.slots d'.img = DirSlots.deleteRange (Ex8.VA.slots Ex8.dev.img) 3 4 ∧
    (srcSlots d'.img (chainSrc Ex8.dev.fs [4]) 16).getD 1 [] = (Ex8.dirRec Ex8.ddN (some 3)).serialize ∧
    d'.fs.curDirty = true ∧ tabView d'.fs d'.img = tabView Ex8.dev.fs Ex8.dev.img := by
  have hfc : (toDirEntryS Ex8.VA.src Ex8.dE).firstCluster Ex8.dev.fs = some 4 := by decide +kernel
  have hclimb : Climbs Ex8.dev Ex3.env ((toDirEntryS Ex8.VA.src Ex8.dE).firstCluster Ex8.dev.fs)
      (.file (FileH.new (some 3) (some Ex8.edB))) 0 1 := by rw [hfc]; exact Ex8.climb
  obtain ⟨d', hr, _, hd, _, _, h1, _, hm, htv⟩ := Ex8.VA.rename_dir_apart_sim Ex8.VB Ex3.env "d" "E" (by decide)
    (by decide +kernel) rfl Ex8.geo Ex8.dE (by rw [Ex8.slotsA]; decide +kernel) (by decide +kernel) 1 hclimb
    (by decide +kernel) [69, 32, 32, 32, 32, 32, 32, 32, 32, 32, 32] (by rw [Ex8.slotsB]; decide +kernel)
    (by rw [Ex8.slotsB]; decide +kernel)
    (fun d2 d3 hi hs hc htv => SubInv.of_volStep hi hs hc htv) (fun d2 d3 hi hs hc htv => SubInv.of_volStep hi hs hc htv)
    (fun j hj => Ex8.behind 2 (by omega) j hj)
    (Ex8.extra_behind Ex8.edA (by decide))
    (fun j hj => Ex8.behind 3 (by omega) j hj)
    (Ex8.extra_behind Ex8.edB (by decide))
    (fun i hi x hx => Ex8.apart 2 3 1056 (by omega) (by omega) (by omega) (by omega) i hi x hx)
    (fun i hi x hx => Ex8.apart 3 2 1024 (by omega) (by omega) (by omega) (by omega) i hi x hx)
    4 hfc [4]
    (Ex8.chainDir 4 _ (by decide) (congrFun Ex8.fat 4) (by decide +kernel) rfl) (by decide)
    (fun i hi x hx => Ex8.apart 4 2 1024 (by omega) (by omega) (by omega) (by omega) i hi x hx)
    (fun i hi x hx => Ex8.apart 4 3 1056 (by omega) (by omega) (by omega) (by omega) i hi x hx)
    ⟨(Ex8.dirRec Ex8.ddN (some 2)).serialize, [], 1, 2⟩ (by rw [Ex8.slotsD]; decide +kernel) (by decide +kernel)
  refine ⟨d', hr, h1, ?_, hd, htv⟩
  have hm' : srcSlots d'.img (chainSrc Ex8.dev.fs [4]) 16 = _ := hm
  rw [hm', Ex8.slotsD]
  decide +kernel


end Ex8

/-! ## WRITES: `create_file` across one growth of the directory (cluster chain without an entry: the root of FAT32) -/

open FatVerif.FileSim FatVerif.Fat in
/-- **`createFile_chain_grow_sim`**: as `createFile_chain_sim`, but the new entry does not fit into the allocated
    clusters and fits after one more (`writeEntry_chain_grow_sim`): the directory then has the chain `chain ++ [c]` -/
theorem createFile_chain_grow_sim {d : Dev} {c0 : Nat} {chain : List Nat} (h : ChainReadable d c0 none chain)
    (hwf : d.img.WF) (hinfo : InfoOk d.fs d.img) (ha : d.fs.lfnAlloc = true) (env : Env) (path name : String)
    (hsp : Names.splitPath path = (name, none)) (hdot : (name = "." || name = "..") = false)
    (hval : Names.validateLongName name = .ok ()) (a : List Nat)
    (hchk : DirAlias.checkForExistenceL env.upper (chainSlots d.fs d.img chain) name (some false) 70000 = .ok (.alias a))
    (c last : Nat) (hlast : chain.getLast? = some last) (hlv : tabView d.fs d.img last ≠ .free)
    (hfind : allocFindV (tabView d.fs d.img) d.fs.fsInfo.next d.fs.totalClusters = some c)
    (hu32 : (chain.length + 1) * d.fs.clusterSize < 4294967296)
    (hfuel' : (chain.length + 1) * (d.fs.clusterSize / 32) < dirFuel d.fs)
    (hgrow : chain.length * (d.fs.clusterSize / 32) <
      DirSlots.findFree (chainSlots d.fs d.img chain) (Lfn.numParts (Names.encodeUtf16 name.toList).length + 1) +
        (Lfn.numParts (Names.encodeUtf16 name.toList).length + 1))
    (hfit : DirSlots.findFree (chainSlots d.fs d.img chain) (Lfn.numParts (Names.encodeUtf16 name.toList).length + 1) +
        (Lfn.numParts (Names.encodeUtf16 name.toList).length + 1) ≤
      chain.length * (d.fs.clusterSize / 32) + d.fs.clusterSize / 32) (fuel : Nat) :
    ∃ (d' : Dev) (e : DirEntry), run (createFile env (fuel + 1) (.file (FileH.new (some c0) none)) path) d =
        (.ok (FileH.new (e.firstCluster d.fs) (some e.editor)), d') ∧
      e.data = sfnAt d.fs d.clock a 0 none ∧ e.lfn = Names.encodeUtf16 name.toList ∧
      chainSlots d'.fs d'.img (chain ++ [c]) =
        DirSlots.writeEntry (chainSlots d.fs d.img chain) (Names.encodeUtf16 name.toList)
          (sfnAt d.fs d.clock a 0 none).serialize ++
          List.replicate (chain.length * (d.fs.clusterSize / 32) + d.fs.clusterSize / 32 -
            (DirSlots.findFree (chainSlots d.fs d.img chain) (Lfn.numParts (Names.encodeUtf16 name.toList).length + 1) +
              (Lfn.numParts (Names.encodeUtf16 name.toList).length + 1))) DirSlots.zeroSlot ∧
      d'.fs.curDirty = true ∧ d'.img.WF ∧ ChainReadable d' c0 none (chain ++ [c]) := by
  have hce := checkForExistence_chain_sim h ha env name (some false)
  rw [hchk] at hce
  obtain ⟨d1, h1, hs1⟩ := hce
  have h' : ChainReadable d1 c0 none chain := ⟨h.dir.of_sameVol hs1, by rw [hs1.fs]; exact h.fuel⟩
  obtain ⟨hcan, hl11, _⟩ := C16dir.dir_alias_canon env.upper (chainSlots d.fs d.img chain) name (some false) 70000 a hchk
  have hrawwf := sfnAt_wf d.fs d.clock a 0 none hl11 (canon_lt hcan) (by omega)
  have hrawlfn : attrsIsLfn (sfnAt d.fs d.clock a 0 none).attrs = false := by rw [sfnAt_attrs]; decide
  obtain ⟨d', e, hr, he1, he2, hsl, hd, hwf', hread'⟩ := writeEntry_chain_grow_sim h' (by rw [hs1.img]; exact hwf)
    (by rw [hs1.fs, hs1.img]; exact hinfo) c last hlast (by rw [hs1.fs, hs1.img]; exact hlv)
    (by rw [hs1.fs, hs1.img]; exact hfind) (by rw [hs1.fs]; exact hu32) (by rw [hs1.fs]; exact hfuel') name
    (sfnAt d.fs d.clock a 0 none) hval hdot hrawwf hrawlfn (by rw [hs1.fs, hs1.img]; exact hgrow)
    (by rw [hs1.fs, hs1.img]; exact hfit)
  rw [hs1.fs, hs1.img] at hsl
  exact ⟨d', e, run_createFile_new env fuel _ path name hsp hdot h1 hs1 hr he1, he1, he2, hsl, hd, hwf', hread'⟩

/-! ## non-vacuity: `create_file("N")` in a FULL one-cluster directory (16 entries "B"): the directory grows by cluster 3 -/

namespace Ex9
def bytes : List Nat :=
  List.replicate 512 0 ++
  ([0xF8, 0xFF, 0xFF, 0xFF, 0xFF, 0xFF] ++ List.replicate 506 0) ++
  List.replicate 512 0 ++
  (List.replicate 16 (DirFileEntryData.new Ex.sfn2 0x10).serialize).flatten ++
  List.replicate 2048 0
def dev : Dev := { img := Img.ofBytes bytes 4096, fs := Ex2.fs }
end Ex9

theorem Ex9.wf : Ex9.dev.img.WF :=
  Img.ofBytes_wf _ _ (by simp only [Ex9.bytes, List.length_append, List.length_replicate]; decide +kernel)

open FatVerif.FileSim in
theorem Ex9.fat : tabView Ex9.dev.fs Ex9.dev.img = ([.eoc, .eoc, .eoc, .free, .free, .free].getD · .bad) :=
  tabView_ofBytes _ Ex9.bytes _ rfl (by decide) _ (by decide +kernel)

open FatVerif.FileSim FatVerif.Fat in
theorem Ex9.readable : ChainReadable Ex9.dev 2 none [2] :=
  ⟨⟨rfl, Ex2.geo, rfl, Chain.last 2 (fun n hn => by rw [Ex9.fat] at hn; cases hn), by decide, rfl, Or.inr rfl,
    (fun e he => by cases he), by decide, by decide⟩, by decide⟩

theorem Ex9.chain_slots : chainSlots Ex9.dev.fs Ex9.dev.img [2] =
    List.replicate 16 (DirFileEntryData.new Ex.sfn2 0x10).serialize :=
  chainSlots_ofBytes _ Ex9.bytes _ _ (by decide) _ (by decide +kernel)

open FatVerif.FileSim FatVerif.Fat in
/-- all hypotheses of `createFile_chain_grow_sim` hold: the 2 slots of "N" start at slot 16 (the end of the directory),
    the allocator finds cluster 3; afterwards the directory has the chain `[2, 3]` and 32 slots -/
example : ∃ (d' : Dev) (e : DirEntry),
    run (createFile Ex3.env 1 (.file (FileH.new (some 2) none)) "N") Ex9.dev =
      (.ok (FileH.new (e.firstCluster Ex9.dev.fs) (some e.editor)), d') ∧
    ChainReadable d' 2 none [2, 3] ∧ (chainSlots d'.fs d'.img [2, 3]).length = 32 := by
  obtain ⟨d', e, hr, _, _, hsl, _, _, hread⟩ := createFile_chain_grow_sim Ex9.readable Ex9.wf
    (infoOk_none rfl rfl) rfl Ex3.env "N" "N" (by decide +kernel) (by decide)
    (by decide +kernel) [78, 32, 32, 32, 32, 32, 32, 32, 32, 32, 32] (by rw [Ex9.chain_slots]; decide +kernel) 3 2 rfl
    (by rw [Ex9.fat]; decide) (by rw [Ex9.fat]; decide +kernel) (by decide) (by decide)
    (by rw [Ex9.chain_slots]; decide +kernel) (by rw [Ex9.chain_slots]; decide +kernel) 0
  refine ⟨d', e, hr, hread, ?_⟩
  have : ([2] ++ [3] : List Nat) = [2, 3] := rfl
  rw [this] at hsl
  rw [hsl, Ex9.chain_slots]
  decide +kernel

/-! ## `create_file` in a sub-directory (`WView.createFile_sim`; the write stamps the directory's own entry in its parent)

Non-vacuity: `create_file("H")` in the directory `A` of `Ex8`. -/

example : ∃ (d' : Dev) (e : DirEntry),
    run (createFile Ex3.env 1 (.file (FileH.new (some 2) (some Ex8.edA))) "H") Ex8.dev =
      (.ok (FileH.new (e.firstCluster Ex8.dev.fs) (some e.editor)), d') ∧
    Ex8.VA.slots d'.img = DirSlots.writeEntry (Ex8.VA.slots Ex8.dev.img) (Names.encodeUtf16 "H".toList)
      (sfnAt Ex8.dev.fs Ex8.dev.clock [72, 32, 32, 32, 32, 32, 32, 32, 32, 32, 32] 0 none).serialize ∧
    d'.fs.curDirty = true := by
  obtain ⟨d', e, hr, _, _, _, hd, _, hsl, _⟩ := Ex8.VA.createFile_sim Ex3.env "H" "H" (by decide +kernel) (by decide)
    (by decide +kernel) rfl [72, 32, 32, 32, 32, 32, 32, 32, 32, 32, 32] (by rw [Ex8.slotsA]; decide +kernel)
    (by rw [Ex8.slotsA]; decide +kernel) 0
  exact ⟨d', e, hr, hsl, hd⟩

/-! ## `create_dir` with a cluster-chain directory without an entry (the root of FAT32) as parent -/

open FatVerif.FileSim FatVerif.Fat in
/-- **`createDir_chain_sim`, chain parent without an entry**: as `createDir_root_sim`; `hlastv`: the last cluster of the
    parent's chain is not free (so the free cluster `c` is not on the chain) -/
theorem createDir_chain_sim {d : Dev} {c0 : Nat} {chain : List Nat} (h : ChainReadable d c0 none chain)
    (hwf : d.img.WF) (hinfo : InfoOk d.fs d.img) (ha : d.fs.lfnAlloc = true) (hacc : d.fs.accDate = false)
    (hcs64 : 64 ≤ d.fs.clusterSize) (hu32 : d.fs.clusterSize < 4294967296)
    (hfuelN : d.fs.clusterSize / 32 < dirFuel d.fs) (env : Env) (path name : String)
    (hsp : Names.splitPath path = (name, none)) (hdot : (name = "." || name = "..") = false)
    (hval : Names.validateLongName name = .ok ()) (a : List Nat)
    (hchk : DirAlias.checkForExistenceL env.upper (chainSlots d.fs d.img chain) name (some true) 70000 = .ok (.alias a))
    (c : Nat) (hfind : allocFindV (tabView d.fs d.img) d.fs.fsInfo.next d.fs.totalClusters = some c)
    (hlastv : ∀ l, chain.getLast? = some l → tabView d.fs d.img l ≠ .free)
    (hfit : DirSlots.findFree (chainSlots d.fs d.img chain) (Lfn.numParts (Names.encodeUtf16 name.toList).length + 1) +
      (Lfn.numParts (Names.encodeUtf16 name.toList).length + 1) ≤ chain.length * (d.fs.clusterSize / 32)) (fuel : Nat) :
    ∃ (d' : Dev) (ed0 : DirEntryEditor),
      run (createDir env (fuel + 1) (.file (FileH.new (some c0) none)) path) d =
        (.ok (.file (FileH.new (some c) (some ed0))), d') ∧
      ed0.data = sfnAt d.fs d.clock a 16 (some c) ∧
      chainSlots d'.fs d'.img chain = DirSlots.writeEntry (chainSlots d.fs d.img chain) (Names.encodeUtf16 name.toList)
        (DirAlias.sfnWith a (16 :: sfnStamp d.fs d.clock (some c))) ∧
      tabView d'.fs d'.img = updV (tabView d.fs d.img) c .eoc ∧
      chainSlots d'.fs d'.img [c] =
        DirAlias.sfnWith (46 :: List.replicate 10 32) (16 :: sfnStamp d.fs d.clock (some c)) ::
        DirAlias.sfnWith (46 :: 46 :: List.replicate 9 32) (16 :: sfnStamp d.fs d.clock none) ::
        List.replicate (d.fs.clusterSize / 32 - 2) (List.replicate 32 0) ∧
      ChainReadable d' c (some ed0) [c] ∧ ChainReadable d' c0 none chain ∧ d'.fs.curDirty = true ∧ d'.img.WF := by
  have hgeo := h.dir.geo
  obtain ⟨hc2, hct, hcf⟩ := allocFindV_some _ _ _ _ hinfo.hint hfind
  have hcnot : c ∉ chain := free_not_in_chain h.dir.link hcf hlastv
  obtain ⟨V, hN, hsrc, hEx, hInv⟩ : ∃ V : WView d (.file (FileH.new (some c0) none)),
      V.N = chain.length * (d.fs.clusterSize / 32) ∧ V.src = chainSrc d.fs chain ∧ V.Extra = (fun _ => False) ∧
      V.Inv = ChainInv d.fs (FileH.new (some c0) none) c0 chain :=
    ⟨WView.ofChain d c0 chain h.dir hwf h.fuel, rfl, rfl, rfl, rfl⟩
  have hsl : V.slots d.img = chainSlots d.fs d.img chain := by
    unfold WView.slots; rw [hN, hsrc]; exact h.slots_eq
  have hinv0 := h.inv hwf
  obtain ⟨d', hr, hs, hd, hinv', hsl', htv, hnew, hC, _⟩ := V.createDir_sim
    ⟨hsp, hdot, hval, ha, hgeo, hinfo, hacc, h.dir.cs32, hcs64, hu32, hfuelN, by rw [hsl]; exact hchk, hfind⟩
    (by rw [hsl, hN]; exact hfit)
    (fun d1 d2 hv _ hal => by rw [hInv]; exact hinv0.of_alloc hv hal hcnot)
    (fun d1 d2 hi hs _ htv => by rw [hInv] at hi ⊢; exact hi.of_volStep hs htv)
    ⟨fun i hi => by
      rw [hN] at hi
      rw [hsrc]
      exact chainSrc_clear hgeo h.dir.cs32 chain h.dir.inTab hc2 hcnot i hi,
    fun q hq => by rw [hEx] at hq; exact hq.elim⟩ fuel
  rw [hInv] at hinv'
  have hdd : (if (DirStream.file (FileH.new (some c0) none)).isRootDir then none
      else (DirStream.file (FileH.new (some c0) none)).firstCluster) = none := rfl
  rw [hdd] at hnew
  refine ⟨d', _, hr, rfl, ?_, htv, ?_, ⟨hC, ?_⟩, ChainReadable.of_inv hinv', hd, hs.wf hwf⟩
  · rw [chainSlots_of_inv hinv', ← hsl]
    have : V.slots d'.img = srcSlots d'.img (chainSrc d.fs chain) (chain.length * (d.fs.clusterSize / 32)) := by
      unfold WView.slots; rw [hN, hsrc]
    rw [← this, hsl']
  · rw [← hnew, ← srcSlots_chain d'.fs d'.img hC.geo.cs_pos hC.cs32 [c], chainSrc_geom hs.geom, hs.geom.clusterSize,
      List.length_singleton, Nat.one_mul]
  · rw [List.length_singleton, Nat.one_mul, hs.geom.clusterSize, dirFuel_geom hs.geom]; exact hfuelN

open FatVerif.FileSim FatVerif.Fat in
/-- non-vacuity: `create_dir("N")` in the two-cluster directory of `Ex5` (allocator: cluster 4; entry at slots 18–19) -/
example : ∃ (d' : Dev) (ed0 : DirEntryEditor),
    run (createDir Ex3.env 1 (.file (FileH.new (some 2) none)) "N") Ex5.dev = (.ok (.file (FileH.new (some 4) (some ed0))), d') ∧
    tabView d'.fs d'.img 4 = .eoc ∧ ChainReadable d' 4 (some ed0) [4] ∧ ChainReadable d' 2 none [2, 3] := by
  obtain ⟨d', ed0, hr, _, _, htv, _, hC, hP, _⟩ := createDir_chain_sim Ex5.readable Ex5.wf
    (infoOk_none rfl rfl) rfl rfl (by decide) (by decide) (by decide) Ex3.env "N" "N"
    (by decide +kernel) (by decide) (by decide +kernel) [78, 32, 32, 32, 32, 32, 32, 32, 32, 32, 32]
    (by rw [Ex5.chain_slots]; decide +kernel) 4 (by rw [Ex5.fat]; decide +kernel)
    (fun l hl => by
      have : l = 3 := by simpa using hl.symm
      rw [this, Ex5.fat]; decide) (by rw [Ex5.chain_slots]; decide +kernel) 0
  exact ⟨d', ed0, hr, by rw [htv]; rfl, hC, hP⟩

open FatVerif.FileSim FatVerif.Fat in
/-- non-vacuity of `WView.createDir_sim` with a SUB-DIRECTORY as parent: `create_dir("N")` in the directory `A` of `Ex8`
    (allocator: cluster 5); the `..` record of the new directory names cluster 2 -/
example : ∃ (d' : Dev) (ed0 : DirEntryEditor),
    run (createDir Ex3.env 1 (.file (FileH.new (some 2) (some Ex8.edA))) "N") Ex8.dev =
      (.ok (.file (FileH.new (some 5) (some ed0))), d') ∧
    tabView d'.fs d'.img 5 = .eoc ∧
    (srcSlots d'.img (chainSrc Ex8.dev.fs [5]) (Ex8.dev.fs.clusterSize / 32)).getD 1 [] =
      DirAlias.sfnWith (46 :: 46 :: List.replicate 9 32) (16 :: sfnStamp Ex8.dev.fs Ex8.dev.clock (some 2)) := by
  have hhere : SubInv Ex8.dev.fs Ex8.edA 2 [2] Ex8.dev.clock Ex8.dev := Ex8.VA.here
  have hfe : (fatSliceOf Ex8.dev.fs).beginOff + (fatSliceOf Ex8.dev.fs).mirrors * (fatSliceOf Ex8.dev.fs).size = 1024 := by
    decide
  have hcs : Ex8.dev.fs.clusterSize = 512 := by decide
  have hsz : Ex8.dev.img.size = 4096 := by decide
  obtain ⟨d', hr, _, _, _, _, htv, hnew, _⟩ := Ex8.VA.createDir_sim (env := Ex3.env) (path := "N") (name := "N")
    (a := [78, 32, 32, 32, 32, 32, 32, 32, 32, 32, 32]) (c := 5)
    ⟨by decide +kernel, by decide, by decide +kernel, rfl, Ex8.geo, infoOk_none rfl rfl, rfl, by decide, by decide,
      by decide, by decide, by rw [Ex8.slotsA]; decide +kernel, by rw [Ex8.fat]; decide +kernel⟩
    (by rw [Ex8.slotsA]; decide +kernel)
    (fun d1 d2 hv hc hal => SubInv.of_alloc hhere hv hc hal (by decide))
    (fun d1 d2 hi hs hc htv => SubInv.of_volStep hi hs hc htv)
    ⟨fun i hi => by
      have hi' : i < 16 := hi
      have e : Ex8.VA.src (32 * i) = chainSrc Ex8.dev.fs [2] (32 * i) := rfl
      rw [e, Ex8.src 2 i hi', Ex8.off, Ex8.off, hfe, hcs, hsz]
      omega,
    fun q hq => by
      have hq' : subExtra Ex8.edA q := hq
      unfold subExtra at hq'
      have : Ex8.edA.pos = 1024 := rfl
      rw [Ex8.off, hfe, hcs]
      omega⟩ 0
  refine ⟨d', _, hr, by rw [htv]; rfl, ?_⟩
  rw [hnew]
  rfl

/-! ## the outcomes of the mutating calls that only read (Proofs/DirWriteFail)

`DirView.createFile_head` / `createDir_head` (the reading part of the call by the answer of `check_for_existence`: the
name exists and is opened, or is of the wrong kind: `InvalidInput`), `remove_head` (`NotFound`), `remove_nonEmpty_sim`
(`DirNotEmpty`), `rename_file_head` (`AlreadyExists`, or nothing when the entry found is the source entry itself). All keep the volume (`Reads` / `FailsV`). Non-vacuity on `Ex4` and `Ex3`: -/

/-- `create_file("hello.TXT")` opens the existing file; `create_dir("Hello.txt")` fails with `InvalidInput` (it is a
    file); `remove("nothing")` fails with `NotFound`; `rename("hello.txt", "b")` fails with `AlreadyExists` -/
example :
    Reads (createFile Ex3.env 1 (rootAt Ex4.dev.fs 0) "hello.TXT") Ex4.dev
      (FileH.new ((toDirEntryS (DirView.ofRoot Ex4.readable).src Ex4.hello).firstCluster Ex4.dev.fs)
        (some (toDirEntryS (DirView.ofRoot Ex4.readable).src Ex4.hello).editor)) ∧
    FailsV (createDir Ex3.env 1 (rootAt Ex4.dev.fs 0) "Hello.txt") Ex4.dev .invalidInput ∧
    FailsV (remove Ex3.env 1 (rootAt Ex4.dev.fs 0) "nothing") Ex4.dev .notFound ∧
    FailsV (renameInternal Ex3.env (rootAt Ex4.dev.fs 0) "hello.txt" (rootAt Ex4.dev.fs 0) "b") Ex4.dev .alreadyExists := by
  have hS := (DirView.slots_ofRoot Ex4.readable).trans Ex4.root_slots
  refine ⟨?_, ?_, ?_, ?_⟩
  · have key := (DirView.ofRoot Ex4.readable).createFile_head rfl Ex3.env "hello.TXT" "hello.TXT" (by decide +kernel) 0
      Ex4.dev (SameVol.refl _)
    rw [if_neg (by decide), show DirView.check _ Ex3.env "hello.TXT" (some false) = .ok (.entry Ex4.hello) from by
      unfold DirView.check; rw [hS]; decide +kernel] at key
    exact key
  · have key := (DirView.ofRoot Ex4.readable).createDir_head rfl Ex3.env "Hello.txt" "Hello.txt" (by decide +kernel) 0
      Ex4.dev (SameVol.refl _)
    rw [show DirView.check _ Ex3.env "Hello.txt" (some true) = .error .invalidInput from by
      unfold DirView.check; rw [hS]; decide +kernel] at key
    exact key
  · have key := (DirView.ofRoot Ex4.readable).remove_head Ex3.env "nothing" "nothing" (by decide +kernel) 0 Ex4.dev
      (SameVol.refl _)
    rw [if_neg (by decide), show DirView.lookup _ Ex3.env "nothing" none = .error .notFound from by
      unfold DirView.lookup DirView.lfnEntries; rw [hS]; decide +kernel] at key
    exact key
  · have key := (DirView.ofRoot Ex4.readable).rename_file_head (DirView.ofRoot Ex4.readable) rfl Ex3.env "hello.txt" "b"
      Ex4.dev (SameVol.refl _)
    rw [if_neg (by decide), show DirView.lookup _ Ex3.env "hello.txt" none =
        .ok (toDirEntryS (DirView.ofRoot Ex4.readable).src Ex4.hello) from by
          unfold DirView.lookup DirView.lfnEntries; rw [hS]; decide +kernel,
      show Names.validateLongName "b" = .ok () from by decide +kernel] at key
    dsimp only at key
    rw [if_neg (by decide +kernel), show DirView.check _ Ex3.env "b" none =
        .ok (.entry ⟨(DirFileEntryData.new Ex.sfn2 0x10).serialize, [], 2, 3⟩) from by
          unfold DirView.check; rw [hS]; decide +kernel] at key
    dsimp only at key
    rw [if_neg (by decide +kernel)] at key
    exact key

/-- `remove("SUB")` on the root of `Ex3` fails with `DirNotEmpty`: `SUB` lists "B" and "Hello.txt" -/
example : FailsV (remove Ex3.env 1 (rootAt Ex3.dev.fs 0) "SUB") Ex3.dev .dirNotEmpty := by
  have h1 : (DirView.ofRoot Ex3.root).lookup Ex3.env "SUB" none = .ok Ex3.subE := by
    unfold DirView.lookup DirView.lfnEntries
    rw [DirView.slots_ofRoot, Ex3.root_slots]
    decide +kernel
  obtain ⟨Vs, hVs⟩ : ∃ Vs : DirView Ex3.dev (DirEntry.dirStream Ex3.dev.fs Ex3.subE), Vs.isEmptyV = false := by
    rw [Ex3.sub_stream]
    refine ⟨DirView.ofChain Ex3.sub, ?_⟩
    unfold DirView.isEmptyV DirView.lfnEntries
    rw [DirView.slots_ofChain, Ex3.chain_slots]
    decide +kernel
  exact (DirView.ofRoot Ex3.root).remove_nonEmpty_sim Ex3.env "SUB" "SUB" (by decide +kernel) (by decide) Ex3.subE h1
    (by decide +kernel) Vs hVs 0 Ex3.dev (SameVol.refl _)

/-! ## `create_dir` on a full volume: `NotEnoughSpace`, nothing changes (`DirView.createDir_noSpace_sim`) -/

namespace Ex10
/-- the geometry of `Ex2`, all four clusters in use (each an end of chain), the root empty -/
def bytes : List Nat :=
  List.replicate 512 0 ++
  ([0xF8, 0xFF, 0xFF, 0xFF, 0xFF, 0xFF, 0xFF, 0xFF, 0xFF, 0xFF, 0xFF, 0xFF] ++ List.replicate 500 0) ++
  List.replicate 3072 0
def dev : Dev := { img := Img.ofBytes bytes 4096, fs := Ex2.fs }
end Ex10

theorem Ex10.wf : Ex10.dev.img.WF :=
  Img.ofBytes_wf _ _ (by simp only [Ex10.bytes, List.length_append, List.length_replicate]; decide +kernel)

theorem Ex10.root : RootReadable Ex10.dev 16 := ⟨rfl, by decide, by decide, by decide⟩

theorem Ex10.root_slots : rootDirSlots Ex10.dev.fs Ex10.dev.img = List.replicate 16 DirSlots.zeroSlot :=
  rootDirSlots_ofBytes _ Ex10.bytes _ (by decide) _ (by decide +kernel)

open FatVerif.FileSim in
theorem Ex10.fat : tabView Ex10.dev.fs Ex10.dev.img = ((List.replicate 6 .eoc).getD · .bad) :=
  tabView_ofBytes _ Ex10.bytes _ rfl (by decide) _ (by decide +kernel)

open FatVerif.FileSim FatVerif.Fat in
example : FailsV (createDir Ex3.env 1 (rootAt Ex10.dev.fs 0) "N") Ex10.dev .noSpace :=
  (DirView.ofRoot Ex10.root).createDir_noSpace_sim rfl Ex3.env "N" "N" (by decide +kernel) (by decide) (by decide +kernel)
    [78, 32, 32, 32, 32, 32, 32, 32, 32, 32, 32]
    (by unfold DirView.check; rw [DirView.slots_ofRoot, Ex10.root_slots]; decide +kernel) rfl Ex10.wf Ex2.geo
    (infoOk_none rfl rfl) (by rw [Ex10.fat]; decide +kernel) 0

/-! ## `create_dir` when the parent is full and grows (Proofs/DirCreate)

`createDir_chain_grow`: the parent is a cluster chain without an entry (the root of FAT32); `alloc_cluster(None, true)`
takes `c` for the new directory, then `write_entry` in the parent allocates `c2` behind the parent's last cluster
(`ChainKind.writeEntry_grow`: the FAT afterwards is `allocLinkV (updV tv c EOC) (some last) c2`), then the dot entries
(`createDir_child`). Non-vacuity: `create_dir("N")` in the full directory of `Ex9`: `c = 3`, `c2 = 4`. -/

open FatVerif.FileSim FatVerif.Fat in
example : ∃ (d' : Dev) (ed0 : DirEntryEditor),
    run (createDir Ex3.env 1 (.file (FileH.new (some 2) none)) "N") Ex9.dev = (.ok (.file (FileH.new (some 3) (some ed0))), d') ∧
    tabView d'.fs d'.img 2 = .data 4 ∧ tabView d'.fs d'.img 3 = .eoc ∧ tabView d'.fs d'.img 4 = .eoc ∧
    ChainDir d' (FileH.new (some 3) (some ed0)) 3 [3] := by
  have hS := Ex9.readable.slots_eq.trans Ex9.chain_slots
  obtain ⟨d', ed0, hr, _, _, _, _, _, htv, _, hC⟩ := createDir_chain_grow Ex9.dev 2 [2] Ex9.readable.dir Ex9.wf (by decide)
    (infoOk_none rfl rfl) rfl rfl (by decide) (by decide) (by decide) (by decide) Ex3.env
    "N" "N" (by decide +kernel) (by decide) (by decide +kernel) [78, 32, 32, 32, 32, 32, 32, 32, 32, 32, 32]
    (by rw [hS]; decide +kernel) 3 (by rw [Ex9.fat]; decide +kernel) 2 rfl (by rw [Ex9.fat]; decide) 4
    (by rw [Ex9.fat]; decide +kernel) (by rw [hS]; decide +kernel) (by rw [hS]; decide +kernel) 0
  refine ⟨d', ed0, hr, ?_, ?_, ?_, hC⟩ <;> rw [htv] <;> simp [allocLinkV, updV]

/-! ## `create_dir` when the parent is a full SUB-DIRECTORY (Proofs/DirCreate: `ChainKind.writeEntry_grow`,
`createDir_sub_grow`). Non-vacuity: the directory `A` (cluster 2) holds `.`, `..` and 14 entries; `create_dir("N")`
takes cluster 3 for the new directory and grows `A` by cluster 4; the `..` of the new directory names cluster 2. -/

namespace Ex11
def bytes : List Nat :=
  List.replicate 512 0 ++
  ([0xF8, 0xFF, 0xFF, 0xFF, 0xFF, 0xFF] ++ List.replicate 506 0) ++
  ((Ex8.dirRec Ex8.nameA (some 2)).serialize ++ List.replicate 480 0) ++
  ((Ex8.dirRec Ex8.dotN (some 2)).serialize ++ (Ex8.dirRec Ex8.ddN none).serialize ++
    (List.replicate 14 (DirFileEntryData.new Ex.sfn2 0x10).serialize).flatten) ++
  List.replicate 2048 0
def dev : Dev := { img := Img.ofBytes bytes 4096, fs := Ex2.fs }
end Ex11

theorem Ex11.wf : Ex11.dev.img.WF :=
  Img.ofBytes_wf _ _ (by simp only [Ex11.bytes, List.length_append, List.length_replicate]; decide +kernel)

open FatVerif.FileSim in
theorem Ex11.fat : tabView Ex11.dev.fs Ex11.dev.img = ([.eoc, .eoc, .eoc, .free, .free, .free].getD · .bad) :=
  tabView_ofBytes _ Ex11.bytes _ rfl (by decide) _ (by decide +kernel)

open FatVerif.FileSim FatVerif.Fat in
theorem Ex11.sub : ChainDir Ex11.dev (FileH.new (some 2) (some Ex8.edA)) 2 [2] :=
  ⟨rfl, Ex2.geo, rfl, Chain.last 2 (fun n hn => by rw [Ex11.fat] at hn; cases hn), by decide, by decide, Or.inl rfl,
    (fun e he => by cases he; rfl), by decide, by decide⟩

/-- the entry of `A` (in the root region) lies before every cluster -/
theorem Ex11.own_before (x : Nat) : Ex8.edA.pos + 32 ≤ clusterOff Ex11.dev.fs x ∨
    clusterOff Ex11.dev.fs x + Ex11.dev.fs.clusterSize ≤ Ex8.edA.pos := by
  have h1 := FileSim.dataStart_le_clusterOff Ex11.dev.fs x
  have h2 : Ex11.dev.fs.firstDataSector * Ex11.dev.fs.bps = 1536 := by decide
  have h3 : Ex8.edA.pos = 1024 := rfl
  omega

open FatVerif.FileSim in
theorem Ex11.slots : srcSlots Ex11.dev.img (chainSrc Ex11.dev.fs [2]) ([2].length * (Ex11.dev.fs.clusterSize / 32)) =
    (Ex8.dirRec Ex8.dotN (some 2)).serialize :: (Ex8.dirRec Ex8.ddN none).serialize ::
      List.replicate 14 (DirFileEntryData.new Ex.sfn2 0x10).serialize :=
  (srcSlots_chain _ _ (by decide) (by decide) _).trans
    (chainSlots_ofBytes _ Ex11.bytes _ _ (by decide) _ (by decide +kernel))

open FatVerif.FileSim FatVerif.Fat in
example : ∃ (d' : Dev) (edN : DirEntryEditor),
    run (createDir Ex3.env 1 (.file (FileH.new (some 2) (some Ex8.edA))) "N") Ex11.dev =
      (.ok (.file (FileH.new (some 3) (some edN))), d') ∧
    tabView d'.fs d'.img 2 = .data 4 ∧ tabView d'.fs d'.img 3 = .eoc ∧ tabView d'.fs d'.img 4 = .eoc ∧
    (srcSlots d'.img (chainSrc Ex11.dev.fs [3]) (Ex11.dev.fs.clusterSize / 32)).getD 1 [] =
      DirAlias.sfnWith (46 :: 46 :: List.replicate 9 32) (16 :: sfnStamp Ex11.dev.fs Ex11.dev.clock (some 2)) := by
  obtain ⟨d', edN, hr, _, _, _, _, _, htv, hnew, _⟩ := createDir_sub_grow Ex11.dev 2 Ex8.edA [2] Ex11.sub Ex11.wf
    (by decide) (by decide) (by decide) (by decide) (by decide)
    (infoOk_none rfl rfl) rfl rfl (by decide) (by decide) (by decide) (by decide) Ex3.env
    "N" "N" (by decide +kernel) (by decide) (by decide +kernel) [78, 32, 32, 32, 32, 32, 32, 32, 32, 32, 32]
    (by rw [Ex11.slots]; decide +kernel) 3 (by rw [Ex11.fat]; decide +kernel) 2 rfl (by rw [Ex11.fat]; decide) 4
    (by rw [Ex11.fat]; decide +kernel)
    (fun x _ _ => Ex11.own_before x)
    (by rw [Ex11.slots]; decide +kernel) (by rw [Ex11.slots]; decide +kernel) 0
  refine ⟨d', edN, hr, ?_, ?_, ?_, ?_⟩
  · rw [htv]; simp [allocLinkV, updV]
  · rw [htv]; simp [allocLinkV, updV]
  · rw [htv]; simp [allocLinkV, updV]
  · rw [hnew]; rfl

open FatVerif.FileSim FatVerif.Fat in
/-- non-vacuity of `createFile_sub_grow`: `create_file("N")` in the full sub-directory `A` of `Ex11` grows it by
    cluster 3 (FAT: 2 → 3, 3 = end of chain) -/
example : ∃ (d' : Dev) (e : DirEntry),
    run (createFile Ex3.env 1 (.file (FileH.new (some 2) (some Ex8.edA))) "N") Ex11.dev =
      (.ok (FileH.new (e.firstCluster Ex11.dev.fs) (some e.editor)), d') ∧
    tabView d'.fs d'.img 2 = .data 3 ∧ tabView d'.fs d'.img 3 = .eoc := by
  obtain ⟨d', e, hr, _, _, _, _, _, _, htv⟩ := createFile_sub_grow Ex11.dev 2 Ex8.edA [2] Ex11.sub Ex11.wf
    (by decide) (by decide) (by decide) (by decide) (by decide)
    (infoOk_none rfl rfl) rfl Ex3.env "N" "N" (by decide +kernel) (by decide)
    (by decide +kernel) [78, 32, 32, 32, 32, 32, 32, 32, 32, 32, 32] (by rw [Ex11.slots]; decide +kernel) 3 2 rfl
    (by rw [Ex11.fat]; decide) (by rw [Ex11.fat]; decide +kernel) (by decide) (by decide)
    (fun x _ _ => Ex11.own_before x)
    (by rw [Ex11.slots]; decide +kernel) (by rw [Ex11.slots]; decide +kernel) 0
  refine ⟨d', e, hr, ?_, ?_⟩ <;> rw [htv] <;> simp [allocLinkV, updV]

end FatVerif.DirSim
