import FatVerif.Proofs.FormatLog
import FatVerif.Proofs.WriteClassCluster
import FatVerif.Model.FatView
import FatVerif.Proofs.DirEntry
/-!
# C06 (image part) — what `format_volume` writes

Model: `formatVolume` (`Model/Fs.lean`), the effectful program validated call-exactly against the library.
All statements are about the device WRITE LOG (`Dev.log`) of a successful run and its replay
`Dev.bytes g d' = replay g d'.log` over ARBITRARY previous contents `g` (the device need not be zero before
formatting; that `Img.write` realises `applyRec` on the sparse page image is `run_img_eq_replay` of Proofs/ImgReplay).

Standing hypotheses `FormatRun o d d'`: the request is accepted by the builder (`Accepted`, `InRange`), the run
succeeded, `total_sectors < 2^32`, and the device has at least `total_sectors * bytes_per_sector` bytes.
That the run DOES succeed on a fault-free device is not claimed here: it depends on what `alloc_cluster` reads back.
-/
namespace FatVerif.C06image
open FatVerif FatVerif.Format

/-! ## `format_no_other_writes` -/

/-- the byte regions `format_volume` may write to -/
def FmtRegion (boot : FBoot) (ft : FatType) (off : Nat) (bs : List Nat) : Prop :=
  -- boot sector
  off + bs.length ≤ boot.bpb.bps ∨
  -- FAT32 backup boot sector (sector 6) and FS-info sector (sector 1)
  (ft = .fat32 ∧ 6 * boot.bpb.bps ≤ off ∧ off + bs.length ≤ 7 * boot.bpb.bps) ∨
  (ft = .fat32 ∧ boot.bpb.bps ≤ off ∧ off + bs.length ≤ 2 * boot.bpb.bps) ∨
  -- all FAT copies
  (boot.bpb.reserved * boot.bpb.bps ≤ off ∧
    off + bs.length ≤ (boot.bpb.reserved + boot.bpb.fats * boot.bpb.sectorsPerFat) * boot.bpb.bps) ∨
  -- root directory: the fixed region (FAT12/16) or the first data cluster (FAT32)
  ((boot.bpb.reserved + boot.bpb.fats * boot.bpb.sectorsPerFat) * boot.bpb.bps ≤ off ∧
    off + bs.length ≤ (boot.bpb.reserved + boot.bpb.fats * boot.bpb.sectorsPerFat) * boot.bpb.bps +
      (if ft = .fat32 then boot.bpb.spc else boot.bpb.rootDirSectors) * boot.bpb.bps)

theorem labelSpec_within {o : FormatOpts} {p : Nat} {L : List LogItem} (h : labelSpec o p L) :
    Within p (p + 32) L := by
  unfold labelSpec at h
  split at h
  · have := h.within
    refine this.mono (Nat.le_refl _) ?_
    rw [List.length_take]; omega
  · rw [h]; exact Within.nil _ _

/-- where the records of the last phases (FAT32 root cluster, FS-info, label) lie: in the FS-info sector, in the FAT
    copies (`alloc_cluster`), or in the root directory -/
theorem tail_mem {o : FormatOpts} {t : Nat} {boot : FBoot} {ft : FatType} {Lb Lk Lz Lf Lr Lt : List LogItem}
    (hg : FmtGeom o t boot ft) (R : FmtRegions o boot ft Lb Lk Lz Lf Lr Lt) {off : Nat} {bs : List Nat} (hw : LogItem.write off bs ∈ Lt) :
    (ft = .fat32 ∧ boot.bpb.bps ≤ off ∧ off + bs.length ≤ 2 * boot.bpb.bps) ∨
    (boot.bpb.reserved * boot.bpb.bps ≤ off ∧
      off + bs.length ≤ (boot.bpb.reserved + boot.bpb.fats * boot.bpb.sectorsPerFat) * boot.bpb.bps) ∨
    ((boot.bpb.reserved + boot.bpb.fats * boot.bpb.sectorsPerFat) * boot.bpb.bps ≤ off ∧
      off + bs.length ≤ (boot.bpb.reserved + boot.bpb.fats * boot.bpb.sectorsPerFat) * boot.bpb.bps +
        (if ft = .fat32 then boot.bpb.spc else boot.bpb.rootDirSectors) * boot.bpb.bps) := by
  have hB := hg.bps_ge
  -- the label entry fits the first sector of the root directory
  have hroot : 512 ≤ (if ft = .fat32 then boot.bpb.spc else boot.bpb.rootDirSectors) * boot.bpb.bps := by
    refine Nat.le_trans hB (Nat.le_mul_of_pos_left _ ?_)
    split
    · exact hg.spc_pos
    · exact hg.rds1 ‹_›
  rcases R.tail with ⟨h32, La, Lc, Li, Ll, hLt, hWa, hTc, ⟨tc, _, hTi⟩, hll, _⟩ | ⟨h32, hll⟩
  · rw [hLt] at hw
    simp only [List.mem_append] at hw
    rcases hw with hw | hw | hw | hw
    · have := labelSpec_within hll _ _ hw
      exact Or.inr (Or.inr ⟨this.1, by omega⟩)
    · have := hTi.within _ _ hw
      rw [List.length_append, List.length_replicate, List.length_take, fsInfoBytes_len] at this
      exact Or.inl ⟨h32, by omega, by omega⟩
    · have := hTc.within _ _ hw
      rw [List.length_replicate] at this
      exact Or.inr (Or.inr (by rw [if_pos h32]; exact this))
    · exact Or.inr (Or.inl (hWa _ _ hw))
  · have := labelSpec_within hll _ _ hw
    exact Or.inr (Or.inr ⟨this.1, by omega⟩)

/-- every write record of a successful `format_volume` lies in the boot sector, the FAT32 backup boot sector, the
    FS-info sector, the FAT copies or the root directory region; the device position ends at 0 -/
theorem format_no_other_writes (o : FormatOpts) (d d' : Dev) (h : FormatRun o d d') :
    ∃ boot ft, formatChecked o (fmtTotal o d) = .ok (boot, ft) ∧ LogAll (FmtRegion boot ft) d d' ∧ d'.pos = 0 := by
  obtain ⟨boot, ft, Lb, Lk, Lz, Lf, Lr, Lt, hf⟩ := h.facts
  refine ⟨boot, ft, hf.checked, ?_, hf.pos⟩
  obtain ⟨items, hitems⟩ := run_logExtends _ _ _ _ h.ok
  refine ⟨items, hitems, ?_⟩
  intro off bs hm
  -- the record is one of the classified ones
  have hw : LogItem.write off bs ∈ Lt ++ (Lr ++ (Lf ++ (Lz ++ (Lk ++ Lb)))) := by
    have h1 : d'.writesOf = items.filter LogItem.isWrite ++ d.writesOf := by
      unfold Dev.writesOf; rw [hitems, List.filter_append]
    have h2 := hf.writes
    rw [h1] at h2
    have h3 : items.filter LogItem.isWrite = Lt ++ (Lr ++ (Lf ++ (Lz ++ (Lk ++ Lb)))) := by
      apply List.append_cancel_right (bs := d.writesOf)
      rw [h2]; simp [List.append_assoc]
    rw [← h3]
    exact List.mem_filter.mpr ⟨hm, rfl⟩
  have R := hf.regions
  have hg := hf.geom
  have hB := hg.bps_ge
  simp only [List.mem_append] at hw
  unfold FmtRegion
  rcases hw with hw | hw | hw | hw | hw | hw
  · rcases tail_mem hg R hw with a | a | a
    · exact Or.inr (Or.inr (Or.inl a))
    · exact Or.inr (Or.inr (Or.inr (Or.inl a)))
    · exact Or.inr (Or.inr (Or.inr (Or.inr a)))
  · have := R.rootZero _ _ hw
    right; right; right; right
    by_cases h32 : ft = .fat32
    · rw [if_pos h32]; rw [hg.rds32 h32] at this; omega
    · rw [if_neg h32]; exact this
  · right; right; right; left; exact R.fmt _ _ hw
  · right; right; right; left; exact R.fatZero _ _ hw
  · by_cases h32 : ft = .fat32
    · right; left; exact ⟨h32, R.backup _ _ hw⟩
    · rw [R.backup_nil h32] at hw; cases hw
  · left; exact (R.bootW _ _ hw).2

/-! ## `format_writes_boot` -/

theorem getD_replicate_zero (n i : Nat) : (List.replicate n 0).getD i 0 = 0 := by
  rw [List.getD_eq_getElem?_getD, List.getElem?_replicate]
  split <;> rfl

/-- a boot-sector image padded with zeros, read back -/
theorem bootTile_getD (boot : FBoot) (p x : Nat) (hlen : boot.serialize.length = 512) :
    (bootTile boot p).getD x 0 = if x < 512 then boot.serialize.getD x 0 else 0 := by
  unfold bootTile
  have h512 : (boot.serialize.take 512).length = 512 := by rw [List.length_take, hlen]; rfl
  have ht : boot.serialize.take 512 = boot.serialize := by rw [← hlen]; exact List.take_length
  by_cases hx : x < 512
  · rw [if_pos hx, getD_append_lt' (by omega), ht]
  · rw [if_neg hx, getD_append_ge' (by omega), getD_replicate_zero]

section order
variable {o : FormatOpts} {t : Nat} {boot : FBoot} {ft : FatType} (hg : FmtGeom o t boot ft)
include hg

theorem fatBeg_ge : boot.bpb.bps ≤ boot.bpb.reserved * boot.bpb.bps := by
  rw [hg.reserved]
  cases ft <;> simp [reservedFor] <;> omega

theorem fatBeg_32 (h32 : ft = .fat32) : boot.bpb.reserved * boot.bpb.bps = 8 * boot.bpb.bps := by
  rw [hg.reserved, h32]; rfl

omit hg in
theorem fatBeg_le_end :
    boot.bpb.reserved * boot.bpb.bps ≤ (boot.bpb.reserved + boot.bpb.fats * boot.bpb.sectorsPerFat) * boot.bpb.bps :=
  Nat.mul_le_mul_right _ (Nat.le_add_right _ _)

end order

/-! ## all FAT copies are equal (every FAT type, FAT12 included); the entry values are proved on the image, `Props/C06fat.lean` -/

theorem copiesEqual_outside {B Z M : Nat} {g : Nat → Nat} {L rest : List LogItem}
    (h : CopiesEqual B Z M (replay g rest))
    (hout : ∀ off bs, LogItem.write off bs ∈ L → off + bs.length ≤ B ∨ B + M * Z ≤ off) :
    CopiesEqual B Z M (replay g (L ++ rest)) := by
  intro i hi x hx
  have hb : B + i * Z + x < B + M * Z := by
    have := Nat.mul_le_mul_right Z (show i + 1 ≤ M from hi)
    rw [Nat.add_mul, Nat.one_mul] at this
    omega
  have hb0 : B + x < B + M * Z := by
    have := Nat.mul_le_mul_right Z (show 1 ≤ M by omega)
    omega
  rw [replay_skip g L rest _ (fun off bs hm hc => by rcases hout off bs hm with a | a <;> omega),
    replay_skip g L rest _ (fun off bs hm hc => by rcases hout off bs hm with a | a <;> omega)]
  exact h i hi x hx

theorem statusOff_le (fs : FsState) : statusOff fs + 1 ≤ 512 := by
  unfold statusOff; split <;> omega

/-- **all FAT copies hold the same bytes** after a successful `format_volume` (log replay over arbitrary previous
    contents), for FAT12, FAT16 and FAT32 alike: every FAT write of `format_fat`/`alloc_cluster` goes through the
    mirroring `DiskSlice`, and the zero fill covers all copies -/
theorem format_fat_copies_equal (o : FormatOpts) (d d' : Dev) (h : FormatRun o d d') :
    ∃ boot ft, formatChecked o (fmtTotal o d) = .ok (boot, ft) ∧ ∀ (g : Nat → Nat),
      CopiesEqual (boot.bpb.reserved * boot.bpb.bps) (boot.bpb.sectorsPerFat * boot.bpb.bps) boot.bpb.fats (d'.bytes g) := by
  obtain ⟨boot, ft, Lb, Lk, Lz, Lf, Lr, Lt, hf⟩ := h.facts
  refine ⟨boot, ft, hf.checked, fun g => ?_⟩
  have R := hf.regions
  have hg := hf.geom
  obtain ⟨d0, hl0, hs0, himg0, hlog⟩ := hf.log
  obtain ⟨dK, hsK, himgK, hsizeK, hfr⟩ := hlog.rest
  obtain ⟨tc, s, dA, dB, dC, htc, hsA, himgA, hsizeA, hrun, hsf, hsr, hsizeC, _⟩ := hfr.fmt
  rw [fmtSlice_eq boot.bpb ft hg.extFlags] at hrun
  have hmir : 0 < (fmtSlice boot.bpb).mirrors := by show 0 < boot.bpb.fats; have := hg.fats; omega
  have hbpsO : boot.bpb.bps = o.bps := formatChecked_bps h.acc h.tot hf.checked
  have hwinsz : (fmtSlice boot.bpb).beginOff + (fmtSlice boot.bpb).mirrors * (fmtSlice boot.bpb).size ≤ d.img.size :=
    Nat.le_trans hg.window_le (by rw [hbpsO]; exact h.size)
  have hinv : SliceInv (fmtSlice boot.bpb) (fmtSlice boot.bpb) := SliceInv.self (Nat.zero_le _)
  have hBge := fatBeg_ge hg
  have hB := hg.bps_ge
  have hwindow : boot.bpb.reserved * boot.bpb.bps + boot.bpb.fats * (boot.bpb.sectorsPerFat * boot.bpb.bps) =
      (boot.bpb.reserved + boot.bpb.fats * boot.bpb.sectorsPerFat) * boot.bpb.bps := (FmtGeom.fatEnd_eq).symm
  -- after the zero fill all copies are zero
  have c0 : CopiesEqual (boot.bpb.reserved * boot.bpb.bps) (boot.bpb.sectorsPerFat * boot.bpb.bps) boot.bpb.fats
      (replay g (Lz ++ (Lk ++ (Lb ++ d.writesOf)))) := by
    have zero : ∀ i, i < boot.bpb.fats → ∀ x, x < boot.bpb.sectorsPerFat * boot.bpb.bps →
        replay g (Lz ++ (Lk ++ (Lb ++ d.writesOf)))
          (boot.bpb.reserved * boot.bpb.bps + i * (boot.bpb.sectorsPerFat * boot.bpb.bps) + x) = 0 := by
      intro i hi x hx
      have := Nat.mul_le_mul_right (boot.bpb.sectorsPerFat * boot.bpb.bps) (show i + 1 ≤ boot.bpb.fats from hi)
      rw [Nat.add_mul, Nat.one_mul] at this
      rw [hf.fatZeroT.replay, List.length_replicate, Nat.mul_assoc boot.bpb.fats,
        if_pos ⟨by omega, by omega⟩, getD_replicate_zero]
    intro i hi x hx
    have z0 := zero 0 (by have := hg.fats; omega) x hx
    rw [Nat.zero_mul, Nat.add_zero] at z0
    rw [zero i hi x hx, z0]
  -- format_fat
  have hmsF := ((fat_ops_mirrored (sz := d.img.size) hmir hwinsz ft hinv).2.2.2 boot.bpb.media
    (boot.bpb.sectorsPerFat * boot.bpb.bps) tc).out dA s dB (by rw [hsizeA, hsizeK, hs0]) hrun
  obtain ⟨items, hit, c1⟩ := mirroredSeq_copies_equal hmsF.1
    (Nat.le_trans (statusOff_le _) (Nat.le_trans hB hBge)) _ c0
  have : items = Lf := Seg.unique hit hsf
  subst this
  rw [← replay_append] at c1
  -- root zero fill: outside the window
  have c2 : CopiesEqual (boot.bpb.reserved * boot.bpb.bps) (boot.bpb.sectorsPerFat * boot.bpb.bps) boot.bpb.fats
      (replay g (Lr ++ (items ++ (Lz ++ (Lk ++ (Lb ++ d.writesOf)))))) :=
    copiesEqual_outside c1 (fun off bs hm => Or.inr (by rw [hwindow]; exact (R.rootZero _ _ hm).1))
  rw [← Dev.bytes_writesOf, hf.writes]
  rcases R.tail with ⟨h32, La, Lc, Li, Ll, hLt, hWa, hTc, ⟨_, _, hTi⟩, hll, ⟨s2, dA2, dB2, hdev2, hrun2, hsa⟩⟩ | ⟨hne, hll⟩
  · subst h32
    have hmsA := ((fat_ops_mirrored (sz := dA2.img.size) hmir hdev2 .fat32 hinv).1 none none 1).out dA2 _ dB2 rfl hrun2
    obtain ⟨itemsA, hitA, c3⟩ := mirroredSeq_copies_equal hmsA.1
      (Nat.le_trans (statusOff_le _) (Nat.le_trans hB hBge)) _ c2
    have : itemsA = La := Seg.unique hitA hsa
    subst this
    rw [← replay_append] at c3
    rw [hLt]
    simp only [List.append_assoc]
    have o2 := fatBeg_32 hg rfl
    have hWi := hTi.within
    rw [List.length_append, List.length_replicate, List.length_take, fsInfoBytes_len] at hWi
    refine copiesEqual_outside (copiesEqual_outside (copiesEqual_outside c3 ?_) ?_) ?_
    · intro off bs hm; right; rw [hwindow]; exact (hTc.within _ _ hm).1
    · intro off bs hm; left; have := hWi _ _ hm; omega
    · intro off bs hm; right; rw [hwindow]; exact (labelSpec_within hll _ _ hm).1
  · exact copiesEqual_outside c2 (fun off bs hm => Or.inr (by rw [hwindow]; exact (labelSpec_within hll _ _ hm).1))

end FatVerif.C06image

namespace FatVerif.C06mount
open FatVerif FatVerif.Format FatVerif.FormatSpec FatVerif.C06image

/-- the devices/requests the theorem speaks about: a request the builder accepts whose pass-through fields fit their
    Rust types (`Accepted`, `InRange`, label bytes are bytes); a device at the start of an API call (empty
    per-operation log) with a well-formed page image, at least `total_sectors * bytes_per_sector` bytes large;
    `total_sectors < 2^32` (automatic when it is computed from the device size and the run succeeds) -/
structure Formattable (o : FormatOpts) (d : Dev) : Prop where
  acc : Accepted o
  rng : InRange o
  labelBytes : ∀ l, o.label = some l → ∀ b ∈ l, b < 256
  logEmpty : d.log = []
  imgWf : d.img.WF
  tot : fmtTotal o d < 4294967296
  size : fmtTotal o d * o.bps ≤ d.img.size

theorem Formattable.run {o : FormatOpts} {d0 d1 : Dev} (h : Formattable o d0)
    (hrun : run (formatVolume o) d0 = (.ok (), d1)) : FormatRun o d0 d1 :=
  ⟨h.acc, h.rng, hrun, h.tot, h.size⟩

end FatVerif.C06mount

namespace FatVerif.C06image
open FatVerif FatVerif.Format

section formatted
open FatVerif.C06mount

/-- a device after a successful `format_volume`: the request, the run, the boot sector chosen, and the facts every
    statement about the formatted device starts from -/
structure Formatted (o : FormatOpts) (d0 d1 : Dev) (boot : FBoot) (ft : FatType) : Prop where
  pre : Formattable o d0
  ran : run (formatVolume o) d0 = (.ok (), d1)
  checked : formatChecked o (fmtTotal o d0) = .ok (boot, ft)
  geom : FmtGeom o (fmtTotal o d0) boot ft
  bps : boot.bpb.bps = o.bps
  len : boot.serialize.length = 512
  allB : AllB boot.serialize
  wf : d1.img.WF
  size : d1.img.size = d0.img.size
  img : ∀ q, d1.img.getByte q = d1.bytes d0.img.getByte q % 256
  facts : ∃ Lb Lk Lz Lf Lr Lt, FormatFacts o d0 d1 boot ft Lb Lk Lz Lf Lr Lt

theorem _root_.FatVerif.C06mount.Formattable.formatted {o : FormatOpts} {d0 d1 : Dev} (hpre : Formattable o d0)
    (hrun : run (formatVolume o) d0 = (.ok (), d1)) : ∃ boot ft, Formatted o d0 d1 boot ft := by
  obtain ⟨boot, ft, Lb, Lk, Lz, Lf, Lr, Lt, hf⟩ := (hpre.run hrun).facts
  obtain ⟨hwf, himg⟩ := run_img_replay _ d0 _ d1 hrun hpre.imgWf hpre.logEmpty
  obtain ⟨_, _, hboot, _⟩ := formatChecked_sized hpre.acc hpre.tot hf.checked
  exact ⟨boot, ft, hpre, hrun, hf.checked, hf.geom, by rw [hboot]; rfl, hf.len,
    by rw [hboot]; exact bootOf_serialize_lt _ _ _ _ _ hpre.labelBytes, hwf, run_img_size _ _ _ _ hrun, himg,
    Lb, Lk, Lz, Lf, Lr, Lt, hf⟩

variable {o : FormatOpts} {d0 d1 : Dev} {boot : FBoot} {ft : FatType}

theorem Formatted.unique {boot' : FBoot} {ft' : FatType} (h : Formatted o d0 d1 boot ft)
    (hc : formatChecked o (fmtTotal o d0) = .ok (boot', ft')) : boot' = boot ∧ ft' = ft := by
  have := h.checked
  rw [hc] at this
  simp only [Except.ok.injEq, Prod.mk.injEq] at this
  exact this

/-- after a successful `format_volume`, bytes `[0, 512)` of sector 0 are the serialised boot sector and the rest of
    the sector is zero; on FAT32 the same holds for the backup sector (`backup_boot_sector = 6`) -/
theorem format_writes_boot (h : Formatted o d0 d1 boot ft) (g : Nat → Nat) {x : Nat} (hx : x < boot.bpb.bps) :
    d1.bytes g x = (if x < 512 then boot.serialize.getD x 0 else 0) ∧
    (ft = .fat32 → d1.bytes g (boot.bpb.backupBoot * boot.bpb.bps + x) =
      (if x < 512 then boot.serialize.getD x 0 else 0)) := by
  obtain ⟨Lb, Lk, Lz, Lf, Lr, Lt, hf⟩ := h.facts
  have R := hf.regions
  have hg := hf.geom
  have o1 := fatBeg_ge hg
  have o3 := @fatBeg_le_end boot
  have hB := hg.bps_ge
  constructor
  · rw [← Dev.bytes_writesOf, hf.writes]
    rw [replay_skip g Lt _ x (fun off bs hm hc => by rcases tail_mem hg R hm with a | a | a <;> omega)]
    rw [R.rootZero.skip g _ x (Or.inl (by omega)), R.fmt.skip g _ x (Or.inl (by omega)),
      R.fatZero.skip g _ x (Or.inl (by omega)), R.backup.skip g _ x (Or.inl (by omega)), hf.bootT.replay]
    have hl := hg.bootTile_len hf.len 0
    rw [Nat.zero_mul] at hl
    rw [if_pos ⟨Nat.zero_le _, by rw [hl]; omega⟩, Nat.sub_zero, bootTile_getD _ _ _ hf.len]
  · intro h32
    have o2 := fatBeg_32 hg h32
    rw [(hg.f32 h32).1, ← Dev.bytes_writesOf, hf.writes]
    rw [replay_skip g Lt _ _ (fun off bs hm hc => by rcases tail_mem hg R hm with a | a | a <;> omega)]
    rw [R.rootZero.skip g _ _ (Or.inl (by omega)), R.fmt.skip g _ _ (Or.inl (by omega)),
      R.fatZero.skip g _ _ (Or.inl (by omega)), (hf.backupT h32).replay]
    have hl := hg.bootTile_len hf.len 6
    rw [if_pos ⟨by omega, by rw [hl]; omega⟩, bootTile_getD _ _ _ hf.len]
    congr 2 <;> omega

/-! ## `format_fsinfo` -/

/-- FAT32: the FS-info sector (sector 1) holds the three signatures, `free_cluster_count = total_clusters - 1`
    (the root cluster is in use), `next_free_cluster = 3`, zeros elsewhere and up to the end of the sector -/
theorem format_fsinfo (h : Formatted o d0 d1 boot ft) (h32 : ft = .fat32) :
    ∃ tc, boot.bpb.totalClusters = .ok tc ∧ ∀ (g : Nat → Nat) (x : Nat), x < boot.bpb.bps →
      d1.bytes g (boot.bpb.fsInfoSector * boot.bpb.bps + x) =
        (if x < 512 then (fsInfoBytes { free := some (tc - 1), next := some 3, dirty := false }).getD x 0 else 0) := by
  obtain ⟨Lb, Lk, Lz, Lf, Lr, Lt, hf⟩ := h.facts
  have R := hf.regions
  have hg := hf.geom
  have o2 := fatBeg_32 hg h32
  have o3 := @fatBeg_le_end boot
  have hB := hg.bps_ge
  rcases R.tail with ⟨_, La, Lc, Li, Ll, hLt, hWa, hTc, ⟨tc, htc, hTi⟩, hll, _⟩ | ⟨hne, _⟩
  · refine ⟨tc, htc, fun g x hx => ?_⟩
    rw [(hg.f32 h32).2.1, Nat.one_mul, ← Dev.bytes_writesOf, hf.writes, hLt]
    simp only [List.append_assoc]
    rw [(labelSpec_within hll).skip g _ _ (Or.inl (by omega)), hTi.replay]
    rw [if_pos ⟨by omega, by
      rw [List.length_append, List.length_replicate, List.length_take, fsInfoBytes_len]; omega⟩]
    have e : boot.bpb.bps + x - boot.bpb.bps = x := by omega
    rw [e]
    have ht : (fsInfoBytes (fmtInfo tc 2)).take 512 = fsInfoBytes (fmtInfo tc 2) := by
      rw [← fsInfoBytes_len (fmtInfo tc 2)]; exact List.take_length
    rw [ht]
    by_cases hx5 : x < 512
    · rw [if_pos hx5, getD_append_lt' (by rw [fsInfoBytes_len]; exact hx5)]; rfl
    · rw [if_neg hx5, getD_append_ge' (by rw [fsInfoBytes_len]; omega), getD_replicate_zero]
  · exact absurd h32 hne

/-! ## `format_root_empty` -/

/-- expected contents of the root directory: the volume-label entry in slot 0 if a label was given, zeros elsewhere -/
def rootByte (o : FormatOpts) (x : Nat) : Nat :=
  match o.label with
  | some lbl => if x < 32 then (DirFileEntryData.new lbl ATTR_VOLUME_ID).serialize.getD x 0 else 0
  | none => 0

/-- replaying a label phase over bytes that are zero on the first 32 bytes of the root gives `rootByte` -/
theorem label_replay {o : FormatOpts} (hr : InRange o) {p : Nat} {Ll : List LogItem} (hll : labelSpec o p Ll)
    (g : Nat → Nat) (rest : List LogItem) (x : Nat) (hz : replay g rest (p + x) = 0) :
    replay g (Ll ++ rest) (p + x) = rootByte o x := by
  unfold labelSpec at hll
  unfold rootByte
  split at hll
  · rename_i lbl hl
    have hlen : (DirFileEntryData.new lbl ATTR_VOLUME_ID).serialize.length = 32 :=
      DirFileEntryData.serialize_length _ (hr.label lbl hl)
    have ht : (DirFileEntryData.new lbl ATTR_VOLUME_ID).serialize.take 32 =
        (DirFileEntryData.new lbl ATTR_VOLUME_ID).serialize := by rw [← hlen]; exact List.take_length
    rw [hll.replay, ht, hlen]
    simp only [hl]
    by_cases hx : x < 32
    · rw [if_pos ⟨by omega, by omega⟩, if_pos hx]; congr 1; omega
    · rw [if_neg (by omega), if_neg hx]; exact hz
  · rename_i hl
    simp only [hl]
    rw [hll]; exact hz

/-- the root directory — the fixed region of `root_dir_sectors` sectors after the FATs on FAT12/16, the first data
    cluster on FAT32 — is all zero except for the 32-byte volume-label entry in its first slot when a label was
    given; that entry is `DirFileEntryData::new(label, VOLUME_ID).serialize()` -/
theorem format_root_empty (h : Formatted o d0 d1 boot ft) (g : Nat → Nat) {x : Nat}
    (hx : x < (if ft = .fat32 then boot.bpb.spc else boot.bpb.rootDirSectors) * boot.bpb.bps) :
    d1.bytes g ((boot.bpb.reserved + boot.bpb.fats * boot.bpb.sectorsPerFat) * boot.bpb.bps + x) = rootByte o x := by
  obtain ⟨Lb, Lk, Lz, Lf, Lr, Lt, hf⟩ := h.facts
  have R := hf.regions
  have hg := hf.geom
  have o1 := fatBeg_ge hg
  have o3 := @fatBeg_le_end boot
  have hB := hg.bps_ge
  rw [← Dev.bytes_writesOf, hf.writes]
  rcases R.tail with ⟨h32, La, Lc, Li, Ll, hLt, hWa, hTc, ⟨tc, htc, hTi⟩, hll, _⟩ | ⟨hne, hll⟩
  · rw [if_pos h32] at hx
    rw [hLt]
    simp only [List.append_assoc]
    apply label_replay h.pre.rng hll
    have hWi := hTi.within
    rw [List.length_append, List.length_replicate, List.length_take, fsInfoBytes_len] at hWi
    have o2 := fatBeg_32 hg h32
    rw [hWi.skip g _ _ (Or.inr (by omega)), hTc.replay, List.length_replicate,
      if_pos ⟨by omega, by omega⟩, getD_replicate_zero]
  · rw [if_neg hne] at hx
    apply label_replay h.pre.rng hll
    rw [hf.rootZeroT.replay, List.length_replicate, if_pos ⟨by omega, by omega⟩, getD_replicate_zero]

end formatted

/-! ### proved elsewhere, or assumed

* **Entry values of the formatted FAT** (all widths) depend on what the device reads return (`Fat12::set` is a
  read-modify-write, `Fat32::set` keeps the top 4 bits it read): they are proved on the IMAGE, `C06fat.formatted_fat`
  (`Props/C06fat.lean`), through the log-to-image theorem `run_img_eq_replay` (`Proofs/ImgReplay.lean`).
  FAT32 with BAD markers (`capacity > 0x0FFFFFF0`, FATs of more than 1 GiB) is excluded there by hypothesis.
* **Success of the run** is a hypothesis (`FormatRun.ok`).
* **`format_then_mount`** is `Props/C06mount.lean`; the root directory on the image is `Props/C06root.lean`.
-/

/-! ## the hypotheses are satisfiable -/

namespace Ex
def okUnit : Except Err Unit → Bool | .ok _ => true | .error _ => false

theorem run_of_okUnit {p : Prog Unit} {d : Dev} (h : okUnit (run p d).1 = true) : run p d = (.ok (), (run p d).2) := by
  rcases hr : run p d with ⟨r, d'⟩
  rw [hr] at h
  cases r with
  | ok u => rfl
  | error e => cases h

/-- FAT12: 343 sectors, 16 root entries -/
def o12 : FormatOpts := { rootEntries := 16, totalSectors := some 343 }
def d12 : Dev := { img := Img.empty (343 * 512) }

/-- FAT16 with a label: 4200 sectors, 512-byte clusters -/
def o16 : FormatOpts :=
  { rootEntries := 16, totalSectors := some 4200, fatType := some .fat16, bpc := some 512,
    label := some [65, 66, 67, 32, 32, 32, 32, 32, 32, 32, 32] }
def d16 : Dev := { img := Img.empty (4200 * 512) }

def o32 : FormatOpts := { totalSectors := some 66700, fatType := some .fat32, bpc := some 512 }

theorem inRange_of (o : FormatOpts) (h1 : o.media < 256) (h2 : o.spt < 65536) (h3 : o.heads < 65536)
    (h4 : o.driveNum = none) (h5 : o.volumeId < 4294967296) (h6 : ∀ l, o.label = some l → l.length = 11) : InRange o :=
  ⟨h1, h2, h3, (by intro d hd; rw [h4] at hd; cases hd), h5, h6⟩

set_option maxRecDepth 100000 in
/-- `format_volume` succeeds on the FAT12 device (kernel evaluation of the whole run) -/
theorem run12_ok : run (formatVolume o12) d12 = (.ok (), (run (formatVolume o12) d12).2) :=
  run_of_okUnit (by decide +kernel)

set_option maxRecDepth 100000 in
/-- `format_volume` succeeds on the FAT16 device (kernel evaluation of the whole run) -/
theorem run16_ok : run (formatVolume o16) d16 = (.ok (), (run (formatVolume o16) d16).2) :=
  run_of_okUnit (by decide +kernel)

set_option maxRecDepth 100000 in
example : ∃ d', FormatRun o12 d12 d' := by
  refine ⟨_, ⟨by simp [o12], ?_, Or.inr rfl, by simp [o12]⟩,
    inRange_of _ (by simp [o12]) (by simp [o12]) (by simp [o12]) rfl (by simp [o12]) (by intro l h; cases h),
    run12_ok, by decide, by decide⟩
  intro c h; cases h

set_option maxRecDepth 100000 in
example : ∃ d' boot, FormatRun o16 d16 d' ∧ formatChecked o16 (fmtTotal o16 d16) = .ok (boot, .fat16) := by
  have hrun : FormatRun o16 d16 (run (formatVolume o16) d16).2 := by
    refine ⟨⟨by simp [o16], ?_, Or.inr rfl, by simp [o16]⟩,
      inRange_of _ (by simp [o16]) (by simp [o16]) (by simp [o16]) rfl (by simp [o16]) ?_,
      run16_ok, by decide, by decide⟩
    · intro c h; cases h; simp [bpcValues]
    · intro l h; cases h; rfl
  obtain ⟨boot, ft, Lb, Lk, Lz, Lf, Lr, Lt, hf⟩ := hrun.facts
  have hft : ft = .fat16 := formatChecked_asked hrun.acc hrun.tot hf.checked rfl
  subst hft
  exact ⟨_, boot, hrun, hf.checked⟩

/-- the FAT32 hypotheses (at the level of the boot sector; a complete FAT32 run is too large for kernel evaluation) -/
example : ((formatChecked o32 66700).toOption.map fun r =>
    (r.2, decide (r.1.bpb.sectorsPerFat * r.1.bpb.bps * 8 / 32 ≤ 0x0FFFFFF0))) = some (.fat32, true) := by
  decide +kernel

end Ex

end FatVerif.C06image
