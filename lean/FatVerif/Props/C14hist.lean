import FatVerif.Proofs.FileSimEntry
import FatVerif.Props.C11img
/-!
# C02 / C14: histories with `flush` inside; durability after ANY history that ends in a successful flush

`Props/C02sim.lean` runs histories of `read` / `seek` / `write` / `truncate` / `read_exact` / `write_all` under `SimInv`.
`File::flush` needs more: the handle's record must live in a slot (`EntryRep`) that the handle's own operations do not
overwrite (`SlotApart`).  Proofs/FileSimEntry.lean shows that this record invariant is carried through every operation
(the editor changes: size, first cluster, time stamps, dirty bit).  Here:

* `EOp` = `HOp` + `flush`; `FullInv f e d` = `SimInv` + `EntryRep` + `SlotApart`;
* `EStep`: what ONE operation of `EOp` does — `FullInv` again in the same slot, the `Frame` with the slot as extra
  footprint (so `flush` is a step like the others), the positions the handle may write only shrink; `execE_refines`;
* `fileh_flush_refines_bytefile`: histories over `EOp` refine the byte array with a cursor (`flush` is the identity
  of the specification); `FullInv` holds again;
* `durable_after_history_flush` / `durable_after_history_drop`: after any such history, `flush` (drop) succeeds and
  what a later re-open reads — for every cut of later writes that avoid the file's footprint — is the content the
  specification prescribes for the whole history.
-/
namespace FatVerif.FileSim
open FatVerif FatVerif.Fat

/-- operations of a history on one handle, `flush` included -/
inductive EOp where
  | op (o : HOp)
  | flush
  deriving Repr

def EOp.toOp : EOp → Cursor.FileOp
  | .op o => o.toOp
  | .flush => .flush

def EOp.BytesOk : EOp → Prop
  | .op o => o.BytesOk
  | .flush => True

/-- run ONE operation -/
def execE (op : EOp) (f : FileH) (d : Dev) : Cursor.FileRes × FileH × Dev :=
  match op with
  | .op o => execH o f d
  | .flush =>
    match run f.flush d with
    | (.ok f', d') => (.unit, f', d')
    | (.error e, d') => (.err e, f, d')

def runE : List EOp → FileH → Dev → List Cursor.FileRes × FileH × Dev
  | [], f, d => ([], f, d)
  | op :: ops, f, d =>
    let r := execE op f d
    let rest := runE ops r.2.1 r.2.2
    (r.1 :: rest.1, rest.2)

def EBytesOk : List EOp → Prop
  | [] => True
  | op :: ops => op.BytesOk ∧ EBytesOk ops

/-- the standing hypotheses of a history with flushes: `SimInv`, the record lives in slot `e.pos` (`EntryRep`), and the
    slot is not a position the handle's `write` / `truncate` may modify -/
structure FullInv (f : FileH) (e : DirEntryEditor) (d : Dev) : Prop where
  sim : SimInv f d
  ent : EntryRep d.fs d.img f e
  apart : SlotApart d.fs d.img f e

/-- everything one operation of `EOp` on a handle with `FullInv` does: the invariant again, in the same slot; the
    frame, with the slot as extra footprint; the positions the handle may write only shrink -/
structure EStep (f : FileH) (e : DirEntryEditor) (d : Dev) (f' : FileH) (d' : Dev) : Prop where
  full : ∃ e', FullInv f' e' d' ∧ e'.pos = e.pos
  frame : Frame (Slot e.pos) f d f' d'
  shrink : ∀ q, MayTouchData d'.fs d'.img f' q → MayTouchData d.fs d.img f q

/-- one step of a history with flushes; `flush` changes nothing `write` / `truncate` look at -/
theorem execE_refines (op : EOp) (f : FileH) (e : DirEntryEditor) (d : Dev) (h : FullInv f e d) (hok : op.BytesOk) :
    EStep f e d (execE op f d).2.1 (execE op f d).2.2 ∧
    (execE op f d).2.2.fs.clusterSize = d.fs.clusterSize ∧
    Cursor.ByteFile.check d.fs.clusterSize op.toOp (execE op f d).1 (absFile d.fs d.img f).abs =
      .ok (absFile (execE op f d).2.2.fs (execE op f d).2.2.img (execE op f d).2.1).abs := by
  cases op with
  | op o =>
    obtain ⟨hsim', hcs, hchk⟩ := execH_refines o f d h.sim hok
    obtain ⟨e', he', hap', hrel⟩ := execH_entry o f d h.sim hok e h.ent h.apart
    have hsum := execH_summary o f d h.sim hok
    exact ⟨⟨⟨e', ⟨hsim', he', hap'⟩, hrel.pos⟩, hsum.frame h.sim.wf _,
      fun q hm => mayTouchData_mono hsum hsim'.rep hm⟩, hcs, hchk⟩
  | flush =>
    obtain ⟨d', hr, hfs, hfr, htv, hsim, hent, hcore⟩ := flush_frame f e d h.sim h.ent
    have hshrink : ∀ q, MayTouchData d'.fs d'.img { f with entry := some { e with dirty := false } } q →
        MayTouchData d.fs d.img f q := by
      have hch := hcore.chain
      rw [hfs] at hch htv ⊢
      exact fun q => (mayTouchData_congr htv hch q).mp
    simp only [execE, hr, EOp.toOp]
    refine ⟨⟨⟨_, ⟨hsim, hent, fun q h1 h2 hm => h.apart q h1 h2 (hshrink q hm)⟩, rfl⟩, hfr, hshrink⟩, by rw [hfs], ?_⟩
    rw [hcore.abs_eq h.sim.rep.inv.cs_pos h.sim.rep.inv.cover]; rfl

/-- **`fileh_flush_refines_bytefile`.**  For every finite sequence of `read` / `seek` / `write` / `truncate` /
    `read_exact` / `write_all` / `flush` on one handle of the byte-level model, started in a state satisfying `FullInv`
    (the invariants of `fileh_refines_bytefile`, plus: the handle's record lives in a 32-byte slot inside the device,
    outside the FAT, outside the clusters of the file and outside every free cluster): the observable results are
    exactly what the byte array with a cursor prescribes (`flush` succeeds and is the identity of the specification);
    `FullInv` holds again, with the record still in the same slot. -/
theorem fileh_flush_refines_bytefile : ∀ (ops : List EOp) (f : FileH) (e : DirEntryEditor) (d : Dev),
    FullInv f e d → EBytesOk ops →
    (∃ e', FullInv (runE ops f d).2.1 e' (runE ops f d).2.2 ∧ e'.pos = e.pos) ∧
    (runE ops f d).2.2.fs.clusterSize = d.fs.clusterSize ∧
    Cursor.ByteFile.checkRun d.fs.clusterSize (ops.map EOp.toOp) (runE ops f d).1 (absFile d.fs d.img f).abs =
      .ok (absFile (runE ops f d).2.2.fs (runE ops f d).2.2.img (runE ops f d).2.1).abs
  | [], f, e, d, h, _ => ⟨⟨e, h, rfl⟩, rfl, rfl⟩
  | op :: ops, f, e, d, h, hok => by
    obtain ⟨⟨⟨e1, hi, hp1⟩, _, _⟩, hcs, hchk⟩ := execE_refines op f e d h hok.1
    obtain ⟨⟨e2, ri, hp2⟩, rcs, rchk⟩ := fileh_flush_refines_bytefile ops _ e1 _ hi hok.2
    simp only [runE, List.map]
    refine ⟨⟨e2, ri, hp2.trans hp1⟩, rcs.trans hcs, ?_⟩
    simp only [Cursor.ByteFile.checkRun, hchk]
    rw [hcs] at rchk
    exact rchk

/-! ### histories with flushes on a device given by its bytes (`Proofs/RunFn.lean`) -/

def execES (op : EOp) (f : FileH) (s : SDev) : Cursor.FileRes × FileH × SDev :=
  match op with
  | .op o => execHS o f s
  | .flush =>
    match runS f.flush s with
    | (.ok f', s') => (.unit, f', s')
    | (.error e, s') => (.err e, f, s')

theorem execES_sim (op : EOp) (f : FileH) {s : SDev} {d : Dev} (ha : s.Agree d) :
    SimRes (execES op f s) (execE op f d) := by
  cases op with
  | op o => exact execHS_sim o f ha
  | flush =>
    obtain ⟨r, s', d', e1, e2, ha'⟩ := run_runS f.flush ha
    simp only [execES, execE, e1, e2]
    rcases r with e | f' <;> exact ⟨rfl, rfl, ha'⟩

theorem runE_eq_hist : ∀ (ops : List EOp) (f : FileH) (d : Dev), runE ops f d = hist execE ops f d
  | [], _, _ => rfl
  | op :: ops, f, d => by simp only [runE, hist, runE_eq_hist ops]

theorem runE_sim (ops : List EOp) (f : FileH) {s : SDev} {d : Dev} (ha : s.Agree d) :
    SimRes (hist execES ops f s) (runE ops f d) :=
  runE_eq_hist ops f d ▸ hist_sim execES_sim ops f ha

/-- **`durable_after_history_flush`** (strengthens `durable_after_flush`).  Start from `FullInv`; run ANY history of
    `read` / `seek` / `write` / `truncate` / `read_exact` / `write_all` / `flush`; then `flush`.  The flush succeeds, its
    mark in the device log follows every write of the history; and for all later writes `ws` that avoid the footprint of
    the file (its slot, the first-copy FAT entries of its chain, its data up to the size), every cut point `k` and every
    fault-free device `dk` holding the flushed image with the surviving prefix `ws.take k` applied: re-opening the file
    from the ORIGINAL slot `e.pos` on `dk` and reading to the end returns exactly `b.content`, where `b` is the state the
    byte-array specification reaches by the observed history (`ByteFile.checkRun … = .ok b`). -/
theorem durable_after_history_flush (ops : List EOp) (f : FileH) (e : DirEntryEditor) (d : Dev)
    (h : FullInv f e d) (hok : EBytesOk ops) :
    ∃ b e1 d2, Cursor.ByteFile.checkRun d.fs.clusterSize (ops.map EOp.toOp) (runE ops f d).1 (absFile d.fs d.img f).abs =
        .ok b ∧
      e1.pos = e.pos ∧
      run (runE ops f d).2.1.flush (runE ops f d).2.2 =
        (.ok { (runE ops f d).2.1 with entry := some { e1 with dirty := false } }, d2) ∧
      d2.fs = (runE ops f d).2.2.fs ∧ d2.failAt = none ∧
      (∃ items : List LogItem, d2.log = .flush :: (items.reverse ++ (runE ops f d).2.2.log)) ∧
      ∀ (ws : List (Nat × List Nat)) (k : Nat) (dk : Dev),
        WritesAvoid (Footprint (runE ops f d).2.2.fs (runE ops f d).2.2.img (runE ops f d).2.1 e1) ws →
        dk.img = applyWrites d2.img (ws.take k) → dk.fs = (runE ops f d).2.2.fs → dk.failAt = none →
        ∃ g' d', run (readExact FileH.strm (reopen dk.fs dk.img e.pos) b.content.length) dk =
          (.ok (b.content, g'), d') := by
  obtain ⟨⟨e1, hfull, hpos⟩, _, hchk⟩ := fileh_flush_refines_bytefile ops f e d h hok
  obtain ⟨d2, hr, hfs, hfa, hlog, hdur⟩ := durable_after_flush _ e1 _ hfull.sim hfull.ent
  exact ⟨_, e1, d2, hchk, hpos, hr, hfs, hfa, hlog, fun ws k dk hav himg hfsk hfak => by
    simpa [hpos] using hdur ws k dk hav himg hfsk hfak⟩

/-- **`durable_after_history_drop`**: the same when the handle is dropped after the history instead of flushed. -/
theorem durable_after_history_drop (ops : List EOp) (f : FileH) (e : DirEntryEditor) (d : Dev)
    (h : FullInv f e d) (hok : EBytesOk ops) :
    ∃ b e1 d2, Cursor.ByteFile.checkRun d.fs.clusterSize (ops.map EOp.toOp) (runE ops f d).1 (absFile d.fs d.img f).abs =
        .ok b ∧
      e1.pos = e.pos ∧
      run (runE ops f d).2.1.drop (runE ops f d).2.2 = (.ok (), d2) ∧
      d2.fs = (runE ops f d).2.2.fs ∧ d2.failAt = none ∧
      (∃ items : List LogItem, d2.log = .flush :: (items.reverse ++ (runE ops f d).2.2.log)) ∧
      ∀ (ws : List (Nat × List Nat)) (k : Nat) (dk : Dev),
        WritesAvoid (Footprint (runE ops f d).2.2.fs (runE ops f d).2.2.img (runE ops f d).2.1 e1) ws →
        dk.img = applyWrites d2.img (ws.take k) → dk.fs = (runE ops f d).2.2.fs → dk.failAt = none →
        ∃ g' d', run (readExact FileH.strm (reopen dk.fs dk.img e.pos) b.content.length) dk =
          (.ok (b.content, g'), d') := by
  obtain ⟨⟨e1, hfull, hpos⟩, _, hchk⟩ := fileh_flush_refines_bytefile ops f e d h hok
  obtain ⟨d2, hr, hfs, hfa, hlog, hdur⟩ := durable_after_drop _ e1 _ hfull.sim hfull.ent
  exact ⟨_, e1, d2, hchk, hpos, hr, hfs, hfa, hlog, fun ws k dk hav himg hfsk hfak => by
    simpa [hpos] using hdur ws k dk hav himg hfsk hfak⟩

end FatVerif.FileSim


/-! ## the statements are not vacuous: the two-file FAT16 volume of `Props/C11img.lean` -/

namespace FatVerif.FileSim.ExH
open FatVerif FatVerif.Fat FatVerif.FileSim FatVerif.FileSim.Ex FatVerif.FileSim.Ex14 FatVerif.FileSim.Ex11

theorem full17 : FullInv file14 ⟨entry14, 1536, true⟩ dev17 :=
  ⟨pair17.left, entryRepF,
   rootSlot_not_mayTouchData (fs := fs17) (img := img17) geo17 repF17 (by decide) (by decide)⟩

/-- grow the file across a cluster boundary (`write_all` allocates cluster 2), flush, read back, flush again -/
def opsE : List EOp :=
  [.op (.seek (.start 1020)), .op (.writeAll [1, 2, 3, 4, 5, 6]), .flush, .op (.seek (.start 1022)),
   .op (.readExact 4), .flush]

theorem bytesOkE : EBytesOk opsE :=
  ⟨.of_ne nofun nofun, .of_writeAll (by decide), trivial, .of_ne nofun nofun, .of_ne nofun nofun, trivial, trivial⟩

/-- the byte-level model, evaluated: both flushes succeed, and the first one put the new size 1026 and first cluster 3
    into the slot at 1536 -/
theorem runE17 : (runE opsE file14 dev17).1 = [.pos 1020, .unit, .unit, .pos 1022, .bytes [3, 4, 5, 6], .unit] ∧
    (slotData (runE opsE file14 dev17).2.2.img 1536).size = 1026 ∧
    (slotData (runE opsE file14 dev17).2.2.img 1536).firstClusterLo = 3 := by
  obtain ⟨h1, _, ha⟩ := runE_sim opsE file14 agree17
  rw [← h1, slotData_eq_slotDataS, ha.get]
  decide +kernel

/-- `fileh_flush_refines_bytefile` applied -/
theorem specE17 : ∃ b, Cursor.ByteFile.checkRun 512 (opsE.map EOp.toOp)
    [.pos 1020, .unit, .unit, .pos 1022, .bytes [3, 4, 5, 6], .unit] (absFile fs17 img17 file14).abs = .ok b := by
  have := (fileh_flush_refines_bytefile opsE file14 _ dev17 full17 bytesOkE).2.2
  rw [runE17.1] at this
  exact ⟨_, this⟩

/-- `durable_after_history_flush` applied: after the history, flush; whatever prefix of later writes that avoid the
    footprint survives, re-opening from the slot at 1536 reads the content the specification prescribes -/
theorem durableE17 :
    ∃ b e1 d2, Cursor.ByteFile.checkRun dev17.fs.clusterSize (opsE.map EOp.toOp) (runE opsE file14 dev17).1
        (absFile dev17.fs dev17.img file14).abs = .ok b ∧
      e1.pos = 1536 ∧
      run (runE opsE file14 dev17).2.1.flush (runE opsE file14 dev17).2.2 =
        (.ok { (runE opsE file14 dev17).2.1 with entry := some { e1 with dirty := false } }, d2) ∧
      ∀ (ws : List (Nat × List Nat)) (k : Nat) (dk : Dev),
        WritesAvoid (Footprint (runE opsE file14 dev17).2.2.fs (runE opsE file14 dev17).2.2.img
          (runE opsE file14 dev17).2.1 e1) ws →
        dk.img = applyWrites d2.img (ws.take k) → dk.fs = (runE opsE file14 dev17).2.2.fs → dk.failAt = none →
        ∃ g' d', run (readExact FileH.strm (reopen dk.fs dk.img 1536) b.content.length) dk =
          (.ok (b.content, g'), d') := by
  obtain ⟨b, e1, d2, h1, h2, h3, _, _, _, h7⟩ := durable_after_history_flush opsE file14 _ dev17 full17 bytesOkE
  exact ⟨b, e1, d2, h1, h2, h3, h7⟩

end FatVerif.FileSim.ExH
