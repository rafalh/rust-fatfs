import FatVerif.Props.C06mount
import FatVerif.Proofs.FatImgFormat
/-!
# C06 — the FAT of the formatted IMAGE (the clause DESIGN §6 calls `formatFat_view`), for FAT12, FAT16 and FAT32 at once

After a successful `format_volume` the decoded FAT of the device image (`Fat.view` of the FAT window, first copy; all
copies hold the same bytes: `C06image.format_fat_copies_equal`) has the data entries `[2, total+2)` free, the padding
entries `[total+2, capacity)` end-of-chain and, on FAT32, entry 2 (the root directory cluster) end-of-chain.
One proof for the three widths: the zero fill makes every entry free, `Table.formatFat` is the pure `Fat.formatFat` on
the window's bytes (`formatFat_img`), `alloc_cluster` is the pure `Fat.allocCluster` (`allocCluster_img`), and no other
phase writes into the window.
-/
namespace FatVerif.C06fat
open FatVerif FatVerif.Format FatVerif.Fat FatVerif.C06image FatVerif.C06mount

/-- the image of a device reached from a well-formed image with an empty log is the replay of its write records -/
theorem img_of_imgRel {d0 d : Dev} (hwf : d0.img.WF) (hlog : d0.log = []) (h : ImgRel d0 d) :
    d.img.WF ∧ ∀ q, d.img.getByte q = replay d0.img.getByte d.writesOf q % 256 := by
  obtain ⟨h1, items, hl, hv⟩ := h hwf
  refine ⟨h1, fun q => ?_⟩
  rw [hv q, replay_norm _ (Img.getByte_lt _) items q]
  unfold Dev.writesOf
  rw [hl, hlog, List.append_nil, replay_filter]

/-- **the decoded FAT of the formatted image**, by `Fat.formatFat_view` (Proofs/FatImgFormat) on the window's bytes
    (every FAT width; FAT32: volumes whose FAT has no room for the BAD markers) -/
theorem formatted_fat {o : FormatOpts} {d0 d1 : Dev} {boot : FBoot} {ft : FatType} (h : Formatted o d0 d1 boot ft)
    (hcap : ft = .fat32 → boot.bpb.sectorsPerFat * boot.bpb.bps * 8 / 32 ≤ 0x0FFFFFF0) :
    ∃ tc, boot.bpb.totalClusters = .ok tc ∧
      getRaw ft (fatBytes (boot.bpb.reserved * boot.bpb.bps) (boot.bpb.sectorsPerFat * boot.bpb.bps) d1.img) 0 =
        .ok (match (generalizing := false) ft with
          | .fat12 => 0xF00 + o.media % 256
          | .fat16 => (o.media ||| 0xFF00) % 65536
          | .fat32 => (o.media ||| 0x0FFFFF00) % 4294967296) ∧
      getRaw ft (fatBytes (boot.bpb.reserved * boot.bpb.bps) (boot.bpb.sectorsPerFat * boot.bpb.bps) d1.img) 1 =
        .ok (match (generalizing := false) ft with | .fat12 => 0xFFF | .fat16 => 0xFFFF | .fat32 => 0xFFFFFFFF) ∧
      ∀ c, 2 ≤ c → c < boot.bpb.sectorsPerFat * boot.bpb.bps * 8 / ft.bits →
        view ft (fatBytes (boot.bpb.reserved * boot.bpb.bps) (boot.bpb.sectorsPerFat * boot.bpb.bps) d1.img) c =
          if (ft = .fat32 ∧ c = 2) ∨ tc + 2 ≤ c then .eoc else .free := by
  have hpre := h.pre
  have hrun := h.ran
  have hc := h.checked
  obtain ⟨boot', ft', d3, hfc, _, hp3, hs3, hi3, h6⟩ := formatVolume_boot_run o d0 d1 hrun
  rw [hc] at hfc
  simp only [Except.ok.injEq, Prod.mk.injEq] at hfc
  obtain ⟨rfl, rfl⟩ := hfc
  obtain ⟨_, _, dK, _, _, _, hiK, hsK, hK⟩ := fmtBoot_phases o boot ft d3 d1 () hp3 h6
  obtain ⟨tc, s, dA, dB, dC, Lz, Lr, htc, hLz, hsz, hiA, hsA', h8, hLr, hsr, hiC, hsC', h13⟩ :=
    fmtFatRoot_phases o boot.bpb ft dK d1 () hK
  have hg := h.geom
  rw [fmtSlice_eq boot.bpb ft hg.extFlags] at h8
  have stepI : ∀ {α} (p : Prog α) (a : Dev) r b, run p a = (r, b) → ImgRel a b :=
    fun p a r b h => (steps_of_ops imgRel_ok stepOp_imgRel p).out a r b h
  have hi0A : ImgRel d0 dA := imgRel_ok.trans _ _ _ hi3 (imgRel_ok.trans _ _ _ hiK hiA)
  have hi0B : ImgRel d0 dB := imgRel_ok.trans _ _ _ hi0A (stepI _ _ _ _ h8)
  have hi0C : ImgRel d0 dC := imgRel_ok.trans _ _ _ hi0B hiC
  have hsA : dA.img.size = d0.img.size := by rw [hsA', hsK, hs3]
  have hsC : dC.img.size = d0.img.size := by rw [hsC', hsK, hs3]
  obtain ⟨hwA, hbA⟩ := img_of_imgRel hpre.imgWf hpre.logEmpty hi0A
  obtain ⟨_, hbB⟩ := img_of_imgRel hpre.imgWf hpre.logEmpty hi0B
  obtain ⟨hwC, hbC⟩ := img_of_imgRel hpre.imgWf hpre.logEmpty hi0C
  obtain ⟨_, hb1⟩ := img_of_imgRel hpre.imgWf hpre.logEmpty (stepI _ _ _ _ hrun)
  -- geometry of the window
  have hbo := h.bps
  have hB := hg.bps_ge
  have hB4 := hg.bps_le
  have hfats : 0 < boot.bpb.fats := by rcases hg.fats with h | h <;> omega
  have hwin0 : (fmtSlice boot.bpb).beginOff + (fmtSlice boot.bpb).mirrors * (fmtSlice boot.bpb).size ≤ d0.img.size :=
    Nat.le_trans hg.window_le (by rw [hbo]; exact hpre.size)
  have hstat : ∀ fs, statusOff fs + 1 ≤ (fmtSlice boot.bpb).beginOff := fun fs =>
    Nat.le_trans (statusOff_le fs) (Nat.le_trans hB (fatBeg_ge hg))
  have hcapc := hg.cap_tc htc
  have hmax := hg.tc_le htc
  have hend := FmtGeom.fatEnd_eq (boot := boot)
  generalize hBe : boot.bpb.reserved * boot.bpb.bps = B at *
  generalize hZe : boot.bpb.sectorsPerFat * boot.bpb.bps = Z at *
  have hZ1 : 512 ≤ Z := by rw [← hZe]; have := Nat.mul_le_mul hg.spf1 hB; omega
  have hZ : Z < 4294967296 ∧ (ft ≠ .fat32 → Z ≤ 65535 * 4096) := by
    by_cases h32 : ft = .fat32
    · have := hcap h32; exact ⟨by omega, fun h => absurd h32 h⟩
    · have := Nat.mul_le_mul (hg.spf16 h32) hB4
      rw [hZe] at this; exact ⟨by omega, fun _ => this⟩
  have hs0 : fmtSlice boot.bpb = { beginOff := B, size := Z, mirrors := boot.bpb.fats, viaFs := false } := by
    unfold fmtSlice; rw [hBe, hZe]
  have hM : Z ≤ boot.bpb.fats * Z := Nat.le_mul_of_pos_left _ hfats
  have hdA : FatDev (fmtSlice boot.bpb) dA := ⟨hwA, hfats, by rw [hsA]; exact hwin0, hstat _, by rw [hs0]; exact hZ.1⟩
  have hdC : FatDev (fmtSlice boot.bpb) dC := ⟨hwC, hfats, by rw [hsC]; exact hwin0, hstat _, by rw [hs0]; exact hZ.1⟩
  -- the window after the zero fill
  have hzA : ∀ i, rd (fatBytes B Z dA.img) i = 0 := by
    intro i
    rw [rd_fatBytes]
    split
    · rename_i hi
      rw [hbA, hsz, hLz.replay, List.length_replicate, Nat.mul_assoc, hZe, if_pos ⟨by omega, by omega⟩,
        getD_replicate_zero]
    · rfl
  -- `format_fat`
  have hfe : fmtEnd ft Z = Z * 8 / ft.bits := by
    unfold fmtEnd u32Lim
    apply Nat.mod_eq_of_lt
    have := hZ.1
    cases ft <;> simp only [FatType.bits] <;> omega
  obtain ⟨hfmt, hfrB⟩ := formatFat_img ft (by rw [hg.media]; exact hpre.rng.media) Z tc dA hdA
    (by unfold u32Lim; cases ft <;> simp only [maxClusters] at hmax <;> omega)
    (by have := hZ.1; omega) h8
  rw [hs0] at hfmt
  obtain ⟨hwfB, _, hrawB, hviewB⟩ := formatFat_view (wf_fatBytes B Z dA.img)
    (by rw [hfe]; cases ft
        · have := hZ.2 (by simp); simp only [FatType.bits]; omega
        · have := hZ.2 (by simp); simp only [FatType.bits]; omega
        · exact hcap rfl) hfmt
  -- the root zero fill and the tail leave the window alone
  have hFC : fatBytes B Z dC.img = fatBytes B Z dB.img := by
    apply fatBytes_congr
    intro i hi
    rw [hbC, hbB, hsr, hLr.within.skip _ _ _ (Or.inl (by rw [hend]; omega))]
  obtain ⟨_, htail⟩ := fmtFat32_trace o boot.bpb ft tc _ dC d1 () h13
  rw [hg.media] at hrawB
  obtain ⟨hh0, hh1⟩ := getRaw_fmtHeader hpre.rng.media (fatBytes B Z dA.img) ft
    (by rw [fatBytes_size]; cases ft <;> simp only [fmtHeader, List.length_cons, List.length_nil] <;> omega)
  have hroot : ∀ i, i < Z → B + i < (boot.bpb.reserved + boot.bpb.fats * boot.bpb.sectorsPerFat) * boot.bpb.bps := by
    intro i hi; rw [hend]; omega
  -- the window at the end: that of `dB`, with entry 2 marked on FAT32
  have hF1 : (ft ≠ .fat32 ∧ fatBytes B Z d1.img = fatBytes B Z dB.img) ∨
      (ft = .fat32 ∧ set ft (fatBytes B Z dB.img) 2 .eoc = .ok (fatBytes B Z d1.img)) := by
    rcases htail with ⟨h32, La, Lc, Li, Ll, hp⟩ | ⟨h32, Ll, hsl, hll⟩
    · subst h32
      obtain ⟨hb6, hfi, hrc⟩ := hg.f32 rfl
      obtain ⟨s2, dD, hrunA, hsa⟩ := hp.alloc
      rw [fmtSlice_eq boot.bpb .fat32 hg.extFlags] at hrunA
      obtain ⟨halloc, _, _⟩ := allocCluster_img .fat32 (SliceInv.self (Nat.zero_le _)) none none 1 dC hdC
        (by unfold u32Lim; omega) hrunA
      rw [hs0, hrc] at halloc
      have hset := allocCluster_none halloc
      dsimp only at hset
      rw [hFC] at hset
      obtain ⟨_, hbD⟩ := img_of_imgRel hpre.imgWf hpre.logEmpty (imgRel_ok.trans _ _ _ hi0C (stepI _ _ _ _ hrunA))
      have hF1 : fatBytes B Z d1.img = fatBytes B Z dD.img := by
        apply fatBytes_congr
        intro i hi
        have hseg : d1.writesOf = Ll ++ (Li ++ (Lc ++ dD.writesOf)) := by
          have h1 := hp.seg; have h2 := hsa
          unfold Seg at h1 h2
          rw [h1, h2]; simp only [List.append_assoc]
        have hWc := hp.clus.within
        rw [hrc, hg.rds32 rfl, Nat.sub_self, Nat.zero_mul, Nat.add_zero] at hWc
        have hWi := hp.info.within
        rw [hfi, List.length_append, List.length_replicate, List.length_take, fsInfoBytes_len, Nat.min_self,
          padLen_sector _ hg.bps_mem 1] at hWi
        have h8 := fatBeg_32 hg rfl
        rw [hBe] at h8
        rw [hb1, hbD, hseg, (labelSpec_within hp.label).skip _ _ _ (Or.inl (hroot i hi)),
          hWi.skip _ _ _ (Or.inr (by omega)), hWc.skip _ _ _ (Or.inl (hroot i hi))]
      exact Or.inr ⟨rfl, by rw [hF1]; exact hset⟩
    · refine Or.inl ⟨h32, ?_⟩
      rw [← hFC]
      apply fatBytes_congr
      intro i hi
      rw [hb1, hbC, hsl, (labelSpec_within hll).skip _ _ _ (Or.inl (hroot i hi))]
  have hraw1 : ∀ c, c < 2 → getRaw ft (fatBytes B Z d1.img) c =
      getRaw ft (writeBytes (fatBytes B Z dA.img) 0 (fmtHeader ft o.media)) c := by
    intro c hc
    rcases hF1 with ⟨_, h⟩ | ⟨_, h⟩
    · rw [h, hrawB c hc]
    · rw [getRaw_set_other (wf_fatBytes B Z dB.img) (by cases ft <;> decide) h (by omega), hrawB c hc]
  refine ⟨tc, htc, (hraw1 0 (by omega)).trans hh0, (hraw1 1 (by omega)).trans hh1, fun c h2 hlt => ?_⟩
  have hin : Fat.InRange ft (fatBytes B Z dA.img) c := by
    unfold Fat.InRange
    rw [fatBytes_size]
    unfold u32Lim
    cases ft <;> simp only [off, width, FatType.bits] at hlt ⊢ <;> omega
  have hfree : view ft (fatBytes B Z dA.img) c = .free :=
    view_zero hzA hin (fun h32 => by subst h32; have := hcap rfl; unfold special32; simp only [FatType.bits] at hlt; omega)
  have hvB : view ft (fatBytes B Z dB.img) c = if tc + 2 ≤ c then .eoc else .free := by
    rw [hviewB c h2, hfree, hfe]
    by_cases h : tc + 2 ≤ c
    · rw [if_pos ⟨h, hlt⟩, if_pos h]
    · rw [if_neg (fun h' => h h'.1), if_neg h]
  rcases hF1 with ⟨h32, h⟩ | ⟨h32, h⟩
  · rw [h, hvB]
    by_cases h : tc + 2 ≤ c
    · rw [if_pos h, if_pos (Or.inr h)]
    · rw [if_neg h, if_neg (fun hh => hh.elim (fun a => h32 a.1) h)]
  · subst h32
    rw [view_set (ft := .fat32) (v := .eoc) (wf_fatBytes B Z dB.img) trivial (fun _ => by unfold special32; omega) h]
    unfold updV
    by_cases hc2 : c = 2
    · rw [if_pos hc2, if_pos (Or.inl ⟨rfl, hc2⟩)]
    · rw [if_neg hc2, hvB]
      by_cases h : tc + 2 ≤ c
      · rw [if_pos h, if_pos (Or.inr h)]
      · rw [if_neg h, if_neg (fun hh => hh.elim (fun a => hc2 a.2) h)]

variable {o : FormatOpts} {d0 d1 : Dev} {boot : FBoot} {ft : FatType}

/-- every FAT copy of the formatted image holds the bytes of the first -/
theorem fat_copies_eq (h : Formatted o d0 d1 boot ft) {i : Nat} (hi : i < boot.bpb.fats) :
    fatBytes (boot.bpb.reserved * boot.bpb.bps + i * (boot.bpb.sectorsPerFat * boot.bpb.bps))
        (boot.bpb.sectorsPerFat * boot.bpb.bps) d1.img =
      fatBytes (boot.bpb.reserved * boot.bpb.bps) (boot.bpb.sectorsPerFat * boot.bpb.bps) d1.img := by
  obtain ⟨boot', ft', hc, heq⟩ := format_fat_copies_equal o d0 d1 (h.pre.run h.ran)
  obtain ⟨rfl, rfl⟩ := h.unique hc
  apply fatBytes_eq_of_bytes _ _ _ _ (fatBytes_size _ _ _)
  intro x hx
  rw [rd_fatBytes, if_pos hx, h.img, h.img, heq d0.img.getByte i hi x hx]

/-- … so `formatted_fat` speaks of EVERY FAT copy of the formatted image -/
theorem formatted_fat_copies (h : Formatted o d0 d1 boot ft)
    (hcap : ft = .fat32 → boot.bpb.sectorsPerFat * boot.bpb.bps * 8 / 32 ≤ 0x0FFFFFF0) :
    ∃ tc, boot.bpb.totalClusters = .ok tc ∧ ∀ i, i < boot.bpb.fats →
      getRaw ft (fatBytes (boot.bpb.reserved * boot.bpb.bps + i * (boot.bpb.sectorsPerFat * boot.bpb.bps))
          (boot.bpb.sectorsPerFat * boot.bpb.bps) d1.img) 0 =
        .ok (match (generalizing := false) ft with
          | .fat12 => 0xF00 + o.media % 256
          | .fat16 => (o.media ||| 0xFF00) % 65536
          | .fat32 => (o.media ||| 0x0FFFFF00) % 4294967296) ∧
      getRaw ft (fatBytes (boot.bpb.reserved * boot.bpb.bps + i * (boot.bpb.sectorsPerFat * boot.bpb.bps))
          (boot.bpb.sectorsPerFat * boot.bpb.bps) d1.img) 1 =
        .ok (match (generalizing := false) ft with | .fat12 => 0xFFF | .fat16 => 0xFFFF | .fat32 => 0xFFFFFFFF) ∧
      (∀ c, 2 ≤ c → c < boot.bpb.sectorsPerFat * boot.bpb.bps * 8 / ft.bits →
        view ft (fatBytes (boot.bpb.reserved * boot.bpb.bps + i * (boot.bpb.sectorsPerFat * boot.bpb.bps))
            (boot.bpb.sectorsPerFat * boot.bpb.bps) d1.img) c =
          if (ft = .fat32 ∧ c = 2) ∨ tc + 2 ≤ c then .eoc else .free) ∧
      fatBytes (boot.bpb.reserved * boot.bpb.bps + i * (boot.bpb.sectorsPerFat * boot.bpb.bps))
          (boot.bpb.sectorsPerFat * boot.bpb.bps) d1.img =
        fatBytes (boot.bpb.reserved * boot.bpb.bps) (boot.bpb.sectorsPerFat * boot.bpb.bps) d1.img := by
  obtain ⟨tc, htc, h0, h1, hv⟩ := formatted_fat h hcap
  exact ⟨tc, htc, fun i hi => by rw [fat_copies_eq h hi]; exact ⟨h0, h1, hv, rfl⟩⟩

end FatVerif.C06fat
