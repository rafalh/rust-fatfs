import FatVerif.Proofs.BpbOffsets
/-! # C07 — mounting is total (boot sector, FS-info sector, derived geometry)

Model: `probe` (= `fatfs::verif::bpb_probe` = the boot-sector part of `FileSystem::new`), `mountGeometry`
(= `FileSystem::new`). Specification: `GeoSpec.Coherent`, `GeoSpec.specGeometry` (independent parse).
Also C11.1 / C20.1–2 (`offset_arith`, `fat_offset_arith`). -/
namespace FatVerif.C07
open GeoSpec

/-! ## witnesses -/

/-- a FAT32 boot sector with the given fields (everything else as the formatter writes it) -/
def bootSector32 (bps spc rsvd fats ts32 spf32 extFlags rootClus fsInfo backup : Nat) : List Nat :=
  [0xEB, 0x58, 0x90] ++ [0x4D, 0x53, 0x57, 0x49, 0x4E, 0x34, 0x2E, 0x31]
  ++ bytesLe16 bps ++ [spc] ++ bytesLe16 rsvd ++ [fats] ++ [0, 0] ++ [0, 0] ++ [0xF8] ++ [0, 0]
  ++ [0x20, 0] ++ [0x40, 0] ++ [0, 0, 0, 0] ++ bytesLe32 ts32
  ++ bytesLe32 spf32 ++ bytesLe16 extFlags ++ [0, 0] ++ bytesLe32 rootClus ++ bytesLe16 fsInfo ++ bytesLe16 backup
  ++ List.replicate 12 0 ++ [0x80, 0, 0x29] ++ [0x78, 0x56, 0x34, 0x12]
  ++ [0x4E, 0x4F, 0x20, 0x4E, 0x41, 0x4D, 0x45, 0x20, 0x20, 0x20, 0x20]
  ++ [0x46, 0x41, 0x54, 0x33, 0x32, 0x20, 0x20, 0x20]
  ++ List.replicate 420 0 ++ [0x55, 0xAA]

/-- a valid FS-info sector with the given free count and next-free hint -/
def fsInfoSector (free next : Nat) : List Nat :=
  bytesLe32 0x41615252 ++ List.replicate 480 0 ++ bytesLe32 0x61417272 ++ bytesLe32 free ++ bytesLe32 next
  ++ List.replicate 12 0 ++ bytesLe32 0xAA550000

/-- a FAT12/16 boot sector with the given fields -/
def bootSector16 (bps spc rsvd fats rootEntries ts16 spf16 ts32 : Nat) : List Nat :=
  [0xEB, 0x3C, 0x90] ++ [0x4D, 0x53, 0x57, 0x49, 0x4E, 0x34, 0x2E, 0x31]
  ++ bytesLe16 bps ++ [spc] ++ bytesLe16 rsvd ++ [fats] ++ bytesLe16 rootEntries ++ bytesLe16 ts16 ++ [0xF8]
  ++ bytesLe16 spf16 ++ [0x20, 0] ++ [0x40, 0] ++ [0, 0, 0, 0] ++ bytesLe32 ts32
  ++ [0x80, 0, 0x29] ++ [0x78, 0x56, 0x34, 0x12]
  ++ [0x4E, 0x4F, 0x20, 0x4E, 0x41, 0x4D, 0x45, 0x20, 0x20, 0x20, 0x20]
  ++ [0x46, 0x41, 0x54, 0x31, 0x36, 0x20, 0x20, 0x20]
  ++ List.replicate 448 0 ++ [0x55, 0xAA]

/-- a 16 MiB FAT16 volume: 2 KiB clusters, 2 FATs of 32 sectors, 512 root entries -/
def goodFat16 : List Nat := bootSector16 512 4 1 2 512 32768 32 0

/-- the 34 MiB FAT32 volume used as a base by the generator: 512-byte sectors and clusters, 2 FATs of 536 sectors -/
def goodFat32 : List Nat := bootSector32 512 1 8 2 69632 536 0 2 1 6

deriving instance DecidableEq for Except

instance (b : List Nat) : Decidable (IsSector b) := by unfold IsSector; exact inferInstance

example : IsSector goodFat32 := by decide +kernel
example : probe goodFat32 true = .ok
    { fatType := .fat32, bytesPerSector := 512, clusterSize := 512, totalClusters := 68552,
      firstDataSector := 1080, rootDirSectors := 0, sectorsPerFat := 536, reservedSectors := 8, fats := 2,
      totalSectors := 69632, mirroring := true, activeFat := 0, rootDirFirstCluster := 2, fsInfoSector := 1,
      backupBootSector := 6, statusDirty := false, statusIoError := false } := by decide +kernel

/-! ## 1. totality

Holds at full strength since the repair of F7 (`fix: boot sector validation no longer overflows on huge FAT
sizes`): the region sum is checked in `u64` before any `u32` arithmetic, the FAT capacity is computed in `u64`. -/

/-- C07.1: whatever the 512 bytes are, strict or not, parsing + validating + deriving the geometry never panics. -/
theorem mount_total {b : List Nat} (hb : IsSector b) (strict : Bool) : probe b strict ≠ .error .panic := by
  intro h
  cases probe_error hb h

/-- every failure of the boot-sector part of the mount is `CorruptedFileSystem` -/
theorem mount_error_corrupted {b : List Nat} (hb : IsSector b) {strict : Bool} {e : Err}
    (h : probe b strict = .error e) : e = .corrupted := probe_error hb h

/-- C07.1 for the whole of `FileSystem::new` (boot sector + FS-info sector; any FS-info bytes) -/
theorem mount_total_full {bs fi : List Nat} (hb : IsSector bs) (strict : Bool) :
    mountGeometry bs fi strict ≠ .error .panic := by
  intro h
  cases mountGeometry_error hb h

example : IsSector goodFat32 ∧ IsSector goodFat16 := by decide +kernel

/-! Regression: the former F7 witnesses are now rejected with
`CorruptedFileSystem`, and the coherent big volumes that used to panic now mount. -/

/-- 255 FATs of 0x02000000 sectors; `sectors_per_fat_32 = 0xFFFFFFFF`; `= 0x80000000` (former `fats * spf` wraps) -/
example :
    probe (bootSector32 512 1 8 255 69632 0x02000000 0 2 1 6) true = .error .corrupted ∧
    probe (bootSector32 512 1 8 2 69632 0xFFFFFFFF 0 2 1 6) true = .error .corrupted ∧
    probe (bootSector32 512 1 8 2 69632 0x80000000 0 2 1 6) true = .error .corrupted := by decide +kernel

/-- former region-sum wraps -/
example :
    probe (bootSector32 512 1 8 2 69632 0x7FFFFFFC 0 2 1 6) true = .error .corrupted ∧
    probe (bootSector32 512 1 8 2 69632 0x7FFFFFFB 0 2 1 6) true = .error .corrupted ∧
    probe (bootSector32 512 1 8 1 69632 0xFFFFFFF8 0 2 1 6) true = .error .corrupted := by decide +kernel

/-- the coherent, correctly sized 513 GiB / 512 GiB volumes (FATs of 2^20 resp. 2^17 sectors) whose
    `sectors_per_fat * bytes_per_sector * 8` used to overflow now mount, with the geometry of the independent parse -/
example :
    (probe (bootSector32 512 8 32 2 1075838944 1048576 0 2 1 6) true).toOption.map
      (fun g => (g.fatType, g.clusterSize, g.totalClusters)) = some (.fat32, 4096, 134217720) ∧
    (probe (bootSector32 4096 1 32 2 134479902 131072 0 2 1 6) true).toOption.map
      (fun g => (g.fatType, g.clusterSize, g.totalClusters)) = some (.fat32, 4096, 134217726) := by decide +kernel

/-! ## 2. only coherent geometries are accepted

Holds at full strength since the repair of F8 / F20 (`fix: reject FAT32 volumes with an out-of-range root directory
cluster or more clusters than FAT32 allows`). -/

/-- C07.2: an accepted boot sector satisfies every clause of `Coherent`. -/
theorem mount_accepts_coherent {b : List Nat} {strict : Bool} {g : Geometry} (hb : IsSector b)
    (h : probe b strict = .ok g) : Coherent b := by
  obtain ⟨hv, rfl⟩ := probe_ok hb h
  intro c
  -- every clause in terms of the fields of the parsed BPB
  cases c <;> simp only [Clause.holds, layout32_eq, countOfClusters_eq, bytsPerSec_eq, secPerClus_eq, numFATs_eq,
    fatSz_eq, rsvdSecCnt_eq, metaSectors_eq, totSec_eq, fatTypeOfCount_eq]
  case sectorSize => rcases hv.bps with h | h | h | h <;> rw [h] <;> decide
  case clusterSize => rcases hv.spc with h | h | h | h | h | h | h | h <;> rw [h] <;> decide
  case fatCount => have := hv.fats; simp only [bne_iff_ne, ne_eq]; omega
  case fatSize => have := hv.spf; simp only [bne_iff_ne, ne_eq]; omega
  case regionsFit =>
    have h1 := hv.rsvd; have h2 := hv.fds; have h3 := Bpb.totalSectors_lt (Bpb.deserialize_inRange hb)
    simp only [Bool.and_eq_true, decide_eq_true_eq]
    omega
  case fatWidth => have := hv.width; cases hf : (Bpb.deserialize b).isFat32 <;> simp_all
  case clusterLimit => have := hv.limit; cases hf : (Bpb.deserialize b).isFat32 <;> simp; omega
  case rootCluster =>
    cases hf : (Bpb.deserialize b).isFat32
    · simp
    · simp [rootClus_eq b hf, hv.rootCluster hf]
  case fsInfoSector =>
    cases hf : (Bpb.deserialize b).isFat32
    · simp
    · simp [fsInfo_eq b hf, hv.fsInfo hf]
  case backupSector =>
    cases hf : (Bpb.deserialize b).isFat32
    · simp
    · simp [bkBootSec_eq b hf, hv.backup hf]

/-- the same through the full mount -/
theorem mount_accepts_coherent_full {bs fi : List Nat} {strict : Bool} {m : Mounted} (hb : IsSector bs)
    (h : mountGeometry bs fi strict = .ok m) : Coherent bs := by
  obtain ⟨_, hg, _⟩ := mountGeometry_ok hb h
  exact mount_accepts_coherent hb hg

example : (probe goodFat32 false).toOption.isSome = true ∧ (probe goodFat16 true).toOption.isSome = true := by
  decide +kernel

/-- regression for F8: root clusters 0, 1, `total+2`, `0xFFFFFFFF` are rejected; the first and the last valid
    root cluster (2 and 68 553 on this 68 552-cluster volume) are accepted -/
example :
    (∀ rc ∈ [0, 1, 68554, 0xFFFFFFFF],
      probe (bootSector32 512 1 8 2 69632 536 0 rc 1 6) true = .error .corrupted) ∧
    (∀ rc ∈ [2, 68553],
      (probe (bootSector32 512 1 8 2 69632 536 0 rc 1 6) true).toOption.map (·.rootDirFirstCluster) = some rc) := by
  decide +kernel

/-- regression for F20: 0x0FFFFFFF and 0x0FFFFFF5 clusters are rejected, `FAT32_MAX_CLUSTERS` = 0x0FFFFFF4 is the
    largest accepted count -/
example :
    probe (bootSector32 512 1 8 2 268436535 536 0 2 1 6) true = .error .corrupted ∧
    probe (bootSector32 512 1 8 2 268436525 536 0 2 1 6) true = .error .corrupted ∧
    (probe (bootSector32 512 1 8 2 268436524 536 0 2 1 6) true).toOption.map (·.totalClusters)
      = some 0x0FFFFFF4 := by decide +kernel

/-! ## 3. the accepted geometry is the independently parsed one -/

/-- C07.3: FAT width, cluster size and cluster count of an accepted volume equal what the independent parse of
    the same bytes derives (in unbounded arithmetic). -/
theorem mount_geometry {b : List Nat} {strict : Bool} {g : Geometry} (hb : IsSector b)
    (h : probe b strict = .ok g) : (g.fatType, g.clusterSize, g.totalClusters) = specGeometry b := by
  obtain ⟨_, rfl⟩ := probe_ok hb h
  simp only [specGeometry, Bpb.geoOf, countOfClusters_eq, secPerClus_eq, bytsPerSec_eq, fatTypeOfCount_eq]

/-- the same through the full mount -/
theorem mount_geometry_full {bs fi : List Nat} {strict : Bool} {m : Mounted} (hb : IsSector bs)
    (h : mountGeometry bs fi strict = .ok m) :
    (m.geo.fatType, m.geo.clusterSize, m.geo.totalClusters) = specGeometry bs := by
  obtain ⟨_, hg, _⟩ := mountGeometry_ok hb h
  exact mount_geometry hb hg

example : (probe goodFat32 true).toOption.isSome = true ∧ specGeometry goodFat32 = (.fat32, 512, 68552) :=
  ⟨by decide +kernel, by decide +kernel⟩

/-! ## 4. FS-info values are in range or absent after mounting -/

/-- C07.4 on `validate_and_fix` alone -/
theorem fsinfo_fixed {f f' : FsInfo} {total : Nat} (h : f.validateAndFix total = .ok f') :
    (∀ n, f'.freeClusterCount = some n → n ≤ total) ∧
    (∀ n, f'.nextFreeCluster = some n → n ≤ total + 2) := by
  unfold FsInfo.validateAndFix at h
  rw [ebind_eq_ok] at h
  obtain ⟨mx, hmx, h⟩ := h
  rw [u32Add_ok] at hmx
  cases h
  exact ⟨fun n hn => (FsInfo.fixFree_le hn).1, fun n hn => by have := (FsInfo.fixNext_le hn).1; omega⟩

/-- C07.4 on the mounted volume: the cached free count is `≤ total_clusters` or absent, and absent on a dirty
    volume; the next-free hint is in `[2, total_clusters + 2]` or absent (`total + 2` itself — one past the last
    valid cluster — passes the code's `>` test, cf. F13); FAT12/16 volumes have neither. -/
theorem fsinfo_fixed_mount {bs fi : List Nat} {strict : Bool} {m : Mounted}
    (h : mountGeometry bs fi strict = .ok m) :
    (∀ n, m.fsInfo.freeClusterCount = some n → n ≤ m.geo.totalClusters ∧ m.geo.statusDirty = false) ∧
    (∀ n, m.fsInfo.nextFreeCluster = some n → 2 ≤ n ∧ n ≤ m.geo.totalClusters + 2) ∧
    (m.geo.fatType ≠ .fat32 → m.fsInfo.freeClusterCount = none ∧ m.fsInfo.nextFreeCluster = none) := by
  unfold mountGeometry at h
  simp only [ebind_eq_ok] at h
  obtain ⟨g, _, f, hf, f1, hf1, h⟩ := h
  cases h
  cases FsInfo.validateAndFix_kept hf1
  unfold readFsInfo at hf
  refine ⟨fun n hn => ⟨(FsInfo.kept_free hn).1, (FsInfo.kept_free hn).2.1⟩, fun n hn => ?_, fun hne => ?_⟩
  · -- the hint was read from a sector (`decodeNext` yields no value below 2) and survived the range check
    obtain ⟨h1, h2⟩ := FsInfo.kept_next hn
    split at hf
    · rw [ebind_eq_ok] at hf
      obtain ⟨_, _, hd⟩ := hf
      exact ⟨FsInfo.deserialize_next_ge hd h2, h1⟩
    · cases hf; cases h2
  · rw [if_neg hne] at hf
    cases hf
    rw [FsInfo.kept_empty]
    exact ⟨rfl, rfl⟩

example : (mountGeometry goodFat32 (fsInfoSector 68552 68554) true).toOption.map (·.fsInfo)
    = some { freeClusterCount := some 68552, nextFreeCluster := some 68554, dirty := false } ∧
    (mountGeometry goodFat32 (fsInfoSector 68553 68555) true).toOption.map (·.fsInfo)
    = some { freeClusterCount := none, nextFreeCluster := none, dirty := false } := by decide +kernel

/-! ## 5. offset arithmetic on an accepted geometry (C11.1, C20.1, C20.2) -/

/-- `offset_from_cluster c` for a data cluster of an accepted volume: the checked `u32`/`u64` computation succeeds
    (no wrap at 2^32 or 2^64), is exact, and the whole cluster lies between the first data sector and the declared
    end of the volume, which is below 2^44. -/
theorem offset_arith {b : List Nat} {strict : Bool} {g : Geometry} (hb : IsSector b)
    (h : probe b strict = .ok g) {c : Nat} (hc2 : 2 ≤ c) (hc : c < g.totalClusters + 2) :
    ∃ off, offsetFromCluster (Bpb.deserialize b) g.firstDataSector c = .ok off ∧
      off = (g.firstDataSector + (c - 2) * (Bpb.deserialize b).sectorsPerCluster) * g.bytesPerSector ∧
      g.firstDataSector * g.bytesPerSector ≤ off ∧
      off + g.clusterSize ≤ g.totalSectors * g.bytesPerSector ∧
      g.totalSectors * g.bytesPerSector < 2 ^ 44 := by
  obtain ⟨hv, rfl⟩ := probe_ok hb h
  obtain ⟨h1, h2, h3, h4⟩ := offsetFromCluster_ok (Bpb.deserialize_inRange hb) hv hc2 hc
  exact ⟨_, h1, rfl, h2, h3, h4⟩

example : offsetFromCluster (Bpb.deserialize goodFat32) 1080 68553 = .ok ((1080 + 68551) * 512) := by
  decide +kernel

/-- `FatEntriesFit`: the FAT has an entry for every cluster — the condition `validate_total_clusters` merely
    *warns* about; an accepted volume need not satisfy it (`fat_too_small_accepted`). It is not a clause of C07's
    `Coherent`: reads/writes of entries beyond the FAT are clipped by `DiskSlice`, not misdirected. -/
def FatEntriesFit (g : Geometry) : Prop :=
  g.totalClusters + 2 ≤ g.sectorsPerFat * g.bytesPerSector * 8 / g.fatType.bits

instance (g : Geometry) : Decidable (FatEntriesFit g) := by unfold FatEntriesFit; exact inferInstance

/-- C20.2: the byte offset of FAT entry `c` (`c*4`, `c*2`, `c + c/2`) does not wrap `u32`, and, when the FAT has an
    entry for every cluster, the entry lies inside one FAT copy. -/
theorem fat_offset_arith {b : List Nat} {strict : Bool} {g : Geometry} (hb : IsSector b)
    (h : probe b strict = .ok g) {c : Nat} (hc : c < g.totalClusters + 2) :
    (c * 4 < 2 ^ 32 ∧ c * 2 < 2 ^ 32 ∧ c + c / 2 < 2 ^ 32) ∧
    (FatEntriesFit g →
      (g.fatType = .fat32 → c * 4 + 4 ≤ g.sectorsPerFat * g.bytesPerSector) ∧
      (g.fatType = .fat16 → c * 2 + 2 ≤ g.sectorsPerFat * g.bytesPerSector) ∧
      (g.fatType = .fat12 → c + c / 2 + 2 ≤ g.sectorsPerFat * g.bytesPerSector)) := by
  obtain ⟨hv, rfl⟩ := probe_ok hb h
  refine ⟨fatEntry_nowrap hv hc, fun hfit => ?_⟩
  obtain ⟨h32, h16, h12⟩ := fatEntry_inside (Bpb.fatBits_cases _) hfit hc
  refine ⟨fun ht => h32 (by rw [ht]; rfl), fun ht => h16 (by rw [ht]; rfl), fun ht => h12 (by rw [ht]; rfl)⟩

example : (probe goodFat32 true).toOption.map (fun g => decide (FatEntriesFit g)) = some true := by
  decide +kernel

/-- a FAT32 volume whose FAT (1 sector = 128 entries) is far too small for its 69 598 clusters is accepted -/
theorem fat_too_small_accepted :
    (probe (bootSector32 512 1 32 2 69632 1 0 2 1 6) true).toOption.map
      (fun g => (g.totalClusters, decide (FatEntriesFit g))) = some (69598, false) := by decide +kernel

/-- placement of the FAT slice (`fat_slice`) of an accepted volume, in sectors: it starts at or after the reserved
    area and all its mirrors end before the root directory / data area — provided that, when mirroring is off,
    the active FAT index is below the number of FATs (NOT validated by the code: `active_fat_counterexample`). -/
theorem fat_slice_placement {b : List Nat} {strict : Bool} {g : Geometry} (hb : IsSector b)
    (h : probe b strict = .ok g) (hact : g.mirroring = false → g.activeFat < g.fats) :
    ∃ first, fatSlice (Bpb.deserialize b) =
        .ok { sBegin := first * g.bytesPerSector, size := g.sectorsPerFat * g.bytesPerSector,
              mirrors := if g.mirroring then g.fats else 1 } ∧
      g.reservedSectors ≤ first ∧
      first + (if g.mirroring then g.fats else 1) * g.sectorsPerFat ≤ g.reservedSectors + g.fats * g.sectorsPerFat ∧
      g.reservedSectors + g.fats * g.sectorsPerFat + g.rootDirSectors = g.firstDataSector := by
  obtain ⟨hv, rfl⟩ := probe_ok hb h
  obtain ⟨first, _, h2, h3, h4⟩ := fatSlice_ok (Bpb.deserialize_inRange hb) hv hact
  exact ⟨first, h2, h3, h4, rfl⟩

example : (probe goodFat32 true).toOption.map (fun g => (g.mirroring, g.activeFat, g.fats)) = some (true, 0, 2) ∧
    fatSlice (Bpb.deserialize goodFat32) = .ok { sBegin := 8 * 512, size := 536 * 512, mirrors := 2 } := by
  decide +kernel

/-- observation (relevant to C08.4/C10/C11): with mirroring off, an active-FAT index ≥ the number of FATs is
    accepted; the FAT slice then lies in the data area (2 FATs, `extended_flags = 0x8F`: the slice starts at
    sector 8 + 15·536 = 8048, the data area at sector 1080) -/
theorem active_fat_counterexample :
    (probe (bootSector32 512 1 8 2 69632 536 0x8F 2 1 6) true).toOption.map
        (fun g => (g.mirroring, g.activeFat, g.fats, g.firstDataSector)) = some (false, 15, 2, 1080) ∧
    fatSlice (Bpb.deserialize (bootSector32 512 1 8 2 69632 536 0x8F 2 1 6)) =
      .ok { sBegin := 8048 * 512, size := 536 * 512, mirrors := 1 } := by decide +kernel

/-- placement of the fixed root directory of an accepted FAT12/16 volume: right after the FATs, up to the first
    data sector -/
theorem root_slice_placement {b : List Nat} {strict : Bool} {g : Geometry} (hb : IsSector b)
    (h : probe b strict = .ok g) :
    rootDirSlice (Bpb.deserialize b) g.firstDataSector g.rootDirSectors =
      .ok { sBegin := (g.reservedSectors + g.fats * g.sectorsPerFat) * g.bytesPerSector,
            size := g.rootDirSectors * g.bytesPerSector, mirrors := 1 } ∧
    g.reservedSectors + g.fats * g.sectorsPerFat + g.rootDirSectors = g.firstDataSector := by
  obtain ⟨hv, rfl⟩ := probe_ok hb h
  exact ⟨rootDirSlice_ok (Bpb.deserialize_inRange hb) hv, rfl⟩

example : IsSector goodFat16 ∧
    (probe goodFat16 true).toOption.map
      (fun g => (g.fatType, g.totalClusters, g.firstDataSector, g.rootDirSectors)) = some (.fat16, 8167, 97, 32) ∧
    rootDirSlice (Bpb.deserialize goodFat16) 97 32 = .ok { sBegin := 65 * 512, size := 32 * 512, mirrors := 1 } := by
  decide +kernel

/-! ## 6. no arithmetic of an accepted volume can overflow

After mounting, the library keeps calling the `u32`/`u64` getters of the BPB (`first_data_sector()`,
`total_clusters()`, `bytes_from_sectors`, `sector_from_cluster`, …). None of them can panic on an accepted volume. -/

/-- every BPB getter is total on an accepted volume and returns the unbounded-arithmetic value -/
theorem accepted_arith_total {b : List Nat} {strict : Bool} {g : Geometry} (hb : IsSector b)
    (h : probe b strict = .ok g) :
    (Bpb.deserialize b).rootDirSectors = .ok g.rootDirSectors ∧
    (Bpb.deserialize b).sectorsPerAllFats = .ok (g.fats * g.sectorsPerFat) ∧
    (Bpb.deserialize b).firstDataSector = .ok g.firstDataSector ∧
    (Bpb.deserialize b).totalClusters = .ok g.totalClusters ∧
    (Bpb.deserialize b).clusterSize = .ok g.clusterSize ∧
    (∀ s, s < 2 ^ 32 → (Bpb.deserialize b).bytesFromSectors s = .ok (s * g.bytesPerSector)) ∧
    (∀ k, k ≤ g.totalClusters →
      (Bpb.deserialize b).sectorsFromClusters k = .ok (k * (Bpb.deserialize b).sectorsPerCluster) ∧
      bytesFromClusters (Bpb.deserialize b) k = .ok (k * (Bpb.deserialize b).sectorsPerCluster * g.bytesPerSector)) ∧
    (∀ c, 2 ≤ c → c < g.totalClusters + 2 →
      sectorFromCluster (Bpb.deserialize b) g.firstDataSector c =
        .ok (g.firstDataSector + (c - 2) * (Bpb.deserialize b).sectorsPerCluster) ∧
      g.firstDataSector + (c - 2) * (Bpb.deserialize b).sectorsPerCluster + (Bpb.deserialize b).sectorsPerCluster
        ≤ g.totalSectors) ∧
    (∀ n, n < 2 ^ 63 → ∃ k, (Bpb.deserialize b).clustersFromBytes n = .ok k) := by
  obtain ⟨hv, rfl⟩ := probe_ok hb h
  have hr := Bpb.deserialize_inRange hb
  have hbps := hv.bps
  refine ⟨Bpb.rootDirSectors_eq hr (by omega), sectorsPerAllFats_valid hv, Bpb.firstDataSector_valid hr hv,
    Bpb.totalClusters_valid hr hv, Bpb.clusterSize_eq hr, fun s hs => Bpb.bytesFromSectors_total hr hs,
    fun k hk => ⟨(sectorsFromClusters_valid hr hk).1, bytesFromClusters_valid hr hk⟩,
    fun c h2 hc => sectorFromCluster_ok hr hv h2 hc, fun n hn => ⟨_, clustersFromBytes_valid hr hv hn⟩⟩

example : (Bpb.deserialize goodFat32).firstDataSector = .ok 1080 ∧
    (Bpb.deserialize goodFat32).totalClusters = .ok 68552 ∧
    sectorFromCluster (Bpb.deserialize goodFat32) 1080 68553 = .ok 69631 := by decide +kernel

/-! ## sanity of the (de)serialisers on the witnesses -/

example : BootSector.serialize (BootSector.deserialize goodFat32) = goodFat32 ∧
    BootSector.serialize (BootSector.deserialize goodFat16) = goodFat16 := by decide +kernel

example : FsInfo.deserialize (FsInfo.serialize { freeClusterCount := some 7, nextFreeCluster := none }) =
      .ok { freeClusterCount := some 7, nextFreeCluster := none } ∧
    FsInfo.serialize { freeClusterCount := some 68552, nextFreeCluster := some 68554 } =
      fsInfoSector 68552 68554 := by decide +kernel

end FatVerif.C07
