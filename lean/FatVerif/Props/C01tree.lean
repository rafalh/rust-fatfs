import FatVerif.Proofs.SlotTreeRename2
import FatVerif.Proofs.SlotTreeHang
import FatVerif.Proofs.SlotTreeNames
/-!
# C01 (item 6) at the level of a TREE OF SLOT LISTS — paths of any depth

Model: `Model/SlotTree.lean`.  A volume is a rose tree whose directory nodes carry their slot list
(`Node.dir slots children`); `open_dir`, `open_file`, `create_file`, `create_dir`, `remove`, `rename` and the listing are
the one-directory functions of C01.2–.5 / C16 (`DirSlots.findEntry`, `DirAlias.checkForExistenceL`,
`DirSlots.writeEntry`, `DirSlots.deleteRange`) composed along the path in the order of `Model/DirOps.lean`
(= `dir.rs`): `split_path` component by component, `.`/`..`, the checks of `rename_internal` in their order, the new
entry written BEFORE the old range is deleted.  Specification: `Spec/Tree.lean` (`Spec.evalOp`, `Spec.step`), used as
it is; abstraction `SlotTree.abs : Node → Spec.TNode` (names, kinds, contents; case-preserving).

## What is proved (all six calls and the listing, every depth, `rename` inside one directory and across directories
   with the ancestor check)

* `slot_step_refines`: for every well-formed slot tree `t` (`TreeWf`: every directory `DirWf`, children = listed
  entries, kinds agree) and every call `op` satisfying `OpOk`: the new tree is well-formed; an error leaves the tree
  LITERALLY unchanged (of any tree and call: `SlotTree.stepSlot_err_tree`; hence `abs` unchanged:
  `slot_step_error_frame`); `Accepts (Spec.evalOp cfg (abs t) op) result`:
  success ⇒ the specification demands success and its tree is `abs` of the new slot tree; error `e` ⇒ `e` is among the
  specification's acceptable kinds.  With the name invariant kept as well (`SlotTree.Refines`): `slot_step_refines_names`.
* `slot_step_spec_step`: the same through the checker: `Spec.step cfg (abs t) op obs = .ok (abs t')`; a listing is
  observed as a plain success there (`obsOf`), its rows are `list_rows`.
* `slot_tree_refines_spec`: every finite history, by induction.
* `slot_step_refines_inv` / `slot_tree_refines_spec_inv`: the same with the hypotheses on a call reduced to
  `OpOkA` (below), using the invariant `TNamesOk (abs t)` (all stored names valid, none a dot name; holds for the empty
  volume; preserved: part of `SlotTree.Refines`) and `UpperSafe` of the case folding (`upperSafe_ascii`).
* `list_rows`: the rows of a listing are a permutation of the specification's (names exact, kinds).
* `slot_step_spec_step_fuel` (`SlotTree.no_hang_of_fuel`): with the fuel of `C16dir.dir_alias_terminates` the model's
  `hang` outcome does not occur.

## Hypotheses kept, and why

* `SplitAgree path`: `Spec.splitPath` (`String.splitOn "/"`, empty components dropped) and `split_path` applied
  component by component (`Names.splitPathL`, the transliteration of the Rust function) yield the same components.
  A fact about two string functions, independent of the file system; `String.splitOn` has no specification lemmas in
  core and does not reduce in the kernel, so it is a hypothesis (evaluated on samples at the end of this file).
* `NoAliasHit t q` for every component `q` of a path argument (in `OpOkA`; `QAll` in `OpOk` is this plus what the
  invariant gives): the specification tree has no 8.3 aliases — a query that hits an entry only through its alias
  (`open_file("HELLOW~1.TXT")`) succeeds in the library and is `NotFound` in the plain tree
  (`alias_query_counterexample`); the run-time oracle translates such paths first (`Spec.dealias`).
* `UpperSafe up` (invariant form only): names that fold alike are equally valid, only `.`/`..` fold like `.`/`..`.
  True of the ASCII folding (`upperSafe_ascii`).  NOT true of `char::to_uppercase` (feature `unicode`): `ﬁ` folds to
  `FI`, so `"ﬁ"×100` (300 bytes, invalid) folds like `"FI"×100` (valid).  There the library and `Spec.evalRename`
  really differ: `rename(x, "ﬁ"×100)` while `"FI"×100` exists → the library validates the new name first
  (`InvalidFileNameLength`), the specification only accepts `AlreadyExists`.  (`create_*` agree: both look the name up
  first.)  `slot_step_refines` with `OpOk`
  covers the `unicode` folding whenever the destination name is valid or answers to nothing.
* `CwdOk`: the directory handle is live (resolves to a directory) and its canonical path answers to no alias only.
* `Err.hang` (the alias loop of `check_for_existence` ran out of the MODEL's fuel; the Rust loop is unbounded) is not
  a result of the library: excluded in `slot_step_spec_step`, discharged by `slot_step_spec_step_fuel`.

## Out of scope (said so in the model)

Clusters and free space (`NotEnoughSpace`, a full fixed root: slot lists grow as needed), I/O errors, the dot entries
themselves (implicit; their cluster fields and the `..` update of a moved directory are C03), timestamps, file
contents and sizes (C02; files are created empty), live handles across a rename (`Spec.remapPath`), and the effectful
byte-level layer (the programs of Model/DirOps ↔ slot lists: proved in Props/C01sim, composed along paths with this
file in Props/C01img).
-/
namespace FatVerif
namespace C01tree
open Lfn DirSlots DirAlias SlotTree

/-! ## one call -/

/-- one call: `Refines` (well-formedness, the name invariant, the specification's verdict) -/
theorem slot_step_refines_names (u : Char → List Char) (fuel : Nat) (t : Node) (hwf : TreeWf (upOf u) t)
    (op : Spec.Op) (stamp : List Nat) (hok : OpOk (upOf u) t op) :
    Refines u t (Spec.evalOp (cfgOf u) (abs t) op) (stepSlot (upOf u) fuel t op stamp) := by
  have same : ∀ {o : Spec.Outcome} {r : Res}, r.tree = t ∧ Accepts o r → Refines u t o r :=
    fun h => ⟨h.1 ▸ hwf, fun hn => h.1 ▸ hn, h.2⟩
  cases op with
  | createFile cwd p => exact create_refines u fuel t hwf cwd hok.1 p hok.2 false stamp
  | createDir cwd p => exact create_refines u fuel t hwf cwd hok.1 p hok.2 true stamp
  | openFile cwd p => exact same (open_refines u t hwf cwd hok.1 p hok.2 false)
  | openDir cwd p => exact same (open_refines u t hwf cwd hok.1 p hok.2 true)
  | list cwd => exact same ⟨(list_refines u t hwf cwd hok).1, (list_refines u t hwf cwd hok).2.1⟩
  | remove cwd p => exact remove_refines u t hwf cwd hok.1 p hok.2
  | rename cwd s d p => exact rename_refines u fuel t hwf cwd hok.1 s hok.2.1 d hok.2.2.1 p hok.2.2.2

/-- **C01.6, one call.** -/
theorem slot_step_refines (u : Char → List Char) (fuel : Nat) (t : Node) (hwf : TreeWf (upOf u) t)
    (op : Spec.Op) (stamp : List Nat) (hok : OpOk (upOf u) t op) :
    TreeWf (upOf u) (stepSlot (upOf u) fuel t op stamp).tree ∧
    (∀ e, (stepSlot (upOf u) fuel t op stamp).out = .error e → (stepSlot (upOf u) fuel t op stamp).tree = t) ∧
    Accepts (Spec.evalOp (cfgOf u) (abs t) op) (stepSlot (upOf u) fuel t op stamp) :=
  have h := slot_step_refines_names u fuel t hwf op stamp hok
  ⟨h.1, stepSlot_err_tree _ _ _ _ _, h.2.2⟩

/-- a non-I/O error (any error: the model has no I/O errors) leaves the abstract tree exactly as it was -/
theorem slot_step_error_frame (u : Char → List Char) (fuel : Nat) (t : Node) (hwf : TreeWf (upOf u) t)
    (op : Spec.Op) (stamp : List Nat) (hok : OpOk (upOf u) t op) (e : Err)
    (he : (stepSlot (upOf u) fuel t op stamp).out = .error e) :
    abs (stepSlot (upOf u) fuel t op stamp).tree = abs t := by
  rw [(slot_step_refines u fuel t hwf op stamp hok).2.1 e he]

/-- the rows of a listing: exactly the specification's, in some order -/
theorem list_rows (u : Char → List Char) (fuel : Nat) (t : Node) (hwf : TreeWf (upOf u) t) (cwd : List String)
    (stamp : List Nat) (hok : OpOk (upOf u) t (.list cwd)) :
    ∃ rows, (stepSlot (upOf u) fuel t (.list cwd) stamp).out = .ok rows ∧
      rows.Perm ((Spec.evalOp (cfgOf u) (abs t) (.list cwd)).listing.map fun r => (r.1, r.2.1)) :=
  (list_refines u t hwf cwd hok).2.2

/-! ## through the checker `Spec.step` -/

/-- what the harness would observe of a result -/
def obsOf (r : Res) : Spec.Obs :=
  match r.out with
  | .ok _ => .ok
  | .error e => .err e

/-- **C01.6, one call, in checker form**: the specification's checker accepts the outcome and continues with the
    abstraction of the new slot tree -/
theorem slot_step_spec_step (u : Char → List Char) (fuel : Nat) (t : Node) (hwf : TreeWf (upOf u) t)
    (op : Spec.Op) (stamp : List Nat) (hok : OpOk (upOf u) t op)
    (hnh : (stepSlot (upOf u) fuel t op stamp).out ≠ .error .hang) :
    Spec.step (cfgOf u) (abs t) op (obsOf (stepSlot (upOf u) fuel t op stamp)) =
      .ok (abs (stepSlot (upOf u) fuel t op stamp).tree) := by
  obtain ⟨_, hfr, hacc⟩ := slot_step_refines u fuel t hwf op stamp hok
  unfold Accepts at hacc
  unfold Spec.step obsOf
  cases hout : (stepSlot (upOf u) fuel t op stamp).out with
  | ok rows =>
    rw [hout] at hacc
    simp only [hacc.1, List.isEmpty_nil, if_true, hacc.2]
  | error e =>
    rw [hout] at hacc
    rw [hfr e hout]
    simp only
    rcases hacc with h | h
    · exact absurd (h ▸ hout) hnh
    · by_cases hio : Spec.errIsIo e = true
      · simp only [hio, if_true]
      · have hc : (Spec.evalOp (cfgOf u) (abs t) op).errs.contains e = true := by
          simp only [List.contains_eq_mem, decide_eq_true_eq]; exact h
        simp only [hio, Bool.false_eq_true, if_false, hc, if_true]

/-! ## histories -/

/-- the hypotheses on a call hold at every step of the history -/
def RunOk (up : Char → List Char) (fuel : Nat) : Node → List (Spec.Op × List Nat) → Prop
  | _, [] => True
  | t, (op, stamp) :: rest => OpOk up t op ∧ RunOk up fuel (stepSlot up fuel t op stamp).tree rest

/-- the specification's checker run over a history of calls and observed results -/
def specRun (cfg : Spec.TreeCfg) : Spec.TNode → List (Spec.Op × Spec.Obs) → Except String Spec.TNode
  | s, [] => .ok s
  | s, (op, obs) :: rest =>
    match Spec.step cfg s op obs with
    | .ok s' => specRun cfg s' rest
    | .error m => .error m

/-- the calls of a history paired with what was observed of the slot tree's results -/
def observed (up : Char → List Char) (fuel : Nat) : Node → List (Spec.Op × List Nat) → List (Spec.Op × Spec.Obs)
  | _, [] => []
  | t, (op, stamp) :: rest =>
    (op, obsOf (stepSlot up fuel t op stamp)) :: observed up fuel (stepSlot up fuel t op stamp).tree rest

/-- **C01.6 `slot_tree_refines_spec`**: for every finite history of create-file, create-directory, open, list,
    remove and rename calls on paths of any depth from a well-formed slot tree, the specification's checker accepts
    every outcome in turn and ends in the abstraction of the final slot tree, which is well-formed again. -/
theorem slot_tree_refines_spec (u : Char → List Char) (fuel : Nat) :
    ∀ (ops : List (Spec.Op × List Nat)) (t : Node), TreeWf (upOf u) t → RunOk (upOf u) fuel t ops →
    (∀ r ∈ (runSlot (upOf u) fuel t ops).1, r.out ≠ .error .hang) →
    TreeWf (upOf u) (runSlot (upOf u) fuel t ops).2 ∧
    specRun (cfgOf u) (abs t) (observed (upOf u) fuel t ops) = .ok (abs (runSlot (upOf u) fuel t ops).2)
  | [], t, hwf, _, _ => ⟨hwf, rfl⟩
  | (op, stamp) :: rest, t, hwf, hrun, hnh => by
    obtain ⟨hok, hrest⟩ := hrun
    have hstep := slot_step_spec_step u fuel t hwf op stamp hok (hnh _ (by simp [runSlot]))
    have hwf' := (slot_step_refines u fuel t hwf op stamp hok).1
    obtain ⟨i1, i2⟩ := slot_tree_refines_spec u fuel rest _ hwf' hrest
      (fun r hr => hnh r (by simp only [runSlot, List.mem_cons]; exact Or.inr hr))
    refine ⟨i1, ?_⟩
    simp only [observed, specRun, hstep, runSlot]
    exact i2

/-! ## the model's `hang` outcome does not occur with enough fuel -/

/-- **no `hang`** (`SlotTree.no_hang_of_fuel`): with a case folding that leaves the characters of short names alone
    and the fuel of `C16dir.dir_alias_terminates` for every directory, the hypothesis `≠ .error .hang` of
    `slot_step_spec_step` holds -/
theorem slot_step_spec_step_fuel (u : Char → List Char) (hup : UpperFixes (upOf u)) (fuel : Nat) (t : Node)
    (hwf : TreeWf (upOf u) t) (hsz : t.All (Sized fuel)) (op : Spec.Op) (stamp : List Nat)
    (hok : OpOk (upOf u) t op) :
    Spec.step (cfgOf u) (abs t) op (obsOf (stepSlot (upOf u) fuel t op stamp)) =
      .ok (abs (stepSlot (upOf u) fuel t op stamp).tree) :=
  slot_step_spec_step u fuel t hwf op stamp hok (no_hang_of_fuel hup fuel t hsz op stamp)

/-- the ASCII build's folding (and any folding that fixes `A–Z 0–9` and the short-name punctuation) qualifies -/
theorem upOf_ascii_fixes : UpperFixes (upOf Names.upperAscii) := by
  intro y hy
  have key : ∀ y < 128, (y ∈ Names.legalSfnBytes ∨ y = 46) →
      upOf Names.upperAscii (Char.ofNat y) = [Char.ofNat y] := by
    rw [Names.legalSfnBytes_eq]; decide +kernel
  have hy128 : y < 128 := by
    rcases hy with h | h
    · exact legal_lt_128 y h
    · omega
  exact key y hy128 hy

/-! ## non-vacuity -/

namespace Ex
def up0 : Char → List Char := upOf Names.upperAscii
def stamp0 : List Nat := List.replicate 20 0
def aliasSub : List Nat := "SUB        ".toList.map Char.toNat
def aliasHello : List Nat := "HELLOW~1TXT".toList.map Char.toNat
def sfnHello : List Nat := sfnWith aliasHello (newBody false stamp0)
def sfnSub : List Nat := sfnWith aliasSub (newBody true stamp0)
/-- the directory `sub`: one long-named file (two long-name slots + the short slot `HELLOW~1.TXT`) -/
def sub0 : Node := addEntry (Names.encodeUtf16 "Hello World.txt".toList) sfnHello (.file []) (.dir [] [])
/-- the root: one entry, the directory `sub` -/
def root0 : Node := addEntry (Names.encodeUtf16 "sub".toList) sfnSub sub0 (.dir [] [])

theorem sub0_wf : TreeWf up0 sub0 := by
  have hchk : checkForExistenceL up0 [] "Hello World.txt" (some false) 20 = .ok (.alias aliasHello) := by
    decide +kernel
  exact (add_success Names.upperAscii (.dir [] []) (treeWf_fresh _ true) [] trivial [] [] rfl "Hello World.txt"
    sfnHello (.file []) rfl
    (C16dir.dir_create_wf up0 [] "Hello World.txt" (some false) 20 aliasHello 0 stamp0 (dirWf_nil _) rfl (by decide) hchk)
    (by decide +kernel) (by decide +kernel) (all_file _ _)).1

/-- a concrete 2-level tree with a long-named file is well-formed -/
theorem root0_wf : TreeWf up0 root0 := by
  have hchk : checkForExistenceL up0 [] "sub" (some true) 20 = .ok (.alias aliasSub) := by decide +kernel
  exact (add_success Names.upperAscii (.dir [] []) (treeWf_fresh _ true) [] trivial [] [] rfl "sub"
    sfnSub sub0 rfl
    (C16dir.dir_create_wf up0 [] "sub" (some true) 20 aliasSub 16 stamp0 (dirWf_nil _) rfl (by decide) hchk)
    (by decide +kernel) (by decide +kernel) sub0_wf).1

/-- its abstraction: `/sub/Hello World.txt` (empty file) -/
example : (abs root0).children.map (·.1) = ["sub"] ∧
    ((abs root0).children.map fun x => x.2.children.map fun y => (y.1, y.2.isDir, y.2.size)) =
      [[("Hello World.txt", false, 0)]] := by decide +kernel

/-- the model builds exactly this tree (slots and names) from the empty volume -/
example :
    (runSlot up0 20 (.dir [] []) [(.createDir [] "sub", stamp0), (.createFile [] "sub/Hello World.txt", stamp0)]).2 =
      root0 := rfl

/-- the hypotheses on a call (`OpOk`) are met by concrete calls on this tree, given the string fact `SplitAgree` -/
example (h : SplitAgree "sub/hello world.TXT") : OpOk up0 root0 (.openFile [] "sub/hello world.TXT") := by
  have hp : pathParts "sub/hello world.TXT" = (["sub"], "hello world.TXT") := by decide +kernel
  have hl1 : listing (writeEntry [] (Names.encodeUtf16 "sub".toList) sfnSub) =
      [newEntry [] (Names.encodeUtf16 "sub".toList) sfnSub] := by decide +kernel
  have hl2 : listing (writeEntry [] (Names.encodeUtf16 "Hello World.txt".toList) sfnHello) =
      [newEntry [] (Names.encodeUtf16 "Hello World.txt".toList) sfnHello] := by decide +kernel
  have hq : ∀ q : String,
      (∀ e ∈ [newEntry [] (Names.encodeUtf16 "sub".toList) sfnSub], matchesName up0 e q.toList = true →
        Names.fold up0 (entryNameL e) = Names.fold up0 q.toList ∧ Names.validateLongName q = .ok () ∧
          isDotName q = false) →
      (∀ e ∈ [newEntry [] (Names.encodeUtf16 "Hello World.txt".toList) sfnHello], matchesName up0 e q.toList = true →
        Names.fold up0 (entryNameL e) = Names.fold up0 q.toList ∧ Names.validateLongName q = .ok () ∧
          isDotName q = false) → QAll up0 root0 q := by
    intro q h1 h2
    have hshape : Shape ([] : List (List Nat)) := (dirWf_nil up0).shape
    have ad1 := addEntry_dir hshape (Names.encodeUtf16 "sub".toList) sfnSub sub0 []
      ⟨by decide, by decide, by decide, by decide⟩ (by decide +kernel)
    have ad2 := addEntry_dir hshape (Names.encodeUtf16 "Hello World.txt".toList) sfnHello (.file []) []
      ⟨by decide, by decide, by decide, by decide⟩ (by decide +kernel)
    unfold QAll root0
    rw [ad1, all_dir]
    refine ⟨by unfold QHit; rw [hl1]; exact h1, ?_⟩
    intro x hx
    simp only [List.nil_append, List.mem_singleton] at hx
    rw [hx]
    unfold sub0
    rw [ad2, all_dir]
    refine ⟨by unfold QHit; rw [hl2]; exact h2, ?_⟩
    intro y hy
    simp only [List.nil_append, List.mem_singleton] at hy
    rw [hy]; exact all_file _ _
  refine ⟨⟨trivial, _, _, rfl⟩, h, ?_, ?_⟩
  · rw [hp]
    intro q hq'
    simp only [List.mem_singleton] at hq'
    subst hq'
    apply hq
    · simp only [List.mem_singleton, forall_eq]; decide +kernel
    · simp only [List.mem_singleton, forall_eq]; decide +kernel
  · rw [hp]
    apply hq
    · simp only [List.mem_singleton, forall_eq]; decide +kernel
    · simp only [List.mem_singleton, forall_eq]; decide +kernel

/-- a concrete 4-call history evaluated: `create_dir sub`, `create_file "sub/Hello World.txt"`, a move to the root
    found under another case, `remove sub` (now empty) — all succeed, the final tree is `/moved.txt` -/
def ops4 : List (Spec.Op × List Nat) :=
  [(.createDir [] "sub", stamp0), (.createFile [] "sub/Hello World.txt", stamp0),
   (.rename [] "sub/hello world.TXT" [] "moved.txt", stamp0), (.remove [] "sub", stamp0)]

example : ((runSlot up0 20 (.dir [] []) ops4).1.map fun r => r.out) = [.ok [], .ok [], .ok [], .ok []] ∧
    ((abs (runSlot up0 20 (.dir [] []) ops4).2).children.map fun x => (x.1, x.2.isDir)) = [("moved.txt", false)] := by
  decide +kernel

/-- error kinds on the same tree: a directory into its own subtree, a non-empty directory, `..` as a target, a file
    used as a directory, an invalid new name (nothing changes) -/
example : ((runSlot up0 20 root0
      [(.rename [] "sub" ["sub"] "inner", stamp0), (.remove [] "sub", stamp0), (.remove ["sub"] "..", stamp0),
       (.openDir [] "sub/Hello World.txt/x", stamp0), (.rename [] "sub" [] "a:b", stamp0),
       (.createDir ["sub"] ".", stamp0), (.createDir [] ".", stamp0), (.openFile [] "sub/HELLOW~1.TXT", stamp0)]).1.map
      fun r => r.out) =
    [.error .invalidInput, .error .dirNotEmpty, .error .invalidInput, .error .invalidInput, .error .nameChar,
     .ok [], .error .invalidInput, .ok []] := by
  decide +kernel

end Ex

/-! ## the same with the name invariant factored out of the hypotheses on a call

`OpOk` asks of every path component `q`: "whatever answers to `q` answers by its name, and `q` is then an ordinary
valid name".  The second half follows from an invariant (`TNamesOk (abs t)`: all stored names are valid and not dot
names — true of the empty volume, preserved by every call) and a hypothesis on the case folding (`UpperSafe`, proved
for the ASCII build: `upperSafe_ascii`).  What remains as hypothesis on the call (`OpOkA`) is: the handle is live,
`SplitAgree`, and NO COMPONENT ANSWERS TO AN 8.3 ALIAS ONLY (`NoAliasHit`) — the one place where the library is not the
plain tree of the specification. -/

def PathOkA (up : Char → List Char) (t : Node) (path : String) : Prop :=
  SplitAgree path ∧ (∀ q ∈ (pathParts path).1, NoAliasHit up t q) ∧ NoAliasHit up t (pathParts path).2

def OpOkA (up : Char → List Char) (t : Node) : Spec.Op → Prop
  | .createFile cwd p => CwdOk up t cwd ∧ PathOkA up t p
  | .createDir cwd p => CwdOk up t cwd ∧ PathOkA up t p
  | .openFile cwd p => CwdOk up t cwd ∧ PathOkA up t p
  | .openDir cwd p => CwdOk up t cwd ∧ PathOkA up t p
  | .list cwd => CwdOk up t cwd
  | .remove cwd p => CwdOk up t cwd ∧ PathOkA up t p
  | .rename cwd s d p => CwdOk up t cwd ∧ PathOkA up t s ∧ CwdOk up t d ∧ PathOkA up t p

theorem pathOk_of (up : Char → List Char) (hup : UpperSafe up) (t : Node) (hwf : TreeWf up t)
    (hn : TNamesOk (abs t)) (path : String) (h : PathOkA up t path) : PathOk up t path :=
  ⟨h.1, fun q hq => qall_of up hup t hwf hn q (h.2.1 q hq), qall_of up hup t hwf hn _ h.2.2⟩

theorem opOk_of (up : Char → List Char) (hup : UpperSafe up) (t : Node) (hwf : TreeWf up t)
    (hn : TNamesOk (abs t)) (op : Spec.Op) (h : OpOkA up t op) : OpOk up t op := by
  cases op with
  | createFile cwd p => exact ⟨h.1, pathOk_of up hup t hwf hn p h.2⟩
  | createDir cwd p => exact ⟨h.1, pathOk_of up hup t hwf hn p h.2⟩
  | openFile cwd p => exact ⟨h.1, pathOk_of up hup t hwf hn p h.2⟩
  | openDir cwd p => exact ⟨h.1, pathOk_of up hup t hwf hn p h.2⟩
  | list cwd => exact h
  | remove cwd p => exact ⟨h.1, pathOk_of up hup t hwf hn p h.2⟩
  | rename cwd s d p =>
    exact ⟨h.1, pathOk_of up hup t hwf hn s h.2.1, h.2.2.1, pathOk_of up hup t hwf hn p h.2.2.2⟩

/-- **one call, invariant form**: `slot_step_refines` under `OpOkA`, and the name invariant holds again -/
theorem slot_step_refines_inv (u : Char → List Char) (hup : UpperSafe (upOf u)) (fuel : Nat) (t : Node)
    (hwf : TreeWf (upOf u) t) (hn : TNamesOk (abs t)) (op : Spec.Op) (stamp : List Nat)
    (hok : OpOkA (upOf u) t op) :
    TreeWf (upOf u) (stepSlot (upOf u) fuel t op stamp).tree ∧
    TNamesOk (abs (stepSlot (upOf u) fuel t op stamp).tree) ∧
    (∀ e, (stepSlot (upOf u) fuel t op stamp).out = .error e → (stepSlot (upOf u) fuel t op stamp).tree = t) ∧
    Accepts (Spec.evalOp (cfgOf u) (abs t) op) (stepSlot (upOf u) fuel t op stamp) := by
  obtain ⟨h1, h2, h3⟩ := slot_step_refines_names u fuel t hwf op stamp (opOk_of _ hup t hwf hn op hok)
  exact ⟨h1, h2 hn, stepSlot_err_tree _ _ _ _ _, h3⟩

def RunOkA (up : Char → List Char) (fuel : Nat) : Node → List (Spec.Op × List Nat) → Prop
  | _, [] => True
  | t, (op, stamp) :: rest => OpOkA up t op ∧ RunOkA up fuel (stepSlot up fuel t op stamp).tree rest

/-- **C01.6 `slot_tree_refines_spec`, invariant form**: from a well-formed slot tree whose stored names are ordinary
    valid names (e.g. the empty volume), for every finite history in which the handles are live, the path strings
    split alike and no path component answers to an 8.3 alias only: the specification's checker accepts every outcome
    in turn and ends in the abstraction of the final slot tree; well-formedness and the name invariant hold again. -/
theorem slot_tree_refines_spec_inv (u : Char → List Char) (hup : UpperSafe (upOf u)) (fuel : Nat) :
    ∀ (ops : List (Spec.Op × List Nat)) (t : Node), TreeWf (upOf u) t → TNamesOk (abs t) →
    RunOkA (upOf u) fuel t ops →
    (∀ r ∈ (runSlot (upOf u) fuel t ops).1, r.out ≠ .error .hang) →
    TreeWf (upOf u) (runSlot (upOf u) fuel t ops).2 ∧ TNamesOk (abs (runSlot (upOf u) fuel t ops).2) ∧
    specRun (cfgOf u) (abs t) (observed (upOf u) fuel t ops) = .ok (abs (runSlot (upOf u) fuel t ops).2)
  | [], t, hwf, hn, _, _ => ⟨hwf, hn, rfl⟩
  | (op, stamp) :: rest, t, hwf, hn, hrun, hnh => by
    obtain ⟨hok, hrest⟩ := hrun
    have hok' := opOk_of _ hup t hwf hn op hok
    have hstep := slot_step_spec_step u fuel t hwf op stamp hok' (hnh _ (by simp [runSlot]))
    obtain ⟨hwf', hn', _, _⟩ := slot_step_refines_inv u hup fuel t hwf hn op stamp hok
    obtain ⟨i1, i2, i3⟩ := slot_tree_refines_spec_inv u hup fuel rest _ hwf' hn' hrest
      (fun r hr => hnh r (by simp only [runSlot, List.mem_cons]; exact Or.inr hr))
    refine ⟨i1, i2, ?_⟩
    simp only [observed, specRun, hstep, runSlot]
    exact i3

/-- the empty volume satisfies both invariants; the ASCII folding satisfies both hypotheses on the folding -/
example : TreeWf (upOf Names.upperAscii) (.dir [] []) ∧ TNamesOk (abs (.dir [] [])) ∧
    UpperSafe (upOf Names.upperAscii) ∧ UpperFixes (upOf Names.upperAscii) :=
  ⟨treeWf_fresh _ true, by simp [abs, absCh, TNamesOk, tChOk], upperSafe_ascii, upOf_ascii_fixes⟩

/-- why alias-freeness cannot be dropped: in the directory `sub` of `Ex.root0` the query `HELLOW~1.TXT` finds the
    entry `Hello World.txt` in the slots (the library opens the file), the specification's lookup among the names
    finds nothing (`NotFound`) -/
theorem alias_query_counterexample :
    (lookupS (upOf Names.upperAscii) (writeEntry [] (Names.encodeUtf16 "Hello World.txt".toList) Ex.sfnHello)
      [(newEntry [] (Names.encodeUtf16 "Hello World.txt".toList) Ex.sfnHello, Node.file [])] "HELLOW~1.TXT").isSome = true ∧
    (Spec.findEntry (cfgOf Names.upperAscii) (abs Ex.sub0) "HELLOW~1.TXT").isNone = true ∧
    (Spec.findEntry (cfgOf Names.upperAscii) (abs Ex.sub0) "hello world.TXT").isSome = true := by
  decide +kernel

/-! ## `SplitAgree` on samples (evaluation, not proof) -/

def splitAgreeB (path : String) : Bool :=
  ((pathParts path).2 == "" && (pathParts path).1.isEmpty && (Spec.splitPath path).isEmpty) ||
  ((pathParts path).2 != "" && Spec.splitPath path == (pathParts path).1 ++ [(pathParts path).2])

#guard ["", "/", "//", "a", "/a", "a/", "a/b", "a//b", "/a/b/", "a/./b", "../x", "sub/Hello World.txt", "a/b/c/d/e",
  "//a///b//", "ä/ö", ".", "..", "a/ /b"].all splitAgreeB

end C01tree
end FatVerif
