import FatVerif.Proofs.LfnGen
import FatVerif.Proofs.LfnUtf16
/-!
# C15 (long-name part) — generator ∘ reader round trip, shape of generated runs (C03.4), UTF-16
-/
namespace FatVerif
open Lfn

namespace C15
/-- "FFFF    TXT" with attribute 0x20 -/
def sfn : List Nat := [70, 70, 70, 70, 32, 32, 32, 32, 84, 88, 84] ++ 0x20 :: List.replicate 20 0
end C15

/-- Reading the slots `LfnEntriesGenerator` writes for 1 … 260 units without `0x0000`, followed by a short file entry
    whose checksum they carry: one entry, whose long name is the name if it has at most 255 units and empty
    otherwise — in both buffer variants. -/
theorem lfn_read_generated (alloc skipVolume : Bool) (name sfn : List Nat)
    (h1 : 1 ≤ name.length) (h260 : name.length ≤ 260) (hu : ∀ x ∈ name, x < 65536)
    (hnz : ∀ x ∈ name, x ≠ 0) (hsfn : slotClass sfn = .file) :
    readDirEntries alloc skipVolume (lfnGenerate name (lfnChecksum (sfnName sfn)) ++ [sfn]) =
      [⟨sfn, capName name, 0, numParts name.length + 1⟩] := by
  obtain ⟨g1, g2, g3, g4⟩ := generate_complete name (lfnChecksum (sfnName sfn)) h1 h260 hu
  rw [read_complete_run alloc skipVolume _ sfn g1 g3 hsfn, g2, g4, cutAtNul_padded _ hnz]

/-- **C15.3** For EVERY name of 1 … 255 UTF-16 units none of which is `0x0000`, reading the slots
    `LfnEntriesGenerator` writes, followed by a short file entry whose checksum they carry, returns exactly one entry
    with exactly those units — in both buffer variants.  No condition on the last unit: a trailing U+FFFF survives,
    also when the length is a multiple of 13 (no terminator slot). -/
theorem lfn_roundtrip (alloc skipVolume : Bool) (name sfn : List Nat)
    (h1 : 1 ≤ name.length) (h255 : name.length ≤ 255) (hu : ∀ x ∈ name, x < 65536)
    (hnz : ∀ x ∈ name, x ≠ 0) (hsfn : slotClass sfn = .file) :
    readDirEntries alloc skipVolume (lfnGenerate name (lfnChecksum (sfnName sfn)) ++ [sfn]) =
      [⟨sfn, name, 0, numParts name.length + 1⟩] := by
  rw [lfn_read_generated alloc skipVolume name sfn h1 (by omega) hu hnz hsfn, capName, if_neg (by omega)]

/-- What the reader does with a 20-slot run holding 256 … 260 units (the library never writes one: names are validated
    to at most 255 bytes first): the entry gets NO long name, i.e. it falls back to the short name — both variants. -/
theorem lfn_overlong_falls_back (alloc skipVolume : Bool) (name sfn : List Nat)
    (h256 : 256 ≤ name.length) (h260 : name.length ≤ 260) (hu : ∀ x ∈ name, x < 65536)
    (hnz : ∀ x ∈ name, x ≠ 0) (hsfn : slotClass sfn = .file) :
    readDirEntries alloc skipVolume (lfnGenerate name (lfnChecksum (sfnName sfn)) ++ [sfn]) =
      [⟨sfn, [], 0, 21⟩] := by
  rw [lfn_read_generated alloc skipVolume name sfn (by omega) h260 hu hnz hsfn, capName, if_pos (by omega),
    show numParts name.length = 20 by unfold numParts; omega]

example : readDirEntries false true (lfnGenerate [0x61, 0x62, 0x4E2D] (lfnChecksum (sfnName C15.sfn)) ++ [C15.sfn]) =
    [⟨C15.sfn, [0x61, 0x62, 0x4E2D], 0, 2⟩] :=
  lfn_roundtrip false true _ _ (by simp) (by simp) (by decide) (by decide) (by decide)

/-- regression (former F12 witness): the name `"a\u{FFFF}"` reads back unit for unit (before commit 712f847 it read
    back as `"a"`), and so does a 13-unit name ending in U+FFFF, which has no terminator slot — both variants -/
theorem trailing_ffff_regression :
    (∀ alloc, readDirEntries alloc true (lfnGenerate [0x61, 0xFFFF] (lfnChecksum (sfnName C15.sfn)) ++ [C15.sfn]) =
      [⟨C15.sfn, [0x61, 0xFFFF], 0, 2⟩]) ∧
    (∀ alloc, readDirEntries alloc true
        (lfnGenerate (List.replicate 12 0x61 ++ [0xFFFF]) (lfnChecksum (sfnName C15.sfn)) ++ [C15.sfn]) =
      [⟨C15.sfn, List.replicate 12 0x61 ++ [0xFFFF], 0, 2⟩]) := by
  decide +kernel

/-- **C03.4** The slots produced for 1 … 255 units: `n = ⌈len/13⌉` slots of 32 bytes; slot `i` carries
    order `n − i` (first: `| 0x40`), attribute `0x0F`, type 0, the checksum, first-cluster 0 and 13 units; in name
    order the units are the name, then a single `0x0000` and `0xFFFF` padding iff `len` is not a multiple of 13;
    they form a complete run in the sense of the reader (`CompleteRun`) and of the specification's backward scan. -/
theorem lfn_run_wf (name : List Nat) (chk : Nat) (h1 : 1 ≤ name.length) (h255 : name.length ≤ 255)
    (hu : ∀ x ∈ name, x < 65536) :
    (lfnGenerate name chk).length = numParts name.length ∧
    (∀ i, i < numParts name.length →
      ∃ s, (lfnGenerate name chk)[i]? = some s ∧ s.length = 32 ∧
        Lfn.order s = (numParts name.length - i) + (if i = 0 then 0x40 else 0) ∧
        Lfn.byte s 11 = 0x0F ∧ Lfn.byte s 12 = 0 ∧ Lfn.chk s = chk ∧ Lfn.unitAt s 26 = 0 ∧
        Lfn.units s = part name (numParts name.length - 1 - i)) ∧
    runUnits (lfnGenerate name chk) = name ++ padTail name.length ∧
    (padTail name.length = if name.length % 13 = 0 then []
      else 0 :: List.replicate (13 * numParts name.length - name.length - 1) 0xFFFF) ∧
    CompleteRun chk (lfnGenerate name chk) ∧
    DirSpec.specRun chk (lfnGenerate name chk).reverse 1 [] = some (name ++ padTail name.length) := by
  obtain ⟨g1, g2, g3, g4⟩ := generate_complete name chk h1 (by omega) hu
  have hn : 1 ≤ numParts name.length ∧ numParts name.length ≤ 20 := by unfold numParts; omega
  refine ⟨g4, ?_, g2, ?_, g1, ?_⟩
  · intro i hi
    refine ⟨_, genFrom_getElem? name chk _ _ i hi, by simp, ?_, by simp [byte, lfnSlotBytes],
      byte12_slotBytes _ _ _, by simp, cluster_slotBytes _ _ _,
      units_slotBytes _ _ _ (part_length name _) (part_lt name hu _)⟩
    rw [order_slotBytes]
    by_cases h0 : i = 0
    · rw [if_pos h0, h0, Nat.sub_zero, orderByte_first _ (by omega)]
    · rw [if_neg h0, orderByte_mid _ _ (by omega) (by omega), Nat.add_zero]
  · unfold padTail numParts
    split <;> split <;> first | rfl | omega
  · have := specRun_complete chk _ [] g1
    rw [g2] at this
    simpa using this

example : (lfnGenerate [0x61, 0x62, 0x63] 0x5A) =
    [[0x41, 0x61, 0, 0x62, 0, 0x63, 0, 0, 0, 0xFF, 0xFF, 0x0F, 0, 0x5A,
      0xFF, 0xFF, 0xFF, 0xFF, 0xFF, 0xFF, 0xFF, 0xFF, 0xFF, 0xFF, 0xFF, 0xFF, 0, 0, 0xFF, 0xFF, 0xFF, 0xFF]] := by
  decide

/-- **C15.3 (character level)** `String::from_utf16_lossy(s.encode_utf16()) = s`: decoding what `encode_utf16` produces
    gives back every scalar value, so a listing shows the created name character for character. -/
theorem utf16_roundtrip (s : List Nat) (h : ∀ c ∈ s, IsScalar c) : utf16Lossy (encodeUtf16 s) = s :=
  utf16Go_encode s h

example : utf16Lossy (encodeUtf16 [0x61, 0xE9, 0x4E2D, 0x1F600, 0x10FFFF, 0xFFFF]) =
    [0x61, 0xE9, 0x4E2D, 0x1F600, 0x10FFFF, 0xFFFF] :=
  utf16_roundtrip _ (by decide)

/-- lossy decoding of unpaired surrogates (what `file_name()` shows for malformed on-disk names) -/
example : utf16Lossy [0xD800, 0x61, 0xDC00, 0xD83D, 0xDE00, 0xDBFF] = [0xFFFD, 0x61, 0xFFFD, 0x1F600, 0xFFFD] := by
  decide

end FatVerif
