import FatVerif.Proofs.NamesValidate
import FatVerif.Proofs.NamesGen
import FatVerif.Proofs.NamesEq
/-!
# C15 — names: total validation, totality of the alias generator's constructor, case-insensitive lookup

Model: `FatVerif.Names` (transliteration of `validate_long_name`, `ShortNameGenerator::new`,
`ShortName::eq_ignore_case`, `DirEntry::eq_name_lfn`, `DirEntry::eq_name`).
Specification: `InCharset`, `String.utf8ByteSize`, `fold upper`.
-/
namespace FatVerif.C15
open FatVerif.Names

/-! ## C15.1 validation -/

/-- `validate_long_name` accepts exactly the names of 1…255 UTF-8 bytes over the documented character set;
    otherwise it reports the length error (empty or > 255 bytes) first, else the character error. -/
theorem validate_iff (s : String) :
    (validateLongName s = .ok () ↔
      1 ≤ s.utf8ByteSize ∧ s.utf8ByteSize ≤ 255 ∧ ∀ c ∈ s.toList, InCharset c) ∧
    (validateLongName s = .error .nameLen ↔ s.utf8ByteSize = 0 ∨ 255 < s.utf8ByteSize) ∧
    (validateLongName s = .error .nameChar ↔
      1 ≤ s.utf8ByteSize ∧ s.utf8ByteSize ≤ 255 ∧ ¬ ∀ c ∈ s.toList, InCharset c) := by
  unfold validateLongName
  rw [← utf8Len_toList]
  exact ⟨validateL_ok_iff _, validateL_nameLen_iff _, validateL_nameChar_iff _⟩

/-- validation is total: one of the three outcomes, nothing else (no panic, no other error) -/
theorem validate_total (s : String) :
    validateLongName s = .ok () ∨ validateLongName s = .error .nameLen ∨ validateLongName s = .error .nameChar := by
  unfold validateLongName validateLongNameL
  repeat' split
  all_goals simp

/-- wire code of the model's answer (what probe `names.validate` prints) = the specification's code, which is
    what the driver's C15 oracle compares the implementation's answer with -/
theorem validate_code_spec (s : String) :
    (match validateLongName s with | .ok _ => 0 | .error e => e.code) =
      specValidateCode s.utf8ByteSize s.toList := by
  unfold validateLongName specValidateCode
  rw [validateL_eq, utf8Len_toList]
  by_cases h : s.utf8ByteSize = 0 ∨ 255 < s.utf8ByteSize
  · rw [if_pos h, if_pos h]; rfl
  · rw [if_neg h, if_neg h]
    by_cases hc : ∀ c ∈ s.toList, InCharset c
    · rw [if_pos hc, if_pos hc]
    · rw [if_neg hc, if_neg hc]; rfl

example : validateLongName "Hello World, naïve+[1].tar.gz" = .ok () := by rfl
example : validateLongName "" = .error .nameLen := by rfl
example : validateLongName "a:b" = .error .nameChar := by rfl
example : validateLongName "a😀" = .error .nameChar := by rfl
example : InCharset 'é' ∧ ¬ InCharset '?' ∧ ¬ InCharset '\x7f' ∧ ¬ InCharset '😀' := by decide

/-! ## C15.2 (the `ShortNameGenerator::new` part) — holds since the repair of defect F5 -/

/-- `ShortNameGenerator::new` returns for every string: `name[first_char_len..]`, `name[..dot_index]` and
    `name[dot_index + 1..]` are always on character boundaries (the model keeps their panic conditions and this
    theorem shows they cannot fire), and `new` has no other failure. -/
theorem gen_new_total : ∀ s : String, ∃ g, new s = .ok g :=
  fun s => newL_total s.toList

/-- in particular for every name that passes validation -/
theorem gen_new_total_valid (s : String) (_ : validateLongName s = .ok ()) : ∃ g, new s = .ok g :=
  gen_new_total s

/-- what it computes: no dot after the first character ⇒ the whole name is the base; otherwise the name is split
    at the LAST dot that is not the first character, and the base keeps the first character whatever it is -/
theorem gen_new_spec (c : Char) (cs : List Char) :
    ('.' ∉ cs ∧ newL (c :: cs) = .ok (newParts (c :: cs) (c :: cs) none)) ∨
    (∃ pre post, cs = pre ++ '.' :: post ∧ '.' ∉ post ∧
      newL (c :: cs) = .ok (newParts (c :: cs) (c :: pre) (some post))) := by
  rcases newL_cons c cs with ⟨h1, h2⟩ | h
  · exact Or.inl ⟨rfindDot_none h1, h2⟩
  · exact Or.inr h

example : ∃ g, new "Foo.baR" = .ok g := gen_new_total _

/-- regression: the former F5 witnesses (`""`, `"é"`, `"éa"`) and other names whose first character is multi-byte
    or a dot now give a generator state -/
example : (new "").map (·.shortName) = .ok ("           ".toList.map Char.toNat) := rfl
example : (new "é").map (·.shortName) = .ok ("_          ".toList.map Char.toNat) := rfl
example : (new "éa").map (·.shortName) = .ok ("_A         ".toList.map Char.toNat) := rfl
example : (new "é.txt").map (·.shortName) = .ok ("_       TXT".toList.map Char.toNat) := rfl
example : (new "日本語.txt").map (·.shortName) = .ok ("___     TXT".toList.map Char.toNat) := rfl
example : (new ".a").map (fun g => (g.shortName, g.lossyConv)) = .ok ("A          ".toList.map Char.toNat, true) := rfl
example : (new "é").map (fun g => (g.lossyConv, g.nameFits, g.basenameLen)) = .ok (true, true, 1) := rfl

/-! ## C15.4 lookup: matches the long name or the alias ignoring case, and nothing else -/

/-- `eq_name` for an arbitrary stored unit sequence: it holds iff the units decode without an unpaired surrogate
    to a string with the same case folding as the query, or the query folds like the displayed alias.
    `upper` is arbitrary (`char::to_uppercase` or the ASCII variant). -/
theorem lookup_iff (upper : Char → List Char) (units raw : List Nat) (q : List Char) :
    eqName upper units raw q = true ↔
      (units ≠ [] ∧ ∃ long : List Char, decodeUtf16 units = long.map some ∧ fold upper q = fold upper long) ∨
      fold upper q = fold upper (aliasDisplay raw) := by
  unfold eqName
  rw [Bool.or_eq_true, eqNameLfn_iff, eqIgnoreCase_iff]

/-- for an entry written for the name `long` (its units are `long.encode_utf16()`) -/
theorem lookup_stored_iff (upper : Char → List Char) {long : List Char} (hl : long ≠ []) (raw : List Nat)
    (q : List Char) :
    eqName upper (encodeUtf16 long) raw q = true ↔
      fold upper q = fold upper long ∨ fold upper q = fold upper (aliasDisplay raw) := by
  unfold eqName
  rw [Bool.or_eq_true, eqNameLfn_encode upper hl, eqIgnoreCase_iff]

/-- reflexive: an entry is found under its own long name and under its own alias -/
theorem lookup_refl (upper : Char → List Char) {long : List Char} (hl : long ≠ []) (raw : List Nat) :
    eqName upper (encodeUtf16 long) raw long = true ∧ eqName upper (encodeUtf16 long) raw (aliasDisplay raw) = true :=
  ⟨(lookup_stored_iff upper hl raw long).2 (Or.inl rfl), (lookup_stored_iff upper hl raw _).2 (Or.inr rfl)⟩

/-- the answer depends on the query only through its case folding -/
theorem lookup_congr (upper : Char → List Char) (units raw : List Nat) {q q' : List Char}
    (h : fold upper q = fold upper q') : eqName upper units raw q = eqName upper units raw q' := by
  unfold eqName eqNameLfn eqIgnoreCase
  rw [h]

/-- symmetric: `b` finds the entry named `a` by long name iff `a` finds the entry named `b` -/
theorem lookup_symm (upper : Char → List Char) {a b : List Char} (ha : a ≠ []) (hb : b ≠ []) :
    eqNameLfn upper (encodeUtf16 a) b = eqNameLfn upper (encodeUtf16 b) a := by
  rw [Bool.eq_iff_iff, eqNameLfn_encode upper ha, eqNameLfn_encode upper hb]
  exact eq_comm

/-- transitive -/
theorem lookup_trans (upper : Char → List Char) {a b c : List Char} (ha : a ≠ []) (hb : b ≠ [])
    (h1 : eqNameLfn upper (encodeUtf16 a) b = true) (h2 : eqNameLfn upper (encodeUtf16 b) c = true) :
    eqNameLfn upper (encodeUtf16 a) c = true := by
  rw [eqNameLfn_encode upper ha] at h1 ⊢
  rw [eqNameLfn_encode upper hb] at h2
  exact h2.trans h1

/-- a stored name with an unpaired surrogate is never matched by long name -/
theorem lookup_unpaired (upper : Char → List Char) (units : List Nat) (q : List Char)
    (h : none ∈ decodeUtf16 units) : eqNameLfn upper units q = false := by
  cases hv : eqNameLfn upper units q with
  | false => rfl
  | true =>
    obtain ⟨_, cs, h1, _⟩ := (eqNameLfn_iff upper units q).1 hv
    rw [h1] at h
    simp at h

/-- no long name ⇒ only the alias can match -/
theorem lookup_no_long (upper : Char → List Char) (raw : List Nat) (q : List Char) :
    eqName upper [] raw q = true ↔ fold upper q = fold upper (aliasDisplay raw) := by
  rw [lookup_iff]; simp

example : eqName upperAscii (encodeUtf16 "ReadMe.Text".toList) ("README~1TEX".toList.map Char.toNat)
    "README.text".toList = true := by decide +kernel
example : eqName upperAscii (encodeUtf16 "ReadMe.Text".toList) ("README~1TEX".toList.map Char.toNat)
    "readme~1.tex".toList = true := by decide +kernel
example : eqName upperAscii (encodeUtf16 "ReadMe.Text".toList) ("README~1TEX".toList.map Char.toNat)
    "readme.tex".toList = false := by decide +kernel
example : none ∈ decodeUtf16 [0x61, 0xD800, 0x62] := by decide

end FatVerif.C15
