import FatVerif.Proofs.FileSimSess
/-!
# C02 at the level of the history driver: the file operations of `Session.step` on any number of open files

`SessInv s`: the session is alive and its table of open file handles satisfies `MultiInv` on its device (every handle
`FullInv`; chains pairwise disjoint; no slot is a position any handle may write; slots pairwise disjoint).
`session_file_step`: one of `read` / `readx` / `write` / `writeall` / `seek` / `truncate` / `flush` on an open handle is
exactly the step `execN` of `Props/C02multi.lean` (result token, device, handle table), the session stays alive and
`SessInv` holds again.  `session_files_refine_bytefiles`: a whole script of such operations on ANY number of open
files behaves as independent byte arrays with a cursor.
-/
namespace FatVerif.FileSim
open FatVerif FatVerif.Fat

/-- the handle table of a session as a function -/
def sessFiles (s : Session) : Nat → Option FileH := fun i => s.files[i]?

structure SessInv (s : Session) : Prop where
  alive : s.dead = false
  multi : MultiInv (sessFiles s) s.dev

/-- ONE covered file operation of the history driver on an open handle -/
theorem session_file_step (s : Session) (hs : SessInv s) (op : ApiOp) (i : Nat) (eop : EOp)
    (hop : fileOpOf op = some (i, eop)) (hi : (sessFiles s i).isSome = true) (hok : eop.BytesOk) :
    (s.step op).2 = apiOfRes (execN i eop (sessFiles s) s.dev).1 ∧
    sessFiles (s.step op).1 = (execN i eop (sessFiles s) s.dev).2.1 ∧
    (s.step op).1.dev = (execN i eop (sessFiles s) s.dev).2.2 ∧
    SessInv (s.step op).1 := by
  obtain ⟨h, hf⟩ := Option.isSome_iff_exists.mp hi
  have hf' : s.files[i]? = some h := hf
  have hout := session_step_out s hs.alive op i eop hop h hf'
  obtain ⟨hM', _, _, hchk⟩ := execN_refines i eop (sessFiles s) s.dev hs.multi hi hok
  have hex : execN i eop (sessFiles s) s.dev =
      ((execE eop h s.dev).1, updF (sessFiles s) i (execE eop h s.dev).2.1, (execE eop h s.dev).2.2) := by
    unfold execN; rw [hf]
  rw [hex] at hM' hchk ⊢
  have hfiles : sessFiles (s.step op).1 = updF (sessFiles s) i (execE eop h s.dev).2.1 := by
    funext j
    show (s.step op).1.files[j]? = _
    rw [hout.files j]
    rfl
  have hnf : resFatal (execE eop h s.dev).1 = false := by
    have hB : absN (sessFiles s) s.dev i = some (absFile s.dev.fs s.dev.img h).abs := by
      unfold absN; rw [hf]; rfl
    unfold checkN at hchk
    rw [hB] at hchk
    simp only at hchk
    cases hc : Cursor.ByteFile.check s.dev.fs.clusterSize eop.toOp (execE eop h s.dev).1
        (absFile s.dev.fs s.dev.img h).abs with
    | ok b' => exact check_ok_not_fatal hc
    | error e => rw [hc] at hchk; cases hchk
  refine ⟨hout.res, hfiles, hout.dev, ⟨by rw [hout.dead, hnf], ?_⟩⟩
  rw [hfiles, hout.dev]
  exact hM'

/-- a script -/
def sessRun : List ApiOp → Session → Session × List ApiRes
  | [], s => (s, [])
  | op :: ops, s =>
    let r := s.step op
    let rest := sessRun ops r.1
    (rest.1, r.2 :: rest.2)

/-- every operation of the script is a covered file operation on an open handle, with a buffer of bytes -/
def ScriptOk (ops : List ApiOp) (s : Session) : Prop :=
  ∀ op ∈ ops, ∃ i e, fileOpOf op = some (i, e) ∧ (sessFiles s i).isSome = true ∧ e.BytesOk

theorem scriptOk_filterMap {ops : List ApiOp} {s : Session} (h : ScriptOk ops s) :
    OpsOkN (ops.filterMap fileOpOf) (sessFiles s) := by
  intro x hx
  obtain ⟨op, hop, hfx⟩ := List.mem_filterMap.mp hx
  obtain ⟨i, e, h1, h2, h3⟩ := h op hop
  rw [h1] at hfx
  cases hfx
  exact ⟨h2, h3⟩

/-- conversely, for a script made of covered file operations only -/
theorem scriptOk_of_filterMap {ops : List ApiOp} {s : Session} (hall : ∀ op ∈ ops, (fileOpOf op).isSome = true)
    (h : OpsOkN (ops.filterMap fileOpOf) (sessFiles s)) : ScriptOk ops s := by
  intro op hop
  obtain ⟨⟨i, e⟩, hie⟩ := Option.isSome_iff_exists.mp (hall op hop)
  obtain ⟨h1, h2⟩ := h (i, e) (List.mem_filterMap.mpr ⟨op, hop, hie⟩)
  exact ⟨i, e, hie, h1, h2⟩

/-- the script of the session is the history `runN` on the handle table -/
theorem sessRun_eq_runN : ∀ (ops : List ApiOp) (s : Session), SessInv s → ScriptOk ops s →
    (sessRun ops s).2 = (runN (ops.filterMap fileOpOf) (sessFiles s) s.dev).1.map apiOfRes ∧
    sessFiles (sessRun ops s).1 = (runN (ops.filterMap fileOpOf) (sessFiles s) s.dev).2.1 ∧
    (sessRun ops s).1.dev = (runN (ops.filterMap fileOpOf) (sessFiles s) s.dev).2.2 ∧
    SessInv (sessRun ops s).1
  | [], s, hs, _ => ⟨rfl, rfl, rfl, hs⟩
  | op :: ops, s, hs, hok => by
    obtain ⟨i, e, hop, hi, hb⟩ := hok op (List.mem_cons_self ..)
    obtain ⟨h1, h2, h3, h4⟩ := session_file_step s hs op i e hop hi hb
    obtain ⟨_, _, hsome, _⟩ := execN_refines i e (sessFiles s) s.dev hs.multi hi hb
    have hok' : ScriptOk ops (s.step op).1 := by
      intro op' hop'
      obtain ⟨i', e', a, b, c⟩ := hok op' (List.mem_cons_of_mem _ hop')
      exact ⟨i', e', a, by rw [h2, hsome]; exact b, c⟩
    obtain ⟨r1, r2, r3, r4⟩ := sessRun_eq_runN ops (s.step op).1 h4 hok'
    have hfm : (op :: ops).filterMap fileOpOf = (i, e) :: ops.filterMap fileOpOf := by
      rw [List.filterMap_cons, hop]
    rw [hfm]
    simp only [sessRun, runN, List.map]
    rw [h2, h3] at r1 r2 r3
    exact ⟨by rw [h1, r1], r2, r3, r4⟩

/-- **`session_files_refine_bytefiles`.**  A live session whose open file handles are on distinct files of the
    volume (`SessInv`), any script of `read` / `readx` / `write` / `writeall` / `seek` / `truncate` / `flush` on ANY of
    the open handles, in any interleaving: there are observable results `results` — one per operation — such that the
    tokens the history driver prints are `results.map apiOfRes`, the byte-array specification accepts them with one
    independent `ByteFile` per handle (`checkRunN`; a step moves only the byte array of the handle it addresses), no
    operation panics or hangs (the session stays alive) and `SessInv` holds again. -/
theorem session_files_refine_bytefiles (ops : List ApiOp) (s : Session) (hs : SessInv s) (hok : ScriptOk ops s) :
    ∃ results : List Cursor.FileRes,
      (sessRun ops s).2 = results.map apiOfRes ∧ SessInv (sessRun ops s).1 ∧
      checkRunN s.dev.fs.clusterSize ((ops.filterMap fileOpOf).map fun x => (x.1, x.2.toOp)) results
        (absN (sessFiles s) s.dev) = .ok (absN (sessFiles (sessRun ops s).1) (sessRun ops s).1.dev) := by
  obtain ⟨r1, r2, r3, r4⟩ := sessRun_eq_runN ops s hs hok
  obtain ⟨_, _, hchk⟩ := files_refine_bytefiles (ops.filterMap fileOpOf) (sessFiles s) s.dev hs.multi
    (scriptOk_filterMap hok)
  exact ⟨_, r1, r4, by rw [r2, r3]; exact hchk⟩

end FatVerif.FileSim

/-! ## the statement is not vacuous: a session with the two open files of `Props/C02multi.lean` -/

namespace FatVerif.FileSim.ExS
open FatVerif FatVerif.Fat FatVerif.FileSim FatVerif.FileSim.Ex FatVerif.FileSim.Ex14 FatVerif.FileSim.Ex11
  FatVerif.FileSim.ExN

/-- a mounted session on the two-file volume with both files open: handle 1 and handle 2 -/
def s17 : Session :=
  { dev := dev17, env := ⟨fun c => [c]⟩, mounted := true,
    files := ((∅ : Std.HashMap Nat FileH).insert 1 file14).insert 2 fileG }

theorem sessFiles17 : sessFiles s17 = F17 := by
  funext i
  show (((∅ : Std.HashMap Nat FileH).insert 1 file14).insert 2 fileG)[i]? = F17 i
  rw [Std.HashMap.getElem?_insert, Std.HashMap.getElem?_insert]
  unfold F17
  by_cases h2 : i = 2
  · subst h2; rfl
  · have e2 : (2 == i) = false := by simp; exact fun e => h2 e.symm
    rw [e2]
    by_cases h1 : i = 1
    · subst h1; rfl
    · have e1 : (1 == i) = false := by simp; exact fun e => h1 e.symm
      rw [e1, if_neg h1, if_neg h2]
      simp

theorem sessInv17 : SessInv s17 := ⟨rfl, by rw [sessFiles17]; exact multi17⟩

/-- the script of `ExN.opsN`, as the history driver receives it -/
def script17 : List ApiOp :=
  [.seek 1 .start 1020, .readx 2 3, .writeall 1 [1, 2, 3, 4, 5, 6], .flush 1, .seek 2 .start 1, .write 2 [7], .flush 2,
   .seek 2 .start 0, .read 2 4]

theorem script17_ops : script17.filterMap fileOpOf = opsN := rfl

theorem scriptOk17 : ScriptOk script17 s17 :=
  scriptOk_of_filterMap (by decide) (by rw [script17_ops, sessFiles17]; exact opsOkN)

/-- `session_files_refine_bytefiles` applied: the tokens printed are those of the results `ExN.runN17` evaluates, and
    the specification accepts them -/
theorem sessSpec17 :
    (sessRun script17 s17).2 =
      [ApiRes.ok ["1020"], .ok [Util.hexOfBytes [41, 42, 43]], .ok [], .ok [], .ok ["1"], .ok ["1"], .ok [], .ok ["0"],
       .ok [Util.hexOfBytes [41, 7, 43, 0]]] ∧
    SessInv (sessRun script17 s17).1 := by
  obtain ⟨r1, _, _, r4⟩ := sessRun_eq_runN script17 s17 sessInv17 scriptOk17
  refine ⟨?_, r4⟩
  rw [r1, script17_ops, sessFiles17]
  show (runN opsN F17 dev17).1.map apiOfRes = _
  rw [runN17.1]
  rfl

end FatVerif.FileSim.ExS
