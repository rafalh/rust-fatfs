import FatVerif.Props.C07run
import FatVerif.Model.File
/-! # C20 / C11.1 on the mounted state the mount PROGRAM produces

`offsetFromClusterP` (Model/File.lean), `fatSliceOf`, `rootSliceOf` (Model/Slice.lean) are the offset computations the
effectful model performs on the `FsState` installed by `mount`. For the state produced by a successful run of the mount
program they never panic and agree with the pure, checked computations of Model/Bpb.lean (`offsetFromCluster`,
`fatSlice`, `rootDirSlice`), whose bounds were proved in Props/C07.lean. -/
namespace FatVerif.C20run
open C07run

/-- the mounted states a successful mount can install: `mountedFs` of an accepted boot sector -/
def Accepted (fs : FsState) : Prop :=
  ∃ (bs : List Nat) (strict accDate lfnAlloc unicode : Bool) (g : Geometry) (fi : FsInfo),
    IsSector bs ∧ probe bs strict = .ok g ∧
    fs = mountedFs strict accDate lfnAlloc unicode ⟨(BootSector.deserialize bs).bpb, g, fi⟩

/-- a successful run of the mount program installs an `Accepted` state -/
theorem mount_run_accepted (strict accDate lfnAlloc unicode : Bool) {d : Dev} (hd : Mountable d)
    {fs : FsState} {d' : Dev} (hrun : run (mount strict accDate lfnAlloc unicode) d = (.ok fs, d')) :
    Accepted fs ∧ d'.fs = fs := by
  obtain ⟨fi, _, hp, hfs, hfs'⟩ := mount_run_ok strict accDate lfnAlloc unicode d hd.pos hd.noFault hd.size hrun
  exact ⟨⟨d.img.read 0 512, strict, accDate, lfnAlloc, unicode, _, fi, isSector_read _ _, hp, hfs⟩, hfs'⟩

/-- what `Accepted` gives: the validated BPB behind the state -/
theorem Accepted.bpb {fs : FsState} (h : Accepted fs) :
    ∃ p : Bpb, p.InRange ∧ p.Valid ∧ fs.bps = p.bytesPerSector ∧ fs.spc = p.sectorsPerCluster ∧
      fs.reserved = p.reservedSectors ∧ fs.fats = p.fats ∧ fs.spf = p.sectorsPerFat ∧
      fs.firstDataSector = p.fdsNat ∧ fs.rootDirSectors = p.rdsNat ∧ fs.totalClusters = p.tcNat ∧
      fs.totalSectors = p.totalSectors ∧ fs.mirroring = p.mirroringEnabled ∧ fs.activeFat = p.activeFat ∧
      fs.fatType = FatType.fromClusters p.tcNat := by
  obtain ⟨bs, strict, accDate, lfnAlloc, unicode, g, fi, hb, hp, rfl⟩ := h
  obtain ⟨hv, rfl⟩ := probe_ok hb hp
  exact ⟨Bpb.deserialize bs, Bpb.deserialize_inRange hb, hv, rfl, rfl, rfl, rfl, rfl, rfl, rfl, rfl, rfl, rfl, rfl,
    rfl⟩

/-- **`offsetFromClusterP_ok`**: for a data cluster `c` of a mounted volume, the `u32`-checked `offset_from_cluster`
    of the effectful model does not panic; the offset is exact; the whole cluster lies between the first data sector
    and the declared end of the volume, which is below 2^44 -/
theorem offsetFromClusterP_ok {fs : FsState} (h : Accepted fs) {c : Nat} (hc2 : 2 ≤ c)
    (hc : c < fs.totalClusters + 2) :
    offsetFromClusterP fs c = pure ((fs.firstDataSector + (c - 2) * fs.spc) * fs.bps) ∧
    fs.firstDataSector * fs.bps ≤ (fs.firstDataSector + (c - 2) * fs.spc) * fs.bps ∧
    (fs.firstDataSector + (c - 2) * fs.spc) * fs.bps + fs.clusterSize ≤ fs.totalSectors * fs.bps ∧
    fs.totalSectors * fs.bps < 2 ^ 44 := by
  obtain ⟨p, hr, hv, e1, e2, _, _, _, e6, _, e8, e9, _, _, _⟩ := h.bpb
  rw [e8] at hc
  obtain ⟨hfds, hts, _, hb, hs, _⟩ := hv.nums hr
  obtain ⟨b1, b2, b3, b4⟩ := offset_bounds (fds := p.fdsNat) hs hb hts hc2 (by unfold Bpb.tcNat at hc; exact hc)
  unfold FsState.clusterSize
  rw [e1, e2, e6, e9]
  refine ⟨?_, b2, by rw [Nat.mul_comm p.bytesPerSector]; exact b3, b4⟩
  unfold offsetFromClusterP
  rw [if_neg (by omega), e2, e6, if_neg (by omega), if_neg (by omega), e1]

/-- the same as a run: no device call, no state change -/
theorem run_offsetFromClusterP {fs : FsState} (h : Accepted fs) {c : Nat} (hc2 : 2 ≤ c)
    (hc : c < fs.totalClusters + 2) (d : Dev) :
    run (offsetFromClusterP fs c) d = (.ok ((fs.firstDataSector + (c - 2) * fs.spc) * fs.bps), d) := by
  rw [(offsetFromClusterP_ok h hc2 hc).1]; rfl

/-- … and it is the value of the pure checked `offsetFromCluster` of Model/Bpb.lean (`C07.offset_arith`) -/
theorem offsetFromClusterP_eq_pure {bs : List Nat} {strict accDate lfnAlloc unicode : Bool} {g : Geometry}
    {fi : FsInfo} (hb : IsSector bs) (hp : probe bs strict = .ok g) {c : Nat} (hc2 : 2 ≤ c)
    (hc : c < g.totalClusters + 2) :
    liftE (offsetFromCluster (Bpb.deserialize bs) g.firstDataSector c) =
      offsetFromClusterP (mountedFs strict accDate lfnAlloc unicode ⟨(BootSector.deserialize bs).bpb, g, fi⟩) c := by
  have hacc : Accepted (mountedFs strict accDate lfnAlloc unicode ⟨(BootSector.deserialize bs).bpb, g, fi⟩) :=
    ⟨bs, strict, accDate, lfnAlloc, unicode, g, fi, hb, hp, rfl⟩
  rw [(offsetFromClusterP_ok hacc hc2 hc).1]
  obtain ⟨hv, rfl⟩ := probe_ok hb hp
  show liftE (offsetFromCluster (Bpb.deserialize bs) (Bpb.deserialize bs).fdsNat c) = _
  rw [(offsetFromCluster_ok (Bpb.deserialize_inRange hb) hv hc2 hc).1]
  rfl

/-- **FAT slice**: `fatSliceOf fs` is the placement the pure `fatSlice` computes (begin, size, mirrors), it starts at or
    after the reserved area and all its mirrors end before the root directory / data area — when, with mirroring off,
    the active FAT index is below the number of FATs (not validated by the library: `C07.active_fat_counterexample`) -/
theorem fatSliceOf_placement {p : Bpb} (strict accDate lfnAlloc unicode : Bool) (fi : FsInfo) (hr : p.InRange)
    (hv : p.Valid) (hact : p.mirroringEnabled = false → p.activeFat < p.fats) (viaFs : Bool) :
    let fs := mountedFs strict accDate lfnAlloc unicode ⟨p, p.geoOf, fi⟩
    ∃ s : SlicePlace, fatSlice p = .ok s ∧
      fatSliceOf fs viaFs = { beginOff := s.sBegin, size := s.size, offset := 0, mirrors := s.mirrors, viaFs := viaFs } ∧
      fs.reserved * fs.bps ≤ s.sBegin ∧
      s.sBegin + s.mirrors * s.size ≤ (fs.reserved + fs.fats * fs.spf) * fs.bps := by
  intro fs
  obtain ⟨first, h1, h2, h3, h4⟩ := fatSlice_ok hr hv hact
  refine ⟨_, h2, ?_, Nat.mul_le_mul_right _ h3, ?_⟩
  · show fatSliceOf fs viaFs = _
    unfold fatSliceOf
    cases hm : p.mirroringEnabled with
    | true =>
      have : fs.mirroring = true := hm
      rw [if_pos this]
      simp only [fatSliceFirstSector, hm, if_true, epure_eq, Except.ok.injEq] at h1
      subst h1
      simp only [fatSliceMirrors, hm, if_true]
      rfl
    | false =>
      have : fs.mirroring = false := hm
      rw [if_neg (by rw [this]; simp)]
      have hle : p.activeFat * p.sectorsPerFat ≤ p.fats * p.sectorsPerFat :=
        Nat.mul_le_mul_right _ (Nat.le_of_lt (hact hm))
      have hfx := hv.fatsXspf
      have hfds := hv.fds
      have hts := Bpb.totalSectors_lt hr
      simp only [fatSliceFirstSector, hm, Bool.false_eq_true, if_false] at h1
      rw [u32Mul_of_lt (by omega), ebind_ok, u32Add_of_lt (by unfold Bpb.fdsNat at hfds; omega)] at h1
      cases h1
      simp only [fatSliceMirrors, hm, Bool.false_eq_true, if_false]
      rfl
  · show first * p.bytesPerSector + fatSliceMirrors p * (p.sectorsPerFat * p.bytesPerSector) ≤ _
    rw [← Nat.mul_assoc, ← Nat.add_mul]
    exact Nat.mul_le_mul_right _ h4

/-- **fixed root slice** (FAT12/16 `root_dir()`): `rootSliceOf fs` is the placement the pure `rootDirSlice` computes:
    right after the FATs, up to the first data sector -/
theorem rootSliceOf_placement {p : Bpb} (strict accDate lfnAlloc unicode : Bool) (fi : FsInfo) (hr : p.InRange)
    (hv : p.Valid) :
    let fs := mountedFs strict accDate lfnAlloc unicode ⟨p, p.geoOf, fi⟩
    ∃ s : SlicePlace, rootDirSlice p p.fdsNat p.rdsNat = .ok s ∧
      rootSliceOf fs = { beginOff := s.sBegin, size := s.size, offset := 0, mirrors := 1, viaFs := true } ∧
      s.sBegin = (fs.reserved + fs.fats * fs.spf) * fs.bps ∧
      s.sBegin + s.size = fs.firstDataSector * fs.bps := by
  intro fs
  have e : p.fdsNat - p.rdsNat = p.reservedSectors + p.fats * p.sectorsPerFat := by unfold Bpb.fdsNat; omega
  refine ⟨_, rootDirSlice_ok hr hv, ?_, rfl, ?_⟩
  · show rootSliceOf fs = _
    unfold rootSliceOf
    show DiskSlice.mk ((p.fdsNat - p.rdsNat) * p.bytesPerSector) _ _ _ _ = _
    rw [e]
    rfl
  · show (p.reservedSectors + p.fats * p.sectorsPerFat) * p.bytesPerSector + p.rdsNat * p.bytesPerSector
      = p.fdsNat * p.bytesPerSector
    rw [← Nat.add_mul]; rfl

/-! ## stated on the result of a run of the mount program -/

/-- after a successful mount, `offset_from_cluster` of every data cluster is exact, in range, and cannot panic -/
theorem mount_then_offset (strict accDate lfnAlloc unicode : Bool) {d : Dev} (hd : Mountable d)
    {fs : FsState} {d' : Dev} (hrun : run (mount strict accDate lfnAlloc unicode) d = (.ok fs, d'))
    {c : Nat} (hc2 : 2 ≤ c) (hc : c < fs.totalClusters + 2) (dl : Dev) :
    run (offsetFromClusterP fs c) dl = (.ok ((fs.firstDataSector + (c - 2) * fs.spc) * fs.bps), dl) ∧
    fs.firstDataSector * fs.bps ≤ (fs.firstDataSector + (c - 2) * fs.spc) * fs.bps ∧
    (fs.firstDataSector + (c - 2) * fs.spc) * fs.bps + fs.clusterSize ≤ fs.totalSectors * fs.bps ∧
    fs.totalSectors * fs.bps < 2 ^ 44 := by
  have hacc := (mount_run_accepted strict accDate lfnAlloc unicode hd hrun).1
  obtain ⟨_, h2, h3, h4⟩ := offsetFromClusterP_ok hacc hc2 hc
  exact ⟨run_offsetFromClusterP hacc hc2 hc dl, h2, h3, h4⟩

/-- after a successful mount, the FAT slice and the fixed root slice of the mounted state are the pure placements -/
theorem mount_then_slices (strict accDate lfnAlloc unicode : Bool) {d : Dev} (hd : Mountable d)
    {fs : FsState} {d' : Dev} (hrun : run (mount strict accDate lfnAlloc unicode) d = (.ok fs, d')) :
    (∃ s : SlicePlace, rootDirSlice (Bpb.deserialize (bootOf d)) fs.firstDataSector fs.rootDirSectors = .ok s ∧
      rootSliceOf fs = { beginOff := s.sBegin, size := s.size, offset := 0, mirrors := 1, viaFs := true } ∧
      s.sBegin = (fs.reserved + fs.fats * fs.spf) * fs.bps ∧ s.sBegin + s.size = fs.firstDataSector * fs.bps) ∧
    ((fs.mirroring = false → fs.activeFat < fs.fats) → ∀ viaFs,
      ∃ s : SlicePlace, fatSlice (Bpb.deserialize (bootOf d)) = .ok s ∧
        fatSliceOf fs viaFs =
          { beginOff := s.sBegin, size := s.size, offset := 0, mirrors := s.mirrors, viaFs := viaFs } ∧
        fs.reserved * fs.bps ≤ s.sBegin ∧
        s.sBegin + s.mirrors * s.size ≤ (fs.reserved + fs.fats * fs.spf) * fs.bps) := by
  obtain ⟨fi, hv, _, hfs, _⟩ := mount_run_ok strict accDate lfnAlloc unicode d hd.pos hd.noFault hd.size hrun
  have hb := isSector_bootOf d
  unfold bootOf at hb ⊢
  generalize d.img.read 0 512 = bs at *
  subst hfs
  have hr := Bpb.deserialize_inRange hb
  exact ⟨rootSliceOf_placement strict accDate lfnAlloc unicode fi hr hv,
    fun hact viaFs => fatSliceOf_placement strict accDate lfnAlloc unicode fi hr hv hact viaFs⟩

/-! ## satisfiability -/

open C07run.Ex C07 in
/-- the mounted state of the FAT32 example device: last data cluster 68 553 at byte offset (1080 + 68 551)·512 -/
example : ∃ fs d', run (mount true false true true) dev32 = (.ok fs, d') ∧ 68553 < fs.totalClusters + 2 ∧
    run (offsetFromClusterP fs 68553) d' = (.ok ((1080 + 68551) * 512), d') ∧
    (fatSliceOf fs).beginOff = 8 * 512 ∧ (fatSliceOf fs).size = 536 * 512 ∧ (fatSliceOf fs).mirrors = 2 := by
  obtain ⟨d', h1, _, _, _⟩ := C07run.mount_run true false true true mountable32 fsInfoInside32
  obtain ⟨m, hm, m1, m2, _⟩ := mount32
  rw [boot32, fsinfo32, hm] at h1
  have hfields : (mountedFs true false true true m).totalClusters = 68552 ∧
      (mountedFs true false true true m).firstDataSector = 1080 ∧ (mountedFs true false true true m).spc = 1 ∧
      (mountedFs true false true true m).bps = 512 ∧ (mountedFs true false true true m).mirroring = true ∧
      (mountedFs true false true true m).reserved = 8 ∧ (mountedFs true false true true m).spf = 536 ∧
      (mountedFs true false true true m).fats = 2 := by
    simp only [mountedFs, m1, m2]
    decide
  obtain ⟨f1, f2, f3, f4, f5, f6, f7, f8⟩ := hfields
  refine ⟨_, d', h1, by rw [f1]; decide, ?_, ?_, ?_, ?_⟩
  · have := (mount_then_offset true false true true mountable32 h1 (c := 68553) (by decide) (by rw [f1]; decide) d').1
    rw [f2, f3, f4] at this
    exact this
  · unfold fatSliceOf; rw [if_pos f5, f6, f4]
  · unfold fatSliceOf; rw [if_pos f5, f7, f4]
  · unfold fatSliceOf; rw [if_pos f5, f8]

end FatVerif.C20run
