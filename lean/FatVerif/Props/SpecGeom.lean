import FatVerif.Props.SpecRegions
import FatVerif.Props.C07
import FatVerif.Spec.Geometry
/-!
# The oracles' geometry = the C07 specification's geometry = the mounted model's geometry

`Spec.parseGeomF` (the geometry record every structural oracle works with: region map, chain decoder, Fsck) and
`GeoSpec.specGeometry` (the independent parse C07 is stated with) were written separately.  For every boot sector the
oracles accept they give the same FAT width, cluster size and cluster count (`oracle_geom_eq_spec`), hence — by C07
`mount_geometry` — the same as the model of `FileSystem::new` mounts (`oracle_geom_eq_mount`).  A geometry the oracles
parse also meets the side condition of the region classifier's theorems (Props/SpecRegions), which are restated for it.
-/
namespace FatVerif.Spec
open FatVerif FatVerif.GeoSpec

/-- the base fields of the oracle's geometry record, whatever the width -/
structure BaseEq (b : BpbRaw) (g : Geom) : Prop where
  bps : g.bps = b.bps
  spc : g.spc = b.spc
  reserved : g.reserved = b.reserved
  fats : g.fats = b.fats
  rootEntries : g.rootEntries = b.rootEntries
  totalSectors : g.totalSectors = (if b.totSec16 ≠ 0 then b.totSec16 else b.totSec32)
  spf : g.spf = (if b.fatSz16 ≠ 0 then b.fatSz16 else b.fatSz32)

theorem geomOfBpb_base (b : BpbRaw) : BaseEq b (geomOfBpb b) ∧
    (geomOfBpb b).fatBits =
      (if (geomOfBpb b).totalClusters < 4085 then 12 else if (geomOfBpb b).totalClusters < 65525 then 16 else 32) := by
  unfold geomOfBpb
  extract_lets spf tot g0 n
  -- the cluster count `n` depends on the base fields only, which all three branches share
  split
  · next h1 => exact ⟨⟨rfl, rfl, rfl, rfl, rfl, rfl, rfl⟩, (if_pos h1).symm⟩
  · next h1 =>
    split
    · next h2 => exact ⟨⟨rfl, rfl, rfl, rfl, rfl, rfl, rfl⟩, ((if_neg h1).trans (if_pos h2)).symm⟩
    · next h2 => exact ⟨⟨rfl, rfl, rfl, rfl, rfl, rfl, rfl⟩, ((if_neg h1).trans (if_neg h2)).symm⟩

/-- the oracle's geometry record read field by field as the C07 specification reads the boot sector -/
theorem readBpb_fields (b : List Nat) :
    let r := readBpb (fun i => b.getD i 0)
    r.bps = bytsPerSec b ∧ r.spc = secPerClus b ∧ r.reserved = rsvdSecCnt b ∧ r.fats = numFATs b ∧
    r.rootEntries = rootEntCnt b ∧ r.totSec16 = totSec16 b ∧ r.fatSz16 = fatSz16 b ∧ r.totSec32 = totSec32 b ∧
    r.fatSz32 = fatSz32 b := by
  simp only [bytsPerSec, secPerClus, rsvdSecCnt, numFATs, rootEntCnt, GeoSpec.totSec16, GeoSpec.fatSz16,
    GeoSpec.totSec32, GeoSpec.fatSz32, GeoSpec.field1, GeoSpec.field2, GeoSpec.field4]
  exact ⟨rfl, rfl, rfl, rfl, rfl, rfl, rfl, rfl, rfl⟩

/-- FAT width as a `FatType` -/
def ftOfBits (bits : Nat) : FatType := if bits = 12 then .fat12 else if bits = 16 then .fat16 else .fat32

/-- For every boot sector the oracles accept, the geometry they work with (FAT width,
    cluster size, cluster count) is `GeoSpec.specGeometry` — the independent parse that `mount_geometry` /
    `mount_run_geometry` (C07) prove equal to what the model of `FileSystem::new` mounts.  So oracle, C07 specification
    and mounted model agree on the geometry of every volume they all accept. -/
theorem oracle_geom_eq_spec (b : List Nat) (g : Geom) (h : parseGeomF (fun i => b.getD i 0) = .ok g) :
    (ftOfBits g.fatBits, g.clusterSize, g.totalClusters) = specGeometry b := by
  obtain ⟨rfl, _⟩ := parseGeomF_ok _ g h
  obtain ⟨hb, hbits⟩ := geomOfBpb_base (readBpb (fun i => b.getD i 0))
  obtain ⟨f1, f2, f3, f4, f5, f6, f7, f8, f9⟩ := readBpb_fields b
  generalize geomOfBpb (readBpb fun i => b.getD i 0) = g at hb hbits
  generalize readBpb (fun i => b.getD i 0) = r at hb f1 f2 f3 f4 f5 f6 f7 f8 f9
  have htc : g.totalClusters = countOfClusters b := by
    unfold Geom.totalClusters Geom.dataStartSector Geom.rootDirSectors countOfClusters dataSec metaSectors
      GeoSpec.rootDirSectors totSec fatSz
    rw [hb.bps, hb.spc, hb.reserved, hb.fats, hb.rootEntries, hb.totalSectors, hb.spf, f1, f2, f3, f4, f5, f6, f7,
      f8, f9]
  have hcs : g.clusterSize = secPerClus b * bytsPerSec b := by
    unfold Geom.clusterSize; rw [hb.bps, hb.spc, f1, f2, Nat.mul_comm]
  unfold specGeometry
  rw [hcs, htc]
  congr 1
  rw [hbits, htc]
  unfold ftOfBits fatTypeOfCount
  split
  · rfl
  · split <;> rfl

/-- Whenever the model of the library's mount accepts a boot sector AND the oracles parse
    it, both work with the same FAT width, cluster size and cluster count. -/
theorem oracle_geom_eq_mount {b : List Nat} {strict : Bool} {gm : Geometry} (hb : IsSector b)
    (hm : probe b strict = .ok gm) (g : Geom) (h : parseGeomF (fun i => b.getD i 0) = .ok g) :
    (gm.fatType, gm.clusterSize, gm.totalClusters) = (ftOfBits g.fatBits, g.clusterSize, g.totalClusters) := by
  rw [oracle_geom_eq_spec b g h]
  exact C07.mount_geometry hb hm

end FatVerif.Spec

namespace FatVerif.Spec
open FatVerif FatVerif.C07
/-- both hypotheses hold together on the FAT32 and the FAT16 witness sectors of C07 -/
example : (probe goodFat32 true).toOption.isSome = true ∧
    (parseGeomF (fun i => goodFat32.getD i 0)).toOption.isSome = true ∧
    (probe goodFat16 true).toOption.isSome = true ∧
    (parseGeomF (fun i => goodFat16.getD i 0)).toOption.isSome = true := by decide +kernel
end FatVerif.Spec

namespace FatVerif.Spec

theorem parseGeomF_cs_pos (rd : Nat → Nat) (g : Geom) (h : parseGeomF rd = .ok g) : 0 < g.clusterSize := by
  obtain ⟨rfl, h1, h2, _⟩ := parseGeomF_ok rd g h
  obtain ⟨hb, _⟩ := geomOfBpb_base (readBpb rd)
  unfold Geom.clusterSize
  rw [hb.bps, hb.spc]
  exact Nat.mul_pos (Nat.pos_of_ne_zero h1) (Nat.pos_of_ne_zero h2)

end FatVerif.Spec

namespace FatVerif.Spec

/-- `allowedWrite_iff_bytes` for the geometry parsed from ANY boot sector the
    oracles accept — no hypothesis left: the C11 oracle is silent on a write iff every written byte is allowed. -/
theorem allowedWrite_iff_bytes_parsed (rd : Nat → Nat) (g : Geom) (h : parseGeomF rd = .ok g) (pre : Img)
    (owners : Std.HashMap Nat Owner) (touched : List String) (off len : Nat) (upper : Char → List Char) :
    allowedWriteWith g pre owners touched off len upper = none ↔
      ∀ q, off ≤ q → q < off + len → regionAllowed g pre owners touched upper (regionAt g q).1 = true :=
  allowedWrite_iff_bytes g (parseGeomF_status rd g h) pre owners touched off len upper

/-- … and on such a geometry "cluster `c`" is exactly `[clusterOff c, clusterOff (c+1))`
    inside the data region and the declared volume. -/
theorem regionAt_cluster_iff_parsed (rd : Nat → Nat) (g : Geom) (h : parseGeomF rd = .ok g) (q c : Nat) :
    (regionAt g q).1 = .cluster c ↔
      (2 ≤ c ∧ g.clusterOff c ≤ q ∧ q < g.clusterOff (c + 1) ∧ q < g.dataEnd ∧ q < g.volumeBytes) :=
  regionAt_cluster_iff g (parseGeomF_cs_pos rd g h) q c

end FatVerif.Spec
