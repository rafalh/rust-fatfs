import FatVerif.Proofs.WriteClassDir
import FatVerif.Proofs.FatChains
import FatVerif.Proofs.WriteClassCluster
import FatVerif.Props.C09
import FatVerif.Props.C14
/-! # C11 — region facts: WHERE the operations of a mounted volume write (on the device log)

`WClass fs off bytes` (Proofs/WriteClassFile.lean) classifies a write record of a volume with geometry `fs`:
`status` (the status byte), `fsInfo` (the FS-info sector), `fat` (the window of the FAT copies — the active copy when
mirroring is off), `root` (the fixed root-directory region of FAT12/16), `cluster` (inside the data cluster `c` for
some `c ≥ 2`), `slot pos` (inside the 32-byte directory record at `pos`
that a handle's editor writes back).

`GS fs0 sz C p Post` (Proofs/WriteClass.lean): run on a device of size `sz` whose mounted state has the geometry of
`fs0`, `p` keeps the geometry and every write record it appends to the log satisfies `C` — whatever the outcome
(success, error, fault). `DevFits fs0 sz`: the FAT copies and the fixed root region lie inside the device. -/
namespace FatVerif

/-! ## leaf facts -/

/-- **`status_write_single_byte`**: whatever `set_dirty_flag` writes lies in the one status byte -/
theorem status_write_single_byte (b : Bool) (d : Dev) {r d'} (hr : run (setDirtyFlag b) d = (r, d')) :
    LogAll (StatusRec d.fs) d d' := (setDirtyFlag_all b d hr).2

/-- **`entry_writeback_in_slot`**: `DirEntryEditor::flush` writes only inside `[e.pos, e.pos + 32)` -/
theorem entry_writeback_in_slot (f : FileH) (e : DirEntryEditor) (he : f.entry = some e) (d : Dev) {r d'}
    (hr : run f.flushDirEntry d = (r, d')) : LogAll (SlotAt e.pos) d d' :=
  ((FileH.flushDirEntry_gs (fs0 := d.fs) (sz := d.img.size) f).out d r d' (SameGeom.refl _) rfl hr).2.1.mono
    (fun _ _ h => h e he)

/-- **`fsinfo_write_in_sector`**: `flush_fs_info` writes only inside the FS-info sector -/
theorem fsinfo_write_in_sector (d : Dev) {r d'} (hr : run flushFsInfo d = (r, d')) : LogAll (FsInfoRec d.fs) d d' :=
  LogAll.of_within ((flushFsInfo_tri d.fs).out d r d' rfl hr).1.2 (fun _ _ h1 h2 => ⟨h1, h2⟩)

/-- **mount writes nothing** (`mount_readonly` of C13, restated on the log) -/
theorem mount_writes_nothing (strict accDate lfnAlloc unicode : Bool) (d : Dev) {r d'}
    (hr : run (mount strict accDate lfnAlloc unicode) d = (r, d')) : LogAll (fun _ _ => False) d d' :=
  LogAll.of_sameWrites (run_logExtends _ _ _ _ hr) ((mount_nw (fs0 := d.fs) strict accDate lfnAlloc unicode).out d r d' rfl hr).1

/-- **`fat_writes_in_fat_area`** (volume level): the FAT operations over `fatSliceOf fs` write only inside the window of
    the FAT copies (`[reserved*bps, (reserved + fats*spf)*bps)` with mirroring, the active copy without) or the status
    byte -/
theorem fat_ops_in_fat_window {fs0 : FsState} {sz : Nat} (hfit : DevFits fs0 sz) (ft : FatType) {s : DiskSlice}
    (hs : SliceInv (fatSliceOf fs0) s) :
    (∀ c v, GS fs0 sz (SliceOrStatus (fatSliceOf fs0) fs0) (Table.set DiskSlice.strm ft s c v) (SliceInv (fatSliceOf fs0))) ∧
    (∀ prev hint total, GS fs0 sz (SliceOrStatus (fatSliceOf fs0) fs0)
      (Table.allocCluster DiskSlice.strm ft s prev hint total) (fun r => SliceInv (fatSliceOf fs0) r.2)) ∧
    (∀ fuel cl err, GS fs0 sz (SliceOrStatus (fatSliceOf fs0) fs0) (Table.CIter.free DiskSlice.strm ft fuel ⟨s, cl, err⟩)
      (fun r => SliceInv (fatSliceOf fs0) r.2.fat)) ∧
    (∀ fuel cl err, GS fs0 sz (SliceOrStatus (fatSliceOf fs0) fs0)
      (Table.CIter.truncate DiskSlice.strm ft fuel ⟨s, cl, err⟩) (fun r => SliceInv (fatSliceOf fs0) r.2.fat)) := by
  have hS := slice_strm_gs (fatSliceOf fs0) fs0 sz hfit.fat
  exact ⟨fun c v => Table.set_gs hS ft s c v hs, fun p h t => Table.allocCluster_gs hS ft s p h t hs,
    fun fuel cl err => Table.CIter.free_gs hS ft fuel _ hs, fun fuel cl err => Table.CIter.truncate_gs hS ft fuel _ hs⟩

/-- **`root_slice_writes_in_root`**: reads, writes and seeks through the fixed root-directory slice write only inside
    the root region `[(firstDataSector - rootDirSectors)*bps, + rootDirSectors*bps)` or the status byte -/
theorem root_slice_writes_in_root {fs0 : FsState} {sz : Nat} (hfit : DevFits fs0 sz) :
    StrmGS fs0 sz (SliceOrStatus (rootSliceOf fs0) fs0) DiskSlice.strm (SliceInv (rootSliceOf fs0)) :=
  slice_strm_gs (rootSliceOf fs0) fs0 sz hfit.root

theorem rootSlice_window (fs : FsState) (off : Nat) (bs : List Nat) :
    SliceRec (rootSliceOf fs) off bs ↔
      ((fs.firstDataSector - fs.rootDirSectors) * fs.bps ≤ off ∧
       off + bs.length ≤ (fs.firstDataSector - fs.rootDirSectors) * fs.bps + fs.rootDirSectors * fs.bps) := by
  simp [SliceRec, rootSliceOf]

/-! ## `File::write` -/

/-- what `File::write` may write before its data: the status byte, FAT entries, and — for a directory only — the
    zero-fill of a freshly allocated cluster -/
def FileWritePre (fs : FsState) (isDir : Bool) (off : Nat) (bs : List Nat) : Prop :=
  StatusRec fs off bs ∨ SliceRec (fatSliceOf fs) off bs ∨ (isDir = true ∧ ClusterRec fs off bs)

/-- a successful `File::write` returning `n > 0`, walked through once: the run of `set_dirty_flag` and of the cluster
    selection it went through, and what `file_write_in_cluster` says of the log -/
theorem file_write_ok (f : FileH) (buf : List Nat) (d : Dev)
    (hfat : (fatSliceOf d.fs).beginOff + (fatSliceOf d.fs).mirrors * (fatSliceOf d.fs).size ≤ d.img.size)
    {n : Nat} {f' : FileH} {d' : Dev} (hr : run (f.write buf) d = (.ok (n, f'), d')) (hn : n > 0) :
    ∃ (d1 d2 : Dev) (cur : Nat) (f1 : FileH) (items : List LogItem),
      run (setDirtyFlag true) d = (.ok (), d1) ∧ run (FileSim.selCluster f d.fs) d1 = (.ok (cur, f1), d2) ∧ 2 ≤ cur ∧
      d'.log = .write (clusterOff d.fs cur + f.offset % d.fs.clusterSize) (buf.take n) :: (items ++ d.log) ∧
      f.offset % d.fs.clusterSize + n ≤ d.fs.clusterSize ∧
      ∀ off bs, LogItem.write off bs ∈ items → FileWritePre d.fs f.isDir off bs := by
  obtain ⟨d1, d2, d3, cur, f1, off, h1, h2, h3, hlog, hle⟩ := file_write_run f buf d hr hn
  have a1 := setDirtyFlag_all true d h1
  have a2 := (selCluster_gsC (C := FileWritePre d.fs f.isDir) hfat (fun _ _ h => Or.inr (Or.inl h))
    (fun _ _ h => Or.inl h) f d.fs (fun hz _ _ h => Or.inr (Or.inr ⟨hz, h⟩))).out d1 _ _ a1.1
    (run_img_size _ _ _ _ h1) h2
  have a3 := (offsetFromClusterP_ro d2.fs d.fs cur).out d2 _ _ rfl h3
  obtain ⟨hcur, hoff⟩ := a3.2.2 _ rfl
  obtain ⟨items, hi1, hi2⟩ := ((a1.2.mono (fun _ _ h => Or.inl h)).trans a2.2.1).trans
    (LogAll.of_sameWrites (C := FileWritePre d.fs f.isDir) (run_logExtends _ _ _ _ h3) a3.1)
  exact ⟨d1, d2, cur, f1, items, h1, h2, hcur, by rw [hlog, hoff, hi1], hle, hi2⟩

/-- **`file_write_in_cluster`**: a successful `File::write` returning `n > 0` appends exactly one data record, the
    NEWEST of the log: `buf.take n` at `clusterOff cur + offset % clusterSize`, inside the cluster `cur ≥ 2` it computed;
    every other write record it appended is the status byte, lies in the window of the FAT copies, or (directories only)
    is the zero-fill of a data cluster -/
theorem file_write_in_cluster (f : FileH) (buf : List Nat) (d : Dev)
    (hfat : (fatSliceOf d.fs).beginOff + (fatSliceOf d.fs).mirrors * (fatSliceOf d.fs).size ≤ d.img.size)
    {n : Nat} {f' : FileH} {d' : Dev} (hr : run (f.write buf) d = (.ok (n, f'), d')) (hn : n > 0) :
    ∃ (cur : Nat) (items : List LogItem), 2 ≤ cur ∧
      d'.log = .write (clusterOff d.fs cur + f.offset % d.fs.clusterSize) (buf.take n) :: (items ++ d.log) ∧
      f.offset % d.fs.clusterSize + n ≤ d.fs.clusterSize ∧
      ∀ off bs, LogItem.write off bs ∈ items → FileWritePre d.fs f.isDir off bs :=
  let ⟨_, _, cur, _, items, _, _, h⟩ := file_write_ok f buf d hfat hr hn
  ⟨cur, items, h⟩

/-! ## `File::write` stays in the data region (under the FAT invariant) -/

/-- the bytes of the FAT window are not touched by `set_dirty_flag` when the status byte lies before it -/
theorem setDirtyFlag_fatView (b : Bool) (d : Dev) (hw : d.img.WF)
    (hstat : statusOff d.fs + 1 ≤ (fatSliceOf d.fs).beginOff) {r d1} (hr : run (setDirtyFlag b) d = (r, d1)) (c : Nat) :
    imgFatView d1.fs d1.img c = imgFatView d.fs d.img c := by
  obtain ⟨hg, hall⟩ := setDirtyFlag_all b d hr
  have hq : ∀ q, (fatSliceOf d.fs).beginOff ≤ q → d1.img.getByte q = d.img.getByte q := fun q hq =>
    logAll_frame hr hw hall q (fun off bs h => by unfold StatusRec at h; omega)
  have hsl : fatSliceOf d1.fs = fatSliceOf d.fs := fatSliceOf_geom hg true
  have hft : d1.fs.fatType = d.fs.fatType := (hg.proj FsState.fatType).symm
  unfold imgFatView
  rw [hsl, hft]
  congr 1
  have h0 : ∀ x, d1.img.getByte ((fatSliceOf d.fs).beginOff + x) = d.img.getByte ((fatSliceOf d.fs).beginOff + x) :=
    fun x => hq _ (Nat.le_add_right _ _)
  have h1 : ∀ x k, d1.img.getByte ((fatSliceOf d.fs).beginOff + x + k) = d.img.getByte ((fatSliceOf d.fs).beginOff + x + k) :=
    fun x k => hq _ (by omega)
  unfold imgFatRaw Img.le16 Img.le32
  cases d.fs.fatType <;> simp only [h0, h1]

/-- **`file_write_in_data_region`**: on a volume whose FAT (first copy, as decoded from the image) satisfies the
    structural invariant `FatWf` of C03 (links in range), with the FAT copies inside the device and the status byte
    before them, a successful `File::write` returning `n > 0` on a handle whose own cluster fields are in range
    (provenance of the handle: `first_cluster` from a directory entry, `current_cluster` from an earlier walk) puts its
    data — the newest record of the log — inside a cluster `cur` with `2 ≤ cur < total_clusters + 2`, hence inside the
    data region `[clusterOff 2, clusterOff (total_clusters + 2))`. The cluster comes from the handle, from a FAT link
    (`FatWf`), or from `alloc_cluster` (always below `total + 2`). -/
theorem file_write_in_data_region (f : FileH) (buf : List Nat) (d : Dev) (hfit : DevFits d.fs d.img.size)
    (hmir : 0 < (fatSliceOf d.fs).mirrors)
    (hw : d.img.WF) (hstat : statusOff d.fs + 1 ≤ (fatSliceOf d.fs).beginOff)
    (hfat : Fat.FatWf (imgFatView d.fs d.img) d.fs.totalClusters)
    (hfirst : ∀ c, f.firstCluster = some c → c < d.fs.totalClusters + 2)
    (hcurr : ∀ c, f.currentCluster = some c → c < d.fs.totalClusters + 2)
    {n : Nat} {f' : FileH} {d' : Dev} (hr : run (f.write buf) d = (.ok (n, f'), d')) (hn : n > 0) :
    ∃ cur, 2 ≤ cur ∧ cur < d.fs.totalClusters + 2 ∧
      d'.log.head? = some (.write (clusterOff d.fs cur + f.offset % d.fs.clusterSize) (buf.take n)) ∧
      clusterOff d.fs 2 ≤ clusterOff d.fs cur + f.offset % d.fs.clusterSize ∧
      clusterOff d.fs cur + f.offset % d.fs.clusterSize + (buf.take n).length ≤ clusterOff d.fs (d.fs.totalClusters + 2) := by
  have hdevfat : (fatSliceOf d.fs).beginOff + (fatSliceOf d.fs).size ≤ d.img.size := by
    have h1 := hfit.fat
    have := Nat.mul_le_mul_right (fatSliceOf d.fs).size hmir
    omega
  -- the bound on the cluster gives the region facts
  have region : ∀ cur, 2 ≤ cur → cur < d.fs.totalClusters + 2 → f.offset % d.fs.clusterSize + n ≤ d.fs.clusterSize →
      clusterOff d.fs 2 ≤ clusterOff d.fs cur + f.offset % d.fs.clusterSize ∧
      clusterOff d.fs cur + f.offset % d.fs.clusterSize + (buf.take n).length ≤ clusterOff d.fs (d.fs.totalClusters + 2) := by
    intro cur h2 hlt hnle
    have m1 := clusterOff_mono d.fs h2
    have m2 := clusterOff_mono d.fs (show cur + 1 ≤ d.fs.totalClusters + 2 by omega)
    have m3 := clusterOff_succ d.fs _ h2
    have hl : (buf.take n).length ≤ n := by simp only [List.length_take]; omega
    exact ⟨by omega, by omega⟩
  obtain ⟨d1, d2, cur, f1, items, h1, h2, hcur2, hlog, hnle, _⟩ := file_write_ok f buf d hfit.fat hr hn
  have a1 := setDirtyFlag_all true d h1
  have s1 : d1.img.size = d.img.size := run_img_size _ _ _ _ h1
  have hview1 := setDirtyFlag_fatView true d hw hstat h1
  have hsl1 : fatSliceOf d1.fs = fatSliceOf d.fs := fatSliceOf_geom a1.1 true
  -- the cluster selected lies in range
  have hcur : cur < d.fs.totalClusters + 2 := by
    unfold FileSim.selCluster at h2
    split at h2
    · obtain ⟨nxt, d3, h3, h4⟩ := run_bind_ok_inv h2
      try dsimp only at h4
      split at h4
      · rename_i n0
        cases run_pure_cases h4
        unfold FileH.boundaryCluster at h3
        split at h3
        · rename_i hnone
          have h3' : run (Prog.pure f.firstCluster) d1 = (.ok (some cur), _) := h3
          simp only [run, Prod.mk.injEq, Except.ok.injEq] at h3'
          exact hfirst cur h3'.1
        · rename_i m hm
          have hv := (nextCluster_ok m d1 (by rw [hsl1, s1]; exact hdevfat) h3).1
          rw [hview1] at hv
          exact (hfat.link_range m cur hv).2
      · obtain ⟨c, d4, h5, h6⟩ := run_bind_ok_inv h4
        have hlt := ((allocClusterFs_lt (fs0 := d.fs) (sz := d.img.size) hfit f.currentCluster f.isDir).out d3 _ _
          (by
            have : d3.fs = d1.fs := quietOps_fs (FileH.boundaryCluster_quiet f) d1 h3
            rw [this]; exact a1.1)
          ((run_img_size _ _ _ _ h3).trans s1) h5).2.2 c rfl
        try dsimp only at h6
        cases run_pure_cases h6
        exact hlt
    · split at h2
      · rename_i n0 hn0
        cases run_pure_cases h2
        exact hcurr cur hn0
      · simp only [run] at h2; cases h2
  have hreg := region cur hcur2 hcur hnle
  exact ⟨cur, hcur2, hcur, by rw [hlog]; rfl, hreg.1, hreg.2⟩

/-! ## summary -/

/-- the programs the API runs on a MOUNTED volume (all of `ApiProgAll` except `format` and `mount`), with the fixed-root
    streams among their arguments keeping the window of the root slice (`DirOK`) -/
inductive VolProg (fs0 : FsState) : {α : Type} → Prog α → Prop where
  | unmount (root : DirStream) : VolProg fs0 (do root.drop; FatVerif.unmount)
  | dropfs (root : DirStream) : VolProg fs0 (do root.drop; dropFs)
  | openDir (env : Env) (fuel : Nat) (d : DirStream) (path : String) : DirOK fs0 d → VolProg fs0 (FatVerif.openDir env fuel d path)
  | createDir (env : Env) (fuel : Nat) (d : DirStream) (path : String) : DirOK fs0 d → VolProg fs0 (FatVerif.createDir env fuel d path)
  | openFile (env : Env) (fuel : Nat) (d : DirStream) (path : String) : DirOK fs0 d → VolProg fs0 (FatVerif.openFile env fuel d path)
  | createFile (env : Env) (fuel : Nat) (d : DirStream) (path : String) : DirOK fs0 d → VolProg fs0 (FatVerif.createFile env fuel d path)
  | remove (env : Env) (fuel : Nat) (d : DirStream) (path : String) : DirOK fs0 d → VolProg fs0 (FatVerif.remove env fuel d path)
  | rename (env : Env) (fuel : Nat) (d : DirStream) (src : String) (d2 : DirStream) (dst : String) :
      DirOK fs0 d → DirOK fs0 d2 → VolProg fs0 (FatVerif.rename env fuel d src d2 dst)
  | list (d : DirStream) : DirOK fs0 d → VolProg fs0 (listDir d)
  | read (f : FileH) (n : Nat) : VolProg fs0 (f.read n)
  | write (f : FileH) (bs : List Nat) : VolProg fs0 (f.write bs)
  | seek (f : FileH) (p : SeekFrom) : VolProg fs0 (f.seek p)
  | truncate (f : FileH) : VolProg fs0 f.truncate
  | flush (f : FileH) : VolProg fs0 f.flush
  | dropf (f : FileH) : VolProg fs0 f.drop
  | dropd (d : DirStream) : VolProg fs0 d.drop
  | extents (f : FileH) : VolProg fs0 f.extents
  | stats : VolProg fs0 FatVerif.stats
  | status : VolProg fs0 readStatusFlags
  | labelRoot : VolProg fs0 readVolumeLabelFromRootDir

theorem volProg_gs {fs0 : FsState} {sz : Nat} (hfit : DevFits fs0 sz) {α : Type} {p : Prog α} (h : VolProg fs0 p) :
    GS fs0 sz (WClass fs0) p (fun _ => True) := by
  cases h with
  | unmount root => exact GS.bind root.drop_gs (fun _ _ => unmount_gs)
  | dropfs root => exact GS.bind root.drop_gs (fun _ _ => dropFs_gs)
  | openDir env fuel d path hd => exact (openDir_gs hfit env fuel d path hd).weaken (fun _ _ => trivial)
  | createDir env fuel d path hd => exact (createDir_gs hfit env fuel d path hd).weaken (fun _ _ => trivial)
  | openFile env fuel d path hd => exact openFile_gs hfit env fuel d path hd
  | createFile env fuel d path hd => exact createFile_gs hfit env fuel d path hd
  | remove env fuel d path hd => exact remove_gs hfit env fuel d path hd
  | rename env fuel d src d2 dst hd hd2 => exact rename_gs hfit env fuel d src d2 dst hd hd2
  | list d hd => exact listDir_gs hfit hd
  | read f n => exact GS.of_quiet (f.read_quiet n)
  | write f bs => exact FileH.write_gs hfit f bs
  | seek f p => exact GS.of_quiet (f.seek_quiet p)
  | truncate f => exact FileH.truncate_gs hfit f
  | flush f => exact FileH.flush_gs f
  | dropf f => exact FileH.drop_gs f
  | dropd d => exact d.drop_gs
  | extents f => exact GS.of_quiet f.extents_quiet
  | stats => exact stats_gs
  | status => exact GS.of_quiet readStatusFlags_quiet
  | labelRoot => exact readVolumeLabelFromRootDir_gs hfit

/-- **`writes_classified`**: whatever the outcome (success, error, injected fault), every write record an operation of a
    mounted volume appends to the device log is the status byte, lies in the FS-info sector, in the window of the FAT
    copies, in the fixed root region, inside a data cluster `c ≥ 2`, or inside the 32-byte directory record of a handle's
    editor; and the geometry of the mounted state is unchanged.
    PARTIAL in two named respects: (i) the cluster index is only known to satisfy `2 ≤ c` — that `c < total_clusters + 2` needs the FAT well-formedness invariant (the index comes from a
    FAT entry, a directory entry or `alloc_cluster`) — for `File::write` this is done in `file_write_in_data_region`; (ii) the position `pos` of a `slot` record comes from a handle's
    editor (an argument, or `entry_pos` of a directory entry read during the operation — including the `..` entry of a
    moved directory that `rename` re-points at its new parent) — that it lies in a directory
    cluster or the root region is provenance of the handle, not tracked here. `format` is not covered (it writes the
    whole metadata area from its own geometry); `mount` writes nothing (`mount_writes_nothing`). -/
theorem writes_classified {fs0 : FsState} {α : Type} {p : Prog α} (h : VolProg fs0 p) (d : Dev)
    (hg : SameGeom fs0 d.fs) (hfit : DevFits fs0 d.img.size) {r d'} (hr : run p d = (r, d')) :
    SameGeom fs0 d'.fs ∧
    ∃ items, d'.log = items ++ d.log ∧ ∀ off bs, LogItem.write off bs ∈ items → WClass fs0 off bs := by
  have := (volProg_gs hfit h).out d r d' hg rfl hr
  exact ⟨this.1, this.2.1⟩

/-! ## the statements are not vacuous -/

namespace C11ex
def fs16 : FsState :=
  { fatType := .fat16, bps := 512, spc := 1, reserved := 1, fats := 2, spf := 1, totalClusters := 5,
    firstDataSector := 4, rootEntries := 16, rootDirSectors := 1, fsInfo := { free := some 4 } }
def dev16 : Dev := { img := Img.empty 8192, fs := fs16 }
def file : FileH := FileH.new (some 3) (some (DirEntryEditor.new (DirFileEntryData.new (List.replicate 11 65) 0) 1536))
end C11ex

/-- the FAT copies `[512, 1536)` and the root region `[1536, 2048)` fit the 8 KiB example device -/
example : DevFits C11ex.fs16 C11ex.dev16.img.size := ⟨by decide, by decide⟩

/-- `File::write` of 3 bytes at the start of a file whose first cluster is 3 (hypotheses of `file_write_in_cluster` and
    `writes_classified` hold): the status byte first, then the data at the start of cluster 3 (offset 2560) as the
    newest record -/
example : (run (C11ex.file.write [7, 8, 9]) C11ex.dev16).2.log = [.write 2560 [7, 8, 9], .write 37 [1]] := by
  decide +kernel

/-- `Table.set` of the FAT16 entry of cluster 3 through the FAT slice: the same two bytes at relative offset 6 of both
    copies (518 = 512 + 6, 1030 = 512 + 512 + 6), after the status byte (the log is newest first) -/
example : (run (Table.set DiskSlice.strm .fat16 (fatSliceOf C11ex.fs16) 3 .eoc) C11ex.dev16).2.log =
    [.write 1030 [255, 255], .write 518 [255, 255], .write 37 [1]] := by decide +kernel

theorem C11ex.view_free (c : Nat) : imgFatView C11ex.fs16 C11ex.dev16.img c = .free := by
  simp [imgFatView, imgFatRaw, C11ex.fs16, C11ex.dev16, Img.le16, Img.getByte_empty, Table.classify]

/-- the hypotheses of `file_write_in_data_region` are satisfiable: the all-zero example volume has a well-formed page
    table, an (empty, hence) well-formed FAT, its FAT copies fit the device behind the status byte, and the example
    handle's first cluster 3 is below `total_clusters + 2 = 7`; the write itself succeeds (log shown above) -/
example : DevFits C11ex.dev16.fs C11ex.dev16.img.size ∧ 0 < (fatSliceOf C11ex.dev16.fs).mirrors ∧ C11ex.dev16.img.WF ∧
    statusOff C11ex.dev16.fs + 1 ≤ (fatSliceOf C11ex.dev16.fs).beginOff ∧
    Fat.FatWf (imgFatView C11ex.dev16.fs C11ex.dev16.img) C11ex.dev16.fs.totalClusters ∧
    (∀ c, C11ex.file.firstCluster = some c → c < C11ex.dev16.fs.totalClusters + 2) ∧
    (∀ c, C11ex.file.currentCluster = some c → c < C11ex.dev16.fs.totalClusters + 2) ∧
    resErr (run (C11ex.file.write [7, 8, 9]) C11ex.dev16).1 = none := by
  have hv : ∀ c, imgFatView C11ex.dev16.fs C11ex.dev16.img c = .free := C11ex.view_free
  refine ⟨⟨by decide, by decide⟩, by decide, Img.wf_empty _, by decide, ?_, ?_, ?_, by decide +kernel⟩
  · refine ⟨?_, ?_, ?_, ⟨fun _ => 0, ?_⟩⟩
    · intro c n h; rw [hv] at h; cases h
    · intro c n h; rw [hv] at h; cases h
    · intro a b n h _; rw [hv] at h; cases h
    · intro c n h; rw [hv] at h; cases h
  · intro c h; simp [C11ex.file, FileH.new] at h; subst h; decide
  · intro c h; simp [C11ex.file, FileH.new] at h

end FatVerif
