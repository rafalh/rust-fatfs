import FatVerif.Props.SpecFatEntry
import FatVerif.Props.SpecChain
import FatVerif.Spec.FatTable
import FatVerif.Proofs.FatSpecEq
/-!
# The executable chain decoder of the oracles = the list-based specification decoder of the theorems

`Props/C04`, `Props/C08` rest on "the library's programs decode what the specification decoder `FatSpec.specChain`
decodes" (`fileChain_spec`, Proofs/DecodeContent); the oracles that search for a failing input run `Spec.chainOfF`.  Examples relate the
two on single images (the oracle section of Props/C04); here, for every FAT width, every byte string of a FAT copy and every start cluster:
whatever chain the oracle returns is the chain `specChain` computes (`oracle_chain_eq_specChain`), by composing
`chainOfF_ok` (Props/SpecChain), `oracle_entry_eq_model` (Props/SpecFatEntry) and `get_spec` (C08.1, Proofs/FatSpecEq).
-/
namespace FatVerif.Spec
open FatVerif

theorem refine_next {total : Nat} {v : FatValue} {d : Nat} (h : refineValue total v = .next d) :
    v = .data d ∧ 2 ≤ d ∧ d < total + 2 := by
  cases v with
  | free => cases h
  | bad => cases h
  | eoc => cases h
  | data w =>
    simp only [refineValue] at h
    split at h
    · rename_i hr; cases h; exact ⟨rfl, hr⟩
    · cases h

theorem refine_eoc {total : Nat} {v : FatValue} (h : refineValue total v = .eoc) : v = .eoc := by
  cases v with
  | free => cases h
  | bad => cases h
  | eoc => rfl
  | data w => simp only [refineValue] at h; split at h <;> cases h

/-- a link path of the oracle's table is the chain the list-based specification decoder (`FatSpec.specChain`, the one
    the theorems of C04 / C08 speak about) computes -/
theorem specChain_of_linkPath (bits : Nat) (fat : Array Nat) (total : Nat) (entry : Nat → FatClass)
    (hrel : ∀ c, 2 ≤ c → c < total + 2 → entry c = refineValue total (FatSpec.specValue bits fat c)) :
    ∀ (rest : List Nat) (c fuel : Nat), IsLinkPath entry (c :: rest) → 2 ≤ c → c < total + 2 → rest.length < fuel →
      FatSpec.specChain bits fat (total + 2) fuel c = some (c :: rest)
  | _, _, 0, _, _, _, hf => by omega
  | [], c, fuel + 1, hp, h2, ht, _ => by
    have he : entry c = .eoc := hp
    rw [hrel c h2 ht] at he
    have := refine_eoc he
    unfold FatSpec.specChain
    rw [if_neg (by omega), this]
  | d :: l, c, fuel + 1, hp, h2, ht, hf => by
    have he : entry c = .next d := hp.1
    rw [hrel c h2 ht] at he
    obtain ⟨hv, hd2, hdt⟩ := refine_next he
    have ih := specChain_of_linkPath bits fat total entry hrel l d fuel hp.2 hd2 hdt (by simp at hf; omega)
    unfold FatSpec.specChain
    rw [if_neg (by omega), hv]
    simp only [ih, Option.map_some]

/-- Whatever chain the executable oracle decoder returns is the chain of the
    specification decoder of the theorems, on every table on which the two read single entries alike. -/
theorem chainOfF_eq_specChain (bits : Nat) (fat : Array Nat) (total first : Nat) (entry : Nat → FatClass)
    (hrel : ∀ c, 2 ≤ c → c < total + 2 → entry c = refineValue total (FatSpec.specValue bits fat c))
    (cs : Array Nat) (h : chainOfF entry total first = .ok cs) :
    FatSpec.specChain bits fat (total + 2) (total + 2) first = some cs.toList := by
  obtain ⟨h2, ht, rest, hc, hl, hlen⟩ := chainOfF_ok entry total first cs h
  rw [hc]
  exact specChain_of_linkPath bits fat total entry hrel rest first (total + 2) hl h2 ht hlen

end FatVerif.Spec

namespace FatVerif.Spec
open FatVerif FatVerif.Fat

/-- the oracle's classified table over the bytes of one FAT copy -/
def oracleEntry (ft : FatType) (f : Array Nat) (total c : Nat) : FatClass :=
  classifyRaw ft.bits total (fatEntryRawF ft.bits (fun i => Fat.rd f i) 0 c)

/-- On the bytes of ANY FAT copy (all widths) whose entries `2 … total+1` are
    readable: a chain the executable oracle decoder returns is exactly the chain of the list-based specification
    decoder `FatSpec.specChain` — the decoder the byte-level theorems of C04 / C08 (`fileChain_spec`, program =
    specification decoder) are stated with.  Composes `chainOfF_ok`, `oracle_entry_eq_model` and `get_spec`. -/
theorem oracle_chain_eq_specChain (ft : FatType) (f : Array Nat) (total first : Nat) (hf : WfBytes f)
    (hplain : ∀ c, 2 ≤ c → c < total + 2 → Plain ft f c) (cs : Array Nat)
    (h : chainOfF (oracleEntry ft f total) total first = .ok cs) :
    FatSpec.specChain ft.bits f (total + 2) (total + 2) first = some cs.toList := by
  apply chainOfF_eq_specChain ft.bits f total first (oracleEntry ft f total) _ cs h
  intro c h2 ht
  have hp := hplain c h2 ht
  exact oracle_entry_eq_model ft f total c _ hp.2 hf (get_spec ft f hf c hp)

end FatVerif.Spec
