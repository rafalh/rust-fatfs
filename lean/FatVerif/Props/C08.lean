import FatVerif.Proofs.DecodeVolume
import FatVerif.Proofs.BpbProbe
/-!
# C08 — any specification-valid foreign volume is read faithfully

`SpecValidVolume d`: the device holds a volume that
* has a boot sector the library's characterised validity `Bpb.Valid` accepts (`validate_checks`, Proofs/BpbValidate: `validate = ok ↔ Valid`;
  it implies the specification's `GeoSpec.Coherent`, C07.2) — the boot-sector clause;
* has the three layout properties of a specification-valid volume that `FileSystem::new` does not check (`LayoutOk`: every
  FAT copy has an entry for every cluster and is at most 4 GiB, the active FAT exists, the declared volume fits the
  device);
* has a specification-valid directory tree (`SpecValidTree`, stated with the SPECIFICATION's decoders only —
  `FatSpec.specChain`/`specValue` on the FAT bytes, `DirSpec.specRows` on the slots): every directory of the tree has a
  chain ending in an end-of-chain mark and is smaller than 4 GiB; every listed file has a chain long enough for its size
  (none and size 0 for an empty file).

`foreign_volume_read_faithful`: after a successful mount (heap long-name buffer, `update_accessed_date` off) the
geometry is the specification's, and EVERY directory reached from the root by `to_dir` on listed entries lists as the
specification decoder reads it, and EVERY listed file reads to its end as `specContent` — the hypotheses of the
directory-read simulation (`RootReadable`, `ChainReadable`, Props/C01sim) and of the file simulation (`Geo`,
Proofs/FileSimIter; `FileRep`, Proofs/FileSimDefs) are DISCHARGED from
`SpecValidVolume` + mount (Proofs/DecodeVolume).

`FatWf` of the table is NOT needed for reading (a terminating chain cannot repeat a cluster: `Fat.chain_nodup'`).
-/
namespace FatVerif
open DirSim FileSim DecodeAgree GeoSpec C07run

namespace C08

/-- the decoded boot sector of the device -/
def bpbOf (d : Dev) : Bpb := Bpb.deserialize (bootOf d)

structure SpecValidVolume (d : Dev) : Prop where
  mountable : Mountable d
  boot : (bpbOf d).Valid
  layout : LayoutOk (bpbOf d) d.img.size
  /-- the tree, for the geometry of the boot sector (the remaining fields of a mounted state — options, FS-info cache —
      do not enter `SpecValidTree`) -/
  tree : ∀ strict unicode fi, SpecValidTree (fsOf strict false true unicode (bpbOf d) fi) d.img

/-- the FS-info sector of a specification-valid FAT32 volume lies inside the device (it lies in the reserved area) -/
theorem fsInfoInside (strict : Bool) {d : Dev} (hv : SpecValidVolume d) : FsInfoInside strict d := by
  intro g hp h32
  obtain ⟨_, hg⟩ := probe_ok (isSector_bootOf d) hp
  have hval := hv.boot
  have hw : (bpbOf d).isFat32 = true := by
    rw [hval.width]
    have : g.fatType = FatType.fromClusters (bpbOf d).tcNat := by rw [hg]; rfl
    rw [← this]; exact h32
  have hfi := hval.fsInfo hw
  obtain ⟨hB, _⟩ := bps_ge hval
  have hfds := fds_le hval
  show (bpbOf d).fsInfoSector * (bpbOf d).bytesPerSector + 512 ≤ d.img.size
  have h1 : ((bpbOf d).fsInfoSector + 1) * (bpbOf d).bytesPerSector ≤ (bpbOf d).totalSectors * (bpbOf d).bytesPerSector := by
    apply Nat.mul_le_mul_right
    have : (bpbOf d).fdsNat = (bpbOf d).reservedSectors + (bpbOf d).fats * (bpbOf d).sectorsPerFat + (bpbOf d).rdsNat := rfl
    omega
  rw [Nat.add_mul, Nat.one_mul] at h1
  have := hv.layout.fitsDev
  omega

/-- the state a successful mount returns is `fsOf` of the decoded boot sector, for the FS-info values read at mount -/
theorem mount_fsOf (strict accDate lfnAlloc unicode : Bool) {d : Dev} (hd : Mountable d) {fs : FsState} {d' : Dev}
    (hrun : run (mount strict accDate lfnAlloc unicode) d = (.ok fs, d')) :
    ∃ fi, fs = fsOf strict accDate lfnAlloc unicode (bpbOf d) fi ∧ d'.fs = fs := by
  obtain ⟨fi, _, _, hfs, hfs'⟩ := mount_run_ok strict accDate lfnAlloc unicode d hd.pos hd.noFault hd.size hrun
  have e0 : ∀ b, (BootSector.deserialize b).bpb = Bpb.deserialize b := fun _ => rfl
  have e : (BootSector.deserialize (d.img.read 0 512)).bpb = bpbOf d := e0 _
  rw [e] at hfs
  exact ⟨fi, hfs, hfs'⟩

/-- the handles the LIBRARY derives while walking the tree: the root directory, and `to_dir` of a directory entry
    returned by `Dir::iter()` on a handle already derived (on any device with the same image / mounted state) -/
inductive Walk (d0 : Dev) : DirStream → Loc → Prop
  | root : Walk d0 (rootDirStream d0.fs) (rootLoc d0.fs)
  | step (st : DirStream) (loc : Loc) (d1 d2 : Dev) (L : List DirEntry) (e : DirEntry) (c : Nat) :
      Walk d0 st loc → d1.fs = d0.fs → d1.img = d0.img → d1.failAt = d0.failAt →
      run (listDir st) d1 = (.ok L, d2) → e ∈ L → e.isDir = true → e.firstCluster d0.fs = some c →
      Walk d0 (.file (FileH.new (some c) (some e.editor))) (.chain c)

/-- every derived handle is the handle of a directory of the specification's tree -/
theorem walk_sound {d0 : Dev} (hv : VolInv d0) {st : DirStream} {loc : Loc} (hw : Walk d0 st loc) :
    SpecDir d0.fs d0.img loc ∧ HandleFor d0.fs loc st := by
  induction hw with
  | root => exact ⟨SpecDir.root, handleFor_root d0.fs⟩
  | step st loc d1 d2 L e c _ hfs himg hfa hrun he hdir hc ih =>
    obtain ⟨hloc, hst⟩ := ih
    have hv1 := hv.of_same hfs himg hfa
    obtain ⟨slots, L', d', hslots, hrun', hrows, _, _⟩ :=
      dir_faithful hv1 loc (by rw [hfs, himg]; exact hloc) st (by rw [hfs]; exact hst)
    rw [hrun] at hrun'
    have hL : L = L' := by
      have := congrArg Prod.fst hrun'
      exact Except.ok.inj this
    subst hL
    obtain ⟨_, h2, h3⟩ := child_handle (d := d1) loc (by rw [hfs, himg]; exact hloc) slots hslots L hrows e he hdir c
      (by rw [hfs]; exact hc)
    rw [hfs, himg] at h2
    rw [hfs] at h3
    exact ⟨h2, h3⟩

/-- **C08 `foreign_volume_read_faithful`.**  Let `d` hold a specification-valid volume (`SpecValidVolume`) and let the
    mount (any `strict`/`unicode`; `update_accessed_date` off, heap long-name buffer) return `fs` on `d'`.  Then
    1. the boot sector is `Coherent` and FAT width, cluster size and cluster count of `fs` are the independent parse's
       (`specGeometry`); the image is untouched;
    2. for every handle `st` the library derives while walking the tree (`Walk`), on every device with that image and
       mounted state: `Dir::iter()` returns entries whose rows (long name, short names, kind, attributes, size, first
       cluster, timestamps, slot range) are EXACTLY the specification's rows `DirSpec.specRows` of the directory's slots
       in the image (`locSlots`: root region / clusters of the specification's chain);
    3. for every listed entry that is not a directory, `readall` on the handle `to_file` builds returns EXACTLY
       `specContent`: the clusters of the specification's chain of the row's first cluster, cut at the row's size. -/
theorem foreign_volume_read_faithful (strict unicode : Bool) {d : Dev} (hv : SpecValidVolume d) {fs : FsState}
    {d' : Dev} (hrun : run (mount strict false true unicode) d = (.ok fs, d')) :
    (Coherent (bootOf d) ∧ (fs.fatType, fs.clusterSize, fs.totalClusters) = specGeometry (bootOf d) ∧
      d'.fs = fs ∧ d'.img = d.img) ∧
    ∀ (st : DirStream) (loc : Loc), Walk d' st loc →
      ∀ d1 : Dev, d1.fs = d'.fs → d1.img = d'.img → d1.failAt = d'.failAt →
        ∃ slots L d2, locSlots fs d.img loc = some slots ∧ run (listDir st) d1 = (.ok L, d2) ∧
          L.map (libRow fs.fatType) = DirSpec.specRows (fs.fatType == .fat32) slots ∧
          d2.img = d.img ∧ d2.fs = fs ∧ d2.writesOf = d1.writesOf ∧
          ∀ e ∈ L, e.isDir = false → ∀ fuel, e.data.size < fuel → ∀ d3 : Dev, d3.fs = d'.fs → d3.img = d'.img →
            d3.failAt = d'.failAt →
            ∃ f' d4, run (Session.readAllLoop fuel (FileH.new (e.firstCluster fs) (some e.editor)) []) d3 =
                (.ok (specContent fs d.img (libRow fs.fatType e).firstCluster (libRow fs.fatType e).size, f'), d4) ∧
              d4.img = d.img ∧ d4.log = d3.log ∧ d4.fs = fs := by
  have hd := hv.mountable
  obtain ⟨fi, hfs, hfs'⟩ := mount_fsOf strict false true unicode hd hrun
  have hcoh := mount_run_accepts_coherent strict false true unicode hd hrun
  have hgeo := (mount_run_geometry strict false true unicode hd hrun).1
  -- the frame of the mount: the program only reads, and no run acquires a fault
  have hframe : d'.img = d.img ∧ d'.failAt = none :=
    ⟨(mount_run_writes_nothing strict false true unicode d hrun).1, ((run_facts _ d hrun).spent hd.noFault).1⟩
  have hfsOf : d'.fs = fsOf strict false true unicode (bpbOf d) fi := hfs'.trans hfs
  have hinv : VolInv d' :=
    volInv_of_mount (Bpb.deserialize_inRange (isSector_bootOf d)) hv.boot d'
      (by rw [hframe.1]; exact hv.layout) strict unicode fi hfsOf hframe.2
      (by rw [hfsOf, hframe.1]; exact hv.tree strict unicode fi)
  refine ⟨⟨hcoh, hgeo, hfs', hframe.1⟩, ?_⟩
  intro st loc hw d1 h1fs h1img h1fa
  obtain ⟨hloc, hst⟩ := walk_sound hinv hw
  have hv1 := hinv.of_same h1fs h1img h1fa
  obtain ⟨slots, L, d2, hslots, hrunL, hrows, _, i1, i2, _, i4⟩ :=
    dir_faithful hv1 loc (by rw [h1fs, h1img]; exact hloc) st (by rw [h1fs]; exact hst)
  have e1 : d1.fs = fs := by rw [h1fs, hfs']
  have e2 : d1.img = d.img := by rw [h1img, hframe.1]
  refine ⟨slots, L, d2, by rw [← e1, ← e2]; exact hslots, hrunL, by rw [← e1]; exact hrows, by rw [i1, e2],
    by rw [i2, e1], i4, ?_⟩
  intro e he hfile fuel hfuel d3 h3fs h3img h3fa
  have hv3 := hinv.of_same h3fs h3img h3fa
  have e3 : d3.fs = fs := by rw [h3fs, hfs']
  have e4 : d3.img = d.img := by rw [h3img, hframe.1]
  obtain ⟨f', d4, hr, j1, j2, j3⟩ := file_faithful hv3 loc (by rw [h3fs, h3img]; exact hloc) slots
    (by rw [e3, e4, ← e1, ← e2]; exact hslots) L (by rw [e3, ← e1]; exact hrows) e he hfile fuel hfuel
  refine ⟨f', d4, ?_, by rw [j1, e4], j2, by rw [j3, e3]⟩
  rw [e3, e4] at hr
  exact hr

/-! ## the mount itself -/

/-- a specification-valid FAT12/16 volume with the boot signature is mounted (whatever the options) -/
theorem foreign_volume_mounts_fat1x (strict accDate lfnAlloc unicode : Bool) {d : Dev} (hv : SpecValidVolume d)
    (hsig : (BootSector.deserialize (bootOf d)).bootSig = [0x55, 0xAA])
    (h1x : FatType.fromClusters (bpbOf d).tcNat ≠ .fat32) :
    ∃ fs d', run (mount strict accDate lfnAlloc unicode) d = (.ok fs, d') := by
  have hp := probe_of_valid strict (isSector_bootOf d) hv.boot hsig
  obtain ⟨d', hr, _⟩ := mount_run_fat1x strict accDate lfnAlloc unicode hv.mountable hp h1x
  exact ⟨_, d', hr⟩

/-- a specification-valid FAT32 volume with the boot signature: the mount succeeds unless the FS-info sector fails its
    signature checks (then `CorruptedFileSystem`, nothing changed) — the FS-info sector is not part of
    `SpecValidVolume` -/
theorem foreign_volume_mounts_fat32 (strict accDate lfnAlloc unicode : Bool) {d : Dev} (hv : SpecValidVolume d)
    (hsig : (BootSector.deserialize (bootOf d)).bootSig = [0x55, 0xAA])
    (h32 : FatType.fromClusters (bpbOf d).tcNat = .fat32) :
    (∃ fs d', run (mount strict accDate lfnAlloc unicode) d = (.ok fs, d')) ∨
    (∃ d', run (mount strict accDate lfnAlloc unicode) d = (.error .corrupted, d') ∧ d'.fs = d.fs ∧ d'.img = d.img) := by
  have hp := probe_of_valid strict (isSector_bootOf d) hv.boot hsig
  have hin := fsInfoInside strict hv _ hp h32
  obtain ⟨d', hf, h | ⟨m, _, _, hr, _⟩⟩ := mount_run_fat32 strict accDate lfnAlloc unicode hv.mountable hp h32 hin
  · exact Or.inr ⟨d', h.1, h.2.1, hf.img⟩
  · exact Or.inl ⟨_, d', hr⟩

/-! ## non-vacuity 1: the 16 MiB FAT16 volume `C07run.Ex.dev16` (valid boot sector, empty FAT and root) — the whole
   pipeline -/

namespace Ex16
open C07run.Ex

def p16 : Bpb := Bpb.deserialize C07.goodFat16

theorem bpbOf16 : bpbOf dev16 = p16 := by unfold bpbOf; rw [boot16]; rfl

theorem valid16 : p16.Valid := by
  have hb : IsSector C07.goodFat16 := by rw [← boot16]; exact isSector_bootOf dev16
  have hok : (probe C07.goodFat16 true).toOption.isSome = true := by decide +kernel
  cases h : probe C07.goodFat16 true with
  | error e => rw [h] at hok; cases hok
  | ok g => exact (probe_ok hb h).1

theorem layout16 : LayoutOk p16 dev16.img.size :=
  ⟨by decide +kernel, by decide +kernel, by decide +kernel, by decide +kernel⟩

/-- beyond its first page a one-page image reads as zero -/
theorem ofBytes_getByte_high (bytes : List Nat) (size k : Nat) (hk : 4096 ≤ k) :
    (Img.ofBytes bytes size).getByte k = 0 := by
  unfold Img.getByte Img.ofBytes pageSize
  have hne : ¬ (0 = k / 4096) := by
    intro h
    have := Nat.div_eq_zero_iff.1 h.symm
    omega
  simp [hne]

/-- a directory whose first slot is an end marker has no rows -/
theorem specRows_end_first (fat32 : Bool) (s0 : List Nat) (rest : List (List Nat)) (h : DirSpec.isEndMark s0 = true) :
    DirSpec.specRows fat32 (s0 :: rest) = [] := by
  simp [DirSpec.specRows, DirSpec.specEntries, DirSpec.specLoop, h]

/-- the root region of the mounted state, whatever the options, holds no entry -/
theorem rootSlots16 (strict unicode : Bool) (fi : FsInfo) :
    DirSpec.specRows false (rootDirSlots (fsOf strict false true unicode p16 fi) dev16.img) = [] := by
  have hB : (p16.fdsNat - p16.rdsNat) * p16.bytesPerSector = 33280 := by decide +kernel
  have hZ : p16.rdsNat * p16.bytesPerSector / 32 = 511 + 1 := by decide +kernel
  have : rootDirSlots (fsOf strict false true unicode p16 fi) dev16.img =
      (List.range (p16.rdsNat * p16.bytesPerSector / 32)).map
        fun j => dev16.img.read ((p16.fdsNat - p16.rdsNat) * p16.bytesPerSector + 32 * j) 32 := rfl
  rw [this, hZ, hB, List.range_succ_eq_map, List.map_cons]
  apply specRows_end_first
  show (DirSpec.b (dev16.img.read (33280 + 32 * 0) 32) 0 == 0) = true
  unfold DirSpec.b
  rw [Img.read_getD _ _ _ _ (by omega)]
  have : dev16.img.getByte (33280 + 32 * 0 + 0) = 0 := ofBytes_getByte_high _ _ _ (by omega)
  rw [this]; rfl

theorem fat16_16 (strict unicode : Bool) (fi : FsInfo) : (fsOf strict false true unicode p16 fi).fatType = .fat16 := by
  show FatType.fromClusters p16.tcNat = .fat16
  decide +kernel

/-- … so no row is listed in it -/
theorem noRows16 (strict unicode : Bool) (fi : FsInfo) {slots : List (List Nat)} {r : DirSpec.Row}
    (hs : locSlots (fsOf strict false true unicode p16 fi) dev16.img .fixedRoot = some slots)
    (hr : r ∈ DirSpec.specRows ((fsOf strict false true unicode p16 fi).fatType == .fat32) slots) : False := by
  simp only [locSlots, Option.some.injEq] at hs
  subst hs
  rw [fat16_16, show ((FatType.fat16 == FatType.fat32) = false) from rfl, rootSlots16] at hr
  cases hr

/-- its tree: the root only, and that is empty -/
theorem specDir16 (strict unicode : Bool) (fi : FsInfo) :
    ∀ loc, SpecDir (fsOf strict false true unicode p16 fi) dev16.img loc → loc = .fixedRoot := by
  intro loc h
  induction h with
  | root => unfold rootLoc; rw [fat16_16]; rfl
  | sub loc slots r c _ hs hr _ _ ih => subst ih; exact (noRows16 strict unicode fi hs hr).elim

theorem tree16 (strict unicode : Bool) (fi : FsInfo) : SpecValidTree (fsOf strict false true unicode p16 fi) dev16.img := by
  constructor
  · intro c0 h
    cases specDir16 strict unicode fi _ h
  · intro loc slots r hl hs hr _
    cases specDir16 strict unicode fi _ hl
    exact (noRows16 strict unicode fi hs hr).elim

theorem specValid16 : SpecValidVolume dev16 :=
  ⟨mountable16, by rw [bpbOf16]; exact valid16, by rw [bpbOf16]; exact layout16,
    fun s u fi => by rw [bpbOf16]; exact tree16 s u fi⟩

/-- the volume mounts, and its root directory lists as the specification reads it: empty -/
example : ∃ fs d', run (mount true false true true) dev16 = (.ok fs, d') ∧
    ∃ L d2, run (listDir (rootDirStream d'.fs)) d' = (.ok L, d2) ∧ L.map (libRow fs.fatType) = [] := by
  obtain ⟨fs, d', hrun⟩ := foreign_volume_mounts_fat1x true false true true specValid16 (by rw [boot16]; decide +kernel)
    (by rw [bpbOf16]; decide +kernel)
  obtain ⟨_, hall⟩ := foreign_volume_read_faithful true true specValid16 hrun
  obtain ⟨slots, L, d2, hs, hr, hrows, _⟩ := hall _ _ Walk.root d' rfl rfl rfl
  refine ⟨fs, d', hrun, L, d2, hr, ?_⟩
  rw [hrows]
  -- the root of this FAT16 volume is the fixed root region, which holds no entry
  obtain ⟨fi, hfsOf, hfs'⟩ := mount_fsOf true false true true mountable16 hrun
  rw [bpbOf16] at hfsOf
  subst hfsOf
  rw [hfs', show rootLoc (fsOf true false true true p16 fi) = .fixedRoot by unfold rootLoc; rw [fat16_16]; rfl] at hs
  exact List.eq_nil_iff_forall_not_mem.2 fun r hr => noRows16 true true fi hs hr

end Ex16

/-! ## non-vacuity 2: the volume `DirSim.Ex3` of Props/C01sim (root → sub-directory `SUB` of two clusters → a long-named
   file) — the tree part: `SpecValidTree` holds, the invariants hold, the sub-directory reached through `to_dir` lists as the
   specification reads it (the listing crosses a cluster boundary through the FAT) -/

namespace Ex3v
open DirSim

def fs := DirSim.Ex2.fs
def img := DirSim.Ex3.dev.img

def rowSub : DirSpec.Row :=
  { longName := none, shortName := [83, 85, 66], shortNameNT := [83, 85, 66], isDir := true, attrs := 16, size := 0,
    firstCluster := some 2, created := ((1980, 0, 0), 0, 0, 0, 0), accessed := (1980, 0, 0),
    modified := ((1980, 0, 0), 0, 0, 0, 0), beginIdx := 0, endIdx := 1 }

def rowB : DirSpec.Row :=
  { longName := none, shortName := [66], shortNameNT := [66], isDir := true, attrs := 16, size := 0,
    firstCluster := none, created := ((1980, 0, 0), 0, 0, 0, 0), accessed := (1980, 0, 0),
    modified := ((1980, 0, 0), 0, 0, 0, 0), beginIdx := 0, endIdx := 1 }

def rowHello : DirSpec.Row :=
  { longName := some [72, 101, 108, 108, 111, 46, 116, 120, 116], shortName := [72, 69, 76, 76, 79, 46, 84, 88, 84],
    shortNameNT := [72, 69, 76, 76, 79, 46, 84, 88, 84], isDir := false, attrs := 32, size := 0,
    firstCluster := none, created := ((1980, 0, 0), 0, 0, 0, 0), accessed := (1980, 0, 0),
    modified := ((1980, 0, 0), 0, 0, 0, 0), beginIdx := 16, endIdx := 18 }

theorem rowsRoot : DirSpec.specRows (fs.fatType == .fat32) (rootDirSlots fs img) = [rowSub] := by
  rw [show rootDirSlots fs img = _ from Ex3.root_slots]; decide +kernel
theorem chain2 : specChainOf fs img 2 = some [2, 3] := by decide +kernel
theorem rowsSub : DirSpec.specRows (fs.fatType == .fat32) (chainSlots fs img [2, 3]) = [rowB, rowHello] := by
  rw [show chainSlots fs img [2, 3] = _ from Ex3.chain_slots]; decide +kernel

theorem chainOk2 : SpecChainOk fs img 2 [2, 3] := by
  refine ⟨chain2, ?_⟩
  intro l hl
  have : l = 3 := by simpa using hl.symm
  subst this
  decide +kernel

/-- the rows of the two directories -/
theorem rows3 {loc : Loc} {slots : List (List Nat)} {r : DirSpec.Row} (hs : locSlots fs img loc = some slots)
    (hr : r ∈ DirSpec.specRows (fs.fatType == .fat32) slots) :
    (loc = .fixedRoot → r = rowSub) ∧ (loc = .chain 2 → r = rowB ∨ r = rowHello) := by
  refine ⟨fun h => ?_, fun h => ?_⟩
  · subst h
    simp only [locSlots, Option.some.injEq] at hs
    subst hs
    rw [rowsRoot] at hr
    simpa using hr
  · subst h
    simp only [locSlots, chain2, Option.map_some, Option.some.injEq] at hs
    subst hs
    rw [rowsSub] at hr
    simpa using hr

theorem specDir3 : ∀ loc, SpecDir fs img loc → loc = .fixedRoot ∨ loc = .chain 2 := by
  intro loc h
  induction h with
  | root => left; rfl
  | sub loc slots r c _ hs hr hd hc ih =>
    rcases ih with rfl | rfl
    · have := (rows3 hs hr).1 rfl
      subst this
      right; rw [show c = 2 from (Option.some.inj hc).symm]
    · rcases (rows3 hs hr).2 rfl with rfl | rfl
      · simp [rowB] at hc
      · exact absurd hd (by decide)

theorem tree3 : SpecValidTree fs img := by
  constructor
  · intro c0 h
    rcases specDir3 _ h with h' | h'
    · cases h'
    · cases h'
      exact ⟨[2, 3], chainOk2, by decide⟩
  · intro loc slots r hl hs hr hfile
    rcases specDir3 _ hl with rfl | rfl
    · have := (rows3 hs hr).1 rfl
      subst this
      exact absurd hfile (by decide)
    · rcases (rows3 hs hr).2 rfl with rfl | rfl
      · exact absurd hfile (by decide)
      · exact ⟨fun _ => rfl, fun c0 h => by cases h⟩

theorem geo3 : Geo DirSim.Ex3.dev.fs DirSim.Ex3.dev.img.size := by
  have e1 : DirSim.Ex3.dev.img.size = 4096 := rfl
  have e2 : DirSim.Ex2.dev.img.size = 4096 := rfl
  have e3 : DirSim.Ex3.dev.fs = DirSim.Ex2.dev.fs := rfl
  have := DirSim.Ex2.readable.dir.geo
  rw [e2] at this
  rw [e1, e3]
  exact this

theorem volInv3 : VolInv DirSim.Ex3.dev where
  noFault := rfl
  geo := geo3
  alloc := rfl
  noAcc := rfl
  cs32 := by decide
  root := fun _ => ⟨16, DirSim.Ex3.root⟩
  tree := tree3

/-- the root lists as the specification reads it; `to_dir` of its one entry is the handle of `.chain 2`; that directory
    lists as the specification reads the slots of clusters 2 and 3; its file reads (to the end) as the specification's
    content -/
example : ∃ L d1 e, run (listDir (rootDirStream DirSim.Ex3.dev.fs)) DirSim.Ex3.dev = (.ok L, d1) ∧
    L.map (libRow fs.fatType) = [rowSub] ∧ e ∈ L ∧
    ∃ L2 d2, run (listDir (.file (FileH.new (some 2) (some e.editor)))) d1 = (.ok L2, d2) ∧
      L2.map (libRow fs.fatType) = [rowB, rowHello] := by
  have hv := volInv3
  obtain ⟨slots, L, d1, hs, hr, hrows, _, i1, i2, i3, _⟩ :=
    dir_faithful hv (rootLoc DirSim.Ex3.dev.fs) SpecDir.root _ (handleFor_root _)
  have hs' : slots = rootDirSlots fs img := by
    have : locSlots DirSim.Ex3.dev.fs DirSim.Ex3.dev.img (rootLoc DirSim.Ex3.dev.fs) = some (rootDirSlots fs img) := rfl
    rw [this] at hs; exact (Option.some.inj hs).symm
  subst hs'
  have hrows' : L.map (libRow fs.fatType) = [rowSub] := by
    have := hrows
    rw [show DirSpec.specRows (DirSim.Ex3.dev.fs.fatType == FatType.fat32) (rootDirSlots fs img) = [rowSub] from rowsRoot]
      at this
    exact this
  -- the one entry
  obtain ⟨e, he, hrow⟩ : ∃ e, e ∈ L ∧ libRow fs.fatType e = rowSub := by
    cases L with
    | nil => simp at hrows'
    | cons e t => exact ⟨e, by simp, by simpa using (List.cons.inj hrows').1⟩
  have hdir : e.isDir = true := by
    have : (libRow fs.fatType e).isDir = true := by rw [hrow]; rfl
    exact this
  have hfc : e.firstCluster DirSim.Ex3.dev.fs = some 2 := by
    have : (libRow fs.fatType e).firstCluster = some 2 := by rw [hrow]; rfl
    exact this
  obtain ⟨_, hloc2, hh2⟩ := child_handle (d := DirSim.Ex3.dev) (rootLoc DirSim.Ex3.dev.fs) SpecDir.root _ hs L hrows e he
    hdir 2 hfc
  have hv1 := hv.of_same i2 i1 i3
  obtain ⟨slots2, L2, d2, hs2, hr2, hrows2, _⟩ :=
    dir_faithful hv1 (.chain 2) (by rw [i2, i1]; exact hloc2) _ (by rw [i2]; exact hh2)
  refine ⟨L, d1, e, hr, hrows', he, L2, d2, hr2, ?_⟩
  have : slots2 = chainSlots fs img [2, 3] := by
    rw [i2, i1] at hs2
    have h3 : locSlots DirSim.Ex3.dev.fs DirSim.Ex3.dev.img (.chain 2) = some (chainSlots fs img [2, 3]) := by
      show (specChainOf fs img 2).map (chainSlots fs img) = _
      rw [chain2]; rfl
    rw [h3] at hs2; exact (Option.some.inj hs2).symm
  subst this
  rw [i2] at hrows2
  rw [show DirSpec.specRows (DirSim.Ex3.dev.fs.fatType == FatType.fat32) (chainSlots fs img [2, 3]) = [rowB, rowHello]
    from rowsSub] at hrows2
  exact hrows2

end Ex3v

end C08
end FatVerif
