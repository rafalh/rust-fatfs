import FatVerif.Props.C03fat
import FatVerif.Model.DirAlias
/-!
# C05 — free-space accounting at the FAT-table level (`table.rs`)

`count_free` (all widths, incl. the FAT12 streaming decoder), soundness/completeness of `NotEnoughSpace`,
reclamation by `ClusterIterator::free`, and (C08.1) classification = specification.
-/
namespace FatVerif.C05
open FatVerif.Fat FatVerif.FatSpec

/-- byte-level `count_free_clusters` = number of `c ∈ [2,total+2)` with `view c = Free`, for FAT12 (streaming
    decoder with `prev_packed_val`), FAT16 and FAT32 — and that is the count of the independent spec decoder -/
theorem countFree_spec (ft : FatType) (f : Array Nat) (total : Nat) (ht : TableOk ft f total) :
    countFree ft f total = .ok (countFreeV (view ft f) total) ∧
    countFreeV (view ft f) total = specCountFree ft.bits f total :=
  ⟨countFree_sim ht, countFreeV_spec ht⟩

/-- FAT12, 5 data clusters (entries 2..6 = 3, EOC, 0, 0, BAD): two free -/
def exFat12 : Array Nat := #[0xF8, 0xFF, 0xFF, 0x03, 0xF0, 0xFF, 0x00, 0x00, 0x00, 0xF7, 0x0F]

theorem exFat12_ok : TableOk .fat12 exFat12 5 :=
  ⟨wfBytes_of_all _ (by decide), fun c hc => by simp only [InRange, off, width, exFat12, u32Lim]; simp; omega,
   by decide⟩

set_option maxRecDepth 8000 in
example : countFree .fat12 exFat12 5 = .ok 2 := by decide +kernel

/-- `NotEnoughSpace` is sound: it is returned only if no entry of `[2,total+2)` is free — for every hint value and
    every `total`, zero included (no condition that the first scan start inside the table: only the FAT12 empty-range
    defect F21, repaired in commit 8aee7d6, needed one). -/
theorem alloc_nospace_sound (ft : FatType) (f : Array Nat) (total : Nat) (ht : TableOk ft f total)
    (prev hint : Option Nat)
    (h : (allocCluster f ft prev hint total).out = .error .noSpace) :
    ∀ i, 2 ≤ i → i < total + 2 → view ft f i ≠ .free :=
  allocFindV_none _ _ _ (allocCluster_noSpace_inv ht prev hint h)

/-- converse (completeness): if no entry of `[2,total+2)` is free the call fails with `NotEnoughSpace` and leaves the
    bytes alone. Needs the hint to be absent or `≥ 2`: a hint of 0/1 makes the scan look at the reserved entries. -/
theorem alloc_nospace_complete (ft : FatType) (f : Array Nat) (total : Nat) (ht : TableOk ft f total)
    (prev hint : Option Nat) (hh : ∀ n, hint = some n → 2 ≤ n)
    (h : ∀ i, 2 ≤ i → i < total + 2 → view ft f i ≠ .free) :
    allocCluster f ft prev hint total = ⟨.error .noSpace, f⟩ := by
  apply allocCluster_noSpace ht prev hint
  cases hf : allocFindV (view ft f) hint total with
  | none => rfl
  | some c =>
    obtain ⟨a, b, c'⟩ := allocFindV_some _ _ _ _ hh hf
    exact absurd c' (h c a b)

/-- F9 regression (repaired in commit 42d2b2d: the retry arm is `Err(Error::NotEnoughSpace) if start_cluster > 2`).
    The table is too short for `total = 5` (entries 4.. are past the end). Before the repair the hinted call swallowed
    the read error of the first scan and answered `NotEnoughSpace`; now both calls report the read error. -/
theorem alloc_error_propagated_regression :
    (allocCluster #[0xF8, 0xFF, 0xFF, 0xFF, 0xFF, 0xFF, 0xFF, 0xFF] .fat16 none none 5).out = .error .eof ∧
    (allocCluster #[0xF8, 0xFF, 0xFF, 0xFF, 0xFF, 0xFF, 0xFF, 0xFF] .fat16 none (some 4) 5).out = .error .eof :=
  ⟨rfl, rfl⟩

/-- in general: an error of the first scan other than `NotEnoughSpace` is the result of `allocFind` -/
theorem alloc_first_scan_error_propagates (ft : FatType) (f : Array Nat) (start endc : Nat) (e : Err)
    (h : findFree ft f start endc = .error e) (he : e ≠ .noSpace) : allocFind ft f start endc = .error e := by
  unfold allocFind
  rw [h]; simp only
  rw [if_neg (fun hh => he hh.1)]

/-- a full FAT16 table: 3 data clusters, all taken -/
def exFull : Array Nat := #[0xF8, 0xFF, 0xFF, 0xFF, 0x03, 0x00, 0x04, 0x00, 0xFF, 0xFF]

example : TableOk .fat16 exFull 3 ∧ (allocCluster exFull .fat16 none (some 3) 3).out = .error .noSpace :=
  ⟨⟨wfBytes_of_all _ (by decide), fun c hc => by simp only [InRange, off, width, exFull, u32Lim]; simp; omega,
    by decide⟩, rfl⟩

/-- with a hint of 0 the completeness direction fails: the scan "finds" a zero reserved entry 0 -/
theorem alloc_nospace_complete_counterexample :
    (allocCluster #[0x00, 0x00, 0xFF, 0xFF, 0xFF, 0xFF] .fat16 none (some 0) 1).out = .ok 0 := rfl

/-- `ClusterIterator::free` on an acyclic chain of allocated data clusters returns its length, frees exactly its
    members, leaves every other entry's raw value alone, and `count_free` grows by exactly that length -/
theorem free_reclaims (ft : FatType) (f : Array Nat) (total c : Nat) (cs : List Nat) (ht : TableOk ft f total)
    (hch : Chain (view ft f) c cs) (hnd : cs.Nodup)
    (hin : ∀ k, k ∈ cs → 2 ≤ k ∧ k < total + 2 ∧ view ft f k ≠ .free) (fuel : Nat) (hfuel : cs.length ≤ fuel) :
    ∃ f' n, freeChain ft f c fuel = ⟨.ok cs.length, f'⟩ ∧
      (∀ k, k ∈ cs → view ft f' k = .free) ∧ (∀ k, k ∉ cs → getRaw ft f' k = getRaw ft f k) ∧
      countFree ft f total = .ok n ∧ countFree ft f' total = .ok (n + cs.length) := by
  obtain ⟨f', h1, _, ht', h4, h5⟩ := C03fat.free_spec ft f total c cs ht hch hnd (fun k hk => (hin k hk).2.1) fuel hfuel
  refine ⟨f', countFreeV (view ft f) total, h1, h4, h5, countFree_sim ht, ?_⟩
  rw [countFree_sim ht']
  congr 1
  exact countFreeV_free_list cs (view ft f) (view ft f') total hnd hin h4
    (fun k hk => by rw [view_eq_of_getRaw_eq (h5 k hk)])

set_option maxRecDepth 8000 in
example : Chain (view .fat12 exFat12) 2 [2, 3] ∧ (freeChain .fat12 exFat12 2 5).out = .ok 2 ∧
    countFree .fat12 (freeChain .fat12 exFat12 2 5).fat 5 = .ok 4 :=
  ⟨Chain.cons 2 3 [3] rfl (Chain.last 3 (by intro n h; cases h)), by decide +kernel, by decide +kernel⟩

/-- the chain must consist of allocated entries: "freeing" a chain that starts at a free entry returns 1 although
    nothing was reclaimed (the callers never do this: a file's first cluster is allocated) -/
theorem free_reclaims_counterexample :
    (freeChain .fat12 exFat12 4 5).out = .ok 1 ∧ countFree .fat12 (freeChain .fat12 exFat12 4 5).fat 5 = .ok 2 := by
  decide +kernel

/-- **C08.1** classification = specification for EVERY raw value: all 2^12 FAT12 values and all 2^16 FAT16 values
    (the two classifiers cut the range at the same points), all 2^28 FAT32 values (likewise; the reserved top nibble is
    ignored; cluster NUMBERS 0x0FFFFFF7..0x0FFFFFFF excluded — for those the library deliberately answers `Bad`). -/
theorem fatGet_spec :
    (∀ v, v < 4096 → classify .fat12 0 v = specClassify 12 v) ∧
    (∀ v, v < 65536 → classify .fat16 0 v = specClassify 16 v) ∧
    (∀ c v, ¬ special32 c → v < 4294967296 → classify .fat32 c v = specClassify 32 (v % 268435456)) :=
  ⟨classify12_spec, classify16_spec, fun c v hc _ => classify32_spec c _ hc (Nat.mod_lt _ (by decide))⟩

/-- … and byte-level `get` = the specification decoder on every readable entry (right bits, right class) -/
theorem fatGet_spec_bytes (ft : FatType) (f : Array Nat) (hf : WfBytes f) (c : Nat) (h : Plain ft f c) :
    get ft f c = .ok (specValue ft.bits f c) :=
  get_spec ft f hf c h

example : get .fat12 exFat12 6 = .ok .bad ∧ specValue 12 exFat12 6 = .bad ∧ Plain .fat12 exFat12 6 :=
  ⟨rfl, by decide, ⟨by decide, by intro h; cases h⟩⟩

/-- the deliberate deviation: FAT32 entry NUMBER 0x0FFFFFF7 reads as `Bad` whatever it holds, the spec decoder
    would say `Free` for a zero entry -/
theorem fatGet_spec_counterexample : classify .fat32 0x0FFFFFF7 0 = .bad ∧ specClassify 32 0 = .free :=
  ⟨by decide, by decide⟩

end FatVerif.C05
