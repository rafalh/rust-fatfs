import FatVerif.Proofs.MountRun
import FatVerif.Props.C07
import FatVerif.Props.C11
import FatVerif.Props.C12
import FatVerif.Props.C13
/-! # C07 on the mount PROGRAM

`FatVerif.mount` (Model/Fs.lean) is the effectful model of `FileSystem::new` that the history correspondence check
validates call by call. The theorems of Props/C07.lean are about the pure functions `probe` / `mountGeometry` on byte
lists. `mount_run` (Proofs/MountRun.lean) connects the two: on a fault-free device positioned at 0 that holds at
least a boot sector, `run (mount …)` returns `mountGeometry` of the first 512 bytes and of the 512 bytes at the FS-info
location (mapped to the mounted state `mountedFs`), and leaves image and log alone. Here: the corollaries that state
C07 about the program. -/
namespace FatVerif.C07run
open GeoSpec

/-- the devices `FileSystem::new` is specified on: positioned at 0 (`debug_assert!`), no fault scheduled, at least one
    boot sector long -/
structure Mountable (d : Dev) : Prop where
  pos : d.pos = 0
  noFault : d.failAt = none
  size : 512 ≤ d.img.size

/-- the boot sector of the device -/
def bootOf (d : Dev) : List Nat := d.img.read 0 512

/-- the 512 bytes at the FS-info location named by the boot sector -/
def fsInfoOf (d : Dev) : List Nat := d.img.read (fsInfoOffset (bootOf d)) 512

/-- the FS-info sector of an accepted FAT32 volume lies inside the device -/
def FsInfoInside (strict : Bool) (d : Dev) : Prop :=
  ∀ g, probe (bootOf d) strict = .ok g → g.fatType = .fat32 → fsInfoOffset (bootOf d) + 512 ≤ d.img.size

/-- a pair whose first component is known (avoids evaluating a run twice, as `Prod.ext h rfl` would) -/
theorem _root_.FatVerif.run_of_fst {α β : Type} {p : α × β} {a : α} (h : p.1 = a) : p = (a, p.2) := by rw [← h]

theorem isSector_bootOf (d : Dev) : IsSector (bootOf d) := isSector_read _ _

/-! ## the connection -/

/-- **`mount_run`**: the program computes the pure mount. `run (mount …) d` = `mountGeometry` of the boot sector and
    the FS-info bytes, as a mounted state; image, log, fault schedule are as before; on success the device's mounted
    state is the returned one, on failure it is untouched. -/
theorem mount_run (strict accDate lfnAlloc unicode : Bool) {d : Dev} (hd : Mountable d)
    (hfi : FsInfoInside strict d) :
    ∃ d', run (mount strict accDate lfnAlloc unicode) d =
        ((mountGeometry (bootOf d) (fsInfoOf d) strict).map (mountedFs strict accDate lfnAlloc unicode), d') ∧
      MountFrame d d' ∧
      (∀ m, mountGeometry (bootOf d) (fsInfoOf d) strict = .ok m →
        d'.fs = mountedFs strict accDate lfnAlloc unicode m) ∧
      (∀ e, mountGeometry (bootOf d) (fsInfoOf d) strict = .error e → d'.fs = d.fs) :=
  FatVerif.mount_run strict accDate lfnAlloc unicode d hd.pos hd.noFault hd.size hfi

/-- (a) a boot sector `probe` rejects: the program fails with the same error, which is `CorruptedFileSystem`; nothing
    changes -/
theorem mount_run_error (strict accDate lfnAlloc unicode : Bool) {d : Dev} (hd : Mountable d) {e : Err}
    (hp : probe (bootOf d) strict = .error e) :
    ∃ d', run (mount strict accDate lfnAlloc unicode) d = (.error e, d') ∧ e = .corrupted ∧
      MountFrame d d' ∧ d'.fs = d.fs := by
  have hfi : FsInfoInside strict d := fun g hg => by rw [hp] at hg; cases hg
  obtain ⟨d', h1, h2, _, h4⟩ := mount_run strict accDate lfnAlloc unicode hd hfi
  have hm : mountGeometry (bootOf d) (fsInfoOf d) strict = .error e := by
    unfold mountGeometry; rw [hp]; rfl
  rw [hm] at h1
  exact ⟨d', h1, probe_error (isSector_bootOf d) hp, h2, h4 e hm⟩

/-- the pure mount of an accepted FAT12/16 volume: no FS-info -/
theorem mountGeometry_fat1x {bs fi : List Nat} {strict : Bool} {g : Geometry} (hb : IsSector bs)
    (hp : probe bs strict = .ok g) (h32 : g.fatType ≠ .fat32) :
    mountGeometry bs fi strict = .ok ⟨(BootSector.deserialize bs).bpb, g, {}⟩ := by
  rw [mountGeometry_eq hb, hp, ebind_ok, if_neg h32, ebind_ok, FsInfo.kept_empty]

/-- (b) an accepted FAT12/16 volume: the program succeeds without touching the FS-info sector; every geometry field
    of the mounted state is the one `probe` derives, no free count and no hint are cached -/
theorem mount_run_fat1x (strict accDate lfnAlloc unicode : Bool) {d : Dev} (hd : Mountable d) {g : Geometry}
    (hp : probe (bootOf d) strict = .ok g) (h32 : g.fatType ≠ .fat32) :
    ∃ d', run (mount strict accDate lfnAlloc unicode) d =
        (.ok (mountedFs strict accDate lfnAlloc unicode ⟨(BootSector.deserialize (bootOf d)).bpb, g, {}⟩), d') ∧
      MountFrame d d' ∧
      d'.fs = mountedFs strict accDate lfnAlloc unicode ⟨(BootSector.deserialize (bootOf d)).bpb, g, {}⟩ := by
  have hfi : FsInfoInside strict d := fun g' hg h => by
    rw [hp] at hg; cases hg; exact absurd h h32
  obtain ⟨d', h1, h2, h3, _⟩ := mount_run strict accDate lfnAlloc unicode hd hfi
  have hm := mountGeometry_fat1x (fi := fsInfoOf d) (isSector_bootOf d) hp h32
  rw [hm] at h1
  exact ⟨d', h1, h2, h3 _ hm⟩

/-- the fields of the mounted state in case (b), spelled out -/
theorem mountedFs_fields (strict accDate lfnAlloc unicode : Bool) (p : Bpb) (g : Geometry) (fi : FsInfo) :
    let fs := mountedFs strict accDate lfnAlloc unicode ⟨p, g, fi⟩
    fs.fatType = g.fatType ∧ fs.bps = g.bytesPerSector ∧ fs.spc = p.sectorsPerCluster ∧
    fs.reserved = g.reservedSectors ∧ fs.fats = g.fats ∧ fs.spf = g.sectorsPerFat ∧
    fs.rootDirSectors = g.rootDirSectors ∧ fs.firstDataSector = g.firstDataSector ∧
    fs.totalClusters = g.totalClusters ∧ fs.totalSectors = g.totalSectors ∧
    fs.rootCluster = g.rootDirFirstCluster ∧ fs.fsInfoSector = g.fsInfoSector ∧ fs.mirroring = g.mirroring ∧
    fs.activeFat = g.activeFat ∧ fs.bpbDirty = g.statusDirty ∧ fs.bpbIoErr = g.statusIoError ∧
    fs.curDirty = g.statusDirty ∧ fs.curIoErr = g.statusIoError ∧ fs.statusRaw = p.reserved1 ∧
    fs.fsInfo = fi.toSt ∧ fs.strict = strict ∧ fs.accDate = accDate :=
  ⟨rfl, rfl, rfl, rfl, rfl, rfl, rfl, rfl, rfl, rfl, rfl, rfl, rfl, rfl, rfl, rfl, rfl, rfl, rfl, rfl, rfl, rfl⟩

/-- (c) an accepted FAT32 volume whose FS-info sector lies inside the device: bad signatures give
    `CorruptedFileSystem`; otherwise the mount succeeds, the cached free count is `≤ total_clusters` (and absent on a
    dirty volume), the next-free hint is in `[2, total_clusters + 2]` — the values of `C07.fsinfo_fixed_mount` -/
theorem mount_run_fat32 (strict accDate lfnAlloc unicode : Bool) {d : Dev} (hd : Mountable d) {g : Geometry}
    (hp : probe (bootOf d) strict = .ok g) (_h32 : g.fatType = .fat32)
    (hin : fsInfoOffset (bootOf d) + 512 ≤ d.img.size) :
    ∃ d', MountFrame d d' ∧
      ((run (mount strict accDate lfnAlloc unicode) d = (.error .corrupted, d') ∧ d'.fs = d.fs ∧
          mountGeometry (bootOf d) (fsInfoOf d) strict = .error .corrupted) ∨
       (∃ m, mountGeometry (bootOf d) (fsInfoOf d) strict = .ok m ∧ m.geo = g ∧
          run (mount strict accDate lfnAlloc unicode) d = (.ok (mountedFs strict accDate lfnAlloc unicode m), d') ∧
          d'.fs = mountedFs strict accDate lfnAlloc unicode m ∧
          (∀ n, d'.fs.fsInfo.free = some n → n ≤ g.totalClusters ∧ g.statusDirty = false) ∧
          (∀ n, d'.fs.fsInfo.next = some n → 2 ≤ n ∧ n ≤ g.totalClusters + 2))) := by
  have hfi : FsInfoInside strict d := fun _ _ _ => hin
  obtain ⟨d', h1, h2, h3, h4⟩ := mount_run strict accDate lfnAlloc unicode hd hfi
  refine ⟨d', h2, ?_⟩
  cases hm : mountGeometry (bootOf d) (fsInfoOf d) strict with
  | error e =>
    have he := mountGeometry_error (isSector_bootOf d) hm
    subst he
    rw [hm] at h1
    exact Or.inl ⟨h1, h4 _ hm, rfl⟩
  | ok m =>
    have hgeo : m.geo = g := by
      obtain ⟨_, hg, _⟩ := mountGeometry_ok (isSector_bootOf d) hm
      rw [hp] at hg; exact (Except.ok.inj hg).symm
    obtain ⟨f1, f2, _⟩ := C07.fsinfo_fixed_mount hm
    rw [hm] at h1
    refine Or.inr ⟨m, rfl, hgeo, h1, h3 m hm, ?_, ?_⟩
    · intro n hn
      rw [h3 m hm] at hn
      rw [← hgeo]; exact f1 n hn
    · intro n hn
      rw [h3 m hm] at hn
      rw [← hgeo]; exact f2 n hn

/-! ## C07 about the program -/

/-- **C07.1 on the program**: on every fault-free device positioned at 0 that holds at least a boot sector — wherever
    its FS-info sector points — the mount program returns a mounted state or an ordinary error; never a panic, never
    a hang. -/
theorem mount_run_total (strict accDate lfnAlloc unicode : Bool) {d : Dev} (hd : Mountable d) :
    (run (mount strict accDate lfnAlloc unicode) d).1 ≠ .error .panic ∧
    (run (mount strict accDate lfnAlloc unicode) d).1 ≠ .error .hang := by
  constructor <;> intro h
  all_goals
    cases mount_run_nonfatal strict accDate lfnAlloc unicode d hd.pos hd.noFault hd.size (run_of_fst h)

/-- **C07.2 on the program**: the program accepts only coherent geometries -/
theorem mount_run_accepts_coherent (strict accDate lfnAlloc unicode : Bool) {d : Dev} (hd : Mountable d)
    {fs : FsState} {d' : Dev} (hrun : run (mount strict accDate lfnAlloc unicode) d = (.ok fs, d')) :
    Coherent (bootOf d) := by
  obtain ⟨_, _, hp, _⟩ := mount_run_ok strict accDate lfnAlloc unicode d hd.pos hd.noFault hd.size hrun
  exact C07.mount_accepts_coherent (isSector_bootOf d) hp

/-- **C07.3 on the program**: FAT width, cluster size and cluster count of the mounted state equal the independent
    parse of the boot sector -/
theorem mount_run_geometry (strict accDate lfnAlloc unicode : Bool) {d : Dev} (hd : Mountable d)
    {fs : FsState} {d' : Dev} (hrun : run (mount strict accDate lfnAlloc unicode) d = (.ok fs, d')) :
    (fs.fatType, fs.clusterSize, fs.totalClusters) = specGeometry (bootOf d) ∧ d'.fs = fs := by
  obtain ⟨fi, _, hp, rfl, hfs⟩ := mount_run_ok strict accDate lfnAlloc unicode d hd.pos hd.noFault hd.size hrun
  refine ⟨?_, hfs⟩
  have hb := isSector_bootOf d
  unfold bootOf at hb ⊢
  generalize d.img.read 0 512 = bs at *
  rw [← C07.mount_geometry hb hp]
  simp only [FsState.clusterSize, mountedFs, Bpb.geoOf]
  rw [Nat.mul_comm]
  rfl

/-- **C07.4 on the program** (any FS-info location): after a successful mount the cached free count is
    `≤ total_clusters` or absent, the hint `≤ total_clusters + 2` or absent -/
theorem mount_run_fsinfo (strict accDate lfnAlloc unicode : Bool) {d : Dev} (hd : Mountable d)
    (hfi : FsInfoInside strict d)
    {fs : FsState} {d' : Dev} (hrun : run (mount strict accDate lfnAlloc unicode) d = (.ok fs, d')) :
    (∀ n, fs.fsInfo.free = some n → n ≤ fs.totalClusters ∧ fs.bpbDirty = false) ∧
    (∀ n, fs.fsInfo.next = some n → 2 ≤ n ∧ n ≤ fs.totalClusters + 2) ∧
    (fs.fatType ≠ .fat32 → fs.fsInfo.free = none ∧ fs.fsInfo.next = none) := by
  obtain ⟨d1, h1, _⟩ := mount_run strict accDate lfnAlloc unicode hd hfi
  rw [h1] at hrun
  cases hm : mountGeometry (bootOf d) (fsInfoOf d) strict with
  | error e => rw [hm] at hrun; cases hrun
  | ok m =>
    rw [hm] at hrun
    cases hrun
    exact C07.fsinfo_fixed_mount hm

/-- the mount program never writes: image and write records are as before, whatever the device and the outcome
    (`mount_readonly` of Props/C13 and `mount_writes_nothing` of Props/C11 in one statement) -/
theorem mount_run_writes_nothing (strict accDate lfnAlloc unicode : Bool) (d : Dev) {r d'}
    (hr : run (mount strict accDate lfnAlloc unicode) d = (r, d')) :
    d'.img = d.img ∧ d'.writesOf = d.writesOf ∧ LogAll (fun _ _ => False) d d' :=
  ⟨((mount_readonly (fs0 := d.fs) strict accDate lfnAlloc unicode).out d r d' rfl hr).1.1,
   ((mount_readonly (fs0 := d.fs) strict accDate lfnAlloc unicode).out d r d' rfl hr).1.2,
   mount_writes_nothing strict accDate lfnAlloc unicode d hr⟩

/-! ## the status byte (discharges the hypotheses of `unmount_restores_mount_byte`, Props/C12) -/

/-- `reserved_1` of an accepted boot sector is its byte at 0x41 (FAT32) / 0x25 (FAT12/16): the layout the bytes are
    read in and the FAT type derived from the cluster count agree (`Valid.width`) -/
theorem status_byte {bs : List Nat} (hv : (Bpb.deserialize bs).Valid) :
    (Bpb.deserialize bs).reserved1 =
      bs.getD (if FatType.fromClusters (Bpb.deserialize bs).tcNat = .fat32 then 0x41 else 0x25) 0 := by
  have hw := hv.width
  rw [Bpb.des_isFat32, beq_iff_eq] at hw
  rw [Bpb.des_reserved1]
  by_cases h : u16At bs 22 = 0
  · rw [if_pos h, if_pos (hw.1 h)]; rfl
  · rw [if_neg h, if_neg (mt hw.2 h)]; rfl

/-- **`mount_run_status`**: after a successful mount, `fs.statusRaw` is the byte of the image at 0x41 (FAT32) / 0x25
    (FAT12/16), and `fs.bpbDirty` / `fs.bpbIoErr` are its bits 0 / 1 -/
theorem mount_run_status (strict accDate lfnAlloc unicode : Bool) {d : Dev} (hd : Mountable d)
    {fs : FsState} {d' : Dev} (hrun : run (mount strict accDate lfnAlloc unicode) d = (.ok fs, d')) :
    fs.statusRaw = d.img.getByte (statusOff fs) ∧ fs.statusRaw < 256 ∧
    fs.bpbDirty = (fs.statusRaw % 2 == 1) ∧ fs.bpbIoErr = (fs.statusRaw / 2 % 2 == 1) ∧
    fs.curDirty = fs.bpbDirty ∧ fs.curIoErr = fs.bpbIoErr ∧ d'.fs = fs := by
  obtain ⟨fi, hv, _, hfs, hfs'⟩ := mount_run_ok strict accDate lfnAlloc unicode d hd.pos hd.noFault hd.size hrun
  change (Bpb.deserialize (bootOf d)).Valid at hv
  change fs = mountedFs strict accDate lfnAlloc unicode ⟨(BootSector.deserialize (bootOf d)).bpb, (Bpb.deserialize (bootOf d)).geoOf, fi⟩ at hfs
  have hb := isSector_bootOf d
  have hget : ∀ k, k < 512 → (bootOf d).getD k 0 = d.img.getByte k := fun k hk => by
    rw [bootOf, Img.read_getD _ _ _ _ hk, Nat.zero_add]
  generalize bootOf d = bs at *
  subst hfs
  refine ⟨?_, (Bpb.deserialize_inRange hb).reserved1, rfl, rfl, rfl, rfl, hfs'⟩
  show (Bpb.deserialize bs).reserved1 =
    d.img.getByte (if (FatType.fromClusters (Bpb.deserialize bs).tcNat == .fat32) = true then 0x41 else 0x25)
  simp only [beq_iff_eq]
  rw [← hget _ (by split <;> omega)]
  exact status_byte hv

/-- **`unmount_restores_mount_byte_run`**: mount a volume successfully; at any later state whose mount-time fields
    (`statusRaw`, `bpbDirty`, `bpbIoErr`, `fatType` — never modified after mount) are still those of the mounted
    state, a successful `unmount_internal` that has to write the status byte (the current flags differ from the
    mount-time ones) writes exactly the byte the image held at 0x41 / 0x25 when it was mounted — all eight bits. -/
theorem unmount_restores_mount_byte_run (strict accDate lfnAlloc unicode : Bool) {d : Dev} (hd : Mountable d)
    {fs : FsState} {d1 : Dev} (hrun : run (mount strict accDate lfnAlloc unicode) d = (.ok fs, d1))
    (dl : Dev) (hraw : dl.fs.statusRaw = fs.statusRaw) (hdty : dl.fs.bpbDirty = fs.bpbDirty)
    (hio : dl.fs.bpbIoErr = fs.bpbIoErr) (hft : dl.fs.fatType = fs.fatType)
    {u : Unit} {d' : Dev} (hu : run unmountInternal dl = (.ok u, d'))
    (hdiff : ¬ (dl.fs.curDirty = dl.fs.bpbDirty ∧ dl.fs.curIoErr = dl.fs.bpbIoErr)) :
    ∃ dm : Dev, run flushFsInfo dl = (.ok (), dm) ∧
      d'.log = .write (statusOff fs) [d.img.getByte (statusOff fs)] :: dm.log := by
  obtain ⟨h1, h2, h3, h4, _⟩ := mount_run_status strict accDate lfnAlloc unicode hd hrun
  obtain ⟨dm, hm1, hm2⟩ := unmount_restores_mount_byte dl hu (by rw [hraw]; exact h2)
    (by rw [hdty, hraw]; exact h3) (by rw [hio, hraw]; exact h4) hdiff
  refine ⟨dm, hm1, ?_⟩
  have hoff : statusOff dl.fs = statusOff fs := by unfold statusOff; rw [hft]
  rw [hm2, hoff, hraw, h1]

/-! ## satisfiability: concrete devices

`Img.ofBytes` (Proofs/DevRun.lean) gives images whose reads the kernel can evaluate (the `HashMap`-backed
`Img.write` does not reduce), so the hypotheses above are shown satisfiable by real `Dev` values. -/
namespace Ex
open C07

/-- a 16 MiB device holding the FAT16 boot sector `goodFat16` -/
def dev16 : Dev := { img := Img.ofBytes goodFat16 (16 * 1024 * 1024) }

/-- a 34 MiB device holding the FAT32 boot sector `goodFat32` and, in sector 1, an FS-info sector -/
def dev32 : Dev := { img := Img.ofBytes (goodFat32 ++ fsInfoSector 68552 68554) (69632 * 512) }

/-- a blank 4 KiB device -/
def dev0 : Dev := { img := Img.ofBytes [] 4096 }

theorem boot16 : bootOf dev16 = goodFat16 := by
  unfold bootOf dev16
  rw [Img.ofBytes_read_slice _ _ 0 512 (by omega) (by decide +kernel) (by decide +kernel)]
  decide +kernel

theorem boot32 : bootOf dev32 = goodFat32 := by
  unfold bootOf dev32
  rw [Img.ofBytes_read_slice _ _ 0 512 (by omega) (by decide +kernel) (by decide +kernel)]
  decide +kernel

theorem fsInfoOffset32 : fsInfoOffset goodFat32 = 512 := by decide +kernel

theorem fsinfo32 : fsInfoOf dev32 = fsInfoSector 68552 68554 := by
  unfold fsInfoOf
  rw [boot32, fsInfoOffset32]
  unfold dev32
  rw [Img.ofBytes_read_slice _ _ 512 512 (by omega) (by decide +kernel) (by decide +kernel)]
  decide +kernel

theorem boot0 : bootOf dev0 = List.replicate 512 0 := by
  unfold bootOf dev0
  rw [Img.ofBytes_read _ _ 0 512 (by omega) (by decide)]
  decide +kernel

theorem fsInfoInside32 : FsInfoInside true dev32 := fun _ _ _ => by
  rw [boot32, fsInfoOffset32]; decide

/-- the geometry of the FAT32 example (`goodFat32`) -/
def geo32 : Geometry :=
  { fatType := .fat32, bytesPerSector := 512, clusterSize := 512, totalClusters := 68552, firstDataSector := 1080,
    rootDirSectors := 0, sectorsPerFat := 536, reservedSectors := 8, fats := 2, totalSectors := 69632,
    mirroring := true, activeFat := 0, rootDirFirstCluster := 2, fsInfoSector := 1, backupBootSector := 6,
    statusDirty := false, statusIoError := false }

/-- the pure mount of the FAT32 example: its FS-info values (free = total, hint = total + 2) pass `validate_and_fix` -/
theorem mount32 : ∃ m, mountGeometry goodFat32 (fsInfoSector 68552 68554) true = .ok m ∧
    m.geo = geo32 ∧ m.bpb.sectorsPerCluster = 1 ∧
    m.fsInfo = { freeClusterCount := some 68552, nextFreeCluster := some 68554, dirty := false } := by
  have hm : (mountGeometry goodFat32 (fsInfoSector 68552 68554) true).toOption.map
      (fun m => (m.geo, m.bpb.sectorsPerCluster, m.fsInfo)) = some (geo32, 1,
        { freeClusterCount := some 68552, nextFreeCluster := some 68554, dirty := false }) := by decide +kernel
  cases hg : mountGeometry goodFat32 (fsInfoSector 68552 68554) true with
  | error e => rw [hg] at hm; cases hm
  | ok m =>
    rw [hg] at hm
    simp only [Except.toOption, Option.map_some, Option.some.injEq, Prod.mk.injEq] at hm
    exact ⟨m, rfl, hm⟩

theorem mountable16 : Mountable dev16 := ⟨rfl, rfl, by decide⟩
theorem mountable32 : Mountable dev32 := ⟨rfl, rfl, by decide⟩
theorem mountable0 : Mountable dev0 := ⟨rfl, rfl, by decide⟩

/-- (a): the blank device is rejected with `CorruptedFileSystem` -/
example : ∃ d', run (mount true false true true) dev0 = (.error .corrupted, d') ∧ d'.img = dev0.img ∧ d'.log = [] := by
  have hp : probe (bootOf dev0) true = .error .corrupted := by rw [boot0]; decide +kernel
  obtain ⟨d', h1, _, h3, _⟩ := mount_run_error true false true true mountable0 hp
  exact ⟨d', h1, h3.img, h3.log⟩

/-- (b): the FAT16 device mounts; geometry as `probe` derives it, no FS-info values -/
example : ∃ fs d', run (mount true false true true) dev16 = (.ok fs, d') ∧ d'.fs = fs ∧
    fs.fatType = .fat16 ∧ fs.clusterSize = 2048 ∧ fs.totalClusters = 8167 ∧ fs.firstDataSector = 97 ∧
    fs.rootDirSectors = 32 ∧ fs.fsInfo = {} ∧ d'.img = dev16.img ∧ d'.log = [] := by
  have hp : probe (bootOf dev16) true = .ok
      { fatType := .fat16, bytesPerSector := 512, clusterSize := 2048, totalClusters := 8167, firstDataSector := 97,
        rootDirSectors := 32, sectorsPerFat := 32, reservedSectors := 1, fats := 2, totalSectors := 32768,
        mirroring := true, activeFat := 0, rootDirFirstCluster := 0, fsInfoSector := 0, backupBootSector := 0,
        statusDirty := false, statusIoError := false } := by rw [boot16]; decide +kernel
  obtain ⟨d', h1, h2, h3⟩ := mount_run_fat1x true false true true mountable16 hp (by decide)
  rw [boot16] at h1 h3
  exact ⟨_, d', h1, h3, by decide +kernel, by decide +kernel, by decide +kernel, by decide +kernel,
    by decide +kernel, by decide +kernel, h2.img, h2.log⟩

/-- (c): the FAT32 device mounts; the FS-info values (free = total, hint = total + 2) pass `validate_and_fix` -/
example : FsInfoInside true dev32 ∧
    ∃ fs d', run (mount true false true true) dev32 = (.ok fs, d') ∧ d'.fs = fs ∧
      fs.fatType = .fat32 ∧ fs.totalClusters = 68552 ∧
      fs.fsInfo = { free := some 68552, next := some 68554, dirty := false } ∧ d'.img = dev32.img ∧ d'.log = [] := by
  obtain ⟨d', h1, h2, h3, _⟩ := C07run.mount_run true false true true mountable32 fsInfoInside32
  obtain ⟨m, hm, m1, _, m3⟩ := mount32
  rw [boot32, fsinfo32, hm] at h1 h3
  refine ⟨fsInfoInside32, _, d', h1, h3 m rfl, ?_, ?_, ?_, h2.img, h2.log⟩
  · show m.geo.fatType = _
    rw [m1]; rfl
  · show m.geo.totalClusters = _
    rw [m1]; rfl
  · show m.fsInfo.toSt = _
    rw [m3]; rfl

/-- the program-level theorems apply to these devices -/
example : (run (mount true false true true) dev32).1 ≠ .error .panic :=
  (mount_run_total true false true true mountable32).1

end Ex

end FatVerif.C07run
