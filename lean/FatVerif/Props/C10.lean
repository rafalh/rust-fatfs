import FatVerif.Props.C03fat
/-!
# C10 — reserved FAT bits and entries (the part that lives in `table.rs`)

Byte-level laws of `Fat12/16/32::{get,set}` on the bytes of one FAT copy, and "alloc / free / truncate never write
the reserved entries 0, 1 nor a padding entry ≥ total+2".
-/
namespace FatVerif.C10
open FatVerif.Fat

/-- `get (set f c v) c = v`, all three widths, on bytes. `set` succeeds exactly on in-range entries
    (`fat_set_defined`); `v` must be representable (`Data n` with `0 < n < 0x?FF7`; `Data 0` reads back as `Free`,
    `Data 0x?FF7` as `Bad`), and on FAT32 `c` must not be one of the special cluster numbers
    0x0FFFFFF7..0x0FFFFFFF (for those `get` always answers `Bad`/`EOC`). -/
theorem fat_get_set (ft : FatType) (f f' : Array Nat) (c : Nat) (v : FatValue) (hf : WfBytes f)
    (hv : Representable ft v) (hs : ft = .fat32 → ¬ special32 c) (h : set ft f c v = .ok f') :
    get ft f' c = .ok v :=
  get_set_same hf hv hs h

/-- `set` is defined on every in-range entry (the only refusal: `Free` on a special FAT32 cluster number panics) -/
theorem fat_set_defined (ft : FatType) (f : Array Nat) (c : Nat) (v : FatValue) (h : InRange ft f c)
    (hs : ft = .fat32 → v = .free → ¬ special32 c) : ∃ f', set ft f c v = .ok f' :=
  set_ok_of_inRange h hs

example : ∃ f', set .fat12 #[0xF8, 0xFF, 0xFF, 0x00, 0x40, 0x00] 2 (.data 3) = .ok f' ∧
    get .fat12 f' 2 = .ok (.data 3) ∧ get .fat12 f' 3 = .ok (.data 4) :=
  ⟨_, rfl, rfl, rfl⟩

example : WfBytes #[0xF8, 0xFF, 0xFF, 0x00, 0x40, 0x00] ∧ Representable .fat12 (.data 3) ∧
    InRange .fat12 #[0xF8, 0xFF, 0xFF, 0x00, 0x40, 0x00] 2 :=
  ⟨wfBytes_of_all _ (by decide), by decide, by decide⟩

/-- a non-representable link is NOT read back: `Data 0` becomes `Free` (why `Representable` is needed) -/
theorem fat_get_set_counterexample :
    ∃ f', set .fat16 #[0xF8, 0xFF, 0xFF, 0xFF, 0x05, 0x00] 2 (.data 0) = .ok f' ∧ get .fat16 f' 2 = .ok .free :=
  ⟨_, rfl, rfl⟩

/-- frame law: any OTHER entry keeps its raw value — FAT12: the byte shared with the neighbour keeps the neighbour's
    nibble; FAT32: including the reserved bits. `FitsWidth`: the written value fits 12/16/28 bits. -/
theorem fat_set_frame (ft : FatType) (f f' : Array Nat) (c c' : Nat) (v : FatValue) (hf : WfBytes f)
    (hv : FitsWidth ft v) (h : set ft f c v = .ok f') (hne : c' ≠ c) : getRaw ft f' c' = getRaw ft f c' :=
  getRaw_set_other hf hv h hne

example : ∃ f', set .fat12 #[0xF8, 0xFF, 0xFF, 0xAB, 0xCD, 0xEF] 3 .eoc = .ok f' ∧
    getRaw .fat12 f' 2 = getRaw .fat12 #[0xF8, 0xFF, 0xFF, 0xAB, 0xCD, 0xEF] 2 ∧ getRaw .fat12 f' 2 = .ok 0xDAB :=
  ⟨_, rfl, rfl, rfl⟩

/-- without `FitsWidth` the FAT12 frame law fails: a 16-bit "link" written to an even entry clobbers the odd
    neighbour's low nibble (no caller passes such a value; `raw_val as u16` does not mask to 12 bits) -/
theorem fat_set_frame_counterexample :
    ∃ f', set .fat12 #[0xF8, 0xFF, 0xFF, 0x00, 0x00, 0x00] 2 (.data 0xF000) = .ok f' ∧
      getRaw .fat12 #[0xF8, 0xFF, 0xFF, 0x00, 0x00, 0x00] 3 = .ok 0 ∧ getRaw .fat12 f' 3 = .ok 0xF :=
  ⟨_, rfl, rfl, rfl⟩

/-- FAT32: the reserved top four bits of the updated entry survive `set` -/
theorem fat32_reserved_bits (f f' : Array Nat) (c : Nat) (v : FatValue) (hf : WfBytes f)
    (hv : FitsWidth .fat32 v) (h : set .fat32 f c v = .ok f') :
    ∃ old new, getRaw .fat32 f c = .ok old ∧ getRaw .fat32 f' c = .ok new ∧
      new &&& 0xF0000000 = old &&& 0xF0000000 ∧ new / 268435456 = old / 268435456 := by
  obtain ⟨old, h1, h2⟩ := getRaw_set_same hf hv h
  refine ⟨old, _, h1, h2, ?_, ?_⟩
  · have ho : old < 4294967296 := getRaw32_lt hf h1
    simp only [FitsWidth, valLimit] at hv
    simp only [topBits]
    rw [and_top_nibble _ (by omega), and_top_nibble _ ho]; omega
  · simp only [FitsWidth, valLimit] at hv
    simp only [topBits]; omega

example : ∃ f', set .fat32 #[0xF8, 0xFF, 0xFF, 0x0F, 0xFF, 0xFF, 0xFF, 0xFF, 0x05, 0x00, 0x00, 0xA0] 2 .free = .ok f' ∧
    getRaw .fat32 f' 2 = .ok 0xA0000000 :=
  ⟨_, rfl, rfl⟩

/-- a caller-supplied link ≥ 2^28 is ORed into the reserved bits (`raw_val | old_reserved_bits`): `FitsWidth` is
    needed; `alloc_cluster` only ever passes cluster numbers `< total+2 ≤ 0x0FFFFFF7` -/
theorem fat32_reserved_bits_counterexample :
    ∃ f', set .fat32 #[0, 0, 0, 0x10] 0 (.data 0xF0000001) = .ok f' ∧ getRaw .fat32 f' 0 = .ok 0xF0000001 :=
  ⟨_, rfl, rfl⟩

/-- **the key law** tying bytes to the decoded view: on the view, `set` is a point update
    (`view (set f c v) = Function.update (view f) c v`) for every in-range `c` and representable `v` -/
theorem fat_view_set (ft : FatType) (f f' : Array Nat) (c : Nat) (v : FatValue) (hf : WfBytes f)
    (hv : Representable ft v) (hs : ft = .fat32 → ¬ special32 c) (h : set ft f c v = .ok f') :
    view ft f' = updV (view ft f) c v :=
  view_set hf hv hs h

/-- the byte length never changes — after a successful `set`, and after a failed one (`setAfter`) -/
theorem set_len (ft : FatType) (f f' : Array Nat) (c : Nat) (v : FatValue) (h : set ft f c v = .ok f') :
    f'.size = f.size :=
  set_size h

theorem setAfter_len (ft : FatType) (f : Array Nat) (c : Nat) (v : FatValue) : (setAfter ft f c v).size = f.size := by
  unfold setAfter
  split
  · rename_i f' h; exact set_size h
  · split
    · exact size_wr16 _ _ _
    · rfl

example : (setAfter .fat16 #[1, 2, 3] 1 .eoc).size = 3 ∧ setAfter .fat16 #[1, 2, 3] 1 .eoc = #[1, 2, 0xFF] :=
  ⟨rfl, rfl⟩

/-- **alloc** never writes entry 0, entry 1, or a padding entry `≥ total+2` (raw values incl. reserved bits), and the
    cluster it hands out is a real one. `prev`, when given, is a data cluster. -/
theorem reserved_entries_untouched_alloc (ft : FatType) (f : Array Nat) (total : Nat) (ht : TableOk ft f total)
    (prev hint : Option Nat) (hh : ∀ n, hint = some n → 2 ≤ n)
    (hp : ∀ p, prev = some p → 2 ≤ p ∧ p < total + 2) (i : Nat) (hi : i < 2 ∨ total + 2 ≤ i) :
    getRaw ft (allocCluster f ft prev hint total).fat i = getRaw ft f i ∧
    (∀ c, (allocCluster f ft prev hint total).out = .ok c → 2 ≤ c ∧ c < total + 2) := by
  cases hfind : allocFindV (view ft f) hint total with
  | none =>
    rw [allocCluster_noSpace ht prev hint hfind]
    exact ⟨rfl, fun c h => by cases h⟩
  | some c =>
    obtain ⟨hc1, hc2, _⟩ := allocFindV_some _ _ _ _ hh hfind
    obtain ⟨f', h1, _, _, _, h5⟩ := allocCluster_ok ht prev hint hh (fun p h => (hp p h).2) hfind
    rw [h1]
    refine ⟨h5 i (by omega) ?_, ?_⟩
    · intro e; have := hp i e; omega
    · intro c' h; cases h; exact ⟨hc1, hc2⟩

/-- **free** on an acyclic chain whose members are data clusters never writes any other entry -/
theorem reserved_entries_untouched_free (ft : FatType) (f : Array Nat) (total c : Nat) (cs : List Nat)
    (ht : TableOk ft f total) (hch : Chain (view ft f) c cs) (hnd : cs.Nodup)
    (hin : ∀ k, k ∈ cs → 2 ≤ k ∧ k < total + 2) (fuel : Nat) (hfuel : cs.length ≤ fuel)
    (i : Nat) (hi : i < 2 ∨ total + 2 ≤ i) :
    getRaw ft (freeChain ft f c fuel).fat i = getRaw ft f i := by
  obtain ⟨f', h1, _, _, _, h5⟩ := C03fat.free_spec ft f total c cs ht hch hnd (fun k hk => (hin k hk).2) fuel hfuel
  rw [h1]
  exact h5 i (fun hmem => by have := hin i hmem; omega)

/-- **truncate** likewise -/
theorem reserved_entries_untouched_truncate (ft : FatType) (f : Array Nat) (total c : Nat) (t : List Nat)
    (ht : TableOk ft f total) (hch : Chain (view ft f) c (c :: t)) (hnd : (c :: t).Nodup)
    (hin : ∀ k, k ∈ c :: t → 2 ≤ k ∧ k < total + 2) (fuel : Nat) (hfuel : t.length ≤ fuel)
    (i : Nat) (hi : i < 2 ∨ total + 2 ≤ i) :
    getRaw ft (truncateChain ft f c fuel).fat i = getRaw ft f i := by
  obtain ⟨f', h1, _, _, _, _, h6⟩ :=
    C03fat.truncate_spec ft f total c t ht hch hnd (fun k hk => (hin k hk).2) fuel hfuel
  rw [h1]
  have hc := hin c (by simp)
  exact h6 i (by omega) (fun hmem => by have := hin i (List.mem_cons_of_mem _ hmem); omega)

/-- a concrete FAT16 table with 4 data clusters: chain 2→3→EOC, clusters 4, 5 free -/
def exTable : Array Nat := #[0xF8, 0xFF, 0xFF, 0xFF, 0x03, 0x00, 0xFF, 0xFF, 0x00, 0x00, 0x00, 0x00]

theorem exTable_ok : TableOk .fat16 exTable 4 :=
  ⟨wfBytes_of_all _ (by decide), fun c hc => by simp only [InRange, off, width, exTable, u32Lim]; simp; omega,
   by decide⟩

example : Chain (view .fat16 exTable) 2 [2, 3] ∧ [2, 3].Nodup :=
  ⟨Chain.cons 2 3 [3] rfl (Chain.last 3 (by intro n h; cases h)), by decide⟩

example : (allocCluster exTable .fat16 (some 3) (some 5) 4).out = .ok 5 ∧
    (freeChain .fat16 exTable 2 10).out = .ok 2 ∧ (truncateChain .fat16 exTable 2 10).out = .ok 1 :=
  ⟨rfl, rfl, rfl⟩

end FatVerif.C10
