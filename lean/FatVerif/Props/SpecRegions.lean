import FatVerif.Spec.Regions
/-!
# The region classifier of the C11 oracle leaves no written byte unjudged

`Spec.classify g off len` cuts a device write `[off, off+len)` into pieces `(region, offset, length)`; the write-region /
write-owner oracle (`allowedWriteWith`) judges every piece.  `Props/SpecSanity.lean` evaluates it on three ranges.  Here,
for EVERY geometry record, offset and length:

* `classify_tiles`: the pieces are non-empty, consecutive, start at `off` and end exactly at `off + len` (the fuel
  `len + 1` always suffices), and each piece carries the region of its first byte (`regionAt`);
* `classify_covers`: every byte of the write lies in a piece of the tiling — so a write that touches a
  forbidden byte always produces a piece that contains that byte;
* `regionAt_stable`, `classify_pointwise`: every byte of a piece lies in the region the piece is labelled with (status
  byte, rest of the boot sector, FS-info, backup boot sector, other reserved sectors, FAT copy k, fixed root, cluster c,
  beyond the volume) — for every geometry whose status byte lies in the first sector, which `parseGeomF_status` proves
  of every geometry the oracles parse from a boot sector (`classify_pointwise_parsed`);
* `allowedWrite_iff_bytes`: the write-region / write-owner oracle is silent on a write exactly when every written byte
  lies in an allowed region (`regionAllowed`: status byte, FS-info, FATs, fixed root, clusters free before the
  operation, clusters of objects the operation names) — no false alarm and no miss relative to `regionAt` / `ownerOf`;
* `regionAt_cluster_iff`, `regionAt_fat_iff`, `regionAt_root_iff`, `regionAt_beyond_iff`, `regionAt_status_iff`,
  `regionAt_fsInfo_iff`: each label is exactly the byte range the layout offsets give it — "cluster c" is
  `[clusterOff c, clusterOff (c+1))` inside the data region and the declared volume (the range every other oracle
  reads as cluster c), "FAT copy k" is `[fatCopyStart k, fatCopyStart (k+1))`, "fixed root" is
  `[rootStart, dataStart)`, "beyond" is everything at or after the end of the last cluster or of the volume, the
  status byte is the byte at the BPB offset, the FS-info sector is sector `BPB_FSInfo` of a FAT32 volume.
-/
namespace FatVerif.Spec

/-- `ps` tiles `[a, b)`: non-empty consecutive pieces from `a` up to exactly `b`, each labelled with the region of its
    first byte -/
def Tiles (g : Geom) : List (Region × Nat × Nat) → Nat → Nat → Prop
  | [], a, b => b ≤ a
  | (r, o, l) :: ps, a, b => o = a ∧ 0 < l ∧ a + l ≤ b ∧ (regionAt g a).1 = r ∧ Tiles g ps (a + l) b

/-- a byte of a tiled range lies in one of the pieces -/
theorem Tiles.covers {g : Geom} : ∀ {ps : List (Region × Nat × Nat)} {a b : Nat}, Tiles g ps a b → ∀ q, a ≤ q → q < b →
    ∃ p ∈ ps, p.2.1 ≤ q ∧ q < p.2.1 + p.2.2
  | [], a, b, h, q, h1, h2 => by simp only [Tiles] at h; omega
  | (r, o, l) :: ps, a, b, h, q, h1, h2 => by
    obtain ⟨ho, _, _, _, ht⟩ := h
    by_cases hq : q < a + l
    · exact ⟨(r, o, l), by simp, by simp only; omega, by simp only; omega⟩
    · obtain ⟨p, hp, hh⟩ := ht.covers q (by omega) h2
      exact ⟨p, List.mem_cons_of_mem _ hp, hh⟩

/-- the pieces of a tiling stay inside the range -/
theorem Tiles.inside {g : Geom} : ∀ {ps : List (Region × Nat × Nat)} {a b : Nat}, Tiles g ps a b →
    ∀ p ∈ ps, a ≤ p.2.1 ∧ p.2.1 + p.2.2 ≤ b ∧ 0 < p.2.2 ∧ (regionAt g p.2.1).1 = p.1
  | [], _, _, _, p, hp => by cases hp
  | (r, o, l) :: ps, a, b, h, p, hp => by
    obtain ⟨ho, hl, hb, hr, ht⟩ := h
    rcases List.mem_cons.mp hp with e | hm
    · subst e; subst ho; exact ⟨Nat.le_refl _, hb, hl, hr⟩
    · obtain ⟨h1, h2, h3, h4⟩ := ht.inside p hm
      exact ⟨by omega, h2, h3, h4⟩

/-! ## every byte of a piece lies in the piece's region; the oracle judges bytes -/


theorem div_stable {a b q : Nat} (h1 : a ≤ q) (h2 : q < (a / b + 1) * b) : q / b = a / b := by
  apply Nat.div_eq_of_lt_le
  · exact Nat.le_trans (Nat.div_mul_le_self a b) h1
  · exact h2

theorem lt_succ_div_mul {a b : Nat} (hb : 0 < b) : a < (a / b + 1) * b := by
  have := Nat.div_add_mod a b
  have := Nat.mod_lt a hb
  rw [Nat.add_mul, Nat.one_mul, Nat.mul_comm]
  omega

theorem succ_div_mul_le {a b n : Nat} (h : a < n * b) : (a / b + 1) * b ≤ n * b := by
  apply Nat.mul_le_mul_right
  have hb : 0 < b := by
    rcases Nat.eq_zero_or_pos b with e | e
    · subst e; simp at h
    · exact e
  exact (Nat.div_lt_iff_lt_mul hb).mpr h

/-- layout facts that follow from the definitions alone -/
theorem Geom.fatStart_le_rootStart (g : Geom) : g.fatStart ≤ g.rootStart := by
  unfold Geom.fatStart Geom.rootStart
  exact Nat.mul_le_mul_right _ (Nat.le_add_right _ _)

theorem Geom.rootStart_eq (g : Geom) : g.rootStart = g.fatStart + g.fats * g.fatSizeBytes := by
  unfold Geom.fatStart Geom.rootStart Geom.fatSizeBytes
  rw [Nat.add_mul, Nat.mul_assoc]

theorem Geom.rootStart_le_dataStart (g : Geom) : g.rootStart ≤ g.dataStart := by
  unfold Geom.dataStart Geom.dataStartSector Geom.rootStart
  exact Nat.mul_le_mul_right _ (Nat.le_add_right _ _)


/-- the label of sector `s ≥ 1` of the reserved area -/
inductive ReservedLabel (g : Geom) (s : Nat) : Region → Prop
  | fsInfo (h : g.fatBits = 32 ∧ g.fsInfoSector ≠ 0 ∧ s = g.fsInfoSector) : ReservedLabel g s .fsInfo
  | backupBoot (h1 : ¬ (g.fatBits = 32 ∧ g.fsInfoSector ≠ 0 ∧ s = g.fsInfoSector))
      (h2 : g.fatBits = 32 ∧ g.backupSector ≠ 0 ∧ s = g.backupSector) : ReservedLabel g s .backupBoot
  | other (h1 : ¬ (g.fatBits = 32 ∧ g.fsInfoSector ≠ 0 ∧ s = g.fsInfoSector))
      (h2 : ¬ (g.fatBits = 32 ∧ g.backupSector ≠ 0 ∧ s = g.backupSector)) : ReservedLabel g s .reservedOther

/-- the zones `regionAt` distinguishes: where the byte `q` lies, the label it gets, and the end of the piece -/
inductive Zone (g : Geom) (q : Nat) : Region × Option Nat → Prop
  | status (h : q < g.fatStart) (hs : q / g.bps = 0) (he : q = g.statusByteOffset) :
      Zone g q (.bootStatusByte, some (q + 1))
  | bootOther (h : q < g.fatStart) (hs : q / g.bps = 0) (he : q ≠ g.statusByteOffset) :
      Zone g q (.bootOther, some (if q < g.statusByteOffset then g.statusByteOffset else g.bps))
  | reserved {r : Region} (h : q < g.fatStart) (hs : q / g.bps ≠ 0) (hl : ReservedLabel g (q / g.bps) r) :
      Zone g q (r, some ((q / g.bps + 1) * g.bps))
  | fat (h1 : g.fatStart ≤ q) (h2 : q < g.rootStart) :
      Zone g q (.fat ((q - g.fatStart) / g.fatSizeBytes),
        some (g.fatStart + ((q - g.fatStart) / g.fatSizeBytes + 1) * g.fatSizeBytes))
  | root (h1 : g.rootStart ≤ q) (h2 : q < g.dataStart) : Zone g q (.rootDir, some g.dataStart)
  | cluster (h1 : g.dataStart ≤ q) (h2 : q < g.dataEnd ∧ q < g.volumeBytes) :
      Zone g q (.cluster ((q - g.dataStart) / g.clusterSize + 2),
        some (min (g.dataStart + ((q - g.dataStart) / g.clusterSize + 1) * g.clusterSize) g.volumeBytes))
  | beyond (h1 : g.dataStart ≤ q) (h2 : ¬ (q < g.dataEnd ∧ q < g.volumeBytes)) : Zone g q (.beyondVolume, none)

/-- a zone determines the value of `regionAt` -/
theorem Zone.eq {g : Geom} {q : Nat} {z : Region × Option Nat} (hz : Zone g q z) : regionAt g q = z := by
  have hfr := g.fatStart_le_rootStart
  have hrd := g.rootStart_le_dataStart
  cases hz with
  | status h hs he => subst he; simp only [regionAt, h, hs, if_true]
  | bootOther h hs he => simp only [regionAt, h, hs, if_true, he, if_false]; split <;> simp
  | reserved h hs hl =>
    simp only [regionAt, h, hs, if_true, if_false]
    cases hl with
    | fsInfo h1 => rw [if_pos h1]
    | backupBoot h1 h2 => rw [if_neg h1, if_pos h2]
    | other h1 h2 => rw [if_neg h1, if_neg h2]
  | fat h1 h2 => simp only [regionAt, Nat.not_lt.2 h1, h2, if_true, if_false, Geom.fatCopyStart]
  | root h1 h2 =>
    have h0 : ¬ q < g.fatStart := by omega
    simp only [regionAt, h0, Nat.not_lt.2 h1, h2, if_true, if_false]
  | cluster h1 h2 =>
    have h0 : ¬ q < g.fatStart := by omega
    have h0' : ¬ q < g.rootStart := by omega
    simp only [regionAt, h0, h0', Nat.not_lt.2 h1, h2, if_true, if_false, and_self, Geom.clusterOff]
    congr 3
  | beyond h1 h2 =>
    have h0 : ¬ q < g.fatStart := by omega
    have h0' : ¬ q < g.rootStart := by omega
    simp only [regionAt, h0, h0', Nat.not_lt.2 h1, h2, if_false]

/-- every byte lies in one of the zones -/
theorem regionAt_zone (g : Geom) (q : Nat) : Zone g q (regionAt g q) := by
  have zone : ∀ {z}, Zone g q z → Zone g q (regionAt g q) := fun hz => hz.eq ▸ hz
  by_cases hA : q < g.fatStart
  · by_cases hs : q / g.bps = 0
    · by_cases he : q = g.statusByteOffset
      · exact zone (.status hA hs he)
      · exact zone (.bootOther hA hs he)
    · by_cases h1 : g.fatBits = 32 ∧ g.fsInfoSector ≠ 0 ∧ q / g.bps = g.fsInfoSector
      · exact zone (.reserved hA hs (.fsInfo h1))
      · by_cases h2 : g.fatBits = 32 ∧ g.backupSector ≠ 0 ∧ q / g.bps = g.backupSector
        · exact zone (.reserved hA hs (.backupBoot h1 h2))
        · exact zone (.reserved hA hs (.other h1 h2))
  · by_cases hB : q < g.rootStart
    · exact zone (.fat (by omega) hB)
    · by_cases hC : q < g.dataStart
      · exact zone (.root (by omega) hC)
      · by_cases hD : q < g.dataEnd ∧ q < g.volumeBytes
        · exact zone (.cluster (by omega) hD)
        · exact zone (.beyond (by omega) hD)

/-- a byte has label `r` exactly when it lies in a zone labelled `r` -/
theorem regionAt_fst_iff (g : Geom) (q : Nat) (r : Region) : (regionAt g q).1 = r ↔ ∃ e, Zone g q (r, e) :=
  ⟨fun h => ⟨(regionAt g q).2, h ▸ regionAt_zone g q⟩, fun ⟨_, hz⟩ => congrArg Prod.fst hz.eq⟩

/-- Every byte between `off` and the end `regionAt` reports for `off` lies in the region of
    `off` (boot sector: the status byte at its BPB offset inside the first sector). -/
theorem regionAt_stable (g : Geom) (hb : g.statusByteOffset < g.bps) (off q : Nat) (h1 : off ≤ q)
    (h2 : ∀ e, (regionAt g off).2 = some e → q < e) : (regionAt g q).1 = (regionAt g off).1 := by
  have hbps : 0 < g.bps := by omega
  have hfr := g.fatStart_le_rootStart
  have hrd := g.rootStart_le_dataStart
  have hz := regionAt_zone g off
  generalize regionAt g off = z at hz h2
  cases hz with
  | status hA hs he =>
    have := h2 _ rfl
    have : q = off := by omega
    subst this
    rw [(Zone.status hA hs he).eq]
  | bootOther hA hs he =>
    -- `q` stays in the first sector, on the same side of the status byte
    have hq := h2 _ rfl
    have hsecEnd : (off / g.bps + 1) * g.bps ≤ g.fatStart := succ_div_mul_le hA
    have hoff := lt_succ_div_mul (a := off) hbps
    rw [hs, Nat.zero_add, Nat.one_mul] at hsecEnd hoff
    have hqb : q < g.bps := by split at hq <;> omega
    rw [(Zone.bootOther (q := q) (by omega) (Nat.div_eq_of_lt hqb) (by split at hq <;> omega)).eq]
  | reserved hA hs hl =>
    -- `q` stays in the sector of `off`, which ends before the FATs
    have hq := h2 _ rfl
    have hsecEnd : (off / g.bps + 1) * g.bps ≤ g.fatStart := succ_div_mul_le hA
    have hqs : q / g.bps = off / g.bps := div_stable h1 hq
    rw [← hqs] at hs hl
    rw [(Zone.reserved (by omega) hs hl).eq]
  | fat hA hB =>
    have hq := h2 _ rfl
    have hrs := g.rootStart_eq
    have hend := succ_div_mul_le (show off - g.fatStart < g.fats * g.fatSizeBytes by omega)
    have hqs : (q - g.fatStart) / g.fatSizeBytes = (off - g.fatStart) / g.fatSizeBytes :=
      div_stable (by omega) (by omega)
    rw [(Zone.fat (q := q) (by omega) (by omega)).eq, hqs]
  | root hB hC => rw [(Zone.root (q := q) (by omega) (h2 _ rfl)).eq]
  | cluster hC hD =>
    have hq := h2 _ rfl
    have hde := hD.1
    unfold Geom.dataEnd at hde
    have hend := succ_div_mul_le (show off - g.dataStart < g.totalClusters * g.clusterSize by omega)
    rw [Nat.lt_min] at hq
    have hqs : (q - g.dataStart) / g.clusterSize = (off - g.dataStart) / g.clusterSize :=
      div_stable (by omega) (by omega)
    rw [(Zone.cluster (q := q) (by omega) ⟨by unfold Geom.dataEnd; omega, hq.2⟩).eq, hqs]
  | beyond hC hD => rw [(Zone.beyond (q := q) (by omega) (by omega)).eq]

/-- the end `regionAt` reports lies beyond the byte -/
theorem regionAt_end_gt (g : Geom) (hb : g.statusByteOffset < g.bps) (off e : Nat)
    (h : (regionAt g off).2 = some e) : off < e := by
  have hbps : 0 < g.bps := by omega
  have hz := regionAt_zone g off
  generalize regionAt g off = z at hz h
  cases hz with
  | status hA hs he => cases h; omega
  | bootOther hA hs he =>
    cases h
    have hoff := lt_succ_div_mul (a := off) hbps
    rw [hs] at hoff
    split <;> omega
  | reserved hA hs hl => cases h; exact lt_succ_div_mul hbps
  | fat hA hB =>
    cases h
    have hrs := g.rootStart_eq
    have hpos : 0 < g.fatSizeBytes := Nat.pos_of_ne_zero fun e0 => by rw [e0] at hrs; omega
    have := lt_succ_div_mul (a := off - g.fatStart) hpos
    omega
  | root hB hC => cases h; exact hC
  | cluster hC hD =>
    cases h
    have hde := hD.1
    unfold Geom.dataEnd at hde
    have hpos : 0 < g.clusterSize := Nat.pos_of_ne_zero fun e0 => by rw [e0] at hde; omega
    have := lt_succ_div_mul (a := off - g.dataStart) hpos
    rw [Nat.lt_min]
    omega
  | beyond hC hD => cases h

/-- **the loop, once**: it appends pieces that tile `[off, stop)`, and (status byte in the first sector) each piece ends
    no later than the region end reported for its first byte -/
theorem classifyLoop_spec (g : Geom) : ∀ (fuel off stop : Nat) (acc : Array (Region × Nat × Nat)),
    stop - off < fuel →
    ∃ ps, (classifyLoop g fuel off stop acc).toList = acc.toList ++ ps ∧ Tiles g ps off stop ∧
      (g.statusByteOffset < g.bps → ∀ p ∈ ps, ∀ e, (regionAt g p.2.1).2 = some e → p.2.1 + p.2.2 ≤ e)
  | 0, _, _, _, h => by omega
  | fuel + 1, off, stop, acc, h => by
    unfold classifyLoop
    split
    · exact ⟨[], by simp, by simp only [Tiles]; omega, fun _ p hp => by cases hp⟩
    · rename_i hlt
      generalize hre : regionAt g off = re
      obtain ⟨r, e⟩ := re
      simp only
      -- the piece `[off, e')` and then the loop from `e'`
      have step : ∀ e', off < e' → e' ≤ stop → (g.statusByteOffset < g.bps → ∀ e0, e = some e0 → e' ≤ e0) →
          ∃ ps, (classifyLoop g fuel e' stop (acc.push (r, off, e' - off))).toList = acc.toList ++ ps ∧
            Tiles g ps off stop ∧
            (g.statusByteOffset < g.bps → ∀ p ∈ ps, ∀ e, (regionAt g p.2.1).2 = some e → p.2.1 + p.2.2 ≤ e) := by
        intro e' h1 h2 h3
        obtain ⟨ps, hps, ht, he⟩ := classifyLoop_spec g fuel e' stop (acc.push (r, off, e' - off)) (by omega)
        have : off + (e' - off) = e' := by omega
        refine ⟨(r, off, e' - off) :: ps, by simpa using hps, ⟨rfl, by omega, by omega, by rw [hre], by rw [this]; exact ht⟩,
          fun hb p hp e0 he0 => ?_⟩
        rcases List.mem_cons.1 hp with rfl | hp
        · simp only at he0 ⊢
          rw [hre] at he0
          have := h3 hb e0 he0
          omega
        · exact he hb p hp e0 he0
      cases e with
      | none => exact step stop (by omega) (Nat.le_refl _) (fun _ _ h => by cases h)
      | some e =>
        simp only
        split
        · rename_i hle
          exact step stop (by omega) (Nat.le_refl _)
            (fun hb _ _ => absurd (regionAt_end_gt g hb off e (by rw [hre])) (by omega))
        · exact step (min e stop) (by omega) (by omega) (fun _ e0 h => by cases h; exact Nat.min_le_left _ _)

/-- The pieces of a write tile it exactly. -/
theorem classify_tiles (g : Geom) (off len : Nat) : Tiles g (classify g off len) off (off + len) := by
  obtain ⟨ps, hps, ht, _⟩ := classifyLoop_spec g (len + 1) off (off + len) #[] (by omega)
  unfold classify
  rw [hps]
  simpa using ht

/-- Every byte of a write `[off, off+len)` lies in a piece of its classification, every piece
    is a non-empty part of the write, and the piece is labelled with the region of its first byte: no written byte
    escapes the write-region / write-owner judgement, and nothing outside the write is judged. -/
theorem classify_covers (g : Geom) (off len : Nat) :
    (∀ q, off ≤ q → q < off + len → ∃ p ∈ classify g off len, p.2.1 ≤ q ∧ q < p.2.1 + p.2.2) ∧
    (∀ p ∈ classify g off len, off ≤ p.2.1 ∧ p.2.1 + p.2.2 ≤ off + len ∧ 0 < p.2.2 ∧ (regionAt g p.2.1).1 = p.1) :=
  ⟨(classify_tiles g off len).covers, (classify_tiles g off len).inside⟩

/-- an empty write has no piece -/
theorem classify_empty (g : Geom) (off : Nat) : classify g off 0 = [] := by
  have h := classify_tiles g off 0
  cases hc : classify g off 0 with
  | nil => rfl
  | cons p ps =>
    rw [hc] at h
    obtain ⟨r, o, l⟩ := p
    simp only [Tiles] at h
    omega

/-- In the classification of a write, EVERY byte of a piece lies in the region the piece is
    labelled with (boot sector, FS-info sector, a FAT copy, the fixed root, one particular cluster, beyond the volume):
    the judgement `allowedWriteWith` passes on a piece is a judgement on each of its bytes.  Hypothesis: the status
    byte lies in the first sector (offsets 0x25 / 0x41, sectors of at least 512 bytes). -/
theorem classify_pointwise (g : Geom) (hb : g.statusByteOffset < g.bps) (off len : Nat) :
    ∀ p ∈ classify g off len, ∀ q, p.2.1 ≤ q → q < p.2.1 + p.2.2 → (regionAt g q).1 = p.1 := by
  intro p hp q h1 h2
  have hin := (classify_tiles g off len).inside p hp
  have hend : ∀ e, (regionAt g p.2.1).2 = some e → p.2.1 + p.2.2 ≤ e := by
    obtain ⟨ps, hps, _, he⟩ := classifyLoop_spec g (len + 1) off (off + len) #[] (by omega)
    unfold classify at hp
    rw [hps] at hp
    exact he hb p (by simpa using hp)
  rw [regionAt_stable g hb p.2.1 q h1 (fun e he => by have := hend e he; omega)]
  exact hin.2.2.2


/-- a guard that answers an error has not fired when the result is `ok` -/
theorem ite_error_eq_ok {ε α : Type} {p : Prop} [Decidable p] {e : ε} {x : Except ε α} {a : α} :
    (if p then Except.error e else x) = .ok a ↔ ¬ p ∧ x = .ok a := by
  split <;> simp [*]

/-- `checkGeom` is a cascade of guards that ends in `.ok g`: what it accepts is `g`, with a legal sector size -/
theorem checkGeom_ok {b : BpbRaw} {g g' : Geom} (h : checkGeom b g = .ok g') :
    g' = g ∧ (g.bps = 512 ∨ g.bps = 1024 ∨ g.bps = 2048 ∨ g.bps = 4096) := by
  unfold checkGeom at h
  simp only [ite_error_eq_ok] at h
  obtain ⟨_, hbps, _, _, _, _, _, _, _, _, h⟩ := h
  have hb : ¬g.bps = 512 → ¬g.bps = 1024 → ¬g.bps = 2048 → g.bps = 4096 := by simpa using hbps
  refine ⟨?_, by omega⟩
  -- the two tails of the cascade (`split at h` takes 40 times as long on this term)
  by_cases h32 : g.fatBits = 32
  · rw [if_pos h32] at h
    simp only [ite_error_eq_ok] at h
    exact (Except.ok.inj h.2.2.2.2.2.2.2).symm
  · rw [if_neg h32] at h
    simp only [ite_error_eq_ok] at h
    exact (Except.ok.inj h.2.2.2).symm

/-- what `parseGeomF` accepts: the record `geomOfBpb` builds, from non-zero sector and cluster sizes, with a legal
    sector size -/
theorem parseGeomF_ok (rd : Nat → Nat) (g : Geom) (h : parseGeomF rd = .ok g) :
    g = geomOfBpb (readBpb rd) ∧ (readBpb rd).bps ≠ 0 ∧ (readBpb rd).spc ≠ 0 ∧
    (g.bps = 512 ∨ g.bps = 1024 ∨ g.bps = 2048 ∨ g.bps = 4096) := by
  simp only [parseGeomF, ite_error_eq_ok] at h
  obtain ⟨hz, h⟩ := h
  obtain ⟨rfl, hb⟩ := checkGeom_ok h
  exact ⟨rfl, fun e => hz (.inl e), fun e => hz (.inr e), hb⟩

theorem geomOfBpb_status (b : BpbRaw) :
    (geomOfBpb b).statusByteOffset = 0x25 ∨ (geomOfBpb b).statusByteOffset = 0x41 := by
  unfold geomOfBpb
  extract_lets spf tot g0 n
  split
  · exact .inl rfl
  · split
    · exact .inl rfl
    · exact .inr rfl

/-- a geometry the oracles parse from a boot sector satisfies the hypothesis of `classify_pointwise` -/
theorem parseGeomF_status (rd : Nat → Nat) (g : Geom) (h : parseGeomF rd = .ok g) : g.statusByteOffset < g.bps := by
  obtain ⟨rfl, _, _, hb⟩ := parseGeomF_ok rd g h
  have := geomOfBpb_status (readBpb rd)
  omega

/-- For the geometry parsed from ANY boot sector the oracles accept: every byte of
    every piece of every write lies in the region the piece is labelled with. -/
theorem classify_pointwise_parsed (rd : Nat → Nat) (g : Geom) (h : parseGeomF rd = .ok g) (off len : Nat) :
    ∀ p ∈ classify g off len, ∀ q, p.2.1 ≤ q → q < p.2.1 + p.2.2 → (regionAt g q).1 = p.1 :=
  classify_pointwise g (parseGeomF_status rd g h) off len


/-- what the C11 oracle lets a write touch, per region: the status byte, the FS-info sector, the FAT copies, the fixed
    root, clusters that are free in the image BEFORE the operation, clusters of an object the operation names -/
def regionAllowed (g : Geom) (pre : Img) (owners : Std.HashMap Nat Owner) (touched : List String)
    (upper : Char → List Char) : Region → Bool
  | .bootStatusByte | .fsInfo | .fat _ | .rootDir => true
  | .bootOther | .backupBoot | .reservedOther | .beyondVolume => false
  | .cluster c =>
    match ownerOf g pre owners c with
    | .free => true
    | .bad => false
    | .lost => false
    | .owned p _ => ownerNamed upper touched p

theorem allowedWriteWith_none_iff_pieces (g : Geom) (pre : Img) (owners : Std.HashMap Nat Owner)
    (touched : List String) (off len : Nat) (upper : Char → List Char) :
    allowedWriteWith g pre owners touched off len upper = none ↔
      ∀ p ∈ classify g off len, regionAllowed g pre owners touched upper p.1 = true := by
  unfold allowedWriteWith
  rw [List.findSome?_eq_none_iff]
  refine forall_congr' fun ⟨r, o, l⟩ => imp_congr_right fun _ => ?_
  cases r <;> simp only [regionAllowed, reduceCtorEq]
  next c _ => cases ownerOf g pre owners c <;> simp

/-- The write-region / write-owner oracle is silent on a device write exactly when EVERY
    byte of the write lies in a region the property lets the operation modify (judged against the image before the
    operation): it raises no alarm without a forbidden byte, and no forbidden byte escapes it. -/
theorem allowedWrite_iff_bytes (g : Geom) (hb : g.statusByteOffset < g.bps) (pre : Img)
    (owners : Std.HashMap Nat Owner) (touched : List String) (off len : Nat) (upper : Char → List Char) :
    allowedWriteWith g pre owners touched off len upper = none ↔
      ∀ q, off ≤ q → q < off + len → regionAllowed g pre owners touched upper (regionAt g q).1 = true := by
  rw [allowedWriteWith_none_iff_pieces]
  constructor
  · intro h q h1 h2
    obtain ⟨p, hp, hq1, hq2⟩ := (classify_covers g off len).1 q h1 h2
    rw [classify_pointwise g hb off len p hp q hq1 hq2]
    exact h p hp
  · intro h p hp
    obtain ⟨h1, h2, h3, h4⟩ := (classify_covers g off len).2 p hp
    rw [← h4]
    exact h p.2.1 h1 (by omega)

/-! ## what each region label means, in terms of the layout offsets -/


/-- **`regionAt_root_iff`**: "fixed root" = the bytes between the FAT copies and the data region -/
theorem regionAt_root_iff (g : Geom) (q : Nat) :
    (regionAt g q).1 = .rootDir ↔ (g.rootStart ≤ q ∧ q < g.dataStart) := by
  rw [regionAt_fst_iff]
  constructor
  · rintro ⟨_, hz⟩
    cases hz with
    | reserved _ _ hl => cases hl
    | root h1 h2 => exact ⟨h1, h2⟩
  · rintro ⟨h1, h2⟩
    exact ⟨_, .root h1 h2⟩

/-- **`regionAt_fat_iff`**: "FAT copy `k`" = the bytes `[fatCopyStart k, fatCopyStart (k+1))` before the root region -/
theorem regionAt_fat_iff (g : Geom) (hf : 0 < g.fatSizeBytes) (q k : Nat) :
    (regionAt g q).1 = .fat k ↔ (g.fatCopyStart k ≤ q ∧ q < g.fatCopyStart (k + 1) ∧ q < g.rootStart) := by
  unfold Geom.fatCopyStart
  rw [regionAt_fst_iff, Nat.add_one_mul]
  constructor
  · rintro ⟨_, hz⟩
    cases hz with
    | reserved _ _ hl => cases hl
    | fat h1 h2 =>
      have := (Nat.div_eq_iff (x := q - g.fatStart) hf).1 rfl
      omega
  · rintro ⟨a, b, c⟩
    obtain rfl : (q - g.fatStart) / g.fatSizeBytes = k := (Nat.div_eq_iff hf).2 (by omega)
    exact ⟨_, .fat (by omega) c⟩

/-- **`regionAt_beyond_iff`**: "beyond the volume" = at or after the end of the last cluster or of the declared
    volume (and not before the data region) -/
theorem regionAt_beyond_iff (g : Geom) (q : Nat) :
    (regionAt g q).1 = .beyondVolume ↔ (g.dataStart ≤ q ∧ (g.dataEnd ≤ q ∨ g.volumeBytes ≤ q)) := by
  rw [regionAt_fst_iff]
  constructor
  · rintro ⟨_, hz⟩
    cases hz with
    | reserved _ _ hl => cases hl
    | beyond h1 h2 => exact ⟨h1, by omega⟩
  · rintro ⟨h1, h2⟩
    exact ⟨_, .beyond h1 (by omega)⟩

/-- The classifier labels a byte "cluster `c`" exactly when the byte lies in
    `[clusterOff c, clusterOff (c+1))` — the byte range every other oracle (content decoding, extents, Fsck) reads as
    cluster `c` — inside the data region and inside the declared volume; `c` is then a valid cluster number. -/
theorem regionAt_cluster_iff (g : Geom) (hcs : 0 < g.clusterSize) (q c : Nat) :
    (regionAt g q).1 = .cluster c ↔
      (2 ≤ c ∧ g.clusterOff c ≤ q ∧ q < g.clusterOff (c + 1) ∧ q < g.dataEnd ∧ q < g.volumeBytes) := by
  unfold Geom.clusterOff
  rw [regionAt_fst_iff]
  constructor
  · rintro ⟨_, hz⟩
    cases hz with
    | reserved _ _ hl => cases hl
    | cluster h1 h2 =>
      have := (Nat.div_eq_iff (x := q - g.dataStart) hcs).1 rfl
      generalize (q - g.dataStart) / g.clusterSize = n at this ⊢
      rw [show n + 2 - 2 = n by omega, show n + 2 + 1 - 2 = n + 1 by omega, Nat.add_one_mul]
      omega
  · rintro ⟨h2, hlo, hhi, hde, hvb⟩
    rw [show c + 1 - 2 = c - 2 + 1 by omega, Nat.add_one_mul] at hhi
    obtain rfl : (q - g.dataStart) / g.clusterSize + 2 = c := by
      rw [(Nat.div_eq_iff (y := c - 2) hcs).2 (by omega)]; omega
    exact ⟨_, .cluster (by omega) ⟨hde, hvb⟩⟩

/-- a byte labelled "cluster `c`" belongs to a cluster of the volume -/
theorem regionAt_cluster_valid (g : Geom) (hcs : 0 < g.clusterSize) (q c : Nat)
    (h : (regionAt g q).1 = .cluster c) : g.validCluster c = true := by
  obtain ⟨h2, hlo, _, hde, _⟩ := (regionAt_cluster_iff g hcs q c).mp h
  unfold Geom.clusterOff at hlo
  unfold Geom.dataEnd at hde
  have : (c - 2) * g.clusterSize < g.totalClusters * g.clusterSize := by omega
  have := Nat.lt_of_mul_lt_mul_right this
  simp [Geom.validCluster]
  omega

/-- **`regionAt_status_iff`**: the one byte the classifier calls "status byte" is the byte at the BPB offset of
    `BS_Reserved1` (0x25 / 0x41), for every geometry with at least one reserved sector -/
theorem regionAt_status_iff (g : Geom) (hb : g.statusByteOffset < g.bps) (hr : 0 < g.reserved) (q : Nat) :
    (regionAt g q).1 = .bootStatusByte ↔ q = g.statusByteOffset := by
  rw [regionAt_fst_iff]
  constructor
  · rintro ⟨_, hz⟩
    cases hz with
    | reserved _ _ hl => cases hl
    | status _ _ he => exact he
  · intro he
    have hfs : g.bps ≤ g.fatStart := Nat.le_mul_of_pos_left _ hr
    exact ⟨_, .status (by omega) (Nat.div_eq_of_lt (by omega)) he⟩

/-- **`regionAt_fsInfo_iff`**: "FS-info sector" = the bytes of sector `BPB_FSInfo` of a FAT32 volume, inside the
    reserved area -/
theorem regionAt_fsInfo_iff (g : Geom) (q : Nat) :
    (regionAt g q).1 = .fsInfo ↔
      (q < g.fatStart ∧ g.fatBits = 32 ∧ g.fsInfoSector ≠ 0 ∧ q / g.bps = g.fsInfoSector) := by
  rw [regionAt_fst_iff]
  constructor
  · rintro ⟨_, hz⟩
    cases hz with
    | reserved hA _ hl => cases hl with | fsInfo hc => exact ⟨hA, hc⟩
  · rintro ⟨hA, hc⟩
    exact ⟨_, .reserved hA (by rw [hc.2.2]; exact hc.2.1) (.fsInfo hc)⟩

end FatVerif.Spec
