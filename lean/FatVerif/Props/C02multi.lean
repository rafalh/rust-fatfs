import FatVerif.Proofs.FileSimMulti
/-!
# C02, any number of open files: interleaved histories = independent byte arrays

`files_refine_bytefiles`: a table `F : Nat → Option FileH` of open handles on DISTINCT files of one volume (`MultiInv`: every
handle satisfies `FullInv`; chains pairwise disjoint; no slot is a position any handle may write; slots pairwise
disjoint).  Any interleaved history of `read` / `seek` / `write` / `truncate` / `read_exact` / `write_all` / `flush` on
any of the handles: every result is the one the byte array with a cursor of THAT file prescribes, all other files'
byte arrays are unchanged by the step, and `MultiInv` holds again.  This is `two_files_refine_bytefiles` for `n`
files and for histories containing `flush`; the price of `flush` is that every handle has its record in a slot
(`FullInv`, where `two_files_refine_bytefiles` asks for `SimInv` only).
-/
namespace FatVerif.FileSim
open FatVerif FatVerif.Fat

/-- one operation on handle `i` of the table (an unknown handle is a script error: nothing happens) -/
def execN (i : Nat) (op : EOp) (F : Nat → Option FileH) (d : Dev) : Cursor.FileRes × (Nat → Option FileH) × Dev :=
  match F i with
  | some h => ((execE op h d).1, updF F i (execE op h d).2.1, (execE op h d).2.2)
  | none => (.err .invalidInput, F, d)

def runN : List (Nat × EOp) → (Nat → Option FileH) → Dev → List Cursor.FileRes × (Nat → Option FileH) × Dev
  | [], F, d => ([], F, d)
  | x :: ops, F, d =>
    let r := execN x.1 x.2 F d
    let rest := runN ops r.2.1 r.2.2
    (r.1 :: rest.1, rest.2)

/-- the specification state: one byte array with a cursor per open handle -/
def absN (F : Nat → Option FileH) (d : Dev) : Nat → Option Cursor.ByteFile :=
  fun i => (F i).map fun h => (absFile d.fs d.img h).abs

/-- the oracle for one step: only the byte array of handle `i` moves -/
def checkN (cs : Nat) (i : Nat) (op : Cursor.FileOp) (res : Cursor.FileRes) (B : Nat → Option Cursor.ByteFile) :
    Except String (Nat → Option Cursor.ByteFile) :=
  match B i with
  | some b =>
    match Cursor.ByteFile.check cs op res b with
    | .ok b' => .ok fun j => if j = i then some b' else B j
    | .error e => .error e
  | none => .error "handle"

def checkRunN (cs : Nat) : List (Nat × Cursor.FileOp) → List Cursor.FileRes → (Nat → Option Cursor.ByteFile) →
    Except String (Nat → Option Cursor.ByteFile)
  | [], [], B => .ok B
  | x :: ops, r :: rs, B =>
    match checkN cs x.1 x.2 r B with
    | .ok B' => checkRunN cs ops rs B'
    | .error e => .error e
  | _, _, _ => .error "result-shape"

/-- every operation of the history addresses an open handle and carries bytes -/
def OpsOkN (ops : List (Nat × EOp)) (F : Nat → Option FileH) : Prop :=
  ∀ x ∈ ops, (F x.1).isSome = true ∧ x.2.BytesOk

theorem updF_isSome (F : Nat → Option FileH) (i : Nat) (h : FileH) (hi : (F i).isSome = true) (j : Nat) :
    (updF F i h j).isSome = (F j).isSome := by
  unfold updF
  by_cases hji : j = i
  · rw [if_pos hji, hji, hi]; rfl
  · rw [if_neg hji]

theorem absN_updF (F : Nat → Option FileH) (i : Nat) (f' : FileH) (d d' : Dev)
    (hother : ∀ j hj, j ≠ i → F j = some hj → (absFile d'.fs d'.img hj).abs = (absFile d.fs d.img hj).abs) :
    absN (updF F i f') d' = fun j => if j = i then some (absFile d'.fs d'.img f').abs else absN F d j := by
  funext j
  unfold absN updF
  by_cases hji : j = i
  · rw [if_pos hji, if_pos hji]; rfl
  · rw [if_neg hji, if_neg hji]
    cases hF : F j with
    | none => rfl
    | some hj => simp only [Option.map]; rw [hother j hj hji hF]

/-- one step on handle `i` -/
theorem execN_refines (i : Nat) (op : EOp) (F : Nat → Option FileH) (d : Dev) (hM : MultiInv F d)
    (hi : (F i).isSome = true) (hok : op.BytesOk) :
    MultiInv (execN i op F d).2.1 (execN i op F d).2.2 ∧
    (execN i op F d).2.2.fs.clusterSize = d.fs.clusterSize ∧
    (∀ j, ((execN i op F d).2.1 j).isSome = (F j).isSome) ∧
    checkN d.fs.clusterSize i op.toOp (execN i op F d).1 (absN F d) =
      .ok (absN (execN i op F d).2.1 (execN i op F d).2.2) := by
  obtain ⟨h, hFi⟩ := Option.isSome_iff_exists.mp hi
  obtain ⟨e, hfull⟩ := hM.full i h hFi
  have hBi : absN F d i = some (absFile d.fs d.img h).abs := by unfold absN; rw [hFi]; rfl
  obtain ⟨hstep, hcs, hchk⟩ := execE_refines op h e d hfull hok
  obtain ⟨hM', hoth⟩ := hstep.multi hM hFi hfull
  have hex : execN i op F d = ((execE op h d).1, updF F i (execE op h d).2.1, (execE op h d).2.2) := by
    unfold execN; rw [hFi]
  rw [hex]
  refine ⟨hM', hcs, updF_isSome F i _ hi, ?_⟩
  simp only [checkN, hBi, hchk]
  rw [absN_updF F i _ d _ hoth]

/-- **`files_refine_bytefiles`.**  Any number of open handles on distinct files of one volume (`MultiInv`), any
    interleaving of `read` / `seek` / `write` / `truncate` / `read_exact` / `write_all` / `flush` on them: every observable
    result is the one the byte array with a cursor of the addressed file prescribes (`checkRunN`: one independent
    `ByteFile` per handle; a step moves only the byte array of its handle), and `MultiInv` holds again. -/
theorem files_refine_bytefiles : ∀ (ops : List (Nat × EOp)) (F : Nat → Option FileH) (d : Dev), MultiInv F d →
    OpsOkN ops F →
    MultiInv (runN ops F d).2.1 (runN ops F d).2.2 ∧
    (runN ops F d).2.2.fs.clusterSize = d.fs.clusterSize ∧
    checkRunN d.fs.clusterSize (ops.map fun x => (x.1, x.2.toOp)) (runN ops F d).1 (absN F d) =
      .ok (absN (runN ops F d).2.1 (runN ops F d).2.2)
  | [], F, d, h, _ => ⟨h, rfl, rfl⟩
  | x :: ops, F, d, h, hok => by
    obtain ⟨hx1, hx2⟩ := hok x (List.mem_cons_self ..)
    obtain ⟨hM', hcs, hsome, hchk⟩ := execN_refines x.1 x.2 F d h hx1 hx2
    have hok' : OpsOkN ops (execN x.1 x.2 F d).2.1 := fun y hy => by
      obtain ⟨a, b⟩ := hok y (List.mem_cons_of_mem _ hy)
      exact ⟨by rw [hsome]; exact a, b⟩
    obtain ⟨ri, rcs, rchk⟩ := files_refine_bytefiles ops _ _ hM' hok'
    simp only [runN, List.map]
    refine ⟨ri, rcs.trans hcs, ?_⟩
    simp only [checkRunN, hchk]
    rw [hcs] at rchk
    exact rchk

/-! ### histories on a handle table, on a device given by its bytes (`Proofs/RunFn.lean`) -/

/-- `execN`, as a step of `hist` -/
def tableStep {D : Type} (exec : EOp → FileH → D → Cursor.FileRes × FileH × D) (x : Nat × EOp) (F : Nat → Option FileH)
    (d : D) : Cursor.FileRes × (Nat → Option FileH) × D :=
  match F x.1 with
  | some h => ((exec x.2 h d).1, updF F x.1 (exec x.2 h d).2.1, (exec x.2 h d).2.2)
  | none => (.err .invalidInput, F, d)

theorem runN_eq_hist : ∀ (ops : List (Nat × EOp)) (F : Nat → Option FileH) (d : Dev),
    runN ops F d = hist (tableStep execE) ops F d
  | [], _, _ => rfl
  | x :: ops, F, d => by simp only [runN, hist, runN_eq_hist ops]; rfl

theorem runN_sim (ops : List (Nat × EOp)) (F : Nat → Option FileH) {s : SDev} {d : Dev} (ha : s.Agree d) :
    SimRes (hist (tableStep execES) ops F s) (runN ops F d) := by
  rw [runN_eq_hist]
  refine hist_sim (fun x F s d ha => ?_) ops F ha
  unfold tableStep
  cases F x.1 with
  | none => exact ⟨rfl, rfl, ha⟩
  | some h =>
    obtain ⟨h1, h2, h3⟩ := execES_sim x.2 h ha
    exact ⟨h1, congrArg (updF F x.1) h2, h3⟩

end FatVerif.FileSim

/-! ## the statement is not vacuous: the two-file FAT16 volume of `Props/C11img.lean` as a handle table -/

namespace FatVerif.FileSim.ExN
open FatVerif FatVerif.Fat FatVerif.FileSim FatVerif.FileSim.Ex FatVerif.FileSim.Ex14 FatVerif.FileSim.Ex11
  FatVerif.FileSim.ExH

/-- handle 1: the two-cluster file (slot 1536); handle 2: the one-cluster file (slot 1568) -/
def F17 : Nat → Option FileH := fun i => if i = 1 then some file14 else if i = 2 then some fileG else none

theorem fullG17 : FullInv fileG ⟨entryG, 1568, true⟩ dev17 :=
  ⟨pair17.right, entryRepG,
   rootSlot_not_mayTouchData (fs := fs17) (img := img17) geo17 repG17 (by decide) (by decide)⟩

theorem F17_cases {i : Nat} {h : FileH} (hi : F17 i = some h) : (i = 1 ∧ h = file14) ∨ (i = 2 ∧ h = fileG) := by
  unfold F17 at hi
  by_cases h1 : i = 1
  · rw [if_pos h1] at hi; exact Or.inl ⟨h1, (Option.some.inj hi).symm⟩
  · rw [if_neg h1] at hi
    by_cases h2 : i = 2
    · rw [if_pos h2] at hi; exact Or.inr ⟨h2, (Option.some.inj hi).symm⟩
    · rw [if_neg h2] at hi; cases hi

theorem multi17 : MultiInv F17 dev17 where
  full := by
    intro i h hi
    rcases F17_cases hi with ⟨_, rfl⟩ | ⟨_, rfl⟩
    · exact ⟨_, full17⟩
    · exact ⟨_, fullG17⟩
  chains := by
    intro i j hi hj hij h1 h2
    rcases F17_cases h1 with ⟨rfl, rfl⟩ | ⟨rfl, rfl⟩ <;> rcases F17_cases h2 with ⟨rfl, rfl⟩ | ⟨rfl, rfl⟩
    · exact absurd rfl hij
    · exact pair17.apart
    · exact fun c hc hc' => pair17.apart c hc' hc
    · exact absurd rfl hij
  slots := by
    intro i j hi hj pi h1 h2 hp
    have hroot : ∀ (g : FileH), FileRep fs17 img17 g → ∀ pos, pos = 1536 ∨ pos = 1568 →
        ∀ q, pos ≤ q → q < pos + 32 → ¬ MayTouchData fs17 img17 g q := by
      intro g hg pos hpos
      rcases hpos with rfl | rfl
      · exact rootSlot_not_mayTouchData (fs := fs17) (img := img17) geo17 hg (by decide) (by decide)
      · exact rootSlot_not_mayTouchData (fs := fs17) (img := img17) geo17 hg (by decide) (by decide)
    have hpi : (i = 1 ∧ pi = 1536) ∨ (i = 2 ∧ pi = 1568) := by
      rcases F17_cases h1 with ⟨rfl, rfl⟩ | ⟨rfl, rfl⟩
      · exact Or.inl ⟨rfl, (Option.some.inj hp).symm⟩
      · exact Or.inr ⟨rfl, (Option.some.inj hp).symm⟩
    have hrepj : FileRep fs17 img17 hj := by
      rcases F17_cases h2 with ⟨_, rfl⟩ | ⟨_, rfl⟩
      · exact repF17
      · exact repG17
    refine ⟨hroot hj hrepj pi (by rcases hpi with ⟨_, h⟩ | ⟨_, h⟩ <;> simp [h]), fun hij pj hpj => ?_⟩
    have hpj' : (j = 1 ∧ pj = 1536) ∨ (j = 2 ∧ pj = 1568) := by
      rcases F17_cases h2 with ⟨rfl, rfl⟩ | ⟨rfl, rfl⟩
      · exact Or.inl ⟨rfl, (Option.some.inj hpj).symm⟩
      · exact Or.inr ⟨rfl, (Option.some.inj hpj).symm⟩
    omega

/-- handle 1 grows across a cluster boundary and is flushed; handle 2 is read, overwritten, flushed and read back -/
def opsN : List (Nat × EOp) :=
  [(1, .op (.seek (.start 1020))), (2, .op (.readExact 3)), (1, .op (.writeAll [1, 2, 3, 4, 5, 6])), (1, .flush),
   (2, .op (.seek (.start 1))), (2, .op (.write [7])), (2, .flush), (2, .op (.seek (.start 0))), (2, .op (.read 4))]

theorem opsOkN : OpsOkN opsN F17 := by
  simp only [OpsOkN, opsN, List.forall_mem_cons]
  exact ⟨⟨rfl, .of_ne nofun nofun⟩, ⟨rfl, .of_ne nofun nofun⟩, ⟨rfl, .of_writeAll (by decide)⟩, ⟨rfl, trivial⟩,
    ⟨rfl, .of_ne nofun nofun⟩, ⟨rfl, .of_write (by decide)⟩, ⟨rfl, trivial⟩, ⟨rfl, .of_ne nofun nofun⟩,
    ⟨rfl, .of_ne nofun nofun⟩, nofun⟩

/-- the byte-level model, evaluated; both records reached their slots -/
theorem runN17 : (runN opsN F17 dev17).1 =
      [.pos 1020, .bytes [41, 42, 43], .unit, .unit, .pos 1, .count 1, .unit, .pos 0, .bytes [41, 7, 43, 0]] ∧
    (slotData (runN opsN F17 dev17).2.2.img 1536).size = 1026 ∧
    (slotData (runN opsN F17 dev17).2.2.img 1568).size = 100 := by
  obtain ⟨h1, _, ha⟩ := runN_sim opsN F17 agree17
  rw [← h1, slotData_eq_slotDataS, slotData_eq_slotDataS, ha.get]
  decide +kernel

/-- `files_refine_bytefiles` applied -/
theorem specN17 : ∃ B, checkRunN 512 (opsN.map fun x => (x.1, x.2.toOp))
    [.pos 1020, .bytes [41, 42, 43], .unit, .unit, .pos 1, .count 1, .unit, .pos 0, .bytes [41, 7, 43, 0]]
    (absN F17 dev17) = .ok B := by
  have := (files_refine_bytefiles opsN F17 dev17 multi17 opsOkN).2.2
  rw [runN17.1] at this
  exact ⟨_, this⟩

end FatVerif.FileSim.ExN
