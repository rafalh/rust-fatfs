import FatVerif.Spec.FatSpec
import FatVerif.Model.FatCodec
/-!
# The oracles read FAT entries exactly as the library's `get` does

The structural oracles decode allocation-table entries with `Spec.fatEntryRawF` / `Spec.classifyRaw` (written from the
FAT specification); the model of `table.rs` — the one the probe suite `fat` compares with the real `Fat12/16/32::get`
on every entry value — decodes them with `Fat.getRaw` / `Fat.classify`.  For every FAT width, every table and every
cluster number (on FAT32: not one of the special numbers ≥ 0x0FFFFFF7, which no mountable volume has):

* `oracle_raw_eq_model`: whenever the model's `get_raw` succeeds the oracle reads the same raw value;
* `oracle_class_eq_model`: the oracle's class of that value is the model's `FatValue`, refined by the range test the
  oracle adds to links (`.data v` with `2 ≤ v < total + 2` is `.next v`, any other `.data v` is `.reserved`);
* `oracle_entry_eq_model`: the two together, from an answer of the model's `get`.

So a disagreement between an oracle and the library about a chain can only come from the chain structure, never from
two different readings of one table entry.
-/
namespace FatVerif.Spec
open FatVerif FatVerif.Fat

/-- the oracle's range test on links, applied to the library's classification -/
def refineValue (total : Nat) : FatValue → FatClass
  | .free => .free
  | .bad => .bad
  | .eoc => .eoc
  | .data v => if 2 ≤ v ∧ v < total + 2 then .next v else .reserved

/-- a successful `get_raw` (two range guards, then the value) answers the value at the entry's position -/
theorem getRaw_ok_inv {ft : FatType} {f : Array Nat} {c v : Nat} (h : Fat.getRaw ft f c = .ok v) :
    v = (match ft with
      | .fat12 => Fat.val12 c (Fat.rd16 f (c + c / 2))
      | .fat16 => Fat.rd16 f (c * 2)
      | .fat32 => Fat.rd32 f (c * 4)) := by
  -- the same for each width
  cases ft <;> simp only [Fat.getRaw, Fat.getRaw12, Fat.getRaw16, Fat.getRaw32] at h <;>
    (split at h
     · cases h
     · split at h
       · cases h
       · cases h; rfl)

theorem oracle_raw_eq_model (ft : FatType) (f : Array Nat) (c v : Nat) (h : Fat.getRaw ft f c = .ok v) :
    fatEntryRawF ft.bits (fun i => Fat.rd f i) 0 c = v := by
  rw [getRaw_ok_inv h]
  cases ft
  · simp only [fatEntryRawF, FatType.bits, if_true, Fat.val12, Spec.rd16, Fat.rd16, Nat.zero_add]
    rcases Nat.mod_two_eq_zero_or_one c with e | e <;> simp [e]
  · simp only [fatEntryRawF, FatType.bits, Spec.rd16, Fat.rd16, Nat.zero_add, Nat.mul_comm]
    simp
  · simp only [fatEntryRawF, FatType.bits, Spec.rd32, Fat.rd32, Nat.zero_add, Nat.mul_comm]
    simp

/-- raw values the codec can return fit the entry width -/
def RawFits : FatType → Nat → Prop
  | .fat12, v => v < 4096
  | .fat16, v => v < 65536
  | .fat32, _ => True

/-- the oracle's classification with the mask of each width written out -/
theorem classifyRaw_eq (bits m total v : Nat) (hm : fatMask bits = m) :
    classifyRaw bits total v =
      (if v % (m + 1) = 0 then .free
       else if v % (m + 1) ≥ m - 7 then .eoc
       else if v % (m + 1) = m - 8 then .bad
       else if 2 ≤ v % (m + 1) ∧ v % (m + 1) < total + 2 then .next (v % (m + 1))
       else .reserved) := by
  subst hm; rfl

theorem class_core (m total w : Nat) (hm : 16 ≤ m) (hw : w ≤ m) :
    (if w = 0 then FatClass.free
       else if w ≥ m - 7 then .eoc
       else if w = m - 8 then .bad
       else if 2 ≤ w ∧ w < total + 2 then .next w
       else .reserved) =
    refineValue total (if w = 0 then .free else if w = m - 8 then .bad else if m - 7 ≤ w ∧ w ≤ m then .eoc else .data w) := by
  by_cases h0 : w = 0
  · simp only [if_pos h0]; rfl
  · by_cases h1 : w = m - 8
    · have h2 : ¬ w ≥ m - 7 := by omega
      simp only [if_neg h0, if_neg h2, if_pos h1]; rfl
    · by_cases h2 : w ≥ m - 7
      · have h3 : m - 7 ≤ w ∧ w ≤ m := ⟨h2, hw⟩
        simp only [if_neg h0, if_pos h2, if_neg h1, if_pos h3]; rfl
      · have h3 : ¬ (m - 7 ≤ w ∧ w ≤ m) := fun h => h2 h.1
        simp only [if_neg h0, if_neg h2, if_neg h1, if_neg h3]; rfl

theorem oracle_class_eq_model (ft : FatType) (total c v : Nat) (hc : ft = .fat32 → ¬ Fat.special32 c)
    (hv : RawFits ft v) :
    classifyRaw ft.bits total v = refineValue total (Fat.classify ft c v) := by
  cases ft
  · have hv' : v < 4096 := hv
    show classifyRaw 12 total v = _
    rw [classifyRaw_eq 12 4095 total v rfl, Nat.mod_eq_of_lt (by omega), class_core 4095 total v (by omega) (by omega)]
    rfl
  · have hv' : v < 65536 := hv
    show classifyRaw 16 total v = _
    rw [classifyRaw_eq 16 65535 total v rfl, Nat.mod_eq_of_lt (by omega),
      class_core 65535 total v (by omega) (by omega)]
    rfl
  · have hw : v % 268435456 < 268435456 := Nat.mod_lt _ (by decide)
    show classifyRaw 32 total v = _
    rw [classifyRaw_eq 32 268435455 total v rfl]
    show _ = refineValue total (Fat.classify32 c (v % 268435456))
    have e : v % (268435455 + 1) = v % 268435456 := rfl
    rw [e]
    generalize v % 268435456 = w at hw
    rw [class_core 268435455 total w (by omega) (by omega)]
    simp only [Fat.classify32, hc rfl, if_false]

end FatVerif.Spec

namespace FatVerif.Spec
open FatVerif FatVerif.Fat
/-- Both steps together, on the bytes of one FAT copy: if the model of the library's
    `get` answers `val` for cluster `c`, the oracle's class of entry `c` is `refineValue total val`. -/
theorem oracle_entry_eq_model (ft : FatType) (f : Array Nat) (total c : Nat) (val : FatValue)
    (hc : ft = .fat32 → ¬ Fat.special32 c) (hwf : ∀ i, Fat.rd f i < 256) (h : Fat.get ft f c = .ok val) :
    classifyRaw ft.bits total (fatEntryRawF ft.bits (fun i => Fat.rd f i) 0 c) = refineValue total val := by
  unfold Fat.get at h
  split at h
  · rename_i v hv
    cases h
    rw [oracle_raw_eq_model ft f c v hv]
    apply oracle_class_eq_model ft total c v hc
    rw [getRaw_ok_inv hv]
    cases ft
    · have h0 := hwf (c + c / 2); have h1 := hwf (c + c / 2 + 1)
      show Fat.val12 c (Fat.rd16 f (c + c / 2)) < 4096
      unfold Fat.val12 Fat.rd16
      split <;> omega
    · have h0 := hwf (c * 2); have h1 := hwf (c * 2 + 1)
      show Fat.rd16 f (c * 2) < 65536
      unfold Fat.rd16
      omega
    · trivial
  · cases h
end FatVerif.Spec
