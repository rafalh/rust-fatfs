import FatVerif.Proofs.FatMore
import FatVerif.Proofs.FatChains
import FatVerif.Proofs.FatTerm
/-!
# C03 (FAT-table part) and C20.2 / C20.3 — allocation, truncation, chain invariant, wrap-around, offset arithmetic
-/
namespace FatVerif.C03fat
open FatVerif.Fat

/-- **alloc_spec.** On a sane table (`TableOk`: byte-valued, entries `[0,total+2)` inside the bytes,
    `total+2 ≤ 0x?FF7`), a hint
    that is absent or `≥ 2`, and `prev` absent or an allocated entry of the table:
    a successful `alloc_cluster` returns `c` with `2 ≤ c < total+2` that was `Free`; afterwards `view c = EOC`,
    `view prev = Data c`, every other entry has its old raw value, the length is unchanged and the table is still sane. -/
theorem alloc_spec (ft : FatType) (f : Array Nat) (total : Nat) (ht : TableOk ft f total)
    (prev hint : Option Nat) (hh : ∀ n, hint = some n → 2 ≤ n)
    (hp : ∀ p, prev = some p → p < total + 2 ∧ view ft f p ≠ .free)
    (c : Nat) (h : (allocCluster f ft prev hint total).out = .ok c) :
    2 ≤ c ∧ c < total + 2 ∧ view ft f c = .free ∧
    view ft (allocCluster f ft prev hint total).fat c = .eoc ∧
    (∀ p, prev = some p → view ft (allocCluster f ft prev hint total).fat p = .data c) ∧
    (∀ i, i ≠ c → prev ≠ some i →
      getRaw ft (allocCluster f ft prev hint total).fat i = getRaw ft f i) ∧
    (allocCluster f ft prev hint total).fat.size = f.size ∧
    TableOk ft (allocCluster f ft prev hint total).fat total := by
  cases hfind : allocFindV (view ft f) hint total with
  | none =>
    rw [allocCluster_noSpace ht prev hint hfind] at h; cases h
  | some c' =>
    obtain ⟨hc1, hc2, hc3⟩ := allocFindV_some _ _ _ _ hh hfind
    obtain ⟨f', h1, h2, h3, h4, h5⟩ := allocCluster_ok ht prev hint hh (fun p h => (hp p h).1) hfind
    rw [h1] at h ⊢
    cases h
    have hpc : ∀ p, prev = some p → p ≠ c := by
      intro p hpp e; subst e; exact (hp p hpp).2 hc3
    obtain ⟨s1, s2, _⟩ := allocLinkV_spec (view ft f) prev c hpc
    refine ⟨hc1, hc2, hc3, ?_, ?_, h5, h4, h3⟩
    · show view ft f' c = .eoc
      rw [h2]; exact s1
    · intro p hpp
      show view ft f' p = .data c
      rw [h2]; exact s2 p hpp

/-- `alloc_cluster` fails with `NotEnoughSpace` iff no entry of `[2,total+2)` is free (C05 has the two halves) -/
theorem alloc_nospace_iff (ft : FatType) (f : Array Nat) (total : Nat) (ht : TableOk ft f total)
    (prev hint : Option Nat) (hh : ∀ n, hint = some n → 2 ≤ n) :
    (allocCluster f ft prev hint total).out = .error .noSpace ↔
      ∀ i, 2 ≤ i → i < total + 2 → view ft f i ≠ .free := by
  constructor
  · intro h
    exact allocFindV_none _ _ _ (allocCluster_noSpace_inv ht prev hint h)
  · intro h
    rw [allocCluster_noSpace ht prev hint (allocFindV_eq_none hh h)]

/-- FAT16, 6 data clusters: 2→3→EOC, 4 free, 5→7→EOC (fragmented), 6 free -/
def exTab : Array Nat :=
  #[0xF8, 0xFF, 0xFF, 0xFF, 0x03, 0x00, 0xFF, 0xFF, 0x00, 0x00, 0x07, 0x00, 0x00, 0x00, 0xF8, 0xFF]

theorem exTab_ok : TableOk .fat16 exTab 6 :=
  ⟨wfBytes_of_all _ (by decide), fun c hc => by simp only [InRange, off, width, exTab, u32Lim]; simp; omega,
   by decide⟩

/-- hypotheses of `alloc_spec` are satisfiable: extend the chain ending at 7 with hint 7 → wraps to cluster 4 -/
example : (allocCluster exTab .fat16 (some 7) (some 7) 6).out = .ok 4 ∧ allocStartV (some 7) 6 < 6 + 2 ∧
    view .fat16 exTab 7 ≠ .free ∧ view .fat16 (allocCluster exTab .fat16 (some 7) (some 7) 6).fat 7 = .data 4 :=
  ⟨rfl, by decide, by decide, rfl⟩

/-- **truncate_spec / free_spec.** `ClusterIterator::truncate` at the head `c` of an acyclic chain `c :: t` inside the
    table keeps `c` (now `EOC`), frees exactly `t`, returns `|t|`, leaves every other raw entry alone. -/
theorem truncate_spec (ft : FatType) (f : Array Nat) (total c : Nat) (t : List Nat) (ht : TableOk ft f total)
    (hch : Chain (view ft f) c (c :: t)) (hnd : (c :: t).Nodup) (hin : ∀ k, k ∈ c :: t → k < total + 2)
    (fuel : Nat) (hfuel : t.length ≤ fuel) :
    ∃ f', truncateChain ft f c fuel = ⟨.ok t.length, f'⟩ ∧ f'.size = f.size ∧ TableOk ft f' total ∧
      view ft f' c = .eoc ∧ (∀ i, i ∈ t → view ft f' i = .free) ∧
      (∀ i, i ≠ c → i ∉ t → getRaw ft f' i = getRaw ft f i) := by
  have hpc := ht.plain (hin c (List.mem_cons_self ..))
  obtain ⟨g', hg, hc', hfree, _⟩ := truncateChainV_spec (view ft f) c t hch hnd fuel hfuel
  rcases truncateChain_cases f c fuel with ⟨_, hn⟩ | ⟨f1, h1, _, heq⟩
  · exact absurd hpc.1 hn
  · have hv1 := view_set ht.wf (v := .eoc) (by cases ft <;> trivial) hpc.2 h1
    have hw := walkV_tail .eoc hch hnd fuel hfuel
    rw [heq]
    -- the loop after `c := EOC` is `freeChainV` on the rest of the chain, whose members are plain entries
    rcases freeLoop_refines fuel f1 (nextV (view ft f) c) 0 (set_wf ht.wf h1) with ⟨_, d, hd, hpd⟩ | hr
    · rw [hv1, hw] at hd
      exact absurd ((ht.plain (hin d (List.mem_cons_of_mem _ hd))).of_size (set_size h1)) hpd
    · rw [hv1, hw, ← truncateChainV, hg] at hr
      obtain ⟨e1, e2, e3, e4, e5⟩ := hr
      have hs := e4.trans (set_size h1)
      exact ⟨_, by rw [← e1], hs, ht.of_size e3 hs, by rw [e2]; exact hc', fun i hi => by rw [e2]; exact hfree i hi,
        fun i hic hit => by rw [e5 i hit, getRaw_set_other ht.wf (fits_eoc ft) h1 hic]⟩

theorem free_spec (ft : FatType) (f : Array Nat) (total c : Nat) (cs : List Nat) (ht : TableOk ft f total)
    (hch : Chain (view ft f) c cs) (hnd : cs.Nodup) (hin : ∀ k, k ∈ cs → k < total + 2)
    (fuel : Nat) (hfuel : cs.length ≤ fuel) :
    ∃ f', freeChain ft f c fuel = ⟨.ok cs.length, f'⟩ ∧ f'.size = f.size ∧ TableOk ft f' total ∧
      (∀ i, i ∈ cs → view ft f' i = .free) ∧ (∀ i, i ∉ cs → getRaw ft f' i = getRaw ft f i) := by
  obtain ⟨hw, hg⟩ := freeChainV_chain cs _ c hch hnd fuel 0 hfuel
  -- no member of the chain can make the stream fail, so the loop is `freeChainV`, which visits the chain
  rcases freeLoop_refines fuel f (some c) 0 ht.wf with ⟨_, d, hd, hpd⟩ | hr
  · rw [hw] at hd; exact absurd (ht.plain (hin d hd)) hpd
  · rw [hg, hw] at hr
    obtain ⟨h1, h2, h3, h4, h5⟩ := hr
    rw [Nat.zero_add] at h1
    exact ⟨_, by rw [← h1]; rfl, h4, ht.of_size h3 h4, fun i hi => by rw [h2]; exact if_pos hi, h5⟩

example : Chain (view .fat16 exTab) 5 [5, 7] ∧ (truncateChain .fat16 exTab 5 8).out = .ok 1 ∧
    view .fat16 (truncateChain .fat16 exTab 5 8).fat 5 = .eoc ∧
    view .fat16 (truncateChain .fat16 exTab 5 8).fat 7 = .free :=
  ⟨Chain.cons 5 7 [7] rfl (Chain.last 7 (by intro n h; cases h)), rfl, rfl, rfl⟩

/-- on an acyclic in-table chain `total+2` loop iterations always suffice (see `free_never_hangs` for arbitrary
    tables) -/
theorem free_no_hang (ft : FatType) (f : Array Nat) (total c : Nat) (cs : List Nat) (ht : TableOk ft f total)
    (hch : Chain (view ft f) c cs) (hnd : cs.Nodup) (hin : ∀ k, k ∈ cs → k < total + 2) :
    (freeChain ft f c (total + 2)).out ≠ .error .hang := by
  have hlen : cs.length ≤ total + 2 := by
    have hsub : cs ⊆ List.range (total + 2) := fun k hk => List.mem_range.mpr (hin k hk)
    have := List.Nodup.length_le_of_subset hnd hsub
    simpa using this
  obtain ⟨f', h1, _⟩ := free_spec ft f total c cs ht hch hnd hin (total + 2) hlen
  rw [h1]; intro h; cases h

theorem ChainOutcome.ne_hang {x : Except Err Nat} (h : ChainOutcome x) : x ≠ .error .hang := by
  intro e; rw [e] at h
  rcases h with ⟨n, h⟩ | h | h | h <;> cases h

/-- **free_never_hangs** (after the F10 repair, commit 54cda0a). On ANY byte-valued table — cyclic chains, links out
    of range or into padding, a table shorter than `total` needs — and from ANY start cluster, `free` with fuel
    greater than the byte length ends with a count or with one of `panic` (u32 offset overflow / `Free` on a special
    FAT32 cluster number), `eof` (the cluster's entry is outside the bytes), `writeZero`; never with `hang`.
    Reason: a continuing iteration read `view n = Data m` and then writes `Free` into `n`, so the number of links
    strictly decreases; a cycle ends when the walk returns to an entry it has already freed. -/
theorem free_never_hangs (ft : FatType) (f : Array Nat) (c fuel : Nat) (hf : WfBytes f) (hfuel : f.size + 1 ≤ fuel) :
    ChainOutcome (freeChain ft f c fuel).out ∧ (freeChain ft f c fuel).out ≠ .error .hang := by
  have h : ChainOutcome (freeChain ft f c fuel).out :=
    freeLoop_terminates f.size fuel f c 0 hf (no_data_beyond_size ft f)
      (by have := dataCount_le (view ft f) f.size; omega)
  exact ⟨h, ChainOutcome.ne_hang h⟩

theorem truncate_never_hangs (ft : FatType) (f : Array Nat) (c fuel : Nat) (hf : WfBytes f)
    (hfuel : f.size + 1 ≤ fuel) :
    ChainOutcome (truncateChain ft f c fuel).out ∧ (truncateChain ft f c fuel).out ≠ .error .hang := by
  have h := truncateChain_terminates_gen ft f.size f c fuel hf (no_data_beyond_size ft f)
    (by have := dataCount_le (view ft f) f.size; omega)
  exact ⟨h, ChainOutcome.ne_hang h⟩

/-- the sharp bound: the loop runs at most (number of `Data` links among the entries that can hold one) + 1 times.
    If no padding entry `≥ total+2` holds a link (true after `format_fat`, which marks them EOC), `total + 3`
    iterations suffice for any start cluster and any shape of the links, cycles included. -/
theorem free_never_hangs_table (ft : FatType) (f : Array Nat) (total c fuel : Nat) (hf : WfBytes f)
    (hpad : ∀ i, total + 2 ≤ i → isData (view ft f i) = false) (hfuel : total + 3 ≤ fuel) :
    ChainOutcome (freeChain ft f c fuel).out ∧ ChainOutcome (truncateChain ft f c fuel).out := by
  have hle := dataCount_le (view ft f) (total + 2)
  exact ⟨freeLoop_terminates (total + 2) fuel f c 0 hf hpad (by omega),
    truncateChain_terminates_gen ft (total + 2) f c fuel hf hpad (by omega)⟩

/-- FAT16 table with a 2-cycle 2→3→2 and a ρ-shaped chain 4→5→6→5 -/
def exCyc : Array Nat :=
  #[0xF8, 0xFF, 0xFF, 0xFF, 0x03, 0x00, 0x02, 0x00, 0x05, 0x00, 0x06, 0x00, 0x05, 0x00]

/-- what a cycle does: the walk frees 2, 3, comes back to 2 (now `Free`, no link), "frees" it again and stops.
    Both clusters are reclaimed but the returned count is one too high (3 for 2 clusters; 4 for the 3 clusters of the
    ρ-shaped chain) — on such a corrupt table the caller's free-cluster counter drifts by one. -/
theorem free_cycle_example :
    (freeChain .fat16 exCyc 2 15).out = .ok 3 ∧
    view .fat16 (freeChain .fat16 exCyc 2 15).fat 2 = .free ∧ view .fat16 (freeChain .fat16 exCyc 2 15).fat 3 = .free ∧
    (freeChain .fat16 exCyc 4 15).out = .ok 4 ∧ (truncateChain .fat16 exCyc 4 15).out = .ok 3 ∧
    WfBytes exCyc ∧ exCyc.size + 1 ≤ 15 :=
  ⟨rfl, rfl, rfl, rfl, rfl, wfBytes_of_all _ (by decide), by decide⟩

/-- a start cluster outside the bytes is now reported as the read error it is (before the repair the FAT16 path went
    on to the write and answered `WriteZero`) -/
example : (freeChain .fat16 exCyc 7 15).out = .error .eof ∧ (freeChain .fat16 exCyc 7 15).fat = exCyc :=
  ⟨rfl, rfl⟩

/-- **chains_inv.** The FAT-level structural invariant `FatWf` (links in range, links point to allocated entries, no
    two links to the same cluster, no cycles — i.e. the allocated entries form disjoint acyclic chains) is preserved
    by the byte-level `alloc_cluster` … -/
theorem chains_inv_alloc (ft : FatType) (f : Array Nat) (total : Nat) (ht : TableOk ft f total)
    (hw : FatWf (view ft f) total)
    (prev hint : Option Nat) (hh : ∀ n, hint = some n → 2 ≤ n)
    (hp : ∀ p, prev = some p → p < total + 2 ∧ view ft f p = .eoc) :
    FatWf (view ft (allocCluster f ft prev hint total).fat) total := by
  cases hfind : allocFindV (view ft f) hint total with
  | none => rw [allocCluster_noSpace ht prev hint hfind]; exact hw
  | some c =>
    obtain ⟨hc1, hc2, hc3⟩ := allocFindV_some _ _ _ _ hh hfind
    obtain ⟨f', h1, h2, _⟩ := allocCluster_ok ht prev hint hh (fun p h => (hp p h).1) hfind
    rw [h1]
    show FatWf (view ft f') total
    rw [h2]
    exact fatWf_alloc hw prev c hc3 hc1 hc2 (fun p h => (hp p h).2)

/-- … by `ClusterIterator::free` of a whole chain (its head `c` has no predecessor) … -/
theorem chains_inv_free (ft : FatType) (f : Array Nat) (total c : Nat) (cs : List Nat) (ht : TableOk ft f total)
    (hw : FatWf (view ft f) total) (hch : Chain (view ft f) c cs) (hhead : ∀ a, view ft f a ≠ .data c)
    (hin : ∀ k, k ∈ cs → k < total + 2) (fuel : Nat) (hfuel : cs.length ≤ fuel) :
    FatWf (view ft (freeChain ft f c fuel).fat) total := by
  obtain ⟨f', h1, _, _, h4, h5⟩ := free_spec ft f total c cs ht hch (chain_nodup' hch) hin fuel hfuel
  rw [h1]
  exact fatWf_free hw hch hhead h4 (fun i hi => view_eq_of_getRaw_eq (h5 i hi))

/-- … and by `ClusterIterator::truncate` at any cluster `c` of a chain (`c :: t` = the rest of the chain from `c`) -/
theorem chains_inv_truncate (ft : FatType) (f : Array Nat) (total c : Nat) (t : List Nat) (ht : TableOk ft f total)
    (hw : FatWf (view ft f) total) (hch : Chain (view ft f) c (c :: t))
    (hin : ∀ k, k ∈ c :: t → k < total + 2) (fuel : Nat) (hfuel : t.length ≤ fuel) :
    FatWf (view ft (truncateChain ft f c fuel).fat) total := by
  obtain ⟨f', h1, _, _, h4, h5, h6⟩ := truncate_spec ft f total c t ht hch (chain_nodup' hch) hin fuel hfuel
  rw [h1]
  exact fatWf_truncate hw hch h4 h5 (fun i hi hit => view_eq_of_getRaw_eq (h6 i hi hit))

/-- what `FatWf` buys: every cluster starts a finite duplicate-free chain, and it is unique -/
theorem chains_inv_chains (g : Nat → FatValue) (total : Nat) (hw : FatWf g total) (c : Nat) :
    ∃ cs, Chain g c cs ∧ cs.Nodup ∧ ∀ cs', Chain g c cs' → cs' = cs := by
  obtain ⟨cs, h, hnd⟩ := chain_exists hw c
  exact ⟨cs, h, hnd, fun cs' h' => chain_unique h' h⟩

/-- the example table, entry by entry -/
theorem exTab_view :
    view .fat16 exTab = ([FatValue.eoc, .eoc, .data 3, .eoc, .free, .data 7, .free, .eoc].getD · .bad) := by
  funext c
  by_cases h8 : c < 8
  · revert c; decide +kernel
  · rw [List.getD_eq_getElem?_getD, List.getElem?_eq_none (Nat.le_of_not_lt h8)]
    refine view_outside _ _ c (fun h => ?_)
    have hsz : exTab.size = 16 := rfl
    simp only [InRange, off, width] at h
    omega

/-- `exTab` satisfies the invariant (rank: the distance from the end of the table) -/
theorem exTab_wf : FatWf (view .fat16 exTab) 6 := by
  rw [exTab_view]
  have key : ∀ c n, [FatValue.eoc, .eoc, .data 3, .eoc, .free, .data 7, .free, .eoc].getD c .bad = .data n →
      (c = 2 ∧ n = 3) ∨ (c = 5 ∧ n = 7) := by
    intro c n h
    match c, h with
    | 2, h => cases h; exact .inl ⟨rfl, rfl⟩
    | 5, h => cases h; exact .inr ⟨rfl, rfl⟩
    | 0, h | 1, h | 3, h | 4, h | 6, h | 7, h | _ + 8, h => cases h
  refine ⟨?_, ?_, ?_, ⟨fun c => 10 - c, ?_⟩⟩
  · intro c n h; rcases key c n h with ⟨_, rfl⟩ | ⟨_, rfl⟩ <;> decide
  · intro c n h; rcases key c n h with ⟨_, rfl⟩ | ⟨_, rfl⟩ <;> decide
  · intro a b n ha hb
    rcases key a n ha with ⟨rfl, rfl⟩ | ⟨rfl, rfl⟩ <;> rcases key b _ hb with ⟨rfl, h⟩ | ⟨rfl, h⟩ <;> first | rfl | omega
  · intro c n h; rcases key c n h with ⟨rfl, rfl⟩ | ⟨rfl, rfl⟩ <;> (dsimp only; omega)

/-- **alloc_wraparound (C20.3).** On a volume of ANY size — also one with zero data clusters, since the repair of
    F21 (commit 8aee7d6) —, for ANY hint that is absent, out of range
    (`≥ total+2`, incl. `total+2` itself — `Some(n) if n < end_cluster` sends it to 2) or anywhere in `[2,total+2)`:
    `alloc_cluster` succeeds iff some entry of `[2,total+2)` is free — in particular when only the LAST cluster
    `total+1` is free —, what it returns is a free cluster in `[2,total+2)`, never an index `≥ total+2`. -/
theorem alloc_wraparound (ft : FatType) (f : Array Nat) (total : Nat) (ht : TableOk ft f total)
    (prev hint : Option Nat) (hh : ∀ n, hint = some n → 2 ≤ n) (hp : ∀ p, prev = some p → p < total + 2) :
    ((∃ c, (allocCluster f ft prev hint total).out = .ok c) ↔ ∃ i, 2 ≤ i ∧ i < total + 2 ∧ view ft f i = .free) ∧
    (∀ c, (allocCluster f ft prev hint total).out = .ok c → 2 ≤ c ∧ c < total + 2 ∧ view ft f c = .free) ∧
    (0 < total → (∀ i, 2 ≤ i → i < total + 1 → view ft f i ≠ .free) → view ft f (total + 1) = .free →
      (allocCluster f ft prev hint total).out = .ok (total + 1)) := by
  have key : ∀ c, allocFindV (view ft f) hint total = some c → (allocCluster f ft prev hint total).out = .ok c := by
    intro c hf
    obtain ⟨f', h1, _⟩ := allocCluster_ok ht prev hint hh hp hf
    rw [h1]
  have hret : ∀ c, (allocCluster f ft prev hint total).out = .ok c → 2 ≤ c ∧ c < total + 2 ∧ view ft f c = .free := by
    intro c h
    cases hf : allocFindV (view ft f) hint total with
    | none => rw [allocCluster_noSpace ht prev hint hf] at h; cases h
    | some c' =>
      rw [key c' hf] at h; cases h
      exact allocFindV_some _ _ _ _ hh hf
  refine ⟨⟨?_, ?_⟩, hret, ?_⟩
  · rintro ⟨c, h⟩; exact ⟨c, hret c h⟩
  · rintro ⟨i, h1, h2, h3⟩
    obtain ⟨c, hc⟩ := allocFindV_isSome (view ft f) hint total i h1 h2 h3
    exact ⟨c, key c hc⟩
  · intro htot hnone hlast
    obtain ⟨c, hc⟩ := allocFindV_isSome (view ft f) hint total (total + 1) (by omega) (by omega) hlast
    have := allocFindV_some _ _ _ _ hh hc
    have hc' : c = total + 1 := by
      by_cases e : c = total + 1
      · exact e
      · exact absurd this.2.2 (hnone c this.1 (by omega))
    subst hc'; exact key _ hc

/-- the scans read nothing beyond entry `total+1`: two sane tables that agree on `[0,total+2)` give the same answer -/
theorem alloc_reads_only_table (ft : FatType) (f f2 : Array Nat) (total : Nat) (ht : TableOk ft f total)
    (ht2 : TableOk ft f2 total) (hint : Option Nat)
    (hsame : ∀ i, i < total + 2 → view ft f i = view ft f2 i) :
    allocFind ft f (allocStart hint (total + 2)) (total + 2) =
      allocFind ft f2 (allocStart hint (total + 2)) (total + 2) := by
  rw [allocFind_sim ht hint, allocFind_sim ht2 hint]
  congr 1
  unfold allocFindV
  have hs := allocStartV_le hint total
  generalize allocStartV hint total = start at *
  rw [findFreeV_congr (view ft f) (view ft f2) _ _ (fun i h1 h2 => hsame i (by omega)),
    findFreeV_congr (view ft f) (view ft f2) (start - 2) 2 (fun i h1 h2 => hsame i (by omega))]

/-- last cluster only: hint = last+1 = total+2 (FS-info hint after allocating the last cluster, F13) still finds it -/
example : (allocCluster #[0xF8, 0xFF, 0xFF, 0xFF, 0x0F, 0x00] .fat12 none (some 4) 2).out = .ok 3 := rfl

/-- a volume with zero data clusters: nothing to allocate, whatever the padding entries hold — the instance of
    `alloc_wraparound` that was false for FAT12 before commit 8aee7d6 (hint absent or ≥ 2 as everywhere) -/
theorem alloc_zero_clusters (ft : FatType) (f : Array Nat) (ht : TableOk ft f 0) (prev hint : Option Nat)
    (hh : ∀ n, hint = some n → 2 ≤ n) : allocCluster f ft prev hint 0 = ⟨.error .noSpace, f⟩ := by
  exact allocCluster_noSpace ht prev hint (allocFindV_eq_none hh fun i h1 h2 => by omega)

/-- F21 regression (repaired in commit 8aee7d6: `if start_cluster >= end_cluster { return Err(NotEnoughSpace) }`).
    FAT12 volume with zero data clusters and a zero padding entry 2: before the repair `alloc_cluster` returned
    cluster 2 = total+2 and wrote it; now it answers `NotEnoughSpace` and leaves the bytes alone, like FAT16. -/
theorem alloc_zero_clusters_regression :
    allocCluster #[0xF8, 0xFF, 0xFF, 0x00, 0x00, 0x00] .fat12 none none 0 =
      ⟨.error .noSpace, #[0xF8, 0xFF, 0xFF, 0x00, 0x00, 0x00]⟩ ∧
    (allocCluster #[0xF8, 0xFF, 0xFF, 0x00, 0x00, 0x00] .fat12 none (some 2) 0).out = .error .noSpace ∧
    (allocCluster #[0xF8, 0xFF, 0xFF, 0xFF, 0x00, 0x00, 0x00, 0x00] .fat16 none none 0).out = .error .noSpace :=
  ⟨rfl, rfl, rfl⟩

example : TableOk .fat12 #[0xF8, 0xFF, 0xFF, 0x00, 0x00, 0x00] 0 :=
  ⟨wfBytes_of_all _ (by decide), fun c hc => by simp only [InRange, off, width, u32Lim]; simp; omega, by decide⟩

/-- the same at the level of `find_free`: an empty range (`start ≥ end`) is NotEnoughSpace for every width and reads
    nothing (before the repair FAT12 scanned on to the end of the stream and returned 3 here) -/
theorem findFree12_start_eq_end_regression :
    findFree .fat12 #[0xF8, 0xFF, 0xFF, 0xFF, 0x0F, 0x00] 2 2 = .error .noSpace ∧
    findFree .fat12 #[0xF8, 0xFF, 0xFF, 0xFF, 0x0F, 0x00] 3 2 = .error .noSpace ∧
    findFree .fat16 #[0xF8, 0xFF, 0xFF, 0xFF, 0xFF, 0xFF, 0x00, 0x00] 2 2 = .error .noSpace :=
  ⟨rfl, rfl, rfl⟩

/-- in general -/
theorem findFree_empty_range (ft : FatType) (f : Array Nat) (total s e : Nat) (ht : TableOk ft f total)
    (hse : e ≤ s) (hs : s ≤ total + 2) : findFree ft f s e = .error .noSpace :=
  findFree_empty ht hse hs

/-- **fat_offset_arith (C20.2).** The u32 offset computations of `table.rs` cannot overflow for any cluster number
    a FAT of that width can hold: `c·4 < 2^32` for `c ≤ 0x0FFFFFFF`, `c·2` for `c ≤ 0xFFFF`, `c + c/2` for
    `c ≤ 0xFFF`; hence `get`/`set`/`find_free` never panic there (they fail with `eof`, or succeed). -/
theorem fat_offset_arith :
    (∀ c, c ≤ 0x0FFFFFFF → c * 4 + 4 ≤ 4294967296) ∧ (∀ c, c ≤ 0xFFFF → c * 2 + 2 ≤ 4294967296) ∧
    (∀ c, c ≤ 0xFFF → c + c / 2 + 2 ≤ 4294967296) ∧
    (∀ ft f c, c ≤ 0x0FFFFFFF → getRaw ft f c ≠ .error .panic) := by
  refine ⟨fun c h => by omega, fun c h => by omega, fun c h => by omega, ?_⟩
  intro ft f c hc h
  cases ft
  · simp only [getRaw, getRaw12] at h
    rw [if_neg (show ¬ (u32Lim ≤ c + c / 2) by unfold u32Lim; omega)] at h
    split at h <;> cases h
  · simp only [getRaw, getRaw16] at h
    rw [if_neg (show ¬ (u32Lim ≤ c * 2) by unfold u32Lim; omega)] at h
    split at h <;> cases h
  · simp only [getRaw, getRaw32] at h
    rw [if_neg (show ¬ (u32Lim ≤ c * 4) by unfold u32Lim; omega)] at h
    split at h <;> cases h

/-- beyond that range the overflow is real (debug/overflow-checks build): FAT32 `cluster * 4` at 2^30 -/
example : getRaw .fat32 #[0, 0, 0, 0] 0x40000000 = .error .panic ∧ getRaw .fat32 #[0, 0, 0, 0] 0x3FFFFFFF = .error .eof :=
  ⟨rfl, rfl⟩

end FatVerif.C03fat
