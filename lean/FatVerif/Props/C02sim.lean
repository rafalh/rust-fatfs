import FatVerif.Proofs.FileSimRead
import FatVerif.Proofs.FileSimSeek
import FatVerif.Proofs.FileSimWrite
import FatVerif.Proofs.FileSimWriteAlloc
import FatVerif.Proofs.FileSimTruncate
import FatVerif.Proofs.FileSimLoop
import FatVerif.Proofs.RunFn
/-!
# C02, simulation: the byte-level `File` of Model/File.lean refines the byte array with a cursor

`Props/C02.lean` proves that the cursor machine `Cursor.AFile` refines the specification `Cursor.ByteFile`.
This file ties the byte-level, call-exact model `FileH` (programs over `Prog`, run on a device image) to that machine on
the fault-free path (`failAt = none`), and composes the two.

* abstraction `FileSim.absFile fs img f`, representation invariant `FileSim.FileRep fs img f`, layout `FileSim.Geo`
  (Proofs/FileSimIter.lean, Proofs/FileSimDefs.lean);
* `FileSim.read_sim`, `FileSim.seek_sim` (Proofs/FileSimRead.lean, Proofs/FileSimSeek.lean);
* `FileSim.writeTail_sim` (Proofs/FileSimWrite.lean), `FileSim.selCluster_sim`, `FileSim.write_sim` (Proofs/FileSimWriteAlloc.lean),
  `FileSim.truncate_sim` (Proofs/FileSimTruncate.lean), on top of the forward evaluation of the FAT operations on the
  image (Proofs/FileSimFat*.lean);
* `fileh_refines_bytefile` below;
* for the examples: the drivers of histories once more on a device given by the bytes it reads as (`Proofs/RunFn.lean`),
  and how to establish `FileRep` of a concrete image from its decoded FAT.
-/
namespace FatVerif.FileSim
open FatVerif FatVerif.Fat

/-- operations of a history on one byte-level handle -/
inductive HOp where
  | read (n : Nat)
  | seek (p : FatVerif.SeekFrom)
  | write (bs : List Nat)
  | truncate
  /-- `Read::read_exact` on the handle: the loop of io.rs over single `read` calls -/
  | readExact (n : Nat)
  /-- `Write::write_all` on the handle: the loop of io.rs over single `write` calls -/
  | writeAll (bs : List Nat)
  deriving Repr

/-- the corresponding operation of the cursor machine / the specification -/
def HOp.toOp : HOp → Cursor.FileOp
  | .read n => .read n
  | .seek p => .seek (convSeek p)
  | .write bs => .write bs
  | .truncate => .truncate
  | .readExact n => .readExact n
  | .writeAll bs => .writeAll bs

/-- the operations that are one call of `File` (the other two are loops over such calls) -/
def HOp.isPrim : HOp → Prop
  | .readExact _ => False
  | .writeAll _ => False
  | _ => True

/-- `read_exact` as the history driver runs it (`Session.readxLoop` of Model/Api.lean, on the device alone): single `read`
    calls until the buffer is full; a call returning nothing is `UnexpectedEof` (reported with the cursor, as the probe
    does); mutations of completed calls persist -/
def readxH : Nat → FileH → Dev → Nat → List Nat → Cursor.FileRes × FileH × Dev
  | 0, h, d, _, _ => (.err .hang, h, d)
  | fuel + 1, h, d, n, acc =>
    if n = 0 then (.bytes acc, h, d)
    else match run (h.read n) d with
      | (.ok (bs, h'), d') =>
        if bs.length = 0 then (.errAt .eof h'.offset, h', d')
        else readxH fuel h' d' (n - bs.length) (acc ++ bs)
      | (.error e, d') => (.err e, h, d')

/-- `write_all` as the history driver runs it (`Session.writeAllLoopS`): single `write` calls until the buffer is
    consumed; a call returning 0 is `WriteZero`; an error ends the loop with the handle as the last completed call
    left it -/
def writeallH : Nat → FileH → Dev → List Nat → Cursor.FileRes × FileH × Dev
  | 0, h, d, _ => (.err .hang, h, d)
  | fuel + 1, h, d, bs =>
    if bs.length = 0 then (.unit, h, d)
    else match run (h.write bs) d with
      | (.ok (n, h'), d') =>
        if n = 0 then (.errAt .writeZero h'.offset, h', d')
        else writeallH fuel h' d' (bs.drop n)
      | (.error e, d') => (.errAt e h.offset, h, d')

/-- run ONE operation of the byte-level model: observable result, new handle (the old one after an error), device -/
def execH (op : HOp) (f : FileH) (d : Dev) : Cursor.FileRes × FileH × Dev :=
  match op with
  | .read n =>
    match run (f.read n) d with
    | (.ok (bs, f'), d') => (.bytes bs, f', d')
    | (.error e, d') => (.err e, f, d')
  | .seek p =>
    match run (f.seek p) d with
    | (.ok (pos, f'), d') => (.pos pos, f', d')
    | (.error e, d') => (.err e, f, d')
  | .write bs =>
    match run (f.write bs) d with
    | (.ok (k, f'), d') => (.count k, f', d')
    | (.error e, d') => (.err e, f, d')
  | .truncate =>
    match run f.truncate d with
    | (.ok f', d') => (.unit, f', d')
    | (.error e, d') => (.err e, f, d')
  | .readExact n => readxH (n + 1) f d n []
  | .writeAll bs => writeallH (bs.length + 1) f d bs

/-- a history -/
def runH : List HOp → FileH → Dev → List Cursor.FileRes × FileH × Dev
  | [], f, d => ([], f, d)
  | op :: ops, f, d =>
    let r := execH op f d
    let rest := runH ops r.2.1 r.2.2
    (r.1 :: rest.1, rest.2)

/-- the buffers of the writes of a history carry bytes -/
def BytesOk : List HOp → Prop
  | [] => True
  | .write bs :: ops => (∀ b ∈ bs, b < 256) ∧ BytesOk ops
  | .writeAll bs :: ops => (∀ b ∈ bs, b < 256) ∧ BytesOk ops
  | _ :: ops => BytesOk ops

/-- the buffer of one operation carries bytes -/
def HOp.BytesOk (op : HOp) : Prop := ∀ bs, op = .write bs ∨ op = .writeAll bs → ∀ b ∈ bs, b < 256

theorem HOp.BytesOk.of_write {bs : List Nat} (h : ∀ b ∈ bs, b < 256) : (HOp.write bs).BytesOk :=
  fun _ e => by rcases e with e | e <;> cases e; exact h

theorem HOp.BytesOk.of_writeAll {bs : List Nat} (h : ∀ b ∈ bs, b < 256) : (HOp.writeAll bs).BytesOk :=
  fun _ e => by rcases e with e | e <;> cases e; exact h

/-- an operation without a buffer -/
theorem HOp.BytesOk.of_ne {op : HOp} (h1 : ∀ bs, op ≠ .write bs) (h2 : ∀ bs, op ≠ .writeAll bs) : op.BytesOk :=
  fun bs e => (e.elim (h1 bs) (h2 bs)).elim

theorem BytesOk.cons {op : HOp} {ops : List HOp} (h : BytesOk (op :: ops)) : op.BytesOk ∧ BytesOk ops := by
  cases op with
  | write bs => exact ⟨.of_write h.1, h.2⟩
  | writeAll bs => exact ⟨.of_writeAll h.1, h.2⟩
  | read n => exact ⟨.of_ne nofun nofun, h⟩
  | seek p => exact ⟨.of_ne nofun nofun, h⟩
  | truncate => exact ⟨.of_ne nofun nofun, h⟩
  | readExact n => exact ⟨.of_ne nofun nofun, h⟩

/-- one single call: the invariants are kept, the cluster size stays, and the observable result is accepted by the
    `ByteFile` oracle, which moves from the abstraction of the old state to that of the new one -/
theorem execH_refines_prim (op : HOp) (hp : op.isPrim) (f : FileH) (d : Dev) (h : SimInv f d)
    (hok : op.BytesOk) :
    SimInv (execH op f d).2.1 (execH op f d).2.2 ∧
    (execH op f d).2.2.fs.clusterSize = d.fs.clusterSize ∧
    Cursor.ByteFile.check d.fs.clusterSize op.toOp (execH op f d).1 (absFile d.fs d.img f).abs =
      .ok (absFile (execH op f d).2.2.fs (execH op f d).2.2.img (execH op f d).2.1).abs := by
  have ⟨hfa, hwf, hg, hrep, hinfo⟩ := h
  cases op with
  | read n =>
    obtain ⟨bs, f', d', hr, hs, hres, hab, hrep', _⟩ := read_sim f n d hfa hg hrep
    obtain ⟨l, hl, hchk⟩ := hrep.inv.read_refines n
    rw [hres] at hl; cases hl
    simp only [execH, hr, HOp.toOp]
    refine ⟨h.same hs hrep', by rw [hs.fs], ?_⟩
    rw [hs.fs, hs.img, hab]; exact hchk
  | seek p =>
    rcases seek_sim f p d hfa hg hrep with ⟨pos, f', d', hr, hs, hres, hab, hrep', _⟩ | ⟨hr, hm⟩
    · rcases hrep.inv.seek_refines (convSeek p) with ⟨q, hq, hchk⟩ | ⟨he, _, _⟩
      · rw [hres] at hq; cases hq
        simp only [execH, hr, HOp.toOp]
        refine ⟨h.same hs hrep', by rw [hs.fs], ?_⟩
        rw [hs.fs, hs.img, hab]; exact hchk
      · rw [hres] at he; cases he
    · rcases hrep.inv.seek_refines (convSeek p) with ⟨q, hq, _⟩ | ⟨_, _, hchk⟩
      · rw [hm] at hq; cases hq
      · simp only [execH, hr, HOp.toOp]
        exact ⟨h, trivial, hchk⟩
  | readExact n => exact hp.elim
  | writeAll bs => exact hp.elim
  | write bs =>
    have hspec := hrep.inv.write_refines (fatAllocator_laws d.fs.totalClusters d.fs.fsInfo.next) bs
    rcases write_sim f bs d h (hok bs (Or.inl rfl)) with
      ⟨d', hr, hma, hs⟩ | ⟨k, f', d', hr, hres, hs⟩
    · simp only [execH, hr, HOp.toOp]
      refine ⟨hs.simInv h, hs.step.geom.clusterSize, ?_⟩
      rcases hspec with ⟨_, _, _, _, hchk⟩ | ⟨hres', _⟩
      · rw [hs.core.abs_eq hrep.inv.cs_pos hrep.inv.cover]; exact hchk
      · rw [hma] at hres'; cases hres'
    · -- the machine's count, and its new state up to `CoreEq`
      simp only [execH, hr, HOp.toOp]
      refine ⟨hs.simInv h, hs.step.geom.clusterSize, ?_⟩
      rcases hspec with ⟨he, _⟩ | ⟨hres', hi, _, _, hchk⟩
      · rw [he] at hres; cases hres
      · rw [hres] at hres'
        rw [Except.ok.inj hres', hs.core.abs_eq hi.cs_pos hi.cover]; exact hchk
  | truncate =>
    obtain ⟨f', d', hr, _, hs⟩ := truncate_sim f d h
    obtain ⟨_, hi, hab, _⟩ := hrep.inv.truncate_refines (fatAllocator_laws d.fs.totalClusters d.fs.fsInfo.next)
    simp only [execH, hr, HOp.toOp]
    refine ⟨hs.simInv h, hs.step.geom.clusterSize, ?_⟩
    simp only [Cursor.ByteFile.check]
    rw [hs.core.abs_eq hi.cs_pos hi.cover, hab]

/-! ### the loops `read_exact` / `write_all` over single calls -/

/-- what the loops keep from call to call: `SimInv`, and the cluster size `cs` they started with -/
def LoopInv (cs : Nat) (x : FileH × Dev) : Prop := SimInv x.1 x.2 ∧ x.2.fs.clusterSize = cs

theorem LoopInv.abs_facts {cs : Nat} {x : FileH × Dev} (h : LoopInv cs x) :
    (absFile x.2.fs x.2.img x.1).abs.pos ≤ (absFile x.2.fs x.2.img x.1).abs.content.length ∧
    (absFile x.2.fs x.2.img x.1).abs.content.length ≤ Cursor.u32Max := by
  have hi := h.1.rep.inv
  exact ⟨by simpa using hi.off_le, by simpa using hi.size_le⟩

/-- one `read` call as a step on (handle, device), the form `ByteFile.readLoop` iterates -/
def readStep (x : FileH × Dev) (n : Nat) : Except Err (List Nat) × FileH × Dev :=
  match run (x.1.read n) x.2 with
  | (.ok (bs, h'), d') => (.ok bs, h', d')
  | (.error e, d') => (.error e, x.1, d')

theorem readxH_eq_readLoop : ∀ (fuel : Nat) (h : FileH) (d : Dev) (n : Nat) (acc : List Nat), n < fuel →
    readxH fuel h d n acc =
      Cursor.ByteFile.readLoop readStep .bytes (fun x => .errAt .eof x.1.offset) .err fuel (h, d) n acc
  | 0, _, _, _, _, hf => by omega
  | fuel + 1, h, d, n, acc, hf => by
    simp only [readxH, Cursor.ByteFile.readLoop, readStep]
    split
    · rfl
    · generalize run (h.read n) d = r
      obtain ⟨(e | ⟨bs, h'⟩), d'⟩ := r
      · rfl
      · simp only
        split
        · rfl
        · exact readxH_eq_readLoop fuel h' d' _ _ (by omega)

/-- a single `read` call succeeds, and the oracle accepts it -/
theorem readStep_ok {cs : Nat} (x : FileH × Dev) (n : Nat) (hx : LoopInv cs x) :
    ∃ bs x', readStep x n = (.ok bs, x') ∧ LoopInv cs x' ∧
      Cursor.ByteFile.checkRead cs n bs (absFile x.2.fs x.2.img x.1).abs = .ok (absFile x'.2.fs x'.2.img x'.1).abs := by
  obtain ⟨hx, rfl⟩ := hx
  have hstep := execH_refines_prim (.read n) (by exact True.intro) x.1 x.2 hx (.of_ne nofun nofun)
  simp only [execH, HOp.toOp] at hstep
  unfold readStep
  generalize run (x.1.read n) x.2 = r at hstep ⊢
  obtain ⟨(e | ⟨bs, h'⟩), d'⟩ := r
  · exact (Cursor.ByteFile.of_checkReadErr hstep.2.2).elim
  · exact ⟨bs, (h', d'), rfl, ⟨hstep.1, hstep.2.1⟩, hstep.2.2⟩

/-- one `write` call as a step on (handle, device), the form `ByteFile.writeLoop` iterates -/
def writeStep (x : FileH × Dev) (bs : List Nat) : Except Err Nat × FileH × Dev :=
  match run (x.1.write bs) x.2 with
  | (.ok (n, h'), d') => (.ok n, h', d')
  | (.error e, d') => (.error e, x.1, d')

theorem writeallH_eq_writeLoop : ∀ (fuel : Nat) (h : FileH) (d : Dev) (bs : List Nat), bs.length < fuel →
    writeallH fuel h d bs =
      Cursor.ByteFile.writeLoop writeStep .unit (fun e x => .errAt e x.1.offset) fuel (h, d) bs
  | 0, _, _, _, hf => by omega
  | fuel + 1, h, d, bs, hf => by
    simp only [writeallH, Cursor.ByteFile.writeLoop, writeStep]
    split
    · rfl
    · generalize run (h.write bs) d = r
      obtain ⟨(e | ⟨n, h'⟩), d'⟩ := r
      · rfl
      · simp only
        split
        · rfl
        · exact writeallH_eq_writeLoop fuel h' d' _ (by rw [List.length_drop]; omega)

/-- a single `write` call of bytes ends in a result the oracle accepts (in the shape of `writeLoop_spec`'s `hstep`; the
    `True` fills its slot `Q`, of which nothing is asked here) -/
theorem writeStep_ok {cs : Nat} (x : FileH × Dev) (bs : List Nat) (hx : LoopInv cs x) (hbytes : ∀ b ∈ bs, b < 256) :
    (∃ n x', writeStep x bs = (.ok n, x') ∧ LoopInv cs x' ∧
      Cursor.ByteFile.check cs (.write bs) (.count n) (absFile x.2.fs x.2.img x.1).abs =
        .ok (absFile x'.2.fs x'.2.img x'.1).abs) ∨
    (∃ e x', writeStep x bs = (.error e, x') ∧ LoopInv cs x' ∧ True ∧
      Cursor.ByteFile.check cs (.write bs) (.err e) (absFile x.2.fs x.2.img x.1).abs =
        .ok (absFile x'.2.fs x'.2.img x'.1).abs) := by
  obtain ⟨hx, rfl⟩ := hx
  have hstep := execH_refines_prim (.write bs) (by exact True.intro) x.1 x.2 hx (.of_write hbytes)
  simp only [execH, HOp.toOp] at hstep
  unfold writeStep
  generalize run (x.1.write bs) x.2 = r at hstep ⊢
  obtain ⟨(e | ⟨n, h'⟩), d'⟩ := r
  · exact .inr ⟨e, (x.1, d'), rfl, ⟨hstep.1, hstep.2.1⟩, trivial, hstep.2.2⟩
  · exact .inl ⟨n, (h', d'), rfl, ⟨hstep.1, hstep.2.1⟩, hstep.2.2⟩

/-- one step of a history (a single call or a loop): the invariants are kept, the cluster size stays, and the
    observable result is accepted by the `ByteFile` oracle, which moves from the abstraction of the old state to that of
    the new one.  `read_exact`: with enough bytes left, exactly the next `n` bytes and the cursor behind them, otherwise
    `UnexpectedEof` with the cursor at the end of the file; `write_all`: the whole buffer at the cursor, or the loop
    stopped after `k < |bs|` bytes with `NotEnoughSpace` on a cluster boundary at the end of the file or `WriteZero` at
    `u32::MAX` (`ByteFile.readLoop_spec`, `writeLoop_spec`). -/
theorem execH_refines (op : HOp) (f : FileH) (d : Dev) (h : SimInv f d) (hok : op.BytesOk) :
    SimInv (execH op f d).2.1 (execH op f d).2.2 ∧
    (execH op f d).2.2.fs.clusterSize = d.fs.clusterSize ∧
    Cursor.ByteFile.check d.fs.clusterSize op.toOp (execH op f d).1 (absFile d.fs d.img f).abs =
      .ok (absFile (execH op f d).2.2.fs (execH op f d).2.2.img (execH op f d).2.1).abs := by
  cases op with
  | read n => exact execH_refines_prim _ (by exact True.intro) f d h hok
  | seek p => exact execH_refines_prim _ (by exact True.intro) f d h hok
  | write bs => exact execH_refines_prim _ (by exact True.intro) f d h hok
  | truncate => exact execH_refines_prim _ (by exact True.intro) f d h hok
  | readExact n =>
    obtain ⟨⟨i1, i2⟩, i3, i4⟩ := Cursor.ByteFile.readLoop_spec (R := Cursor.FileRes) (ok := .bytes)
      (eof := fun x => .errAt .eof x.1.offset) (err := .err) (I := LoopInv d.fs.clusterSize)
      (ab := fun x => (absFile x.2.fs x.2.img x.1).abs) h.rep.inv.cs_pos readStep_ok
      (fun x hx => by exact hx.abs_facts.1) (n + 1) (f, d) n [] ⟨h, rfl⟩ (by omega)
    rw [show execH (.readExact n) f d = _ from readxH_eq_readLoop (n + 1) f d n [] (by omega)]
    exact ⟨i1, i2, Cursor.ByteFile.check_readExact i3 i4⟩
  | writeAll bs =>
    obtain ⟨⟨i1, i2⟩, i3⟩ := Cursor.ByteFile.writeLoop_spec (R := Cursor.FileRes) (ok := .unit)
      (err := fun e x => .errAt e x.1.offset) (I := LoopInv d.fs.clusterSize)
      (ab := fun x => (absFile x.2.fs x.2.img x.1).abs) (B := fun bs => ∀ b ∈ bs, b < 256) (Q := fun _ => True)
      h.rep.inv.cs_pos (fun bs n hb b hm => hb b (List.mem_of_mem_drop hm)) writeStep_ok
      (fun x hx => by exact hx.abs_facts) (bs.length + 1) (f, d) bs ⟨h, rfl⟩ (hok bs (Or.inr rfl)) (by omega)
    rw [show execH (.writeAll bs) f d = _ from writeallH_eq_writeLoop (bs.length + 1) f d bs (by omega)]
    refine ⟨i1, i2, Cursor.ByteFile.check_writeAll ?_⟩
    rcases i3 with j | ⟨e, k, j1, j2, j3, j4⟩
    · exact .inl j
    · exact .inr ⟨e, k, j1, j2, j3, j4.imp (fun a => ⟨a.1, a.2.1, a.2.2.1⟩) id⟩

/-- **`fileh_refines_bytefile`.**  For every finite sequence of `read` / `seek` (all three forms) / `write` /
    `truncate` / `read_exact` / `write_all` (the io.rs loops over single calls, as the history driver runs them) on one
    handle of the byte-level model `FileH` (programs of Model/File.lean run on a device image), started
    in a state satisfying the invariants (no scheduled device fault, well-formed image pages, layout `Geo`,
    representation invariant `FileRep`, FS-info bookkeeping `InfoOk`) and with write buffers made of bytes: the
    observable results — the bytes of every read, the position or the `InvalidInput` of every seek, the count or the
    `NotEnoughSpace` of every write, the success of every truncate — are exactly what the byte array with a cursor
    prescribes (`ByteFile.checkRun`: short-read / short-write rule, clamping, rejection, `take pos` after truncate),
    from `abs (absFile …)` of the initial handle on the initial image to that of the final handle on the final image;
    the invariants hold again.  Allocation scans the FAT of the image (`alloc_cluster`, all three FAT types), links
    the new cluster, updates the FS-info hint and count; truncation frees the tail of the chain in the FAT.

    Restrictions: one handle; fault-free device; the handle's 32-byte directory record is not flushed
    (no `flush`/drop in the alphabet — C14 covers it).  For the loops the oracle is `ByteFile.check` on `.readExact` /
    `.writeAll`: all `n` bytes or `UnexpectedEof` with the cursor at the end; the whole buffer or the error
    (`NotEnoughSpace` / `WriteZero`) with the prefix written up to the reported cursor. -/
theorem fileh_refines_bytefile : ∀ (ops : List HOp) (f : FileH) (d : Dev), SimInv f d → BytesOk ops →
    SimInv (runH ops f d).2.1 (runH ops f d).2.2 ∧
    (runH ops f d).2.2.fs.clusterSize = d.fs.clusterSize ∧
    Cursor.ByteFile.checkRun d.fs.clusterSize (ops.map HOp.toOp) (runH ops f d).1 (absFile d.fs d.img f).abs =
      .ok (absFile (runH ops f d).2.2.fs (runH ops f d).2.2.img (runH ops f d).2.1).abs
  | [], f, d, h, _ => ⟨h, rfl, rfl⟩
  | op :: ops, f, d, h, hok => by
    have hop := hok.cons
    obtain ⟨hi, hcs, hchk⟩ := execH_refines op f d h hop.1
    obtain ⟨ri, rcs, rchk⟩ := fileh_refines_bytefile ops _ _ hi hop.2
    simp only [runH, List.map]
    refine ⟨ri, rcs.trans hcs, ?_⟩
    simp only [Cursor.ByteFile.checkRun, hchk]
    rw [hcs] at rchk
    exact rchk

/-! ### histories on a device given by the bytes it reads as (`Proofs/RunFn.lean`)

The drivers above once more, on `SDev`, so that the examples can evaluate a history without evaluating pages. -/

/-- equal results and handles beside devices that agree -/
def SimRes {β St : Type} (a : β × St × SDev) (b : β × St × Dev) : Prop :=
  a.1 = b.1 ∧ a.2.1 = b.2.1 ∧ a.2.2.Agree b.2.2

def readxHS : Nat → FileH → SDev → Nat → List Nat → Cursor.FileRes × FileH × SDev
  | 0, h, s, _, _ => (.err .hang, h, s)
  | fuel + 1, h, s, n, acc =>
    if n = 0 then (.bytes acc, h, s)
    else match runS (h.read n) s with
      | (.ok (bs, h'), s') =>
        if bs.length = 0 then (.errAt .eof h'.offset, h', s')
        else readxHS fuel h' s' (n - bs.length) (acc ++ bs)
      | (.error e, s') => (.err e, h, s')

def writeallHS : Nat → FileH → SDev → List Nat → Cursor.FileRes × FileH × SDev
  | 0, h, s, _ => (.err .hang, h, s)
  | fuel + 1, h, s, bs =>
    if bs.length = 0 then (.unit, h, s)
    else match runS (h.write bs) s with
      | (.ok (n, h'), s') =>
        if n = 0 then (.errAt .writeZero h'.offset, h', s')
        else writeallHS fuel h' s' (bs.drop n)
      | (.error e, s') => (.errAt e h.offset, h, s')

def execHS (op : HOp) (f : FileH) (s : SDev) : Cursor.FileRes × FileH × SDev :=
  match op with
  | .read n =>
    match runS (f.read n) s with
    | (.ok (bs, f'), s') => (.bytes bs, f', s')
    | (.error e, s') => (.err e, f, s')
  | .seek p =>
    match runS (f.seek p) s with
    | (.ok (pos, f'), s') => (.pos pos, f', s')
    | (.error e, s') => (.err e, f, s')
  | .write bs =>
    match runS (f.write bs) s with
    | (.ok (k, f'), s') => (.count k, f', s')
    | (.error e, s') => (.err e, f, s')
  | .truncate =>
    match runS f.truncate s with
    | (.ok f', s') => (.unit, f', s')
    | (.error e, s') => (.err e, f, s')
  | .readExact n => readxHS (n + 1) f s n []
  | .writeAll bs => writeallHS (bs.length + 1) f s bs

theorem readxHS_sim : ∀ (fuel : Nat) (h : FileH) {s : SDev} {d : Dev} (n : Nat) (acc : List Nat), s.Agree d →
    SimRes (readxHS fuel h s n acc) (readxH fuel h d n acc)
  | 0, _, _, _, _, _, ha => ⟨rfl, rfl, ha⟩
  | fuel + 1, h, s, d, n, acc, ha => by
    obtain ⟨r, s', d', e1, e2, ha'⟩ := run_runS (h.read n) ha
    simp only [readxHS, readxH, e1, e2]
    split
    · exact ⟨rfl, rfl, ha⟩
    · rcases r with e | ⟨bs, h'⟩
      · exact ⟨rfl, rfl, ha'⟩
      · dsimp only
        split
        · exact ⟨rfl, rfl, ha'⟩
        · exact readxHS_sim fuel h' _ _ ha'

theorem writeallHS_sim : ∀ (fuel : Nat) (h : FileH) {s : SDev} {d : Dev} (bs : List Nat), s.Agree d →
    SimRes (writeallHS fuel h s bs) (writeallH fuel h d bs)
  | 0, _, _, _, _, ha => ⟨rfl, rfl, ha⟩
  | fuel + 1, h, s, d, bs, ha => by
    obtain ⟨r, s', d', e1, e2, ha'⟩ := run_runS (h.write bs) ha
    simp only [writeallHS, writeallH, e1, e2]
    split
    · exact ⟨rfl, rfl, ha⟩
    · rcases r with e | ⟨k, h'⟩
      · exact ⟨rfl, rfl, ha'⟩
      · dsimp only
        split
        · exact ⟨rfl, rfl, ha'⟩
        · exact writeallHS_sim fuel h' _ ha'

theorem execHS_sim (op : HOp) (f : FileH) {s : SDev} {d : Dev} (ha : s.Agree d) :
    SimRes (execHS op f s) (execH op f d) := by
  cases op with
  | read n =>
    obtain ⟨r, s', d', e1, e2, ha'⟩ := run_runS (f.read n) ha
    simp only [execHS, execH, e1, e2]
    rcases r with e | ⟨bs, f'⟩ <;> exact ⟨rfl, rfl, ha'⟩
  | seek p =>
    obtain ⟨r, s', d', e1, e2, ha'⟩ := run_runS (f.seek p) ha
    simp only [execHS, execH, e1, e2]
    rcases r with e | ⟨pos, f'⟩ <;> exact ⟨rfl, rfl, ha'⟩
  | write bs =>
    obtain ⟨r, s', d', e1, e2, ha'⟩ := run_runS (f.write bs) ha
    simp only [execHS, execH, e1, e2]
    rcases r with e | ⟨k, f'⟩ <;> exact ⟨rfl, rfl, ha'⟩
  | truncate =>
    obtain ⟨r, s', d', e1, e2, ha'⟩ := run_runS f.truncate ha
    simp only [execHS, execH, e1, e2]
    rcases r with e | f' <;> exact ⟨rfl, rfl, ha'⟩
  | readExact n => exact readxHS_sim _ f n [] ha
  | writeAll bs => exact writeallHS_sim _ f bs ha

/-- a history: the results of its steps, and the final state -/
def hist {X St D : Type} (step : X → St → D → Cursor.FileRes × St × D) :
    List X → St → D → List Cursor.FileRes × St × D
  | [], st, d => ([], st, d)
  | x :: xs, st, d =>
    ((step x st d).1 :: (hist step xs (step x st d).2.1 (step x st d).2.2).1,
      (hist step xs (step x st d).2.1 (step x st d).2.2).2)

theorem hist_sim {X St : Type} {stepS : X → St → SDev → Cursor.FileRes × St × SDev}
    {step : X → St → Dev → Cursor.FileRes × St × Dev}
    (hstep : ∀ x st {s : SDev} {d : Dev}, s.Agree d → SimRes (stepS x st s) (step x st d)) :
    ∀ (xs : List X) (st : St) {s : SDev} {d : Dev}, s.Agree d → SimRes (hist stepS xs st s) (hist step xs st d)
  | [], _, _, _, ha => ⟨rfl, rfl, ha⟩
  | x :: xs, st, s, d, ha => by
    obtain ⟨h1, h2, h3⟩ := hstep x st ha
    have ih := hist_sim hstep xs (stepS x st s).2.1 h3
    simp only [hist]
    rw [h2] at ih ⊢
    exact ⟨by rw [h1, ih.1], ih.2.1, ih.2.2⟩

theorem runH_eq_hist : ∀ (ops : List HOp) (f : FileH) (d : Dev), runH ops f d = hist execH ops f d
  | [], _, _ => rfl
  | op :: ops, f, d => by simp only [runH, hist, runH_eq_hist ops]

theorem runH_sim (ops : List HOp) (f : FileH) {s : SDev} {d : Dev} (ha : s.Agree d) :
    SimRes (hist execHS ops f s) (runH ops f d) :=
  runH_eq_hist ops f d ▸ hist_sim execHS_sim ops f ha

/-- `tabView` from the bytes -/
def tabViewS (fs : FsState) (g : Nat → Nat) (c : Nat) : FatValue :=
  if c < fs.totalClusters + 2 then
    Table.classify fs.fatType c
      (match fs.fatType with
        | .fat12 =>
          if c % 2 = 0 then
            (g ((fatSliceOf fs).beginOff + (c + c / 2)) + 256 * g ((fatSliceOf fs).beginOff + (c + c / 2) + 1)) % 4096
          else (g ((fatSliceOf fs).beginOff + (c + c / 2)) + 256 * g ((fatSliceOf fs).beginOff + (c + c / 2) + 1)) / 16
        | .fat16 => g ((fatSliceOf fs).beginOff + c * 2) + 256 * g ((fatSliceOf fs).beginOff + c * 2 + 1)
        | .fat32 => g ((fatSliceOf fs).beginOff + c * 4) + 256 * g ((fatSliceOf fs).beginOff + c * 4 + 1) +
            65536 * g ((fatSliceOf fs).beginOff + c * 4 + 2) + 16777216 * g ((fatSliceOf fs).beginOff + c * 4 + 3))
  else .bad

theorem tabView_eq_tabViewS (fs : FsState) (img : Img) : tabView fs img = tabViewS fs img.getByte := by
  funext c
  unfold tabView tabViewS imgFatView imgFatRaw Img.le16 Img.le32
  cases fs.fatType <;> rfl

/-- `fileChain` from the bytes -/
def fileChainS (fs : FsState) (g : Nat → Nat) (f : FileH) : List Nat :=
  match f.firstCluster with
  | none => []
  | some c => chainFrom (tabViewS fs g) (fs.totalClusters + 2) c

theorem fileChain_eq_fileChainS (fs : FsState) (img : Img) (f : FileH) :
    fileChain fs img f = fileChainS fs img.getByte f := by
  unfold fileChain fileChainS
  rw [tabView_eq_tabViewS]
  rfl

/-! ### establishing the hypotheses on a concrete image -/

/-- the bytes after the writes `ws`, applied in order, to an image that reads `g` -/
def readAfter (g : Nat → Nat) (ws : List Rec) : Nat → Nat := ws.foldl (fun g w => DirSim.putBytes g w.1 w.2) g

theorem _root_.FatVerif.SDev.Agree.applyRecs : ∀ (ws : List Rec) {s : SDev} {d : Dev}, s.Agree d →
    SDev.Agree ⟨readAfter s.get ws, s.dev⟩ { d with img := applyRecs d.img ws }
  | [], _, _, h => ⟨h.wf, h.get, h.dev⟩
  | w :: ws, _, _, h => SDev.Agree.applyRecs ws (h.write w.1 w.2)

/-- reading an image built by `Img.write`s does not need the page table: `Img.getByte_write`, iterated -/
theorem applyRecs_read (ws : List Rec) (img : Img) (h : img.WF) :
    (applyRecs img ws).WF ∧ (applyRecs img ws).getByte = readAfter img.getByte ws :=
  have := SDev.Agree.applyRecs ws (s := ⟨img.getByte, Dev.strip { img := img }⟩) (d := { img := img }) ⟨h, rfl, rfl⟩
  ⟨this.wf, this.get⟩

/-- a handle is represented when the decoded FAT links the clusters `cs`, none of them free, from its first cluster `c`
    to an end-of-chain mark, and size, cursor and current cluster fit `cs`; `cs` is then its chain -/
theorem FileRep.of_chain {fs : FsState} {img : Img} {f : FileH} {c sz : Nat} {cs : List Nat}
    (hfirst : f.firstCluster = some c) (hsz : f.size? = some sz)
    (hch : Chain (tabView fs img) c cs) (heoc : ∀ l, cs.getLast? = some l → tabView fs img l = .eoc)
    (hlive : ∀ a ∈ cs, tabView fs img a ≠ .free)
    (hin : ∀ a ∈ cs, 2 ≤ a ∧ a < fs.totalClusters + 2) (hnd : cs.Nodup) (hlen : cs.length ≤ fs.totalClusters + 3)
    (hcs : 0 < fs.clusterSize) (hcov : sz ≤ cs.length * fs.clusterSize) (hoff : f.offset ≤ sz)
    (hu : sz ≤ Cursor.u32Max)
    (hcur : f.currentCluster = if f.offset = 0 then none else cs[(f.offset - 1) / fs.clusterSize]?) :
    FileRep fs img f ∧ fileChain fs img f = cs := by
  obtain rfl : fileChain fs img f = cs := by
    unfold fileChain; rw [hfirst]; exact chainFrom_of_chain hch _ hlen
  have hsize : (absFile fs img f).size = sz := congrArg (·.getD 0) hsz
  obtain ⟨t, ht⟩ := chain_head hch
  exact ⟨⟨⟨sz, hsz⟩, ⟨hcs, hnd, by rw [show (absFile fs img f).chain = c :: t from ht]; exact hfirst,
    hsize ▸ hcov, hsize ▸ hoff, hsize ▸ hu, hcur, hlive⟩,
    fun a ha => Option.some.inj (hfirst.symm.trans ha) ▸ hch, hin, heoc⟩, rfl⟩

end FatVerif.FileSim

/-! ## the statements are not vacuous: a FAT16 volume with a two-cluster file -/

namespace FatVerif.FileSim.Ex
open FatVerif FatVerif.Fat FatVerif.FileSim

/-- FAT16, 512-byte clusters, 1 reserved sector, 2 FATs of 1 sector (`[512, 1536)`), 1 root sector, data from sector 4:
    cluster `c` at byte `(4 + (c - 2)) * 512`; 5 data clusters -/
def fs16 : FsState :=
  { fatType := .fat16, bps := 512, spc := 1, reserved := 1, fats := 2, spf := 1, totalClusters := 5,
    firstDataSector := 4, rootEntries := 16, rootDirSectors := 1, fsInfo := { free := some 3 } }

/-- FAT: `3 → 5 → EOC`; the last three bytes of cluster 3 (`[2560, 3072)`) and the first three of cluster 5
    (`[3584, 4096)`) are marked -/
def img16 : Img :=
  ((((Img.empty 8192).write 518 [5, 0]).write 522 [0xFF, 0xFF]).write 3069 [11, 12, 13]).write 3584 [21, 22, 23]

def dev16 : Dev := { img := img16, fs := fs16 }

/-- a 1020-byte file on the chain `[3, 5]`, cursor at 509 (three bytes before the cluster boundary) -/
def file16 : FileH :=
  { firstCluster := some 3, currentCluster := some 3, offset := 509,
    entry := some (DirEntryEditor.new { DirFileEntryData.new (List.replicate 11 65) 0 with size := 1020 } 1536) }

theorem geo16 : Geo fs16 img16.size where
  bps_pos := by decide
  spc_pos := by decide
  status_lt := by decide
  ents := by
    intro c hc
    have : c < 7 := hc
    show c * 2 + 2 ≤ 512
    omega
  mirrors_pos := by decide
  fat_data := by decide
  data_dev := by decide
  u32a := by decide
  u32b := by decide
  fat_u32 := by decide
  small := by decide

/-- the bytes of the image, read off its definition -/
def bytes16 : Nat → Nat :=
  readAfter (fun _ => 0) [(518, [5, 0]), (522, [0xFF, 0xFF]), (3069, [11, 12, 13]), (3584, [21, 22, 23])]

theorem read16 : img16.WF ∧ img16.getByte = bytes16 := by
  have h := applyRecs_read [(518, [5, 0]), (522, [0xFF, 0xFF]), (3069, [11, 12, 13]), (3584, [21, 22, 23])] _
    (Img.wf_empty 8192)
  rw [show (Img.empty 8192).getByte = fun _ => 0 from funext (Img.getByte_empty _)] at h
  exact h

theorem wf16 : img16.WF := read16.1

/-- the decoded FAT of the image, from its bytes -/
theorem tab16 : tabView fs16 img16 = tabViewS fs16 bytes16 := by rw [tabView_eq_tabViewS, read16.2]

theorem repChain16 : FileRep fs16 img16 file16 ∧ fileChain fs16 img16 file16 = [3, 5] :=
  have t3 : tabView fs16 img16 3 = .data 5 := by rw [tab16]; decide
  have t5 : tabView fs16 img16 5 = .eoc := by rw [tab16]; decide
  FileRep.of_chain (c := 3) (sz := 1020) rfl rfl (.cons 3 5 [5] t3 (.last 5 (by rw [t5]; nofun)))
    (fun l hl => by cases hl; exact t5) (by rw [tab16]; decide)
    (by decide) (by decide) (by decide) (by decide) (by decide) (by decide) (by decide) rfl

theorem rep16 : FileRep fs16 img16 file16 := repChain16.1

theorem info16 : InfoOk fs16 img16 where
  hint := by intro n h; cases h
  count := by intro n h; cases h; rw [tab16]; decide

/-- the hypotheses of the simulation theorems hold for this device and handle -/
theorem simInv16 : SimInv file16 dev16 := ⟨rfl, wf16, geo16, rep16, info16⟩

/-- a history: read up to the cluster boundary, overwrite the first two bytes of the next cluster, go back, read
    across the boundary in two calls, an invalid seek, a seek beyond the end (clamps to 1020); then append 6 bytes:
    the first call fills cluster 5 (4 bytes, short write), the second one allocates a cluster through the FAT of the
    image; finally truncate at 600 (frees the new cluster) and read at the end -/
def ops16 : List HOp :=
  [.read 10, .write [7, 8], .seek (.start 510), .read 10, .read 4, .seek (.cur (-600)), .seek (.start 9999),
   .write [1, 2, 3, 4, 5, 6], .write [5, 6], .seek (.start 600), .truncate, .seek (.fromEnd 5), .read 3]

theorem bytesOk16 : BytesOk ops16 := ⟨by decide, by decide, by decide, trivial⟩

/-- the device by its bytes -/
def s16 : SDev := ⟨bytes16, dev16.strip⟩

theorem agree16 : s16.Agree dev16 := ⟨wf16, read16.2, rfl⟩

/-- the byte-level model, evaluated -/
theorem run16 : (runH ops16 file16 dev16).1 =
    [.bytes [11, 12, 13], .count 2, .pos 510, .bytes [12, 13], .bytes [7, 8, 23, 0], .err .invalidInput, .pos 1020,
     .count 4, .count 2, .pos 600, .unit, .pos 600, .bytes []] := by
  rw [← (runH_sim ops16 file16 agree16).1]
  decide +kernel

/-- the new cluster was taken from the FAT of the image (cluster 2, the first free one) and linked after 5 -/
theorem fat16_alloc :
    fileChain (runH (ops16.take 9) file16 dev16).2.2.fs (runH (ops16.take 9) file16 dev16).2.2.img
      (runH (ops16.take 9) file16 dev16).2.1 = [3, 5, 2] := by
  obtain ⟨_, hf, ha⟩ := runH_sim (ops16.take 9) file16 agree16
  rw [← hf, fileChain_eq_fileChainS, ha.get, ha.fs]
  decide +kernel

/-- … and freed again by the truncate: afterwards the chain of the file is `3 → 5` and cluster 2 is free -/
theorem fat16_after :
    fileChain (runH ops16 file16 dev16).2.2.fs (runH ops16 file16 dev16).2.2.img (runH ops16 file16 dev16).2.1 = [3, 5] ∧
    tabView (runH ops16 file16 dev16).2.2.fs (runH ops16 file16 dev16).2.2.img 2 = .free := by
  obtain ⟨_, hf, ha⟩ := runH_sim ops16 file16 agree16
  rw [← hf, fileChain_eq_fileChainS, tabView_eq_tabViewS, ha.get, ha.fs]
  decide +kernel

/-- … and the cursor machine on the abstraction of the same handle gives the same results -/
theorem machine16 :
    (Cursor.AFile.run (fatAllocator 5 none) (ops16.map HOp.toOp)
      (absFile fs16 img16 file16) (tabView fs16 img16)).1 =
    [.bytes [11, 12, 13], .count 2, .pos 510, .bytes [12, 13], .bytes [7, 8, 23, 0], .err .invalidInput, .pos 1020,
     .count 4, .count 2, .pos 600, .unit, .pos 600, .bytes []] := by
  unfold absFile
  rw [repChain16.2, read16.2, tab16]
  decide +kernel

/-- the conclusion theorem applied to the example: the evaluated results are accepted by the specification -/
theorem spec16 :
    Cursor.ByteFile.checkRun 512 (ops16.map HOp.toOp)
      [.bytes [11, 12, 13], .count 2, .pos 510, .bytes [12, 13], .bytes [7, 8, 23, 0], .err .invalidInput, .pos 1020,
       .count 4, .count 2, .pos 600, .unit, .pos 600, .bytes []]
      (absFile fs16 img16 file16).abs =
    .ok (absFile (runH ops16 file16 dev16).2.2.fs (runH ops16 file16 dev16).2.2.img (runH ops16 file16 dev16).2.1).abs := by
  have := (fileh_refines_bytefile ops16 file16 dev16 simInv16 bytesOk16).2.2
  rw [run16] at this
  exact this

end FatVerif.FileSim.Ex
