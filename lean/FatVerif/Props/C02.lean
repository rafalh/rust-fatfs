import FatVerif.Proofs.AFileInv
import FatVerif.Proofs.AFileRead
import FatVerif.Proofs.AFileWrite
import FatVerif.Proofs.AFileSeek
import FatVerif.Proofs.AFileTrunc
import FatVerif.Proofs.AFileLoops
import FatVerif.Proofs.AFileExtents
import FatVerif.Proofs.AFileFrame
/-!
# C02 — a file is a growable byte array with a cursor

Model: `FatVerif.Cursor.AFile` (`Model/AFile.lean`, transliteration of `file.rs` + the `io.rs` loops).
Specification: `FatVerif.Cursor.ByteFile` and its oracle `ByteFile.check` (`Spec/ByteFile.lean`).

Definitions used by the statements (they live in `Proofs/AFileInv.lean`, the frame notions `Own` / `Footprint` in
`Proofs/AFileFrame.lean`, so that the lemma files can use them):

* `AllocLaws A isFree` — the allocator hands out only clusters that are free, and frees nothing it was not given;
* `AFileInv isFree f s` — the invariant the code maintains: `0 < cs`; the chain has no duplicates;
  `first_cluster = chain.head?`; `size ≤ chain.length * cs` (i.e. `⌈size/cs⌉ ≤ chain.length`); `offset ≤ size`;
  `size ≤ u32::MAX`; `current_cluster = if offset = 0 then none else chain[(offset − 1) / cs]` ("the previous cluster
  when on a boundary"); no cluster of the chain is free;
* `AFile.abs f = ⟨content f, f.offset⟩`, `content f = (List.range size).map fun p => data chain[p / cs] (p % cs)`.

All theorems hold for every cluster size, chain, size, offset, buffer length and history.
-/
namespace FatVerif.Cursor

section
variable {σ : Type} {isFree : σ → Nat → Prop} {A : Allocator σ}

/-- `step` with the result pair of each call taken apart by projections: the form in which the lemmas about the
    single calls speak of it -/
theorem AFile.step_eq (A : Allocator σ) (op : FileOp) (f : AFile) (s : σ) :
    AFile.step A op f s = match op with
    | .read n => (match (f.read n).1 with | .ok l => .bytes l | .error e => .err e, (f.read n).2, s)
    | .write bs => (match (f.write A s bs).1 with | .ok k => .count k | .error e => .err e, (f.write A s bs).2)
    | .readExact n =>
      (match (f.readExact n).1 with | .ok l => .bytes l | .error e => .errAt e (f.readExact n).2.offset,
        (f.readExact n).2, s)
    | .writeAll bs =>
      (match (f.writeAll A s bs).1 with | .ok _ => .unit | .error e => .errAt e (f.writeAll A s bs).2.1.offset,
        (f.writeAll A s bs).2)
    | .seek w => (match (f.seek w).1 with | .ok p => .pos p | .error e => .err e, (f.seek w).2, s)
    | .truncate => (match (f.truncate A s).1 with | .ok _ => .unit | .error e => .err e, (f.truncate A s).2)
    | .flush => (.unit, f.flush.2, s)
    | .reopen =>
      (match (f.reopen.readExact f.size).1 with
        | .ok l => .bytes l | .error e => .errAt e (f.reopen.readExact f.size).2.offset, f.reopen, s) := by
  cases op <;> simp only [AFile.step, AFile.flush] <;> split <;> simp_all

/-- **C02.1, one step.**  Every operation preserves the invariant and the cluster size, and its observable result
    is accepted by the `ByteFile` oracle, which also yields the abstraction of the new state.  For `read`/`write`
    this is the documented short read/short write (`ByteFile.shortRead`, `ByteFile.shortWrite`); `NotEnoughSpace`
    leaves the state untouched. -/
theorem file_step_refines (hA : AllocLaws A isFree) (op : FileOp) (f : AFile) (s : σ)
    (h : AFileInv isFree f s) :
    AFileInv isFree (AFile.step A op f s).2.1 (AFile.step A op f s).2.2 ∧
    (AFile.step A op f s).2.1.cs = f.cs ∧
    ByteFile.check f.cs op (AFile.step A op f s).1 f.abs = .ok (AFile.step A op f s).2.1.abs := by
  cases op with
  | read n =>
    obtain ⟨l, hl, hchk⟩ := h.read_refines n
    obtain ⟨p, hi⟩ := h.read_post n
    simp only [AFile.step_eq, hl]
    exact ⟨hi, p.cs, hchk⟩
  | write bs =>
    rcases h.write_refines hA bs with ⟨he, _, _, _, hchk⟩ | ⟨hres, hi, hcs, _, hchk⟩
    · simp only [AFile.step_eq, he]; exact ⟨h, trivial, hchk⟩
    · simp only [AFile.step_eq, hres]; exact ⟨hi, hcs, hchk⟩
  | readExact n =>
    have p := readExactLoop_spec n f n [] h (Nat.le_refl _)
    simp only [AFile.step_eq, AFile.readExact]
    refine ⟨p.inv, p.cs, ByteFile.check_readExact (fun hle => ?_) (fun hlt => ?_)⟩
    · obtain ⟨j1, j2⟩ := p.full (by simpa using hle)
      rw [j1]; exact ⟨rfl, j2⟩
    · obtain ⟨j1, j2⟩ := p.eof (by simpa using hlt)
      rw [j1]; exact ⟨rfl, by simpa using j2⟩
  | writeAll bs =>
    have p := writeAllLoop_spec hA bs.length f s bs h (Nat.le_refl _)
    simp only [AFile.step_eq, AFile.writeAll]
    refine ⟨p.inv, p.cs, ByteFile.check_writeAll ?_⟩
    rcases p.out with ⟨j1, j2, j3⟩ | ⟨e, k, j1, j2, j3, j4⟩
    · rw [j1]; exact .inl ⟨rfl, j2, j3⟩
    · rw [j1]; exact .inr ⟨e, k, rfl, j2, j3, j4.imp (fun a => ⟨a.1, a.2.1, a.2.2.1⟩) id⟩
  | seek w =>
    obtain ⟨hi, hcs⟩ := h.seek_inv w
    rcases h.seek_refines w with ⟨p, hp, hchk⟩ | ⟨he, hst, hchk⟩
    · simp only [AFile.step_eq, hp]; exact ⟨hi, hcs, hchk⟩
    · simp only [AFile.step_eq, he]; rw [hst]; exact ⟨h, rfl, hchk⟩
  | truncate =>
    obtain ⟨hres, hi, hab, hcs⟩ := h.truncate_refines hA
    simp only [AFile.step_eq, hres]
    exact ⟨hi, hcs, congrArg _ hab.symm⟩
  | flush => exact ⟨h.flush_refines.2.1, rfl, rfl⟩
  | reopen =>
    obtain ⟨hi, hab, hcs⟩ := h.reopen_inv
    obtain ⟨j1, _⟩ := (readExactLoop_spec f.size f.reopen f.size [] hi (Nat.le_refl _)).full
      (by simp [AFile.reopen])
    simp only [AFile.step_eq, AFile.readExact, j1]
    refine ⟨hi, hcs, ?_⟩
    have hc : (f.reopen.abs.read f.size).1 = f.abs.content := by
      show (f.content.drop 0).take f.size = f.content
      rw [List.drop_zero, List.take_of_length_le (by simp)]
    simp only [ByteFile.check, List.nil_append, hc, if_true]
    rw [hab]

/-- **C02.1.**  For every finite history: the invariant is re-established and the whole sequence of observable
    results is accepted by the `ByteFile` oracle started at the abstraction of the initial state and ending at the
    abstraction of the final state. -/
theorem file_refinement (hA : AllocLaws A isFree) : ∀ (ops : List FileOp) (f : AFile) (s : σ),
    AFileInv isFree f s →
    AFileInv isFree (AFile.run A ops f s).2.1 (AFile.run A ops f s).2.2 ∧
    ByteFile.checkRun f.cs ops (AFile.run A ops f s).1 f.abs = .ok (AFile.run A ops f s).2.1.abs
  | [], f, s, h => ⟨h, rfl⟩
  | op :: ops, f, s, h => by
    obtain ⟨hi, hcs, hchk⟩ := file_step_refines hA op f s h
    obtain ⟨ri, rchk⟩ := file_refinement hA ops _ _ hi
    simp only [AFile.run]
    refine ⟨ri, ?_⟩
    simp only [ByteFile.checkRun, hchk]
    rw [← hcs]; exact rchk

/-- **C02.2** (`read_exact`): with enough bytes left the whole buffer is filled with exactly the bytes at the
    cursor and the cursor advances by `n`; otherwise `UnexpectedEof` and the cursor stops at the end. -/
theorem readExact_spec {f : AFile} {s : σ} (h : AFileInv isFree f s) (n : Nat) :
    AFileInv isFree (f.readExact n).2 s ∧
    (n ≤ f.size - f.offset →
      (f.readExact n).1 = .ok (f.abs.read n).1 ∧ (f.readExact n).2.abs = (f.abs.read n).2) ∧
    (f.size - f.offset < n →
      (f.readExact n).1 = .error .eof ∧ (f.readExact n).2.abs = { f.abs with pos := f.size }) := by
  have p := readExactLoop_spec n f n [] h (Nat.le_refl _)
  exact ⟨p.inv, p.full, p.eof⟩

/-- **C02.2** (`write_all`): if the allocator never refuses and the file stays below `u32::MAX`, the whole buffer
    is written at the cursor (overwriting / extending), in one `ByteFile.write`. -/
theorem writeAll_spec (hA : AllocLaws A isFree) {f : AFile} {s : σ} (h : AFileInv isFree f s) (bs : List Nat)
    (htotal : ∀ s, A.alloc s ≠ none) (hfit : f.offset + bs.length ≤ u32Max) :
    (f.writeAll A s bs).1 = .ok () ∧ (f.writeAll A s bs).2.1.abs = (f.abs.write bs).2 ∧
    AFileInv isFree (f.writeAll A s bs).2.1 (f.writeAll A s bs).2.2 := by
  obtain ⟨i1, _, _, i3⟩ := writeAllLoop_spec hA bs.length f s bs h (Nat.le_refl _)
  rcases i3 with ⟨j1, j2, _⟩ | ⟨e, k, _, j2, _, j5⟩
  · exact ⟨j1, j2, i1⟩
  · exfalso
    rcases j5 with ⟨_, _, _, e0⟩ | ⟨_, e2⟩
    · exact htotal _ e0
    · have : f.abs.pos = f.offset := rfl
      omega

/-- **C02.2**, both loops in one statement: whole-buffer semantics (fuel = buffer length suffices). -/
theorem readExact_writeAll (hA : AllocLaws A isFree) {f : AFile} {s : σ} (h : AFileInv isFree f s) :
    (∀ n, n ≤ f.size - f.offset →
      (f.readExact n).1 = .ok (f.abs.read n).1 ∧ (f.readExact n).2.abs = (f.abs.read n).2) ∧
    (∀ bs, (∀ s, A.alloc s ≠ none) → f.offset + bs.length ≤ u32Max →
      (f.writeAll A s bs).1 = .ok () ∧ (f.writeAll A s bs).2.1.abs = (f.abs.write bs).2) :=
  ⟨fun n hn => (readExact_spec h n).2.1 hn,
   fun bs ht hf => ⟨(writeAll_spec hA h bs ht hf).1, (writeAll_spec hA h bs ht hf).2.1⟩⟩

/-- `write_all` in general: either everything was written, or a prefix of `k < |bs|` bytes was written and the
    loop stopped with `NotEnoughSpace` (the allocator refused, on a cluster boundary at the end of the file) or
    with `WriteZero` (the file reached `u32::MAX` bytes). -/
theorem writeAll_general (hA : AllocLaws A isFree) {f : AFile} {s : σ} (h : AFileInv isFree f s) (bs : List Nat) :
    AFileInv isFree (f.writeAll A s bs).2.1 (f.writeAll A s bs).2.2 ∧
    (((f.writeAll A s bs).1 = .ok () ∧ (f.writeAll A s bs).2.1.abs = (f.abs.write bs).2) ∨
     (∃ e k, (f.writeAll A s bs).1 = .error e ∧ k < bs.length ∧
        (f.writeAll A s bs).2.1.abs = (f.abs.write (bs.take k)).2 ∧
        ((e = .noSpace ∧ A.alloc (f.writeAll A s bs).2.2 = none ∧ (f.offset + k) % f.cs = 0 ∧
            f.size ≤ f.offset + k) ∨
         (e = .writeZero ∧ f.offset + k = u32Max)))) := by
  obtain ⟨i1, _, _, i3⟩ := writeAllLoop_spec hA bs.length f s bs h (Nat.le_refl _)
  refine ⟨i1, ?_⟩
  rcases i3 with ⟨j1, j2, _⟩ | ⟨e, k, j1, j2, j3, j4⟩
  · exact Or.inl ⟨j1, j2⟩
  · exact Or.inr ⟨e, k, j1, j2, j3, j4.imp (fun a => ⟨a.1, a.2.2.2, a.2.1, by simpa using a.2.2.1⟩) id⟩

/-- **C02 seek.**  Targets before the start or not representable in 32 bits are rejected with `InvalidInput` and
    the state is untouched; every other target moves the cursor to `min target size` (beyond the end clamps to
    the end), changes nothing else, and keeps the invariant. -/
theorem seek_spec {f : AFile} {s : σ} (h : AFileInv isFree f s) (w : SeekFrom) :
    ((f.abs.seekTarget w < 0 ∨ f.abs.seekTarget w > (u32Max : Int)) →
      f.seek w = (.error .invalidInput, f)) ∧
    (¬ (f.abs.seekTarget w < 0 ∨ f.abs.seekTarget w > (u32Max : Int)) →
      (f.seek w).1 = .ok (min (f.abs.seekTarget w).toNat f.size) ∧
      (f.seek w).2.offset = min (f.abs.seekTarget w).toNat f.size ∧
      (f.seek w).2.content = f.content ∧
      AFileInv isFree (f.seek w).2 s) :=
  ⟨seek_invalid f w, fun hok =>
    ⟨(h.seek_valid w hok).1.res, (h.seek_valid w hok).1.offset, (h.seek_valid w hok).1.content,
     (h.seek_valid w hok).2⟩⟩

/-- **C02 truncate.**  `truncate` succeeds, keeps exactly the bytes before the cursor, leaves the cursor where it
    is, and keeps the invariant. -/
theorem truncate_spec (hA : AllocLaws A isFree) {f : AFile} {s : σ} (h : AFileInv isFree f s) :
    (f.truncate A s).1 = .ok () ∧
    (f.truncate A s).2.1.content = f.content.take f.offset ∧
    (f.truncate A s).2.1.offset = f.offset ∧
    AFileInv isFree (f.truncate A s).2.1 (f.truncate A s).2.2 := by
  obtain ⟨hres, hi, hab, _⟩ := h.truncate_refines hA
  refine ⟨hres, ?_, ?_, hi⟩
  · have := congrArg ByteFile.content hab; simpa [ByteFile.truncate] using this
  · have := congrArg ByteFile.pos hab; simpa [ByteFile.truncate] using this

/-- **C02.3.**  Concatenating, for each `(cluster, n)` that `extents` reports, the first `n` bytes of that cluster
    yields the content. -/
theorem extents_content {f : AFile} {s : σ} (h : AFileInv isFree f s) :
    (f.extents.flatMap fun e => f.clusterBytes e.1 0 e.2) = f.content :=
  h.extents_content

/-- a read never returns more than remains, and returns something unless at the end / asked for nothing -/
theorem read_progress {f : AFile} {s : σ} (h : AFileInv isFree f s) (n : Nat) :
    ∃ l, (f.read n).1 = .ok l ∧ l.length ≤ n ∧ l.length ≤ f.size - f.offset ∧
      (l.length = 0 → n = 0 ∨ f.offset = f.size) := by
  obtain ⟨p, _⟩ := h.read_post n
  have hcs := h.cs_pos
  have hoff := h.off_le
  have hdm := divmod_spec f.cs f.offset hcs
  refine ⟨_, p.res, ?_⟩
  have hlen : ((f.content.drop f.offset).take (f.readLen n)).length = f.readLen n := by
    have : f.readLen n ≤ f.size - f.offset := by unfold AFile.readLen; omega
    simp; omega
  rw [hlen]
  unfold AFile.readLen
  omega

/-! ### several files of one volume, modified in interleaved order -/

/-- every operation stays inside the own chain and the free clusters -/
theorem AFileInv.step_footprint {f : AFile} {s : σ} (h : AFileInv isFree f s) (hA : AllocLaws A isFree)
    (op : FileOp) : Footprint isFree f s (AFile.step A op f s).2.1 (AFile.step A op f s).2.2 := by
  cases op <;> simp only [AFile.step_eq]
  case read n => exact .of_eq (h.read_post n).1.chain (h.read_post n).1.data
  case write bs => exact h.write_footprint hA bs
  case readExact n =>
    have p := readExactLoop_spec n f n [] h (Nat.le_refl _)
    exact .of_eq p.chain p.data
  case writeAll bs => exact (writeAllLoop_spec hA bs.length f s bs h (Nat.le_refl _)).fp
  case seek w => exact .of_eq (seek_chain_data f w).1 (seek_chain_data f w).2
  case truncate => exact truncate_footprint hA f s
  case flush => exact .of_eq rfl rfl
  case reopen => exact .of_eq rfl rfl

/-- **C02.4, one step.**  `f` and `g` are two files of one volume: one data region (`g.data = f.data`), one
    allocator state, disjoint chains.  Any operation on `f` leaves `g` — seen through the data region after the
    operation — with the same content and its invariant, and the chains stay disjoint. -/
theorem file_frame (hA : AllocLaws A isFree) (op : FileOp) (f g : AFile) (s : σ)
    (hf : AFileInv isFree f s) (hg : AFileInv isFree g s)
    (hdisj : ∀ c ∈ f.chain, c ∉ g.chain) (hdata : g.data = f.data) :
    AFileInv isFree { g with data := (AFile.step A op f s).2.1.data } (AFile.step A op f s).2.2 ∧
    (∀ c ∈ (AFile.step A op f s).2.1.chain, c ∉ g.chain) ∧
    ({ g with data := (AFile.step A op f s).2.1.data } : AFile).content = g.content := by
  have fp := hf.step_footprint hA op
  have hout : ∀ c ∈ g.chain, ¬ Own isFree f s c := by
    intro c hc ho
    rcases ho with ho | ho
    · exact hdisj c ho hc
    · exact hg.live c hc ho
  refine ⟨⟨hg.cs_pos, hg.nodup, hg.first, hg.cover, hg.off_le, hg.size_le, hg.cur, ?_⟩, ?_, ?_⟩
  · intro c hc hfree
    exact hout c hc (fp.own c (Or.inr hfree))
  · intro c hc hgc
    exact hout c hgc (fp.own c (Or.inl hc))
  · refine content_eq_of_byteAt rfl fun p hp => ?_
    have hpi : p / g.cs < g.chain.length := hg.index_lt hp
    have hmem : g.chain.getD (p / g.cs) 0 ∈ g.chain := by
      rw [List.getD_eq_getElem?_getD, List.getElem?_eq_getElem hpi]
      exact List.getElem_mem hpi
    show (AFile.step A op f s).2.1.data (g.chain.getD (p / g.cs) 0) (p % g.cs) = g.data _ _
    rw [fp.data _ (hout _ hmem), hdata]

/-- two files of one volume -/
def PairInv (isFree : σ → Nat → Prop) (f g : AFile) (s : σ) : Prop :=
  AFileInv isFree f s ∧ AFileInv isFree g s ∧ (∀ c ∈ f.chain, c ∉ g.chain) ∧ g.data = f.data

/-- an operation on the first (`which = true`) or second file; the other file sees the new data region -/
def step2 (A : Allocator σ) (which : Bool) (op : FileOp) (f g : AFile) (s : σ) : FileRes × AFile × AFile × σ :=
  if which then
    ((AFile.step A op f s).1, (AFile.step A op f s).2.1, { g with data := (AFile.step A op f s).2.1.data },
      (AFile.step A op f s).2.2)
  else
    ((AFile.step A op g s).1, { f with data := (AFile.step A op g s).2.1.data }, (AFile.step A op g s).2.1,
      (AFile.step A op g s).2.2)

def run2 (A : Allocator σ) : List (Bool × FileOp) → AFile → AFile → σ → List FileRes × AFile × AFile × σ
  | [], f, g, s => ([], f, g, s)
  | (w, op) :: ops, f, g, s =>
    ((step2 A w op f g s).1 ::
      (run2 A ops (step2 A w op f g s).2.1 (step2 A w op f g s).2.2.1 (step2 A w op f g s).2.2.2).1,
     (run2 A ops (step2 A w op f g s).2.1 (step2 A w op f g s).2.2.1 (step2 A w op f g s).2.2.2).2)

/-- the oracle for two files: each result is checked against the `ByteFile` of the file it belongs to; the other
    `ByteFile` does not move -/
def checkRun2 (csf csg : Nat) : List (Bool × FileOp) → List FileRes → ByteFile → ByteFile →
    Except String (ByteFile × ByteFile)
  | [], [], bf, bg => .ok (bf, bg)
  | (w, op) :: ops, r :: rs, bf, bg =>
    if w then
      match ByteFile.check csf op r bf with
      | .ok bf' => checkRun2 csf csg ops rs bf' bg
      | .error e => .error e
    else
      match ByteFile.check csg op r bg with
      | .ok bg' => checkRun2 csf csg ops rs bf bg'
      | .error e => .error e
  | _, _, _, _ => .error "result-shape"

theorem PairInv.symm {f g : AFile} {s : σ} (h : PairInv isFree f g s) : PairInv isFree g f s :=
  ⟨h.2.1, h.1, fun c hc hf => h.2.2.1 c hf hc, h.2.2.2.symm⟩

theorem two_files_step (hA : AllocLaws A isFree) (w : Bool) (op : FileOp) (f g : AFile) (s : σ)
    (h : PairInv isFree f g s) :
    PairInv isFree (step2 A w op f g s).2.1 (step2 A w op f g s).2.2.1 (step2 A w op f g s).2.2.2 ∧
    (step2 A w op f g s).2.1.cs = f.cs ∧ (step2 A w op f g s).2.2.1.cs = g.cs ∧
    (w = true → ByteFile.check f.cs op (step2 A w op f g s).1 f.abs = .ok (step2 A w op f g s).2.1.abs ∧
      (step2 A w op f g s).2.2.1.abs = g.abs) ∧
    (w = false → ByteFile.check g.cs op (step2 A w op f g s).1 g.abs = .ok (step2 A w op f g s).2.2.1.abs ∧
      (step2 A w op f g s).2.1.abs = f.abs) := by
  obtain ⟨hf, hg, hd, hdat⟩ := h
  cases w with
  | true =>
    obtain ⟨i1, i2, i3⟩ := file_step_refines hA op f s hf
    obtain ⟨k1, k2, k3⟩ := file_frame hA op f g s hf hg hd hdat
    unfold step2
    rw [if_pos rfl]
    refine ⟨⟨i1, k1, k2, rfl⟩, i2, rfl, fun _ => ⟨i3, ?_⟩, fun e => by cases e⟩
    simp only [AFile.abs, k3]
  | false =>
    obtain ⟨i1, i2, i3⟩ := file_step_refines hA op g s hg
    obtain ⟨k1, k2, k3⟩ := file_frame hA op g f s hg hf (fun c hc hf' => hd c hf' hc) hdat.symm
    unfold step2
    rw [if_neg Bool.false_ne_true]
    refine ⟨?_, ?_, ?_, ?_, ?_⟩
    · exact ⟨k1, i1, fun c hc hg' => k2 c hg' hc, rfl⟩
    · rfl
    · exact i2
    · intro e; cases e
    · intro _
      refine ⟨i3, ?_⟩
      simp only [AFile.abs, k3]

/-- **C02.4.**  Any interleaving of operations on two files of one volume: every result is the one `ByteFile`
    prescribes for the file it was issued on, as if the other file did not exist. -/
theorem two_files_refinement (hA : AllocLaws A isFree) : ∀ (ops : List (Bool × FileOp)) (f g : AFile) (s : σ),
    PairInv isFree f g s →
    PairInv isFree (run2 A ops f g s).2.1 (run2 A ops f g s).2.2.1 (run2 A ops f g s).2.2.2 ∧
    checkRun2 f.cs g.cs ops (run2 A ops f g s).1 f.abs g.abs =
      .ok ((run2 A ops f g s).2.1.abs, (run2 A ops f g s).2.2.1.abs)
  | [], f, g, s, h => ⟨h, rfl⟩
  | (w, op) :: ops, f, g, s, h => by
    obtain ⟨hi, c1, c2, ht, hff⟩ := two_files_step hA w op f g s h
    obtain ⟨ri, rchk⟩ := two_files_refinement hA ops _ _ _ hi
    simp only [run2]
    refine ⟨ri, ?_⟩
    rw [c1, c2] at rchk
    cases w with
    | true =>
      obtain ⟨t1, t2⟩ := ht rfl
      simp only [checkRun2, if_true, t1]
      rw [← t2]; exact rchk
    | false =>
      obtain ⟨t1, t2⟩ := hff rfl
      simp only [checkRun2, Bool.false_eq_true, if_false, t1]
      rw [← t2]; exact rchk

end

/-! ## the hypotheses are satisfiable -/

/-- the driver's allocator obeys the laws (free = not yet handed out) -/
theorem counterAllocator_laws : AllocLaws counterAllocator (fun s c => s.next ≤ c) where
  alloc_free := by
    intro s c s' h
    simp only [counterAllocator] at h
    split at h
    · cases h
    · cases h; exact Nat.le_refl _
  alloc_frame := by
    intro s c s' d h hf
    simp only [counterAllocator] at h
    split at h
    · cases h
    · cases h; simp only at hf; omega
  release_sub := by
    intro l s d h
    exact Or.inl h

/-- a concrete two-cluster file (clusters 5 and 3, cluster size 4, 6 bytes, cursor at the boundary 4) -/
def exampleFile : AFile :=
  { cs := 4, chain := [5, 3], data := fun c j => 10 * c + j, size := 6, firstCluster := some 5, offset := 4,
    current := some 5, dirty := false, mtime := 0, now := 0 }

theorem exampleFile_inv : AFileInv (fun (s : CounterAlloc) c => s.next ≤ c) exampleFile { next := 6, free := 10 } where
  cs_pos := by decide
  nodup := by decide
  first := rfl
  cover := by decide
  off_le := by decide
  size_le := by decide
  cur := by decide
  live := by
    intro c hc
    have : c = 5 ∨ c = 3 := by simpa [exampleFile] using hc
    rcases this with rfl | rfl <;> decide

example : AFileInv (fun (s : CounterAlloc) c => s.next ≤ c) exampleFile { next := 6, free := 10 } :=
  exampleFile_inv

example : exampleFile.content = [50, 51, 52, 53, 30, 31] := by decide
example : (exampleFile.read 10).1 = .ok [30, 31] := rfl
example : exampleFile.extents = [(5, 4), (3, 2)] := by decide

/-- a second file of the same volume (cluster 4), for `PairInv` -/
def exampleFile2 : AFile :=
  { cs := 4, chain := [4], data := fun c j => 10 * c + j, size := 3, firstCluster := some 4, offset := 0,
    current := none, dirty := false, mtime := 0, now := 0 }

example : PairInv (fun (s : CounterAlloc) c => s.next ≤ c) exampleFile exampleFile2 { next := 6, free := 10 } := by
  refine ⟨exampleFile_inv, ⟨by decide, by decide, rfl, by decide, by decide, by decide, by decide, ?_⟩, by decide, rfl⟩
  intro c hc
  have : c = 4 := by simpa [exampleFile2] using hc
  subst this; decide

/-- an empty file satisfies the invariant: every history from `create_file` is covered -/
theorem empty_inv (cs : Nat) (hcs : 0 < cs) (data : Nat → Nat → Nat) (now : Nat) (s : CounterAlloc) :
    AFileInv (fun (s : CounterAlloc) c => s.next ≤ c) (AFile.empty cs data now) s where
  cs_pos := hcs
  nodup := List.nodup_nil
  first := rfl
  cover := Nat.zero_le _
  off_le := Nat.le_refl _
  size_le := Nat.zero_le _
  cur := rfl
  live := by intro c hc; cases hc

end FatVerif.Cursor
