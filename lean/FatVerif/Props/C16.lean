import FatVerif.Proofs.NamesTerm
import FatVerif.Proofs.NamesEq
import FatVerif.Proofs.NamesOracle
/-!
# C16 — generated 8.3 aliases: legal, fresh, found within a bounded number of rounds; checksum = specification

Model: `FatVerif.Names.{new, addExisting, generate, nextIteration, generateLoop}` (transliteration of
`ShortNameGenerator` and of the retry loop of `check_for_existence`).
Specification: `LegalAlias`, list membership, `specLfnChecksum`.
All theorems quantify over every name, every population (list of raw 11-byte names — in fact arbitrary byte lists)
and every state reachable from `new` by `add_existing` / `next_iteration`. `new` is total (C15 `gen_new_total`),
so `new s = .ok g` below merely names the initial state.
-/
namespace FatVerif.C16
open FatVerif.Names

/-! ## C16.1 legality -/

/-- every name `generate` returns, in any state reachable from `new s`, for every NON-EMPTY name `s` (whatever its
    first character: multi-byte, a dot, a space …) is a legal 8.3 name: 11 bytes, each field legal characters then only
    padding, first byte none of 0x00 0x05 0xE5 0x20.
    (Names such as `"."`, `"..."` or `" "`, whose base copies nothing, get `~1`: the `~` is written first.)
    The hypothesis `s ≠ ""` is forced: see `alias_legal_counterexample`.  (The general statement; `alias_legal` below is
    its instance for validated names.) -/
theorem alias_legal_partial (s : String) (hs : s ≠ "") (g : Gen) (h : new s = .ok g) (g' : Gen) (hr : Reach g g')
    (a : List Nat) (ha : generate g' = .ok a) : LegalAlias a := by
  have hne : s.toList ≠ [] := by
    intro h0
    apply hs
    rw [← String.ofList_toList (s := s), h0]
  exact generate_legal (hr.wf (newL_wf h)) (hr.ne (newL_ne hne h)) ha

/-- the form the property is used in (DESIGN C16: "over all valid names"): a name accepted by
    `validate_long_name` is non-empty -/
theorem alias_legal (s : String) (hv : validateLongName s = .ok ()) (g : Gen) (h : new s = .ok g) (g' : Gen)
    (hr : Reach g g') (a : List Nat) (ha : generate g' = .ok a) : LegalAlias a := by
  refine alias_legal_partial s ?_ g h g' hr a ha
  rintro rfl
  cases hv

/-- since the repair of F5 the constructor accepts the empty name, and for it `generate` returns the all-blank
    name (nothing copied, nothing lost, "fits"): not a legal alias. `create_file("")` still fails, because
    `write_entry` validates the name afterwards; the generator itself is not total-and-legal. -/
theorem alias_legal_counterexample :
    ∃ g, new "" = .ok g ∧ generate g = .ok (List.replicate 11 32) ∧ ¬ LegalAlias (List.replicate 11 32) := by
  refine ⟨_, rfl, rfl, ?_⟩
  rintro ⟨_, _, _, _, _, _, h⟩
  exact h rfl

/-- for every name, the empty one included, the `~N` forms are legal -/
theorem alias_legal_prefixed (s : String) (g : Gen) (h : new s = .ok g) (g' : Gen) (hr : Reach g g')
    (a : List Nat) (ha : generate g' = .ok a) (hx : a ≠ g'.shortName) : LegalAlias a :=
  generate_legal_prefixed (hr.wf (newL_wf h)) ha hx

/-- the same for the result of the retry loop -/
theorem alias_legal_loop (s : String) (hs : s ≠ "") (g : Gen) (h : new s = .ok g) (ex : List (List Nat)) (fuel : Nat)
    (a : List Nat) (k : Nat) (hl : generateLoop ex fuel 0 g = some (a, k)) : LegalAlias a := by
  obtain ⟨g', r, hg⟩ := loop_result ex fuel 0 g g Reach.refl hl
  exact alias_legal_partial s hs g h _ (r.addAll ex) a hg

example : ∃ g, new ". ." = .ok g ∧ generate g = .ok ("~1         ".toList.map Char.toNat) :=
  ⟨_, rfl, rfl⟩
example : LegalAlias ("~1         ".toList.map Char.toNat) :=
  alias_legal ". ." rfl _ rfl _ Reach.refl _ rfl
/-- names whose first character is multi-byte or a dot (they panicked before the repair) -/
example : ∃ g, new "é.txt" = .ok g ∧ generate g = .ok ("_~1     TXT".toList.map Char.toNat) := ⟨_, rfl, rfl⟩
example : ∃ g, new "é" = .ok g ∧ generate g = .ok ("_~1        ".toList.map Char.toNat) := ⟨_, rfl, rfl⟩
example : ∃ g, new ".a" = .ok g ∧ generate g = .ok ("A~1        ".toList.map Char.toNat) := ⟨_, rfl, rfl⟩
example : LegalAlias ("_~1     TXT".toList.map Char.toNat) := alias_legal "é.txt" rfl _ rfl _ Reach.refl _ rfl
example : ¬ LegalAlias ("A B     TXT".toList.map Char.toNat) := by
  rintro ⟨_, ⟨k, hk, h1, h2⟩, _⟩
  have hk8 : k ≤ 8 := by simpa using hk
  have : k = 0 ∨ k = 1 ∨ k = 2 ∨ k = 3 ∨ k = 4 ∨ k = 5 ∨ k = 6 ∨ k = 7 ∨ k = 8 := by omega
  rw [legalSfnBytes_eq] at h1
  rcases this with rfl | rfl | rfl | rfl | rfl | rfl | rfl | rfl | rfl <;> revert h1 h2 <;> decide

/-- the executable check the driver's C16 oracle runs on the implementation's output decides `LegalAlias` -/
theorem alias_legal_oracle (a : List Nat) : legalAliasB a = true ↔ LegalAlias a := legalAliasB_iff a

/-! ## C16.2 freshness -/

/-- which name `generate` returns, and under which condition on the collision record -/
theorem alias_form (g : Gen) (a : List Nat) (h : generate g = .ok a) :
    (g.lossyConv = false ∧ g.nameFits = true ∧ g.exactMatch = false ∧ a = g.shortName) ∨
    (∃ i, 1 ≤ i ∧ i ≤ 4 ∧ g.longPrefixBitmap.testBit i = false ∧ a = buildPrefixedName g i false) ∨
    (∃ i, 1 ≤ i ∧ i ≤ 9 ∧ g.prefixChksumBitmap.testBit i = false ∧ a = buildPrefixedName g i true) := by
  rcases generate_cases h with h | ⟨i, h1, h2, h3, h4⟩ | ⟨i, h1, h2, h3, h4⟩
  · exact Or.inl h
  · rw [bitClear_eq] at h3; exact Or.inr (Or.inl ⟨i, h1, h2, by simpa using h3, h4⟩)
  · rw [bitClear_eq] at h3; exact Or.inr (Or.inr ⟨i, h1, h2, by simpa using h3, h4⟩)

/-- feeding a candidate back records it: the exact name sets `exact_match`, candidate `~i` sets bit `i` of the
    respective bitmap (the hex characters `u16_to_hex` wrote parse back to the same checksum); none of the indexings
    `short_name[prefix_len]`, `[prefix_len + 1]` leaves the 11 bytes -/
theorem alias_recorded (s : String) (g : Gen) (h : new s = .ok g) (g' : Gen) (hr : Reach g g') (i : Nat) (hi : i ≤ 9) :
    (addExisting g' g'.shortName).exactMatch = true ∧
    (addExisting g' (buildPrefixedName g' i false)).longPrefixBitmap.testBit i = true ∧
    (addExisting g' (buildPrefixedName g' i true)).prefixChksumBitmap.testBit i = true ∧
    longPrefixLen g' + 1 < 11 ∧ shortPrefixLen g' + 4 + 1 < 11 := by
  have hw := hr.wf (newL_wf h)
  refine ⟨addExisting_exact_hit g', addExisting_long_hit hw hi, addExisting_short_hit hw hi, ?_, ?_⟩
  · unfold longPrefixLen; omega
  · unfold shortPrefixLen; omega

/-- the name returned after a population was fed is different from every member of that population -/
theorem alias_fresh (s : String) (g : Gen) (h : new s = .ok g) (g' : Gen) (hr : Reach g g')
    (ex : List (List Nat)) (a : List Nat) (ha : generate (addAll g' ex) = .ok a) : a ∉ ex :=
  generate_fresh (hr.wf (newL_wf h)) ex ha

/-- the same for the result of the retry loop -/
theorem alias_fresh_loop (s : String) (g : Gen) (h : new s = .ok g) (ex : List (List Nat)) (fuel : Nat)
    (a : List Nat) (k : Nat) (hl : generateLoop ex fuel 0 g = some (a, k)) : a ∉ ex := by
  obtain ⟨g', r, hg⟩ := loop_result ex fuel 0 g g Reach.refl hl
  exact alias_fresh s g h g' r ex a hg

example : (new "é.txt").toOption.bind (generateLoop ["_~1     TXT".toList.map Char.toNat] 3 0) =
    some ("_~2     TXT".toList.map Char.toNat, 0) := by decide +kernel

/-- thirteen names that block round 0 for `TextFile.Mine.txt` (from the crate's own unit test) -/
def pop13 : List (List Nat) :=
  ["TEXTFI~1TXT", "TEXTFI~2TXT", "TEXTFI~3TXT", "TEXTFI~4TXT", "TE527D~1TXT", "TE527D~2TXT", "TE527D~3TXT",
   "TE527D~4TXT", "TE527D~5TXT", "TE527D~6TXT", "TE527D~7TXT", "TE527D~8TXT", "TE527D~9TXT"].map
    (fun s => s.toList.map Char.toNat)

example : (new "TextFile.Mine.txt").toOption.bind (generateLoop pop13 3 0) =
    some ("TE527E~1TXT".toList.map Char.toNat, 1) := by decide +kernel

/-! ## C16.3 termination -/

/-- on a population of `n < 9·65536` names the retry loop returns within `n/9 + 1` rounds (at most `n/9` calls
    of `next_iteration`), so any fuel above `n/9` never yields "hang". A round fails only if nine members carry that
    round's checksum in hex; rounds `< 65536` have pairwise different checksums. -/
theorem alias_terminates (s : String) (g : Gen) (h : new s = .ok g) (ex : List (List Nat))
    (hn : ex.length < 9 * 65536) (fuel : Nat) (hfuel : ex.length / 9 < fuel) :
    ∃ a k, generateLoop ex fuel 0 g = some (a, k) ∧ k ≤ ex.length / 9 :=
  loop_terminates (newL_bitmaps h).2.1 (newL_wf h).chk ex hn fuel hfuel

/-- the bound is attained: 13 names force one `next_iteration`, and `13 / 9 = 1` -/
example : pop13.length / 9 = 1 ∧
    (new "TextFile.Mine.txt").toOption.bind (generateLoop pop13 2 0) = some ("TE527E~1TXT".toList.map Char.toNat, 1) ∧
    (new "TextFile.Mine.txt").toOption.bind (generateLoop pop13 1 0) = none := by decide +kernel

/-! ## C16.4 checksum -/

/-- `lfn_checksum` is the specification's rotate-right-and-add, for every byte list (in particular all 11-byte names) -/
theorem checksum_spec (sfn : List Nat) : lfnChecksum sfn = specLfnChecksum sfn 0 :=
  lfnChecksum_fold sfn 0

/-- and it is a byte -/
theorem checksum_lt (sfn : List Nat) : lfnChecksum sfn < 256 :=
  foldl_lt (fun a b => by unfold lfnChecksumStep; omega) sfn 0 (by omega)

example : lfnChecksum ("FOO     BAR".toList.map Char.toNat) = 83 := by decide
example : lfnChecksum (List.replicate 11 0xFF) = specLfnChecksum (List.replicate 11 0xFF) 0 := by decide

end FatVerif.C16
