import FatVerif.Proofs.WriteClassTable
import FatVerif.Proofs.MirrorReplay
/-! # C10 (slice level) — where `DiskSlice` and the FAT code write

All statements are about the write log of the model device (`Dev.log`, newest first; `Dev.writesOf` = its write
records). Standing assumption `hdev`: the window of all copies of the slice lies inside the device
(`beginOff + mirrors * size ≤ img.size`) — on the model device a write is accepted partially only at the device end, so
inside the device every `write_all` is ONE device write.

`SliceInv s0 s`: `s` has the window of `s0` and `s.offset ≤ s.size`. `SliceRec s0 off bs`: the record lies in
`[s0.beginOff, s0.beginOff + s0.mirrors * s0.size)`. `StatusRec fs off bs`: the record lies in the status byte
(`FsIoAdapter::write` marks the volume dirty before its first write). -/
namespace FatVerif

/-! ## `DiskSlice` -/

/-- **`slice_write_mirrors`**: a successful `DiskSlice::write` returns `n = min bs.length (size - offset)` and, if
    `n > 0`, appends exactly: `bs.take n` at `beginOff + offset + i * size` for `i = 0, …, mirrors-1` (oldest first),
    with — when the slice goes through `FsIoAdapter` and the dirty flag is not set yet — the one status-byte record
    BEFORE the first of them (fix f695ddf: `FsIoAdapter::write` marks the volume dirty before its first write). The offset advances by `n` and stays inside the slice. -/
theorem slice_write_mirrors (s : DiskSlice) (bs : List Nat) (d : Dev) (hle : s.offset ≤ s.size) (hmir : 0 < s.mirrors)
    (hdev : s.beginOff + s.mirrors * s.size ≤ d.img.size) {n : Nat} {s' : DiskSlice} {d' : Dev}
    (hr : run (s.write bs) d = (.ok (n, s'), d')) :
    n = min bs.length (s.size - s.offset) ∧ s' = { s with offset := s.offset + n } ∧ s'.offset ≤ s'.size ∧
    (n = 0 → d' = d) ∧
    (n > 0 → ∃ k, s.mirrors = k + 1 ∧ d'.fs = fsAfter s.viaFs d.fs ∧
      d'.log = mirrorLog (s.beginOff + s.offset) s.size (bs.take n) k 1 ++
        (.write (s.beginOff + s.offset) (bs.take n) :: (statusExtra s.viaFs d.fs ++ d.log))) := by
  unfold DiskSlice.write at hr
  dsimp only at hr
  split at hr
  · rename_i h0
    cases run_pure_cases hr
    exact ⟨h0.symm, rfl, hle, fun _ => rfl, fun h => by omega⟩
  · rename_i hws
    obtain ⟨_, d1, h1, h2⟩ := run_bind_ok_inv hr
    cases run_pure_cases h2
    refine ⟨rfl, rfl, by show s.offset + min _ _ ≤ s.size; omega, fun h => absurd h hws, fun _ => ?_⟩
    · obtain ⟨hne, hin⟩ := slice_write_bounds s bs hle hdev hws
      cases hm : s.mirrors with
      | zero => omega
      | succ k =>
        rw [hm] at h1 hin
        have hw := ((writeMirrors_tri s _ _ hne d.img.size (k + 1) 0 d.fs d.log hin).out d _ _ ⟨⟨rfl, rfl⟩, rfl⟩ h1).2 _ rfl
          |>.2 k rfl
        simp only [Nat.zero_mul, Nat.add_zero, Nat.zero_add] at hw
        exact ⟨k, rfl, hw.1, hw.2⟩

/-- the classes of records a slice may produce -/
def SliceOrStatus (s0 : DiskSlice) (fs : FsState) (off : Nat) (bs : List Nat) : Prop :=
  SliceRec s0 off bs ∨ StatusRec fs off bs

theorem slice_strm_gs (s0 : DiskSlice) (fs0 : FsState) (sz : Nat) (hdev : s0.beginOff + s0.mirrors * s0.size ≤ sz) :
    StrmGS fs0 sz (SliceOrStatus s0 fs0) DiskSlice.strm (SliceInv s0) :=
  DiskSlice.strm_gs s0 hdev (fun _ _ h => Or.inl h) (fun _ _ h => Or.inr h)

theorem SliceInv.self {s : DiskSlice} (h : s.offset ≤ s.size) : SliceInv s s := ⟨rfl, rfl, rfl, rfl, h⟩

/-- **`slice_bounds`** (write): whatever the outcome, every record `DiskSlice::write` appends lies inside the window
    of the copies `[beginOff, beginOff + mirrors * size)` or is the status byte; on success the new state has the same
    window and its offset does not exceed the size -/
theorem slice_bounds_write (s : DiskSlice) (bs : List Nat) (d : Dev) (hle : s.offset ≤ s.size)
    (hdev : s.beginOff + s.mirrors * s.size ≤ d.img.size) {r d'} (hr : run (s.write bs) d = (r, d')) :
    LogAll (SliceOrStatus s d.fs) d d' ∧ ∀ v, r = .ok v → SliceInv s v.2 :=
  ((slice_strm_gs s d.fs d.img.size hdev).write s bs (SliceInv.self hle)).out d r d' (SameGeom.refl _) rfl hr |>.2

/-- **`slice_bounds`** (read): no write record at all; offset stays inside -/
theorem slice_bounds_read (s : DiskSlice) (n : Nat) (d : Dev) (hle : s.offset ≤ s.size) {r d'}
    (hr : run (s.read n) d = (r, d')) :
    SameWrites d d' ∧ ∀ v, r = .ok v → SliceInv s v.2 :=
  ⟨noWriteOps_sound (DiskSlice.read_quiet s n).noWriteOps d hr,
   ((DiskSlice.read_gs (fs0 := d.fs) (sz := d.img.size) (C := fun _ _ => True) (SliceInv.self hle) n).out d r d'
      (SameGeom.refl _) rfl hr).2.2⟩

/-- **`slice_bounds`** (seek): no device access; a successful seek lands inside the slice -/
theorem slice_bounds_seek (s : DiskSlice) (p : SeekFrom) (d : Dev) (hle : s.offset ≤ s.size) {r d'}
    (hr : run (s.seek p) d = (r, d')) :
    SameWrites d d' ∧ ∀ v, r = .ok v → SliceInv s v.2 :=
  ⟨noWriteOps_sound (DiskSlice.seek_quiet s p).noWriteOps d hr,
   ((DiskSlice.seek_gs (fs0 := d.fs) (sz := d.img.size) (C := fun _ _ => True) (SliceInv.self hle) p).out d r d'
      (SameGeom.refl _) rfl hr).2.2⟩

/-! ## the FAT slice -/

/-- all FAT copies -/
def FatArea (fs : FsState) (off : Nat) (bs : List Nat) : Prop :=
  fs.reserved * fs.bps ≤ off ∧ off + bs.length ≤ (fs.reserved + fs.fats * fs.spf) * fs.bps

/-- the active FAT copy (mirroring disabled) -/
def ActiveFatCopy (fs : FsState) (off : Nat) (bs : List Nat) : Prop :=
  (fs.reserved + fs.activeFat * fs.spf) * fs.bps ≤ off ∧
  off + bs.length ≤ (fs.reserved + fs.activeFat * fs.spf) * fs.bps + fs.spf * fs.bps

theorem fatSliceOf_geom {a b : FsState} (h : SameGeom a b) (via : Bool) : fatSliceOf b via = fatSliceOf a via := by
  have e1 := h.proj FsState.mirroring
  have e2 := h.proj FsState.reserved
  have e3 := h.proj FsState.bps
  have e4 := h.proj FsState.spf
  have e5 := h.proj FsState.fats
  have e6 := h.proj FsState.activeFat
  simp [fatSliceOf, e1, e2, e3, e4, e5, e6]

theorem fatSlice_mirrored {fs : FsState} (hm : fs.mirroring = true) (via : Bool) :
    fatSliceOf fs via = { beginOff := fs.reserved * fs.bps, size := fs.spf * fs.bps, mirrors := fs.fats, viaFs := via } := by
  simp [fatSliceOf, hm]

theorem fatSlice_single {fs : FsState} (hm : fs.mirroring = false) (via : Bool) :
    fatSliceOf fs via = { beginOff := (fs.reserved + fs.activeFat * fs.spf) * fs.bps, size := fs.spf * fs.bps,
                          mirrors := 1, viaFs := via } := by
  simp [fatSliceOf, hm]

theorem fatArea_eq (fs : FsState) :
    fs.reserved * fs.bps + fs.fats * (fs.spf * fs.bps) = (fs.reserved + fs.fats * fs.spf) * fs.bps := by
  rw [Nat.add_mul, Nat.mul_assoc]

def FatOrStatus (fs : FsState) (off : Nat) (bs : List Nat) : Prop := FatArea fs off bs ∨ StatusRec fs off bs
def ActiveOrStatus (fs : FsState) (off : Nat) (bs : List Nat) : Prop := ActiveFatCopy fs off bs ∨ StatusRec fs off bs

/-- the FAT slice of a mounted file system with mirroring: every record lies in the FAT area or is the status byte -/
theorem fat_strm_gs {fs0 : FsState} {sz : Nat} (hm : fs0.mirroring = true) (via : Bool)
    (hdev : (fs0.reserved + fs0.fats * fs0.spf) * fs0.bps ≤ sz) :
    StrmGS fs0 sz (FatOrStatus fs0) DiskSlice.strm (SliceInv (fatSliceOf fs0 via)) := by
  refine DiskSlice.strm_gs _ ?_ ?_ (fun _ _ h => Or.inr h)
  · rw [fatSlice_mirrored hm]; dsimp only; rw [fatArea_eq]; exact hdev
  · intro off b h
    rw [fatSlice_mirrored hm] at h
    unfold SliceRec at h; dsimp only at h
    rw [fatArea_eq] at h
    exact Or.inl h

/-- … without mirroring: every record lies in the ACTIVE copy or is the status byte -/
theorem fat_strm_gs_single {fs0 : FsState} {sz : Nat} (hm : fs0.mirroring = false) (via : Bool)
    (hdev : (fs0.reserved + fs0.activeFat * fs0.spf) * fs0.bps + fs0.spf * fs0.bps ≤ sz) :
    StrmGS fs0 sz (ActiveOrStatus fs0) DiskSlice.strm (SliceInv (fatSliceOf fs0 via)) := by
  refine DiskSlice.strm_gs _ ?_ ?_ (fun _ _ h => Or.inr h)
  · rw [fatSlice_single hm]; dsimp only; omega
  · intro off b h
    rw [fatSlice_single hm] at h
    unfold SliceRec at h; dsimp only at h
    exact Or.inl ⟨h.1, by omega⟩

/-- **`fat_writes_in_fat_area`**: `set`, `alloc_cluster`, `ClusterIterator::{free,truncate}` and `format_fat` over the
    FAT slice append only records inside the FAT area (or the status byte), whatever their outcome -/
theorem fat_writes_in_fat_area {fs0 : FsState} {sz : Nat} (hm : fs0.mirroring = true) (via : Bool)
    (hdev : (fs0.reserved + fs0.fats * fs0.spf) * fs0.bps ≤ sz) (ft : FatType) {s : DiskSlice}
    (hs : SliceInv (fatSliceOf fs0 via) s) :
    (∀ c v, GS fs0 sz (FatOrStatus fs0) (Table.set DiskSlice.strm ft s c v) (SliceInv (fatSliceOf fs0 via))) ∧
    (∀ prev hint total, GS fs0 sz (FatOrStatus fs0) (Table.allocCluster DiskSlice.strm ft s prev hint total)
      (fun r => SliceInv (fatSliceOf fs0 via) r.2)) ∧
    (∀ fuel cl err, GS fs0 sz (FatOrStatus fs0) (Table.CIter.free DiskSlice.strm ft fuel ⟨s, cl, err⟩)
      (fun r => SliceInv (fatSliceOf fs0 via) r.2.fat)) ∧
    (∀ fuel cl err, GS fs0 sz (FatOrStatus fs0) (Table.CIter.truncate DiskSlice.strm ft fuel ⟨s, cl, err⟩)
      (fun r => SliceInv (fatSliceOf fs0 via) r.2.fat)) ∧
    (∀ media bytesPerFat total, GS fs0 sz (FatOrStatus fs0) (Table.formatFat DiskSlice.strm ft s media bytesPerFat total)
      (SliceInv (fatSliceOf fs0 via))) := by
  have hS := fat_strm_gs hm via hdev
  exact ⟨fun c v => Table.set_gs hS ft s c v hs, fun p h t => Table.allocCluster_gs hS ft s p h t hs,
    fun fuel cl err => Table.CIter.free_gs hS ft fuel _ hs, fun fuel cl err => Table.CIter.truncate_gs hS ft fuel _ hs,
    fun m b t => Table.formatFat_gs hS ft s m b t hs⟩

/-- **`inactive_copies_untouched`**: with mirroring disabled the same operations append only records inside the
    active FAT copy `[(reserved + activeFat*spf)*bps, +spf*bps)` (or the status byte) -/
theorem inactive_copies_untouched {fs0 : FsState} {sz : Nat} (hm : fs0.mirroring = false) (via : Bool)
    (hdev : (fs0.reserved + fs0.activeFat * fs0.spf) * fs0.bps + fs0.spf * fs0.bps ≤ sz) (ft : FatType) {s : DiskSlice}
    (hs : SliceInv (fatSliceOf fs0 via) s) :
    (∀ c v, GS fs0 sz (ActiveOrStatus fs0) (Table.set DiskSlice.strm ft s c v) (SliceInv (fatSliceOf fs0 via))) ∧
    (∀ prev hint total, GS fs0 sz (ActiveOrStatus fs0) (Table.allocCluster DiskSlice.strm ft s prev hint total)
      (fun r => SliceInv (fatSliceOf fs0 via) r.2)) ∧
    (∀ fuel cl err, GS fs0 sz (ActiveOrStatus fs0) (Table.CIter.free DiskSlice.strm ft fuel ⟨s, cl, err⟩)
      (fun r => SliceInv (fatSliceOf fs0 via) r.2.fat)) ∧
    (∀ fuel cl err, GS fs0 sz (ActiveOrStatus fs0) (Table.CIter.truncate DiskSlice.strm ft fuel ⟨s, cl, err⟩)
      (fun r => SliceInv (fatSliceOf fs0 via) r.2.fat)) ∧
    (∀ media bytesPerFat total, GS fs0 sz (ActiveOrStatus fs0) (Table.formatFat DiskSlice.strm ft s media bytesPerFat total)
      (SliceInv (fatSliceOf fs0 via))) := by
  have hS := fat_strm_gs_single hm via hdev
  exact ⟨fun c v => Table.set_gs hS ft s c v hs, fun p h t => Table.allocCluster_gs hS ft s p h t hs,
    fun fuel cl err => Table.CIter.free_gs hS ft fuel _ hs, fun fuel cl err => Table.CIter.truncate_gs hS ft fuel _ hs,
    fun m b t => Table.formatFat_gs hS ft s m b t hs⟩

/-! ## `fat_set_mirrored`: the same bytes at the same relative offset in every copy -/

theorem min_short {a b n : Nat} (hn : n = min a b) (hne : ¬ n = a) : n = b := by omega

theorem min_after_short (x z o : Nat) : min x (z - (o + (z - o))) = 0 := by omega

/-- a successful `write_all` on a slice is ONE `DiskSlice::write` of the whole buffer (a short slice write can only
    happen at the end of the slice, and the next one then returns 0) -/
theorem slice_writeAll_ok (s : DiskSlice) (bs : List Nat) (hne : bs ≠ []) (d : Dev) (hle : s.offset ≤ s.size)
    (hmir : 0 < s.mirrors) (hdev : s.beginOff + s.mirrors * s.size ≤ d.img.size) {s' : DiskSlice} {d' : Dev}
    (hr : run (writeAll DiskSlice.strm s bs) d = (.ok s', d')) :
    s.offset + bs.length ≤ s.size ∧ s' = { s with offset := s.offset + bs.length } ∧
    ∃ k, s.mirrors = k + 1 ∧ d'.fs = fsAfter s.viaFs d.fs ∧
      d'.log = mirrorLog (s.beginOff + s.offset) s.size bs k 1 ++
        (.write (s.beginOff + s.offset) bs :: (statusExtra s.viaFs d.fs ++ d.log)) := by
  have hlen : bs.length ≠ 0 := by simpa using hne
  obtain ⟨k0, hk0⟩ : ∃ k, bs.length = k + 1 := ⟨bs.length - 1, by omega⟩
  unfold writeAll at hr
  rw [hk0] at hr
  unfold writeAllLoop at hr
  have hemp : bs.isEmpty = false := by cases bs <;> simp_all
  simp only [hemp, Bool.false_eq_true, if_false] at hr
  obtain ⟨⟨n, s1⟩, d1, h1, h2⟩ := run_bind_ok_inv hr
  have h1' : run (s.write bs) d = (.ok (n, s1), d1) := h1
  obtain ⟨hn, hs1, hs1le, _, hpos⟩ := slice_write_mirrors s bs d hle hmir hdev h1'
  dsimp only at h2
  split at h2
  · simp only [run] at h2; cases h2
  · rename_i hn0
    by_cases hfull : n = bs.length
    · rw [hfull, List.drop_length] at h2
      unfold writeAllLoop at h2
      cases run_pure_cases h2
      obtain ⟨k, hk, hfs, hlog⟩ := hpos (by omega)
      rw [hfull, List.take_length] at hlog
      exact ⟨by omega, by rw [hs1, hfull], k, hk, hfs, hlog⟩
    · -- a short slice write ends at the end of the slice; the next write returns 0: `WriteZero`
      exfalso
      have hshort : n = s.size - s.offset := min_short hn hfull
      have hrest : (bs.drop n).isEmpty = false := by
        cases hd : bs.drop n with
        | nil =>
          have := congrArg List.length hd
          simp only [List.length_drop, List.length_nil] at this
          omega
        | cons _ _ => rfl
      unfold writeAllLoop at h2
      simp only [hrest, Bool.false_eq_true, if_false] at h2
      rcases run_bind_cases h2 with ⟨⟨n2, s2⟩, d2, h3, h4⟩ | ⟨e, _, he⟩
      · have h3' : run (s1.write (bs.drop n)) d1 = (.ok (n2, s2), d2) := h3
        have hd1 : d1.img.size = d.img.size := run_img_size _ _ _ _ h1
        have := slice_write_mirrors s1 (bs.drop n) d1 hs1le (by rw [hs1]; exact hmir)
          (by rw [hs1, hd1]; exact hdev) h3'
        have hn2 : n2 = 0 := by
          rw [this.1, hs1, hshort]; exact min_after_short _ _ _
        dsimp only at h4
        rw [if_pos hn2] at h4
        simp only [run] at h4; cases h4
      · cases he

/-- what a mirrored FAT entry update looks like in the write records: `data` at relative offset `rel` of every copy
    (copy 0 first), preceded by the status record `FsIoAdapter` may owe -/
def MirroredWrite (s0 : DiskSlice) (d d' : Dev) : Prop :=
  ∃ (rel : Nat) (data : List Nat) (k : Nat), data ≠ [] ∧ rel + data.length ≤ s0.size ∧ s0.mirrors = k + 1 ∧
    d'.fs = fsAfter s0.viaFs d.fs ∧
    d'.writesOf = mirrorLog (s0.beginOff + rel) s0.size data k 1 ++
      (.write (s0.beginOff + rel) data :: (statusExtra s0.viaFs d.fs ++ d.writesOf))

/-- the records of a mirrored write: the status record it may owe (the oldest), then records inside the window of the
    copies -/
theorem MirroredWrite.seg {s0 : DiskSlice} {d d' : Dev} (h : MirroredWrite s0 d d') :
    d'.fs = fsAfter s0.viaFs d.fs ∧ ∃ L, d'.writesOf = L ++ (statusExtra s0.viaFs d.fs ++ d.writesOf) ∧
      ∀ off bs, LogItem.write off bs ∈ L →
        s0.beginOff ≤ off ∧ off + bs.length ≤ s0.beginOff + s0.mirrors * s0.size := by
  obtain ⟨rel, data, k, _, hfit, hk, hfs, hw⟩ := h
  refine ⟨hfs, mirrorLog (s0.beginOff + rel) s0.size data (k + 1) 0, by rw [hw, mirrorLog_all], fun off bs hm => ?_⟩
  obtain ⟨j, hj, hit⟩ := (mem_mirrorLog (k + 1) 0 _).mp hm
  cases hit
  have := mirror_bound (b := s0.beginOff) (o := rel) (m := s0.mirrors) (j := 0 + j) (w := data.length) (by omega) hfit
    (Nat.le_refl _)
  exact ⟨by omega, this⟩

theorem writesOf_mirror (off size : Nat) (data : List Nat) (k i : Nat) (st : List LogItem)
    (hst : ∀ it ∈ st, it.isWrite = true) (o : Nat) (b : List Nat) (l : List LogItem) :
    (mirrorLog off size data k i ++ (.write o b :: (st ++ l))).filter LogItem.isWrite =
      mirrorLog off size data k i ++ (.write o b :: (st ++ l.filter LogItem.isWrite)) := by
  have h1 : (mirrorLog off size data k i).filter LogItem.isWrite = mirrorLog off size data k i := by
    apply List.filter_eq_self.mpr
    intro it hit
    obtain ⟨j, _, rfl⟩ := (mem_mirrorLog k i it).mp hit
    rfl
  have h2 : st.filter LogItem.isWrite = st := List.filter_eq_self.mpr hst
  simp only [List.filter_append, h1, h2, List.filter_cons, LogItem.isWrite, if_true]

/-- a successful `write_all` at the current offset of a state of the slice `s0`: `data` goes to every copy -/
theorem writeAll_mirrored {s0 s : DiskSlice} (hs : SliceInv s0 s) (hmir : 0 < s0.mirrors) (data : List Nat)
    (hne : data ≠ []) (d : Dev) (hdev : s0.beginOff + s0.mirrors * s0.size ≤ d.img.size) {s' : DiskSlice} {d' : Dev}
    (hr : run (writeAll DiskSlice.strm s data) d = (.ok s', d')) :
    s.offset + data.length ≤ s0.size ∧ s' = { s with offset := s.offset + data.length } ∧ SliceInv s0 s' ∧
    ∃ k, s0.mirrors = k + 1 ∧ d'.fs = fsAfter s0.viaFs d.fs ∧
      d'.writesOf = mirrorLog (s0.beginOff + s.offset) s0.size data k 1 ++
        (.write (s0.beginOff + s.offset) data :: (statusExtra s0.viaFs d.fs ++ d.writesOf)) := by
  obtain ⟨hfit, hs', k, hk, hfs, hlog⟩ := slice_writeAll_ok s data hne d hs.le (by rw [hs.mirrors]; exact hmir)
    (by rw [hs.beginOff, hs.mirrors, hs.size]; exact hdev) hr
  rw [hs.beginOff, hs.size, hs.viaFs] at hlog
  rw [hs.viaFs] at hfs
  rw [hs.size] at hfit
  refine ⟨hfit, hs', ?_, k, by rw [← hs.mirrors]; exact hk, hfs, ?_⟩
  · rw [hs']
    exact ⟨hs.beginOff, hs.size, hs.mirrors, hs.viaFs, by show s.offset + data.length ≤ s.size; rw [hs.size]; exact hfit⟩
  · unfold Dev.writesOf
    rw [hlog, writesOf_mirror _ _ _ _ _ _ (statusExtra_isWrite _ _)]

/-- seek to a relative offset, then `write_all`, after a prefix `d0 … d` without records: a mirrored write at that
    offset -/
theorem seek_writeAll_mirrored {s0 s : DiskSlice} (hs : SliceInv s0 s) (hmir : 0 < s0.mirrors) (rel : Nat)
    (data : List Nat) (hne : data ≠ []) (d0 d : Dev) (hw0 : d.writesOf = d0.writesOf) (hfs0 : d.fs = d0.fs)
    (hdev : s0.beginOff + s0.mirrors * s0.size ≤ d.img.size) {s' : DiskSlice} {d' : Dev}
    (k : Nat × DiskSlice → Prog DiskSlice) (hk : ∀ t s1, k (t, s1) = writeAll DiskSlice.strm s1 data)
    (hr : run (Prog.bind (DiskSlice.strm.seek s (.start rel)) k) d = (.ok s', d')) :
    MirroredWrite s0 d0 d' ∧ SliceInv s0 s' := by
  obtain ⟨⟨t, s1⟩, d1, h1, h2⟩ := run_bind_ok_inv hr
  rw [hk] at h2
  obtain ⟨rfl, hs1, _, hi1⟩ := slice_seek_at hs rel d h1
  obtain ⟨hfit, _, hs', k, hk, hfs, hlog⟩ := writeAll_mirrored hi1 hmir data hne d1 hdev h2
  rw [hs1] at hfit hlog
  exact ⟨⟨rel, data, k, hne, hfit, hk, by rw [hfs, hfs0], by rw [hlog, hfs0, hw0]⟩, hs'⟩

/-- **`fat_set_mirrored`**: a successful `Table.set` over a slice with `mirrors = k+1` copies writes the entry bytes
    `data` at the same relative offset `rel` of every copy (and nothing else, except the status byte `FsIoAdapter` may
    owe): the write records added are exactly those of `MirroredWrite`. For the FAT slice of a mounted file system with
    mirroring, `s0 = fatSliceOf fs`: `beginOff = reserved*bps`, `size = spf*bps`, `mirrors = fats`. -/
theorem fat_set_mirrored {s0 s : DiskSlice} (hs : SliceInv s0 s) (hmir : 0 < s0.mirrors) (ft : FatType) (c : Nat)
    (v : FatValue) (d : Dev) (hdev : s0.beginOff + s0.mirrors * s0.size ≤ d.img.size) {s' : DiskSlice} {d' : Dev}
    (hr : run (Table.set DiskSlice.strm ft s c v) d = (.ok s', d')) :
    MirroredWrite s0 d d' ∧ SliceInv s0 s' := by
  have hS := slice_strm_gs s0 d.fs d.img.size hdev
  have hq := DiskSlice.strm_quiet
  cases ft with
  | fat16 =>
    unfold Table.set at hr
    dsimp only at hr
    exact seek_writeAll_mirrored hs hmir _ (bytesLe16 _) (by simp [bytesLe16]) d d rfl rfl hdev _
      (fun _ _ => rfl) hr
  | fat12 =>
    unfold Table.set at hr
    dsimp only at hr
    obtain ⟨⟨t, s1⟩, d1, h1, h2⟩ := run_bind_ok_inv hr
    obtain ⟨hd1, _, _, hs1⟩ := slice_seek_at hs _ d h1
    rw [hd1] at h2
    dsimp only at h2
    rcases run_bind_cases h2 with ⟨⟨old, s2⟩, d2, h3, h4⟩ | ⟨e, _, he⟩
    · have hqr := readU16_quiet DiskSlice.strm hq s1
      have hsw := noWriteOps_sound hqr.noWriteOps d h3
      have hfs := quietOps_fs hqr d h3
      have hs2 : SliceInv s0 s2 := ((readU16_gs hS s1 hs1).out d _ _ (SameGeom.refl _) rfl h3).2.2 _ rfl
      dsimp only at h4
      exact seek_writeAll_mirrored hs2 hmir _ (bytesLe16 _) (by simp [bytesLe16]) d d2 hsw.2 hfs
        (by rw [run_img_size _ _ _ _ h3]; exact hdev) _ (fun _ _ => rfl) h4
    · cases he
  | fat32 =>
    unfold Table.set at hr
    dsimp only at hr
    obtain ⟨⟨old, s2⟩, d2, h3, h4⟩ := run_bind_ok_inv hr
    have hqr := Table.getRaw_quiet DiskSlice.strm hq .fat32 s c
    have hsw := noWriteOps_sound hqr.noWriteOps d h3
    have hfs := quietOps_fs hqr d h3
    have hs2 : SliceInv s0 s2 := ((Table.getRaw_gs hS .fat32 s c hs).out d _ _ (SameGeom.refl _) rfl h3).2.2 _ rfl
    dsimp only at h4
    split at h4
    · simp only [run] at h4; cases h4
    · exact seek_writeAll_mirrored hs2 hmir _ (bytesLe32 _) (by simp [bytesLe32]) d d2 hsw.2 hfs
        (by rw [run_img_size _ _ _ _ h3]; exact hdev) _ (fun _ _ => rfl) h4

/-- **`fat_set_marks_dirty_first`** (fix f695ddf): a successful `Table.set` through `FsIoAdapter` on a volume whose
    dirty flag is not set yet: the status-byte record PRECEDES the entry bytes of copy 0 (before the fix it followed
    them), and the flag is set afterwards -/
theorem fat_set_marks_dirty_first {s0 s : DiskSlice} (hs : SliceInv s0 s) (hv : s0.viaFs = true) (hmir : 0 < s0.mirrors)
    (ft : FatType) (c : Nat) (v : FatValue) (d : Dev) (hdev : s0.beginOff + s0.mirrors * s0.size ≤ d.img.size)
    (hclean : d.fs.curDirty = false) {s' : DiskSlice} {d' : Dev}
    (hr : run (Table.set DiskSlice.strm ft s c v) d = (.ok s', d')) :
    d'.fs.curDirty = true ∧
    ∃ (rel : Nat) (data : List Nat) (k : Nat), data ≠ [] ∧ rel + data.length ≤ s0.size ∧ s0.mirrors = k + 1 ∧
      d'.writesOf = mirrorLog (s0.beginOff + rel) s0.size data k 1 ++
        (.write (s0.beginOff + rel) data :: statusWrite d.fs true :: d.writesOf) := by
  obtain ⟨⟨rel, data, k, hne, hfit, hk, hfs, hw⟩, _⟩ := fat_set_mirrored hs hmir ft c v d hdev hr
  rw [hv] at hfs hw
  refine ⟨by rw [hfs]; exact fsAfter_dirty _, rel, data, k, hne, hfit, hk, ?_⟩
  rw [hw, statusExtra_clean hclean]; rfl

/-! ## copies stay equal

The effect of write records on the device bytes, as a function `offset ↦ byte`: `replay g items` (Proofs/ImgReplay.lean)
applies the records `items` (newest first) to `g`. `run_img_eq_replay` (same file, from the `Img.write`/`Img.getByte`
lemmas of Proofs/ImgLemmas.lean) says that the image after any run IS the replay of the appended records on the image
before; so the log-level statements below transfer to the sparse image: `fat_copies_equal_img`. -/

/-- `M` copies of `Z` bytes from `B` on hold the same bytes -/
def CopiesEqual (B Z M : Nat) (g : Nat → Nat) : Prop := ∀ i, i < M → ∀ x, x < Z → g (B + i * Z + x) = g (B + x)

/-- **`copies_equal_preserved`** (log-replay level): applying the records of a mirrored FAT update
    (`MirroredWrite`: `data` at relative offset `rel` of each of the `k+1` copies, after records `st` that do not touch
    the copies — the status byte) to bytes whose copies are equal leaves the copies equal -/
theorem copies_equal_preserved (B Z rel k : Nat) (data : List Nat) (hfit : rel + data.length ≤ Z) (st : List LogItem)
    (hst : ∀ off bs, LogItem.write off bs ∈ st → off + bs.length ≤ B ∨ B + (k + 1) * Z ≤ off)
    (g : Nat → Nat) (hg : CopiesEqual B Z (k + 1) g) :
    CopiesEqual B Z (k + 1) (replay g (mirrorLog (B + rel) Z data k 1 ++ (.write (B + rel) data :: st))) := by
  intro i hi x hx
  have h0 := replay_mirrored B Z rel k data hfit st hst g (i := 0) (by omega) hx
  rw [Nat.zero_mul, Nat.add_zero] at h0
  rw [replay_mirrored B Z rel k data hfit st hst g hi hx, h0, hg i hi x hx]

/-- … instantiated to `fat_set_mirrored`: if the status byte lies before the FAT window, a successful `Table.set`
    keeps the FAT copies equal (on the replay of the write records it appended) -/
theorem fat_set_copies_equal {s0 : DiskSlice} {d d' : Dev} (h : MirroredWrite s0 d d')
    (hstat : statusOff d.fs + 1 ≤ s0.beginOff) (g : Nat → Nat) (hg : CopiesEqual s0.beginOff s0.size s0.mirrors g) :
    ∃ items, Seg d d' items ∧ CopiesEqual s0.beginOff s0.size s0.mirrors (replay g items) := by
  obtain ⟨rel, data, k, _, hfit, hk, _, hw⟩ := h
  refine ⟨mirrorLog (s0.beginOff + rel) s0.size data k 1 ++ (.write (s0.beginOff + rel) data :: statusExtra s0.viaFs d.fs),
    by rw [Seg, hw]; simp, ?_⟩
  rw [hk] at hg ⊢
  refine copies_equal_preserved _ _ _ _ _ hfit _ (fun off bs hm => Or.inl ?_) g hg
  obtain ⟨rfl, hl⟩ := statusExtra_mem _ _ off bs hm
  rw [hl]; exact hstat

/-! ## lifting: successful FAT operations are sequences of mirrored writes -/

/-- a step that changes neither the write records nor the mounted state -/
def QuietStep (d d' : Dev) : Prop := d'.writesOf = d.writesOf ∧ d'.fs = d.fs

/-- a sequence of quiet steps and mirrored writes to the copies of `s0` -/
inductive MirroredSeq (s0 : DiskSlice) : Dev → Dev → Prop where
  | refl (d : Dev) : MirroredSeq s0 d d
  | quiet {d d' d'' : Dev} : QuietStep d d' → MirroredSeq s0 d' d'' → MirroredSeq s0 d d''
  | write {d d' d'' : Dev} : MirroredWrite s0 d d' → MirroredSeq s0 d' d'' → MirroredSeq s0 d d''

theorem MirroredSeq.trans {s0 : DiskSlice} {a b c : Dev} (h1 : MirroredSeq s0 a b) (h2 : MirroredSeq s0 b c) :
    MirroredSeq s0 a c := by
  induction h1 with
  | refl => exact h2
  | quiet hq _ ih => exact .quiet hq (ih h2)
  | write hw _ ih => exact .write hw (ih h2)

theorem MirroredSeq.one {s0 : DiskSlice} {a b : Dev} (h : MirroredWrite s0 a b) : MirroredSeq s0 a b :=
  .write h (.refl _)

theorem MirroredSeq.oneQuiet {s0 : DiskSlice} {a b : Dev} (h : QuietStep a b) : MirroredSeq s0 a b :=
  .quiet h (.refl _)

/-- success-only judgement (`MS` for `MirroredSeq`; the lemmas `…_ms`): a successful run of `p` on a device of size `sz`
    is a `MirroredSeq` -/
structure MS (s0 : DiskSlice) (sz : Nat) {α} (p : Prog α) (Post : α → Prop) : Prop where
  out : ∀ (d : Dev) (v : α) (d' : Dev), d.img.size = sz → run p d = (.ok v, d') → MirroredSeq s0 d d' ∧ Post v

section rules
variable {s0 : DiskSlice} {sz : Nat}

theorem MS.pure {α} {Post : α → Prop} {a : α} (h : Post a) : MS s0 sz (Prog.pure a) Post :=
  ⟨fun d v d' _ hr => by simp only [run] at hr; cases hr; exact ⟨.refl _, h⟩⟩

theorem MS.fail {α} {Post : α → Prop} (e : Err) : MS s0 sz (Prog.fail (α := α) e) Post :=
  ⟨fun d v d' _ hr => by simp only [run] at hr; cases hr⟩

theorem MS.bind {α β} {p : Prog β} {k : β → Prog α} {Q : β → Prop} {Post : α → Prop}
    (hp : MS s0 sz p Q) (hk : ∀ b, Q b → MS s0 sz (k b) Post) : MS s0 sz (Prog.bind p k) Post := by
  refine ⟨fun d v d' hs hr => ?_⟩
  obtain ⟨b, d1, h1, h2⟩ := run_bind_ok_inv hr
  have a1 := hp.out d b d1 hs h1
  have a2 := (hk b a1.2).out d1 v d' ((run_img_size _ _ _ _ h1).trans hs) h2
  exact ⟨a1.1.trans a2.1, a2.2⟩

/-- a program without `write`/`setFs`, with a postcondition known from `GS` -/
theorem MS.of_quiet {α} {p : Prog α} {Post : α → Prop} (hq : QuietOps p)
    (hp : ∀ fs0, GS fs0 sz (fun _ _ => True) p Post) : MS s0 sz p Post :=
  ⟨fun d v d' hs hr =>
    ⟨.oneQuiet ⟨(noWriteOps_sound hq.noWriteOps d hr).2, quietOps_fs hq d hr⟩,
     ((hp d.fs).out d _ d' (SameGeom.refl _) hs hr).2.2 v rfl⟩⟩

theorem MS.weaken {α} {p : Prog α} {Q Post : α → Prop} (h : MS s0 sz p Q) (hq : ∀ v, Q v → Post v) : MS s0 sz p Post :=
  ⟨fun d v d' hs hr => ⟨(h.out d v d' hs hr).1, hq v (h.out d v d' hs hr).2⟩⟩

end rules

/-! ### the FAT operations over a slice -/

section fat
variable {s0 : DiskSlice} {sz : Nat} (hmir : 0 < s0.mirrors) (hdev : s0.beginOff + s0.mirrors * s0.size ≤ sz)
include hmir hdev

omit hmir in
theorem trivStrm_gs (fs0 : FsState) : StrmGS fs0 sz (fun _ _ => True) DiskSlice.strm (SliceInv s0) :=
  DiskSlice.strm_gs s0 hdev (fun _ _ _ => trivial) (fun _ _ _ => trivial)

theorem Table.set_ms (ft : FatType) {s : DiskSlice} (hs : SliceInv s0 s) (c : Nat) (v : FatValue) :
    MS s0 sz (Table.set DiskSlice.strm ft s c v) (SliceInv s0) :=
  ⟨fun d s' d' hsz hr => by
    have := fat_set_mirrored hs hmir ft c v d (by rw [hsz]; exact hdev) hr
    exact ⟨.one this.1, this.2⟩⟩

/-- `write_all` at the current offset of the slice -/
theorem writeAll_ms {s : DiskSlice} (hs : SliceInv s0 s) (bs : List Nat) (hne : bs ≠ []) :
    MS s0 sz (writeAll DiskSlice.strm s bs) (SliceInv s0) :=
  ⟨fun d s' d' hsz hr => by
    obtain ⟨hfit, _, hs', k, hk, hfs, hlog⟩ := writeAll_mirrored hs hmir bs hne d (by rw [hsz]; exact hdev) hr
    exact ⟨.one ⟨s.offset, bs, k, hne, hfit, hk, hfs, hlog⟩, hs'⟩⟩

theorem Table.allocCluster_ms (ft : FatType) {s : DiskSlice} (hs : SliceInv s0 s) (prev hint : Option Nat) (total : Nat) :
    MS s0 sz (Table.allocCluster DiskSlice.strm ft s prev hint total) (fun r => SliceInv s0 r.2) := by
  unfold Table.allocCluster
  dsimp only
  refine MS.bind (Q := fun r => SliceInv s0 r.2) (MS.of_quiet ?_ (fun fs0 => ?_)) ?_
  · refine QuietOps.tryCatch _ _ (Table.findFree_quiet _ DiskSlice.strm_quiet _ _ _ _) (fun e => ?_)
    quiet [Table.findFree_quiet, DiskSlice.strm_quiet]
  · have hS := trivStrm_gs hdev fs0
    refine GS.tryCatch (Table.findFree_gs hS _ _ _ _ hs) (fun e => ?_)
    gs [Table.findFree_gs hS]
  · rintro ⟨newC, s1⟩ hs1
    dsimp only
    refine MS.bind (Table.set_ms hmir hdev ft hs1 _ _) (fun s2 hs2 => ?_)
    refine MS.bind (Q := SliceInv s0) ?_ (fun s3 hs3 => MS.pure hs3)
    split
    · exact Table.set_ms hmir hdev ft hs2 _ _
    · exact MS.pure hs2

omit hmir in
theorem Table.CIter.next_ms (ft : FatType) (it : Table.CIter DiskSlice) (hs : SliceInv s0 it.fat) :
    MS s0 sz (Table.CIter.next DiskSlice.strm ft it) (fun r => SliceInv s0 r.2.fat) :=
  MS.of_quiet (Table.CIter.next_quiet _ DiskSlice.strm_quiet ft it)
    (fun fs0 => Table.CIter.next_gs (trivStrm_gs hdev fs0) ft it hs)

theorem Table.CIter.freeLoop_ms (ft : FatType) : ∀ fuel (it : Table.CIter DiskSlice) num, SliceInv s0 it.fat →
    MS s0 sz (Table.CIter.freeLoop DiskSlice.strm ft fuel it num) (fun r => SliceInv s0 r.2.fat) := by
  intro fuel
  induction fuel with
  | zero => intros; unfold Table.CIter.freeLoop; exact MS.fail _
  | succ k ih =>
    intro it num hs
    unfold Table.CIter.freeLoop
    split
    · exact MS.pure hs
    · refine MS.bind (Table.CIter.next_ms hdev ft it hs) ?_
      rintro ⟨r, it1⟩ hit1
      dsimp only
      split
      · exact MS.fail _
      · exact MS.bind (Table.set_ms hmir hdev ft hit1 _ _) (fun fat hfat => ih _ _ hfat)

theorem Table.CIter.free_ms (ft : FatType) (fuel : Nat) (it : Table.CIter DiskSlice) (hs : SliceInv s0 it.fat) :
    MS s0 sz (Table.CIter.free DiskSlice.strm ft fuel it) (fun r => SliceInv s0 r.2.fat) :=
  Table.CIter.freeLoop_ms hmir hdev ft _ _ _ hs

theorem Table.CIter.truncate_ms (ft : FatType) (fuel : Nat) (it : Table.CIter DiskSlice) (hs : SliceInv s0 it.fat) :
    MS s0 sz (Table.CIter.truncate DiskSlice.strm ft fuel it) (fun r => SliceInv s0 r.2.fat) := by
  unfold Table.CIter.truncate
  split
  · exact MS.pure hs
  · refine MS.bind (Table.CIter.next_ms hdev ft it hs) ?_
    rintro ⟨r, it1⟩ hit1
    dsimp only
    split
    · exact MS.fail _
    · exact MS.bind (Table.set_ms hmir hdev ft hit1 _ _) (fun fat hfat => Table.CIter.free_ms hmir hdev ft _ _ hfat)

theorem Table.setRange_ms (ft : FatType) (v : FatValue) : ∀ k s c, SliceInv s0 s →
    MS s0 sz (Table.setRange DiskSlice.strm ft v k s c) (SliceInv s0) := by
  intro k
  induction k with
  | zero => intro s c hs; unfold Table.setRange; exact MS.pure hs
  | succ k ih =>
    intro s c hs; unfold Table.setRange
    exact MS.bind (Table.set_ms hmir hdev ft hs _ _) (fun s1 hs1 => ih _ _ hs1)

theorem Table.formatFat_ms (ft : FatType) {s : DiskSlice} (hs : SliceInv s0 s) (media bytesPerFat total : Nat) :
    MS s0 sz (Table.formatFat DiskSlice.strm ft s media bytesPerFat total) (SliceInv s0) := by
  unfold Table.formatFat
  refine MS.bind (Q := SliceInv s0) ?_ (fun s1 hs1 => ?_)
  · split
    · exact MS.bind (writeAll_ms hmir hdev hs _ (by simp)) (fun s1 hs1 => writeAll_ms hmir hdev hs1 _ (by simp [bytesLe16]))
    · exact MS.bind (writeAll_ms hmir hdev hs _ (by simp [bytesLe16])) (fun s1 hs1 => writeAll_ms hmir hdev hs1 _ (by simp [bytesLe16]))
    · exact MS.bind (writeAll_ms hmir hdev hs _ (by simp [bytesLe32])) (fun s1 hs1 => writeAll_ms hmir hdev hs1 _ (by simp [bytesLe32]))
  · dsimp only
    refine MS.bind (Table.setRange_ms hmir hdev ft _ _ _ _ hs1) (fun s2 hs2 => ?_)
    split
    · exact Table.setRange_ms hmir hdev ft _ _ _ _ hs2
    · exact MS.pure hs2

end fat


/-- **`fat_ops_mirrored`**: a successful `alloc_cluster`, `ClusterIterator::free`/`truncate` or `format_fat` over a slice
    with `mirrors ≥ 1` copies inside the device is a sequence of quiet steps (reads) and mirrored writes: every FAT byte
    it writes goes, identically and at the same relative offset, to every copy (`MirroredSeq`). With
    `s0 = fatSliceOf fs` and mirroring on these are the `fs.fats` FAT copies; with mirroring off `mirrors = 1` and the one
    copy is the active FAT (`inactive_copies_untouched`). -/
theorem fat_ops_mirrored {s0 : DiskSlice} {sz : Nat} (hmir : 0 < s0.mirrors)
    (hdev : s0.beginOff + s0.mirrors * s0.size ≤ sz) (ft : FatType) {s : DiskSlice} (hs : SliceInv s0 s) :
    (∀ prev hint total, MS s0 sz (Table.allocCluster DiskSlice.strm ft s prev hint total) (fun r => SliceInv s0 r.2)) ∧
    (∀ fuel cl err, MS s0 sz (Table.CIter.free DiskSlice.strm ft fuel ⟨s, cl, err⟩) (fun r => SliceInv s0 r.2.fat)) ∧
    (∀ fuel cl err, MS s0 sz (Table.CIter.truncate DiskSlice.strm ft fuel ⟨s, cl, err⟩) (fun r => SliceInv s0 r.2.fat)) ∧
    (∀ media bytesPerFat total, MS s0 sz (Table.formatFat DiskSlice.strm ft s media bytesPerFat total) (SliceInv s0)) :=
  ⟨fun p h t => Table.allocCluster_ms hmir hdev ft hs p h t, fun fuel _ _ => Table.CIter.free_ms hmir hdev ft fuel _ hs,
   fun fuel _ _ => Table.CIter.truncate_ms hmir hdev ft fuel _ hs,
   fun m b t => Table.formatFat_ms hmir hdev ft hs m b t⟩

theorem statusOff_fsAfter (via : Bool) (fs : FsState) : statusOff (fsAfter via fs) = statusOff fs :=
  statusOff_geom (fsAfter_geom via fs)

/-- **`copies_equal_preserved`** along a `MirroredSeq` (log-replay level): if the status byte lies before the window of
    the copies, the copies stay equal -/
theorem mirroredSeq_copies_equal {s0 : DiskSlice} {d d' : Dev} (h : MirroredSeq s0 d d')
    (hstat : statusOff d.fs + 1 ≤ s0.beginOff) :
    ∀ (g : Nat → Nat), CopiesEqual s0.beginOff s0.size s0.mirrors g →
      ∃ items, Seg d d' items ∧ CopiesEqual s0.beginOff s0.size s0.mirrors (replay g items) := by
  induction h with
  | refl d => intro g hg; exact ⟨[], rfl, hg⟩
  | quiet hq _ ih =>
    intro g hg
    obtain ⟨items, h1, h2⟩ := ih (by rw [hq.2]; exact hstat) g hg
    exact ⟨items, by rw [Seg, h1, hq.1], h2⟩
  | write hw _ ih =>
    intro g hg
    obtain ⟨i1, e1, c1⟩ := fat_set_copies_equal hw hstat g hg
    obtain ⟨_, _, _, _, _, _, hfs, _⟩ := hw
    obtain ⟨i2, e2, c2⟩ := ih (by rw [hfs, statusOff_fsAfter]; exact hstat) (replay g i1) c1
    exact ⟨i2 ++ i1, e1.trans e2, by rw [replay_append]; exact c2⟩

/-! ## … on the device image -/

/-- the copies of `s0` hold the same bytes in the image -/
def CopiesEqualImg (s0 : DiskSlice) (i : Img) : Prop := CopiesEqual s0.beginOff s0.size s0.mirrors i.getByte

/-- a successful mirrored sequence that is a run of a program keeps the copies equal IN THE IMAGE -/
theorem mirroredSeq_copies_equal_img {α} {s0 : DiskSlice} {p : Prog α} {d : Dev} {r : Except Err α} {d' : Dev}
    (hr : run p d = (r, d')) (hseq : MirroredSeq s0 d d') (hw : d.img.WF)
    (hstat : statusOff d.fs + 1 ≤ s0.beginOff) (heq : CopiesEqualImg s0 d.img) :
    d'.img.WF ∧ CopiesEqualImg s0 d'.img := by
  obtain ⟨items, hseg, hc⟩ := mirroredSeq_copies_equal hseq hstat d.img.getByte heq
  obtain ⟨hw', hb⟩ := img_after_seg hr hw hseg
  exact ⟨hw', fun i hi x hx => by rw [hb, hb, hc i hi x hx]⟩

/-- **`fat_copies_equal_img`**: let `s0` be a slice with `mirrors ≥ 1` copies lying inside the device, the status byte
    before its window (for `fatSliceOf fs` with mirroring: the `fs.fats` FAT copies). On ANY device state with a
    well-formed page table whose copies are byte-equal in the image, a successful `Table.set`, `alloc_cluster`,
    `ClusterIterator::free`/`truncate` or `format_fat` over (a state of) that slice leaves the copies byte-equal in the
    image `d'.img` (and the page table well formed). -/
theorem fat_copies_equal_img {s0 : DiskSlice} (hmir : 0 < s0.mirrors) (ft : FatType) {s : DiskSlice}
    (hs : SliceInv s0 s) (d : Dev) (hdev : s0.beginOff + s0.mirrors * s0.size ≤ d.img.size) (hw : d.img.WF)
    (hstat : statusOff d.fs + 1 ≤ s0.beginOff) (heq : CopiesEqualImg s0 d.img) :
    (∀ c v s' d', run (Table.set DiskSlice.strm ft s c v) d = (.ok s', d') → d'.img.WF ∧ CopiesEqualImg s0 d'.img) ∧
    (∀ prev hint total v d', run (Table.allocCluster DiskSlice.strm ft s prev hint total) d = (.ok v, d') →
      d'.img.WF ∧ CopiesEqualImg s0 d'.img) ∧
    (∀ fuel cl err v d', run (Table.CIter.free DiskSlice.strm ft fuel ⟨s, cl, err⟩) d = (.ok v, d') →
      d'.img.WF ∧ CopiesEqualImg s0 d'.img) ∧
    (∀ fuel cl err v d', run (Table.CIter.truncate DiskSlice.strm ft fuel ⟨s, cl, err⟩) d = (.ok v, d') →
      d'.img.WF ∧ CopiesEqualImg s0 d'.img) ∧
    (∀ media bytesPerFat total v d', run (Table.formatFat DiskSlice.strm ft s media bytesPerFat total) d = (.ok v, d') →
      d'.img.WF ∧ CopiesEqualImg s0 d'.img) := by
  obtain ⟨h1, h2, h3, h4⟩ := fat_ops_mirrored hmir hdev ft hs
  refine ⟨fun c v s' d' hr => ?_, fun p h t v d' hr => ?_, fun fuel cl err v d' hr => ?_,
    fun fuel cl err v d' hr => ?_, fun m b t v d' hr => ?_⟩
  · exact mirroredSeq_copies_equal_img hr ((Table.set_ms hmir hdev ft hs c v).out d s' d' rfl hr).1 hw hstat heq
  · exact mirroredSeq_copies_equal_img hr ((h1 p h t).out d v d' rfl hr).1 hw hstat heq
  · exact mirroredSeq_copies_equal_img hr ((h2 fuel cl err).out d v d' rfl hr).1 hw hstat heq
  · exact mirroredSeq_copies_equal_img hr ((h3 fuel cl err).out d v d' rfl hr).1 hw hstat heq
  · exact mirroredSeq_copies_equal_img hr ((h4 m b t).out d v d' rfl hr).1 hw hstat heq

/-! ## the statements are not vacuous -/

namespace C10ex
def slice : DiskSlice := { beginOff := 512, size := 512, offset := 6, mirrors := 2, viaFs := true }
def fs16 : FsState :=
  { fatType := .fat16, bps := 512, spc := 1, reserved := 1, fats := 2, spf := 1, totalClusters := 5,
    firstDataSector := 4, rootEntries := 16, rootDirSectors := 1 }
def dev : Dev := { img := Img.empty 8192, fs := fs16 }
end C10ex

/-- hypotheses of `slice_write_mirrors`/`slice_bounds_write` hold of the example, and the write does what they say:
    two bytes at offset 6 of both copies, the status byte BEFORE the first -/
example : C10ex.slice.offset ≤ C10ex.slice.size ∧ 0 < C10ex.slice.mirrors ∧
    C10ex.slice.beginOff + C10ex.slice.mirrors * C10ex.slice.size ≤ C10ex.dev.img.size ∧
    (run (C10ex.slice.write [170, 187]) C10ex.dev).2.log =
      [.write 1030 [170, 187], .write 518 [170, 187], .write 37 [1]] := by decide +kernel

/-- `fatSliceOf` of the example volume is that window; the status byte (0x25) lies before it -/
example : fatSliceOf C10ex.fs16 = { beginOff := 512, size := 512, mirrors := 2, viaFs := true } ∧
    statusOff C10ex.fs16 + 1 ≤ (fatSliceOf C10ex.fs16).beginOff := by decide

/-- non-vacuity of `fat_copies_equal_img` on a 2-copy FAT16 volume: the 8 KiB all-zero device `C10ex.dev` has a
    well-formed page table, its two FAT copies `[512,1024)`, `[1024,1536)` are byte-equal, they lie inside the device, the
    status byte lies before them, and `Table.set` of the entry of cluster 3 succeeds on it -/
example : C10ex.dev.img.WF ∧ CopiesEqualImg (fatSliceOf C10ex.fs16) C10ex.dev.img ∧
    (fatSliceOf C10ex.fs16).beginOff + (fatSliceOf C10ex.fs16).mirrors * (fatSliceOf C10ex.fs16).size ≤ C10ex.dev.img.size ∧
    resErr (run (Table.set DiskSlice.strm .fat16 (fatSliceOf C10ex.fs16) 3 .eoc) C10ex.dev).1 = none :=
  ⟨Img.wf_empty _, fun _ _ _ _ => by simp [C10ex.dev, Img.getByte_empty], by decide, by decide +kernel⟩

end FatVerif
