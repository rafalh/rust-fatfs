import FatVerif.Model.DirSlots
/-!
# The directory-level alias choice (`check_for_existence` + `find_entry`, pure part)

`Names.generateLoop` feeds the generator an explicit population.  The library feeds it from a directory scan:
`check_for_existence(name, is_dir)` runs `find_entry(name, is_dir, Some(&mut gen))` — which walks `self.iter()`,
returns at the FIRST entry whose long name or alias matches the query (with the kind check), and calls
`gen.add_existing(raw_short_name)` only for the entries scanned BEFORE a match — then, on `NotFound`, tries `generate`; since the repair of F23 (commit 4df4d32) the candidate is used only if
`find_entry(display form of the candidate, None, None)` is `NotFound`, otherwise it is fed to `add_existing` and the
loop continues; when `generate` fails, `next_iteration` and scan again (`exact_match` is never reset between rounds).

This file mirrors that on the LISTING (`DirSlots.listing slots = readDirEntries true true slots`) of a slot list; the
effectful, call-exact transliteration is `findEntryLoop` / `findEntryG` / `checkForExistenceLoop` /
`checkForExistence` of Model/DirOps (same branches, same order; `e.data.name` there = `sfnName e.sfn` here).
-/
namespace FatVerif
namespace DirAlias
open Lfn DirSlots

/-- `DirEntryOrShortName` -/
inductive EntryOrAlias where
  | entry (e : LfnEntry)
  | alias (a : List Nat)
  deriving DecidableEq, Repr

/-- results are compared in `decide` examples -/
instance decEqExcept {ε α : Type} [DecidableEq ε] [DecidableEq α] : DecidableEq (Except ε α)
  | .ok a, .ok b => if h : a = b then isTrue (by rw [h]) else isFalse (fun h' => by cases h'; exact h rfl)
  | .error a, .error b => if h : a = b then isTrue (by rw [h]) else isFalse (fun h' => by cases h'; exact h rfl)
  | .ok _, .error _ => isFalse (fun h => by cases h)
  | .error _, .ok _ => isFalse (fun h => by cases h)

/-- the `for r in self.iter()` loop of `find_entry(name, is_dir, Some(gen))` over the listed entries:
    the lookup outcome and the generator as the scan left it -/
def scan (upper : Char → List Char) (name : List Char) (isDir : Option Bool) :
    List LfnEntry → Names.Gen → Except Err LfnEntry × Names.Gen
  | [], g => (.error .notFound, g)
  | e :: es, g =>
    if matchesName upper e name then
      if isDir.isSome && some (Lfn.isDir e.sfn) != isDir then (.error .invalidInput, g) else (.ok e, g)
    else scan upper name isDir es (Names.addExisting g (sfnName e.sfn))

/-- `find_entry(candidate_str, None, None)`: no kind filter, no generator -/
def lookupNoGen (upper : Char → List Char) (entries : List LfnEntry) (q : List Char) : Option LfnEntry :=
  entries.find? fun e => matchesName upper e q

/-- the display bytes of a candidate are valid UTF-8 (`str::from_utf8(candidate.as_bytes())` succeeds): always the
    case for a generated alias, whose bytes are ASCII (`Names.generate` never returns anything else:
    `displayAscii_of_canon` ∘ `canon_of_legal`, Proofs/DirAliasDisplay); mirrors the guard of `checkForExistenceLoop`
    (Model/DirOps) -/
def displayAscii (a : List Nat) : Bool := (Names.shortDisplay a).all (· < 128)

/-- the `loop { … }` of `check_for_existence` (after the repair of F23); `.error .hang` = `fuel` rounds were not enough.
    Every round: scan for the name (feeding the generator); on `NotFound` try `generate`; a candidate whose display
    form is answered by a listed entry (long name or alias, ignoring case) is fed back to `add_existing` and the loop
    `continue`s (rescan, next candidate); when `generate` fails, `next_iteration`. -/
def loop (upper : Char → List Char) (entries : List LfnEntry) (name : List Char) (isDir : Option Bool) :
    Nat → Names.Gen → Except Err EntryOrAlias
  | 0, _ => .error .hang
  | fuel + 1, g =>
    match scan upper name isDir entries g with
    | (.ok e, _) => .ok (.entry e)
    | (.error .notFound, g') =>
      match Names.generate g' with
      | .ok a =>
        if displayAscii a then
          match lookupNoGen upper entries (Names.aliasDisplay a) with
          | none => .ok (.alias a)
          | some _ => loop upper entries name isDir fuel (Names.addExisting g' a)
        else .ok (.alias a)
      | .error _ => loop upper entries name isDir fuel (Names.nextIteration g')
    | (.error e, _) => .error e

/-- `check_for_existence(name, is_dir)` on the directory whose slots are `slots` -/
def checkForExistenceL (upper : Char → List Char) (slots : List (List Nat)) (name : String) (isDir : Option Bool)
    (fuel : Nat) : Except Err EntryOrAlias :=
  match Names.new name with
  | .error e => .error e
  | .ok g => loop upper (listing slots) name.toList isDir fuel g

/-- the raw short names of the listed entries: the population every round feeds when nothing matches -/
def population (slots : List (List Nat)) : List (List Nat) := (listing slots).map fun e => sfnName e.sfn

/-- a short slot carrying the raw name `a` and the given 21 body bytes (attributes … size) -/
def sfnWith (a body : List Nat) : List Nat := a ++ body

end DirAlias
end FatVerif
