import FatVerif.Model.SlotTree
import FatVerif.Model.HistMain
import FatVerif.Spec.OracleUtil
/-!
# The tie between `Model/SlotTree.lean` and the implementation (history mode, property C01)

`Props/C01tree.lean` proves that the slot-tree model refines the specification tree.  This file ties the slot-tree
model to the CODE: for every namespace call of a history (`create_file`, `create_dir`, `open_file`, `open_dir`,
`remove`, `rename`, `list`) it runs the model's executable `stepSlot` on the same call and compares

* the outcome class (ok / the error kind) with the implementation's result;
* the new slot tree with the implementation's image after the call, directory by directory: the number of slots in
  use, and for every listed entry its long-name units, its 11 raw short-name bytes (the alias `check_for_existence`
  chose — this ties `DirAlias` too), its slot range (where `find_free_entries` put it) and its kind;
* `abs` of the new slot tree (names, kinds) with the independently decoded tree of the image (`Spec.decodeTreeG`, the
  tree `oC01` compares the specification with);
* for `list`, the rows (names, kinds) as a multiset.

Raw slot bytes are NOT compared (the model ignores cluster numbers, timestamps, sizes).

The slot tree is (re-)initialised from the image (`decodeNode`: the raw slots of every directory, a subdirectory
without its two dot entries) whenever tracking starts, so remounts and foreign volumes are covered.  Tracking stops
— without a message — when something outside the model's scope happens (an injected fault, an I/O or resource
error, a panic/hang, `format`/`raw`/`mount`/`unmount`/`forget`, a handle that no longer resolves) and resumes at the
next namespace call.  Messages have the signature `corr-slot-tree` (`./check` reads `corr-*` as a broken
correspondence, not as a violation of the property).

The hypotheses of the refinement theorem about 8.3 aliases (`NoAliasHit`) and about the specification's path
splitting (`SplitAgree`) concern the SPECIFICATION side only; against the implementation the model is compared on
alias queries too.
-/
namespace FatVerif.SlotTreeOracle
open FatVerif.Spec FatVerif.SlotTree FatVerif.HistMain FatVerif.DirSlots

/-! ## image → slot tree -/

def firstClusterOf (g : Geom) (sfn : List Nat) : Nat :=
  Lfn.byte sfn 26 + 256 * Lfn.byte sfn 27 +
    (if g.fatBits = 32 then 65536 * (Lfn.byte sfn 20 + 256 * Lfn.byte sfn 21) else 0)

/-- the slots of a directory as the model sees them: up to the end marker; a subdirectory without its dot entries -/
def dirSlots (g : Geom) (img : Img) (loc : DirLoc) (isRoot : Bool) : Except String (List (List Nat)) := do
  let arr ← readDirSlots g img loc true
  let l := (arr.toList.map fun s => s.bytes.toList).takeWhile fun s => !(Lfn.isEnd s)
  if isRoot then pure l
  else match l with
    | d1 :: d2 :: rest =>
      if Lfn.sfnName d1 = dotName ∧ Lfn.sfnName d2 = dotDotName ∧ !Lfn.isLfn d1 ∧ !Lfn.isLfn d2 then pure rest
      else throw "a subdirectory does not start with its dot entries"
    | _ => throw "a subdirectory does not start with its dot entries"

def decodeNode (g : Geom) (img : Img) : Nat → DirLoc → Bool → Except String SlotTree.Node
  | 0, _, _ => throw "nested too deep"
  | fuel + 1, loc, isRoot => do
    let slots ← dirSlots g img loc isRoot
    let ch ← (listing slots).mapM fun e => do
      if Lfn.isDir e.sfn then
        let fc := firstClusterOf g e.sfn
        if !g.validCluster fc then throw "directory entry without a valid first cluster"
        let c ← decodeNode g img fuel (.chain fc) false
        pure (e, c)
      else pure (e, SlotTree.Node.file [])
    pure (.dir slots ch)

def decodeImage (g : Geom) (img : Img) : Option SlotTree.Node :=
  match decodeNode g img 40 (rootLoc g) true with
  | .ok n => some n
  | .error _ => none

/-! ## comparing two slot trees (model's, image's) -/

def usedCount (slots : List (List Nat)) : Nat := (slots.takeWhile fun s => !(Lfn.isEnd s)).length

def showUnits (us : List Nat) : String := if us.isEmpty then "-" else utf16String us
def showRaw (raw : List Nat) : String := String.ofList (raw.map fun b => if 32 ≤ b ∧ b < 127 then Char.ofNat b else '?')
def showEntry (e : LfnEntry) : String :=
  s!"'{showUnits e.units}'/'{showRaw (Lfn.sfnName e.sfn)}'@{e.beginIdx}..{e.endIdx}{if Lfn.isDir e.sfn then "/" else ""}"

/-- first difference of two listings: `(kind, detail)`, kind `alias` when only the raw short name differs -/
def diffListing (path : String) : List LfnEntry → List LfnEntry → Option (String × String)
  | [], [] => none
  | m :: _, [] => some ("tree", s!"dir '{path}': model lists {showEntry m}, the image has no further entry")
  | [], i :: _ => some ("tree", s!"dir '{path}': the image lists {showEntry i}, the model has no further entry")
  | m :: ms, i :: is =>
    if m.units = i.units ∧ m.beginIdx = i.beginIdx ∧ m.endIdx = i.endIdx ∧ Lfn.isDir m.sfn = Lfn.isDir i.sfn then
      if Lfn.sfnName m.sfn = Lfn.sfnName i.sfn then diffListing path ms is
      else some ("alias", s!"dir '{path}' entry '{showUnits m.units}': model alias '{showRaw (Lfn.sfnName m.sfn)}', image alias '{showRaw (Lfn.sfnName i.sfn)}'")
    else some ("tree", s!"dir '{path}': model {showEntry m}, image {showEntry i}")

def diffNode : Nat → String → SlotTree.Node → SlotTree.Node → Option (String × String)
  | 0, _, _, _ => none
  | _ + 1, _, .file _, .file _ => none
  | fuel + 1, path, .dir ms mch, .dir is ich =>
    let lm := listing ms
    let li := listing is
    match diffListing path lm li with
    | some d => some d
    | none =>
      if usedCount ms ≠ usedCount is then
        some ("tree", s!"dir '{path}': {usedCount ms} slots in use in the model, {usedCount is} in the image")
      else
        (lm.zip li).findSome? fun (em, ei) =>
          match mch.find? (fun x => x.1 == em), ich.find? (fun x => x.1 == ei) with
          | some (_, cm), some (_, ci) => diffNode fuel (path ++ "/" ++ showUnits em.units) cm ci
          | none, _ => some ("tree", s!"dir '{path}': the model has no child for {showEntry em}")
          | _, none => none
  | _ + 1, path, _, _ => some ("tree", s!"'{path}' is a file on one side and a directory on the other")

/-! ## `abs` against the independently decoded tree -/

def lowerPath (s : String) : String := s.map Char.toLower

/-- names (ASCII case ignored: a short-only entry is shown with its NT case flags by the library) and kinds -/
def shapeDiffFold (t : TNode) (root : Spec.Node) : Option String :=
  let a := ((flatT t).map fun (p, d, _) => (lowerPath p, d)).qsort fun x y => x.1 < y.1 || (x.1 == y.1 && !x.2 && y.2)
  let b := ((flatMeta root).map fun (p, e, _) => (lowerPath p, e.isDir)).qsort fun x y => x.1 < y.1 || (x.1 == y.1 && !x.2 && y.2)
  if a == b then none
  else match (a.zip b).find? fun (x, y) => x != y with
    | some (x, y) => some s!"abs of the model has '{x.1}'{if x.2 then "/" else ""} where the decoded image has '{y.1}'{if y.2 then "/" else ""}"
    | none => some s!"abs of the model has {a.size} entries, the decoded image {b.size}"

/-! ## one call -/

/-- what the hook in `Oracles.stepO` hands over -/
structure In where
  op : String
  args : List String
  /-- tokens after `R <seq>` -/
  res : List String
  /-- listing rows of a successful `list` -/
  rows : List String
  fault : Bool
  /-- a volume is mounted before and after the call -/
  mounted : Bool
  geom : Option Geom
  before : Img
  after : Img
  upper : Char → List Char
  /-- canonical path of a directory handle token (`d0` …) before the call -/
  dirOf : String → Option (List String)

def isNamespaceOp (op : String) : Bool :=
  ["create_file", "create_dir", "open_file", "open_dir", "remove", "rename", "list"].contains op

/-- calls after which the tree has to be read from the image again -/
def resetsTracking (op : String) : Bool :=
  ["format", "raw", "mount", "unmount", "dropfs", "forget"].contains op

def opOf (i : In) : Option Spec.Op :=
  match i.op, i.args with
  | "create_file", [d, p, _] => do pure (.createFile (← i.dirOf d) (← textOf p))
  | "create_dir", [d, p, _] => do pure (.createDir (← i.dirOf d) (← textOf p))
  | "open_file", [d, p, _] => do pure (.openFile (← i.dirOf d) (← textOf p))
  | "open_dir", [d, p, _] => do pure (.openDir (← i.dirOf d) (← textOf p))
  | "list", [d] => do pure (.list (← i.dirOf d))
  | "remove", [d, p] => do pure (.remove (← i.dirOf d) (← textOf p))
  | "rename", [d, s, d2, t] => do pure (.rename (← i.dirOf d) (← textOf s) (← i.dirOf d2) (← textOf t))
  | _, _ => none

def handlesOf : Spec.Op → List (List String)
  | .createFile c _ | .createDir c _ | .openFile c _ | .openDir c _ | .list c | .remove c _ => [c]
  | .rename c _ d _ => [c, d]

/-- outcome class of the implementation: `ok`, an error code the model can produce, or `none` (out of scope) -/
def implClass (res : List String) : Option String :=
  match res with
  | "ok" :: _ => some "ok"
  | "err" :: code :: _ => if ["4", "5", "6", "7", "10", "11"].contains code then some ("err" ++ code) else none
  | _ => none

def modelClass (r : Res) : String :=
  match r.out with
  | .ok _ => "ok"
  | .error .hang => "hang"
  | .error e => s!"err{e.code}"

def parseRow (row : String) : Option (String × Bool) :=
  match row.splitOn " " with
  | name :: _short :: attrs :: _ =>
    match (if name = "-" then some "" else textOf name), attrs.toNat? with
    | some n, some a => some (n, a / 16 % 2 == 1)
    | _, _ => none
  | _ => none

def sortRows (rows : List (String × Bool)) : List (String × Bool) :=
  (rows.toArray.qsort fun x y => x.1 < y.1 || (x.1 == y.1 && !x.2 && y.2)).toList

/-- fuel of the alias loop (`checkForExistence` of Model/DirOps uses the same) -/
def aliasFuel : Nat := 70000

def stamp0 : List Nat := List.replicate 20 0

/-- Returns the slot tree to continue with (`none` = not tracking), the messages, and a note for statistics
    (`"compared"`, `"skip:<reason>"`, `""` = not a namespace call). -/
def step (slot : Option SlotTree.Node) (i : In) : Option SlotTree.Node × List String × String :=
  if resetsTracking i.op then (none, [], "") else
  if !isNamespaceOp i.op then (slot, [], "") else
  if !i.mounted then (none, [], "skip:not-mounted") else
  match i.geom with
  | none => (none, [], "skip:no-geometry")
  | some g =>
  if i.fault then (none, [], "skip:fault") else
  match implClass i.res with
  | none => (none, [], "skip:result-out-of-scope")
  | some ic =>
  match opOf i with
  | none => (none, [], "skip:unparsed")
  | some op =>
  let t? := match slot with
    | some t => some t
    | none => decodeImage g i.before
  match t? with
  | none => (none, [], "skip:undecodable-before")
  | some t =>
  let up := i.upper
  if (handlesOf op).any fun cwd => match getAtS up t cwd with | some (.dir _ _) => false | _ => true then
    (none, [], "skip:stale-handle") else
  let r := stepSlot up aliasFuel t op stamp0
  let tag := s!"op={i.op} res={ic}"
  let mc := modelClass r
  if mc != ic then
    (none, [s!"C01 corr-slot-tree outcome {tag} model={mc} impl={ic}"], "compared") else
  -- the rows of a listing
  let rowMsg : Option String :=
    match r.out, i.op with
    | .ok rows, "list" =>
      let got := sortRows (((i.rows.filterMap parseRow).filter fun x => !isDot x.1).map fun x => (lowerPath x.1, x.2))
      let want := sortRows (rows.map fun x => (lowerPath x.1, x.2))
      if got == want then none
      else some s!"C01 corr-slot-tree rows {tag} model={want.map (·.1)} impl={got.map (·.1)}"
    | _, _ => none
  match rowMsg with
  | some m => (none, [m], "compared")
  | none =>
  match decodeImage g i.after with
  | none => (none, [s!"C01 corr-slot-tree tree {tag} the image after the call cannot be read as a slot tree"], "compared")
  | some ti =>
  match diffNode 40 "" r.tree ti with
  | some (kind, d) => (none, [s!"C01 corr-slot-tree {kind} {tag} {d}"], "compared")
  | none =>
  match decodeTreeG g i.after false with
  | .error _ => (some r.tree, [], "compared")
  | .ok root =>
    match shapeDiffFold (abs r.tree) root with
    | some d => (none, [s!"C01 corr-slot-tree abs {tag} {d}"], "compared")
    | none => (some r.tree, [], "compared")

end FatVerif.SlotTreeOracle
